/-
C09 — property theorems: the out= convention (decision logic of `_get_output`, `hitmiss`'s own
validation, and the buffer-flow programs of the wrappers). The flow theorems are the instances, on the heap at call time, of
the `Convention` each wrapper follows on every heap (`Proofs/C09.lean`, `Proofs/C09Flow.lean`).
-/
import Mahotas.Proofs.C09Flow
import Mahotas.Generated.OutConv
import Mahotas.Properties.C10
open Mahotas Mahotas.C09

/-- **C09-T1 (acceptance).** `_get_output` returns the supplied buffer exactly when it has the expected
dtype (the `dtype` argument, by default the array's), the array's shape, and is C-contiguous. -/
theorem C09_getOutput_accepts_iff (a o : Desc) (dt : Option Nat) :
    getOutput a (some o) dt = .useOut ↔
      o.dtype = expectedDtype a dt ∧ o.shape = a.shape ∧ o.ccontig = true :=
  getOutput_useOut_iff a o dt

/-- **C09-T1 (rejection).** Any other supplied buffer is rejected (`ValueError`), for the first failing
test in source order (dtype, shape, contiguity); a supplied buffer is never silently replaced by a
fresh array. -/
theorem C09_getOutput_rejects_otherwise (a o : Desc) (dt : Option Nat)
    (h : ¬ (o.dtype = expectedDtype a dt ∧ o.shape = a.shape ∧ o.ccontig = true)) :
    (∃ r, getOutput a (some o) dt = .reject r) ∧
    getOutput a (some o) dt =
      (if o.dtype ≠ expectedDtype a dt then .reject .dtype
       else if o.shape ≠ a.shape then .reject .shape
       else .reject .contig) := by
  refine ⟨getOutput_reject_of_not a o dt h, ?_⟩
  rw [getOutput_reason]
  split_ifs <;> simp_all

/-- **C09-T3 (default).** Without `out` the result buffer has the documented dtype (the `dtype`
argument, by default the input's), the input's shape, and is C-contiguous. -/
theorem C09_getOutput_default (a : Desc) (dt : Option Nat) :
    getOutput a none dt = .fresh { dtype := expectedDtype a dt, shape := a.shape, ccontig := true } := by
  unfold getOutput expectedDtype; cases dt <;> rfl

/-- **C09-T1 on buffers.** On acceptance the buffer `_get_output` hands to the kernel **is** `out`
(same identity) and the heap is untouched; on rejection it raises with the heap untouched (nothing
was written before the raise). -/
theorem C09_getOut_out_itself_or_untouched (s : St) (a o : Nat) (dt : Option Nat) :
    (Acceptable (s.desc a) (s.desc o) dt → getOut a (some o) dt s = .ok o s) ∧
    (¬ Acceptable (s.desc a) (s.desc o) dt → ∃ r, getOut a (some o) dt s = .raise r s) :=
  ⟨fun h => getOut_accept (acceptable_iff.1 h),
   fun h => (getOutput_reject_of_not _ _ dt h).imp fun _ hr => getOut_reject hr⟩

/-- **C09-T2 (single-pass wrappers).** `output = _get_output(A, out, dtype); return kernel(A, Bc, output)`
(erode, dilate, locmax/locmin/regmax/regmin, majority_filter, convolve, median/mean/rank filter,
template_match, border(s), shift — for every kernel `op` and dtype argument). `kernel1`, like `openP` … `tophatOpenP`
below, is the wrapper without the `np.may_share_memory` statements of the source; with them it is `kernel1G true`
(`C09_flow_guarded`), and `label` and the spline filters are `inplaceP`. -/
theorem C09_flow_single_pass (op : Op) (A bc : Desc) (dt : Option Nat) :
    Honours [A, bc] A dt (fun out => kernel1 op 0 1 out dt) (.ap op (.inp 0) (.inp 1)) :=
  (kernel1_convention op 0 1 dt).honours 2 rfl (by decide) rfl trivial fun _ => rfl

/-- **C09-T2 (`open`).** `eroded = erode(f, Bc, out=out); return dilate(eroded.copy(), Bc, out=eroded)`:
the user's buffer receives the *final* dilation of the erosion, not the intermediate erosion. -/
theorem C09_flow_open (f bc : Desc) :
    Honours [f, bc] f none (openP 0 1) (.ap .dilate (.ap .erode (.inp 0) (.inp 1)) (.inp 1)) :=
  (twoPass_kernel1 .erode .dilate 0 1).honours 2 rfl (by decide) rfl (by decide) fun _ => rfl

/-- **C09-T2 (`close`).** -/
theorem C09_flow_close (f bc : Desc) :
    Honours [f, bc] f none (closeP 0 1) (.ap .erode (.ap .dilate (.inp 0) (.inp 1)) (.inp 1)) :=
  (twoPass_kernel1 .dilate .erode 0 1).honours 2 rfl (by decide) rfl (by decide) fun _ => rfl

/-- **C09-T2 (`cerode`).** `f = maximum(f, g); out = _get_output(f, out); erode(f, Bc, out); maximum(out, g, out=out)`:
the temporary `maximum(f, g)` is allocated *before* the validation, but nothing is written to `out`
or to the inputs before a rejection. -/
theorem C09_flow_cerode (f g bc : Desc) :
    Honours [f, g, bc] f none (cerodeP 0 1 2)
      (.ap .maximum (.ap .erode (.ap .maximum (.inp 0) (.inp 1)) (.inp 2)) (.inp 1)) :=
  (cerodeP_convention 0 1 2).honours 3 rfl (by decide) rfl (by decide) fun _ => rfl

/-- **C09-T2 (`subm`).** `out = _get_output(a, out); if out is not a: out[:] = a; return _morph.subm(out, b)`. -/
theorem C09_flow_subm (a b : Desc) :
    Honours [a, b] a none (submP 0 1) (.ap .subm (.inp 0) (.inp 1)) :=
  (submP_convention 0 1).honours 2 rfl (by decide) rfl (.inl (by decide)) fun _ => rfl

/-- **C09 (`subm`, documented aliasing).** "Pass `a` as output to subtract in-place": with `out = a`
(buffer 0, acceptable because it is C-contiguous) the result lands in `a` and is `subm(a, b)`. -/
theorem C09_flow_subm_inplace (a b : Desc) (hc : a.ccontig = true) :
    (submP 0 1 (some 0) (initSt [a, b] none)).ret = some 0 ∧
    (submP 0 1 (some 0) (initSt [a, b] none)).st.val 0 = .ap .subm (.inp 0) (.inp 1) ∧
    (submP 0 1 (some 0) (initSt [a, b] none)).st.val 1 = .inp 1 := by
  obtain ⟨-, h1, h2, h3, -⟩ := (submP_convention 0 1).aliasSafe (inputs := [a, b]) 2 rfl (by decide) (by decide)
    (acceptable_iff.1 ⟨rfl, rfl, hc⟩) (.inr rfl) rfl
  exact ⟨h1, h2, h3 (by decide : 1 ≠ 0)⟩

/-- **C09-T2 (`tophat_close`).** `out = _get_output(f, out); fc = close(f, Bc); return subm(fc, f, out=out)`. -/
theorem C09_flow_tophat_close (f bc : Desc) :
    Honours [f, bc] f none (tophatCloseP 0 1)
      (.ap .subm (.ap .erode (.ap .dilate (.inp 0) (.inp 1)) (.inp 1)) (.inp 0)) :=
  tophatCloseP_eq 0 1 ▸ (tophatClose_convention (twoPass_kernel1 .dilate .erode 0 1) false).honours 2 rfl (by decide)
    rfl (.inr (by decide)) fun _ => rfl

/-- **C09-T2 (`tophat_open`).** `out = _get_output(f, out); fo = open(f, Bc); return subm(f, fo, out=out)`. -/
theorem C09_flow_tophat_open (f bc : Desc) :
    Honours [f, bc] f none (tophatOpenP 0 1)
      (.ap .subm (.inp 0) (.ap .dilate (.ap .erode (.inp 0) (.inp 1)) (.inp 1))) :=
  tophatOpenP_eq 0 1 ▸ (tophatOpen_convention (twoPass_kernel1 .erode .dilate 0 1) false).honours 2 rfl (by decide)
    rfl trivial fun _ => rfl

/-- **C09 (a Gaussian ping-pong whose passes never see the spare buffer violates the convention).** In the flow
`gaussPinnedP` every pass allocates a fresh buffer. With a perfectly acceptable `out`, two axes: the returned buffer
is *not* `out`, and `out` is left holding a copy of the input. The source follows `gaussRepairedP`
(`C09_flow_gaussian_repaired`), not this flow. -/
theorem C09_gaussian_pinned_violates (a bc o : Desc) (h : Acceptable a o none) :
    (gaussPinnedP 0 1 (some 2) 2 (initSt [a, bc] (some o))).ret ≠ some 2 ∧
    (gaussPinnedP 0 1 (some 2) 2 (initSt [a, bc] (some o))).st.val 2 = .inp 0 := by
  -- once `out` is accepted nothing depends on the descriptors any more: the two passes run by evaluation
  have e : gaussPinnedP 0 1 (some 2) 2 (initSt [a, bc] (some o)) =
      gaussPinnedLoop 1 2 2 none (write 2 (.inp 0) (initSt [a, bc] (some o))) := by
    simp only [gaussPinnedP, getOut_accept (s := initSt [a, bc] (some o)) (o := 2) (a := 0) (acceptable_iff.1 h), R.bind]
    rfl
  rw [e]
  exact ⟨(by decide : some 4 ≠ some 2), rfl⟩

/-- **C09-T2 (Gaussian ping-pong honouring the convention), any number of axes.** Passes alternate
between the user's buffer and one scratch buffer (allocated by the first pass) and the last pass is
copied back when it landed in the scratch buffer: for every rank `n`, with an acceptable `out` the
returned buffer is `out` itself and holds the `n`-fold filtered input, exactly what the call without
`out` returns; an unacceptable `out` raises before anything is written. -/
theorem C09_flow_gaussian_pingpong (a bc : Desc) (n : Nat) :
    Honours [a, bc] a none (fun out => gaussRepairedP 0 1 out n) (gaussIter (.inp 1) n (.inp 0)) :=
  (gaussRepairedP_convention 0 1 n).honours 2 rfl (by decide) rfl (by decide) fun _ => rfl

/-- **C09 (`hitmiss`, hand-written validation).** The supplied buffer is used (itself, or
its uint8 view when a bool buffer is given for a uint8 input) exactly when it has the input's shape,
is C-contiguous and has the input's dtype (or is that bool/uint8 pair); otherwise `ValueError`
(shape, contiguity) or `TypeError` (dtype) — never a silent fresh array. -/
theorem C09_hitmiss_validation (inp o : Desc) :
    ((hitmissOut inp (some o) = .useOut ∨ hitmissOut inp (some o) = .useView) ↔
      (o.shape = inp.shape ∧ o.ccontig = true ∧
        (o.dtype = inp.dtype ∨ (o.dtype = C09.dtBool ∧ inp.dtype = C09.dtU8)))) ∧
    (hitmissOut inp (some o) ≠ .fresh) ∧
    (o.ccontig = false → hitmissOut inp (some o) = .valueError) := by
  refine ⟨?_, hitmissOut_ne_fresh inp o, fun h => by simp only [hitmissOut, h, Bool.not_false, if_true, ite_self]⟩
  simp only [hitmissOut]
  split_ifs <;> simp_all

/-! ### tie to the current source (regenerated by the translator on every run) -/

/-- the model's three tests are the tests of the current `internal._get_output`, in source order,
each raising `ValueError`; without `out` it allocates `np.empty(array.shape, dtype)`. -/
theorem C09_getOutput_source_tie :
    Generated.getOutputChecksSrc =
      [("out.dtype != dtype", "ValueError"), ("out.shape != array.shape", "ValueError"),
       ("not out.flags.contiguous", "ValueError")] ∧
    Generated.getOutputChecksSrc.length = getOutputChecks.length ∧
    Generated.getOutputDefault = "np.empty(array.shape, dtype)" :=
  ⟨rfl, rfl, rfl⟩

/-- how each wrapper consumes `out` in the current source: the array and dtype arguments of its `_get_output` call
and the calls `out` is forwarded to. The gaussian filters, `convolve1d` and `zoom` are listed in
`C09.expectedSitesRepaired`; `remove_bordering` documents no requirement and is listed in neither. -/
def C09.expectedSites : List (String × List String × List String) := [
  ("morph.dilate", ["get_output(A,out,None,output)"], []),
  ("morph.erode", ["get_output(A,out,None,output)"], []),
  ("morph.cerode", ["get_output(f,out,None,output)", "forward:maximum(out=f)"], []),
  ("morph.hitmiss", [], ["out.shape != input.shape->ValueError", "not out.flags.c_contiguous->ValueError"]),
  ("morph.open", ["forward:erode(out=out)", "forward:dilate(out=eroded)"], []),
  ("morph.close", ["forward:dilate(out=out)", "forward:erode(out=dilated)"], []),
  ("morph.majority_filter", ["get_output(img,out,np.bool_,output)"], []),
  ("morph.locmax", ["get_output(f,out,np.bool_,output)"], []),
  ("morph.locmin", ["get_output(f,out,np.bool_,output)"], []),
  ("morph.regmin", ["get_output(f,out,np.bool_,output)"], []),
  ("morph.regmax", ["get_output(f,out,np.bool_,output)"], []),
  ("morph.subm", ["get_output(a,out,None)"], []),
  ("morph.tophat_close", ["get_output(f,out,None)", "forward:subm(out=out)"], []),
  ("morph.tophat_open", ["get_output(f,out,None)", "forward:subm(out=out)"], []),
  ("convolve.convolve", ["get_output(f,out,None,output)"], []),
  ("convolve.median_filter", ["get_output(f,out,None,output)"], []),
  ("convolve.mean_filter", ["get_output(f,out,np.float64)"], []),
  ("convolve.rank_filter", ["get_output(f,out,None,output)"], []),
  ("convolve.template_match", ["get_output(f,out,None,output)"], []),
  ("labeled.label", ["get_output(array,out,np.int32,output)"], []),
  ("labeled.border", ["get_output(labeled,out,bool,output)"], []),
  ("labeled.borders", ["get_output(labeled,out,bool,output)"], []),
  ("interpolate.spline_filter1d", ["get_output(array,out,dtype,output)"], []),
  ("interpolate.spline_filter", ["get_output(array,out,dtype,output)"], []),
  ("interpolate.shift", ["get_output(array,out,np.float64,output)"], [])]

/-- the current source still contains, for this wrapper, every `_get_output` call / forwarding / own
raise-test the model relies on (additional ones — e.g. the forwarding of the `output=` alias — are allowed) -/
def C09.siteOk (e : String × List String × List String) : Bool :=
  Generated.outSites.any fun s =>
    s.1 == e.1 && e.2.1.all (fun x => s.2.2.1.contains x) && e.2.2.all (fun x => s.2.2.2.contains x)

/-- every wrapper listed in `C09.expectedSites` still validates/forwards `out` in the current source
as the buffer-flow models assume: the `_get_output` call with its array and dtype arguments, the
forwarding of `out`, hitmiss's own tests are all still there (a weakened or removed guard changes
`Generated.outSites` and breaks this theorem; extra validation does not); and the public functions with an out/output parameter are exactly the
known ones (a new one must be modelled). -/
theorem C09_out_sites_source_tie :
    C09.expectedSites.all C09.siteOk = true ∧
    Generated.outSites.map (·.1) =
      ["morph.dilate", "morph.erode", "morph.cerode", "morph.hitmiss", "morph.open", "morph.close",
       "morph.majority_filter", "morph.locmax", "morph.locmin", "morph.regmin", "morph.regmax", "morph.subm",
       "morph.tophat_close", "morph.tophat_open", "convolve.convolve", "convolve.convolve1d",
       "convolve.median_filter", "convolve.mean_filter", "convolve.rank_filter", "convolve.template_match",
       "convolve.gaussian_filter1d", "convolve.gaussian_filter", "labeled.label", "labeled.remove_bordering",
       "labeled.border", "labeled.borders", "interpolate.spline_filter1d", "interpolate.spline_filter",
       "interpolate.zoom", "interpolate.shift"] :=
  ⟨by decide +kernel, rfl⟩


/-! ## the wrappers with a flow of their own: `convolve1d`, `gaussian_filter`, the `output=` alias, `zoom` -/

/-- **C09-T2 (`convolve1d`, both paths, every axis).** On the contiguous fast path `out` is validated by
`_get_output` against `f` itself; along the last axis the kernel writes the rows of `out` directly, along any other
axis it writes a temporary and `out[...] = tmp…transpose(rindices)` copies it back; off the fast path `out` is
forwarded to `convolve`. In all four cases the convention holds: no `out` → a fresh buffer with the result; an
acceptable `out` → **that buffer** is returned and holds the result; any other `out` → the `ValueError` of
`_get_output`, raised before anything is written. -/
theorem C09_flow_convolve1d (f w : Desc) (fast lastAxis : Bool) :
    Honours [f, w] f none (fun out => convolve1dP 0 1 out fast lastAxis) (.ap .kernel (.inp 0) (.inp 1)) :=
  (convolve1dP_convention 0 1 fast lastAxis).honours 2 rfl (by decide) rfl trivial fun _ => rfl

/-- **C09-T2 (`gaussian_filter1d` / `gaussian_filter`, source as of bc1f729).** One pass forwards `out` to
`convolve1d`; the n-D filter validates `out` once, copies the input into it, lets the passes alternate between it and
one scratch buffer and, when the last pass landed in the scratch buffer, copies the result back
(`if output is not result: result[...] = output`) and returns the user's buffer — for every number of axes. -/
theorem C09_flow_gaussian_repaired (a bc : Desc) (n : Nat) :
    Honours [a, bc] a none (gauss1dP 0 1) (.ap .gauss1d (.inp 0) (.inp 1)) ∧
    Honours [a, bc] a none (fun out => gaussRepairedP 0 1 out n) (gaussIter (.inp 1) n (.inp 0)) :=
  ⟨(kernel1_convention .gauss1d 0 1 none).honours 2 rfl (by decide) rfl trivial fun _ => rfl,
   C09_flow_gaussian_pingpong a bc n⟩

/-- **C09-T2 (`open` / `close` with the deprecated `output=` alias, source as of 399d97f).** The alias is forwarded
to the first pass, where `_get_output` resolves it (`out` wins when both are given): a buffer passed as `output=`
is honoured exactly like one passed as `out=`. -/
theorem C09_flow_output_alias (f bc : Desc) :
    Honours [f, bc] f none (fun o => openAliasP 0 1 none o)
      (.ap .dilate (.ap .erode (.inp 0) (.inp 1)) (.inp 1)) ∧
    Honours [f, bc] f none (fun o => closeAliasP 0 1 none o)
      (.ap .erode (.ap .dilate (.inp 0) (.inp 1)) (.inp 1)) ∧
    (∀ out output, out ≠ none → resolveAlias out output = out) := by
  refine ⟨C09_flow_open f bc, C09_flow_close f bc, fun out output h => ?_⟩
  cases out with
  | none => exact absurd rfl h
  | some o => rfl

/-- **C09 (`zoom`, source as of 1873bd9).** `out` fixes the shape and the dtype of the result, so the only
requirements are: an array of the input's rank, C-contiguous, writeable. Exactly then the call returns **`out`
itself** holding the zoomed image (directly, or through a float temporary when the dtypes differ), the input intact;
any other `out` raises (`ValueError`, from Python, before the native code runs) with `out` and the input untouched;
without `out` a fresh buffer of the computed shape is returned. -/
theorem C09_flow_zoom (a : Desc) (o : ZOut) (oshape : List Nat) :
    let ok := o.isArray = true ∧ o.desc.shape.length = a.shape.length ∧ o.desc.ccontig = true ∧ o.writeable = true
    let run := zoomP 0 (some 1) (some o) oshape (initSt [a] (some o.desc))
    (ok → run.ret = some 1 ∧ run.st.val 1 = .ap .kernel (.inp 0) (.inp 0) ∧ run.st.val 0 = .inp 0) ∧
    (¬ ok → zoomDecision a (some o) = .valueError ∧ run.ret = none ∧ run.st.val 1 = .old ∧ run.st.val 0 = .inp 0) ∧
    ((zoomP 0 none none oshape (initSt [a] none)).retVal = some (.ap .kernel (.inp 0) (.inp 0)) ∧
     (zoomP 0 none none oshape (initSt [a] none)).ret = some 1 ∧
     (zoomP 0 none none oshape (initSt [a] none)).st.val 0 = .inp 0) := by
  intro ok run
  -- `zoomP` looks at the descriptors through `zoomDecision` only; once that is known the run is closed
  have hrun : run = match zoomDecision a (some o), (some 1 : Option Nat) with
      | .fresh, _ => _ | .direct, some o => _ | .viaTemp, some o => _ | _, _ => _ := rfl
  refine ⟨fun h => ?_, fun h => ?_, rfl, rfl, rfl⟩
  · rw [hrun, zoomDecision_some, if_pos h]
    split_ifs <;> exact ⟨rfl, rfl, rfl⟩
  · rw [hrun, zoomDecision_some, if_neg h]
    exact ⟨rfl, rfl, rfl, rfl⟩

/-- how `convolve1d`, the gaussian filters, `open`/`close` and `zoom` consume `out` in the current source (regenerated on
every run): `convolve1d`
validates with `_get_output(f, out)`, stores the transposed temporary with `out[...] = …`, returns `out`, and forwards
`out` to `convolve` off the fast path; `gaussian_filter1d` forwards `out` to `convolve1d`; `gaussian_filter` validates
with `_get_output`, hands the spare buffer to `gaussian_filter1d` (positionally, in the `out` slot), copies the last
pass back with `result[...] = output` and returns `result`; `open`/`close` forward the `output=` alias; `zoom`
raises `ValueError` for a non-array / wrong-rank / non-contiguous / read-only `out`. -/
def C09.expectedSitesRepaired : List (String × List String × List String) := [
  ("convolve.convolve1d", ["get_output(f,out,None)", "forward:convolve(out=out)",
     "store:out[...]=tmp.reshape(tshape).transpose(rindices)", "return:out"], []),
  ("convolve.gaussian_filter1d", ["forward:convolve1d(out=out)"], []),
  ("convolve.gaussian_filter", ["get_output(array,out,None,output)", "forward:gaussian_filter1d(out=noutput)",
     "store:result[...]=output", "return:result"], []),
  ("morph.open", ["forward:erode(out=out)", "forward:erode(output=output)", "forward:dilate(out=eroded)"], []),
  ("morph.close", ["forward:dilate(out=out)", "forward:dilate(output=output)", "forward:erode(out=dilated)"], []),
  ("interpolate.zoom", ["return:out"],
     ["not isinstance(out, np.ndarray) or out.ndim != array.ndim->ValueError",
      "not (out.flags.c_contiguous and out.flags.writeable)->ValueError"])]

/-- **tie of the flows `convolve1dP` … `zoomP` to the current source**: every validation, forwarding, copy-back and `return` the
models `convolve1dP`, `gauss1dP`, `gaussRepairedP`, `openAliasP`, `closeAliasP`, `zoomP` rely on is still in the
source the translator read today; removing one (e.g. the `result[...] = output` copy-back, the `output=output`
forwarding, zoom's contiguity test) changes `Generated.outSites` and breaks `lake build`. -/
theorem C09_repaired_sites_source_tie : C09.expectedSitesRepaired.all C09.siteOk = true := by
  decide +kernel

/-! non-vacuity: a concrete acceptable and three concrete unacceptable buffers for a (3,4) uint8 image,
    and the full run of `open` on them. -/
example :
    let f : Desc := { dtype := C09.dtU8, shape := [3, 4], ccontig := true }
    let good : Desc := { dtype := C09.dtU8, shape := [3, 4], ccontig := true }
    Acceptable f good none ∧
    ¬ Acceptable f { good with dtype := C09.dtBool } none ∧
    ¬ Acceptable f { good with shape := [4, 3] } none ∧
    ¬ Acceptable f { good with ccontig := false } none ∧
    (openP 0 1 (some 2) (initSt [f, f] (some good))).ret = some 2 ∧
    (openP 0 1 (some 2) (initSt [f, f] (some { good with ccontig := false }))).exc = some .contig := by
  decide

/-! ## `out` aliased to an input (the `np.may_share_memory` guards) -/

/-- **C09 (aliasing, single-pass wrappers).** `output = _get_output(A, out, dtype);
if np.may_share_memory(A, output): A = A.copy(); return kernel(A, Bc, output)` — dilate, erode, locmax/locmin/regmax/regmin,
majority_filter, convolve, convolve1d (fast path), median/mean/rank filter, template_match, border(s), shift (`hitmiss`, which
does not call `_get_output`, is the last conjunct of `C09_flow_hitmiss`; `zoomP` has no guard and no aliasing statement).
When the input itself is passed as `out` (it has the documented dtype and is C-contiguous) the call returns that buffer and it
holds exactly the result of the call without `out`: the kernel read a private copy taken before the first write. -/
theorem C09_alias_single_pass (op : Op) (A bc : Desc) (dt : Option Nat) (h : Acceptable A A dt) :
    AliasSafe [A, bc] 0 (fun out => kernel1G true op 0 1 out dt) (.ap op (.inp 0) (.inp 1)) :=
  (kernel1G_convention true op 0 1 dt).aliasSafe 2 rfl (by decide) (by decide) (acceptable_iff.1 h) (.inl rfl) rfl

/-- **C09 (aliasing, single-pass wrappers: the SECOND operand as `out`).** A structuring element / weights / template that
has the documented dtype, the image's shape and is C-contiguous may be passed as `out` too: the wrapper (erode, dilate,
template_match: `if np.may_share_memory(Bc, output): Bc = Bc.copy()`) or the native filter iterator (which copies the
filter into its own tables before the first store) works on a private copy; the buffer of the second operand is returned
holding the result of the call without `out`, the image is intact. -/
theorem C09_alias_second_operand (op : Op) (A bc : Desc) (dt : Option Nat) (h : Acceptable A bc dt) :
    AliasSafe [A, bc] 1 (fun out => kernel1G true op 0 1 out dt) (.ap op (.inp 0) (.inp 1)) :=
  (kernel1G_convention true op 0 1 dt).aliasSafe 2 rfl (by decide) (by decide) (acceptable_iff.1 h) (.inl rfl) rfl

/-- **C09 (aliasing: the guard is necessary, and it protects the image only).** Without the guard the kernel reads the
image while it overwrites it: the model's result contains an unspecified operand and is not the result of the call without
`out` (the real erode/dilate/locmax/convolve/median/… returned wrong values: repaired in b59f356, 275c645, 381e26d, 8b71f64).
The same holds for the second operand (structuring element / template) passed as `out` (third conjunct; repaired in
549c5ec, 922c55b). -/
theorem C09_alias_single_pass_unguarded (op : Op) (A bc : Desc) (h : Acceptable A A none) :
    (kernel1G false op 0 1 (some 0) none (initSt [A, bc] none)).retVal = some (.ap op .undef (.inp 1)) ∧
    ¬ AliasSafe [A, bc] 0 (fun out => kernel1G false op 0 1 out none) (.ap op (.inp 0) (.inp 1)) ∧
    (Acceptable A bc none →
      (kernel1G false op 0 1 (some 1) none (initSt [A, bc] none)).retVal = some (.ap op (.inp 0) .undef)) := by
  -- the unguarded kernel reads the buffer it is writing
  have e : kernel1G false op 0 1 (some 0) none (initSt [A, bc] none) = _ :=
    kernel1G_false_accept (acceptable_iff.1 h)
  refine ⟨by rw [e]; rfl, fun hs => ?_, fun h1 => ?_⟩
  · have hv : (kernel1G false op 0 1 (some 0) none (initSt [A, bc] none)).st.val 0 = _ := hs.2.2.1
    rw [e] at hv
    exact nomatch hv
  · rw [kernel1G_false_accept (s := initSt [A, bc] none) (o := 1) (a := 0) (acceptable_iff.1 h1)]
    rfl

/-- **C09-T2 for the guarded wrappers (single pass, store-then-in-place).** With an `out` that is a buffer of its own the
guards do nothing: the guarded programs honour the convention exactly like the unguarded ones (fresh buffer without `out`; an
acceptable `out` is returned and holds the complete result; any other `out` raises with nothing written) — with or without
the guards. -/
theorem C09_flow_guarded (g : Bool) (op : Op) (A bc : Desc) (dt : Option Nat) :
    Honours [A, bc] A dt (fun out => kernel1G g op 0 1 out dt) (.ap op (.inp 0) (.inp 1)) ∧
    Honours [A, bc] A dt (fun out => inplaceP g op 0 1 out dt) (.ap op (.inp 0) (.inp 1)) :=
  ⟨(kernel1G_convention g op 0 1 dt).honours 2 rfl (by decide) rfl (.inr ⟨by decide, by decide⟩) fun _ => rfl,
   (inplaceP_convention g op 0 1 dt).honours 2 rfl (by decide) rfl (.inr (by decide)) fun _ => rfl⟩

/-- **C09-T2 for the guarded two-pass wrappers** (`open`, `close` over the guarded `erode`/`dilate`, with their own guard
for the structuring element): the convention holds as before, with or without the guards. -/
theorem C09_flow_guarded_open_close (g : Bool) (A bc : Desc) :
    Honours [A, bc] A none (openGP g 0 1) (.ap .dilate (.ap .erode (.inp 0) (.inp 1)) (.inp 1)) ∧
    Honours [A, bc] A none (closeGP g 0 1) (.ap .erode (.ap .dilate (.inp 0) (.inp 1)) (.inp 1)) :=
  ⟨(twoPass_kernel1G g .erode .dilate 0 1).honours 2 rfl (by decide) rfl (.inr ⟨by decide, by decide⟩) fun _ => rfl,
   (twoPass_kernel1G g .dilate .erode 0 1).honours 2 rfl (by decide) rfl (.inr ⟨by decide, by decide⟩) fun _ => rfl⟩

/-- **C09-T2 for the guarded `cerode` and `subm`.** -/
theorem C09_flow_guarded_cerode_subm (g : Bool) (A B bc : Desc) :
    Honours [A, B, bc] A none (cerodeGP g 0 1 2)
      (.ap .maximum (.ap .erode (.ap .maximum (.inp 0) (.inp 1)) (.inp 2)) (.inp 1)) ∧
    Honours [A, B] A none (submGP g 0 1) (.ap .subm (.inp 0) (.inp 1)) :=
  ⟨(cerodeGP_convention g 0 1 2).honours 3 rfl (by decide) rfl (.inr ⟨by decide, by decide⟩) fun _ => rfl,
   (submGP_convention g 0 1).honours 2 rfl (by decide) rfl (.inr (.inl (by decide))) fun _ => rfl⟩

/-- **C09-T2 for the guarded `tophat_close`.** -/
theorem C09_flow_guarded_tophat_close (g : Bool) (A bc : Desc) :
    Honours [A, bc] A none (tophatCloseGP g 0 1)
      (.ap .subm (.ap .erode (.ap .dilate (.inp 0) (.inp 1)) (.inp 1)) (.inp 0)) :=
  (tophatClose_convention (twoPass_kernel1G g .dilate .erode 0 1) g).honours 2 rfl (by decide) rfl (.inr (by decide))
    fun _ => rfl

/-- **C09-T2 for the guarded `tophat_open`.** -/
theorem C09_flow_guarded_tophat_open (g : Bool) (A bc : Desc) :
    Honours [A, bc] A none (tophatOpenGP g 0 1)
      (.ap .subm (.inp 0) (.ap .dilate (.ap .erode (.inp 0) (.inp 1)) (.inp 1))) :=
  (tophatOpen_convention (twoPass_kernel1G g .erode .dilate 0 1) g).honours 2 rfl (by decide) rfl trivial fun _ => rfl

/-- **C09 (aliasing, `open` / `close`).** `open(f, Bc, out=f)`: the first pass (`erode`, guarded) reads a copy of `f` and
writes `f`; the second pass works on `eroded.copy()` and writes `eroded` = `f`: the input buffer is returned and holds the
opening of its call-time content. Same for `close`. -/
theorem C09_alias_open_close (f bc : Desc) (hc : f.ccontig = true) :
    AliasSafe [f, bc] 0 (openGP true 0 1) (.ap .dilate (.ap .erode (.inp 0) (.inp 1)) (.inp 1)) ∧
    AliasSafe [f, bc] 0 (closeGP true 0 1) (.ap .erode (.ap .dilate (.inp 0) (.inp 1)) (.inp 1)) :=
  have hd : f = outDesc f none := acceptable_iff.1 ⟨rfl, rfl, hc⟩
  ⟨(twoPass_kernel1G true .erode .dilate 0 1).aliasSafe 2 rfl (by decide) (by decide) hd (.inl rfl) rfl,
   (twoPass_kernel1G true .dilate .erode 0 1).aliasSafe 2 rfl (by decide) (by decide) hd (.inl rfl) rfl⟩

/-- **C09 (aliasing, `open` / `close` with the structuring element as `out`).** `if np.may_share_memory(Bc, out): Bc = Bc.copy()`
in front of the two passes: both passes use the saved element although the first pass overwrites `out` = `Bc`. Without the
guards the second pass would use the eroded image as its structuring element (third conjunct). -/
theorem C09_alias_open_close_Bc (f bc : Desc) (h : Acceptable f bc none) :
    AliasSafe [f, bc] 1 (openGP true 0 1) (.ap .dilate (.ap .erode (.inp 0) (.inp 1)) (.inp 1)) ∧
    AliasSafe [f, bc] 1 (closeGP true 0 1) (.ap .erode (.ap .dilate (.inp 0) (.inp 1)) (.inp 1)) ∧
    (openGP false 0 1 (some 1) (initSt [f, bc] none)).retVal ≠
      some (.ap .dilate (.ap .erode (.inp 0) (.inp 1)) (.inp 1)) := by
  have hd : bc = outDesc f none := acceptable_iff.1 h
  refine ⟨(twoPass_kernel1G true .erode .dilate 0 1).aliasSafe 2 rfl (by decide) (by decide) hd (.inl rfl) rfl,
    (twoPass_kernel1G true .dilate .erode 0 1).aliasSafe 2 rfl (by decide) (by decide) hd (.inl rfl) rfl, ?_⟩
  -- both passes accept their `out`, and the second reads, as its structuring element, the buffer it is writing
  subst hd
  have e : openGP false 0 1 (some 1) (initSt [f, outDesc f none] none) = .ok 1 (kernelWrite .dilate 2 1 1
      (allocSt (outDesc f none) (.ap .erode (.inp 0) .undef)
        (kernelWrite .erode 0 1 1 (initSt [f, outDesc f none] none)))) := by
    simp only [openGP, unaliasOpt, unalias, Bool.false_and, Bool.false_eq_true, if_false, R.bind, alloc_eq,
      kernel1G_false_accept (s := initSt [f, outDesc f none] none) (o := 1) (a := 0) (dt := none) rfl]
    exact kernel1G_false_accept rfl
  rw [e]
  exact nofun

/-- **C09 (aliasing, `cerode`).** `out = f` needs no guard (the kernel reads the temporary `maximum(f, g)`); `out = g` is
safe because of the guard `if np.may_share_memory(g, out): g = g.copy()`: the final `maximum(eroded, g)` uses the saved
condition. Without that guard `out = g` returns `maximum(eroded, eroded)`: the condition is lost (third conjunct). -/
theorem C09_alias_cerode (f g bc : Desc) :
    (f.ccontig = true → ∀ gd : Bool,
      AliasSafe [f, g, bc] 0 (cerodeGP gd 0 1 2)
        (.ap .maximum (.ap .erode (.ap .maximum (.inp 0) (.inp 1)) (.inp 2)) (.inp 1))) ∧
    (Acceptable f g none →
      AliasSafe [f, g, bc] 1 (cerodeGP true 0 1 2)
        (.ap .maximum (.ap .erode (.ap .maximum (.inp 0) (.inp 1)) (.inp 2)) (.inp 1))) ∧
    (Acceptable f g none →
      (cerodeGP false 0 1 2 (some 1) (initSt [f, g, bc] none)).retVal =
        some (.ap .maximum (.ap .erode (.ap .maximum (.inp 0) (.inp 1)) (.inp 2))
                           (.ap .erode (.ap .maximum (.inp 0) (.inp 1)) (.inp 2)))) ∧
    (Acceptable f bc none →
      AliasSafe [f, g, bc] 2 (cerodeGP true 0 1 2)
        (.ap .maximum (.ap .erode (.ap .maximum (.inp 0) (.inp 1)) (.inp 2)) (.inp 1))) := by
  refine ⟨fun hc gd => ?_, fun h => ?_, ?_, fun h => ?_⟩
  · exact (cerodeGP_convention gd 0 1 2).aliasSafe 3 rfl (by decide) (by decide) (acceptable_iff.1 ⟨rfl, rfl, hc⟩)
      (.inr ⟨by decide, by decide⟩) rfl
  · exact (cerodeGP_convention true 0 1 2).aliasSafe 3 rfl (by decide) (by decide) (acceptable_iff.1 h) (.inl rfl) rfl
  · intro h
    simp only [cerodeGP, alloc_eq, R.bind,
      cerode_accept (s := initSt [f, g, bc] none) (o := 1) (f := 0) _ (by decide : 1 < 3) (acceptable_iff.1 h)]
    rfl
  · exact (cerodeGP_convention true 0 1 2).aliasSafe 3 rfl (by decide) (by decide) (acceptable_iff.1 h) (.inl rfl) rfl

/-- **C09 (aliasing, `subm`).** `out = a` is the documented in-place use (`out is a`: no copy, the element-wise native
`subm` works in place); `out = b` is safe because of the guard (`b` is saved before `out[:] = a` overwrites it); without the
guard `subm(a, b, out=b)` computes `a − a` (third conjunct: the defect repaired in 5ae511d). -/
theorem C09_alias_subm (a b : Desc) :
    (a.ccontig = true → ∀ gd : Bool, AliasSafe [a, b] 0 (submGP gd 0 1) (.ap .subm (.inp 0) (.inp 1))) ∧
    (Acceptable a b none → AliasSafe [a, b] 1 (submGP true 0 1) (.ap .subm (.inp 0) (.inp 1))) ∧
    (Acceptable a b none →
      (submGP false 0 1 (some 1) (initSt [a, b] none)).retVal = some (.ap .subm (.inp 0) (.inp 0))) := by
  refine ⟨fun hc gd => ?_, fun h => ?_, ?_⟩
  · exact (submGP_convention gd 0 1).aliasSafe 2 rfl (by decide) (by decide) (acceptable_iff.1 ⟨rfl, rfl, hc⟩)
      (.inr (.inr rfl)) rfl
  · exact (submGP_convention true 0 1).aliasSafe 2 rfl (by decide) (by decide) (acceptable_iff.1 h) (.inl rfl) rfl
  · intro h
    simp only [submGP, getOut_accept (s := initSt [a, b] none) (o := 1) (a := 0) (acceptable_iff.1 h), R.bind]
    rfl

/-- **C09 (aliasing, top-hats).** `tophat_close(f, Bc, out=f)`: `fc = close(f)` is a fresh buffer, then
`subm(fc, f, out=f)` — `out` is the subtrahend, saved by `subm`'s guard; `tophat_open(f, Bc, out=f)`: `subm(f, fo, out=f)` is
the in-place use. Both return `f` holding the top-hat of its call-time content. -/
theorem C09_alias_tophat (f bc : Desc) (hc : f.ccontig = true) :
    AliasSafe [f, bc] 0 (tophatCloseGP true 0 1)
      (.ap .subm (.ap .erode (.ap .dilate (.inp 0) (.inp 1)) (.inp 1)) (.inp 0)) ∧
    AliasSafe [f, bc] 0 (tophatOpenGP true 0 1)
      (.ap .subm (.inp 0) (.ap .dilate (.ap .erode (.inp 0) (.inp 1)) (.inp 1))) :=
  have hd : f = outDesc f none := acceptable_iff.1 ⟨rfl, rfl, hc⟩
  ⟨(tophatClose_convention (twoPass_kernel1G true .dilate .erode 0 1) true).aliasSafe 2 rfl (by decide) (by decide) hd
     (.inl rfl) rfl,
   (tophatOpen_convention (twoPass_kernel1G true .erode .dilate 0 1) true).aliasSafe 2 rfl (by decide) (by decide) hd
     trivial rfl⟩

/-- **C09 (aliasing, store-then-in-place wrappers: `label`, `spline_filter1d`, `spline_filter`).**
`output = _get_output(array, out, dtype); output[...] = array; kernel(output, …)`: with `out = array` the store is a
self-assignment and the kernel only ever works on `output`: safe without any guard. `label` also reads a structuring
element: passed as `out` it is saved by `if np.may_share_memory(Bc, output): Bc = Bc.copy()` before the store (second
conjunct); without that guard the store would overwrite it first (third conjunct; repaired in 56ea4bf). -/
theorem C09_alias_inplace (g : Bool) (op : Op) (A bc : Desc) (dt : Option Nat) :
    (Acceptable A A dt → AliasSafe [A, bc] 0 (fun out => inplaceP g op 0 1 out dt) (.ap op (.inp 0) (.inp 1))) ∧
    (Acceptable A bc dt → AliasSafe [A, bc] 1 (fun out => inplaceP true op 0 1 out dt) (.ap op (.inp 0) (.inp 1))) ∧
    (Acceptable A bc dt →
      (inplaceP false op 0 1 (some 1) dt (initSt [A, bc] none)).retVal = some (.ap op (.inp 0) .undef)) := by
  refine ⟨fun h => ?_, fun h => ?_, ?_⟩
  · exact (inplaceP_convention g op 0 1 dt).aliasSafe 2 rfl (by decide) (by decide) (acceptable_iff.1 h)
      (.inr (by decide)) rfl
  · exact (inplaceP_convention true op 0 1 dt).aliasSafe 2 rfl (by decide) (by decide) (acceptable_iff.1 h) (.inl rfl)
      rfl
  · intro h
    simp only [inplaceP, getOut_accept (s := initSt [A, bc] none) (o := 1) (a := 0) (acceptable_iff.1 h), R.bind]
    rfl

/-- **C09 (aliasing, `gaussian_filter`, every number of axes).** `gaussian_filter(array, σ, out=array)`: `output[...] =
array[...]` is a self-assignment, every pass reads one buffer and writes the *other* one of the ping-pong (never the one it
reads), and the copy-back lands in `array`: safe without any guard, for every rank. -/
theorem C09_alias_gaussian (a bc : Desc) (n : Nat) (hc : a.ccontig = true) :
    AliasSafe [a, bc] 0 (fun out => gaussRepairedP 0 1 out n) (gaussIter (.inp 1) n (.inp 0)) :=
  (gaussRepairedP_convention 0 1 n).aliasSafe 2 rfl (by decide) (by decide) (acceptable_iff.1 ⟨rfl, rfl, hc⟩) (by decide)
    rfl

/-! ### tie of the aliasing models to the current source -/

/-- do the events `xs` occur in `ys` in this order (not necessarily next to each other)? -/
def C09.isSubseq : List (String × String) → List (String × String) → Bool
  | [], _ => true
  | _ :: _, [] => false
  | x :: xs, y :: ys => if x == y then C09.isSubseq xs ys else C09.isSubseq (x :: xs) ys

/-- for every public function with an out/output parameter: the aliasing class its model belongs to and the events — in
source order — that class relies on. `guarded`: `_get_output`, then the guard `if np.may_share_memory(x, out): x = x.copy()`,
then the native call on the (possibly copied) `x` and `out` (`kernel1G true`, theorem `C09_alias_single_pass`); `cerode`,
`subm`: their own guards (`C09_alias_cerode`, `C09_alias_subm`); `compose`: built from guarded functions
(`C09_alias_open_close`, `C09_alias_tophat`; `gaussian_filter1d` forwards to `convolve1d`); `inplace`: whole-buffer store, then
an in-place kernel on the output only (`C09_alias_inplace`); `pingpong`: `C09_alias_gaussian`; `elementwise`:
`remove_bordering` (numpy element-wise statements only, in-place use documented). -/
def C09.aliasPlan : List (String × String × List (String × String)) := [
  ("morph.dilate", "guarded", [("get_output", "(A,out,None,output)"), ("unalias", "A|A~output"), ("unalias", "Bc|Bc~output"), ("native", "_morph.dilate(A,Bc,output)")]),
  ("morph.erode", "guarded", [("get_output", "(A,out,None,output)"), ("unalias", "A|A~output"), ("unalias", "Bc|Bc~output"), ("native", "_morph.erode(A,Bc,output)")]),
  ("morph.cerode", "cerode", [("get_output", "(f,out,None,output)"), ("unalias", "g|g~out"), ("unalias", "Bc|Bc~out"), ("native", "_morph.erode(f,Bc,out)"), ("call", "np.maximum(f,g,out=f)")]),
  ("morph.hitmiss", "guarded", [("unalias", "input|input~out"), ("native", "_morph.hitmiss(input,Bc,out)")]),
  ("morph.open", "compose", [("unalias", "Bc|Bc~out if out is not None else output"), ("call", "erode(f,Bc,out=out,output=output)"), ("call", "dilate(eroded.copy(),Bc,out=eroded)")]),
  ("morph.close", "compose", [("unalias", "Bc|Bc~out if out is not None else output"), ("call", "dilate(f,Bc,out=out,output=output)"), ("call", "erode(dilated.copy(),Bc,out=dilated)")]),
  ("morph.majority_filter", "guarded", [("get_output", "(img,out,np.bool_,output)"), ("unalias", "img|img~output"), ("native", "_morph.majority_filter(img,N,output)")]),
  ("morph.locmax", "guarded", [("get_output", "(f,out,np.bool_,output)"), ("unalias", "f|f~output"), ("native", "_morph.locmin_max(f,Bc,output,False)")]),
  ("morph.locmin", "guarded", [("get_output", "(f,out,np.bool_,output)"), ("unalias", "f|f~output"), ("native", "_morph.locmin_max(f,Bc,output,True)")]),
  ("morph.regmin", "guarded", [("get_output", "(f,out,np.bool_,output)"), ("unalias", "f|f~output"), ("native", "_morph.regmin_max(f,Bc,output,True)")]),
  ("morph.regmax", "guarded", [("get_output", "(f,out,np.bool_,output)"), ("unalias", "f|f~output"), ("native", "_morph.regmin_max(f,Bc,output,False)")]),
  ("morph.subm", "subm", [("get_output", "(a,out,None)"), ("unalias", "b|out~b"), ("store", "out[:]=a"), ("native", "_morph.subm(out,b)")]),
  ("morph.tophat_close", "compose", [("get_output", "(f,out,None)"), ("call", "close(f,Bc)"), ("call", "subm(fc,f,out=out)")]),
  ("morph.tophat_open", "compose", [("get_output", "(f,out,None)"), ("call", "open(f,Bc)"), ("call", "subm(f,fo,out=out)")]),
  ("convolve.convolve", "guarded", [("get_output", "(f,out,None,output)"), ("unalias", "f|f~output"), ("native", "_convolve.convolve(f,weights,output,mode2int[mode])")]),
  ("convolve.convolve1d", "guarded", [("get_output", "(f,out,None)"), ("unalias", "f|f~out"),
     ("native", "_convolve.convolve1d(f,weights,out.reshape(f.shape),mode2int[mode])"), ("native", "_convolve.convolve1d(f,weights,tmp,mode2int[mode])"),
     ("store", "out[...]=tmp.reshape(tshape).transpose(rindices)"), ("call", "convolve(f,weights,mode=mode,cval=cval,out=out)")]),
  ("convolve.median_filter", "guarded", [("get_output", "(f,out,None,output)"), ("unalias", "f|f~output"), ("native", "_convolve.rank_filter(f,Bc,output,int(rank),mode2int[mode])")]),
  ("convolve.mean_filter", "guarded", [("get_output", "(f,out,np.float64)"), ("unalias", "f|f~out"), ("native", "_convolve.mean_filter(f,Bc,out,mode2int[mode],cval)")]),
  ("convolve.rank_filter", "guarded", [("get_output", "(f,out,None,output)"), ("unalias", "f|f~output"), ("native", "_convolve.rank_filter(f,Bc,output,rank,mode2int[mode])")]),
  ("convolve.template_match", "guarded", [("get_output", "(f,out,None,output)"), ("unalias", "f|f~output"), ("unalias", "template|template~output"), ("native", "_convolve.template_match(f,template,output,mode2int[mode],0)")]),
  ("convolve.gaussian_filter1d", "compose", [("call", "convolve1d(array,weights,axis,mode,cval,out=out)")]),
  ("convolve.gaussian_filter", "pingpong", [("get_output", "(array,out,None,output)"), ("store", "output[...]=array[...]"),
     ("call", "gaussian_filter1d(output,sigma,axis,order,mode,cval,noutput)"), ("store", "result[...]=output"), ("return", "result")]),
  ("labeled.label", "inplace", [("get_output", "(array,out,np.int32,output)"), ("unalias", "Bc|Bc~output"), ("store", "output[:]=array != 0"), ("native", "_labeled.label(output,Bc)")]),
  ("labeled.remove_bordering", "elementwise", [("unalias", "im|out~im"), ("store", "out[:]=im"), ("return", "out")]),
  ("labeled.border", "guarded", [("get_output", "(labeled,out,bool,output)"), ("unalias", "labeled|labeled~output"), ("fill", "output(False)"),
     ("native", "_labeled.border(labeled,Bc,output,i,j,bool(always_return))")]),
  ("labeled.borders", "guarded", [("get_output", "(labeled,out,bool,output)"), ("unalias", "labeled|labeled~output"), ("fill", "output(False)"),
     ("native", "_labeled.borders(labeled,Bc,output,_checked_mode2int(mode, 0.0, 'borders'))")]),
  ("interpolate.spline_filter1d", "inplace", [("get_output", "(array,out,dtype,output)"), ("store", "output[...]=array"), ("native", "_interpolate.spline_filter1d(output,order,axis)")]),
  ("interpolate.spline_filter", "inplace", [("get_output", "(array,out,dtype,output)"), ("store", "output[...]=array"), ("native", "_interpolate.spline_filter1d(output,order,axis)")]),
  ("interpolate.zoom", "guarded", [("unalias", "array|array~out"), ("native", "_interpolate.zoom_shift(array,zoom,None,out,order,mode2int[mode],cval)")]),
  ("interpolate.shift", "guarded", [("get_output", "(array,out,np.float64,output)"), ("unalias", "array|array~output"),
     ("native", "_interpolate.zoom_shift(array,None,shift,output,order,mode2int[mode],cval)")])]

/-- the events of one function in the current source -/
def C09.eventsOf (fn : String) : List (String × String) :=
  match Generated.outEvents.find? (·.1 == fn) with
  | some e => e.2
  | none => []

/-- **tie of the aliasing theorems to the current source** (regenerated on every run): (1) the functions with an out/output
parameter are exactly the planned ones, in order; (2) for each, the events its class relies on occur in the source **in
that order** — in particular every `guarded` wrapper still has its `if np.may_share_memory(x, out): x = x.copy()` *after*
`_get_output` and *before* the native call; (3) every `guarded` plan does contain such a guard and a native call after it
(the plan itself is not vacuous), and the only native kernels called on an `out` buffer that may be the input without a guard
are the in-place ones without a second array operand (`spline_filter1d`, `spline_filter`); `label` and `subm` work in place
and guard their second operand. Removing or moving one guard makes this `decide` fail. -/
theorem C09_alias_guards_source_tie :
    Generated.outEvents.map (·.1) = C09.aliasPlan.map (·.1) ∧
    C09.aliasPlan.all (fun p => C09.isSubseq p.2.2 (C09.eventsOf p.1)) = true ∧
    (C09.aliasPlan.filter (fun p => p.2.1 == "guarded")).all (fun p =>
      match p.2.2.dropWhile (fun e => e.1 != "unalias") with
      | _ :: rest => rest.any (·.1 == "native")
      | [] => false) = true ∧
    (Generated.outEvents.filter (fun e => e.2.any (·.1 == "native") && !e.2.any (·.1 == "unalias"))).map (·.1) =
      ["interpolate.spline_filter1d", "interpolate.spline_filter"] :=
  ⟨rfl, by decide +kernel⟩


/-! ### "writes the COMPLETE result": composition with the defined-everywhere cover of C10 -/

/-- for every function with an out/output parameter: the rows of C10's allocation cover (`allocCover`: file, function,
variable; regenerated site list `Generated.allocSiteTable`) that describe how the buffer it hands to a kernel is filled.
The kernel cannot tell a fresh `np.empty` buffer from the caller's `out` (`C09_getOut_out_itself_or_untouched`: on
acceptance the very same code runs on `out` itself), so the theorem that every cell of the fresh buffer is stored before the
call returns is the theorem that every cell of `out` is. Functions that only forward `out` cite the rows of the functions
they forward to. -/
def C09.writeCover : List (String × List (String × String × String)) := [
  ("morph.dilate", [("morph.py", "dilate", "output")]),
  ("morph.erode", [("morph.py", "erode", "output")]),
  ("morph.cerode", [("morph.py", "cerode", "out")]),
  ("morph.hitmiss", [("morph.py", "hitmiss", "out")]),
  ("morph.open", [("morph.py", "erode", "output"), ("morph.py", "dilate", "output")]),
  ("morph.close", [("morph.py", "dilate", "output"), ("morph.py", "erode", "output")]),
  ("morph.majority_filter", [("morph.py", "majority_filter", "output")]),
  ("morph.locmax", [("morph.py", "locmax", "output")]),
  ("morph.locmin", [("morph.py", "locmin", "output")]),
  ("morph.regmin", [("morph.py", "regmin", "output")]),
  ("morph.regmax", [("morph.py", "regmax", "output")]),
  ("morph.subm", [("morph.py", "subm", "out")]),
  ("morph.tophat_close", [("morph.py", "tophat_close", "out"), ("morph.py", "subm", "out")]),
  ("morph.tophat_open", [("morph.py", "tophat_open", "out"), ("morph.py", "subm", "out")]),
  ("convolve.convolve", [("convolve.py", "convolve", "output")]),
  ("convolve.convolve1d", [("convolve.py", "convolve1d", "out"), ("convolve.py", "convolve1d", "tmp"), ("convolve.py", "convolve", "output")]),
  ("convolve.median_filter", [("convolve.py", "median_filter", "output")]),
  ("convolve.mean_filter", [("convolve.py", "mean_filter", "out")]),
  ("convolve.rank_filter", [("convolve.py", "rank_filter", "output")]),
  ("convolve.template_match", [("convolve.py", "template_match", "output")]),
  ("convolve.gaussian_filter1d", [("convolve.py", "convolve1d", "out"), ("convolve.py", "convolve1d", "tmp"), ("convolve.py", "convolve", "output")]),
  ("convolve.gaussian_filter", [("convolve.py", "gaussian_filter", "output"), ("convolve.py", "convolve1d", "out")]),
  ("labeled.label", [("labeled.py", "label", "output")]),
  ("labeled.remove_bordering", []),
  ("labeled.border", [("labeled.py", "border", "output")]),
  ("labeled.borders", [("labeled.py", "borders", "output")]),
  ("interpolate.spline_filter1d", [("interpolate.py", "spline_filter1d", "output")]),
  ("interpolate.spline_filter", [("interpolate.py", "spline_filter", "output")]),
  ("interpolate.zoom", [("interpolate.py", "zoom", "out")]),
  ("interpolate.shift", [("interpolate.py", "shift", "output")])]

/-- **C09 ("writes the complete result").** (1) Every public function with an out/output parameter of the current source
has an entry in `C09.writeCover`; (2) every row it cites is a row of C10's `allocCover` that is marked *proved* and names at
least one theorem about the loop shape that stores every cell (whole-buffer fill / one store per pixel of the iteration / every
column of every row / window loops after a fill — `C10_alloc_*_defined`), and the site is still in the regenerated
`Generated.allocSiteTable`; (3) the only function without such a row is `remove_bordering`, which consists of numpy
whole-array statements (`out[:] = im; out *= …`). Together with `C09_getOut_out_itself_or_untouched` (the kernel runs on `out`
itself) and the flow theorems (`st.val k = V`: the last whole-buffer write is the final result): an accepted `out` is written in
every cell. -/
theorem C09_complete_write_cover :
    Generated.outSites.map (·.1) = C09.writeCover.map (·.1) ∧
    C09.writeCover.all (fun w => w.2.all fun r =>
      (allocCover.any fun c => c.file == r.1 && c.fn == r.2.1 && c.var == r.2.2 && c.proved && !c.thms.isEmpty) &&
      (Generated.allocSiteTable.any fun s => s.1 == r.1 && s.2.1 == r.2.1 && s.2.2.1 == r.2.2)) = true ∧
    (C09.writeCover.filter (·.2.isEmpty)).map (·.1) = ["labeled.remove_bordering"] :=
  ⟨rfl, by decide +kernel⟩

/-! non-vacuity: a (3,4) uint8 image passed as its own `out` — safe with the guard, garbage without it; a strided
    image is not an acceptable `out` for itself; the subsequence test really tests the order. -/
example :
    let f : Desc := { dtype := C09.dtU8, shape := [3, 4], ccontig := true }
    AliasSafe [f, f] 0 (fun out => kernel1G true .dilate 0 1 out none) (.ap .dilate (.inp 0) (.inp 1)) ∧
    (kernel1G false .dilate 0 1 (some 0) none (initSt [f, f] none)).retVal = some (.ap .dilate .undef (.inp 1)) ∧
    AliasSafe [f, f] 1 (submGP true 0 1) (.ap .subm (.inp 0) (.inp 1)) ∧
    ¬ Acceptable { f with ccontig := false } { f with ccontig := false } none ∧
    (kernel1G true .dilate 0 1 (some 0) none (initSt [{ f with ccontig := false }, f] none)).exc = some .contig := by
  intro f
  refine ⟨C09_alias_single_pass _ _ _ _ ⟨rfl, rfl, rfl⟩, (C09_alias_single_pass_unguarded .dilate f f ⟨rfl, rfl, rfl⟩).1,
    (C09_alias_subm f f).2.1 ⟨rfl, rfl, rfl⟩, by decide, by decide⟩

example : C09.isSubseq [("a", "1"), ("b", "2")] [("a", "1"), ("x", "0"), ("b", "2")] = true ∧
    C09.isSubseq [("b", "2"), ("a", "1")] [("a", "1"), ("x", "0"), ("b", "2")] = false := by decide

/-! ### native re-checks of `out`: the element-type test is an EQUIVALENCE test -/

/-- is the atom a type test on argument `o`? `some true`: an equivalence test (`numpy::equiv_typenums`, `check_type<T>`,
`PyArray_EquivTypenums`) or an exact comparison with a type number that has no second number of the same layout (bool,
32-bit int, double); `some false`: an exact comparison (`PyArray_TYPE(o) != NPY_X`) with one of the 64-bit integer numbers,
which come in pairs (`NPY_LONG`/`NPY_LONGLONG`: 7/9, `NPY_ULONG`/`NPY_ULONGLONG`: 8/10); `none`: not a type test on `o`. -/
def C09.typeTestOn (o : String) : C11.NAtom → Option Bool
  | .typesDiffer as => if as.contains o then some true else none
  | .typeNotEquiv a _ => if a == o then some true else none
  | .typeNe a t => if a == o then some (!(t == 7 || t == 8 || t == 9 || t == 10)) else none
  | .whenArr _ inner => C09.typeTestOn o inner
  | .whenNotNone _ inner => C09.typeTestOn o inner
  | _ => none

/-- the native entry points that receive the caller's `out` (or the fresh buffer), the name of that parameter, and their
guards as extracted from the current C++ sources (`Generated/Guards.lean`, regenerated on every run) -/
def C09.nativeOutKernels : List (String × String × List C11.NAtom) := [
  ("_morph.dilate", "output", Generated.nativeGuards_morph_dilate),
  ("_morph.erode", "output", Generated.nativeGuards_morph_erode),
  ("_morph.hitmiss", "res_a", Generated.nativeGuards_morph_hitmiss),
  ("_morph.majority_filter", "res_a", Generated.nativeGuards_morph_majority_filter),
  ("_morph.locmin_max", "output", Generated.nativeGuards_morph_locmin_max),
  ("_morph.regmin_max", "output", Generated.nativeGuards_morph_regmin_max),
  ("_morph.subm", "a", Generated.nativeGuards_morph_subm),
  ("_convolve.convolve", "output", Generated.nativeGuards_convolve_convolve),
  ("_convolve.convolve1d", "output", Generated.nativeGuards_convolve_convolve1d),
  ("_convolve.rank_filter", "output", Generated.nativeGuards_convolve_rank_filter),
  ("_convolve.mean_filter", "output", Generated.nativeGuards_convolve_mean_filter),
  ("_convolve.template_match", "output", Generated.nativeGuards_convolve_template_match),
  ("_labeled.label", "array", Generated.nativeGuards_labeled_label),
  ("_labeled.border", "output", Generated.nativeGuards_labeled_border),
  ("_labeled.borders", "output", Generated.nativeGuards_labeled_borders),
  ("_interpolate.zoom_shift", "output", Generated.nativeGuards_interpolate_zoom_shift)]

/-- **C09 (native re-checks accept every buffer `_get_output` accepts).** `_get_output` compares dtypes with numpy's `!=`,
for which `int64` created as `'l'` and as `'q'` (`np.longlong`) are EQUAL although their C type numbers differ (7/9; 8/10 for
the unsigned pair). Every native entry point that receives `out` re-checks its element type — and each of these re-checks, as
extracted from the current C++ source, is an equivalence test (or an exact test against a type number without a twin): so a
buffer accepted by `_get_output` is not rejected by the second line of defence for its type number. A re-check rewritten with
`PyArray_TYPE(output) == typenum`, or moved where the extraction no longer sees it, makes this `decide` fail. -/
theorem C09_native_out_type_tests_equivalence :
    C09.nativeOutKernels.all (fun k =>
      let tests := k.2.2.filterMap (C09.typeTestOn k.2.1)
      !tests.isEmpty && tests.all id) = true := by
  decide +kernel

example : C09.typeTestOn "output" (.typeNe "output" 9) = some false ∧
    C09.typeTestOn "output" (.whenNotNone "output" (.typesDiffer ["output", "array"])) = some true ∧
    C09.typeTestOn "output" (.notCArray "output") = none := by decide

/-! ### the whole flow of `hitmiss`; degenerate buffers -/

/-- what `hitmiss` accepts: the input's shape, C-contiguous, and the input's dtype or a bool buffer for a uint8 input (the
right-hand side of the first conjunct of `C09_hitmiss_validation`, named for the statement of `C09_flow_hitmiss`) -/
def C09.HitmissAcceptable (inp o : Desc) : Prop :=
  o.shape = inp.shape ∧ o.ccontig = true ∧ (o.dtype = inp.dtype ∨ (o.dtype = C09.dtBool ∧ inp.dtype = C09.dtU8))

instance (inp o : Desc) : Decidable (C09.HitmissAcceptable inp o) := by
  unfold C09.HitmissAcceptable; infer_instance

/-- **C09 (`hitmiss`, the whole flow).** With a buffer it accepts (`C09.HitmissAcceptable`: also the bool buffer whose uint8
view is written) the call returns **that buffer** holding the result and leaves the inputs alone; any other buffer raises (the
statement records that it raises, not for which of the tests shape → contiguity → dtype of the source) with the buffer still
`old` and the inputs intact; without `out` a fresh buffer holds the result; and with the image itself as `out` (`AliasSafe`)
the guard makes the kernel read a copy. -/
theorem C09_flow_hitmiss (g : Bool) (inp bc o : Desc) :
    ((hitmissP g 0 1 none (initSt [inp, bc] none)).retVal = some (.ap .kernel (.inp 0) (.inp 1)) ∧
      intact (hitmissP g 0 1 none (initSt [inp, bc] none)).st 2) ∧
    (C09.HitmissAcceptable inp o →
      (hitmissP g 0 1 (some 2) (initSt [inp, bc] (some o))).ret = some 2 ∧
      (hitmissP g 0 1 (some 2) (initSt [inp, bc] (some o))).st.val 2 = .ap .kernel (.inp 0) (.inp 1) ∧
      intact (hitmissP g 0 1 (some 2) (initSt [inp, bc] (some o))).st 2) ∧
    (¬ C09.HitmissAcceptable inp o →
      (hitmissP g 0 1 (some 2) (initSt [inp, bc] (some o))).ret = none ∧
      (hitmissP g 0 1 (some 2) (initSt [inp, bc] (some o))).st.val 2 = .old ∧
      intact (hitmissP g 0 1 (some 2) (initSt [inp, bc] (some o))).st 2) ∧
    (inp.ccontig = true → AliasSafe [inp, bc] 0 (hitmissP true 0 1) (.ap .kernel (.inp 0) (.inp 1))) := by
  refine ⟨?_, fun h => ?_, fun h => ?_, fun hc => ?_⟩
  · rw [hitmissP_none]
    exact ⟨rfl, rfl, rfl, trivial⟩
  · rw [hitmissP_accept (s := initSt [inp, bc] (some o)) (inp := 0) (o := 2) ((C09_hitmiss_validation inp o).1.2 h),
      unalias_ne g (by decide)]
    exact ⟨rfl, rfl, rfl, rfl, trivial⟩
  · obtain ⟨r, e⟩ := hitmissP_reject (g := g) (bc := 1) (s := initSt [inp, bc] (some o)) (inp := 0) (o := 2)
      fun h' => h ((C09_hitmiss_validation inp o).1.1 h')
    rw [e]
    exact ⟨rfl, rfl, rfl, rfl, trivial⟩
  · rw [AliasSafe, hitmissP_none, hitmissP_accept (s := initSt [inp, bc] none) (inp := 0) (o := 0)
      ((C09_hitmiss_validation inp inp).1.2 ⟨rfl, hc, .inl rfl⟩)]
    exact ⟨rfl, rfl, rfl, fun _ => rfl, fun h => absurd rfl h, trivial⟩

/-- **C09 (degenerate buffers: goal "reject + untouched").** A 0-d `out` for an array of rank ≥ 1, a zero-size `out` for an
array without an empty axis, and any buffer that is not C-contiguous (a view with negative strides, a zero-stride broadcast
view, a Fortran-ordered or strided buffer: `ccontig = false`) are never accepted by `_get_output` — so, by the flow theorems,
the call raises with the buffer untouched; a zero-size `out` IS accepted for an equally shaped empty array. -/
theorem C09_getOutput_degenerate_out (a o : Desc) (dt : Option Nat) :
    (o.shape = [] → a.shape ≠ [] → ∃ r, getOutput a (some o) dt = .reject r) ∧
    (0 ∈ o.shape → 0 ∉ a.shape → ∃ r, getOutput a (some o) dt = .reject r) ∧
    (o.ccontig = false → ∃ r, getOutput a (some o) dt = .reject r) ∧
    (0 ∈ a.shape → Acceptable a o dt → 0 ∈ o.shape ∧ getOutput a (some o) dt = .useOut) := by
  refine ⟨fun h1 h2 => ?_, fun h1 h2 => ?_, fun h => ?_, fun h1 h2 => ?_⟩
  · exact getOutput_reject_of_not a o dt (fun ⟨_, hs, _⟩ => h2 (hs ▸ h1))
  · exact getOutput_reject_of_not a o dt (fun ⟨_, hs, _⟩ => h2 (hs ▸ h1))
  · exact getOutput_reject_of_not a o dt (fun ⟨_, _, hc⟩ => by rw [h] at hc; exact absurd hc (by simp))
  · exact ⟨h2.2.1 ▸ h1, (getOutput_useOut_iff a o dt).2 h2⟩

example :
    let f : Desc := { dtype := C09.dtU8, shape := [3, 4], ccontig := true }
    C09.HitmissAcceptable f { f with dtype := C09.dtBool } ∧ ¬ C09.HitmissAcceptable f { f with ccontig := false } ∧
    (hitmissP true 0 1 (some 2) (initSt [f, f] (some { f with dtype := C09.dtBool }))).ret = some 2 ∧
    (∃ r, getOutput f (some { f with shape := [] }) none = .reject r) ∧
    getOutput { f with shape := [0, 4] } (some { f with shape := [0, 4] }) none = .useOut := by
  intro f
  refine ⟨by decide, by decide, by decide, ⟨.shape, by decide⟩, by decide⟩
