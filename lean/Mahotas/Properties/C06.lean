/-
C06 — property theorems about the convolution kernels (`convolve`, `convolve1d`, `gaussian_filter`, `laplacian_2D`).
The kernels are the polymorphic definitions of `Model/C06.lean` that the driver runs at `Float`;
here they are instantiated at an arbitrary commutative semiring `R` (ℤ, ℚ, ℝ, …), where the
"accumulation in double precision" is exact.
-/
import Mahotas.Proofs.C06
import Mahotas.Proofs.C06Fast
import Mahotas.Proofs.C06Axis
import Mahotas.Proofs.C06Gauss
import Mahotas.Proofs.C06Const
import Mahotas.Proofs.C06Transpose
import Mahotas.Proofs.C06Cast
import Mathlib.Data.Rat.Floor
import Mahotas.Proofs.C06Edge
import Mahotas.Proofs.C06Separable
import Mahotas.Proofs.Modes
open Mahotas Mahotas.C06

/-- **C06-T1 (generic kernel = defining sum).** For every border mode (nearest, wrap, reflect, mirror,
constant 0, ignore), every image of every rank and shape with positive axis lengths, every kernel of
every shape (odd, even, larger than the image, with zeros) and every pixel `p`, the accumulator of the
model of `convolve<T>` — footprint order, zero weights dropped by `filter_iterator(compress=true)`,
neighbour offsets through `fix_offset` on each axis, flagged samples skipped — equals
`Σ_j w[j] · f[border(p + j − c)]` with `c = shape(w)/2` over all kernel positions `j`, the out-of-image
samples taken per the mathematical border rule (`borderSpec`; 0 / dropped for constant / ignore). -/
theorem C06_convolve_eq_spec {R : Type} [CommSemiring R] (isZero : R → Bool)
    (hz : ∀ x, isZero x = true → x = 0) (m : Mode) (f : Img R) (hs : ∀ d ∈ f.shape, 0 < d)
    (wshape : List Nat) (w : Array R) (p : List Int) :
    convAcc m f (support isZero wshape w) p = convSpec m f wshape w p := by
  exact (conv_fold isZero hz m f hs wshape w p _ 0).trans (zero_add _)

/-- **C06-T2a (fast row path: every column written exactly once).** Under the guard of the Python
wrapper, `len(w) < N1`, the columns written for a row by the interior loop
`for (x = c; x != N1 − c; ++x)` followed by the border loop
`for (x_ = 0; x_ != 2c && x_ < N1; ++x_) x = (x_ < c ? x_ : N1 − 1 − (x_ − c))` are a permutation of
`0, …, N1 − 1`: no column is skipped and none is written twice, for every kernel length (odd or even). -/
theorem C06_fast_columns_once (Nf N1 : Nat) (h : Nf < N1) : (fastXs Nf N1).Perm (List.range N1) :=
  fastXs_perm Nf N1 h

/-- **C06-T2b (fast row path: interior reads stay inside the row)** — the interior loop indexes
`base0[x + j − c]` without any border handling; for every column it visits and every kernel position
the index lies in `[0, N1)`. -/
theorem C06_fast_interior_in_range (Nf N1 x j : Nat) (h : Nf < N1) (hx : x ∈ interiorXs Nf N1) (hj : j < Nf) :
    0 ≤ (x : Int) + (j : Int) - ((Nf / 2 : Nat) : Int) ∧
    (x : Int) + (j : Int) - ((Nf / 2 : Nat) : Int) < (N1 : Int) :=
  interior_read_in_range Nf N1 x j h hx hj

/-- **C06-T2c (fast row path = defining sum = generic kernel).** For a 2-D row view `[N0, N1]`, every
border mode and every kernel shorter than the row, each write `(y, x, v)` the model of
`convolve1d<T>` performs — interior loop with direct reads and all weights, border loop with per-mode
offsets and flagged samples read as 0 — targets a cell of the image and stores the defining sum with
the kernel embedded on the last axis (kernel shape `[1, Nf]`, centre `Nf/2`), which is also what the
generic kernel `convolve<T>` accumulates at that pixel. -/
theorem C06_fast_eq_spec {R : Type} [CommSemiring R] (isZero : R → Bool)
    (hz : ∀ x, isZero x = true → x = 0) (m : Mode) (f : Img R) (N0 N1 : Nat)
    (hf : f.shape = [N0, N1]) (w : Array R) (h : w.size < N1) :
    ∀ t ∈ fastWrites m f w N0 N1, t.1 < N0 ∧ t.2.1 < N1 ∧
      t.2.2 = convSpec m f [1, w.size] w [(t.1 : Int), (t.2.1 : Int)] ∧
      t.2.2 = convAcc m f (support isZero [1, w.size] w) [(t.1 : Int), (t.2.1 : Int)] := by
  intro t ht
  obtain ⟨h1, h2, h3⟩ := fastWrites_border m f w N0 N1 h t ht
  have hv := h3.trans (fastBorder_eq_spec m f N0 N1 hf w t.1 t.2.1 h1 h2)
  exact ⟨h1, h2, hv, hv.trans
    (C06_convolve_eq_spec isZero hz m f (hf ▸ dims_pos_pair N0 N1 (Nat.zero_lt_of_lt h1) (Nat.zero_lt_of_lt h2)) _ w _).symm⟩

/-- non-vacuity of T2: a 2×5 row view, an even kernel of length 4 (< 5), mirror mode: the write
    sequence covers the columns `2, 0, 1, 4, 3` and fills every cell. -/
example :
    fastXs 4 5 = [2, 0, 1, 4, 3] ∧
    let f : Img Int := { shape := [2, 5], data := #[1, 2, 3, 4, 5, 6, 7, 8, 9, 10] }
    (applyWrites 2 5 (fastWrites .mirror f #[1, 0, -1, 2] 2 5)).toList =
      ((allPos f.shape).map fun p => some (convSpec .mirror f [1, 4] #[1, 0, -1, 2] p)) := by
  decide +kernel

/-- non-vacuity: a 1-D integer image of length 2 under a length-5 asymmetric kernel with a zero, in
    reflect mode (offsets reach two periods), meets the hypotheses; both sides evaluate to the same
    non-trivial values. -/
example :
    let f : Img Int := { shape := [2], data := #[1, 10] }
    let w : Array Int := #[1, 0, 2, 3, 4]
    (∀ d ∈ f.shape, 0 < d) ∧
    (allPos f.shape).map (convAcc .reflect f (support (fun x => x == 0) [5] w)) = [82, 55] ∧
    (allPos f.shape).map (convSpec .reflect f [5] w) = [82, 55] := by
  decide +kernel

/-- **C06-T3a (axis normalisation, `_get_axis`).** For an axis argument in `[−ndim, ndim)` the
normalised axis is a valid axis, equals the argument when it is non-negative and `axis + ndim` when it
is negative; `axis` and `axis − ndim` name the same axis. -/
theorem C06_normAxis (ndim : Nat) (axis : Int) (h0 : -(ndim : Int) ≤ axis) (h1 : axis < ndim) :
    normAxis ndim axis < ndim ∧
    (0 ≤ axis → (normAxis ndim axis : Int) = axis ∧ normAxis ndim (axis - ndim) = normAxis ndim axis) ∧
    (axis < 0 → (normAxis ndim axis : Int) = axis + ndim) := by
  unfold normAxis
  by_cases h : axis < 0
  · rw [if_pos h]
    omega
  · rw [if_neg h, if_pos (show axis - ndim < 0 by omega)]
    omega

/-- **C06-T3 (`convolve1d` along any axis = `convolve` with the kernel embedded on that axis).** For every
rank, shape, axis `< ndim` (after `C06_normAxis`: every axis argument, negative included), 1-D kernel
`w` and border mode, over any commutative semiring:
(i) under the guard of the fast path, `len(w) < shape[axis]`, the value the row-wise kernel leaves at
the logical position `p` — it sees the row `f.transpose(others + [axis]).reshape(-1, N)[row of p]`,
which the model reads as `lineThrough f axis p`, and uses the interior or the border loop according to
the column `p[axis]` — equals the defining sum `Σ_j w[j]·f[border(p + (j − Nf/2)·e_axis)]` with the
kernel of shape `[1,…,Nf,…,1]` (`embedShape`), and equals the accumulator of the generic kernel
`convolve<T>` for that embedded kernel;
(ii) hence the whole output of `convolve1d` is that tabulated defining sum whichever path the Python
wrapper chooses (contiguous or not, kernel shorter than the axis or not), for any output cast. -/
theorem C06_convolve1d_axis {R : Type} [CommSemiring R] (isZero : R → Bool)
    (hz : ∀ x, isZero x = true → x = 0) (m : Mode) (f : Img R) (axis : Nat) (w : Array R)
    (hax : axis < f.shape.length) :
    (∀ p, inside f.shape p = true → w.size < f.shape.getD axis 1 →
      fastAt m f axis w p = convSpec m f (embedShape f.shape.length axis w.size) w p ∧
      fastAt m f axis w p = convAcc m f (support isZero (embedShape f.shape.length axis w.size) w) p) ∧
    (∀ (cast : R → R) (contig : Bool), (convolve1dG cast isZero m f contig axis w).1 =
      (allPos f.shape).map fun p => cast (convSpec m f (embedShape f.shape.length axis w.size) w p)) := by
  refine ⟨fun p hp hw => ?_, fun cast contig => convolve1dG_eq_spec cast isZero hz m f contig axis w hax⟩
  have h := fastAt_eq_spec m f axis w p hp hax hw
  refine ⟨h, ?_⟩
  rw [h, C06_convolve_eq_spec isZero hz m f (C01.inside_dims_pos _ _ hp)]

/-- **C06-T3b (the two paths of `convolve1d` agree).** The fast row path (contiguous input) and the
generic path (`convolve` with `weights[None,…,:,…,None]`) return the same list of values for every
image, axis, kernel, mode and output cast, and equal lists for `axis` and `axis − ndim`. -/
theorem C06_convolve1d_paths_agree {R : Type} [CommSemiring R] (cast : R → R) (isZero : R → Bool)
    (hz : ∀ x, isZero x = true → x = 0) (m : Mode) (f : Img R) (axis : Int) (w : Array R)
    (h0 : 0 ≤ axis) (h1 : axis < f.shape.length) :
    (convolve1dG cast isZero m f true (normAxis f.shape.length axis) w).1 =
      (convolve1dG cast isZero m f false (normAxis f.shape.length axis) w).1 ∧
    (convolve1dG cast isZero m f true (normAxis f.shape.length (axis - f.shape.length)) w).1 =
      (convolve1dG cast isZero m f false (normAxis f.shape.length axis) w).1 := by
  obtain ⟨hlt, hnn, _⟩ := C06_normAxis f.shape.length axis (by omega) h1
  rw [(hnn h0).2, convolve1dG_eq_spec cast isZero hz m f true _ w hlt,
    convolve1dG_eq_spec cast isZero hz m f false _ w hlt]
  exact ⟨rfl, rfl⟩

/-- **C06-T4 (weights of `gaussian_filter1d`).** Over any ordered field `K`, for every `lw = int(4σ+0.5)`,
every `s2 = σ²` and every function `e` that is even and positive (standing for `x ↦ exp(−x²/2σ²)`; the
driver instantiates the same definition with `Float.exp`), the weights `gaussWeightsG` computes — samples
at `x = i − lw`, normalised by their sum, times the derivative polynomial, odd orders flipped — satisfy,
with `W k` the weights of order `k` and `i ≤ 2·lw`:
* there are `2·lw + 1` of them for every order;
* order 0: `W₀[2lw − i] = W₀[i]`, every weight is positive, and they sum to 1;
* order 1: `W₁[i] = W₀[i]·(i − lw)/σ²` — after the flip the weight right of the centre is positive, so
  the correlation the kernels compute responds with `+` to an increasing ramp —,
  `W₁[2lw − i] = −W₁[i]`, and they sum to 0;
* order 2: `W₂[2lw − i] = W₂[i]` (their sum is `(m₂/σ² − 1)/σ²`, not 0 in general — see the example below);
* order 3: `W₃[2lw − i] = −W₃[i]`, and they sum to 0. -/
theorem C06_gauss_weights {K : Type} [Field K] [LinearOrder K] [IsStrictOrderedRing K]
    (e : K → K) (he : ∀ x, e (-x) = e x) (hpos : ∀ x, 0 < e x) (s2 : K) (lw : Nat) :
    let W := fun order => gaussWeightsG (Nat.cast : Nat → K) e s2 lw order
    (∀ order, (W order).size = 2 * lw + 1) ∧
    ((∀ i ≤ 2 * lw, (W 0).getD (2 * lw - i) 0 = (W 0).getD i 0 ∧ 0 < (W 0).getD i 0) ∧
      (W 0).toList.sum = 1) ∧
    ((∀ i ≤ 2 * lw, (W 1).getD i 0 = (W 0).getD i 0 * (((i : K) - (lw : K)) / s2) ∧
        (W 1).getD (2 * lw - i) 0 = -(W 1).getD i 0) ∧
      (W 1).toList.sum = 0) ∧
    (∀ i ≤ 2 * lw, (W 2).getD (2 * lw - i) 0 = (W 2).getD i 0) ∧
    ((∀ i ≤ 2 * lw, (W 3).getD (2 * lw - i) 0 = -(W 3).getD i 0) ∧ (W 3).toList.sum = 0) := by
  intro W
  have hget : ∀ order i, i ≤ 2 * lw → (W order).getD i 0 = gweight e s2 lw order i :=
    fun order i hi => gaussWeightsG_getD e he s2 lw order i hi
  refine ⟨fun order => gaussWeightsG_size e s2 lw order, ⟨fun i hi => ⟨?_, ?_⟩, ?_⟩,
    ⟨fun i hi => ⟨?_, ?_⟩, ?_⟩, fun i hi => ?_, fun i hi => ?_, ?_⟩
  · rw [hget 0 _ (Nat.sub_le _ _), hget 0 i hi]
    exact gweight_symm e he s2 lw 0 i (Or.inl rfl) hi
  · rw [hget 0 i hi]
    exact gweight_zero_pos e hpos s2 lw i
  · exact gaussWeightsG_sum_order0 e he hpos s2 lw
  · rw [hget 1 i hi, hget 0 i hi]
    exact gweight_one e s2 lw i
  · rw [hget 1 _ (Nat.sub_le _ _), hget 1 i hi]
    exact gweight_antisymm e he s2 lw 1 i (Or.inl rfl) hi
  · exact gaussWeightsG_sum_odd e he s2 lw 1 (Or.inl rfl)
  · rw [hget 2 _ (Nat.sub_le _ _), hget 2 i hi]
    exact gweight_symm e he s2 lw 2 i (Or.inr rfl) hi
  · rw [hget 3 _ (Nat.sub_le _ _), hget 3 i hi]
    exact gweight_antisymm e he s2 lw 3 i (Or.inr rfl) hi
  · exact gaussWeightsG_sum_odd e he s2 lw 3 (Or.inr rfl)

/-- **C06-T4a (a constant image under one Gaussian pass).** In the four extending border modes
(nearest, wrap, reflect, mirror), for an image of any rank and shape that holds the constant `c`, any
axis and any pixel `p`: the accumulator of `gaussian_filter1d` (generic kernel with the weights embedded
on `axis`) is `c` for order 0 and `0` for orders 1 and 3; under the guard of the fast path the row-wise
kernel leaves the same value. (Order 2 leaves `c·(m₂/σ² − 1)/σ²`, which is small but not 0.) -/
theorem C06_gauss_constant {K : Type} [Field K] [LinearOrder K] [IsStrictOrderedRing K]
    (isZero : K → Bool) (hz : ∀ x, isZero x = true → x = 0)
    (e : K → K) (he : ∀ x, e (-x) = e x) (hpos : ∀ x, 0 < e x) (s2 : K) (lw order : Nat)
    (m : Mode) (hm : Extending m) (f : Img K) (c : K)
    (hc : ∀ q, inside f.shape q = true → f.getD q 0 = c) (axis : Nat) (hax : axis < f.shape.length)
    (p : List Int) (hp : inside f.shape p = true) :
    let W := gaussWeightsG (Nat.cast : Nat → K) e s2 lw order
    let acc := convAcc m f (support isZero (embedShape f.shape.length axis W.size) W) p
    (order = 0 → acc = c) ∧ (order = 1 ∨ order = 3 → acc = 0) ∧
    (W.size < f.shape.getD axis 1 → fastAt m f axis W p = acc) := by
  intro W acc
  have hacc : acc = W.toList.sum * c :=
    convAcc_const isZero hz m hm f c hc _ W p hp (embedShape_length _ _ _) (shapeSize_embedShape _ _ _ hax)
  refine ⟨?_, fun ho => ?_, fun hlt => ?_⟩
  · rintro rfl
    rw [hacc, gaussWeightsG_sum_order0 e he hpos, one_mul]
  · rw [hacc, gaussWeightsG_sum_odd e he s2 lw order ho, zero_mul]
  · exact ((C06_convolve1d_axis isZero hz m f axis W hax).1 p hp hlt).2

/-- **C06-T4b (`gaussian_filter` = successive `gaussian_filter1d` over the axes).** The model of
`gaussian_filter` is (by definition) the left fold over `axis = 0, 1, …, ndim − 1` of the model of one
`gaussian_filter1d` pass (`gaussianPass` = `convolve1d` on a contiguous buffer with the weights of that
axis, stored through the output cast in a buffer of the same shape), and every pass is the tabulated
defining sum along its axis: the result equals the fold of
`cur ↦ [p ↦ cast(Σ_j w_axis[j]·cur[border(p + (j − c)·e_axis)])]`, the shape being preserved. -/
theorem C06_gaussian_filter_is_fold {R : Type} [CommSemiring R] (cast : R → R) (isZero : R → Bool)
    (hz : ∀ x, isZero x = true → x = 0) (m : Mode) (f : Img R) (ws : Nat → Array R) :
    gaussianFilterG cast isZero m f ws =
      (List.range f.shape.length).foldl (fun cur ax => gaussianPass cast isZero m cur ax (ws ax)) f ∧
    gaussianFilterG cast isZero m f ws =
      (List.range f.shape.length).foldl (fun cur ax =>
        Img.tabulate cur.shape fun p =>
          cast (convSpec m cur (embedShape cur.shape.length ax (ws ax).size) (ws ax) p)) f ∧
    (gaussianFilterG cast isZero m f ws).shape = f.shape := by
  have h := foldl_rel_mem (fun a b : Img R => a = b ∧ a.shape = f.shape)
    (fun cur ax => gaussianPass cast isZero m cur ax (ws ax))
    (fun cur ax => Img.tabulate cur.shape fun p =>
      cast (convSpec m cur (embedShape cur.shape.length ax (ws ax).size) (ws ax) p))
    (List.range f.shape.length) (by
      rintro cur _ ax hax ⟨rfl, hcur⟩
      exact ⟨gaussianPass_eq_tabulate cast isZero hz m cur ax (ws ax) (hcur ▸ List.mem_range.1 hax), hcur⟩)
    f f ⟨rfl, rfl⟩
  exact ⟨rfl, h.1, h.2⟩

/-- **C06-T4c (`gaussian_filter` on a constant image).** In the extending border modes, with exact
arithmetic and no output rounding, `gaussian_filter` maps the constant image `c` (any rank and shape) to
the constant image `c · Π_axis Σ(weights of that axis)`; with the Gaussian weights of order 0 on every
axis (each `σ`, hence `lw`, `s2` and the sampled function, may differ per axis) the image is reproduced,
and if some axis has order 1 or 3 the result is 0 everywhere. -/
theorem C06_gaussian_filter_constant {K : Type} [Field K] [LinearOrder K] [IsStrictOrderedRing K]
    (isZero : K → Bool) (hz : ∀ x, isZero x = true → x = 0) (m : Mode) (hm : Extending m)
    (f : Img K) (c : K) (hc : ∀ q, inside f.shape q = true → f.getD q 0 = c) :
    (∀ (ws : Nat → Array K) q, inside f.shape q = true →
      (gaussianFilterG id isZero m f ws).getD q 0 =
        ((List.range f.shape.length).map fun ax => (ws ax).toList.sum).prod * c) ∧
    (∀ (e : Nat → K → K) (s2 : Nat → K) (lw order : Nat → Nat),
      (∀ ax x, e ax (-x) = e ax x) → (∀ ax x, 0 < e ax x) →
      ∀ q, inside f.shape q = true →
        ((∀ ax < f.shape.length, order ax = 0) →
          (gaussianFilterG id isZero m f fun ax =>
            gaussWeightsG (Nat.cast : Nat → K) (e ax) (s2 ax) (lw ax) (order ax)).getD q 0 = c) ∧
        ((∃ ax < f.shape.length, order ax = 1 ∨ order ax = 3) →
          (gaussianFilterG id isZero m f fun ax =>
            gaussWeightsG (Nat.cast : Nat → K) (e ax) (s2 ax) (lw ax) (order ax)).getD q 0 = 0)) := by
  have hgen : ∀ (ws : Nat → Array K) q, inside f.shape q = true →
      (gaussianFilterG id isZero m f ws).getD q 0 =
        ((List.range f.shape.length).map fun ax => (ws ax).toList.sum).prod * c := by
    intro ws q hq
    exact (gaussianFold_const isZero hz m hm ws f.shape (List.range f.shape.length)
      (fun a ha => List.mem_range.1 ha) f c rfl hc).2 q hq
  refine ⟨hgen, fun e s2 lw order he hpos q hq => ⟨fun h0 => ?_, fun h13 => ?_⟩⟩
  · rw [hgen _ q hq]
    have : ((List.range f.shape.length).map fun ax =>
        (gaussWeightsG (Nat.cast : Nat → K) (e ax) (s2 ax) (lw ax) (order ax)).toList.sum) =
        (List.range f.shape.length).map fun _ => (1 : K) := by
      apply List.map_congr_left
      intro ax hax
      rw [h0 ax (List.mem_range.1 hax)]
      exact gaussWeightsG_sum_order0 (e ax) (he ax) (hpos ax) (s2 ax) (lw ax)
    rw [this, List.map_const', List.prod_replicate, one_pow, one_mul]
  · rw [hgen _ q hq]
    obtain ⟨ax, hax, ho⟩ := h13
    rw [List.prod_eq_zero (List.mem_map.2 ⟨ax, List.mem_range.2 hax,
      gaussWeightsG_sum_odd (e ax) (he ax) (s2 ax) (lw ax) (order ax) ho⟩), zero_mul]

/-- **C06-T4d (order-1 response to a unit ramp: sign and closed form).** At a pixel whose window lies
inside the image, the correlation the kernels compute with the order-1 weights on the ramp
`f(t) = t` — `Σ_i W₁[i]·(t + (i − lw))` — does not depend on `t` and equals `m₂/σ²` with
`m₂ = Σ_i W₀[i]·(i − lw)²` the second moment of the truncated normalised Gaussian; it is strictly
positive for `σ² > 0`, `lw ≥ 1` (the sign the statement asks for, "+1"; that `m₂/σ² ≈ 1` is validated
numerically, not proved). -/
theorem C06_gauss_ramp_response {K : Type} [Field K] [LinearOrder K] [IsStrictOrderedRing K]
    (e : K → K) (he : ∀ x, e (-x) = e x) (hpos : ∀ x, 0 < e x) (s2 : K) (lw : Nat) (t : K) :
    let W := fun order => gaussWeightsG (Nat.cast : Nat → K) e s2 lw order
    ((List.range (2 * lw + 1)).map fun i => (W 1).getD i 0 * (t + ((i : K) - (lw : K)))).sum =
      ((List.range (2 * lw + 1)).map fun i => (W 0).getD i 0 * ((i : K) - (lw : K)) ^ 2).sum / s2 ∧
    (0 < s2 → 1 ≤ lw →
      0 < ((List.range (2 * lw + 1)).map fun i => (W 0).getD i 0 * ((i : K) - (lw : K)) ^ 2).sum / s2) := by
  dsimp only
  rw [map_getD_gaussWeightsG e he s2 lw 1 fun i v => v * (t + ((i : K) - (lw : K))),
    map_getD_gaussWeightsG e he s2 lw 0 fun i v => v * ((i : K) - (lw : K)) ^ 2]
  exact ⟨gweight_ramp e he s2 lw t, fun hs2 hlw => div_pos (gweight_moment_pos e hpos s2 lw hlw) hs2⟩

/-- non-vacuity of T3: a 2×3×2 integer image, the *middle* axis (a genuine transposition), kernel
    `[2, −1]` (even length, asymmetric) shorter than the axis, mirror mode: axis `−2` normalises to 1, the
    two paths are taken and return the same values. -/
example :
    let f : Img Int := { shape := [2, 3, 2], data := #[1, 2, 3, 4, 5, 6, 7, 8, 9, 10, 11, 12] }
    let w : Array Int := #[2, -1]
    normAxis 3 (-2) = 1 ∧ 1 < f.shape.length ∧ w.size < f.shape.getD 1 1 ∧
    (convolve1dG id (fun x => x == 0) .mirror f true 1 w).2 = true ∧
    (convolve1dG id (fun x => x == 0) .mirror f false 1 w).2 = false ∧
    (convolve1dG id (fun x => x == 0) .mirror f true 1 w).1 =
      (convolve1dG id (fun x => x == 0) .mirror f false 1 w).1 ∧
    (convolve1dG id (fun x => x == 0) .mirror f true 1 w).1 = [5, 6, -1, 0, 1, 2, 11, 12, 5, 6, 7, 8] := by
  decide +kernel

/-- non-vacuity of T4 over ℚ with the positive even function `e x = 1/(1 + x²)`, `σ² = 2`, `lw = 1`:
    the four weight vectors (order 0 symmetric with sum 1; order 1 antisymmetric, positive right of the
    centre; order 2 symmetric with sum `−3/8 ≠ 0` — a constant image is *not* annihilated exactly by
    order 2 —; order 3 antisymmetric). -/
example :
    gaussWeightsG (Nat.cast : Nat → ℚ) (fun x => 1 / (1 + x * x)) 2 1 0 = #[1 / 4, 1 / 2, 1 / 4] ∧
    gaussWeightsG (Nat.cast : Nat → ℚ) (fun x => 1 / (1 + x * x)) 2 1 1 = #[-1 / 8, 0, 1 / 8] ∧
    gaussWeightsG (Nat.cast : Nat → ℚ) (fun x => 1 / (1 + x * x)) 2 1 2 = #[-1 / 16, -1 / 4, -1 / 16] ∧
    gaussWeightsG (Nat.cast : Nat → ℚ) (fun x => 1 / (1 + x * x)) 2 1 3 = #[5 / 32, 0, -5 / 32] ∧
    (gaussWeightsG (Nat.cast : Nat → ℚ) (fun x => 1 / (1 + x * x)) 2 1 2).toList.sum = -3 / 8 := by
  decide +kernel

/-- non-vacuity of T4c: the constant 2×3 image `5` under `gaussian_filter` with those order-0 weights on
    both axes in reflect mode is reproduced; with order 1 on the second axis it becomes 0. -/
example :
    let f : Img ℚ := { shape := [2, 3], data := #[5, 5, 5, 5, 5, 5] }
    (gaussianFilterG id (fun x => x == 0) .reflect f fun _ =>
      gaussWeightsG (Nat.cast : Nat → ℚ) (fun x => 1 / (1 + x * x)) 2 1 0).data = #[5, 5, 5, 5, 5, 5] ∧
    (gaussianFilterG id (fun x => x == 0) .reflect f fun ax =>
      gaussWeightsG (Nat.cast : Nat → ℚ) (fun x => 1 / (1 + x * x)) 2 1 ax).data = #[0, 0, 0, 0, 0, 0] := by
  decide +kernel

/-- **C06-T5 (`laplacian_2D`: the weights sum to 0).** Over any field, for every `alpha` with
`alpha + 1 ≠ 0` (in particular every `alpha` clamped to `[0, 1]` in an ordered field), the nine weights
`laplacianWeightsG` computes — `alpha/(alpha+1)` on the diagonals, `(1−alpha)/(alpha+1)` on the
vertical/horizontal neighbours, `−4/(alpha+1)` at the centre — sum to 0; hence, in the `nearest` mode
`laplacian_2D` uses (and in every extending mode), the generic kernel with these weights returns 0 at
every pixel of a constant 2-D image. -/
theorem C06_laplacian_weights_sum_zero {K : Type} [Field K] (alpha : K) (ha : alpha + 1 ≠ 0) :
    (laplacianWeightsG (Nat.cast : Nat → K) alpha).size = 9 ∧
    (laplacianWeightsG (Nat.cast : Nat → K) alpha).toList.sum = 0 ∧
    (∀ (isZero : K → Bool), (∀ x, isZero x = true → x = 0) →
      ∀ (m : Mode), Extending m → ∀ (f : Img K) (c : K), f.shape.length = 2 →
      (∀ q, inside f.shape q = true → f.getD q 0 = c) → ∀ p, inside f.shape p = true →
        convAcc m f (support isZero [3, 3] (laplacianWeightsG (Nat.cast : Nat → K) alpha)) p = 0) := by
  have hsum : (laplacianWeightsG (Nat.cast : Nat → K) alpha).toList.sum = 0 := by
    simp only [laplacianWeightsG, List.sum_cons, List.sum_nil, Nat.cast_one, Nat.cast_ofNat]
    ring
  refine ⟨rfl, hsum, fun isZero hz m hm f c h2 hc p hp => ?_⟩
  rw [convAcc_const isZero hz m hm f c hc [3, 3] _ p hp h2.symm rfl, hsum, zero_mul]

/-- non-vacuity of T5 over ℚ, `alpha = 1/5` (the default): the weights, and their sum. -/
example :
    laplacianWeightsG (Nat.cast : Nat → ℚ) (1 / 5) =
      #[1 / 6, 2 / 3, 1 / 6, 2 / 3, -10 / 3, 2 / 3, 1 / 6, 2 / 3, 1 / 6] ∧
    ((1 : ℚ) / 5 + 1 ≠ 0) := by
  decide +kernel

/-- **C06-T3c (`lineThrough` IS the row of `f.transpose(indices).reshape((-1, N))`, and the way back).**
numpy semantics assumed, and nothing else: `a.transpose(perm)` permutes the axes logically — shape
`[a.shape[perm[i]]]_i`, element at `q` = element of `a` at the `p` with `p[perm[i]] = q[i]`
(`transposeImg`; `transposeImg_getD` proves `a.transpose(perm)[[p[perm[i]]]_i] = a[p]` for every
permutation `perm` of the axes) — and `a.reshape(newshape)` of a possibly non-contiguous array is the
C-order ravel of its logical content read with the new shape (`reshapeImg`). With
`indices = [a for a in range(ndim) if a != axis] + [axis]` (`moveLast`) and
`rindices = [indices.index(a) for a in range(ndim)]` (`invPerm`), for every rank, shape and `axis < ndim`:
* `indices` is a permutation of the axes, the transposed shape is (the other lengths) `++ [N]`,
  `N = shape[axis]`, and the 2-D view has shape `[Π other lengths, N]` (what `-1` resolves to);
* for every inside position `p`, the row of the 2-D view whose number is the C-order rank of `p`
  without its `axis` coordinate in the transposed shape without its last axis (`rowIndex`) is a valid
  row and equals `lineThrough f axis p` — the object through which `fastAt` / `convolve1dG` (T3) read
  the row; cell `(row of p, x)` of the view is `f[p[axis := x]]`;
* the way back: for every 2-D buffer `tmp` of the shape of the view,
  `tmp.reshape(tshape).transpose(rindices)` has the shape of `f`, and the cell `(row of p, x)` of `tmp`
  lands at the logical position `p[axis := x]`. -/
theorem C06_lineThrough_is_transpose_reshape {R : Type} [CommSemiring R] (f : Img R) (axis : Nat)
    (hax : axis < f.shape.length) :
    (moveLast f.shape.length axis).Perm (List.range f.shape.length) ∧
    (transposeImg (moveLast f.shape.length axis) f).shape = otherShape f.shape axis ++ [f.shape.getD axis 1] ∧
    (rowsView f axis).shape = [shapeSize (otherShape f.shape axis), f.shape.getD axis 1] ∧
    (∀ p, inside f.shape p = true →
      rowIndex f.shape axis p < shapeSize (otherShape f.shape axis) ∧
      rowOf (rowsView f axis) (rowIndex f.shape axis p) = lineThrough f axis p ∧
      ∀ x : Int, 0 ≤ x → x < ((f.shape.getD axis 1 : Nat) : Int) →
        (rowsView f axis).getD [(rowIndex f.shape axis p : Int), x] 0 = f.getD (setAxis p axis x) 0) ∧
    (∀ tmp : Img R, tmp.shape = [shapeSize (otherShape f.shape axis), f.shape.getD axis 1] →
      (unrowsView f.shape axis tmp).shape = f.shape ∧
      ∀ p, inside f.shape p = true → ∀ x : Int, 0 ≤ x → x < ((f.shape.getD axis 1 : Nat) : Int) →
        (unrowsView f.shape axis tmp).getD (setAxis p axis x) 0 =
          tmp.getD [(rowIndex f.shape axis p : Int), x] 0) :=
  ⟨moveLast_perm _ _ hax, transposed_shape f.shape axis, rfl,
    fun p hp => ⟨rowIndex_lt f.shape axis p hp, rowOf_rowsView f axis p hax hp,
      fun x h0 h1 => rowsView_getD f axis p x hax hp h0 h1⟩,
    fun tmp htmp => unrowsView_getD f.shape axis hax tmp htmp⟩

/-- **C06-T3d (the fast path of `convolve1d` as written = the defining sum; T3 rests on no reading
of numpy beyond the two semantic facts of T3c).** `convolve1dViaTranspose` is the Python fast path
literally: `f.transpose(indices)`, `.reshape((-1, N))`, the C kernel `_convolve.convolve1d` on that 2-D array
(the write sequence `fastWrites` of T2 applied to a buffer `tmp`, each store through the output cast),
`tmp.reshape(tshape).transpose(rindices)`. For every rank, shape, axis, kernel shorter than the axis (the
guard of the fast path), mode and output cast, over any commutative semiring: the result has the shape of
`f`, every cell of `tmp` is written (no uninitialised value survives), and its C-order content is
`[cast(Σ_j w[j]·f[border(p + (j − Nf/2)·e_axis)])]_p` — the tabulated defining sum with the kernel
embedded on `axis` —, which is exactly the list `convolve1dG` (the model the driver runs, which reads
rows through `lineThrough`) returns on either path. -/
theorem C06_convolve1d_via_transpose {R : Type} [CommSemiring R] (cast : R → R) (isZero : R → Bool)
    (hz : ∀ x, isZero x = true → x = 0) (m : Mode) (f : Img R) (axis : Nat) (w : Array R)
    (hax : axis < f.shape.length) (hw : w.size < f.shape.getD axis 1) :
    (convolve1dViaTranspose cast m f axis w).shape = f.shape ∧
    (convolve1dViaTranspose cast m f axis w).data.toList =
      ((allPos f.shape).map fun p => cast (convSpec m f (embedShape f.shape.length axis w.size) w p)) ∧
    (∀ contig, (convolve1dViaTranspose cast m f axis w).data.toList =
      (convolve1dG cast isZero m f contig axis w).1) := by
  obtain ⟨h1, h2⟩ := viaTranspose_eq_spec cast m f axis w hax hw
  refine ⟨h1, h2, fun contig => ?_⟩
  rw [h2, convolve1dG_eq_spec cast isZero hz m f contig axis w hax]

/-- non-vacuity of T3c / T3d: the 2×3×2 image of the T3 example, middle axis (a genuine transposition:
    `indices = rindices = [0, 2, 1]`, transposed shape `[2, 2, 3]`, view `[4, 3]`); the pixel `(1, 2, 0)`
    lies in row 2, which is `[7, 9, 11]` = `lineThrough`; the whole pipeline with the kernel `[2, −1]` in
    mirror mode returns the values of the T3 example. -/
example :
    let f : Img Int := { shape := [2, 3, 2], data := #[1, 2, 3, 4, 5, 6, 7, 8, 9, 10, 11, 12] }
    moveLast 3 1 = [0, 2, 1] ∧ invPerm (moveLast 3 1) = [0, 2, 1] ∧
    (transposeImg (moveLast 3 1) f).shape = [2, 2, 3] ∧
    (rowsView f 1).shape = [4, 3] ∧ (rowsView f 1).data = #[1, 3, 5, 2, 4, 6, 7, 9, 11, 8, 10, 12] ∧
    rowIndex f.shape 1 [1, 2, 0] = 2 ∧
    (rowOf (rowsView f 1) 2).data = #[7, 9, 11] ∧ (lineThrough f 1 [1, 2, 0]).data = #[7, 9, 11] ∧
    (unrowsView f.shape 1 (rowsView f 1)).data = f.data ∧
    (convolve1dViaTranspose id .mirror f 1 #[2, -1]).shape = [2, 3, 2] ∧
    (convolve1dViaTranspose id .mirror f 1 #[2, -1]).data = #[5, 6, -1, 0, 1, 2, 11, 12, 5, 6, 7, 8] ∧
    (convolve1dViaTranspose id .mirror f 1 #[2, -1]).data.toList =
      (convolve1dG id (fun x => x == 0) .mirror f true 1 #[2, -1]).1 := by
  decide +kernel

/-- **C06-T3e (the branch `axis == ndim − 1` of the fast path: no `tmp`).** When the axis is the last one
`indices` is the identity (`moveLast (k+1) k = range (k+1)`), and the Python code lets the C kernel write
straight into `out.reshape((-1, N))`, a 2-D view of the C-contiguous output: `out` is then the 2-D buffer
read with the shape of `f` (`convolve1dLastAxis` = `reshapeImg f.shape tmp`; numpy semantics assumed: a
reshape of a C-contiguous array is a view with the same C-order content). For every rank ≥ 1, shape, kernel
shorter than the last axis, mode and cast, this equals the tabulated cast defining sum with the kernel
embedded on the last axis, i.e. `convolve1dG` on either path — the same list as the general branch of T3d
(`unrowsView` on the last axis is that plain reshape, `unrowsView_last`). -/
theorem C06_convolve1d_last_axis_branch {R : Type} [CommSemiring R] (cast : R → R) (isZero : R → Bool)
    (hz : ∀ x, isZero x = true → x = 0) (m : Mode) (f : Img R) (w : Array R) (hn : 0 < f.shape.length)
    (hw : w.size < f.shape.getD (f.shape.length - 1) 1) :
    moveLast f.shape.length (f.shape.length - 1) = List.range f.shape.length ∧
    (convolve1dLastAxis cast m f w).shape = f.shape ∧
    (convolve1dLastAxis cast m f w).data.toList =
      ((allPos f.shape).map fun p =>
        cast (convSpec m f (embedShape f.shape.length (f.shape.length - 1) w.size) w p)) ∧
    (convolve1dLastAxis cast m f w).data.toList =
      (convolve1dViaTranspose cast m f (f.shape.length - 1) w).data.toList ∧
    (∀ contig, (convolve1dLastAxis cast m f w).data.toList =
      (convolve1dG cast isZero m f contig (f.shape.length - 1) w).1) := by
  have hax : f.shape.length - 1 < f.shape.length := Nat.sub_lt hn Nat.one_pos
  obtain ⟨h1, h2⟩ := lastAxis_eq_spec cast m f w hn hw
  refine ⟨moveLast_last _ hn, h1, h2, ?_, fun contig => ?_⟩
  · rw [h2, (viaTranspose_eq_spec cast m f _ w hax hw).2]
  · rw [h2, convolve1dG_eq_spec cast isZero hz m f contig _ w hax]

/-- non-vacuity of T3e: the same 2×3×2 image along its last axis (view `[6, 2]`, rows = memory rows),
    kernel `[3]` of length 1 < 2, nearest mode. -/
example :
    let f : Img Int := { shape := [2, 3, 2], data := #[1, 2, 3, 4, 5, 6, 7, 8, 9, 10, 11, 12] }
    moveLast 3 2 = [0, 1, 2] ∧ (rowsView f 2).shape = [6, 2] ∧ (rowsView f 2).data = f.data ∧
    (convolve1dLastAxis id .nearest f #[3]).data = #[3, 6, 9, 12, 15, 18, 21, 24, 27, 30, 33, 36] ∧
    (convolve1dLastAxis id .nearest f #[3]).data.toList =
      (convolve1dG id (fun x => x == 0) .nearest f true 2 #[3]).1 := by
  decide +kernel

/-- **C06-T4e (separability: `gaussian_filter` = ONE n-D convolution with the outer-product kernel).**
With exact arithmetic and no rounding between the passes (commutative semiring, identity output cast —
the float64 / exactly-representable case), for every rank, every shape (axes shorter than the kernels
included), arbitrary per-axis weights `ws axis` (hence every σ and every derivative order per axis) and
**every one of the six border modes**: the model of `gaussian_filter` — one `convolve1d` pass per axis,
axes `0, 1, …` in turn — keeps the shape and at every pixel `p` equals the n-D defining sum
`Σ_j W[j]·f[border(p + j − c)]` with the outer-product kernel of shape `(len w_0, …, len w_{d−1})`,
`W[j] = Π_a w_a[j_a]` (`outerKernel`), `c = shape(W)/2`; by T1 this is what `convolve(f, W, mode)`
accumulates; for rank ≥ 1 the returned buffer is that tabulated sum. Reason: the border rule acts
coordinate-wise, so the composed passes read `f` at `(border(p_0 + j_0 − c_0), …)`, and a sample outside
on some axis in the `constant` (cval is 0: any other value is refused by `_check_mode`) / `ignore` modes
contributes nothing in either form (nothing is renormalised) — no mode fails. What does fail is
separability *with rounding between the passes* (integer or float32 output dtype, or float64 round-off):
see the example below. -/
theorem C06_gaussian_separable {R : Type} [CommSemiring R] (isZero : R → Bool)
    (hz : ∀ x, isZero x = true → x = 0) (m : Mode) (f : Img R) (ws : Nat → Array R) :
    (outerShape f.shape.length ws = (List.range f.shape.length).map fun a => (ws a).size) ∧
    (∀ i < shapeSize (outerShape f.shape.length ws), (outerKernel f.shape.length ws).getD i 0 =
      ((List.range f.shape.length).map fun a =>
        (ws a).getD ((unravel (outerShape f.shape.length ws) i).getD a 0) 0).prod) ∧
    (gaussianFilterG id isZero m f ws).shape = f.shape ∧
    (∀ p, inside f.shape p = true →
      (gaussianFilterG id isZero m f ws).getD p 0 =
        convSpec m f (outerShape f.shape.length ws) (outerKernel f.shape.length ws) p ∧
      (gaussianFilterG id isZero m f ws).getD p 0 =
        convAcc m f (support isZero (outerShape f.shape.length ws) (outerKernel f.shape.length ws)) p) ∧
    (0 < f.shape.length → (gaussianFilterG id isZero m f ws).data.toList =
      (allPos f.shape).map (convSpec m f (outerShape f.shape.length ws) (outerKernel f.shape.length ws))) := by
  obtain ⟨h1, h2⟩ := gaussianFilterG_separable isZero hz m f ws
  refine ⟨rfl, fun i hi => outerKernel_getD _ ws i hi, h1, fun p hp => ⟨h2 p hp, ?_⟩,
    gaussianFilterG_separable_list isZero hz m f ws⟩
  rw [h2 p hp, C06_convolve_eq_spec isZero hz m f (C01.inside_dims_pos _ _ hp)]

/-- non-vacuity of T4e: a 2×3 image, kernels `[1, 2, −3, 5]` (longer than axis 0) and `[2, −1, 7]`, the
    4×3 outer-product kernel; the two passes equal the single 2-D defining sum in mirror mode and in
    ignore mode (samples dropped on either axis). -/
example :
    let f : Img Int := { shape := [2, 3], data := #[1, 2, 3, 4, 5, 6] }
    let ws : Nat → Array Int := fun a => if a = 0 then #[1, 2, -3, 5] else #[2, -1, 7]
    outerShape 2 ws = [4, 3] ∧ outerKernel 2 ws = #[2, -1, 7, 4, -2, 14, -6, 3, -21, 10, -5, 35] ∧
    (gaussianFilterG id (fun x => x == 0) .mirror f ws).data.toList = [253, 273, 243, 37, 57, 27] ∧
    (allPos f.shape).map (convSpec .mirror f (outerShape 2 ws) (outerKernel 2 ws)) =
      [253, 273, 243, 37, 57, 27] ∧
    (gaussianFilterG id (fun x => x == 0) .ignore f ws).data.toList = [116, 162, 17, -67, -93, -10] ∧
    (allPos f.shape).map (convSpec .ignore f (outerShape 2 ws) (outerKernel 2 ws)) =
      [116, 162, 17, -67, -93, -10] := by
  decide +kernel

/-- where separability fails: a rounding output cast (here: round down to a multiple of 4, standing for
    an integer / float32 output dtype) is applied after *each* pass, so the two passes differ from the
    rounded single 2-D sum (same image and kernels as above, mirror mode). -/
example :
    let f : Img Int := { shape := [2, 3], data := #[1, 2, 3, 4, 5, 6] }
    let ws : Nat → Array Int := fun a => if a = 0 then #[1, 2, -3, 5] else #[2, -1, 7]
    let c : Int → Int := fun x => x / 4 * 4
    (gaussianFilterG c (fun x => x == 0) .mirror f ws).data.toList = [228, 272, 216, 40, 44, 28] ∧
    ((allPos f.shape).map fun p => c (convSpec .mirror f (outerShape 2 ws) (outerKernel 2 ws) p)) =
      [252, 272, 240, 36, 56, 24] := by
  decide +kernel

/-- **C06 (tie to the source, generated tables).** The code by which the models number a border mode is the code the
source gives it in both places: `mode2int` of `mahotas/_filters.py` (what the wrappers send) and
`enum ExtendMode` of `mahotas/_filters.h` (what `fix_offset` switches on); neither table has an entry the models do
not know. Both tables are regenerated from the source on every run. -/
theorem C06_mode_codes_agree (m : Mahotas.Mode) :
    (Mahotas.Generated.pyModes.lookup m.name = some m.code ∧ Mahotas.Generated.cppModes.lookup m.name = some m.code) ∧
    Mahotas.Generated.pyModes.length = 6 ∧ Mahotas.Generated.cppModes.length = 6 :=
  ⟨Mahotas.mode_codes_agree m, Mahotas.mode_tables_complete.1, Mahotas.mode_tables_complete.2.1⟩

/-- non-vacuity: `reflect` is mode 2 in both tables -/
example : Mahotas.Generated.pyModes.lookup (Mahotas.Mode.reflect).name = some 2 := by decide +kernel

/-- **C06-T6 (the cast to `f`'s dtype: truncation toward zero, on its domain).** `castIntG floor ceil 0 lo hi1` is the
definition the driver runs (at `Float`, with `Float.floor` / `Float.ceil`, for the eight integer dtypes: `dtBounds`) to
decide WHICH cells are compared with the real code and what value is expected there. Over any ordered field with a
floor function, for every integer range `[lo, hi1)` and every accumulator `x`:
(i) the cast is defined exactly when the truncation `truncZ x` (`⌈x⌉` for `x < 0`, `⌊x⌋` otherwise) is in range, and then
its value is that integer — otherwise `none`: the C++ standard leaves the conversion undefined and the check skips the
cell;
(ii) truncation is toward zero: for `x ≥ 0`, `0 ≤ t ≤ x < t + 1`; for `x < 0`, `t − 1 < x ≤ t ≤ 0` — so a negative
accumulator above `−1` becomes `0` and is DEFINED for unsigned dtypes;
(iii) an integer-valued accumulator inside the range is stored unchanged. -/
theorem C06_cast_in_range {α : Type} [Field α] [LinearOrder α] [IsStrictOrderedRing α] [FloorRing α]
    (lo hi1 : ℤ) (x : α) :
    (castIntG (floorA (α := α)) ceilA 0 (lo : α) (hi1 : α) x =
      if lo ≤ truncZ x ∧ truncZ x < hi1 then some ((truncZ x : ℤ) : α) else none) ∧
    (0 ≤ x → 0 ≤ truncZ x ∧ ((truncZ x : ℤ) : α) ≤ x ∧ x < (truncZ x : α) + 1) ∧
    (x < 0 → truncZ x ≤ 0 ∧ x ≤ ((truncZ x : ℤ) : α) ∧ (truncZ x : α) - 1 < x) ∧
    (∀ n : ℤ, lo ≤ n → n < hi1 →
      castIntG (floorA (α := α)) ceilA 0 (lo : α) (hi1 : α) ((n : ℤ) : α) = some ((n : ℤ) : α)) := by
  refine ⟨castIntG_eq lo hi1 x, truncZ_nonneg x, truncZ_neg x, fun n h1 h2 => ?_⟩
  rw [castIntG_eq, truncZ_of_int, if_pos ⟨h1, h2⟩]

/-- **C06-T6a (the `Float` run is that definition).** For each of the eight integer dtype names the driver's `castTo`
is `truncG Float.floor Float.ceil 0`, and wherever `castDefined` says the conversion is defined the value the driver
prints is the value of `castIntG Float.floor Float.ceil 0 lo hi1` with `(lo, hi1) = dtBounds dt` (`hi1 = max + 1`, a power
of two, exactly representable). `f64`, `f32` and `b1` have no bounds: their conversions are defined for every double. -/
theorem C06_cast_float_tie (dt : String) (x lo hi1 : Float) (hb : dtBounds dt = some (lo, hi1)) :
    castTo dt x = truncG Float.floor Float.ceil 0 x ∧
    (castDefined dt x = true → castIntG Float.floor Float.ceil 0 lo hi1 x = some (castTo dt x)) ∧
    dtBounds "f64" = none ∧ dtBounds "f32" = none ∧ dtBounds "b1" = none :=
  ⟨castTo_int dt x (by rw [hb]; rfl), castDefined_some dt x lo hi1 hb, rfl, rfl, rfl⟩

/-- non-vacuity over ℚ: `−1/2 ↦ 0` is defined for `uint8`, `−3/2` and `256` are not, `511/2 ↦ 255`, and `int8` keeps `−128` -/
example :
    castIntG (floorA (α := ℚ)) ceilA 0 ((0 : ℤ) : ℚ) ((256 : ℤ) : ℚ) (-1 / 2) = some 0 ∧
    castIntG (floorA (α := ℚ)) ceilA 0 ((0 : ℤ) : ℚ) ((256 : ℤ) : ℚ) (-3 / 2) = none ∧
    castIntG (floorA (α := ℚ)) ceilA 0 ((0 : ℤ) : ℚ) ((256 : ℤ) : ℚ) 256 = none ∧
    castIntG (floorA (α := ℚ)) ceilA 0 ((0 : ℤ) : ℚ) ((256 : ℤ) : ℚ) (511 / 2) = some 255 ∧
    castIntG (floorA (α := ℚ)) ceilA 0 ((-128 : ℤ) : ℚ) ((128 : ℤ) : ℚ) (-128) = some (-128) := by
  decide +kernel

/-- **C06 (`edge.sobel`: the tables and the calls, regenerated from `edge.py`).** Both filters are 3×3 with divisor 8; the
numerators of each sum to 0; the vertical filter weighs the rows `(−1, 0, +1)` by `(1, 2, 1)` and the horizontal one the
columns; `sobel` convolves with each of them once, in `nearest` mode. -/
theorem C06_sobel_tables :
    Generated.vsobelShape = [3, 3] ∧ Generated.hsobelShape = [3, 3] ∧
    Generated.vsobelDiv = 8 ∧ Generated.hsobelDiv = 8 ∧
    Generated.vsobelNum = [-1, -2, -1, 0, 0, 0, 1, 2, 1] ∧ Generated.hsobelNum = [-1, 0, 1, -2, 0, 2, -1, 0, 1] ∧
    Generated.vsobelNum.sum = 0 ∧ Generated.hsobelNum.sum = 0 ∧
    Generated.sobelCalls = [("_hsobel_filter", "nearest"), ("_vsobel_filter", "nearest")] := by
  decide +kernel

/-- **C06 (`sobel` on constants and ramps, exact arithmetic).** Over any field in which `8 ≠ 0`, for a 2-D image `f` of
shape `N0 × N1` and the generic kernel with the Sobel weights of `edge.py` in `nearest` mode (`sobelLinearG` is the list
of these accumulators over all pixels):
(i) on a constant image both responses are 0 at every pixel, border included;
(ii) on an affine image `f[y, x] = a·y + b·x + c` the vertical response is exactly the slope `a` along axis 0 and the
horizontal response exactly the slope `b` along axis 1 at every interior pixel (`1 ≤ y ≤ N0 − 2`, `1 ≤ x ≤ N1 − 2`):
the divisor 8 normalises the kernels to unit gain, and the orientation is "+ towards increasing index" (the kernel is
applied as a correlation, `f[p + j − c]`). So `sobel(just_filter=True)` of such a ramp is `a² + b²` in the interior. -/
theorem C06_sobel_constant_and_ramp {K : Type} [Field K] (h8 : (8 : K) ≠ 0) (isZero : K → Bool)
    (hz : ∀ x, isZero x = true → x = 0) (f : Img K) (N0 N1 : Nat) (hf : f.shape = [N0, N1]) :
    (∀ c, (∀ q, inside f.shape q = true → f.getD q 0 = c) → ∀ p, inside f.shape p = true →
      convAcc .nearest f (support isZero Generated.vsobelShape
        (sobelWeightsG (Int.cast : Int → K) Generated.vsobelNum Generated.vsobelDiv)) p = 0 ∧
      convAcc .nearest f (support isZero Generated.hsobelShape
        (sobelWeightsG (Int.cast : Int → K) Generated.hsobelNum Generated.hsobelDiv)) p = 0) ∧
    (∀ a b c : K, (∀ y x : Int, 0 ≤ y → y < N0 → 0 ≤ x → x < N1 → f.getD [y, x] 0 = a * (y : K) + b * (x : K) + c) →
      ∀ y x : Int, 1 ≤ y → y + 1 < N0 → 1 ≤ x → x + 1 < N1 →
      convAcc .nearest f (support isZero Generated.vsobelShape
        (sobelWeightsG (Int.cast : Int → K) Generated.vsobelNum Generated.vsobelDiv)) [y, x] = a ∧
      convAcc .nearest f (support isZero Generated.hsobelShape
        (sobelWeightsG (Int.cast : Int → K) Generated.hsobelNum Generated.hsobelDiv)) [y, x] = b) := by
  have hv : sobelWeightsG (Int.cast : Int → K) Generated.vsobelNum Generated.vsobelDiv =
      #[(-1 : K) / 8, -2 / 8, -1 / 8, 0 / 8, 0 / 8, 0 / 8, 1 / 8, 2 / 8, 1 / 8] := by
    simp [sobelWeightsG, Generated.vsobelNum, Generated.vsobelDiv]
  have hh : sobelWeightsG (Int.cast : Int → K) Generated.hsobelNum Generated.hsobelDiv =
      #[(-1 : K) / 8, 0 / 8, 1 / 8, -2 / 8, 0 / 8, 2 / 8, -1 / 8, 0 / 8, 1 / 8] := by
    simp [sobelWeightsG, Generated.hsobelNum, Generated.hsobelDiv]
  have hshape : Generated.vsobelShape = [3, 3] ∧ Generated.hsobelShape = [3, 3] := ⟨rfl, rfl⟩
  rw [hv, hh, hshape.1, hshape.2]
  refine ⟨fun c hc p hp => ?_, fun a b c hf' y x hy0 hy1 hx0 hx1 => ?_⟩
  · have hl : [3, 3].length = f.shape.length := by rw [hf]; rfl
    rw [convAcc_const isZero hz .nearest ⟨by decide, by decide⟩ f c hc [3, 3] _ p hp hl rfl,
      convAcc_const isZero hz .nearest ⟨by decide, by decide⟩ f c hc [3, 3] _ p hp hl rfl]
    simp only [List.sum_cons, List.sum_nil]
    constructor
    · ring
    · ring
  · have hs : ∀ d ∈ f.shape, 0 < d := hf ▸ interior_dims_pos N0 N1 y x hy0 hy1 hx0 hx1
    simp only [C06_convolve_eq_spec isZero hz .nearest f hs,
      convSpec33_affine .nearest f N0 N1 hf _ _ _ _ _ _ _ _ _ a b c hf' y x hy0 hy1 hx0 hx1]
    constructor
    · calc _ = a * ((8 : K)⁻¹ * 8) := by ring
        _ = a := by rw [inv_mul_cancel₀ h8, mul_one]
    · calc _ = b * ((8 : K)⁻¹ * 8) := by ring
        _ = b := by rw [inv_mul_cancel₀ h8, mul_one]

/-- non-vacuity of the Sobel theorem over ℚ: the ramp `f[y, x] = 2y + x` on 3×4 — interior pixels `(1,1)`, `(1,2)` get
exactly `(2, 1)` (border pixels do not: the `nearest` extension flattens the ramp), `just_filter` output `2² + 1² = 5`
there; a constant image gives 0 everywhere; the hypotheses of the theorem hold for this image. -/
example :
    sobelLinearG (fun x => x == 0) (Int.cast : Int → ℚ) (⟨[3, 4], #[0, 1, 2, 3, 2, 3, 4, 5, 4, 5, 6, 7]⟩ : Img ℚ) =
      ([1, 1, 1, 1, 2, 2, 2, 2, 1, 1, 1, 1], [1 / 2, 1, 1, 1 / 2, 1 / 2, 1, 1, 1 / 2, 1 / 2, 1, 1, 1 / 2]) ∧
    sobelFilteredG (fun x => x == 0) (Int.cast : Int → ℚ) (⟨[3, 4], #[0, 1, 2, 3, 2, 3, 4, 5, 4, 5, 6, 7]⟩ : Img ℚ) =
      [5 / 4, 2, 2, 5 / 4, 17 / 4, 5, 5, 17 / 4, 5 / 4, 2, 2, 5 / 4] ∧
    sobelLinearG (fun x => x == 0) (Int.cast : Int → ℚ) (⟨[2, 2], #[5, 5, 5, 5]⟩ : Img ℚ) = ([0, 0, 0, 0], [0, 0, 0, 0]) := by
  decide +kernel
example : convAcc .nearest (⟨[3, 4], #[0, 1, 2, 3, 2, 3, 4, 5, 4, 5, 6, 7]⟩ : Img ℚ)
    (support (fun x => x == 0) Generated.vsobelShape
      (sobelWeightsG (Int.cast : Int → ℚ) Generated.vsobelNum Generated.vsobelDiv)) [1, 2] = 2 :=
  ((C06_sobel_constant_and_ramp (K := ℚ) (by norm_num) (fun x => x == 0) (fun x h => by simpa using h)
    ⟨[3, 4], #[0, 1, 2, 3, 2, 3, 4, 5, 4, 5, 6, 7]⟩ 3 4 rfl).2 2 1 0
    (by
      intro y x hy0 hy1 hx0 hx1
      have hy : y = 0 ∨ y = 1 ∨ y = 2 := by omega
      have hx : x = 0 ∨ x = 1 ∨ x = 2 ∨ x = 3 := by omega
      rcases hy with rfl | rfl | rfl <;> rcases hx with rfl | rfl | rfl | rfl <;> decide +kernel)
    1 2 (by decide) (by decide) (by decide) (by decide)).1

/-- **C06 (`edge.dog` and `laplacian_2D` on constants, exact arithmetic).** `dogG` is `G2 − G1` element by element with
`G_i = gaussian_filter(img, σ_i, mode='nearest')` (definitional). On a constant image of any rank, for ANY two families of
order-0 Gaussian weights (any two `σ`, truncation radii and even positive sampled functions per axis), both smoothed images
equal the constant at every pixel, so their difference — the DoG response before the zero-crossing search — is 0
everywhere; no zero crossing can be reported on a flat image. (In `Float` the two smoothings differ by round-off of
order 1e-16·|c|; the correspondence run compares `dog(just_filter=True)` with the model within 1e-11.) -/
theorem C06_dog_constant {K : Type} [Field K] [LinearOrder K] [IsStrictOrderedRing K]
    (isZero : K → Bool) (hz : ∀ x, isZero x = true → x = 0) (f : Img K) (c : K)
    (hc : ∀ q, inside f.shape q = true → f.getD q 0 = c)
    (e1 e2 : Nat → K → K) (s1 s2 : Nat → K) (lw1 lw2 : Nat → Nat)
    (he1 : ∀ ax x, e1 ax (-x) = e1 ax x) (hp1 : ∀ ax x, 0 < e1 ax x)
    (he2 : ∀ ax x, e2 ax (-x) = e2 ax x) (hp2 : ∀ ax x, 0 < e2 ax x) :
    (∀ w1 w2 : Nat → Array K, dogG isZero f w1 w2 =
      List.zipWith (fun g2 g1 => g2 - g1) (gaussianFilterG id isZero .nearest f w2).data.toList
        (gaussianFilterG id isZero .nearest f w1).data.toList) ∧
    ∀ q, inside f.shape q = true →
      (gaussianFilterG id isZero .nearest f fun ax => gaussWeightsG (Nat.cast : Nat → K) (e2 ax) (s2 ax) (lw2 ax) 0).getD q 0 -
      (gaussianFilterG id isZero .nearest f fun ax => gaussWeightsG (Nat.cast : Nat → K) (e1 ax) (s1 ax) (lw1 ax) 0).getD q 0
        = 0 := by
  refine ⟨fun _ _ => rfl, fun q hq => ?_⟩
  have h := (C06_gaussian_filter_constant isZero hz .nearest ⟨by decide, by decide⟩ f c hc).2
  rw [((h e2 s2 lw2 (fun _ => 0) he2 hp2 q hq).1 (fun _ _ => rfl)),
    ((h e1 s1 lw1 (fun _ => 0) he1 hp1 q hq).1 (fun _ _ => rfl)), sub_self]

/-- **C06 (`gaussian_filter` with scalar / sequence `sigma` and `order`).** `normalizeSeq` is `_normalize_sequence`: a scalar
stands for the same value on every axis, a sequence (list or tuple) must have exactly one entry per axis and is then used as
it is, any other length is the `ValueError`. Hence `gaussianFilterPy` — `gaussian_filter` from its Python arguments —
is the fold of `C06_gaussian_filter_is_fold` with the weights `gaussWeights sigmas[axis] orders[axis]` on axis `axis`
(per-axis sigmas AND per-axis orders), it raises exactly when one of the two sequences has the wrong length, and with two
scalars every axis uses the same weights `gaussWeights sigma order`. -/
theorem C06_gaussian_filter_tuple (dt : String) (m : Mode) (f : Img Float) :
    (∀ {α : Type} (ndim : Nat) (v : α), normalizeSeq ndim (.scalar v) = some (List.replicate ndim v)) ∧
    (∀ {α : Type} (ndim : Nat) (vs : List α), normalizeSeq ndim (.seq vs) = if vs.length = ndim then some vs else none) ∧
    (∀ (ss : List Float) (os : List Nat), ss.length = f.shape.length → os.length = f.shape.length →
      gaussianFilterPy dt m f (.seq ss) (.seq os) = some (gaussianFilterModel dt m f true ss os) ∧
      gaussianFilterModel dt m f true ss os =
        ((List.range f.shape.length).foldl (fun cur ax => gaussianPass (castTo dt) fIsZero m cur ax
          ((gaussWeights (ss.getD ax 1.0) (os.getD ax 0)).map (castTo dt))) f).data.toList) ∧
    (∀ (ss : List Float) (os : List Nat), ss.length ≠ f.shape.length ∨ os.length ≠ f.shape.length →
      gaussianFilterPy dt m f (.seq ss) (.seq os) = none) ∧
    (∀ (sigma : Float) (order : Nat),
      gaussianFilterPy dt m f (.scalar sigma) (.scalar order) =
        some (gaussianFilterModel dt m f true (List.replicate f.shape.length sigma) (List.replicate f.shape.length order)) ∧
      ∀ ax, ax < f.shape.length → (List.replicate f.shape.length sigma).getD ax 1.0 = sigma ∧
        (List.replicate f.shape.length order).getD ax 0 = order) := by
  refine ⟨fun _ _ => rfl, fun _ _ => rfl, fun ss os hs ho => ⟨?_, rfl⟩, fun ss os h => ?_, fun sigma order => ⟨rfl, fun ax hax => ?_⟩⟩
  · simp only [gaussianFilterPy, normalizeSeq, hs, ho, if_true]
  · simp only [gaussianFilterPy, normalizeSeq]
    rcases h with h | h
    · by_cases ho : os.length = f.shape.length <;> simp [h, ho]
    · simp [h]
  · simp [List.getD_eq_getElem?_getD, hax]

/-- non-vacuity: the three argument forms on a rank-2 array -/
example : normalizeSeq 2 (.scalar (3 : Nat)) = some [3, 3] ∧ normalizeSeq 2 (.seq [1, 0]) = some [1, 0] ∧
    normalizeSeq 2 (.seq [(1 : Nat)]) = none ∧ normalizeSeq (α := Nat) 0 (.seq []) = some [] := by decide +kernel

/-- **C06-T5b (`laplacian_2D` is exact on quadratics).** `laplacian_2D(array, alpha)` is `convolve(array as double,
laplacianWeightsG alpha, mode='nearest')` (the driver's `kind=laplacian`). Over any field, for every `alpha` with
`alpha + 1 ≠ 0` and every 2-D image that is a quadratic polynomial of the pixel coordinates,
`f[y, x] = a·y² + b·x² + c·x·y + d·y + e·x + g`, the generic kernel with these nine weights returns at every interior
pixel exactly `2a + 2b` — the true Laplacian `f_yy + f_xx`, independently of `alpha` (the diagonal and axial second
differences are mixed with weights that always add up to one) — in particular 0 on every affine image. -/
theorem C06_laplacian_quadratic {K : Type} [Field K] (alpha : K) (ha : alpha + 1 ≠ 0) (isZero : K → Bool)
    (hz : ∀ x, isZero x = true → x = 0) (f : Img K) (N0 N1 : Nat) (hf : f.shape = [N0, N1])
    (a b c d e g : K)
    (hq : ∀ y x : Int, 0 ≤ y → y < N0 → 0 ≤ x → x < N1 →
      f.getD [y, x] 0 = a * (y : K) * (y : K) + b * (x : K) * (x : K) + c * (x : K) * (y : K) + d * (y : K) + e * (x : K) + g)
    (y x : Int) (hy0 : 1 ≤ y) (hy1 : y + 1 < N0) (hx0 : 1 ≤ x) (hx1 : x + 1 < N1) :
    convAcc .nearest f (support isZero [3, 3] (laplacianWeightsG (Nat.cast : Nat → K) alpha)) [y, x] = 2 * a + 2 * b := by
  rw [C06_convolve_eq_spec isZero hz .nearest f (hf ▸ interior_dims_pos N0 N1 y x hy0 hy1 hx0 hx1)]
  simp only [laplacianWeightsG]
  rw [convSpec33_quadratic .nearest f N0 N1 hf _ _ _ _ _ _ _ _ _ a b c d e g hq y x hy0 hy1 hx0 hx1]
  simp only [Nat.cast_one, Nat.cast_ofNat]
  calc _ = (2 * a + 2 * b) * ((alpha + 1)⁻¹ * (alpha + 1)) := by ring
    _ = 2 * a + 2 * b := by rw [inv_mul_cancel₀ ha, mul_one]

/-- non-vacuity over ℚ: `f[y, x] = y² + 2x²` on 3×3, `alpha = 1/5` (the default): the centre pixel gets `2·1 + 2·2 = 6`;
the affine image `2y + x` gets 0 there. -/
example :
    convAcc .nearest (⟨[3, 3], #[0, 2, 8, 1, 3, 9, 4, 6, 12]⟩ : Img ℚ)
      (support (fun x => x == 0) [3, 3] (laplacianWeightsG (Nat.cast : Nat → ℚ) (1 / 5))) [1, 1] = 6 ∧
    convAcc .nearest (⟨[3, 3], #[0, 1, 2, 2, 3, 4, 4, 5, 6]⟩ : Img ℚ)
      (support (fun x => x == 0) [3, 3] (laplacianWeightsG (Nat.cast : Nat → ℚ) (1 / 5))) [1, 1] = 0 := by
  decide +kernel
