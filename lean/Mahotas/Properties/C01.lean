/-
C01 — property theorems (the general lemmas they rest on live in `Proofs/`), and the predicates
`OffsetsInBox`, `Reaches` their statements use (`AdmissibleElem`, `ImageInRange`, `DTypeOK` are in `Proofs/C01.lean`).
-/
import Mahotas.Proofs.C01
import Mahotas.Proofs.C01Scatter
import Mahotas.Proofs.C01Star
import Mahotas.Proofs.C01Fast
import Mahotas.Proofs.C01Loops
import Mahotas.Proofs.C01Tables
import Mahotas.Proofs.C01Dispatch
import Mahotas.Generated.Tables
import Mahotas.Proofs.C01Signed
namespace Mahotas.C01
open Mahotas

/-- every offset of the support is an offset `k − c` of the element box `bshape`
    (true of every `support bshape bc compress`, see `C01_support_offsets_in_box`) -/
def OffsetsInBox (bshape : List Nat) (sup : List (List Int × Int)) : Prop :=
  ∀ kh ∈ sup, kh.1 ∈ boxOffsets bshape

/-- `(p, kh)` is a scatter pair for pixel `q`: source pixel `p` of the image, not the dtype minimum,
    member entry `kh` of the support, and the clamped target `clamp(p + k)` is `q` -/
def Reaches (dt : DT) (A : Img Int) (sup : List (List Int × Int)) (q p : List Int)
    (kh : List Int × Int) : Prop :=
  inside A.shape p = true ∧ kh ∈ sup ∧ A.getD p dt.lo ≠ dt.lo ∧ clampPos A.shape (addPos p kh.1) = q

/-- an image whose stored values are all in range is in range (`0` must be representable) -/
theorem imageInRange_of_data (dt : DT) (A : Img Int) (h0 : dt.InRange 0)
    (h : ∀ x ∈ A.data.toList, dt.InRange x) : ImageInRange dt A := by
  intro q
  unfold Img.getD
  split
  · rw [Array.getD_eq_getD_getElem?]
    cases hx : A.data[ravelI A.shape q]? with
    | none => exact h0
    | some x =>
      apply h
      have := Array.mem_of_getElem? hx
      simpa using this
  · exact h0

end Mahotas.C01

open Mahotas Mahotas.C01

/-- **C01-T1 (erosion, all pixels).** The model of the generic `erode` kernel — running minimum over the
filter offsets, neighbour read through `fix_offset(ExtendNearest)`, `erode_sub` with two's-complement
wrap-around — equals the lattice definition: the minimum over the members of the element of
`clamp(A[clamp(p+k)] − h)`; the empty minimum is the dtype maximum. An admissible element may be flat or
not and of any shape (odd, even, empty, larger than the image). -/
theorem C01_erode_eq_spec (dt : DT) (wf : dt.WF) (A : Img Int) (sup : List (List Int × Int))
    (p : List Int) (hs : ∀ d ∈ A.shape, 0 < d) (hA : ImageInRange dt A) (hB : AdmissibleElem dt sup) :
    erodeAt dt A sup p = erodeSpecAt dt A sup p :=
  erodeAt_eq_spec dt (Or.inl wf) A sup p hs hA hB

/-- **C01-T1 (boolean erosion = AND over the support).** -/
theorem C01_erode_bool_eq_spec (A : Img Int) (sup : List (List Int × Int)) (p : List Int)
    (hs : ∀ d ∈ A.shape, 0 < d) (hA : ∀ q, A.getD q 0 = 0 ∨ A.getD q 0 = 1)
    (hB : ∀ kh ∈ sup, kh.2 = 1) :
    erodeAt dtBool A sup p = erodeSpecAt dtBool A sup p :=
  erodeAt_eq_spec dtBool (Or.inr rfl) A sup p hs ((image01_iff A).mpr hA) (admissible_of_ones sup hB)

/-- **C01-T1 (the inner loop as written, whole array).** `erodeAtExit` is the inner loop of `erode<T>` with its
early exit (`if (value == min) break;`); `erodeModel` — the array the driver prints and the harness
compares with the real generic kernel — applies it at every pixel in scan order. The early exit never
changes the value, and the whole output array is the lattice definition at every pixel (empty element
included: the `if (!N2)` branch fills the dtype maximum). -/
theorem C01_erode_model_eq_spec (dt : DT) (hdt : dt.WF ∨ dt = dtBool) (A : Img Int)
    (sup : List (List Int × Int)) (hs : ∀ d ∈ A.shape, 0 < d) (hA : ImageInRange dt A)
    (hB : AdmissibleElem dt sup) :
    (∀ p, erodeAtExit dt A sup p = erodeAt dt A sup p) ∧
    erodeModel dt A sup = ((allPos A.shape).map (erodeSpecAt dt A sup)).toArray :=
  ⟨fun p => erodeAtExit_eq dt hdt A sup p hs hA hB, erodeModel_eq_spec dt hdt A sup hA hB⟩

/-- `erode_sub` / `dilate_add` of the kernels (F10, `Proofs/DType.lean`) on in-range operands with a height `0 ≤ b`:
    the clamped difference / sum, except that the dtype minimum as a height means "not a member" (erosion gives `hi`)
    and is absorbing for the addition (`dilate_add(lo, h) = dilate_add(a, lo) = lo`, also for unsigned dtypes). -/
theorem C01_saturating_arith (dt : DT) (wf : dt.WF) (a b : Int) (ha : dt.InRange a)
    (hb : dt.InRange b) (hb0 : 0 ≤ b) :
    erodeSub dt a b = (if b = dt.lo then dt.hi else dt.clamp (a - b)) ∧
    dilateAdd dt a b = (if a = dt.lo ∨ b = dt.lo then dt.lo else dt.clamp (a + b)) :=
  ⟨erodeSub_spec dt wf a b ha hb hb0, dilateAdd_spec dt wf a b ha hb hb0⟩

/-- the neighbour a kernel reads for an out-of-image coordinate is the edge-replicated one, and `fix_offset`
    never yields an index outside the axis in any mode (F1, F5 of `Proofs/Border.lean`). -/
theorem C01_border_is_edge_replication (cc len : Int) (h : 0 < len) :
    fixOffset .nearest cc len = some (max 0 (min cc (len - 1))) ∧
    ∀ m r, fixOffset m cc len = some r → 0 ≤ r ∧ r < len :=
  ⟨fixOffset_nearest cc len h, fun m r => fixOffset_range m cc len h r⟩

/-- every offset produced by `support` (the list the driver feeds to the kernels) lies in the element box
    and has the rank of the element. -/
theorem C01_support_offsets_in_box (bshape : List Nat) (bc : Array Int) (compress : Bool) :
    OffsetsInBox bshape (support bshape bc compress) ∧
    ∀ kh ∈ support bshape bc compress, kh.1.length = bshape.length :=
  ⟨fun kh h => support_mem_boxOffsets bshape bc compress kh h,
   fun kh h => boxOffsets_length bshape kh.1 (support_mem_boxOffsets bshape bc compress kh h)⟩

/-- **C01-T3 (the scatter kernel is a pointwise maximum).** The model of the generic `dilate` kernel
walks over the pixels in scan order and, for every pixel `p` that is not the dtype minimum and every
entry `(k, h)` of the element, raises the output cell `clamp(p + k)` to `dilate_add(A p, h)` if that is
larger (a fold over an array). The value `v` left in cell `i` is the maximum of the dtype minimum and of `dilate_add(A p, h)` over all scatter
pairs `(p, (k, h))` for the pixel with index `i` — stated without reference to any order: `v` is an upper bound of `lo`
and of all those values, and it is `lo` or one of them. The output has as many cells as the image. -/
theorem C01_dilate_scatter_characterisation (dt : DT) (A : Img Int) (sup : List (List Int × Int))
    (hs : ∀ d ∈ A.shape, 0 < d) (hlen : ∀ kh ∈ sup, kh.1.length = A.shape.length)
    (i : Nat) (hi : i < A.size) :
    let v := (dilateModel dt A sup).getD i dt.lo
    let q := unravelI A.shape i
    (dilateModel dt A sup).size = A.size ∧ dt.lo ≤ v ∧
    (∀ p kh, Reaches dt A sup q p kh → dilateAdd dt (A.getD p dt.lo) kh.2 ≤ v) ∧
    (v = dt.lo ∨ ∃ p kh, Reaches dt A sup q p kh ∧ v = dilateAdd dt (A.getD p dt.lo) kh.2) := by
  intro v q
  have hq : inside A.shape q = true := C01.inside_unravelI A.shape i hi
  have hm := mem_scatCands_at dt A sup q hq hlen
  rw [C01.ravelI_unravelI A.shape i hi] at hm
  have hv : v = listMax dt.lo (scatCands dt A sup i) := dilateModel_getD dt A sup i hi
  refine ⟨dilateModel_size dt A sup, hv ▸ le_listMax_init _ _,
    fun p kh h => hv ▸ le_listMax_of_mem _ _ _ ((hm _).mpr ⟨p, kh, h, rfl⟩), ?_⟩
  rcases listMax_mem dt.lo (scatCands dt A sup i) with h | h
  · exact Or.inl (hv.trans h)
  · obtain ⟨p, kh, hr, hx⟩ := (hm _).mp h
    exact Or.inr ⟨p, kh, hr, hv.trans hx⟩

/-- **C01-T3b (dilation at pixels whose neighbourhood lies inside the image).** At every pixel `q` for which
the element box placed at `q` and its reflection both lie inside the image (`boxInterior`), the cell of `q`
in the model of the generic `dilate` kernel (scatter with clamp) equals the lattice definition
(gather): the maximum over the members of the element of `saturate(A[q − k] + h)`, the dtype minimum being
absorbing. The element may be flat or not, regular or not, odd or even sized. -/
theorem C01_dilate_eq_spec_boxInterior (dt : DT) (hdt : DTypeOK dt) (A : Img Int) (bshape : List Nat)
    (sup : List (List Int × Int)) (q : List Int)
    (hs : ∀ d ∈ A.shape, 0 < d) (hl : bshape.length = A.shape.length) (hbox : OffsetsInBox bshape sup)
    (hA : ImageInRange dt A) (hB : AdmissibleElem dt sup)
    (hq : inside A.shape q = true) (hb : boxInterior A.shape bshape q = true) :
    (dilateModel dt A sup).getD (ravelI A.shape q) dt.lo = dilateSpecAt dt A sup q := by
  apply scatter_eq_gather_at dt A sup q hq
  · intro kh hkh; rw [boxOffsets_length bshape kh.1 (hbox kh hkh), hl]
  · exact valOK_of dt hdt A sup hA hB
  · intro p kh hp hkh hm ht
    exact ⟨kh, hkh, hm, Int.le_refl _, boxInterior_scatter A.shape bshape q p kh.1 hl hb hp hq (hbox kh hkh) ht⟩
  · intro kh hkh hm
    exact ⟨kh, hkh, hm, Int.le_refl _, boxInterior_gather A.shape bshape q kh.1 hl hb hq (hbox kh hkh)⟩

/-- **C01-T4 (regular elements: dilation at every pixel).** If the members of the element form a
coordinate-wise star-shaped set (with `k` every offset between `0` and `k` is a member — the executable
test `starShaped` of the driver; centred crosses, boxes and disks pass it, see `C01_se_tables`) and
all members have the same height (`flatHeights`), then at **every** pixel `q` of the image — border pixels
included, where the kernel's scatter is clamped — the model of the generic `dilate` kernel equals the
lattice definition (gather with clamp). -/
theorem C01_dilate_regular_everywhere (dt : DT) (hdt : DTypeOK dt) (A : Img Int) (bshape : List Nat)
    (sup : List (List Int × Int)) (q : List Int)
    (hs : ∀ d ∈ A.shape, 0 < d) (hl : bshape.length = A.shape.length) (hbox : OffsetsInBox bshape sup)
    (hA : ImageInRange dt A) (hB : AdmissibleElem dt sup)
    (hstar : starShaped bshape ((sup.filter (isMember dt)).map (·.1)) = true)
    (hflat : flatHeights ((sup.filter (isMember dt)).map (·.2)) = true)
    (hq : inside A.shape q = true) :
    (dilateModel dt A sup).getD (ravelI A.shape q) dt.lo = dilateSpecAt dt A sup q :=
  dilate_heightMonotone_everywhere dt A sup q
    (fun kh hkh => by rw [boxOffsets_length bshape kh.1 (hbox kh hkh), hl])
    (valOK_of dt hdt A sup hA hB) (heightMonotone_of_flat_star dt bshape sup hbox hstar hflat) hq

/-- **C01-T3b/T4 combined.** Where `starShaped … && flatHeights … || boxInterior …` evaluates to true on the
members of the support, the model of the generic `dilate` kernel equals the lattice definition. The driver's
*observed* test (`C01.handle`) has `starMonotone` as a further alternative: `C01_dilate_eq_spec_where_observed_r4`. -/
theorem C01_dilate_eq_spec_where_observed (dt : DT) (hdt : DTypeOK dt) (A : Img Int) (bshape : List Nat)
    (sup : List (List Int × Int)) (q : List Int)
    (hs : ∀ d ∈ A.shape, 0 < d) (hl : bshape.length = A.shape.length) (hbox : OffsetsInBox bshape sup)
    (hA : ImageInRange dt A) (hB : AdmissibleElem dt sup) (hq : inside A.shape q = true)
    (hobs : (starShaped bshape ((sup.filter (isMember dt)).map (·.1)) &&
             flatHeights ((sup.filter (isMember dt)).map (·.2)) ||
             boxInterior A.shape bshape q) = true) :
    (dilateModel dt A sup).getD (ravelI A.shape q) dt.lo = dilateSpecAt dt A sup q := by
  rw [Bool.or_eq_true, Bool.and_eq_true] at hobs
  rcases hobs with ⟨hstar, hflat⟩ | hb
  · exact C01_dilate_regular_everywhere dt hdt A bshape sup q hs hl hbox hA hB hstar hflat hq
  · exact C01_dilate_eq_spec_boxInterior dt hdt A bshape sup q hs hl hbox hA hB hq hb

/-- **C01-T2 (2-D boolean fast path, erosion).** For every 2-D structuring element given as an array of
`By·Bx` entries (odd or even sized, empty, larger than the image, with or without its centre) the pointwise model
of the erosion branch of `fast_binary_dilate_erode_2d` — centre handled separately (copy of the input or
all-true), offset list with `dx` clamped to `±Nx`, AND of the reads clamped to the image — equals the lattice
definition `erodeSpecAt` over the compressed support the generic kernel uses; hence (second part) it
equals the model of the generic `erode` kernel: which code path serves the call does not change the
answer. -/
theorem C01_fast_erode_eq_spec (A : Img Int) (Ny Nx By Bx : Nat) (bc : Array Int) (y x : Int)
    (hshape : A.shape = [Ny, Nx]) (hA : ∀ q, A.getD q 0 = 0 ∨ A.getD q 0 = 1)
    (hbc : bc.size = By * Bx) (hp : inside A.shape [y, x] = true) :
    fastErodeAt A [By, Bx] bc [y, x] = erodeSpecAt dtBool A (support [By, Bx] bc true) [y, x] ∧
    ((∀ i, bc.getD i 0 = 0 ∨ bc.getD i 0 = 1) →
      fastErodeAt A [By, Bx] bc [y, x] = erodeAt dtBool A (support [By, Bx] bc true) [y, x]) := by
  obtain ⟨shape, data⟩ := A
  simp only at hshape
  subst hshape
  obtain ⟨_, _, e, hy, hx⟩ := inside2 Ny Nx _ hp
  simp only [List.cons.injEq, and_true] at e
  obtain ⟨rfl, rfl⟩ := e
  have h1 := fastErodeAt_eq_spec Ny Nx data By Bx bc y x hA hbc hy hx
  refine ⟨h1, fun hbc01 => ?_⟩
  rw [h1]
  symm
  exact C01_erode_bool_eq_spec _ _ _ (inside_dims_pos _ _ hp) hA (support_ones _ bc hbc01)

/-- **C01-T2, row loops (the erosion branch as written).** `fastErodeLoops` transliterates the erosion branch
of `fast_binary_dilate_erode_2d` loop by loop: the output is initialised with a copy of the input (centre
set) or all-true; for every row `y` and every offset `(dy, dx)` of the list, `dy` is adjusted so that
`y + dy` stays inside, a border loop of `|dx|` iterations ANDs the replicated edge pixel of the input row
into the far columns and the main loop of `Nx − |dx|` iterations ANDs the shifted input row into the
output row (flat 0/1 array, pointer arithmetic as index arithmetic). For every element (any shape, including
non-2-D shapes for which the offset list is empty) the cell the loops leave is the pointwise form `fastErodeAt` — so by `C01_fast_erode_eq_spec` the loops compute the
lattice definition. The loop bounds `dx` (not `dx − 1`) and the clamping of `dx` to `±Nx` are what make
this true; the driver prints `fastErodeLoops` and the harness compares it with the real fast path. -/
theorem C01_fast_erode_loops_eq_pointwise (A : Img Int) (Ny Nx : Nat) (bshape : List Nat) (bc : Array Int)
    (y x : Int) (hshape : A.shape = [Ny, Nx]) (hdata : A.data.size = A.size)
    (hA : ∀ q, A.getD q 0 = 0 ∨ A.getD q 0 = 1) (hp : inside A.shape [y, x] = true) :
    (fastErodeLoops A bshape bc).size = A.size ∧
    (fastErodeLoops A bshape bc).getD (ravelI A.shape [y, x]) 0 = fastErodeAt A bshape bc [y, x] ∧
    (∀ By Bx, bshape = [By, Bx] → bc.size = By * Bx →
      (fastErodeLoops A bshape bc).getD (ravelI A.shape [y, x]) 0 =
        erodeSpecAt dtBool A (support bshape bc true) [y, x]) := by
  obtain ⟨shape, data⟩ := A
  simp only at hshape
  subst hshape
  have h2 : (fastErodeLoops ⟨[Ny, Nx], data⟩ bshape bc).getD (ravelI [Ny, Nx] [y, x]) 0 =
      fastErodeAt ⟨[Ny, Nx], data⟩ bshape bc [y, x] := by
    rw [fastErodeLoops_eq Ny Nx data bshape bc hdata (data01_of_img [Ny, Nx] data hdata hA),
      getD_map_allPos _ _ _ 0 (C01.ravelI_lt _ _ hp), C01.unravelI_ravelI _ _ hp]
  refine ⟨fastErodeLoops_size Ny Nx data bshape bc hdata, h2, ?_⟩
  rintro By Bx rfl hbc
  rw [h2]
  exact (C01_fast_erode_eq_spec ⟨[Ny, Nx], data⟩ Ny Nx By Bx bc y x rfl hA hbc hp).1

/-- **C01-T5 (2-D boolean fast path, dilation = generic kernel).** For every 2-D boolean
image (empty ones included) and every 2-D structuring element (odd or even sized, empty, larger than the image, regular or not)
the model of the dilation branch of `fast_binary_dilate_erode_2d` (scatter with clamp, the
centre handled by the initial copy) produces the same array as the model of the generic `dilate` kernel
with the compressed support — at every pixel, border included. Together with T3b/T4 the fast path
therefore equals the lattice definition wherever the generic kernel does. -/
theorem C01_fast_dilate_eq_generic (A : Img Int) (Ny Nx By Bx : Nat) (bc : Array Int)
    (hshape : A.shape = [Ny, Nx]) (hdata : A.data.size = A.size)
    (hA : ∀ q, A.getD q 0 = 0 ∨ A.getD q 0 = 1) (hbc : bc.size = By * Bx) :
    fastDilate A [By, Bx] bc = dilateModel dtBool A (support [By, Bx] bc true) := by
  obtain ⟨shape, data⟩ := A
  simp only at hshape
  subst hshape
  exact fastDilate_eq Ny Nx data By Bx bc hdata hA hbc

/-- **C01-T4/T5 (both code paths equal the lattice definition).** For every 2-D boolean image and 0/1
element, the fast dilation branch equals the gather definition at every box-interior pixel, and at every
pixel when the element is star-shaped (cross, box, disk) — the same observables, with the same answer, as
the generic kernel. -/
theorem C01_fast_dilate_eq_spec (A : Img Int) (Ny Nx By Bx : Nat) (bc : Array Int) (q : List Int)
    (hshape : A.shape = [Ny, Nx]) (hdata : A.data.size = A.size)
    (hA : ∀ q, A.getD q 0 = 0 ∨ A.getD q 0 = 1) (hbc : bc.size = By * Bx)
    (hbc01 : ∀ i, bc.getD i 0 = 0 ∨ bc.getD i 0 = 1)
    (hq : inside A.shape q = true)
    (hobs : boxInterior A.shape [By, Bx] q = true ∨
      starShaped [By, Bx] ((support [By, Bx] bc true).map (·.1)) = true) :
    (fastDilate A [By, Bx] bc).getD (ravelI A.shape q) 0 =
      dilateSpecAt dtBool A (support [By, Bx] bc true) q := by
  rw [C01_fast_dilate_eq_generic A Ny Nx By Bx bc hshape hdata hA hbc]
  have hl : [By, Bx].length = A.shape.length := by rw [hshape]; rfl
  have hIR : ImageInRange dtBool A := (image01_iff A).mpr hA
  rcases hobs with hb | hstar
  · exact C01_dilate_eq_spec_boxInterior dtBool (Or.inr rfl) A [By, Bx] _ q (inside_dims_pos _ _ hq) hl
      (C01_support_offsets_in_box [By, Bx] bc true).1 hIR (admissible_of_ones _ (support_ones [By, Bx] bc hbc01)) hq hb
  · exact dilate_star01_everywhere dtBool (Or.inr rfl) A [By, Bx] bc q hIR hq hl (fun i _ => hbc01 i) hstar

/-- **C01-T6 (structuring-element tables).** In every dimension `d`:
`crossElem d r` (what `get_structuring_elem` builds for `None`/an integer, `r` the translated radius) has
as members exactly the offsets `k ∈ {−1,0,1}^d` with `‖k‖₁ ≤ r` (`l1N` = sum of absolute values), and
`diskElem d r` (`disk(r, d)`) exactly the offsets `k ∈ {−r..r}^d` with `|k|² < r²` (`sqN` = sum of squares).
All member entries are 1 (flat); both pass the driver's executable regularity test (`starShaped`,
`flatHeights`) that `C01_dilate_regular_everywhere` assumes; both are symmetric (`k` member ⇒ `−k` member);
the cross contains the centre for `r ≥ 0`, the disk for `r ≥ 1`; `disk(0)` is the empty element. -/
theorem C01_se_tables (d : Nat) :
    (∀ r : Int,
      let M := support (List.replicate d 3) (crossElem d r) true
      (∀ k, k ∈ M.map (·.1) ↔ (k.length = d ∧ ∀ x ∈ k, -1 ≤ x ∧ x ≤ 1) ∧ l1N k ≤ r) ∧
      (∀ kh ∈ M, kh.2 = 1) ∧
      starShaped (List.replicate d 3) (M.map (·.1)) = true ∧ flatHeights (M.map (·.2)) = true ∧
      (∀ k ∈ M.map (·.1), negPos k ∈ M.map (·.1)) ∧
      (0 ≤ r → List.replicate d 0 ∈ M.map (·.1))) ∧
    (∀ r : Nat,
      let M := support (List.replicate d (2 * r + 1)) (diskElem d r) true
      (∀ k, k ∈ M.map (·.1) ↔ (k.length = d ∧ ∀ x ∈ k, -(r : Int) ≤ x ∧ x ≤ r) ∧ sqN k < (r : Int) * r) ∧
      (∀ kh ∈ M, kh.2 = 1) ∧
      starShaped (List.replicate d (2 * r + 1)) (M.map (·.1)) = true ∧ flatHeights (M.map (·.2)) = true ∧
      (∀ k ∈ M.map (·.1), negPos k ∈ M.map (·.1)) ∧
      (1 ≤ r → List.replicate d 0 ∈ M.map (·.1)) ∧
      (r = 0 → M = [])) :=
  ⟨cross_props d, disk_props d⟩

/-- **C01-T4 + T6 (dilation at every pixel for a centred cross, box or disk).** For bool and every unsigned
integer dtype and the structuring element being `crossElem d r` (any radius), `diskElem d r` (any radius) or an
all-ones box of any shape (odd or even sized), the model of the generic `dilate` kernel, run on the support exactly as the driver
builds it (`support bshape bc dt.isBool`), equals the lattice definition at **every** pixel. (For signed
dtypes a 0 entry is a member of height 0 — the element is then not flat: see
`C01_dilate_cross_box_disk_everywhere_signed`.) -/
theorem C01_dilate_cross_box_disk_everywhere (dt : DT) (hdt : DTypeOK dt) (hlo : dt.lo = 0) (A : Img Int)
    (bshape : List Nat) (bc : Array Int) (q : List Int)
    (hs : ∀ d ∈ A.shape, 0 < d) (hA : ImageInRange dt A) (hq : inside A.shape q = true)
    (hreg : (∃ r : Int, bshape = List.replicate A.shape.length 3 ∧ bc = crossElem A.shape.length r) ∨
            (∃ r : Nat, bshape = List.replicate A.shape.length (2 * r + 1) ∧ bc = diskElem A.shape.length r) ∨
            (bshape.length = A.shape.length ∧ ∀ i, i < shapeSize bshape → bc.getD i 0 = 1)) :
    (dilateModel dt A (support bshape bc dt.isBool)).getD (ravelI A.shape q) dt.lo =
      dilateSpecAt dt A (support bshape bc dt.isBool) q := by
  obtain ⟨hl, h01, hstar⟩ := family_star01 _ bshape bc hreg
  exact dilate_star01_everywhere dt hdt A bshape bc q hA hq hl h01 hstar

/-- **C01-T6 (tables extracted from the sources).** `Generated.defaultCross` (the literal 2-D default of
`get_structuring_elem`) and `Generated.translateSizes` (its `translate_sizes` table) are regenerated from
`morph.py` on every run; the literal cross is `crossElem 2 1`, and the table sends the connectivity
counts (2-D, 4) ↦ radius 1, (2-D, 8) ↦ 2, (3-D, 6) ↦ 1, whose ℓ1 balls have 5, 9 and 7 members — one more
(the centre) than the number of neighbours asked for. -/
theorem C01_se_tables_generated :
    Generated.defaultCross = (crossElem 2 1).toList ∧
    Generated.translateSizes = [(2, 4, 1), (2, 8, 2), (3, 6, 1)] ∧
    (Generated.translateSizes.map fun t =>
      ((crossElem t.1 (t.2.2 : Int)).toList.filter (· ≠ 0)).length) = [5, 9, 7] ∧
    (Generated.translateSizes.all fun t =>
      ((crossElem t.1 (t.2.2 : Int)).toList.filter (· ≠ 0)).length == t.2.1 + 1) = true := by
  decide +kernel

/-- **C01-T5, row loops (the dilation branch as written).** `fastDilateLoops` transliterates the dilation
branch of `fast_binary_dilate_erode_2d` loop by loop: output initialised with a copy of the
input (centre set) or all-false; for every row `y` and offset `(dy, dx)`, `dy` adjusted so that `y + dy`
stays inside, a border loop of `|dx|` iterations ORs the pixels that would leave the image into the edge
cell of the output row and the main loop of `Nx − |dx|` iterations ORs the input row into the shifted
output row. For every 2-D 0/1 image (empty ones included) and every element the loops produce the same
array as the pointwise scatter `fastDilate`, hence (by `C01_fast_dilate_eq_generic`) the same array as the
generic kernel. The driver prints `fastDilateLoops`; the harness compares it with the real fast path. -/
theorem C01_fast_dilate_loops_eq_pointwise (A : Img Int) (Ny Nx : Nat) (bshape : List Nat) (bc : Array Int)
    (hshape : A.shape = [Ny, Nx]) (hdata : A.data.size = A.size)
    (hA : ∀ q, A.getD q 0 = 0 ∨ A.getD q 0 = 1) :
    fastDilateLoops A bshape bc = fastDilate A bshape bc := by
  obtain ⟨shape, data⟩ := A
  simp only at hshape
  subst hshape
  exact fastDilateLoops_eq Ny Nx data bshape bc hdata (data01_of_img [Ny, Nx] data hdata hA)

/-! non-vacuity: a 2×3 int8 image with negative values and a non-flat, even-sized element
    meets every hypothesis of `C01_erode_eq_spec`; the early exit of `erodeModel` fires (values −128). -/
example :
    let A : Img Int := { shape := [2, 3], data := #[-128, 5, 127, -3, 0, 7] }
    let sup := support [2, 2] #[0, 3, -128, 1] false
    (∀ d ∈ A.shape, 0 < d) ∧ (sup.length = 4) ∧
      (allPos A.shape).map (erodeAt (dtI 8) A sup) = [-128, -128, 5, -128, -128, 5] ∧
      (erodeModel (dtI 8) A sup).toList = [-128, -128, 5, -128, -128, 5] := by
  decide +kernel

/-! non-vacuity of T3/T3b: a 3×4 int8 image, an even-sized non-flat irregular element with an absent entry.
    The two box-interior pixels agree with the gather definition; border pixels (where the statement
    is silent) differ — the box-interior hypothesis is not idle. -/
example :
    let A : Img Int := { shape := [3, 4], data := #[-128, 5, 127, -3, 0, 7, -128, 100, 1, 2, 3, 4] }
    let sup := support [2, 2] #[0, 3, -128, 1] false
    (allPos A.shape).map (boxInterior A.shape [2, 2]) =
      [false, false, false, false, false, true, true, false, false, false, false, false] ∧
    (dilateModel (dtI 8) A sup).toList = [7, 127, 127, 103, 4, 8, 6, 101, 2, 3, 4, 5] ∧
    (allPos A.shape).map (dilateSpecAt (dtI 8) A sup) = [7, 10, 127, 103, 4, 8, 6, 101, 4, 5, 6, 7] := by
  decide +kernel

/-! non-vacuity of T4: the 1×3 box passes the executable regularity test and scatter = gather at
    every pixel; the one-sided element `{+1}` fails the test and scatter ≠ gather at the border. -/
example :
    let A : Img Int := { shape := [1, 3], data := #[5, 0, 0] }
    let box := support [1, 3] #[1, 1, 1] false
    let shift := support [1, 3] #[0, 0, 1] false
    let mem := fun (s : List (List Int × Int)) => s.filter (isMember (dtU 8))
    starShaped [1, 3] ((mem box).map (·.1)) = true ∧ flatHeights ((mem box).map (·.2)) = true ∧
    (dilateModel (dtU 8) A box).toList = (allPos A.shape).map (dilateSpecAt (dtU 8) A box) ∧
    starShaped [1, 3] ((mem shift).map (·.1)) = false ∧
    (dilateModel (dtU 8) A shift).toList = [0, 6, 0] ∧
    (allPos A.shape).map (dilateSpecAt (dtU 8) A shift) = [6, 6, 0] := by
  decide +kernel

/-! non-vacuity of T2/T5: the 3×4 image and the asymmetric 3×3 element (centre absent) on which a border loop of
    `dx − 1` iterations would differ in column `Nx − dx`, and a 2×2 image under a 5×5 element whose offsets are clamped to `±Nx`:
    the fast model equals the specification / the generic model; for the irregular element the scatter
    result differs from the gather definition at a border pixel (index 7), where the statement is silent. -/
example :
    let A : Img Int := { shape := [3, 4], data := #[1,1,0,1, 1,1,1,1, 0,1,1,1] }
    let D : Img Int := { shape := [3, 4], data := #[0,0,0,1, 0,0,0,0, 1,0,0,0] }
    let bc : Array Int := #[1,0,1, 1,0,1, 0,0,1]
    let sup := support [3, 3] bc true
    (allPos A.shape).map (fastErodeAt A [3, 3] bc) = [1, 0, 1, 0, 1, 0, 1, 0, 0, 0, 1, 1] ∧
    (allPos A.shape).map (erodeSpecAt dtBool A sup) = [1, 0, 1, 0, 1, 0, 1, 0, 0, 0, 1, 1] ∧
    (fastErodeLoops A [3, 3] bc).toList = [1, 0, 1, 0, 1, 0, 1, 0, 0, 0, 1, 1] ∧
    (fastDilate D [3, 3] bc).toList = [0, 0, 1, 1, 1, 1, 0, 1, 1, 1, 0, 0] ∧
    (fastDilateLoops D [3, 3] bc).toList = [0, 0, 1, 1, 1, 1, 0, 1, 1, 1, 0, 0] ∧
    (dilateModel dtBool D sup).toList = [0, 0, 1, 1, 1, 1, 0, 1, 1, 1, 0, 0] ∧
    (allPos D.shape).map (dilateSpecAt dtBool D sup) = [0, 0, 1, 1, 1, 1, 0, 0, 1, 1, 0, 0] := by
  decide +kernel

example :
    let A : Img Int := { shape := [2, 2], data := #[1, 0, 0, 0] }
    let bc : Array Int := #[0,0,0,0,1, 0,0,0,0,0, 0,0,0,0,0, 0,0,0,0,0, 1,0,0,0,0]
    fastPositions 2 [5, 5] bc true = [(-2, 2), (2, -2)] ∧
    (allPos A.shape).map (fastErodeAt A [5, 5] bc) = [0, 0, 0, 0] ∧
    (fastDilate A [5, 5] bc).toList = [0, 1, 1, 0] ∧
    (dilateModel dtBool A (support [5, 5] bc true)).toList = [0, 1, 1, 0] := by
  decide +kernel

/-! non-vacuity of T4 + T6: a 2×3 uint8 image under the default cross meets every hypothesis of
    `C01_dilate_cross_box_disk_everywhere` (here at the corner pixel, where the scatter is clamped),
    and the cross is what the tables say. -/
example :
    let A : Img Int := { shape := [2, 3], data := #[0, 200, 255, 7, 0, 31] }
    let sup := support [3, 3] (crossElem 2 1) false
    (dilateModel (dtU 8) A sup).getD (ravelI A.shape [0, 0]) 0 = dilateSpecAt (dtU 8) A sup [0, 0] :=
  C01_dilate_cross_box_disk_everywhere (dtU 8) (Or.inl wf_u8) rfl _ [3, 3] (crossElem 2 1) [0, 0]
    (by decide) (imageInRange_of_data _ _ (by simp [DT.InRange, dtU]) (by simp [DT.InRange, dtU])) (by decide) (Or.inl ⟨1, rfl, rfl⟩)

example :
    (support [3, 3] (crossElem 2 1) true).map (·.1) = [[-1, 0], [0, -1], [0, 0], [0, 1], [1, 0]] ∧
    (diskElem 2 2).toList = [0,0,0,0,0, 0,1,1,1,0, 0,1,1,1,0, 0,1,1,1,0, 0,0,0,0,0] ∧
    (diskElem 2 0).toList = [0] := by
  decide +kernel

/-! ## The Python dispatch (`get_structuring_elem`) and the C++ dispatch (`py_erode`/`py_dilate`) -/

/-- **C01-T6b (`get_structuring_elem`, the dispatch on `Bc`).** `getStructuringElem dt d Bc` transliterates
`get_structuring_elem(A, Bc)` for an array `A` of dtype `dt` and rank `d` (any `d`, 0 included): `None` becomes 1; a Python
`int` that is a key `(d, Bc)` of `translate_sizes` (the table regenerated from `morph.py`) is replaced by the
table's radius; the 2-D/radius-1 case returns the literal 3×3 cross and every other integer runs the loop
over `{0,1,2}^d` (`crossLoop`, a fold setting cells of a zero array); an array of another rank raises, an array
of the right rank is cast to `dt`, raises if it has a zero-length axis, and is otherwise passed through.
The theorem states, for every `dt` and `d`:
(1, 2) `None` and `1` give the ℓ1 ball of radius 1 in `{0,1,2}^d` (`crossElem d 1`, shape `(3,)*d`);
(3) every integer `v` — negative, zero and huge ones included, Python accepts them all — gives
`crossElem d (seRadius d v)`, whose members are exactly the offsets `k ∈ {−1,0,1}^d` with `‖k‖₁ ≤ seRadius d v`
(so a negative radius gives the empty element, 0 only the centre, anything `≥ d` the full box);
(4–6) `seRadius d v` is the translated radius for the three keys of `translate_sizes` ((2-D, 4) ↦ 1,
(2-D, 8) ↦ 2, (3-D, 6) ↦ 1: every row of the generated table is honoured) and `v` itself for every other pair;
(7) an array whose rank differs from `d` is rejected (`ValueError`), (8) an array of rank `d` with a zero-length
axis is rejected, (9) any other array of rank `d` is returned with its shape and with
every entry cast to `dt` (`castTo`: `x != 0` for bool, the value modulo `2^bits` for integers), and (10) if
its entries are representable in `dt` (bool: 0/1) it is returned unchanged. Not modelled: arguments that are
neither `None`, `int` nor an integer/boolean ndarray (lists and `bool`s raise `AttributeError`; float arrays
are truncated by numpy). -/
theorem C01_get_structuring_elem_spec (dt : DT) (d : Nat) :
    getStructuringElem dt d .none = .ok (List.replicate d 3, crossElem d 1) ∧
    getStructuringElem dt d (.int 1) = .ok (List.replicate d 3, crossElem d 1) ∧
    (∀ v : Int,
      getStructuringElem dt d (.int v) = .ok (List.replicate d 3, crossElem d (seRadius d v)) ∧
      ∀ k, k ∈ (support (List.replicate d 3) (crossElem d (seRadius d v)) true).map (·.1) ↔
        (k.length = d ∧ ∀ x ∈ k, -1 ≤ x ∧ x ≤ 1) ∧ l1N k ≤ seRadius d v) ∧
    (∀ v : Int, seRadius d v =
      if d = 2 ∧ v = 4 then 1 else if d = 2 ∧ v = 8 then 2 else if d = 3 ∧ v = 6 then 1 else v) ∧
    (∀ c r : Nat, (d, c, r) ∈ Generated.translateSizes → seRadius d (c : Int) = (r : Int)) ∧
    (∀ v : Int, (∀ t ∈ Generated.translateSizes, ¬ (t.1 = d ∧ (t.2.1 : Int) = v)) → seRadius d v = v) ∧
    (∀ bshape bc, bshape.length ≠ d → getStructuringElem dt d (.array bshape bc) = .error .rank) ∧
    (∀ bshape bc, bshape.length = d → shapeSize bshape = 0 →
      getStructuringElem dt d (.array bshape bc) = .error .empty) ∧
    (∀ bshape bc, bshape.length = d → shapeSize bshape ≠ 0 →
      getStructuringElem dt d (.array bshape bc) = .ok (bshape, bc.map (castTo dt))) ∧
    (∀ bshape bc, DTypeOK dt → bshape.length = d → shapeSize bshape ≠ 0 → (∀ x ∈ bc.toList, dt.InRange x) →
      getStructuringElem dt d (.array bshape bc) = .ok (bshape, bc)) := by
  have harr : ∀ bshape bc, bshape.length = d → shapeSize bshape ≠ 0 →
      getStructuringElem dt d (.array bshape bc) = .ok (bshape, bc.map (castTo dt)) := by
    intro bshape bc hl hz
    simp [getStructuringElem, hl, hz]
  refine ⟨getSE_none dt d, ?_, ?_, seRadius_eq d, ?_, seRadius_of_no_key d, ?_, ?_, harr, ?_⟩
  · rw [getSE_int, seRadius_eq]
    have : ¬ ((1 : Int) = 4) ∧ ¬ ((1 : Int) = 8) ∧ ¬ ((1 : Int) = 6) := by decide
    simp [this]
  · intro v
    exact ⟨getSE_int dt d v, (cross_props d (seRadius d v)).1⟩
  · intro c r h
    rw [seRadius_eq]
    simp only [Generated.translateSizes, List.mem_cons, Prod.mk.injEq, List.mem_nil_iff, or_false] at h
    rcases h with ⟨rfl, rfl, rfl⟩ | ⟨rfl, rfl, rfl⟩ | ⟨rfl, rfl, rfl⟩ <;> simp
  · intro bshape bc hl
    have : (d != bshape.length) = true := by simpa using fun h => hl h.symm
    simp [getStructuringElem, this]
  · intro bshape bc hl hz
    simp [getStructuringElem, hl, hz]
  · intro bshape bc hdt hl hz hr
    rw [harr bshape bc hl hz, map_castTo_id dt hdt bc hr]

/-- **C01-T5b (the C++ dispatch never changes the answer).** `pathOf dt ndim flags` transliterates the test
of `py_erode`/`py_dilate` — `check_type<bool>(array) && PyArray_NDIM(array) == 2 && PyArray_ISCARRAY(array)`
(C-contiguous, aligned, writeable, native byte order) — and `erodeDispatch`/`dilateDispatch` run the fast
binary branch **as the row loops are written** (`fastErodeLoops`, `fastDilateLoops`) when it says `fast`, and
the generic kernel with the footprint it builds (`support bshape bc dt.isBool`) otherwise. For every image
(empty ones included), every element of the rank of the image (what `py_erode` checks; any shape: odd, even,
larger than the image, empty) with 0/1 entries when the image is boolean, and **all** flag combinations:
the dispatched result is the array the generic kernel returns — for erosion and for
dilation, at every pixel, border included. Hence any two layouts/flag settings of the same logical input get
the same answer: which code path serves the call never changes the result. -/
theorem C01_path_independent (dt : DT) (hdt : DTypeOK dt) (A : Img Int) (bshape : List Nat) (bc : Array Int)
    (hrank : bshape.length = A.shape.length) (hdata : A.data.size = A.size)
    (hbc : bc.size = shapeSize bshape) (hA : ImageInRange dt A)
    (hB : dt.isBool = true → ∀ i, bc.getD i 0 = 0 ∨ bc.getD i 0 = 1) :
    (∀ fl, erodeDispatch dt fl A bshape bc = erodeModel dt A (support bshape bc dt.isBool)) ∧
    (∀ fl, dilateDispatch dt fl A bshape bc = dilateModel dt A (support bshape bc dt.isBool)) ∧
    (∀ fl fl', erodeDispatch dt fl A bshape bc = erodeDispatch dt fl' A bshape bc ∧
      dilateDispatch dt fl A bshape bc = dilateDispatch dt fl' A bshape bc) := by
  have key : ∀ fl, erodeDispatch dt fl A bshape bc = erodeModel dt A (support bshape bc dt.isBool) ∧
      dilateDispatch dt fl A bshape bc = dilateModel dt A (support bshape bc dt.isBool) := by
    intro fl
    unfold erodeDispatch dilateDispatch
    cases hp : pathOf dt A.shape.length fl with
    | generic => exact ⟨rfl, rfl⟩
    | fast =>
      -- what the fast path is entitled to: a 2-D boolean image and a 2-D 0/1 element
      obtain ⟨hb, h2, _⟩ := pathOf_fast dt _ fl hp
      obtain rfl := isBool_eq dt hdt hb
      have two : ∀ l : List Nat, l.length = 2 → ∃ a b, l = [a, b] := fun l h =>
        match l, h with | [a, b], _ => ⟨a, b, rfl⟩
      obtain ⟨Ny, Nx, hshape⟩ := two _ h2
      obtain ⟨By, Bx, rfl⟩ := two _ (hrank.trans h2)
      have hA01 := (image01_iff A).mp hA
      have hbc' : bc.size = By * Bx := by rw [hbc]; simp [shapeSize]
      refine ⟨?_, (C01_fast_dilate_loops_eq_pointwise A Ny Nx _ bc hshape hdata hA01).trans
        (C01_fast_dilate_eq_generic A Ny Nx By Bx bc hshape hdata hA01 hbc')⟩
      obtain ⟨shape, data⟩ := A
      simp only at hshape; subst hshape
      exact (fastErodeLoops_eq Ny Nx data _ bc hdata (data01_of_img _ data hdata hA01)).trans
        (fastErode_eq Ny Nx data By Bx bc hA01 hbc' (hB rfl))
  exact ⟨fun fl => (key fl).1, fun fl => (key fl).2, fun fl fl' =>
    ⟨(key fl).1.trans (key fl').1.symm, (key fl).2.trans (key fl').2.symm⟩⟩

/-- **C01-T1…T5 through the dispatch (what `_morph.erode` / `_morph.dilate` return equals the lattice
definition).** For every flag combination of the input array (hence whichever of the two code paths
`py_erode`/`py_dilate` choose) and every admissible structuring element of the rank of the image: the array
returned by the dispatched erosion is the lattice definition at every pixel, and the cell of every pixel `q`
the check observes — every pixel when the members are flat and star-shaped (cross, box, disk), the pixels
whose element box and reflected box lie inside the image otherwise — in the dispatched dilation is the
lattice definition (gather). -/
theorem C01_dispatch_eq_spec (dt : DT) (hdt : DTypeOK dt) (fl : ArrFlags) (A : Img Int) (bshape : List Nat)
    (bc : Array Int) (hs : ∀ d ∈ A.shape, 0 < d) (hrank : bshape.length = A.shape.length)
    (hdata : A.data.size = A.size) (hbc : bc.size = shapeSize bshape) (hA : ImageInRange dt A)
    (hB : AdmissibleElem dt (support bshape bc dt.isBool)) :
    erodeDispatch dt fl A bshape bc =
      ((allPos A.shape).map (erodeSpecAt dt A (support bshape bc dt.isBool))).toArray ∧
    ∀ q, inside A.shape q = true →
      (starShaped bshape (((support bshape bc dt.isBool).filter (isMember dt)).map (·.1)) &&
        flatHeights (((support bshape bc dt.isBool).filter (isMember dt)).map (·.2)) ||
        boxInterior A.shape bshape q) = true →
      (dilateDispatch dt fl A bshape bc).getD (ravelI A.shape q) dt.lo =
        dilateSpecAt dt A (support bshape bc dt.isBool) q := by
  have hB01 : dt.isBool = true → ∀ i, bc.getD i 0 = 0 ∨ bc.getD i 0 = 1 := by
    intro hb i
    by_cases h0 : bc.getD i 0 = 0
    · exact Or.inl h0
    · right
      have hi : i < shapeSize bshape := by rw [← hbc]; exact lt_size_of_getD_ne bc i 0 h0
      exact (hB _ ((mem_support bshape bc dt.isBool _).mpr ⟨i, hi, fun _ => h0, rfl⟩)).2.2 hb
  obtain ⟨he, hd, _⟩ := C01_path_independent dt hdt A bshape bc hrank hdata hbc hA hB01
  refine ⟨?_, fun q hq hobs => ?_⟩
  · rw [he fl]
    exact (C01_erode_model_eq_spec dt hdt A _ hs hA hB).2
  · rw [hd fl]
    exact C01_dilate_eq_spec_where_observed dt hdt A bshape _ q hs hrank
      (C01_support_offsets_in_box bshape bc _).1 hA hB hq hobs

/-- **C01 end to end for `None`/integer arguments (`mahotas.erode(A, Bc)`, `mahotas.dilate(A, Bc)`).**
`erodePy`/`dilatePy` compose `get_structuring_elem` with the C++ dispatch exactly as `morph.erode`/`morph.dilate`
do. For `Bc` being `None` or **any** Python integer `v`, in every rank `d`: the call does not raise; with
`r = 1` for `None` and `r = seRadius d v` for `v` (the `translate_sizes` radius, or `v` itself) the erosion returned is the lattice definition for the ℓ1 ball `crossElem d r` at every pixel; and for
bool and unsigned dtypes the dilation returned is the lattice definition at **every** pixel, border included.
(For signed dtypes the 0 entries of the cross are members of height 0, the element is not flat, and the
dilation equals the lattice definition at box-interior pixels by `C01_dispatch_eq_spec`, at every pixel by
`C01_python_call_cross_signed`.) -/
theorem C01_python_call_cross (dt : DT) (hdt : DTypeOK dt) (fl : ArrFlags) (A : Img Int) (Bc : BcArg) (r : Int)
    (hBc : (Bc = .none ∧ r = 1) ∨ ∃ v, Bc = .int v ∧ r = seRadius A.shape.length v)
    (hs : ∀ d ∈ A.shape, 0 < d) (hdata : A.data.size = A.size) (hA : ImageInRange dt A) :
    let bshape := List.replicate A.shape.length 3
    let sup := support bshape (crossElem A.shape.length r) dt.isBool
    ∃ e d, erodePy dt fl A Bc = .ok e ∧ dilatePy dt fl A Bc = .ok d ∧
      e = ((allPos A.shape).map (erodeSpecAt dt A sup)).toArray ∧
      (dt.lo = 0 → ∀ q, inside A.shape q = true → d.getD (ravelI A.shape q) dt.lo = dilateSpecAt dt A sup q) := by
  intro bshape sup
  obtain ⟨hpe, hpd⟩ := pyCall_cross dt fl A Bc r hBc
  have hrank : bshape.length = A.shape.length := by simp [bshape]
  have hbc := crossElem_size A.shape.length r
  have h01 := crossElem_01 A.shape.length r
  have hB := admissible_of_01 dt hdt bshape _ fun i _ => h01 i
  refine ⟨_, _, hpe, hpd, ?_, ?_⟩
  · exact (C01_dispatch_eq_spec dt hdt fl A bshape _ hs hrank hdata hbc hA hB).1
  · intro hlo q hq
    rw [(C01_path_independent dt hdt A bshape _ hrank hdata hbc hA (fun _ => h01)).2.1 fl]
    exact C01_dilate_cross_box_disk_everywhere dt hdt hlo A bshape _ q hs hA hq (Or.inl ⟨r, rfl, rfl⟩)

/-! non-vacuity of the dispatch theorems: a 3×4 boolean image and the asymmetric 3×3 element of the
    fast-path example above. A C-contiguous aligned writeable array takes the fast path, a read-only (or Fortran)
    one the generic path; both dispatches return the same arrays. `get_structuring_elem`: the translated
    radius for (2-D, 8), a negative integer (empty element), rank mismatch, empty array, pass-through with cast. -/
example :
    let A : Img Int := { shape := [3, 4], data := #[1,1,0,1, 1,1,1,1, 0,1,1,1] }
    let bc : Array Int := #[1,0,1, 1,0,1, 0,0,1]
    let c : ArrFlags := ⟨true, true, true, true⟩
    let ro : ArrFlags := ⟨true, true, false, true⟩
    pathOf dtBool 2 c = .fast ∧ pathOf dtBool 2 ro = .generic ∧ pathOf dtBool 3 c = .generic ∧
    pathOf (dtU 8) 2 c = .generic ∧
    (erodeDispatch dtBool c A [3, 3] bc).toList = [1, 0, 1, 0, 1, 0, 1, 0, 0, 0, 1, 1] ∧
    (erodeDispatch dtBool ro A [3, 3] bc).toList = [1, 0, 1, 0, 1, 0, 1, 0, 0, 0, 1, 1] ∧
    (dilateDispatch dtBool c A [3, 3] bc) = (dilateDispatch dtBool ro A [3, 3] bc) := by
  decide +kernel

example :
    let ok := fun (x : Except SEError (List Nat × Array Int)) => x.toOption
    let err := fun (x : Except SEError (List Nat × Array Int)) =>
      match x with | .error e => some e | .ok _ => none
    ok (getStructuringElem dtBool 2 (.int 8)) = some ([3, 3], #[1,1,1, 1,1,1, 1,1,1]) ∧
    ok (getStructuringElem dtBool 2 (.int 4)) = some ([3, 3], #[0,1,0, 1,1,1, 0,1,0]) ∧
    ok (getStructuringElem (dtU 8) 3 (.int 6)) = ok (getStructuringElem (dtU 8) 3 .none) ∧
    ok (getStructuringElem (dtU 8) 1 (.int (-2))) = some ([3], #[0, 0, 0]) ∧
    ok (getStructuringElem (dtU 8) 1 (.int 0)) = some ([3], #[0, 1, 0]) ∧
    err (getStructuringElem (dtU 8) 2 (.array [3] #[1, 1, 1])) = some .rank ∧
    err (getStructuringElem (dtU 8) 2 (.array [0, 3] #[])) = some .empty ∧
    ok (getStructuringElem (dtU 8) 2 (.array [1, 3] #[1, 256, -1])) = some ([1, 3], #[1, 0, 255]) ∧
    ok (getStructuringElem dtBool 2 (.array [1, 3] #[1, 256, 0])) = some ([1, 3], #[1, 1, 0]) := by
  decide +kernel

/-! non-vacuity of `C01_python_call_cross`: `erode(A, 4)`/`dilate(A, 8)` on a 2×3 uint8 image -/
example :
    let A : Img Int := { shape := [2, 3], data := #[9, 200, 255, 7, 4, 31] }
    let c : ArrFlags := ⟨true, true, true, true⟩
    (erodePy (dtU 8) c A (.int 4)).toOption.map (·.toList) = some [6, 3, 30, 3, 3, 3] ∧
    (dilatePy (dtU 8) c A (.int 4)).toOption.map (·.toList) = some [201, 255, 255, 10, 201, 255] ∧
    (dilatePy (dtU 8) c A (.int 8)).toOption.map (·.toList) = some [201, 255, 255, 201, 255, 255] := by
  decide +kernel

example :
    let A : Img Int := { shape := [2, 3], data := #[9, 200, 255, 7, 4, 31] }
    ∃ e d, erodePy (dtU 8) ⟨true, true, true, true⟩ A (.int 8) = .ok e ∧
      dilatePy (dtU 8) ⟨true, true, true, true⟩ A (.int 8) = .ok d ∧
      (∀ q, inside A.shape q = true → d.getD (ravelI A.shape q) 0 =
        dilateSpecAt (dtU 8) A (support [3, 3] (crossElem 2 2) false) q) := by
  obtain ⟨e, d, h1, h2, _, h4⟩ := C01_python_call_cross (dtU 8) (Or.inl wf_u8) ⟨true, true, true, true⟩
    { shape := [2, 3], data := #[9, 200, 255, 7, 4, 31] } (.int 8) 2 (Or.inr ⟨8, rfl, by decide +kernel⟩)
    (by decide) rfl (imageInRange_of_data _ _ (by simp [DT.InRange, dtU]) (by simp [DT.InRange, dtU]))
  exact ⟨e, d, h1, h2, h4 rfl⟩


/-! ## Non-flat elements and signed dtypes: dilation at every pixel

For a signed dtype a 0 entry of the structuring element is a **member of height 0** (only `dt.lo` means "not in
the element"), so the cross of `get_structuring_elem` is the full `3 × … × 3` box with height 1 on the ℓ1 ball
and height 0 elsewhere — not flat, and `C01_dilate_regular_everywhere` does not apply. What makes the clamped
scatter of the kernel equal to the lattice definition (clamped gather) at border pixels is not flatness but
**monotonicity of the heights towards the centre**. -/

/-- **C01-T4' (height-monotone star-shaped elements: dilation at every pixel).** If with every member `(k, h)`
every offset `k'` coordinate-wise between `0` and `k` is a member of height `≥ h` (`HeightMonotoneStar`: flat
star-shaped elements, "pyramids", and every cross/box/disk on a signed dtype), then at **every** pixel `q` —
border pixels included, where the kernel's scatter is clamped — the model of the generic `dilate` kernel equals
the lattice definition, for signed dtypes and negative values too. -/
theorem C01_dilate_height_monotone_everywhere (dt : DT) (hdt : DTypeOK dt) (A : Img Int) (bshape : List Nat)
    (sup : List (List Int × Int)) (q : List Int)
    (hs : ∀ d ∈ A.shape, 0 < d) (hl : bshape.length = A.shape.length) (hbox : OffsetsInBox bshape sup)
    (hA : ImageInRange dt A) (hB : AdmissibleElem dt sup) (hmono : HeightMonotoneStar dt sup)
    (hq : inside A.shape q = true) :
    (dilateModel dt A sup).getD (ravelI A.shape q) dt.lo = dilateSpecAt dt A sup q :=
  dilate_heightMonotone_everywhere dt A sup q
    (fun kh hkh => by rw [boxOffsets_length bshape kh.1 (hbox kh hkh), hl])
    (valOK_of dt hdt A sup hA hB) hmono hq

/-- the executable test `starMonotone` of the driver (enumerate every box offset between 0 and each member and
look for a member there of at least the same height) is sound for `HeightMonotoneStar`; the predicate itself
is spelled out in the second component. -/
theorem C01_star_monotone_check (dt : DT) (bshape : List Nat) (sup : List (List Int × Int))
    (hbox : OffsetsInBox bshape sup) :
    (starMonotone bshape (sup.filter (isMember dt)) = true → HeightMonotoneStar dt sup) ∧
    (HeightMonotoneStar dt sup ↔
      ∀ kh ∈ sup, isMember dt kh = true → ∀ k', between k' kh.1 = true →
        ∃ kh' ∈ sup, isMember dt kh' = true ∧ kh.2 ≤ kh'.2 ∧ kh'.1 = k') :=
  ⟨heightMonotone_of_check dt bshape sup hbox, Iff.rfl⟩

/-- **C01-T3b/T4/T4' in the form the check uses.** The driver marks pixel `q` as *observed* when
`starShaped … && flatHeights … || starMonotone … || boxInterior …` evaluates to true on the members of the
support it built; at every observed pixel the model of the generic `dilate` kernel equals the lattice
definition. -/
theorem C01_dilate_eq_spec_where_observed_r4 (dt : DT) (hdt : DTypeOK dt) (A : Img Int) (bshape : List Nat)
    (sup : List (List Int × Int)) (q : List Int)
    (hs : ∀ d ∈ A.shape, 0 < d) (hl : bshape.length = A.shape.length) (hbox : OffsetsInBox bshape sup)
    (hA : ImageInRange dt A) (hB : AdmissibleElem dt sup) (hq : inside A.shape q = true)
    (hobs : (starShaped bshape ((sup.filter (isMember dt)).map (·.1)) &&
             flatHeights ((sup.filter (isMember dt)).map (·.2)) ||
             starMonotone bshape (sup.filter (isMember dt)) ||
             boxInterior A.shape bshape q) = true) :
    (dilateModel dt A sup).getD (ravelI A.shape q) dt.lo = dilateSpecAt dt A sup q := by
  rw [Bool.or_eq_true, Bool.or_eq_true, Bool.and_eq_true] at hobs
  rcases hobs with (⟨hstar, hflat⟩ | hmono) | hb
  · exact C01_dilate_regular_everywhere dt hdt A bshape sup q hs hl hbox hA hB hstar hflat hq
  · exact C01_dilate_height_monotone_everywhere dt hdt A bshape sup q hs hl hbox hA hB
      (heightMonotone_of_check dt bshape sup hbox hmono) hq
  · exact C01_dilate_eq_spec_boxInterior dt hdt A bshape sup q hs hl hbox hA hB hq hb

/-- **C01-T4' + T6 (signed dtypes: dilation at every pixel for a centred cross, disk or odd box).** For every
**signed** integer dtype and the structuring element being `crossElem d r` (any radius), `diskElem d r` (any
radius) or an all-ones box of odd sides, the model of the generic `dilate` kernel on the support the driver
builds (`support bshape bc false`: every cell of the box is a member, height 1 on the footprint, 0 off it)
equals the lattice definition at **every** pixel, border included. -/
theorem C01_dilate_cross_box_disk_everywhere_signed (dt : DT) (wf : dt.WF) (hneg : dt.lo < 0) (A : Img Int)
    (bshape : List Nat) (bc : Array Int) (q : List Int)
    (hs : ∀ d ∈ A.shape, 0 < d) (hA : ImageInRange dt A) (hq : inside A.shape q = true)
    (hfam : CrossBoxDisk A.shape.length bshape bc) :
    (dilateModel dt A (support bshape bc false)).getD (ravelI A.shape q) dt.lo =
      dilateSpecAt dt A (support bshape bc false) q := by
  obtain ⟨hl, h01, hstar⟩ := family_star01 _ bshape bc
    (hfam.imp_right (Or.imp_right fun h => ⟨h.1, h.2.2⟩))
  have := dilate_star01_everywhere dt (Or.inl wf) A bshape bc q hA hq hl h01 hstar
  rwa [wf.notBool] at this

/-- **C01 end to end for `None`/integer arguments on signed images (`mahotas.dilate(A, Bc)`).** For every
signed integer dtype, every flag combination and `Bc` being `None` or **any** Python integer: the call does not raise and the dilation
returned is the lattice definition for the (non-flat) element `get_structuring_elem` builds at **every** pixel,
border included — the signed counterpart of `C01_python_call_cross` (bool and unsigned). -/
theorem C01_python_call_cross_signed (dt : DT) (wf : dt.WF) (hneg : dt.lo < 0) (fl : ArrFlags) (A : Img Int)
    (Bc : BcArg) (r : Int)
    (hBc : (Bc = .none ∧ r = 1) ∨ ∃ v, Bc = .int v ∧ r = seRadius A.shape.length v)
    (hs : ∀ d ∈ A.shape, 0 < d) (hdata : A.data.size = A.size) (hA : ImageInRange dt A) :
    let bshape := List.replicate A.shape.length 3
    let sup := support bshape (crossElem A.shape.length r) false
    ∃ d, dilatePy dt fl A Bc = .ok d ∧
      ∀ q, inside A.shape q = true → d.getD (ravelI A.shape q) dt.lo = dilateSpecAt dt A sup q := by
  intro bshape sup
  have hdt : DTypeOK dt := Or.inl wf
  have hrank : bshape.length = A.shape.length := by simp [bshape]
  have hbc := crossElem_size A.shape.length r
  have h01 := crossElem_01 A.shape.length r
  refine ⟨_, (pyCall_cross dt fl A Bc r hBc).2, ?_⟩
  intro q hq
  have hpi := (C01_path_independent dt hdt A bshape _ hrank hdata hbc hA (fun _ => h01)).2.1 fl
  rw [wf.notBool] at hpi
  rw [hpi]
  exact C01_dilate_cross_box_disk_everywhere_signed dt wf hneg A bshape _ q hs hA hq (Or.inl ⟨r, rfl, rfl⟩)

/-! non-vacuity: `dilate(A)` on an int8 2×3 image with negative values and a pixel at the dtype minimum —
    model = lattice definition at all six (border) pixels; the signed cross passes `starMonotone` but is not flat;
    a 1-D "pyramid" `[1, 2, 1]` on uint8 passes it too. -/
example :
    let A : Img Int := { shape := [2, 3], data := #[-5, 9, -128, 7, -7, 100] }
    let sup := support [3, 3] (crossElem 2 1) false
    (dilatePy (dtI 8) ⟨true, true, true, true⟩ A .none).toOption.map (·.toList) = some [10, 100, 101, 9, 101, 101] ∧
    (allPos A.shape).map (dilateSpecAt (dtI 8) A sup) = [10, 100, 101, 9, 101, 101] ∧
    starMonotone [3, 3] (sup.filter (isMember (dtI 8))) = true ∧
    flatHeights ((sup.filter (isMember (dtI 8))).map (·.2)) = false ∧
    (allPos A.shape).all (fun q => boxInterior A.shape [3, 3] q) = false ∧
    starMonotone [3] ((support [3] #[1, 2, 1] false).filter (isMember (dtU 8))) = true := by
  decide +kernel

example :
    let A : Img Int := { shape := [2, 3], data := #[-5, 9, -128, 7, -7, 100] }
    ∃ d, dilatePy (dtI 8) ⟨true, true, true, true⟩ A (.int 8) = .ok d ∧
      ∀ q, inside A.shape q = true → d.getD (ravelI A.shape q) (-128) =
        dilateSpecAt (dtI 8) A (support [3, 3] (crossElem 2 2) false) q :=
  C01_python_call_cross_signed (dtI 8) wf_i8 (by decide) ⟨true, true, true, true⟩
    { shape := [2, 3], data := #[-5, 9, -128, 7, -7, 100] } (.int 8) 2 (Or.inr ⟨8, rfl, by decide +kernel⟩)
    (by decide) rfl (imageInRange_of_data _ _ (by simp [DT.InRange, dtI]) (by simp [DT.InRange, dtI]))

/-! the hypothesis cannot be dropped: heights that *increase* away from the centre (`[3, 1, 1, 1, 3]` on uint8).
    At the border pixel 0 of the image `[1, 20, 1]` the kernel's clamped scatter brings `20 + 3` (from pixel 1
    through the offset −2, clamped), while the lattice definition reads pixel 1 only through the offset −1 and
    gives `20 + 1`. -/
example :
    let A : Img Int := { shape := [3], data := #[1, 20, 1] }
    let sup := support [5] #[3, 1, 1, 1, 3] false
    (dilateModel (dtU 8) A sup).toList = [23, 21, 23] ∧
    (allPos A.shape).map (dilateSpecAt (dtU 8) A sup) = [21, 21, 21] ∧
    starMonotone [5] (sup.filter (isMember (dtU 8))) = false := by
  decide +kernel
