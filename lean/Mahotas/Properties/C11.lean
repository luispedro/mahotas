/-
C11 — property theorems: the guards extracted from the CURRENT source (Generated/Guards.lean, regenerated on every
run by translator/guards.py) imply the preconditions of the kernels. Decision logic over argument descriptors.
Also: the compositions with the bounds theorems of Properties/C10.lean (`C11_*_safe`), the exit actions of the guards
and the coverage table of the native entry points (`entryCover`).
-/
import Mahotas.Model.C11
import Mahotas.Proofs.C11Shapes
import Mahotas.Proofs.C11Guards
import Mahotas.Proofs.C11Tables
import Mahotas.Properties.C10
open Mahotas Mahotas.C11 Mahotas.C10

/-- **C11-T1 (slic).** If the guards of the wrapper `segmentation.slic`, as extracted from the source, all pass on an
`array` argument that is an ndarray (`ndim` the length of its shape: `hnd`) and integer `spacer`, `max_iters`, then the
kernel precondition holds: the array is (h, w, 3), `spacer ≥ 1` (the seeding loops `y += spacer` advance), `spacer/2 < h`
and `spacer/2 < w` (at least one seed exists, so no pixel keeps the label −1 that the kernel would use as an index) and
`max_iters ≥ 1`. -/
theorem C11_slic_guards_imply_pre (env : Env)
    (ha : (env "array").kind = 1) (hs : (env "spacer").kind = 2) (hm : (env "max_iters").kind = 2)
    (hnd : (env "array").ndim = (env "array").shape.length)
    (h : passes Generated.guards_segmentation_slic env = true) : PreSlic env := by
  obtain ⟨h1, h2, h3, h4, h5, -⟩ := passes_iff.1 h
  have h1 := h1 ha
  have h4 := h4 ha hs (by omega)
  exact ⟨h1, h2 ha (by omega), h3 hs, h5 hm, by omega, by omega⟩

/-- **C11-T2 (slic seeding is non-empty).** Under `S/2 < N` alone (`S ≥ 1` is used by T2' only) the seeding loop
`for (y = S/2; y < N; y += S)` — run with fuel `N` — places at least one seed and every seed is inside `[0, N)`. -/
theorem C11_slic_seeds_nonempty_in_range (S N : Nat) (hN : S / 2 < N) :
    (seeds S N).length ≥ 1 ∧ ∀ y ∈ seeds S N, y < N :=
  slic_seeds_len S N hN

/-- **C11-T2' (fuel is sufficient).** With `S ≥ 1` the loop stops by itself within `N` steps: more fuel changes nothing. -/
theorem C11_slic_seed_fuel_sufficient (S N : Nat) (hS : 1 ≤ S) :
    ∀ fuel y, N ≤ y + fuel → seedLoop S N (fuel + 1) y = seedLoop S N fuel y := by
  intro fuel
  induction fuel with
  | zero => intro y h; simp [seedLoop]; omega
  | succ k ih =>
    intro y h
    show (if y < N then y :: seedLoop S N (k + 1) (y + S) else []) = if y < N then y :: seedLoop S N k (y + S) else []
    rw [ih (y + S) (by omega)]

/-- non-vacuity: a (14, 20, 3) array with spacer 16 passes the guards; a (14, 7, 3) array (no seed on the second axis:
the crash the guard prevents) is rejected by atom 3 -/
example :
    passes Generated.guards_segmentation_slic (fun n =>
      if n = "array" then { kind := 1, ndim := 3, shape := [14, 20, 3] } else
      if n = "spacer" then { kind := 2, ival := 16 } else if n = "max_iters" then { kind := 2, ival := 8 } else {}) = true ∧
    firstReject Generated.guards_segmentation_slic (fun n =>
      if n = "array" then { kind := 1, ndim := 3, shape := [14, 7, 3] } else
      if n = "spacer" then { kind := 2, ival := 16 } else if n = "max_iters" then { kind := 2, ival := 8 } else {}) = some 3 := by
  decide +kernel

example : seeds 4 10 = [2, 6] := by decide +kernel

/-- **C11-T1 (2-D kernels).** `find`, `close_holes` and `convexhull` reach their 2-D kernels only with a matrix: if the
current wrapper guards pass on an ndarray argument, its rank is 2. -/
theorem C11_2d_guards_imply_pre (env : Env) :
    ((env "f").kind = 1 → passes Generated.guards_convolve_find env = true → Pre2D "f" env) ∧
    ((env "ref").kind = 1 → passes Generated.guards_morph_close_holes env = true → Pre2D "ref" env) ∧
    ((env "bwimg").kind = 1 → passes Generated.guards_polygon_convexhull env = true → Pre2D "bwimg" env) := by
  refine ⟨?_, ?_, ?_⟩ <;> exact fun hk h => (passes_iff.1 h).1 hk

/-- **C11-T1 (cwatershed).** The markers are read at the flat positions of the surface: the wrapper lets the kernel run
only when both arrays have the same shape. -/
theorem C11_cwatershed_guards_imply_pre (env : Env) (hs : (env "surface").kind = 1) (hm : (env "markers").kind = 1)
    (h : passes Generated.guards_morph_cwatershed env = true) : PreCwatershed env :=
  (passes_iff.1 h).1 hs hm

/-- **C11-T1 (disk).** `disk` builds its array only for a positive dimension. -/
theorem C11_disk_guards_imply_pre (env : Env) (hd : (env "dim").kind = 2)
    (h : passes Generated.guards_morph_disk env = true) : PreDisk env :=
  (passes_iff.1 h).1 hd

/-- **C11-T1 (template_match).** If the guards of the native `py_template_match`, as extracted from the source, all
pass, then the three arguments are ndarrays, image and template have the same rank, the output has the shape of the
image and is a writeable aligned C array. Independently the wrapper `convolve.template_match` lets ndarrays through
only with equal ranks. -/
theorem C11_template_match_guards_imply_pre (env : Env) :
    (npasses Generated.nativeGuards_convolve_template_match env = true →
      ((env "array").kind = 1 ∧ (env "template_").kind = 1 ∧ (env "output").kind = 1) ∧ PreTemplateMatch env) ∧
    ((env "f").kind = 1 → (env "template").kind = 1 → passes Generated.guards_convolve_template_match env = true →
      (env "f").ndim = (env "template").ndim) := by
  constructor
  · intro h
    obtain ⟨-, ⟨ha, ht, ho, -⟩, -, h3, h4, h5, -⟩ := npasses_iff.1 h
    exact ⟨⟨ha, ht, ho⟩, h3 ha ht, h4 ho ha, h5 ho⟩
  · exact fun hf ht h => (passes_iff.1 h).1 hf ht

/-- **C11-T1 (find2d).** If the guards of the native `py_find2d` pass, all three arguments are ndarrays, image and
template are matrices, and the boolean output is a C array of the shape of the image. -/
theorem C11_find2d_guards_imply_pre (env : Env)
    (h : npasses Generated.nativeGuards_convolve_find2d env = true) :
    ((env "array").kind = 1 ∧ (env "target").kind = 1 ∧ (env "output").kind = 1) ∧ PreFind2d env := by
  obtain ⟨-, ⟨ha, ht, ho, -⟩, h2, h3, h4, -, -, h7, -⟩ := npasses_iff.1 h
  exact ⟨⟨ha, ht, ho⟩, h2 ha, h3 ht, h4 ho ha, h7 ho⟩

/-! non-vacuity: descriptors that pass / are rejected by the extracted native guards -/
example :
    npasses Generated.nativeGuards_convolve_find2d (fun n =>
      if n = "array" then { kind := 1, ndim := 2, shape := [3, 4], tnum := 2, flags := 7 } else
      if n = "target" then { kind := 1, ndim := 2, shape := [2, 2], tnum := 2, flags := 7 } else
      if n = "output" then { kind := 1, ndim := 2, shape := [3, 4], tnum := 0, flags := 7 } else {}) = true ∧
    nfirstReject Generated.nativeGuards_convolve_find2d (fun n =>
      if n = "array" then { kind := 1, ndim := 2, shape := [3, 4], tnum := 2, flags := 7 } else
      if n = "target" then { kind := 1, ndim := 1, shape := [2], tnum := 2, flags := 7 } else
      if n = "output" then { kind := 1, ndim := 2, shape := [3, 4], tnum := 0, flags := 7 } else {}) = some 3 := by
  decide +kernel

/-- **C11-T1 (hitmiss).** The wrapper `morph.hitmiss` lets ndarrays through only with equal rank ≥ 1; the native
`py_hitmiss` runs only with three ndarrays, the result of the shape of the input and a C array. (Neither checks that no
axis of `input` or `Bc` has length zero: `C11_hitmiss_safe` shows that none is needed.) -/
theorem C11_hitmiss_guards_imply_pre (env : Env) :
    ((env "input").kind = 1 → (env "Bc").kind = 1 → passes Generated.guards_morph_hitmiss env = true → PreHitmissW env) ∧
    (npasses Generated.nativeGuards_morph_hitmiss env = true →
      ((env "array").kind = 1 ∧ (env "Bc").kind = 1 ∧ (env "res_a").kind = 1) ∧ PreHitmissN env) := by
  constructor
  · intro hi hb h
    obtain ⟨h1, h2, -⟩ := passes_iff.1 h
    exact ⟨h1 hi hb, Nat.pos_of_ne_zero (h2 hi)⟩
  · intro h
    obtain ⟨-, ⟨ha, hb, hr, -⟩, h2, -, h4, -⟩ := npasses_iff.1 h
    exact ⟨⟨ha, hb, hr⟩, (h2 ha hr).symm, h4 hr⟩

/-- **C11-T1 (majority_filter).** Wrapper: a matrix and `N ≥ 2`. Native `py_majority_filter`: boolean ndarrays, a
matrix, the result of the same shape and a C array. (The native entry point itself does not check `N ≥ 0`: only the
wrapper does.) -/
theorem C11_majority_guards_imply_pre (env : Env) :
    ((env "img").kind = 1 → (env "N").kind = 2 → passes Generated.guards_morph_majority_filter env = true → PreMajorityW env) ∧
    (npasses Generated.nativeGuards_morph_majority_filter env = true →
      ((env "array").kind = 1 ∧ (env "res_a").kind = 1) ∧ PreMajorityN env) := by
  constructor
  · intro hi hn h
    obtain ⟨h1, h2, -⟩ := passes_iff.1 h
    exact ⟨h1 hi, h2 hn⟩
  · intro h
    obtain ⟨-, ⟨ha, -⟩, ⟨hr, -⟩, -, -, h5, h6, h7, -⟩ := npasses_iff.1 h
    exact ⟨⟨ha, hr⟩, h5 ha, (h6 ha hr).symm, h7 hr⟩

/-- **C11-T1 (dt / distance).** Native `py_dt`: when no guard takes its exit — the last one, `size == 0`, is an early
successful return in front of the loops, not an error — the array is 2-D and has no element-less axis, so `size/n`
divides by a positive `n`. Wrapper `distance`: rank ≥ 1 and at least one element. -/
theorem C11_dt_guards_imply_pre (env : Env) :
    (npasses Generated.nativeGuards_distance_dt env = true → (env "f").kind = 1 ∧ PreDt env) ∧
    ((env "bw").kind = 1 → passes Generated.guards_distance_distance env = true → PreDistance env) := by
  constructor
  · intro h
    obtain ⟨-, ⟨hf, -⟩, -, h3, h4, -⟩ := npasses_iff.1 h
    exact ⟨hf, h3 hf, h4 hf⟩
  · intro hb h
    obtain ⟨h1, h2, -⟩ := passes_iff.1 h
    exact ⟨Nat.pos_of_ne_zero (h1 hb), Nat.pos_of_ne_zero (h2 hb)⟩

/-- **C11-T1 (center_of_mass).** If the guards of the native `py_center_of_mass` pass and labels are given (not None),
then the labels are an ndarray of the SHAPE of the image (an aligned C array), hence have at least as many elements
as the image: the hypothesis `hs` of `C10_center_of_mass_in_bounds`. -/
theorem C11_center_of_mass_guards_imply_pre (env : Env)
    (h : npasses Generated.nativeGuards_center_of_mass_center_of_mass env = true) :
    (env "array").kind = 1 ∧ PreCenterOfMass env := by
  obtain ⟨-, ⟨ha, -⟩, h2, h3, -, h5, -⟩ := npasses_iff.1 h
  refine ⟨ha, fun hk => ?_⟩
  obtain ⟨hl, -⟩ := h2 hk
  have hs := (h5 hk ha hl).symm
  exact ⟨hl, hs, h3 hk hl, by simp [Desc.size, hs]⟩

/-- labels of another shape are rejected by atom 5 (the shape test of `py_center_of_mass`, 0bf2f48); None labels pass -/
example :
    nfirstReject Generated.nativeGuards_center_of_mass_center_of_mass (fun n =>
      if n = "array" then { kind := 1, ndim := 2, shape := [3, 4], tnum := 12, flags := 7 } else
      if n = "labels_obj" then { kind := 1, ndim := 2, shape := [3, 3], tnum := 5, flags := 7 } else {}) = some 5 ∧
    npasses Generated.nativeGuards_center_of_mass_center_of_mass (fun n =>
      if n = "array" then { kind := 1, ndim := 2, shape := [3, 4], tnum := 12, flags := 7 } else {}) = true := by
  decide +kernel

/-- **C11-T1 (bbox).** `labeled.bbox` reaches `_bbox.bbox_labeled` only when no label is negative. -/
theorem C11_bbox_guards_imply_pre (env : Env) (hf : (env "f").kind = 1)
    (h : passes Generated.guards_labeled_bbox env = true) : PreBbox env :=
  (passes_iff.1 h).1 hf

/-- **C11-T1 (cooccurence).** With a caller-supplied 2-D `output` that passes the guards of `texture.cooccurence`, both
dimensions of the output exceed the largest pixel value. -/
theorem C11_cooccurence_guards_imply_pre (env : Env) (hf : (env "f").kind = 1) (ho : (env "output").kind = 1)
    (h2 : (env "output").shape.length = 2)
    (h : passes Generated.guards_features_texture_cooccurence env = true) : PreCooccurence env := by
  obtain ⟨-, -, -, h4, -⟩ := passes_iff.1 h
  have := h4 ho ho hf h2
  unfold PreCooccurence
  omega

/-- **C11-T1 (the helper `_check_rank`).** `convolve._check_rank(Bc, rank, fname)` raises unless
`0 ≤ rank < count_nonzero(Bc)`. That `rank_filter` and `median_filter` hand the very objects it has checked to
`_convolve.rank_filter` is `C11_rank_guards_imply_pre` (from the extracted check flows). -/
theorem C11_check_rank_helper_pre (env : Env) (hr : (env "rank").kind = 2) (hb : (env "Bc").kind = 1)
    (h : passes Generated.guards_convolve__check_rank env = true) : PreRank env :=
  (passes_iff.1 h).1 hr hb

/-- **C11-T1 (convolve1d fast path).** The test in front of the call of `_convolve.convolve1d` in `convolve.convolve1d`,
read on the values of the locals at that point, gives `len(weights) < f.shape[axis]`. -/
theorem C11_convolve1d_reach_implies_pre (env : Env)
    (h : passes Generated.reach_convolve_convolve1d env = true) : PreConv1dFast env := by
  obtain ⟨-, ⟨-, -, -, -, -, hlt⟩, -⟩ := passes_iff.1 h
  exact Int.ofNat_lt.2 hlt

/-- **C11-T1 (shift / zoom_shift).** Wrapper `interpolate.shift`: every entry of the shift is finite. Native
`py_zoom_shift`: image and output are ndarrays and C arrays; a `shifts` (`zooms`) ndarray is a C array, and when it has
at least one axis its first axis has one entry per dimension of the image. (A 0-dimensional `shifts`/`zooms` array is
not rejected: `PyArray_DIM(shifts, 0)` is then read past the empty dimension list — only reachable by calling the
native function directly.) -/
theorem C11_zoom_shift_guards_imply_pre (env : Env) :
    (passes Generated.guards_interpolate_shift env = true → PreShift env) ∧
    (npasses Generated.nativeGuards_interpolate_zoom_shift env = true →
      ((env "array").kind = 1 ∧ (env "output").kind = 1) ∧ PreZoomShift env) := by
  constructor
  · exact fun h => (passes_iff.1 h).1
  · intro h
    obtain ⟨-, ⟨ha, ho, -⟩, h2, h3, -, h5, -, h7, h8, -, h10, -⟩ := npasses_iff.1 h
    exact ⟨⟨ha, ho⟩, h2 ha, h3 ho, fun hs => ⟨h8 hs hs, h10 hs hs ha⟩, fun hz => ⟨h5 hz hz, h7 hz hz ha⟩⟩

/-- **C11-T1 (get_structuring_elem).** An ndarray `Bc` that passes the guards has the rank of the image and at least one
element (no zero-length axis). -/
theorem C11_structuring_elem_guards_imply_pre (env : Env) (ha : (env "A").kind = 1) (hb : (env "Bc").kind = 1)
    (h : passes Generated.guards_morph_get_structuring_elem env = true) : PreStructElem env := by
  obtain ⟨h1, h2, -⟩ := passes_iff.1 h
  exact ⟨h1 hb ha hb, Nat.pos_of_ne_zero (h2 hb hb)⟩

/-- an empty 2-D array takes the early return of `py_dt` (atom 4, action 4); hitmiss with `Bc` of another rank is
    rejected by the wrapper; a structuring element with a zero-length axis by `get_structuring_elem` -/
example :
    nfirstReject Generated.nativeGuards_distance_dt (fun n =>
      if n = "f" then { kind := 1, ndim := 2, shape := [0, 3], tnum := 12, flags := 7 } else {}) = some 4 ∧
    firstReject Generated.guards_morph_hitmiss (fun n =>
      if n = "input" then { kind := 1, ndim := 2, shape := [4, 4] } else
      if n = "Bc" then { kind := 1, ndim := 1, shape := [3] } else {}) = some 0 ∧
    firstReject Generated.guards_morph_get_structuring_elem (fun n =>
      if n = "A" then { kind := 1, ndim := 2, shape := [4, 4] } else
      if n = "Bc" then { kind := 1, ndim := 2, shape := [0, 3] } else {}) = some 1 := by
  decide +kernel

/-- **C11+C10 (find), links extracted.** Let the wrapper guards of `convolve.find` pass on ndarrays `f`, `template`
(well-formed descriptors `envW`), and let the descriptors `envN` of what the native `py_find2d` receives be linked to them
by the argument links the translator extracted from the CURRENT source of `convolve.find` for its call of
`_convolve.find2d` (`Generated.links_convolve_find__convolve_find2d`: `array` is `f` itself, `target` a rank-and-shape
preserving conversion of `template`, `output` a fresh C array of the shape of `f`). Then `array` is `n0 × n1`, `target` is
`t0 × t1`, `output` is `n0 × n1` in C order, and for a template with at least one element per axis every access
`array.at(y+sy, x+sx)`, `target.at(sy, sx)`, `out.at(y, x)` of the C10 model (with the strict and with the inclusive loop
bound) is in bounds. The native guards are not even needed. -/
theorem C11_find2d_safe (envW envN : Env) (incl : Bool)
    (hf : (envW "f").kind = 1) (ht : (envW "template").kind = 1)
    (wff : (envW "f").wf) (wft : (envW "template").wf)
    (hw : passes Generated.guards_convolve_find envW = true)
    (hl : Linked Generated.lookupTables Generated.links_convolve_find__convolve_find2d envW envN = true) :
    ∃ n0 n1 t0 t1 : Nat, (envN "array").shape = [n0, n1] ∧ (envN "target").shape = [t0, t1] ∧ (envN "output").shape = [n0, n1] ∧
      (envN "output").isCArray = true ∧
      (1 ≤ t0 → 1 ≤ t1 → ∀ a ∈ find2dAccesses n0 n1 t0 t1 incl, 0 ≤ a.i ∧ a.i < a.size) := by
  obtain ⟨h2, h3, -⟩ := passes_iff.1 hw
  obtain ⟨ha, hlt, hlo, -⟩ := linked_iff.1 hl
  obtain ⟨-, -, hts⟩ := hlt ht
  obtain ⟨-, -, hos, hoc⟩ := hlo hf
  obtain ⟨n0, n1, ea⟩ := Desc.shape_of_ndim_two wff (h2 hf)
  obtain ⟨t0, t1, et⟩ := Desc.shape_of_ndim_two wft (h3 ht)
  refine ⟨n0, n1, t0, t1, by rw [ha, ea], by rw [hts, et], by rw [hos, ea], hoc, fun h0 h1 => ?_⟩
  exact C10_find2d_in_bounds n0 n1 t0 t1 incl (by omega) (by omega)

/-- **C11+C10 (majority_filter), links extracted.** Let the wrapper guards of `morph.majority_filter` pass on an ndarray
`img` and an integer `N`; let `envN` be linked to the caller's arguments by the extracted links of the call of
`_morph.majority_filter` (`array` a rank-and-shape preserving conversion of `img`, `res_a` the output of `_get_output` for
it; the link of `N` is `other` — the wrapper may add 1 to an even `N` — so "the native `N` is `N` or `N + 1`" is the hypothesis
`hN2`; either value is ≥ 2 whenever the wrapper guard `N <= 1` has passed). Then `array` and `res_a` are
`rows × cols`, `res_a` is C-contiguous, every access of the C10 model is in bounds and all four `!=` loops leave through
their test. -/
theorem C11_majority_safe (envW envN : Env)
    (hi : (envW "img").kind = 1) (hN : (envW "N").kind = 2) (wfi : (envW "img").wf)
    (hw : passes Generated.guards_morph_majority_filter envW = true)
    (hl : Linked Generated.lookupTables Generated.links_morph_majority_filter__morph_majority_filter envW envN = true)
    (hN2 : (envN "N").ival = (envW "N").ival ∨ (envN "N").ival = (envW "N").ival + 1) :
    ∃ rows cols : Nat, (envN "array").shape = [rows, cols] ∧ (envN "res_a").shape = [rows, cols] ∧ (envN "res_a").isContig = true ∧
      (∀ a ∈ majorityAccesses rows cols (envN "N").ival, 0 ≤ a.i ∧ a.i < a.size) ∧
      majorityDone rows cols (envN "N").ival = true := by
  obtain ⟨h2, hNN⟩ := (C11_majority_guards_imply_pre envW).1 hi hN hw
  obtain ⟨hla, -, hlr, -⟩ := linked_iff.1 hl
  obtain ⟨-, -, has⟩ := hla hi
  obtain ⟨-, -, hrs, hrc⟩ := hlr hi
  obtain ⟨r, c, ea⟩ := Desc.shape_of_ndim_two wfi h2
  have := C10_majority_in_bounds r c (envN "N").ival (by omega)
  exact ⟨r, c, by rw [has, ea], by rw [hrs, ea], hrc, this⟩

/-- **C11+C10 (hitmiss), links extracted, zero-length axes included.** Let the wrapper guards of `morph.hitmiss` pass on
ndarrays `input`, `Bc`, let `envN` be linked by the extracted links of the call of `_morph.hitmiss` (`array` and `Bc` are
`.view(dtype)`s / `astype` conversions of the caller's arguments: the same RANK), and let the guards of the native
`py_hitmiss` pass (well-formed descriptors). Then (rank(`Bc`) = rank(`array`) ≥ 1 is used in the proof) `res_a` has the shape of `array`
and is a C array, and the whole main loop of the C10 model dereferences only `res.at_flat(i)`, `i < N` and `input.at_flat(i + delta)`
inside the buffer and ends through `i == N` — for ALL axis lengths: NO guard excludes a zero-length axis of the image or of
`Bc` (`C11_hitmiss_zero_axis_passes_guards`), and none is needed: an image without elements is not iterated, an empty
`Bc` has no neighbours and `slack` is then re-armed with `W + 1 > 0`; in every other case the margin test does its work
(`C10_hitmiss_margin_test_sufficient`). The whole is `hmRun_ok_all` of `Proofs/C10Hitmiss.lean`. -/
theorem C11_hitmiss_safe (envW envN : Env)
    (hi : (envW "input").kind = 1) (hB : (envW "Bc").kind = 1)
    (hw : passes Generated.guards_morph_hitmiss envW = true)
    (hl : Linked Generated.lookupTables Generated.links_morph_hitmiss__morph_hitmiss envW envN = true)
    (hn : npasses Generated.nativeGuards_morph_hitmiss envN = true)
    (wfa : (envN "array").wf) (wfb : (envN "Bc").wf) :
    (envN "res_a").shape = (envN "array").shape ∧ (envN "res_a").isCArray = true ∧
    (∀ a ∈ (hmRun (envN "array").shape (envN "Bc").shape true).1, 0 ≤ a.i ∧ a.i < a.size) ∧
    (hmRun (envN "array").shape (envN "Bc").shape true).2 = true := by
  obtain ⟨h1, h2⟩ := (C11_hitmiss_guards_imply_pre envW).1 hi hB hw
  obtain ⟨-, h3, h4⟩ := (C11_hitmiss_guards_imply_pre envN).2 hn
  obtain ⟨hla, hlb, -⟩ := linked_iff.1 hl
  obtain ⟨-, hna⟩ := hla hi
  obtain ⟨-, hnb⟩ := hlb hB
  unfold Desc.wf at wfa wfb
  have hne : (envN "array").shape ≠ [] := fun e => by simp [e] at wfa; omega
  exact ⟨h3, h4, hmRun_ok_all (envN "array").shape (envN "Bc").shape hne (by omega)⟩

/-- **C11+C10 (center_of_mass).** If the guards of the native `py_center_of_mass` pass and labels are given, then for
every label in `[0, max_label]` (the kernel rejects negative labels and computes `max_label` itself) every access of the
C10 model — `labels[i]` for `i < img.size` in a labels buffer of `labels.size` elements, `totals[label]`,
`centers[label·ndim + j]` — is in bounds. -/
theorem C11_center_of_mass_safe (env : Env) (nd maxlabel label : Int)
    (hn : npasses Generated.nativeGuards_center_of_mass_center_of_mass env = true)
    (hl : (env "labels_obj").kind ≠ 0) (h0 : 0 ≤ label) (h1 : label ≤ maxlabel) :
    ∀ a ∈ comAccesses nd maxlabel label (env "array").size (env "labels_obj").size, 0 ≤ a.i ∧ a.i < a.size := by
  obtain ⟨-, hp⟩ := C11_center_of_mass_guards_imply_pre env hn
  obtain ⟨-, -, -, hsz⟩ := hp hl
  exact C10_center_of_mass_in_bounds nd maxlabel label _ _ h0 h1 hsz

/-- **C11+C10 (convolve1d fast path).** Whenever `convolve.convolve1d` reaches the native `_convolve.convolve1d` (the
extracted branch test holds on the locals), every column index of the C10 model of the kernel — for the row length
`N1 = f.shape[axis]` and `Nf = len(weights)` weights, any border mode — is in `[0, N1)` and the first loop leaves
through its test. -/
theorem C11_convolve1d_safe (env : Env) (m : Mode)
    (h : passes Generated.reach_convolve_convolve1d env = true) :
    (∀ a ∈ conv1dAccesses m ((env "f").shape.getD (env "axis").ival.toNat 0) ((env "weights").shape.getD 0 0),
        0 ≤ a.i ∧ a.i < a.size) ∧
    conv1dDone ((env "f").shape.getD (env "axis").ival.toNat 0) ((env "weights").shape.getD 0 0) = true :=
  C10_convolve1d_python_guard m _ _ (by omega) (C11_convolve1d_reach_implies_pre env h)

/-- **C11+C10 (bbox).** If the guard of `labeled.bbox` passes on an ndarray `f` whose descriptor flag "some element is
negative" means what it says for the label at hand (`hflag`), then for every label up to the maximum the wrapper
allocates for, every `extrema[label·2·ndim + …]` of the C10 model is in range. -/
theorem C11_bbox_safe (env : Env) (nd maxlabel label : Int) (hf : (env "f").kind = 1)
    (h : passes Generated.guards_labeled_bbox env = true)
    (hflag : (env "f").hasNeg = false → 0 ≤ label) (hmax : label ≤ maxlabel) :
    ∀ a ∈ bboxAccesses nd maxlabel label, 0 ≤ a.i ∧ a.i < a.size :=
  (C10_bbox_labeled_in_bounds nd maxlabel label).1 (hflag (C11_bbox_guards_imply_pre env hf h)) hmax

/-- **C11+C10 (cooccurence).** With a caller-supplied 2-D `output` that passes the guards of `texture.cooccurence`,
`++res.at(v, v2)` is inside the output for all pixel values up to the maximum of `f` (`(env "f").ival`). -/
theorem C11_cooccurence_safe (env : Env) (v v2 : Int) (hf : (env "f").kind = 1) (ho : (env "output").kind = 1)
    (h2 : (env "output").shape.length = 2)
    (h : passes Generated.guards_features_texture_cooccurence env = true)
    (hv : v ≤ (env "f").ival) (hv2 : v2 ≤ (env "f").ival) :
    ∀ a ∈ coocAccesses ((env "output").shape.getD 0 0) ((env "output").shape.getD 1 0) v v2, 0 ≤ a.i ∧ a.i < a.size := by
  obtain ⟨h0, h1⟩ := C11_cooccurence_guards_imply_pre env hf ho h2 h
  exact C10_cooccurence_in_bounds _ _ (env "f").ival v v2 hv hv2 h0 h1

/-- **C11+C10 (dt).** If no guard of the native `py_dt` takes its exit (including the early return for an empty array),
the array is `n0 × n1` with `n0, n1 ≥ 1`, and along either axis (line length `n ∈ {n0, n1}`) every access of the C10
model of `dist_transform` is in range, under the two facts about the float comparisons that C10 states (no NaN). -/
theorem C11_dt_safe (env : Env) (cmp lt2 : Nat → Nat → Bool)
    (hn : npasses Generated.nativeGuards_distance_dt env = true) (wf : (env "f").wf)
    (hcmp : ∀ q, cmp q 0 = true) :
    ∃ n0 n1 : Nat, (env "f").shape = [n0, n1] ∧ 0 < n0 ∧ 0 < n1 ∧
      ∀ n, (n = n0 ∨ n = n1) → (∀ q, lt2 q (dtKmax cmp n) = false) →
        ∀ a ∈ dtAccesses cmp lt2 n, 0 ≤ a.i ∧ a.i < a.size := by
  obtain ⟨-, h2, h3⟩ := (C11_dt_guards_imply_pre env).1 hn
  obtain ⟨n0, n1, e⟩ := Desc.shape_of_ndim_two wf h2
  have hp : ∀ d ∈ [n0, n1], 0 < d := e ▸ all_pos_of_shapeSize_ne_zero _ h3
  refine ⟨n0, n1, e, hp n0 (by simp), hp n1 (by simp), fun n hnn hlt => ?_⟩
  exact (C10_dist_transform_in_bounds cmp lt2 n (hp n (by simpa using hnn)) hcmp hlt).1

/-- **C11+C10 (shift / zoom → zoom_shift).** Let the guards of the native `py_zoom_shift` pass on an `array` of at least
one element per axis (well-formed descriptor) and a 1-D `shifts` array. Then `array` is an aligned C array — its element
strides are the C strides of its shape — and `shifts` has exactly one entry per axis, so the kernel forms one
coordinate per axis (`coord`, after rounding/flooring; any integers: the wrapper's guard only has to keep them finite);
for every border mode and spline order, whenever no axis is flagged, every index `idxs[fi]` the kernel dereferences
(`array.data()[idxs[fi]]`, model `zsAccesses`) is in `[0, size)`. Composition of `C11_zoom_shift_guards_imply_pre` with
`C10_zoom_shift_in_bounds`. -/
theorem C11_zoom_shift_safe (env : Env) (m : Mode) (order : Nat) (coord starts : List Int)
    (hn : npasses Generated.nativeGuards_interpolate_zoom_shift env = true)
    (hsk : (env "shifts").kind = 1) (hs1 : 1 ≤ (env "shifts").shape.length)
    (hnd : (env "array").ndim = (env "array").shape.length)
    (hpos : ∀ d ∈ (env "array").shape, 0 < d)
    (hc : coord.length = (env "shifts").shape.getD 0 0)
    (hst : C10.zsStarts m order (env "array").shape coord = some starts) :
    (env "array").isCArray = true ∧
    ∀ idx ∈ C10.zsAccesses (env "array").shape (C10.cStrides (env "array").shape) order starts,
      0 ≤ idx ∧ idx < (shapeSize (env "array").shape : Int) := by
  obtain ⟨_, hca, _, hsh, _⟩ := (C11_zoom_shift_guards_imply_pre env).2 hn
  have hlen : coord.length = (env "array").shape.length := by
    rw [hc, (hsh hsk).2 hs1, hnd]
  have hsl : starts.length = (env "array").shape.length :=
    C10.zsStarts_length m order (env "array").shape coord starts hlen hst
  exact ⟨hca, (C10_zoom_shift_in_bounds (env "array").shape order starts hpos hsl).2.1⟩

/-- **C11-T3 (rejects are exceptions).** Over the whole generated table of exit actions (every guard atom of the 51
wrappers and of the 52 native entry points; the table is aligned with the guard lists — its second component is the
length of the list): every wrapper guard `raise`s; every native guard either sets a Python error and returns NULL
(`PyErr_SetString`/`PyErr_Format`/`PyErr_NoMemory`/`throw PythonException`, or `!PyArg_ParseTuple`, or a failed callee
that has set the error itself: numpy allocation, `dcoeffs`, `check_pyramid_parameters`), or is an early successful
return (`py_dt` on an empty array, `py_majority_filter` with a window larger than the image) — EXCEPT exactly the two
type/layout tests of `_convex.convexhull` (`!PyArray_ISCARRAY(array)`, `!PyArray_EquivTypenums(PyArray_TYPE(array),
NPY_BOOL)`), which `return 0` with no error set: CPython turns that into `SystemError: NULL result without error`
(still an exception, never a crash; reachable only by calling `_convex.convexhull` directly, the wrapper converts
with `np.require(…, 'CAW')`). -/
theorem C11_rejects_are_exceptions :
    (Generated.guardActionTable.all fun e => e.2.1 == e.2.2.length) = true ∧
    ((Generated.guardActionTable.filter fun e => e.1 != "n:_convex.convexhull").all fun e =>
        e.2.2.all fun a => actionIsException a || a == 5 || actionIsEarlyReturn a) = true ∧
    (Generated.guardActionTable.filter fun e => e.2.2.any (· == 3)).map (·.2.2) = [[2, 3, 3]] ∧
    (Generated.guardActionTable.filter fun e => e.2.2.any actionIsEarlyReturn).map (·.2.2) =
      [[2, 1, 1, 1, 4], [2, 1, 1, 1, 1, 1, 1, 1, 4, 4]] ∧
    ((Generated.guardActionTable.filter fun e => (e.1.toList.take 2 == "w:".toList)).all fun e => e.2.2.all (· == 0)) = true := by
  -- evaluation of the table; strings are what costs: the last conjunct reads the keys by their first byte
  -- (`all_wrapperKeys`), the second compares the key only on the row whose actions fail the test (`all_filter_or`)
  refine ⟨by decide +kernel, ?_, by decide +kernel, by decide +kernel, all_wrapperKeys _ _ (by decide +kernel)⟩
  rw [all_filter_or]
  decide +kernel

example : Generated.guardActionTable.length = 103 ∧ Generated.nativeGuardTable.length = 52 := by decide +kernel

/-- **C11 (links, border mode).** Over the whole extracted link table (every call of a native entry point in every
Python module of the package): each C parameter named `mode` receives `T[p]` for a module-level dictionary `T` whose
values — extracted into `Generated.lookupTables` — all lie in `0 … 5`, the six `ExtendMode` values the kernels switch on
(an unknown key raises `KeyError` in Python before the call). No native entry point checks its `mode` itself. -/
theorem C11_mode_links_in_range :
    (Generated.argLinkTable.all fun e => e.2.2.2.all fun pl =>
      match pl.2 with
      | .lookup t _ => pl.1 == "mode" &&
          Generated.lookupTables.any (fun tb => tb.1 == t && tb.2.all (fun v => decide (0 ≤ v) && decide (v ≤ 5)))
      | _ => pl.1 != "mode") = true := by
  decide +kernel

/-- the meaning of a `lookup` link into `mode2int` on a descriptor: an integer in `0 … 5` -/
theorem C11_mode_link_sound (envW : Env) (d : Desc) (p : String)
    (h : (Link.lookup "mode2int" p).holds Generated.lookupTables envW d = true) : d.kind = 2 ∧ modeInRange d := by
  obtain ⟨hk, e, he, -, hm⟩ := Link.holds_eq_true.1 h
  cases List.mem_singleton.1 he
  exact ⟨hk, (by decide : ∀ v ∈ [0, 1, 2, 3, 4, 5], (0 : Int) ≤ v ∧ v ≤ 5) _ hm⟩

/-- **C11-T1 (convolve).** Native `py_convolve`: `array` and `filter` are ndarrays of one element type and the same
rank; `output` is `None` or an ndarray, and then a C array of the shape (and type) of `array`. Wrapper
`convolve.convolve`: ndarrays `f`, `weights` pass only with equal ranks. -/
theorem C11_convolve_guards_imply_pre (env : Env) :
    (npasses Generated.nativeGuards_convolve_convolve env = true →
      ((env "array").kind = 1 ∧ (env "filter").kind = 1 ∧ ((env "output").kind = 0 ∨ (env "output").kind = 1)) ∧ PreConvolve env) ∧
    ((env "f").kind = 1 → (env "weights").kind = 1 → passes Generated.guards_convolve_convolve env = true →
      (env "f").ndim = (env "weights").ndim) := by
  constructor
  · intro h
    obtain ⟨-, ⟨ha, hf, -⟩, -, h3, -, h5, h6, -, h8, -⟩ := npasses_iff.1 h
    exact ⟨⟨ha, hf, Decidable.or_iff_not_imp_left.2 fun ho => (h5 ho).1⟩, h3 ha hf,
      fun ho => ⟨h6 ho (h5 ho).1 ha, h8 ho (h5 ho).1⟩⟩
  · exact fun hf hw h => (passes_iff.1 h).1 hf hw

/-- **C11+C10 (convolve), links extracted.** Let the wrapper guard of `convolve.convolve` pass on ndarrays `f`,
`weights` (well-formed descriptors, `f` with at least one element per axis) and let `envN` be linked by the extracted
links of the call of `_convolve.convolve` (`array` is `f` or, when `out=` shares memory with `f` (381e26d), a copy of it:
the link is `norm f`, same rank and shape; `filter` a rank-and-shape preserving conversion of `weights`, `output` from
`_get_output(f, out)`, `mode` a value of `mode2int`). Then the filter has the rank of the array,
the output has its shape and is contiguous, the mode is one of the six border modes, and for EVERY border mode the offset
table the filter iterator builds (C10 B1, `filterIdx`) holds only the flag or indices inside the array. -/
theorem C11_convolve_safe (envW envN : Env) (m : Mode)
    (hf : (envW "f").kind = 1) (hwk : (envW "weights").kind = 1)
    (wff : (envW "f").wf) (wfw : (envW "weights").wf)
    (hw : passes Generated.guards_convolve_convolve envW = true)
    (hl : Linked Generated.lookupTables Generated.links_convolve_convolve__convolve_convolve envW envN = true)
    (hpos : ∀ d ∈ (envW "f").shape, 0 < d) :
    (envN "filter").shape.length = (envN "array").shape.length ∧ (envN "output").shape = (envN "array").shape ∧
    (envN "output").isContig = true ∧ modeInRange (envN "mode") ∧
    filterOk m (envN "array").shape (envN "filter").shape = true ∧
    ∀ i ∈ filterIdx m (envN "array").shape (envN "filter").shape, i = -1 ∨ (0 ≤ i ∧ i < (shapeSize (envN "array").shape : Int)) := by
  have hr := (C11_convolve_guards_imply_pre envW).2 hf hwk hw
  obtain ⟨hla, hlf, hlo, hlm, -⟩ := linked_iff.1 hl
  obtain ⟨-, -, ha⟩ := hla hf
  obtain ⟨-, -, hfs⟩ := hlf hwk
  obtain ⟨-, -, hos, hoc⟩ := hlo hf
  unfold Desc.wf at wff wfw
  have hlen : (envN "filter").shape.length = (envN "array").shape.length := by rw [hfs, ha]; omega
  exact ⟨hlen, by rw [hos, ha], hoc, (C11_mode_link_sound envW _ _ (Link.holds_eq_true.2 hlm)).2,
    C10_filter_table_ok m _ _ (by rw [ha]; exact hpos) hlen⟩

/-- **C11-T1 (erode, dilate).** Native `py_erode` / `py_dilate`: three ndarrays of one element type, `Bc` of the rank of
`array`, `output` of its shape. -/
theorem C11_morph_guards_imply_pre (env : Env) :
    (npasses Generated.nativeGuards_morph_erode env = true →
      ((env "array").kind = 1 ∧ (env "Bc").kind = 1 ∧ (env "output").kind = 1) ∧ PreMorph env) ∧
    (npasses Generated.nativeGuards_morph_dilate env = true →
      ((env "array").kind = 1 ∧ (env "Bc").kind = 1 ∧ (env "output").kind = 1) ∧ PreMorph env) := by
  constructor <;> intro h <;>
  · obtain ⟨-, ⟨ha, hb, ho, -⟩, h2, h3, h4, -⟩ := npasses_iff.1 h
    obtain ⟨tb, tout, -⟩ := h3 ha hb ho
    exact ⟨⟨ha, hb, ho⟩, h4 ha hb, (h2 ha ho).symm, tb, tout⟩

/-- **C11+C10 (erode / dilate), links extracted.** For an ndarray `A` with at least one element per axis: with the
extracted links of `morph.erode` → `_morph.erode` (the links of `morph.dilate` → `_morph.dilate` are the same list: second
conjunct) — `array` is `A` or, when `out=` shares memory with `A` (b59f356), a copy of it: the link is `norm A`, same rank
and shape —, `Bc` comes from `get_structuring_elem(A, Bc)` (the rank of `A`, at least one element: NON-EMPTY), `output`
from `_get_output(A, out)` — the structuring element has the rank of the array and no zero-length axis, the output has the
shape of the array, and for every border mode the offset table of the filter iterator (C10 B1) holds only the flag or
indices inside the array. -/
theorem C11_erode_dilate_safe (envW envN : Env) (m : Mode)
    (hA : (envW "A").kind = 1) (wfA : (envW "A").wf)
    (hl : Linked Generated.lookupTables Generated.links_morph_erode__morph_erode envW envN = true)
    (hpos : ∀ d ∈ (envW "A").shape, 0 < d) :
    Generated.links_morph_dilate__morph_dilate = Generated.links_morph_erode__morph_erode ∧
    (envN "Bc").shape.length = (envN "array").shape.length ∧ (∀ d ∈ (envN "Bc").shape, 0 < d) ∧
    (envN "output").shape = (envN "array").shape ∧
    filterOk m (envN "array").shape (envN "Bc").shape = true ∧
    ∀ i ∈ filterIdx m (envN "array").shape (envN "Bc").shape, i = -1 ∨ (0 ≤ i ∧ i < (shapeSize (envN "array").shape : Int)) := by
  obtain ⟨hla, hlb, hlo, -⟩ := linked_iff.1 hl
  obtain ⟨-, -, ha⟩ := hla hA
  obtain ⟨-, hbn, hbw, hbs⟩ := hlb hA
  obtain ⟨-, -, hos, -⟩ := hlo hA
  unfold Desc.wf at wfA
  have hlen : (envN "Bc").shape.length = (envN "array").shape.length := by rw [ha]; omega
  exact ⟨rfl, hlen, all_pos_of_shapeSize_ne_zero _ (Nat.ne_of_gt hbs), by rw [hos, ha],
    C10_filter_table_ok m _ _ (by rw [ha]; exact hpos) hlen⟩

/-- **C11-T1 (label).** Native `py_label`: `array` (labeled in place) is an int32 C array and `filter` has its element
type. With the extracted links of `labeled.label` → `_labeled.label` on an ndarray `array`: what is labeled is the output
of `_get_output(array, out, …, np.int32)` — of the SHAPE of the caller's array — and the structuring element comes from
`get_structuring_elem` for it: the rank of the array, non-empty. (The native entry point does not compare the ranks
itself.) -/
theorem C11_label_guards_imply_pre (envW envN : Env) :
    (npasses Generated.nativeGuards_labeled_label envN = true →
      ((envN "array").kind = 1 ∧ (envN "filter").kind = 1) ∧ PreLabel envN) ∧
    ((envW "array").kind = 1 →
      Linked Generated.lookupTables Generated.links_labeled_label__labeled_label envW envN = true →
      (envN "array").shape = (envW "array").shape ∧ (envN "filter").ndim = (envN "array").ndim ∧ 0 < (envN "filter").size) := by
  constructor
  · intro h
    obtain ⟨-, ⟨ha, hf, -⟩, h2, h3, h4, -⟩ := npasses_iff.1 h
    exact ⟨⟨ha, hf⟩, h3 ha, h4 ha, (h2 ha hf).1⟩
  · intro hk hl
    obtain ⟨hla, hlf, -⟩ := linked_iff.1 hl
    obtain ⟨-, han, has, -⟩ := hla hk
    obtain ⟨-, hfn, -, hfs⟩ := hlf hk
    exact ⟨has, hfn.trans han.symm, hfs⟩

/-- **C11+C10 (label).** With the links of `labeled.label` on an ndarray with at least one element per axis (well formed)
and a well-formed element descriptor: for every border mode the offset table of the filter iterator over the labeled
array and the structuring element (C10 B1) holds only the flag or indices inside the array. -/
theorem C11_label_safe (envW envN : Env) (m : Mode)
    (hk : (envW "array").kind = 1)
    (hl : Linked Generated.lookupTables Generated.links_labeled_label__labeled_label envW envN = true)
    (wfa : (envN "array").wf) (wff : (envN "filter").wf)
    (hpos : ∀ d ∈ (envW "array").shape, 0 < d) :
    filterOk m (envN "array").shape (envN "filter").shape = true ∧
    ∀ i ∈ filterIdx m (envN "array").shape (envN "filter").shape, i = -1 ∨ (0 ≤ i ∧ i < (shapeSize (envN "array").shape : Int)) := by
  obtain ⟨hs, hr, -⟩ := (C11_label_guards_imply_pre envW envN).2 hk hl
  unfold Desc.wf at wfa wff
  exact C10_filter_table_ok m (envN "array").shape (envN "filter").shape (by rw [hs]; exact hpos) (by omega)

/-- **C11-T1 (rank_filter, median_filter) — the data flow of `_check_rank` modelled.** `envH` describes the arguments of the
helper `convolve._check_rank(Bc, rank, fname)`, `envN` those of the native `_convolve.rank_filter`. The translator's value
numbering of the locals of `convolve.rank_filter` and `convolve.median_filter` (`Generated.checkFlowTable`, rows 1 and 0)
shows that the very `Bc` object the helper has checked, and the checked `rank` (`int(rank)` of it in `median_filter`), are
what the native entry point receives, with no store in between. Hence: if the helper's guards — as extracted — pass, the
rank selects an element of the neighbourhood at the native call: `0 ≤ rank < count_nonzero(Bc)`. The native guards add:
same rank of array and `Bc`, one element type, a C-array output. -/
theorem C11_rank_guards_imply_pre (envH envN : Env) (hr : (envH "rank").kind = 2) (hb : (envH "Bc").kind = 1)
    (h : passes Generated.guards_convolve__check_rank envH = true) :
    Generated.checkFlowTable.take 2 =
      [("convolve.median_filter", "_check_rank", "_convolve.rank_filter", 0, [("Bc", "Bc", 0), ("rank", "rank", 1)]),
       ("convolve.rank_filter", "_check_rank", "_convolve.rank_filter", 0, [("Bc", "Bc", 0), ("rank", "rank", 0)])] ∧
    (Flows [("Bc", "Bc", 0), ("rank", "rank", 0)] envH envN = true → PreRank envN) ∧
    (Flows [("Bc", "Bc", 0), ("rank", "rank", 1)] envH envN = true → PreRank envN) ∧
    (npasses Generated.nativeGuards_convolve_rank_filter envN = true → PreRankN envN) := by
  have hp := C11_check_rank_helper_pre envH hr hb h
  unfold PreRank at hp ⊢
  refine ⟨by rfl, ?_, ?_, ?_⟩
  · intro hf
    obtain ⟨h1, h2, -⟩ := flows_iff.1 hf
    rw [h1, h2]; exact hp
  · intro hf
    obtain ⟨h1, h2, -⟩ := flows_iff.1 hf
    rw [h1, (h2 hr).2]; exact hp
  · intro hn
    obtain ⟨-, ⟨ha, -⟩, ⟨hb', -⟩, ⟨ho, -⟩, h4, h5, h6, h7, -⟩ := npasses_iff.1 hn
    exact ⟨h5 ha hb', (h4 ha hb').1, (h6 ha ho).1, h7 ho⟩

/-- **C11 (hitmiss): the precondition "every axis positive" is NOT implied by the guards.** A 4 × 4 image with a 0 × 3
structuring element (and a 4 × 4 C-array result) passes every guard of the wrapper `morph.hitmiss` and of the native
`py_hitmiss`, and is linked by the extracted links, while `Bc` has a zero-length axis (last conjunct; `C11_hitmiss_safe` asks
for no positive axes and covers it). (Run on the real code by the corpus cases `corpus/C11/hitmiss_zero_axis_*.json` under
AddressSanitizer: no crash — with a zero-length axis the neighbour list is empty, so only `res.at_flat(i)`, `i < N`, is
touched.) -/
theorem C11_hitmiss_zero_axis_passes_guards :
    let envW : Env := fun n =>
      if n = "input" then { kind := 1, ndim := 2, dcls := 2, shape := [4, 4], tnum := 2, flags := 7 } else
      if n = "Bc" then { kind := 1, ndim := 2, dcls := 2, shape := [0, 3], tnum := 2, flags := 7 } else {}
    let envN : Env := fun n =>
      if n = "array" then { kind := 1, ndim := 2, dcls := 2, shape := [4, 4], tnum := 2, flags := 7 } else
      if n = "Bc" then { kind := 1, ndim := 2, dcls := 2, shape := [0, 3], tnum := 2, flags := 7 } else
      if n = "res_a" then { kind := 1, ndim := 2, dcls := 2, shape := [4, 4], tnum := 2, flags := 7 } else {}
    passes Generated.guards_morph_hitmiss envW = true ∧ npasses Generated.nativeGuards_morph_hitmiss envN = true ∧
    Linked Generated.lookupTables Generated.links_morph_hitmiss__morph_hitmiss envW envN = true ∧
    ¬ (∀ d ∈ (envN "Bc").shape, 0 < d) := by
  decide +kernel

/-- **C11-T1 (surf, interest_points, pyramid).** The guards of the three native SURF entry points — with the tests of
`check_pyramid_parameters` inlined by the translator — let the pyramid
be built only for a 2-D array, `1 ≤ nr_octaves ≤ 30`, `nr_intervals ≥ 1`, `initial_step_size ≥ 1` (the integer parameters
are C ints by the `"Oiii…"` format). The remaining test of the checker (filter sizes fit an `int`) is floating point and
stays opaque. -/
theorem C11_surf_guards_imply_pre (env : Env)
    (ho : (env "nr_octaves").kind = 2) (hi : (env "nr_intervals").kind = 2) (hs : (env "initial_step_size").kind = 2) :
    (npasses Generated.nativeGuards_surf_surf env = true → (env "array").kind = 1 ∧ (env "array").tnum = 12 ∧ PreSurf env) ∧
    (npasses Generated.nativeGuards_surf_interest_points env = true → (env "array").kind = 1 ∧ PreSurf env) ∧
    (npasses Generated.nativeGuards_surf_pyramid env = true → (env "array").kind = 1 ∧ PreSurf env) := by
  refine ⟨fun h => ?_, fun h => ?_, fun h => ?_⟩
  · obtain ⟨-, ⟨ha, -⟩, h2, h3, h4, h5, h6, h7, -⟩ := npasses_iff.1 h
    exact ⟨ha, h3 ha, h2 ha, h4 ho, h5 ho, h6 hi, h7 hs⟩
  all_goals
    obtain ⟨-, ⟨ha, -⟩, h2, h4, h5, h6, h7, -⟩ := npasses_iff.1 h
    exact ⟨ha, h2 ha, h4 ho, h5 ho, h6 hi, h7 hs⟩

/-- **C11-T1 (shift, zoom, spline_filter: spline order).** The helper `interpolate._check_interpolate(array, order, …)`
raises unless `1 ≤ order ≤ 4`; by the translator's value numbering (`Generated.checkFlowTable`, rows 2–5) the `order` it
has checked — reached from `shift` and `zoom` through `_maybe_filter` — is the very object passed as `order` to
`_interpolate.zoom_shift` / `_interpolate.spline_filter1d`. Together with `C11_zoom_shift_guards_imply_pre` (finite shift,
C arrays, one shift/zoom entry per axis). -/
theorem C11_interpolate_order_guards_imply_pre (envH envN : Env) (ho : (envH "order").kind = 2)
    (h : passes Generated.guards_interpolate__check_interpolate envH = true) :
    (Generated.checkFlowTable.drop 2).map (fun e => (e.1, e.2.2.1, e.2.2.2.2)) =
      [("interpolate.spline_filter1d", "_interpolate.spline_filter1d", [("order", "order", 0)]),
       ("interpolate.spline_filter", "_interpolate.spline_filter1d", [("order", "order", 0)]),
       ("interpolate.zoom", "_interpolate.zoom_shift", [("order", "order", 0)]),
       ("interpolate.shift", "_interpolate.zoom_shift", [("order", "order", 0)])] ∧
    (Flows [("order", "order", 0)] envH envN = true → PreOrder envN) := by
  refine ⟨by rfl, fun hf => ?_⟩
  obtain ⟨h1, h2, -⟩ := passes_iff.1 h
  rw [PreOrder, (flows_iff.1 hf).1]
  exact ⟨h1 ho, Int.lt_add_one_iff.1 (h2 ho)⟩

/-- **C11+C10 (haar, ihaar, daubechies, idaubechies): odd sizes are safe.** If the guards of a native wavelet entry point
pass, the array is a matrix `n0 × n1` (well-formed descriptor); NO guard asks for even sizes, and none is needed: for every
row length `n1 ≥ 0` — odd included — and every number of coefficients, every access of the C10 models of `haar`, `ihaar`
(any column step ≥ 1), `wavelet`, `iwavelet` is in bounds and the loops leave through their tests. (The second call of each
wrapper passes `f.T`: link `other`, a matrix again.) -/
theorem C11_wavelet_safe (env : Env) (wf : (env "array").wf) :
    (npasses Generated.nativeGuards_convolve_haar env = true ∨ npasses Generated.nativeGuards_convolve_ihaar env = true ∨
     npasses Generated.nativeGuards_convolve_wavelet env = true ∨ npasses Generated.nativeGuards_convolve_iwavelet env = true ∨
     npasses Generated.nativeGuards_convolve_daubechies env = true ∨ npasses Generated.nativeGuards_convolve_idaubechies env = true) →
    PreWavelet env ∧ ∃ n0 n1 : Nat, (env "array").shape = [n0, n1] ∧
      (∀ a ∈ haarAccesses n1, 0 ≤ a.i ∧ a.i < a.size) ∧ haarDone n1 = true ∧
      (∀ step : Int, 1 ≤ step → ∀ a ∈ ihaarAccesses n1 step, 0 ≤ a.i ∧ a.i < a.size) ∧
      ∀ nc : Nat, (∀ a ∈ waveletAccesses n1 nc, 0 ≤ a.i ∧ a.i < a.size) ∧ waveletDone n1 nc = true ∧
        ∀ step : Int, 1 ≤ step → ∀ a ∈ iwaveletAccesses n1 nc step, 0 ≤ a.i ∧ a.i < a.size := by
  intro h
  have h2 : (env "array").ndim = 2 := by
    rcases h with h | h | h | h | h | h <;>
    · obtain ⟨-, ⟨ha, -⟩, h2, -⟩ := npasses_iff.1 h
      exact h2 ha
  obtain ⟨n0, n1, e⟩ := Desc.shape_of_ndim_two wf h2
  have hh := C10_haar_in_bounds n1 (by omega)
  exact ⟨h2, n0, n1, e, hh.1, hh.2.1, hh.2.2, fun nc => C10_wavelet_in_bounds n1 nc (by omega) (by omega)⟩

/-- **C11+C10 (thin).** Native `py_thin`: Boolean, contiguous `array` and `buffer` of one shape. The extracted link of
`thin.thin` for `array` is `zeroFrame r c`: `np.zeros((r + 2, c + 2), bool)` into which the wrapper has stored only at
`[1:r + 1, 1:c + 1]` (any other store would have degraded the link) — a matrix with both sides ≥ 2 whose one-pixel frame
is still zero. For such an image (`thinFrameClear`, the hypothesis `hf`, is what the link MEANS for the pixel values; the
descriptor carries only the shape) a whole sweep of the eight structuring elements is in bounds (C10 B5). -/
theorem C11_thin_safe (envW envN : Env) (img : List Bool)
    (hl : Linked Generated.lookupTables Generated.links_thin_thin__thin_thin envW envN = true)
    (hn : npasses Generated.nativeGuards_thin_thin envN = true) :
    PreThin envN ∧ ∃ rows cols : Nat, (envN "array").shape = [rows, cols] ∧ 2 ≤ rows ∧ 2 ≤ cols ∧
      ((img.length : Int) = (rows : Int) * cols → thinFrameClear rows cols img = true →
        ∀ a ∈ thinSweep rows cols img, 0 ≤ a.i ∧ a.i < a.size) := by
  obtain ⟨-, ⟨ha, hb, -⟩, h2, h3, h4, h5, h6, -⟩ := npasses_iff.1 hn
  obtain ⟨⟨-, -, hlen, hr, hc⟩, -⟩ := linked_iff.1 hl
  obtain ⟨r, c, e⟩ := shape_of_len_two (envN "array").shape hlen
  rw [e] at hr hc
  change 2 ≤ c at hc
  refine ⟨⟨h2 ha, h3 hb, h4 ha hb, h5 ha, h6 hb⟩, r, c, e, hr, hc, fun hlen2 hf => ?_⟩
  exact (C10_thin_in_bounds r c img (by omega) hlen2 hf).1

/-- **C11 (links of distance, gvoronoi → dt).** A fact about the extracted link table only: `distance` passes `None` for `orig`
at both of its calls of `_distance.dt`, and `gvoronoi` calls it with the same two parameters (its `orig` link, a computed
index array, is not part of the statement). Both wrappers hand `_distance.dt` a freshly built array (links `other`:
`np.zeros(bw.shape, np.double)`), so the safety argument is the one of the native guards (`C11_dt_safe`); that `distance`'s
own guards leave rank ≥ 1 and at least one element is `C11_dt_guards_imply_pre`. -/
theorem C11_distance_links :
    (Generated.links_distance_distance__distance_dt.map (·.1) = ["f", "orig"]) ∧
    Generated.links_distance_distance__distance_dt.getD 1 default = ("orig", .noneLit) ∧
    Generated.links_distance_distance__distance_dt_1.getD 1 default = ("orig", .noneLit) ∧
    Generated.links_segmentation_gvoronoi__distance_dt.map (·.1) = ["f", "orig"] := by
  decide +kernel

/-- **C11+C10 (cooccurence), links extracted.** `array` is the caller's `f` itself and `result` the caller's `output`
(same object, zero-filled: the link is `norm output`) when one is given; with the wrapper guards passing on a 2-D
`output`, `++res.at(v, v2)` is inside the RESULT the native entry point receives for all pixel values up to the maximum of
`f`. The native guard adds that the result is int32. -/
theorem C11_cooccurence_linked_safe (envW envN : Env) (v v2 : Int) (hf : (envW "f").kind = 1) (ho : (envW "output").kind = 1)
    (h2 : (envW "output").shape.length = 2)
    (h : passes Generated.guards_features_texture_cooccurence envW = true)
    (hl : Linked Generated.lookupTables Generated.links_features_texture_cooccurence__texture_cooccurence envW envN = true)
    (hv : v ≤ (envW "f").ival) (hv2 : v2 ≤ (envW "f").ival) :
    envN "array" = envW "f" ∧
    ∀ a ∈ coocAccesses ((envN "result").shape.getD 0 0) ((envN "result").shape.getD 1 0) v v2, 0 ≤ a.i ∧ a.i < a.size := by
  obtain ⟨ha, hlr, -⟩ := linked_iff.1 hl
  obtain ⟨-, -, hrs⟩ := hlr ho
  refine ⟨ha, ?_⟩
  rw [hrs]
  exact C11_cooccurence_safe envW v v2 hf ho h2 h hv hv2

/-- **C11-T1 (lbp map, znl, cooccurence native).** What the three feature entry points check before casting the raw data
pointers: `_lbp.map` a contiguous 1-D uint32 array (mapped in place over `dim(0)` elements), `_zernike.znl` double /
complex double / double arrays, `_texture.cooccurence` an int32 result. (`znl` does NOT compare the sizes of its three
arrays — it reads `size(Da)` elements of each; `zernike_moments` builds all three with one Boolean mask.) -/
theorem C11_features_guards_imply_pre (env : Env) :
    (npasses Generated.nativeGuards_lbp_map env = true → (env "array").kind = 1 ∧ PreLbp env) ∧
    (npasses Generated.nativeGuards_zernike_znl env = true →
      ((env "Da").kind = 1 ∧ (env "Aa").kind = 1 ∧ (env "Pa").kind = 1) ∧ PreZnl env) ∧
    (npasses Generated.nativeGuards_texture_cooccurence env = true →
      ((env "array").kind = 1 ∧ (env "result").kind = 1 ∧ (env "Bc").kind = 1) ∧ PreCoocN env) := by
  refine ⟨fun h => ?_, fun h => ?_, fun h => ?_⟩
  · obtain ⟨-, ⟨ha, -⟩, h2, h3, h4, -⟩ := npasses_iff.1 h
    exact ⟨ha, h2 ha, h3 ha, h4 ha⟩
  · obtain ⟨-, ⟨hd, -⟩, ⟨ha, -⟩, ⟨hp, -⟩, h4, h5, h6, -⟩ := npasses_iff.1 h
    exact ⟨⟨hd, ha, hp⟩, h4 hd, h5 ha, h6 hp⟩
  · obtain ⟨-, ⟨ha, -⟩, ⟨hr, -⟩, ⟨hb, -⟩, -, h4, -⟩ := npasses_iff.1 h
    exact ⟨⟨ha, hr, hb⟩, h4 hr⟩

/-- **C11 (zernike_moments: radius / degree).** For EVERY integer `degree` (negative: no call at all) the loops of
`zernike_moments` call `_zernike.znl(…, n, l)` only with `0 ≤ l ≤ n ≤ degree` and `n − l` even; then for every `m` of the
kernel's loop `0 ≤ m ≤ (n − l)/2` the index `m` is inside `g_m` (allocated with `(n − l)/2 + 1` entries) and all four
arguments of `fact(·)` are non-negative — `fact` recurses without end on a negative argument (a stack overflow reachable
only by calling `_zernike.znl` directly with `l > n` or `n < 0`). The radius only divides floating-point coordinates. -/
theorem C11_zernike_loop_pre (degree : Int) :
    ∀ nl ∈ znlPairs degree, nl.2 ≤ nl.1 ∧ (nl.1 : Int) ≤ degree ∧ (nl.1 - nl.2) % 2 = 0 ∧
      ∀ m : Int, 0 ≤ m → m ≤ ((nl.1 : Int) - nl.2) / 2 →
        m < ((nl.1 : Int) - nl.2) / 2 + 1 ∧ ∀ x ∈ znlFactArgs nl.1 nl.2 m, 0 ≤ x := by
  intro nl h
  simp only [znlPairs, List.mem_flatMap, List.mem_map, List.mem_filter, List.mem_range] at h
  obtain ⟨n, hn, l, ⟨hl, hpar⟩, rfl⟩ := h
  have hle : l ≤ n := Nat.le_of_lt_succ hl
  refine ⟨hle, Int.lt_add_one_iff.1 (Int.lt_toNat.1 hn), beq_iff_eq.1 hpar,
    fun m hm0 hm1 => ⟨Int.lt_add_one_iff.2 hm1, ?_⟩⟩
  have h2 : m * 2 ≤ (n : Int) - l := Int.mul_le_of_le_ediv (by decide) hm1
  simp only [znlFactArgs, List.mem_cons, List.not_mem_nil, or_false, forall_eq_or_imp, forall_eq]
  exact ⟨by omega, hm0, Int.ediv_nonneg (by omega) (by decide), Int.ediv_nonneg (by omega) (by decide)⟩

example : znlPairs 3 = [(0, 0), (1, 1), (2, 0), (2, 2), (3, 1), (3, 3)] ∧ znlPairs (-2) = [] := by decide +kernel
example :
    Linked Generated.lookupTables Generated.links_convolve_find__convolve_find2d
      (fun n => if n = "f" then { kind := 1, ndim := 2, shape := [3, 4], tnum := 2, flags := 7 } else
                if n = "template" then { kind := 1, ndim := 2, shape := [2, 2], tnum := 12, flags := 7 } else {})
      (fun n => if n = "array" then { kind := 1, ndim := 2, shape := [3, 4], tnum := 2, flags := 7 } else
                if n = "target" then { kind := 1, ndim := 2, shape := [2, 2], tnum := 2, flags := 7 } else
                if n = "output" then { kind := 1, ndim := 2, shape := [3, 4], tnum := 0, flags := 7 } else {}) = true ∧
    firstUnlinked Generated.lookupTables Generated.links_convolve_find__convolve_find2d
      (fun n => if n = "f" then { kind := 1, ndim := 2, shape := [3, 4], tnum := 2, flags := 7 } else
                if n = "template" then { kind := 1, ndim := 2, shape := [2, 2], tnum := 12, flags := 7 } else {})
      (fun n => if n = "array" then { kind := 1, ndim := 2, shape := [3, 4], tnum := 2, flags := 7 } else
                if n = "target" then { kind := 1, ndim := 1, shape := [4], tnum := 2, flags := 7 } else
                if n = "output" then { kind := 1, ndim := 2, shape := [3, 4], tnum := 0, flags := 7 } else {}) = some 1 := by
  decide +kernel
example : Generated.argLinkTable.length = 64 ∧ Generated.checkFlowTable.length = 6 := by decide +kernel

/-- **C11+C10 (fullhistogram → histogram).** The extracted links of `histogram.fullhistogram` show what reaches
`_histogram.histogram`: a rank-and-shape preserving conversion of `img` (`np.require(img, requirements='CAW')`) and a bins
array built by exactly the expression `np.zeros(int(img.max()) + 1, np.uintc)` — the sizing `C10Misc.histWrapperSize`
models. If the native guards pass, both are C arrays and the bins are `uint32`; if moreover the type switch of the kernel
admits the array's type number (the UNSIGNED guard: `histTypeRange`, every admitted type has `lo = 0`) and the element
values `vals` are values of that C type and `s` is the size the wrapper computes for them (both are parameters of the statement,
the descriptor carries neither), then every `data[i]` and every `++histogram[v]` is in bounds (`C10_histogram_in_bounds`). -/
theorem C11_histogram_safe (env : Env) (lo hi : Int) (vals : List Int) (s : Int)
    (hn : npasses Generated.nativeGuards_histogram_histogram env = true)
    (hty : C10Misc.histTypeRange (env "array").tnum = some (lo, hi))
    (hv : ∀ v ∈ vals, lo ≤ v ∧ v ≤ hi) (hs : C10Misc.histWrapperSize vals = some s) :
    Generated.links_histogram_fullhistogram__histogram_histogram =
      [("array", .norm "img"), ("histogram", .other "np.zeros(int(img.max()) + 1, np.uintc)")] ∧
    ((env "array").isCArray = true ∧ (env "histogram").isCArray = true ∧ (env "histogram").tnum = 6) ∧
    ∀ a ∈ C10Misc.histAccesses vals s, 0 ≤ a.i ∧ a.i < a.size := by
  obtain ⟨-, ⟨ha, -⟩, ⟨hh, -⟩, h3, h4, h5, -⟩ := npasses_iff.1 hn
  exact ⟨rfl, ⟨h3 ha, h4 hh, h5 hh⟩, C10_histogram_in_bounds (env "array").tnum lo hi vals s hty hv hs⟩

/-- **C11+C10 (lbp map) — partial.** If the guards of the native `py_map` pass, the array is a contiguous 1-D `uint32`
array, mapped in place over its `dim(0)` elements; for every `P ≤ 32` (standing for `npoints`; the statement does not tie it to
`(env "npoints").ival`) and codes below `2^P` every access of the C10
model (the element, the shift count `P − 1` against the word size, the mapped code against the `2^P` entries of the
tables of `lbp.py`) is in bounds and the rotation loop ends. THE GAP: neither `P ≤ 32` nor `code < 2^P` is implied by a
guard — the second conjunct exhibits a descriptor with `npoints = 40` that passes every native guard (`lbp.py` passes its
`points` through unchanged: link `pass points`; the codes are sums of `points` distinct powers of two, a value fact
outside the descriptor DSL). For `P > 32` the shift count exceeds the word size (undefined behaviour, no memory access). -/
theorem C11_lbp_safe_partial (env : Env) (P : Nat) (hP : P ≤ 32)
    (hn : npasses Generated.nativeGuards_lbp_map env = true) :
    (PreLbp env ∧ ∀ codes : List Nat, (∀ v ∈ codes, v < 2 ^ P) →
      ∀ a ∈ C10Misc.lbpAccesses (P : Int) codes, 0 ≤ a.i ∧ a.i < a.size) ∧
    (npasses Generated.nativeGuards_lbp_map (fun n =>
        if n = "array" then { kind := 1, ndim := 1, shape := [5], tnum := 6, flags := 7 } else
        if n = "npoints" then { kind := 2, ival := 40 } else {}) = true ∧
      Generated.links_features_lbp_lbp_transform__lbp_map.getD 1 default = ("npoints", .pass "points")) :=
  ⟨⟨((C11_features_guards_imply_pre env).1 hn).2, (C10_lbp_map_in_bounds P hP).1⟩, by decide +kernel⟩

/-- **C11+C10 (surf / interest_points / pyramid → build_pyramid).** If the extracted guards of a native SURF entry point that
builds the pyramid pass (the integer parameters being C ints), the array is a matrix `n0 × n1` (well-formed descriptor)
and `initial_step_size ≥ 1`, which is all `C10_surf_pyramid_in_bounds` needs: every `pyramid[o]` index, all 32 integral-image
reads of the eight lobes of every sample and every write `at(i, y/step, x/step)` of the C10 model are in bounds and the
`y += step_size` loops terminate — for the octave and interval counts at hand (`1 … 30`, `≥ 1`). -/
theorem C11_surf_pyramid_safe (env : Env) (wf : (env "array").wf)
    (ho : (env "nr_octaves").kind = 2) (hi : (env "nr_intervals").kind = 2) (hs : (env "initial_step_size").kind = 2)
    (h : npasses Generated.nativeGuards_surf_surf env = true ∨ npasses Generated.nativeGuards_surf_interest_points env = true ∨
         npasses Generated.nativeGuards_surf_pyramid env = true) :
    PreSurf env ∧ ∃ n0 n1 : Nat, (env "array").shape = [n0, n1] ∧
      Mahotas.C10Surf.sAllOk (Mahotas.C10Surf.pyramidAccesses n0 n1 (env "nr_octaves").ival (env "nr_intervals").ival
        (env "initial_step_size").ival) = true ∧
      Mahotas.C10Surf.pyramidDone (env "nr_octaves").ival (env "initial_step_size").ival = true := by
  have hp : PreSurf env := by
    rcases h with h | h | h
    · exact ((C11_surf_guards_imply_pre env ho hi hs).1 h).2.2
    · exact ((C11_surf_guards_imply_pre env ho hi hs).2.1 h).2
    · exact ((C11_surf_guards_imply_pre env ho hi hs).2.2 h).2
  obtain ⟨n0, n1, e⟩ := Desc.shape_of_ndim_two wf hp.1
  exact ⟨hp, n0, n1, e, C10_surf_pyramid_in_bounds n0 n1 _ _ _ hp.2.2.2.2⟩

/-- **C11+C10 (surf.descriptors / surf.dense → descriptor sampling).** If the extracted guards of the native
`py_descriptors` pass, the integral image is a matrix `n0 × n1` of doubles (well-formed descriptor) and the points are a
2-D double array; with the `sum_rect` of 6faa5ae (two-sided clamps, empty image not read) NOTHING more is needed:
for ARBITRARY sample positions and window size — whatever the float-derived scale, rotation and border test give, also for
the small scales `surf.dense(f, 1)` passes — every read of every `haar_x`/`haar_y` sample of the C10 model is inside the
integral image (`C10_surf_descriptor_windows_in_bounds`). (That one-sided clamps would not be enough is
`C10_surf_descriptor_pinned_guard_insufficient`.) -/
theorem C11_surf_descriptors_safe (env : Env) (wf : (env "array").wf)
    (h : npasses Generated.nativeGuards_surf_descriptors env = true) (pts : List (Int × Int)) (w : Int) :
    (env "array").tnum = 12 ∧ (env "points_arr").ndim = 2 ∧ ∃ n0 n1 : Nat, (env "array").shape = [n0, n1] ∧
      Mahotas.C10Surf.sAllOk (Mahotas.C10Surf.descWindowAccesses n0 n1 pts w) = true := by
  obtain ⟨-, ⟨ha, hp, -⟩, h2, h3, -, h5, -⟩ := npasses_iff.1 h
  obtain ⟨n0, n1, e⟩ := Desc.shape_of_ndim_two wf (h2 ha)
  have h3 : canonT (env "array").tnum = 12 := h3 ha
  simp only [canonT, beq_iff_eq] at h3
  exact ⟨by split at h3 <;> (try split at h3) <;> omega, h5 hp, n0, n1, e, C10_surf_descriptor_windows_in_bounds n0 n1 pts w⟩

/-- non-vacuity: a 40 × 40 double image with one interest point row passes the guards of `py_descriptors` -/
example :
    npasses Generated.nativeGuards_surf_descriptors (fun n =>
      if n = "array" then { kind := 1, ndim := 2, dcls := 3, shape := [40, 40], tnum := 12, flags := 7 } else
      if n = "points_arr" then { kind := 1, ndim := 2, dcls := 3, shape := [1, 5], tnum := 12, flags := 7 } else {}) = true := by
  decide +kernel

/-- a row of `Generated.indexGuardTable`: every index expression of the access has an atom `x >= 0` among the tests that dominate it -/
def idxLowerGuarded (r : String × String × List String × List String × List (String × String × String)) : Bool :=
  r.2.2.1.all fun x => r.2.2.2.2.any fun a => a.1 == "geZero" && a.2.1 == x

/-- … and an atom `x < bound` -/
def idxUpperGuarded (bound : String) (r : String × String × List String × List String × List (String × String × String)) : Bool :=
  r.2.2.1.all fun x => r.2.2.2.2.any fun a => a.1 == "lt" && a.2.1 == x && a.2.2 == bound

/-- **C11+C10 (labeled_sum / labeled_max / labeled_min: `labeled_foldl`) — the in-loop test is part of the tie.** The native guards of
`py_labeled_*` (extracted by guards.py from the front of the entry point) cannot keep a DATA-dependent index inside its table; what
does is the test inside the loop of `labeled_foldl`. `translator/allocs.py: extract_index_guards` extracts from the current source
the tests that dominate the store `result[…]`: the row of `Generated.indexGuardTable` for `labeled_foldl` has, for its index
expression, both `x >= 0` and `x < maxlabel` — and behind exactly that test (`C10_labeled_foldl_in_bounds`) the access is in range
for EVERY label value (negative, e.g. a uint32/int64 label that wrapped to `INT_MIN` when narrowed to C int, or too large: skipped).
A kernel that loses the lower-bound test changes the generated row, and this theorem fails. -/
theorem C11_labeled_fold_safe (maxi label : Int) :
    ((Generated.indexGuardTable.find? fun r => r.1 == "_labeled.cpp" && r.2.1 == "labeled_foldl").map
        fun r => idxLowerGuarded r && idxUpperGuarded "maxlabel" r) = some true ∧
    ∀ a ∈ Mahotas.C10.foldlAccesses maxi label, 0 ≤ a.i ∧ a.i < a.size :=
  ⟨by decide +kernel, C10_labeled_foldl_in_bounds maxi label⟩

/-- the row a kernel without the lower-bound test would generate is rejected -/
example : (idxLowerGuarded ("_labeled.cpp", "labeled_foldl", ["label"], ["*literator"], [("lt", "label", "maxlabel")])) = false ∧
    Mahotas.C10.foldlAccesses 4 (-2147483648) = [] := by decide +kernel

/-- **C11+C10 (slic).** If the guards of the wrapper `segmentation.slic` (as extracted) pass on an ndarray and integer `spacer`,
`max_iters`, then (`C11_slic_guards_imply_pre`) the array is `(h, w, 3)`, `spacer ≥ 1`, a seed exists on both axes; hence
(`C10_slic_first_iteration_covers`) the seeding loops place at least one centroid, all inside the image, and the windows of the first
iteration cover every pixel — no pixel keeps a label that is not a centroid index — and (`C10_slic_window_in_bounds`) every window of
every later iteration, for any centroid position inside the image, is in bounds and its `!=` loops end. -/
theorem C11_slic_safe (env : Env)
    (ha : (env "array").kind = 1) (hs : (env "spacer").kind = 2) (hm : (env "max_iters").kind = 2)
    (hnd : (env "array").wf) (h : passes Generated.guards_segmentation_slic env = true) :
    ∃ S ny nx : Nat, (S : Int) = (env "spacer").ival ∧ ny = (env "array").shape.getD 0 0 ∧ nx = (env "array").shape.getD 1 0 ∧
      Mahotas.C10Slic.covered S ny nx = true ∧ 1 ≤ (Mahotas.C10Slic.seedCentroids S ny nx).length ∧
      (∀ c ∈ Mahotas.C10Slic.seedCentroids S ny nx, c.1 < ny ∧ c.2 < nx) ∧
      ∀ cy cx : Int, 0 ≤ cy → cy < ny → 0 ≤ cx → cx < nx →
        ∃ l, Mahotas.C10Slic.windowPositions ny nx S cy cx = some l ∧ Mahotas.C10Slic.inN ((ny : Int) * nx) l = true := by
  obtain ⟨-, -, hS, -, hy, hx⟩ := C11_slic_guards_imply_pre env ha hs hm hnd h
  obtain ⟨S, hS'⟩ := Int.eq_ofNat_of_zero_le (Int.le_trans (by decide) hS)
  rw [hS'] at hS hy hx
  refine ⟨S, _, _, hS'.symm, rfl, rfl, ?_⟩
  obtain ⟨c1, c2, c3⟩ :=
    C10_slic_first_iteration_covers S _ _ (by exact_mod_cast hS) (by exact_mod_cast hy) (by exact_mod_cast hx)
  refine ⟨c1, c2, c3, fun cy cx h1 h2 h3 h4 => ?_⟩
  obtain ⟨l, e, hl, -⟩ := C10_slic_window_in_bounds _ _ (S : Int) cy cx hS h1 h2 h3 h4
  exact ⟨l, e, hl⟩

/-- **C11+C10 (label, the union–find array).** With the links of `labeled.label` on an ndarray (the native `array` is the
`_get_output` buffer of the image's shape, written `output[:] = (array != 0)`), for EVERY content `data` of that buffer, every list
of neighbour offsets and both border treatments: every index `find` / `join` / `compress` dereference in the label buffer is
inside it, every `find` reaches its root within `N + 1` steps (`C10_label_union_find_in_bounds` needs no guard at all: the
invariant is established by the kernel's own initialisation loop). That the filter-iterator table is in bounds is the
separate `C11_label_safe`. -/
theorem C11_label_union_find_safe (envW envN : Env) (m : Mode)
    (hk : (envW "array").kind = 1)
    (hl : Linked Generated.lookupTables Generated.links_labeled_label__labeled_label envW envN = true)
    (data : List Int) (offs : List (List Int)) :
    (envN "array").shape = (envW "array").shape ∧
    Mahotas.C10Labeled.inRange data.length
      (Mahotas.C10Labeled.labelUF m (envN "array").shape data offs (data.length + 1)).2.1 = true ∧
    (Mahotas.C10Labeled.labelUF m (envN "array").shape data offs (data.length + 1)).2.2 = true := by
  obtain ⟨hs, -, -⟩ := (C11_label_guards_imply_pre envW envN).2 hk hl
  obtain ⟨h1, h2, -, -⟩ := C10_label_union_find_in_bounds m (envN "array").shape data offs
  exact ⟨hs, h1, h2⟩

/-- **C11+C10 (close_holes).** If the guard of the wrapper `morph.close_holes` (as extracted: `ref.ndim != 2` raises) passes on
a well-formed ndarray, the native kernel runs on a matrix: every position of the border seeding loops is inside it
(`C10_close_holes_seeding_in_bounds`: the odometer is only correct up to rank 2 — the guard is what keeps the kernel inside
its domain), and for every neighbourhood, availability map and stack the flood dereferences only positions inside the array
and drains its stack within `stack + available` pops (`C10_stack_flood_in_bounds`). -/
theorem C11_close_holes_safe (env : Env) (hk : (env "ref").kind = 1) (wf : (env "ref").wf)
    (h : passes Generated.guards_morph_close_holes env = true) :
    (∃ n0 n1 : Nat, (env "ref").shape = [n0, n1] ∧
      Mahotas.C10Flood.pAllOk (Mahotas.C10Flood.chSeedAccesses (env "ref").shape) = true) ∧
    ∀ (nb : List (List Int)) (fuel : Nat) (av : Array Bool) (st : List (List Int)),
      st.length + Mahotas.C10Flood.cntTrue av ≤ fuel →
        Mahotas.C10Flood.pAllOk (Mahotas.C10Flood.floodRun (env "ref").shape nb fuel av st).1 = true ∧
        (Mahotas.C10Flood.floodRun (env "ref").shape nb fuel av st).2.1 = true := by
  have h2 : (env "ref").ndim = 2 := (C11_2d_guards_imply_pre env).2.1 hk h
  obtain ⟨n0, n1, e⟩ := Desc.shape_of_ndim_two wf h2
  refine ⟨⟨n0, n1, e, e ▸ C10_close_holes_seeding_in_bounds.2.1 n0 n1⟩, fun nb fuel av st hf => ?_⟩
  have := C10_stack_flood_in_bounds (env "ref").shape nb fuel av st hf
  exact ⟨this.1, this.2.1⟩

/-- non-vacuity: a 4×5 image passes the guard; a 1×3×3 one is rejected — and would indeed be left by the seeding loops -/
example :
    passes Generated.guards_morph_close_holes (fun n => if n = "ref" then { kind := 1, ndim := 2, shape := [4, 5] } else {}) = true ∧
    passes Generated.guards_morph_close_holes (fun n => if n = "ref" then { kind := 1, ndim := 3, shape := [1, 3, 3] } else {}) = false ∧
    Mahotas.C10Flood.pAllOk (Mahotas.C10Flood.chSeedAccesses [1, 3, 3]) = false := by decide +kernel

/-- **C11+C10 (cooccurence) — both matrix indices are tested before the access.** `++res.at(val, val2)` indexes the result by two pixel
VALUES; the tests that dominate it in the current source (`Generated.indexGuardTable`, row `cooccurence`) contain `val >= 0` AND
`val2 >= 0` (the negation of `if (val < 0 || val2 < 0) throw …`): a negative grey level — of the centre OR of the neighbour — raises
before it is used as an index, and then (`C10_cooccurence_in_bounds`) for values up to the maximum the wrapper sized the matrix for
both indices are inside it. A kernel that tests the centre only (a neighbour is used as an index before it
has been the centre) changes the generated row, and this theorem fails. -/
theorem C11_cooccurence_index_guarded (m0 m1 maxv v v2 : Int) (hv : v ≤ maxv) (hv2 : v2 ≤ maxv) (hm0 : maxv < m0) (hm1 : maxv < m1) :
    ((Generated.indexGuardTable.find? fun r => r.1 == "_texture.cpp" && r.2.1 == "cooccurence").map
        fun r => idxLowerGuarded r && decide (r.2.2.1.length = 2)) = some true ∧
    ∀ a ∈ Mahotas.C10.coocAccesses m0 m1 v v2, 0 ≤ a.i ∧ a.i < a.size :=
  ⟨by decide +kernel, C10_cooccurence_in_bounds m0 m1 maxv v v2 hv hv2 hm0 hm1⟩

example : idxLowerGuarded ("_texture.cpp", "cooccurence", ["val", "val2"], ["*iter", "0"], [("geZero", "val", "")]) = false ∧
    Mahotas.C10.coocAccesses 4 4 2 (-1073741824) = [] := by decide +kernel

/-- **C11+C10 (otsu).** If the guards of the native `py_otsu` pass on an ndarray (`hk`: no guard of `py_otsu` tests that), the
histogram is a C-contiguous `double` array, read through a raw pointer over `SIZE(histogram)` cells — and for EVERY cell count
`n` (the statement does not tie it to the descriptor) and every outcome of the floating-point tests all accesses of `hist`,
`nB`, `nO` are in bounds (first conjunct of `C10_otsu_in_bounds`; that the threshold returned is a bin is in its other conjuncts). -/
theorem C11_otsu_safe (env : Env) (h : npasses Generated.nativeGuards_histogram_otsu env = true) (hk : (env "histogram").kind = 1)
    (n : Int) (hz : Bool) (nbz noz better : Nat → Bool) :
    (canonT (env "histogram").tnum = canonT 12 ∧ (env "histogram").isCArray = true) ∧
    Mahotas.C10Feat.allOk (Mahotas.C10Feat.otsuRun n hz nbz noz better).1 = true := by
  obtain ⟨-, h1, h2, -⟩ := npasses_iff.1 h
  exact ⟨⟨h1 hk, h2 hk⟩, (C10_otsu_in_bounds n hz nbz noz better).1⟩

/-- **C11+C10 (subm).** If the guards of the native `py_subm` pass on two ndarrays, they have the same shape, so the paired scan
`*ita … *itb` over `a.size()` elements stays inside both (`C10_pair_scan_in_bounds`). -/
theorem C11_subm_safe (env : Env) (ha : (env "a").kind = 1) (hb : (env "b").kind = 1)
    (h : npasses Generated.nativeGuards_morph_subm env = true) :
    (env "a").shape = (env "b").shape ∧
    Mahotas.C10Feat.allOk (Mahotas.C10Feat.pairScan (shapeSize (env "a").shape) (shapeSize (env "b").shape) none) = true := by
  obtain ⟨-, -, h2, -⟩ := npasses_iff.1 h
  have hs := h2 ha hb
  exact ⟨hs, (C10_pair_scan_in_bounds _ _).1.mpr (by rw [hs])⟩

/-- **C11+C10 (is_same_labeling) — partial.** The native guards make both arguments C-contiguous `int` arrays but do NOT compare
their sizes (second conjunct: a 4-element and a 3-element array pass every native guard, and the complete scan would read
`b[3]`). What keeps the kernel inside the second buffer is the wrapper's `if labeled0.shape != labeled1.shape: return False`, which
is a `return`, not a raising guard, hence not in the extracted guard list: with equal shapes (hypothesis) every prefix of the scan is
in bounds. The `featreal` cases (harness/props/c10_feat.py) run the public function on arrays of different sizes under ASan. -/
theorem C11_is_same_labeling_safe_partial (env : Env) (h0 : (env "labeled0").kind = 1) (h1 : (env "labeled1").kind = 1)
    (h : npasses Generated.nativeGuards_labeled_is_same_labeling env = true)
    (hs : (env "labeled0").shape = (env "labeled1").shape) (stop : Option Nat) :
    ((env "labeled0").isCArray = true ∧ (env "labeled1").isCArray = true ∧
      Mahotas.C10Feat.allOk (Mahotas.C10Feat.pairScan (shapeSize (env "labeled0").shape) (shapeSize (env "labeled1").shape) stop) = true) ∧
    (npasses Generated.nativeGuards_labeled_is_same_labeling (fun n =>
        if n = "labeled0" then { kind := 1, ndim := 1, shape := [4], tnum := 5, flags := 7 } else
        if n = "labeled1" then { kind := 1, ndim := 1, shape := [3], tnum := 5, flags := 7 } else {}) = true ∧
      Mahotas.C10Feat.allOk (Mahotas.C10Feat.pairScan 4 3 none) = false) := by
  obtain ⟨-, -, -, -, h4, h5, -⟩ := npasses_iff.1 h
  exact ⟨⟨h4 h0, h5 h1, (C10_pair_scan_in_bounds _ _).2 (by rw [hs]) stop⟩, by decide +kernel⟩

/-- **C11+C10 (disk_2d).** If the guards of the native `py_disk_2d` pass on a well-formed ndarray, it is a C-contiguous 2-D bool
array and `radius ≥ 0`; every store of the kernel is inside it (`C10_disk_2d_in_bounds`, which needs none of this except the
rank: the C-array guard is what makes the running pointer `iter` address cell `x0*N1 + x1`). -/
theorem C11_disk_2d_safe (env : Env) (hk : (env "array").kind = 1) (hr : (env "radius").kind = 2) (wf : (env "array").wf)
    (h : npasses Generated.nativeGuards_morph_disk_2d env = true) :
    ∃ n0 n1 : Nat, (env "array").shape = [n0, n1] ∧ (env "array").isCArray = true ∧ 0 ≤ (env "radius").ival ∧
      Mahotas.C10Feat.allOk (Mahotas.C10Feat.diskStores n0 n1 (env "radius").ival) = true := by
  obtain ⟨-, -, h2, h3, -, h5, -⟩ := npasses_iff.1 h
  obtain ⟨n0, n1, e⟩ := Desc.shape_of_ndim_two wf (h2 hk)
  exact ⟨n0, n1, e, h3 hk, h5 hr, C10_disk_2d_in_bounds n0 n1 _⟩

/-- **C11+C10 (zernike).** For every `degree < 100000` the loops of `zernike_moments` call `_zernike.znl(D, A, P, n, l)` only with
pairs for which (`C11_zernike_loop_pre`) `0 ≤ l ≤ n`; then, for arrays `A`, `P` with at least as many elements as `D` (the wrapper
passes three arrays cut by one mask `k`; the links are `other`, so this is a hypothesis), every `fact` recursion comes back and
reads inside the factorial table, every `g_m[m]`, `D[i]`, `A[i]`, `P[i]` is in bounds (`C10_znl_in_bounds`). -/
theorem C11_znl_safe (degree : Int) (hd : degree < 100000) (nd na np : Nat) (ha : nd ≤ na) (hp : nd ≤ np) :
    ∀ nl ∈ znlPairs degree,
      Mahotas.C10Feat.allOk (Mahotas.C10Feat.znlRun 100000 nl.1 nl.2 nd na np).1 = true ∧
      (Mahotas.C10Feat.znlRun 100000 nl.1 nl.2 nd na np).2 = true := by
  intro nl h
  obtain ⟨hle, hdeg, -, -⟩ := C11_zernike_loop_pre degree nl h
  exact C10_znl_in_bounds 100000 nl.1 nl.2 nd na np (by omega) (by exact_mod_cast hle) (by push_cast; omega) ha hp

/-- **C11+C10 (rank_filter, median_filter).** `envH` describes the arguments of `convolve._check_rank`, `envN` those of the native
`_convolve.rank_filter`. If the helper's guards pass and the extracted data flow holds (`Generated.checkFlowTable`: the checked
`Bc` and `rank` are what the native call receives; `hf` is the row of `rank_filter`, the row of `median_filter` gives the same
`PreRank` by `C11_rank_guards_imply_pre`), then `0 ≤ rank < count_nonzero(Bc) = N2`, and for every border mode and every
outcome of the `N2` `retrieve` calls of a pixel each `neighbours[n++]`, the `nth_element` range and `neighbours[currank]` are
valid (`C10_rank_filter_in_bounds`); the early `return` of the kernel for an out-of-range rank (which would leave the `np.empty`
output unwritten) is unreachable. -/
theorem C11_rank_filter_safe (envH envN : Env) (hr : (envH "rank").kind = 2) (hb : (envH "Bc").kind = 1)
    (h : passes Generated.guards_convolve__check_rank envH = true)
    (hf : Flows [("Bc", "Bc", 0), ("rank", "rank", 0)] envH envN = true)
    (isConst : Bool) (retr : List Bool) (hlen : retr.length = (envN "Bc").nnz) :
    (0 ≤ (envN "rank").ival ∧ (envN "rank").ival < ((envN "Bc").nnz : Int)) ∧
    Mahotas.C10Conv.allOk (Mahotas.C10Conv.rankPixelAccesses ((envN "Bc").nnz : Int) (envN "rank").ival isConst retr) = true ∧
    (0 < (Mahotas.C10Conv.rankStores isConst retr 0).2 →
      Mahotas.C10Conv.curRank ((envN "Bc").nnz : Int) (Mahotas.C10Conv.rankStores isConst retr 0).2 (envN "rank").ival <
        (Mahotas.C10Conv.rankStores isConst retr 0).2) := by
  have hp : PreRank envN := (C11_rank_guards_imply_pre envH envN hr hb h).2.1 hf
  unfold PreRank at hp
  obtain ⟨c1, -, -, -, -, -, c7⟩ :=
    C10_rank_filter_in_bounds ((envN "Bc").nnz : Int) (envN "rank").ival isConst retr (by exact_mod_cast hlen) hp.1 hp.2
  exact ⟨hp, c1, c7⟩

/-- one row of the coverage table of native entry points: the Python name of the entry point, the C10 theorems about the index
arithmetic of its hot loops (and the `C10_alloc_*` theorem of the loop shape that fills its result), the C11 theorems that lead from
the extracted guards to those theorems, the level reached — `safe`: a `C11_*_safe` corollary composes guards ⇒ precondition ⇒
bounds; `pre`: guards ⇒ precondition proved, composition with the bounds theorem not stated; `bounds`: C10 theorem only (its
hypotheses are not derived from guards, or it has none); `partial`: a `_partial` corollary that names the gap — and what is open. -/
structure EntryCover where
  entry : String
  c10 : List Lean.Name
  c11 : List Lean.Name
  level : String
  note : String

/-- the coverage table (hand-written; `Generated.nativeGuardTable` is regenerated from the sources on every run) -/
def entryCover : List EntryCover := [
  ⟨"_bbox.bbox", [``C10_bbox_in_bounds, ``C10_alloc_bbox_extrema_defined], [], "bounds", "the entry point only needs an ndarray (every rank/layout handled); no composed corollary needed"⟩,
  ⟨"_bbox.bbox_labeled", [``C10_bbox_labeled_in_bounds, ``C10_alloc_bbox_extrema_defined], [``C11_bbox_guards_imply_pre, ``C11_bbox_safe], "safe", ""⟩,
  ⟨"_center_of_mass.center_of_mass", [``C10_center_of_mass_in_bounds, ``C10_alloc_fill_defined], [``C11_center_of_mass_guards_imply_pre, ``C11_center_of_mass_safe], "safe", "the std::reverse post-pass over the centers table is not modelled"⟩,
  ⟨"_convex.convexhull", [``C10_graham_in_bounds, ``C10_alloc_convexhull_output_defined], [``C11_2d_guards_imply_pre], "pre", "the pixel scan `barray.at(y,x)` is a rows loop (C10_alloc_rows_defined shape); no composed corollary"⟩,
  ⟨"_convolve.convolve1d", [``C10_convolve1d_in_bounds, ``C10_convolve1d_python_guard, ``C10_alloc_rows_defined], [``C11_convolve1d_reach_implies_pre, ``C11_convolve1d_safe], "safe", ""⟩,
  ⟨"_convolve.convolve", [``C10_filter_table_ok, ``C10_filter_iterator_refines, ``C10_alloc_pixel_loop_defined], [``C11_convolve_guards_imply_pre, ``C11_convolve_safe], "safe", ""⟩,
  ⟨"_convolve.haar", [``C10_haar_in_bounds], [``C11_wavelet_safe], "safe", ""⟩,
  ⟨"_convolve.wavelet", [``C10_wavelet_in_bounds], [``C11_wavelet_safe], "safe", "a user-supplied coefficient array: its length is `nc` of the theorem"⟩,
  ⟨"_convolve.iwavelet", [``C10_wavelet_in_bounds], [``C11_wavelet_safe], "safe", ""⟩,
  ⟨"_convolve.daubechies", [``C10_wavelet_in_bounds, ``C10_daubechies_tables_in_bounds], [``C11_wavelet_safe], "safe", ""⟩,
  ⟨"_convolve.idaubechies", [``C10_wavelet_in_bounds, ``C10_daubechies_tables_in_bounds], [``C11_wavelet_safe], "safe", ""⟩,
  ⟨"_convolve.ihaar", [``C10_haar_in_bounds], [``C11_wavelet_safe], "safe", ""⟩,
  ⟨"_convolve.rank_filter", [``C10_filter_table_ok, ``C10_filter_iterator_refines, ``C10_rank_filter_in_bounds, ``C10_rank_filter_needs_rank_guard, ``C10_alloc_pixel_loop_defined], [``C11_rank_guards_imply_pre, ``C11_rank_filter_safe], "safe", ""⟩,
  ⟨"_convolve.mean_filter", [``C10_filter_table_ok, ``C10_filter_iterator_refines, ``C10_alloc_pixel_loop_defined], [``C11_convolve_guards_imply_pre], "pre", "no model of its own (filter iterator + pixel loop); divisor for an empty neighbourhood not modelled"⟩,
  ⟨"_convolve.template_match", [``C10_filter_table_ok, ``C10_filter_iterator_refines, ``C10_alloc_pixel_loop_defined], [``C11_template_match_guards_imply_pre], "pre", "the raw template pointer `template[j]`, j < N2 is not modelled"⟩,
  ⟨"_convolve.find2d", [``C10_find2d_in_bounds, ``C10_alloc_fill_defined], [``C11_find2d_guards_imply_pre, ``C11_find2d_safe], "safe", ""⟩,
  ⟨"_distance.dt", [``C10_dist_transform_in_bounds, ``C10_line_address, ``C10_alloc_dt_scratch_defined], [``C11_dt_guards_imply_pre, ``C11_dt_safe], "safe", "scratch arrays z, v never read before written: C10_alloc_dt_scratch_defined"⟩,
  ⟨"_histogram.histogram", [``C10_histogram_in_bounds, ``C10_histogram_needs_unsigned], [``C11_histogram_safe], "safe", ""⟩,
  ⟨"_histogram.otsu", [``C10_otsu_in_bounds], [``C11_otsu_safe], "safe", ""⟩,
  ⟨"_interpolate.spline_filter1d", [``C10_spline_filter1d_in_bounds, ``C10_line_address, ``C10_interpolate_small_tables_in_bounds], [``C11_interpolate_order_guards_imply_pre], "pre", ""⟩,
  ⟨"_interpolate.zoom_shift", [``C10_zoom_shift_in_bounds, ``C10_zoom_shift_tables_in_bounds, ``C10_interpolate_small_tables_in_bounds, ``C10_alloc_pixel_loop_defined], [``C11_zoom_shift_guards_imply_pre, ``C11_zoom_shift_safe], "safe", "float->int conversions abstracted"⟩,
  ⟨"_labeled.label", [``C10_filter_table_ok, ``C10_filter_iterator_refines, ``C10_label_union_find_in_bounds, ``C10_find_in_bounds], [``C11_label_guards_imply_pre, ``C11_label_safe, ``C11_label_union_find_safe], "safe", "the renumbering pass (`std::map`) is a pixel loop over data[i]"⟩,
  ⟨"_labeled.relabel", [``C10_relabel_in_bounds], [], "bounds", "std::map trusted"⟩,
  ⟨"_labeled.is_same_labeling", [``C10_pair_scan_in_bounds], [``C11_is_same_labeling_safe_partial], "partial", "the size test is the wrapper's early `return False`, not an extracted guard"⟩,
  ⟨"_labeled.remove_regions", [``C10_remove_regions_in_bounds, ``C10_lower_bound_in_bounds], [], "bounds", ""⟩,
  ⟨"_labeled.borders", [``C10_filter_table_ok, ``C10_filter_iterator_refines, ``C10_alloc_fill_defined], [``C11_convolve_guards_imply_pre], "bounds", "filter iterator + stores at the pixel cursor; no model of its own"⟩,
  ⟨"_labeled.border", [``C10_filter_table_ok, ``C10_filter_iterator_refines, ``C10_alloc_fill_defined], [], "bounds", "filter iterator + stores at the pixel cursor; no model of its own"⟩,
  ⟨"_labeled.labeled_sum", [``C10_labeled_foldl_in_bounds, ``C10_alloc_fill_defined], [``C11_labeled_fold_safe], "safe", "the in-loop test `label >= 0 && label < maxlabel` is extracted from the source (indexGuardTable)"⟩,
  ⟨"_labeled.labeled_max_min", [``C10_labeled_foldl_in_bounds, ``C10_alloc_fill_defined], [``C11_labeled_fold_safe], "safe", ""⟩,
  ⟨"_labeled.slic", [``C10_slic_window_in_bounds, ``C10_slic_first_iteration_covers, ``C10_find_in_bounds], [``C11_slic_guards_imply_pre, ``C11_slic_seeds_nonempty_in_range, ``C11_slic_seed_fuel_sufficient, ``C11_slic_safe], "safe", "the stateful assignment fold, the connectivity post-pass (union-find over nlabels, priority queue) and its termination are not traced as a whole; float comparisons assumed finite (D2 < 10e20)"⟩,
  ⟨"_morph.subm", [``C10_pair_scan_in_bounds], [``C11_subm_safe], "safe", ""⟩,
  ⟨"_morph.erode", [``C10_filter_table_ok, ``C10_filter_iterator_refines, ``C10_fastbinary_in_bounds, ``C10_alloc_pixel_loop_defined], [``C11_morph_guards_imply_pre, ``C11_erode_dilate_safe], "safe", ""⟩,
  ⟨"_morph.locmin_max", [``C10_filter_table_ok, ``C10_filter_iterator_refines, ``C10_alloc_fill_defined], [], "bounds", "filter iterator + conditional stores at the pixel cursor; no model of its own"⟩,
  ⟨"_morph.regmin_max", [``C10_filter_table_ok, ``C10_filter_iterator_refines, ``C10_alloc_fill_defined, ``C10_regmin_max_in_bounds, ``C10_stack_flood_in_bounds, ``C10_position_stack_in_bounds], [], "bounds", "unconditional (every marking, every outcome of the value tests); the locmin_max part is filter iterator + stores at the pixel cursor"⟩,
  ⟨"_morph.dilate", [``C10_filter_table_ok, ``C10_filter_iterator_refines, ``C10_fastbinary_in_bounds, ``C10_alloc_fill_defined], [``C11_morph_guards_imply_pre, ``C11_erode_dilate_safe], "safe", "the scatter writes `filter.set(rpos, j, …)` use the same offset table as the reads"⟩,
  ⟨"_morph.disk_2d", [``C10_disk_2d_in_bounds], [``C11_disk_guards_imply_pre, ``C11_disk_2d_safe], "safe", ""⟩,
  ⟨"_morph.close_holes", [``C10_close_holes_seeding_in_bounds, ``C10_stack_flood_in_bounds, ``C10_close_holes_flood_terminates, ``C10_position_stack_in_bounds, ``C10_alloc_fill_defined], [``C11_2d_guards_imply_pre, ``C11_close_holes_safe], "safe", ""⟩,
  ⟨"_morph.cwatershed", [``C10_cwatershed_in_bounds, ``C10_cwatershed_table_ok], [``C11_cwatershed_guards_imply_pre], "pre", "priority queue by contract"⟩,
  ⟨"_morph.distance_multi", [``C10_distance_multi_in_bounds, ``C10_distance_multi_terminates, ``C10_distance_multi_needs_neighbour, ``C10_position_queue_in_bounds], [], "bounds", "needs a Bc with a set non-centre element (not guarded); direct native call only (no public wrapper reaches it)"⟩,
  ⟨"_morph.hitmiss", [``C10_hitmiss_in_bounds, ``C10_hitmiss_margin_test_sufficient], [``C11_hitmiss_guards_imply_pre, ``C11_hitmiss_safe], "safe", ""⟩,
  ⟨"_morph.majority_filter", [``C10_majority_in_bounds, ``C10_alloc_window_defined], [``C11_majority_guards_imply_pre, ``C11_majority_safe], "safe", ""⟩,
  ⟨"_thin.thin", [``C10_thin_in_bounds, ``C10_alloc_thin_buffer_defined], [``C11_thin_safe], "safe", "`coordinates_delta` / `fill_data` offsets come from the generated element tables"⟩,
  ⟨"_lbp.map", [``C10_lbp_map_in_bounds], [``C11_features_guards_imply_pre, ``C11_lbp_safe_partial], "partial", "`points <= 32` and `code < 2^points` are not guarded"⟩,
  ⟨"_surf.surf", [``C10_surf_pyramid_in_bounds, ``C10_surf_interest_points_in_bounds, ``C10_surf_descriptor_windows_in_bounds, ``C10_surf_dominant_angle_in_bounds, ``C10_surf_descriptor_index_in_bounds, ``C10_alloc_surf_records_defined], [``C11_surf_guards_imply_pre, ``C11_surf_pyramid_safe], "safe", "float->int conversions abstracted"⟩,
  ⟨"_surf.descriptors", [``C10_surf_descriptor_windows_in_bounds, ``C10_surf_dominant_angle_in_bounds, ``C10_surf_descriptor_index_in_bounds, ``C10_alloc_surf_records_defined], [``C11_surf_descriptors_safe], "safe", "float->int conversions abstracted"⟩,
  ⟨"_surf.interest_points", [``C10_surf_pyramid_in_bounds, ``C10_surf_interest_points_in_bounds, ``C10_alloc_surf_records_defined], [``C11_surf_guards_imply_pre, ``C11_surf_pyramid_safe], "safe", ""⟩,
  ⟨"_surf.pyramid", [``C10_surf_pyramid_in_bounds, ``C10_surf_pyramid_guarded, ``C10_surf_pyramid_no_int_overflow], [``C11_surf_guards_imply_pre, ``C11_surf_pyramid_safe], "safe", ""⟩,
  ⟨"_surf.integral", [``C10_integral_in_bounds], [], "bounds", ""⟩,
  ⟨"_surf.sum_rect", [``C10_surf_sum_rect_in_bounds, ``C10_surf_sum_rect_entry_in_bounds], [], "bounds", "unconditional: every argument tuple is safe"⟩,
  ⟨"_texture.cooccurence", [``C10_cooccurence_in_bounds, ``C10_cooccurence_assertion_off_by_one], [``C11_cooccurence_guards_imply_pre, ``C11_cooccurence_safe, ``C11_cooccurence_linked_safe, ``C11_cooccurence_index_guarded], "safe", "the in-loop tests `val >= 0`, `val2 >= 0` are extracted from the source (indexGuardTable)"⟩,
  ⟨"_texture.compute_plus_minus", [``C10_compute_plus_minus_in_bounds, ``C10_alloc_fill_defined], [], "bounds", "the sizes 2*maxv / maxv come from haralick_features (Python)"⟩,
  ⟨"_zernike.znl", [``C10_znl_in_bounds, ``C10_znl_fact_in_bounds, ``C10_alloc_znl_gm_defined], [``C11_features_guards_imply_pre, ``C11_zernike_loop_pre, ``C11_znl_safe], "safe", "the three array sizes are equal by construction in zernike.py (links `other`)"⟩
]

/-- **C11/C10, coverage of the native entry points.** EVERY `py_*` entry point of the current sources (the 52 rows of
`Generated.nativeGuardTable`) has a row in `entryCover`, every row names at least one theorem, and every theorem named exists
(the names are checked when this file is elaborated). A NEW entry point that nobody has looked at makes this theorem fail.
The levels: 34 entry points reach a composed `C11_*_safe` corollary, 2 a `_partial` one, 5 have guards ⇒ precondition only, 11 a
C10 bounds theorem only; no entry point is left without an index model. -/
theorem C11_native_entry_points_covered :
    Generated.nativeGuardTable.all (fun e => entryCover.any fun c => c.entry == e.1) = true ∧
    entryCover.all (fun c => !(c.c10.isEmpty && c.c11.isEmpty)) = true ∧
    (entryCover.filter fun c => c.level == "safe").length = 34 ∧
    (entryCover.filter fun c => c.level == "partial").length = 2 ∧
    (entryCover.filter fun c => c.level == "pre").length = 5 ∧
    (entryCover.filter fun c => c.level == "bounds").length = 11 ∧
    (entryCover.filter fun c => c.c10.isEmpty).map (·.entry) = [] := by
  -- the rows of `entryCover` are, in this order, the entry points of the generated table
  have hk : entryCover.map (·.entry) = Generated.nativeGuardTable.map (·.1) := rfl
  refine ⟨List.all_eq_true.2 fun e he => List.any_eq_true.2 ?_, by decide +kernel⟩
  have hm : e.1 ∈ entryCover.map (·.entry) := hk ▸ List.mem_map_of_mem he
  obtain ⟨c, hc, hce⟩ := List.mem_map.1 hm
  exact ⟨c, hc, beq_iff_eq.2 hce⟩

