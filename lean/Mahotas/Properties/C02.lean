/-
C02 — property theorems (the general lemmas they rest on live in `Proofs/C02*.lean`).

All theorems are about the definitions the driver runs: `C02.openModel`, `closeModel`,
`cerodeModel`, `cdilateModel`, `tophatOpenModel`, `tophatCloseModel`, `submModel` — the Python
compositions over the C01 kernels `erodeModel` (gather, clamped reads) and `dilateModel` (scatter
with clamp) with the saturating, wrap-around scalar helpers `erode_sub`, `dilate_add`, `subm`.
Images are compared pointwise on flat indices (`LeImg`); `RangeImg` says every datum is
representable. The dtype enters through the interface `Scalars dt sup` (range, monotonicity and
adjointness of `erode_sub(·,h)`/`dilate_add(·,h)` for the heights of the element), which
`C02_scalars_unsigned` and `C02_scalars_bool` establish for every unsigned dtype and for bool; for every integer
dtype, signed included, the interface is `ScalarsG` (`C02_scalars_signed`). `open`, `close` and `subm` with `out=`
are buffer programs, proved equal to the pure compositions.
-/
import Mahotas.Proofs.C02Laws
import Mahotas.Proofs.StarCheck
import Mahotas.Proofs.C02Families
import Mahotas.Proofs.C02Signed
import Mahotas.Proofs.C02Buffer
open Mahotas Mahotas.C01 Mahotas.C02

/-- **the scalar interface holds for every unsigned dtype** (generic in the range `[0, hi]`,
wrap-around arithmetic) and every element whose entries are representable. -/
theorem C02_scalars_unsigned (dt : DT) (wf : dt.WF) (hlo : dt.lo = 0) (sup : List (List Int × Int))
    (hsup : ∀ kh ∈ sup, dt.InRange kh.2) : Scalars dt sup :=
  (scalars_int dt wf sup fun kh hkh => admissible_of_lo0 hlo (hsup kh hkh)).ofLo0 hlo

/-- **the scalar interface holds for bool** (the kernel sees the compressed footprint: set entries only). -/
theorem C02_scalars_bool (sup : List (List Int × Int)) (hsup : ∀ kh ∈ sup, kh.2 ≠ 0) :
    Scalars dtBool sup :=
  scalars_bool sup hsup

/-- **C02-T1 (adjunction).** `dilate(f) ≤ g` holds exactly when `f ≤ erode(g)` — for every rank and
shape, **every** structuring element (any shape, flat or not; no symmetry needed: the scatter
dilation is the adjoint of the gather erosion for any clamped target map), bool and unsigned
dtypes, provided the values that meet do not saturate: for every pixel `i` and element entry
`(k, h)`, the image is boolean, or `g` at the pixel reached is below the dtype maximum, or
`f i + h` does not exceed it ("values stay clear of the saturation limits"; a pixel of `f` equal
to 0 is the absorbing −∞ of `dilate_add` and needs no condition). -/
theorem C02_adjunction (dt : DT) (sup : List (List Int × Int)) (sc : Scalars dt sup) (F G : Img Int)
    (hshape : G.shape = F.shape) (hs : ∀ d ∈ F.shape, 0 < d)
    (hlen : ∀ kh ∈ sup, kh.1.length = F.shape.length) (hF : RangeImg dt F) (hG : RangeImg dt G)
    (hns : ∀ i, i < shapeSize F.shape → ∀ kh ∈ sup,
      NoSat dt (F.data.getD i 0) (G.data.getD (tgt F.shape i kh.1) 0) kh.2) :
    LeImg (dilateImg dt F sup) G ↔ LeImg F (erodeImg dt G sup) :=
  adjunction dt sup sc F G hshape hs hlen hF hG hns

/-- **C02-T2 (opening is anti-extensive)**: `open(g) ≤ g` whenever no pixel of `g` sits at the
dtype maximum (no condition for bool). -/
theorem C02_open_anti_extensive (dt : DT) (sup : List (List Int × Int)) (sc : Scalars dt sup)
    (G : Img Int) (hs : ∀ d ∈ G.shape, 0 < d) (hlen : ∀ kh ∈ sup, kh.1.length = G.shape.length)
    (hG : RangeImg dt G) (hc : HiClear dt G) : LeImg (openModel dt G sup) G :=
  open_le dt sup sc.toG G hlen hG hc

/-- **C02-T2 (closing is extensive)**: `f ≤ close(f)` whenever the dilation of `f` does not reach
the dtype maximum (no condition for bool); `C02_dilate_below_max` derives that from
`f i + h < hi` for every height `h` of the element. -/
theorem C02_close_extensive (dt : DT) (sup : List (List Int × Int)) (sc : Scalars dt sup)
    (F : Img Int) (hs : ∀ d ∈ F.shape, 0 < d) (hlen : ∀ kh ∈ sup, kh.1.length = F.shape.length)
    (hF : RangeImg dt F) (hc : HiClear dt (dilateImg dt F sup)) : LeImg F (closeModel dt F sup) :=
  le_close dt sup sc.toG F (dflt_of_lo0 sc.lo0 F) hlen hF hc

/-- **C02-T2 (opening is idempotent)**: `open(open(g)) = open(g)` at every pixel. -/
theorem C02_open_idempotent (dt : DT) (sup : List (List Int × Int)) (sc : Scalars dt sup)
    (G : Img Int) (hs : ∀ d ∈ G.shape, 0 < d) (hlen : ∀ kh ∈ sup, kh.1.length = G.shape.length)
    (hG : RangeImg dt G) (hc : HiClear dt G) :
    ∀ j, j < shapeSize G.shape →
      (openModel dt (openModel dt G sup) sup).data.getD j 0 = (openModel dt G sup).data.getD j 0 :=
  open_idem dt sup sc.toG G hlen hG hc

/-- **C02-T2 (closing is idempotent)**: `close(close(f)) = close(f)` at every pixel. -/
theorem C02_close_idempotent (dt : DT) (sup : List (List Int × Int)) (sc : Scalars dt sup)
    (F : Img Int) (hs : ∀ d ∈ F.shape, 0 < d) (hlen : ∀ kh ∈ sup, kh.1.length = F.shape.length)
    (hF : RangeImg dt F) (hc : HiClear dt (dilateImg dt F sup)) :
    ∀ j, j < shapeSize F.shape →
      (closeModel dt (closeModel dt F sup) sup).data.getD j 0 = (closeModel dt F sup).data.getD j 0 :=
  close_idem dt sup sc.toG F (dflt_of_lo0 sc.lo0 F) hlen hF hc

/-- **C02-T2 (opening and closing are increasing)** — no saturation hypothesis at all. -/
theorem C02_open_close_increasing (dt : DT) (sup : List (List Int × Int)) (sc : Scalars dt sup)
    (F G : Img Int) (hshape : G.shape = F.shape) (hs : ∀ d ∈ F.shape, 0 < d)
    (hlen : ∀ kh ∈ sup, kh.1.length = F.shape.length) (hF : RangeImg dt F) (hG : RangeImg dt G)
    (hle : LeImg F G) :
    LeImg (openModel dt F sup) (openModel dt G sup) ∧ LeImg (closeModel dt F sup) (closeModel dt G sup) :=
  ⟨open_mono dt sup sc.toG F G hshape hlen hF hG hle,
   close_mono dt sup sc.toG F G (dflt_of_lo0 sc.lo0 F) (dflt_of_lo0 sc.lo0 G) hshape hlen hF hG hle⟩

/-- **C02-T3 (clear of the limits ⇒ the dilation stays below the maximum)**: for an unsigned image
with `f i + h < hi` for every pixel and every height of the element, `dilate(f)` never reaches the
dtype maximum — the hypothesis `HiClear (dilate f)` of the closing laws. -/
theorem C02_dilate_below_max (dt : DT) (wf : dt.WF) (hlo : dt.lo = 0) (sup : List (List Int × Int))
    (hsup : ∀ kh ∈ sup, dt.InRange kh.2) (F : Img Int) (hs : ∀ d ∈ F.shape, 0 < d) (hF : RangeImg dt F)
    (hcl : ∀ i, i < shapeSize F.shape → ∀ kh ∈ sup, F.data.getD i 0 + kh.2 < dt.hi) :
    HiClear dt (dilateImg dt F sup) :=
  hiClear_dilate_int dt wf sup (fun kh hkh => admissible_of_lo0 hlo (hsup kh hkh)) F (dflt_of_lo0 hlo F) hF
    fun i hi kh hkh _ => hcl i hi kh hkh

/-- **C02-T5 (conditional erosion)**: `g ≤ cerode(f, g) ≤ max(f, g)` at every pixel, saturation
included, whenever the centre of the element is a member. -/
theorem C02_cerode_bounds (dt : DT) (sup : List (List Int × Int)) (sc : Scalars dt sup)
    (cm : CentreMember dt sup) (f g : Img Int) (hshape : g.shape = f.shape)
    (hs : ∀ d ∈ f.shape, 0 < d) (hlen : ∀ kh ∈ sup, kh.1.length = f.shape.length)
    (hf : RangeImg dt f) (hg : RangeImg dt g) :
    ∀ i, i < shapeSize f.shape →
      g.data.getD i 0 ≤ (cerodeModel dt f g sup).data.getD i 0 ∧
      (cerodeModel dt f g sup).data.getD i 0 ≤ max (f.data.getD i 0) (g.data.getD i 0) :=
  cerode_bounds dt sup cm f g hshape hlen hf hg

/-- **C02-T5 (conditional dilation)**: `min(f, g) ≤ cdilate(f, g, Bc, n) ≤ g` at every pixel, for
every iteration count `n` (the early exit included), saturation included. -/
theorem C02_cdilate_bounds (dt : DT) (sup : List (List Int × Int)) (sc : Scalars dt sup)
    (cm : CentreMember dt sup) (f g : Img Int) (hshape : g.shape = f.shape)
    (hs : ∀ d ∈ f.shape, 0 < d) (hlen : ∀ kh ∈ sup, kh.1.length = f.shape.length)
    (hf : RangeImg dt f) (hg : RangeImg dt g) (n : Nat) :
    ∀ i, i < shapeSize f.shape →
      min (f.data.getD i 0) (g.data.getD i 0) ≤ (cdilateModel dt f g sup n).data.getD i 0 ∧
      (cdilateModel dt f g sup n).data.getD i 0 ≤ g.data.getD i 0 :=
  cdilate_bounds dt sup sc.toG cm f g hshape hlen hf hg n

/-- the centre of an element is a member for unsigned dtypes as soon as its entry is non-zero … -/
theorem C02_centre_member_unsigned (dt : DT) (wf : dt.WF) (hlo : dt.lo = 0) (sup : List (List Int × Int))
    (kh : List Int × Int) (hkh : kh ∈ sup) (hz : C14.isZeroPos kh.1 = true) (hr : dt.InRange kh.2)
    (hne : kh.2 ≠ 0) : CentreMember dt sup :=
  centreMember_unsigned dt wf hlo sup kh hkh hz hr hne

/-- … and for bool. -/
theorem C02_centre_member_bool (sup : List (List Int × Int)) (kh : List Int × Int) (hkh : kh ∈ sup)
    (hz : C14.isZeroPos kh.1 = true) (hne : kh.2 ≠ 0) : CentreMember dtBool sup :=
  centreMember_bool sup kh hkh hz hne

/-- **C02-T6 (`subm` is exact subtraction clamped to the dtype range)** for every pair of values of
every integer dtype (signed: the wrap-around tests of the C++; unsigned: the comparison). -/
theorem C02_subm_exact (dt : DT) (wf : dt.WF) (a b : Int) (ha : dt.InRange a) (hb : dt.InRange b) :
    submElem dt a b = dt.clamp (a - b) :=
  submElem_spec dt wf a b ha hb

/-- **C02-T6 on images**: `subm(a, b)` is the clamped difference at every pixel. -/
theorem C02_subm_image (dt : DT) (wf : dt.WF) (a b : Img Int) (hshape : b.shape = a.shape)
    (ha : RangeImg dt a) (hb : RangeImg dt b) :
    ∀ i, i < shapeSize a.shape →
      (submModel dt a b).data.getD i 0 = dt.clamp (a.data.getD i 0 - b.data.getD i 0) := by
  intro i hi
  unfold submModel
  rw [map2_getD _ a b i hi]
  exact submElem_spec dt wf _ _ (ha i hi) (hb i (by rw [hshape]; exact hi))

/-- **C02-T7 (top-hats)**: `tophat_open(f) = f − open(f)` and `tophat_close(f) = close(f) − f` as exact
integers at every pixel, for bool and unsigned dtypes, under the hypotheses of anti-extensivity /
extensivity (no clamping happens because `open(f) ≤ f ≤ close(f)`). -/
theorem C02_tophats (dt : DT) (sup : List (List Int × Int)) (sc : Scalars dt sup) (f : Img Int)
    (hs : ∀ d ∈ f.shape, 0 < d) (hlen : ∀ kh ∈ sup, kh.1.length = f.shape.length)
    (hf : RangeImg dt f) (hc : HiClear dt f) (hcd : HiClear dt (dilateImg dt f sup)) :
    ∀ i, i < shapeSize f.shape →
      (tophatOpenModel dt f sup).data.getD i 0 = f.data.getD i 0 - (openModel dt f sup).data.getD i 0 ∧
      (tophatCloseModel dt f sup).data.getD i 0 = (closeModel dt f sup).data.getD i 0 - f.data.getD i 0 := by
  intro i hi
  rw [tophatOpen_getD dt f sup i hi, tophatClose_getD dt f sup i hi]
  exact ⟨submElem_of_le dt sc.lo0 _ _ (open_le dt sup sc.toG f hlen hf hc i hi),
    submElem_of_le dt sc.lo0 _ _ (le_close dt sup sc.toG f (dflt_of_lo0 sc.lo0 f) hlen hf hcd i hi)⟩

/-- **C02-T4 (boolean duality)**: `dilate(f) = ¬ erode(¬ f)` at every pixel of a boolean image of any
rank and shape, for every element whose offsets are symmetric and coordinate-wise star-shaped
(`SymStar`: with a member every offset between 0 and it, and its negation, are members — centred
crosses, boxes and disks; `C02_symstar_check` decides it for a concrete element). Uses F12 (scatter with
clamp = gather with clamp for such elements), proved here in the model's own coordinates. -/
theorem C02_bool_duality (F : Img Int) (sup : List (List Int × Int)) (hsup : ∀ kh ∈ sup, kh.2 ≠ 0)
    (hs : ∀ d ∈ F.shape, 0 < d) (hlen : ∀ kh ∈ sup, kh.1.length = F.shape.length)
    (hF : RangeImg dtBool F) (hss : SymStar sup) :
    ∀ j, j < shapeSize F.shape →
      (dilateImg dtBool F sup).data.getD j 0 = 1 - (erodeImg dtBool (notImg F) sup).data.getD j 0 :=
  bool_duality F sup hsup hs hlen hF (scatterGatherSym_of_symStar F.shape sup hlen hss)

/-- **F12 in the model's coordinates**: for a symmetric star-shaped element, pixel `i` reaches pixel `j`
through some clamped offset iff `j` reaches `i` — on every image shape. -/
theorem C02_scatter_gather_symmetric (shape : List Nat) (sup : List (List Int × Int))
    (hs : ∀ d ∈ shape, 0 < d) (hlen : ∀ kh ∈ sup, kh.1.length = shape.length) (hss : SymStar sup) :
    ScatterGatherSym shape sup :=
  scatterGatherSym_of_symStar shape sup hlen hss

/-- the Boolean check `C14.symStarB` (enumerate every offset between 0 and each member) is sound for `SymStar` -/
theorem C02_symstar_check (sup : List (List Int × Int)) (h : C14.symStarB sup = true) : SymStar sup :=
  symStar_of_check sup h

/-! non-vacuity: a 2×3 uint8 image clear of the limits with the default cross (entries 1, so erosion
    subtracts and dilation adds 1) meets the hypotheses; opening and closing act non-trivially. -/
example :
    let dt := dtU 8
    let sup := support [3, 3] #[0, 1, 0, 1, 1, 1, 0, 1, 0] false
    let f : Img Int := { shape := [2, 3], data := #[5, 9, 5, 7, 7, 250] }
    (sup.all fun kh => decide (dt.lo ≤ kh.2) && decide (kh.2 ≤ dt.hi) && kh.1.length == f.shape.length) = true ∧
    (openModel dt f sup).data.toList = [5, 7, 5, 7, 7, 7] ∧
    (closeModel dt f sup).data.toList = [7, 9, 9, 7, 7, 250] ∧
    (tophatOpenModel dt f sup).data.toList = [0, 2, 0, 0, 0, 243] ∧
    (cdilateModel dt f { shape := [2, 3], data := #[6, 6, 6, 6, 6, 6] } sup 2).data.toList = [6, 6, 6, 6, 6, 6] := by
  decide +kernel

/-! the elements of the property's quantifier are symmetric and star-shaped: the 2-D cross, the 3×3 and
    5×3 boxes, the 3-D cross, the disk of radius 2 (the 5×5 array produced by `disk(2)`) -/
example : C14.symStarB (support [3, 3] #[0, 1, 0, 1, 1, 1, 0, 1, 0] true) = true := by decide +kernel
example : C14.symStarB (support [3, 3] #[1, 1, 1, 1, 1, 1, 1, 1, 1] true) = true := by decide +kernel
example : C14.symStarB (support [5, 3] (Array.replicate 15 1) false) = true := by decide +kernel
example : C14.symStarB (support [3, 3, 3] (crossElem 3 1) true) = true := by decide +kernel
example : C14.symStarB (support [5, 5] (diskElem 2 2) true) = true := by decide +kernel

/-! ## The element hypotheses proved for whole families

`CrossBoxDisk d S bc` (`Proofs/C01Tables.lean`): the element `(S, bc)` is `crossElem d r` on the shape
`3 × … × 3` (what `get_structuring_elem` builds; any radius `r`), or `diskElem d r` on the shape
`(2r+1) × … × (2r+1)` (what `disk(r, d)` builds; any radius), or an all-ones box of rank `d` with arbitrary odd
sides. `CentredCrossBoxDisk` restricts to `r ≥ 0` (cross) / `r ≥ 1` (disk; `disk(0)` is empty), where the
centre is a member. `UnsignedOrBool dt`: an unsigned integer dtype (range `[0, hi]`, `hi ≥ 1`) or bool.
In every corollary below the support is the one the driver builds for the dtype,
`support S bc dt.isBool` (compressed for bool, every entry kept otherwise), and **no hypothesis about
the element remains** besides membership in the family. -/

/-- what the family predicates say, spelled out (both hold by unfolding the definitions) -/
theorem C02_cross_box_disk_family (d : Nat) (S : List Nat) (bc : Array Int) :
    (CrossBoxDisk d S bc ↔
      (∃ r : Int, S = List.replicate d 3 ∧ bc = crossElem d r) ∨
      (∃ r : Nat, S = List.replicate d (2 * r + 1) ∧ bc = diskElem d r) ∨
      (S.length = d ∧ (∀ b ∈ S, b % 2 = 1) ∧ ∀ i, i < shapeSize S → bc.getD i 0 = 1)) ∧
    (CentredCrossBoxDisk d S bc ↔
      (∃ r : Int, 0 ≤ r ∧ S = List.replicate d 3 ∧ bc = crossElem d r) ∨
      (∃ r : Nat, 1 ≤ r ∧ S = List.replicate d (2 * r + 1) ∧ bc = diskElem d r) ∨
      (S.length = d ∧ (∀ b ∈ S, b % 2 = 1) ∧ ∀ i, i < shapeSize S → bc.getD i 0 = 1)) ∧
    (UnsignedOrBool (dtU 8) ∧ UnsignedOrBool (dtU 16) ∧ UnsignedOrBool (dtU 32) ∧ UnsignedOrBool (dtU 64) ∧
      UnsignedOrBool dtBool) :=
  ⟨Iff.rfl, Iff.rfl, Or.inl ⟨wf_u8, rfl⟩, Or.inl ⟨wf_u16, rfl⟩, Or.inl ⟨wf_u32, rfl⟩, Or.inl ⟨wf_u64, rfl⟩,
    Or.inr rfl⟩

/-- **every hypothesis the C02 theorems put on the structuring element, for the whole families.** For
every rank `d`, every radius and every odd box shape: the support of a cross `crossElem d r`, a disk
`diskElem d r` or an all-ones odd box, built either way the driver builds it (`compress = true` for bool
images, `false` otherwise),
* is symmetric and coordinate-wise star-shaped (`SymStar`, the hypothesis of `C02_bool_duality` and
  `C02_scatter_gather_symmetric`), has all offsets of length `d` (the `hlen` hypotheses) and all heights in
  `{0, 1}`;
* compressed, has all heights `= 1` (so `≠ 0`: the `hsup` hypothesis of `C02_scalars_bool` /
  `C02_bool_duality`);
* for every unsigned dtype and bool satisfies the scalar interface `Scalars`, has all entries in range
  (hypothesis of `C02_scalars_unsigned`, `C02_dilate_below_max`), and its members are exactly the compressed
  support;
* when centred (cross `r ≥ 0`, disk `r ≥ 1`, any box) contains the centre `(0,…,0)` with height 1 in both
  supports, and `CentreMember` holds (hypothesis of `C02_cerode_bounds` / `C02_cdilate_bounds`). -/
theorem C02_cross_box_disk_symstar (d : Nat) (S : List Nat) (bc : Array Int) (h : CrossBoxDisk d S bc) :
    (∀ c : Bool,
      SymStar (support S bc c) ∧ (∀ kh ∈ support S bc c, kh.1.length = d) ∧
      (∀ kh ∈ support S bc c, kh.2 = 0 ∨ kh.2 = 1)) ∧
    (∀ kh ∈ support S bc true, kh.2 = 1) ∧
    (∀ dt : DT, UnsignedOrBool dt →
      Scalars dt (support S bc dt.isBool) ∧ (∀ kh ∈ support S bc dt.isBool, dt.InRange kh.2) ∧
      (support S bc dt.isBool).filter (isMember dt) = support S bc true) ∧
    (CentredCrossBoxDisk d S bc →
      (List.replicate d 0, 1) ∈ support S bc true ∧ (List.replicate d 0, 1) ∈ support S bc false ∧
      ∀ dt : DT, UnsignedOrBool dt → CentreMember dt (support S bc dt.isBool)) := by
  have hr := h.regular
  refine ⟨fun c => ⟨symStar_family hr c, hr.len c, hr.heights c⟩, hr.ones, ?_, ?_⟩
  · intro dt hdt
    refine ⟨scalars_family dt hdt hr, ?_, ?_⟩
    · intro kh hkh
      have h01 := hr.heights _ kh hkh
      rcases hdt with ⟨wf, hlo⟩ | rfl
      · have := wf.hi_pos
        unfold DT.InRange
        rcases h01 with h0 | h1 <;> omega
      · unfold DT.InRange dtBool
        rcases h01 with h0 | h1 <;> simp only <;> omega
    · rcases hdt with ⟨wf, hlo⟩ | rfl
      · rw [wf.notBool]; exact support_filter_unsigned dt hlo wf.notBool S bc
      · exact support_filter_bool S bc
  · intro hc
    exact ⟨hc.centre, ((mem_support_true_iff S bc false _).mp hc.centre).1,
      fun dt hdt => centreMember_family dt hdt hc⟩

/-- **adjunction for every cross / box / disk**: `dilate(f) ≤ g ↔ f ≤ erode(g)` for every unsigned or
bool dtype, images of every rank and shape, whenever no pixel of `f` or no pixel of `g` sits at the dtype
maximum (nothing for bool) — a hypothesis about the images only (the heights are 0 or 1). -/
theorem C02_adjunction_cross_box_disk (dt : DT) (hdt : UnsignedOrBool dt) (F G : Img Int) (S : List Nat)
    (bc : Array Int) (hfam : CrossBoxDisk F.shape.length S bc) (hshape : G.shape = F.shape)
    (hs : ∀ d ∈ F.shape, 0 < d) (hF : RangeImg dt F) (hG : RangeImg dt G)
    (hc : HiClear dt F ∨ HiClear dt G) :
    LeImg (dilateImg dt F (support S bc dt.isBool)) G ↔ LeImg F (erodeImg dt G (support S bc dt.isBool)) :=
  have sc := scalars_family dt hdt hfam.regular
  adjunction dt _ sc F G hshape hs (hfam.regular.len _) hF hG
    (noSat_family dt hfam.regular F G hshape rfl _ hc)

/-- **opening by any cross / box / disk is anti-extensive and idempotent** (every rank, shape, radius;
unsigned dtypes and bool), provided no pixel of `g` sits at the dtype maximum (nothing for bool). -/
theorem C02_open_idempotent_cross_box_disk (dt : DT) (hdt : UnsignedOrBool dt) (G : Img Int) (S : List Nat)
    (bc : Array Int) (hfam : CrossBoxDisk G.shape.length S bc) (hs : ∀ d ∈ G.shape, 0 < d)
    (hG : RangeImg dt G) (hc : HiClear dt G) :
    let sup := support S bc dt.isBool
    LeImg (openModel dt G sup) G ∧
    ∀ j, j < shapeSize G.shape →
      (openModel dt (openModel dt G sup) sup).data.getD j 0 = (openModel dt G sup).data.getD j 0 :=
  have sc := (scalars_family dt hdt hfam.regular).toG
  ⟨open_le dt _ sc G (hfam.regular.len _) hG hc, open_idem dt _ sc G (hfam.regular.len _) hG hc⟩

/-- **closing by any cross / box / disk is extensive and idempotent**, provided every pixel satisfies
`f + 1 < hi` (nothing for bool): the heights of these elements are 0 or 1, so the dilation stays below the
maximum. -/
theorem C02_close_idempotent_cross_box_disk (dt : DT) (hdt : UnsignedOrBool dt) (F : Img Int) (S : List Nat)
    (bc : Array Int) (hfam : CrossBoxDisk F.shape.length S bc) (hs : ∀ d ∈ F.shape, 0 < d)
    (hF : RangeImg dt F)
    (hcl : dt.isBool = true ∨ ∀ i, i < shapeSize F.shape → F.data.getD i 0 + 1 < dt.hi) :
    let sup := support S bc dt.isBool
    LeImg F (closeModel dt F sup) ∧
    ∀ j, j < shapeSize F.shape →
      (closeModel dt (closeModel dt F sup) sup).data.getD j 0 = (closeModel dt F sup).data.getD j 0 := by
  have hr := hfam.regular
  have sc := scalars_family dt hdt hr
  have hcd := hiClear_dilate_family dt hdt hr F hF hcl
  exact ⟨le_close dt _ sc.toG F (dflt_of_lo0 sc.lo0 F) (hr.len _) hF hcd,
    close_idem dt _ sc.toG F (dflt_of_lo0 sc.lo0 F) (hr.len _) hF hcd⟩

/-- **opening and closing by any cross / box / disk are increasing** — no hypothesis beyond representable
values. -/
theorem C02_open_close_increasing_cross_box_disk (dt : DT) (hdt : UnsignedOrBool dt) (F G : Img Int)
    (S : List Nat) (bc : Array Int) (hfam : CrossBoxDisk F.shape.length S bc) (hshape : G.shape = F.shape)
    (hs : ∀ d ∈ F.shape, 0 < d) (hF : RangeImg dt F) (hG : RangeImg dt G) (hle : LeImg F G) :
    let sup := support S bc dt.isBool
    LeImg (openModel dt F sup) (openModel dt G sup) ∧ LeImg (closeModel dt F sup) (closeModel dt G sup) :=
  C02_open_close_increasing dt _ (scalars_family dt hdt hfam.regular) F G hshape hs (hfam.regular.len _)
    hF hG hle

/-- **conditional operators with any centred cross / box / disk**: `g ≤ cerode(f, g) ≤ max(f, g)` and
`min(f, g) ≤ cdilate(f, g, Bc, n) ≤ g` at every pixel, for every iteration count `n`, every unsigned dtype
and bool, saturation included — no hypothesis on the element. -/
theorem C02_cerode_cdilate_bounds_cross_box_disk (dt : DT) (hdt : UnsignedOrBool dt) (f g : Img Int)
    (S : List Nat) (bc : Array Int) (hfam : CentredCrossBoxDisk f.shape.length S bc)
    (hshape : g.shape = f.shape) (hs : ∀ d ∈ f.shape, 0 < d) (hf : RangeImg dt f) (hg : RangeImg dt g)
    (n : Nat) :
    let sup := support S bc dt.isBool
    ∀ i, i < shapeSize f.shape →
      (g.data.getD i 0 ≤ (cerodeModel dt f g sup).data.getD i 0 ∧
       (cerodeModel dt f g sup).data.getD i 0 ≤ max (f.data.getD i 0) (g.data.getD i 0)) ∧
      (min (f.data.getD i 0) (g.data.getD i 0) ≤ (cdilateModel dt f g sup n).data.getD i 0 ∧
       (cdilateModel dt f g sup n).data.getD i 0 ≤ g.data.getD i 0) := by
  have hr := hfam.toFamily.regular
  have sc := scalars_family dt hdt hr
  have cm := centreMember_family dt hdt hfam
  exact fun i hi =>
    ⟨cerode_bounds dt _ cm f g hshape (hr.len _) hf hg i hi,
     cdilate_bounds dt _ sc.toG cm f g hshape (hr.len _) hf hg n i hi⟩

/-- **top-hats with any cross / box / disk are exact differences**: `tophat_open(f) = f − open(f)` and
`tophat_close(f) = close(f) − f` as integers at every pixel when `f + 1 < hi` everywhere (nothing for
bool). -/
theorem C02_tophats_cross_box_disk (dt : DT) (hdt : UnsignedOrBool dt) (f : Img Int) (S : List Nat)
    (bc : Array Int) (hfam : CrossBoxDisk f.shape.length S bc) (hs : ∀ d ∈ f.shape, 0 < d)
    (hf : RangeImg dt f)
    (hcl : dt.isBool = true ∨ ∀ i, i < shapeSize f.shape → f.data.getD i 0 + 1 < dt.hi) :
    let sup := support S bc dt.isBool
    ∀ i, i < shapeSize f.shape →
      (tophatOpenModel dt f sup).data.getD i 0 = f.data.getD i 0 - (openModel dt f sup).data.getD i 0 ∧
      (tophatCloseModel dt f sup).data.getD i 0 = (closeModel dt f sup).data.getD i 0 - f.data.getD i 0 :=
  C02_tophats dt _ (scalars_family dt hdt hfam.regular) f hs (hfam.regular.len _) hf
    (hiClear_of_below dt f hcl) (hiClear_dilate_family dt hdt hfam.regular f hf hcl)

/-- **Boolean duality for every cross / box / disk**: `dilate(f) = ¬ erode(¬ f)` at every pixel of every
0/1 image of every rank and shape (positive axis lengths), for `crossElem d r` and `diskElem d r` of every
radius and every all-ones box of odd sides — no hypothesis on the element. -/
theorem C02_bool_duality_cross_box_disk (F : Img Int) (S : List Nat) (bc : Array Int)
    (hfam : CrossBoxDisk F.shape.length S bc) (hs : ∀ d ∈ F.shape, 0 < d) (hF : RangeImg dtBool F) :
    ∀ j, j < shapeSize F.shape →
      (dilateImg dtBool F (support S bc true)).data.getD j 0 =
        1 - (erodeImg dtBool (notImg F) (support S bc true)).data.getD j 0 :=
  C02_bool_duality F _ (fun kh hkh => by rw [hfam.regular.ones kh hkh]; decide) hs
    (hfam.regular.len true) hF (symStar_true hfam.regular)

/-- **F12 for every cross / box / disk**, on every image shape of the rank of the element and for both
ways the driver builds the support: pixel `i` reaches `j` through a clamped offset iff `j` reaches `i`. -/
theorem C02_scatter_gather_symmetric_cross_box_disk (shape : List Nat) (S : List Nat) (bc : Array Int)
    (hfam : CrossBoxDisk shape.length S bc) (hs : ∀ d ∈ shape, 0 < d) (c : Bool) :
    ScatterGatherSym shape (support S bc c) :=
  scatterGatherSym_of_symStar shape _ (hfam.regular.len c) (symStar_family hfam.regular c)

/-! non-vacuity of the family corollaries: the families are inhabited in every rank (3-D cross of radius 2, the 5×5 disk,
    a 5×3 box, a 1-D box, the rank-0 box), the Boolean checker agrees on instances, and the corollaries
    apply to a concrete bool image and a concrete uint8 image without any further hypothesis on the
    element. -/
example : CentredCrossBoxDisk 3 [3, 3, 3] (crossElem 3 2) := Or.inl ⟨2, by decide, rfl, rfl⟩
example : CentredCrossBoxDisk 2 [5, 5] (diskElem 2 2) := Or.inr (Or.inl ⟨2, by decide, rfl, rfl⟩)
example : CentredCrossBoxDisk 2 [5, 3] (Array.replicate 15 1) := Or.inr (Or.inr ⟨rfl, by decide, by decide⟩)
example : CrossBoxDisk 2 [1, 1] (diskElem 2 0) := Or.inr (Or.inl ⟨0, rfl, rfl⟩)
example : SymStar (support [5, 5] (diskElem 2 2) true) ∧ SymStar (support [5, 5] (diskElem 2 2) false) :=
  ⟨((C02_cross_box_disk_symstar 2 _ _ (Or.inr (Or.inl ⟨2, rfl, rfl⟩))).1 true).1,
   ((C02_cross_box_disk_symstar 2 _ _ (Or.inr (Or.inl ⟨2, rfl, rfl⟩))).1 false).1⟩

example :
    let F : Img Int := { shape := [2, 3], data := #[0, 1, 0, 0, 0, 1] }
    ∀ j, j < 6 →
      (dilateImg dtBool F (support [3, 3] (crossElem 2 1) true)).data.getD j 0 =
        1 - (erodeImg dtBool (notImg F) (support [3, 3] (crossElem 2 1) true)).data.getD j 0 := by
  intro F
  exact C02_bool_duality_cross_box_disk F [3, 3] (crossElem 2 1) (Or.inl ⟨1, rfl, rfl⟩) (by decide)
    (by unfold RangeImg DT.InRange; decide)

example :
    let f : Img Int := { shape := [2, 3], data := #[5, 9, 5, 7, 7, 250] }
    let g : Img Int := { shape := [2, 3], data := #[6, 6, 6, 6, 255, 0] }
    let sup := support [3, 5] (Array.replicate 15 1) false
    ∀ i, i < 6 →
      (g.data.getD i 0 ≤ (cerodeModel (dtU 8) f g sup).data.getD i 0 ∧
       (cerodeModel (dtU 8) f g sup).data.getD i 0 ≤ max (f.data.getD i 0) (g.data.getD i 0)) ∧
      (min (f.data.getD i 0) (g.data.getD i 0) ≤ (cdilateModel (dtU 8) f g sup 4).data.getD i 0 ∧
       (cdilateModel (dtU 8) f g sup 4).data.getD i 0 ≤ g.data.getD i 0) := by
  intro f g
  exact C02_cerode_cdilate_bounds_cross_box_disk (dtU 8) (Or.inl ⟨wf_u8, rfl⟩) f g [3, 5]
    (Array.replicate 15 1) (Or.inr (Or.inr ⟨rfl, by decide, by decide⟩)) rfl (by decide)
    (by unfold RangeImg DT.InRange; decide) (by unfold RangeImg DT.InRange; decide) 4

/-! ## Signed dtypes (and every integer dtype at once)

For a signed image the smallest value `dt.lo` is negative. It is the absorbing −∞ of `dilate_add`, and an
entry of the structuring element equal to it means "not in the element"; a **0 entry is a member of height
0**, so the cross that `get_structuring_elem` builds (entries 0/1 on the `3 × … × 3` box) is not flat: it
is the full box with height 1 on the ℓ1 ball and height 0 elsewhere. The laws below are proved for the very
model the driver runs (`erodeImg`/`dilateImg`/`openModel`/… over `erode_sub`/`dilate_add` with
wrap-around arithmetic), through the interface `ScalarsG dt sup` (`Scalars` without `lo = 0`,
`Proofs/C02Laws.lean`) and the same universal properties (E)/(D). They need **no hypothesis at the lower
limit**: `erode_sub` saturates at `lo`, but `lo` is absorbing for `dilate_add`, so the adjunction survives.
At the upper limit the hypotheses are those of the unsigned theorems (`NoSat` / `HiClear`).
Images are well formed (`WFImg`: `data.size = shapeSize shape`). -/

/-- **the scalar interface holds for every integer dtype, signed and unsigned** (generic in the range:
`lo = 0` or `lo = −(hi+1)`, wrap-around arithmetic) and **every** element whose entries are the marker `dt.lo`
("not in the element") or a height in `[0, hi]` (`AdmissibleEntry`; for a signed dtype the height 0 is a
member). The four signed dtypes of the driver are instances. -/
theorem C02_scalars_signed (dt : DT) (wf : dt.WF) (sup : List (List Int × Int))
    (hsup : ∀ kh ∈ sup, AdmissibleEntry dt kh.2) :
    ScalarsG dt sup ∧
    ((dtI 8).WF ∧ (dtI 16).WF ∧ (dtI 32).WF ∧ (dtI 64).WF ∧ (dtI 8).lo = -128 ∧ (dtI 8).hi = 127) ∧
    (∀ h : Int, AdmissibleEntry dt h ↔ (h = dt.lo ∨ (0 ≤ h ∧ h ≤ dt.hi))) :=
  ⟨scalars_int dt wf sup hsup, ⟨wf_i8, wf_i16, wf_i32, wf_i64, by decide, by decide⟩, fun _ => Iff.rfl⟩

/-- the interface `Scalars` (bool, unsigned) is an instance of the general one -/
theorem C02_scalars_general (dt : DT) (sup : List (List Int × Int)) (sc : Scalars dt sup) : ScalarsG dt sup :=
  sc.toG

/-- **adjunction on signed images** (every integer dtype, **every** element — any shape, even-sided,
asymmetric, non-flat): `dilate(f) ≤ g ↔ f ≤ erode(g)` provided that for every pixel `i` and entry `(k, h)` the
pair that meets does not saturate at the top (`g` at the pixel reached `< hi`, or `f i + h ≤ hi`). Nothing is
required at the lower limit. -/
theorem C02_adjunction_signed (dt : DT) (sup : List (List Int × Int)) (sc : ScalarsG dt sup) (F G : Img Int)
    (wfF : WFImg F) (hshape : G.shape = F.shape) (hs : ∀ d ∈ F.shape, 0 < d)
    (hlen : ∀ kh ∈ sup, kh.1.length = F.shape.length) (hF : RangeImg dt F) (hG : RangeImg dt G)
    (hns : ∀ i, i < shapeSize F.shape → ∀ kh ∈ sup,
      NoSat dt (F.data.getD i 0) (G.data.getD (tgt F.shape i kh.1) 0) kh.2) :
    LeImg (dilateImg dt F sup) G ↔ LeImg F (erodeImg dt G sup) :=
  adjunction_dflt dt sup sc F G (dflt_of_wf dt wfF) hshape hlen hF hG hns

/-- **opening on signed images is anti-extensive and idempotent** for every element, whenever no pixel of
`g` sits at the dtype maximum; pixels at the dtype *minimum* are allowed. -/
theorem C02_open_laws_signed (dt : DT) (sup : List (List Int × Int)) (sc : ScalarsG dt sup)
    (G : Img Int) (hs : ∀ d ∈ G.shape, 0 < d) (hlen : ∀ kh ∈ sup, kh.1.length = G.shape.length)
    (hG : RangeImg dt G) (hc : HiClear dt G) :
    LeImg (openModel dt G sup) G ∧
    ∀ j, j < shapeSize G.shape →
      (openModel dt (openModel dt G sup) sup).data.getD j 0 = (openModel dt G sup).data.getD j 0 :=
  ⟨open_le dt sup sc G hlen hG hc, open_idem dt sup sc G hlen hG hc⟩

/-- **closing on signed images is extensive and idempotent** for every element, whenever the dilation of `f`
does not reach the dtype maximum (`C02_dilate_below_max_signed` derives that from `f i + h < hi`). -/
theorem C02_close_laws_signed (dt : DT) (sup : List (List Int × Int)) (sc : ScalarsG dt sup)
    (F : Img Int) (wfF : WFImg F) (hs : ∀ d ∈ F.shape, 0 < d)
    (hlen : ∀ kh ∈ sup, kh.1.length = F.shape.length)
    (hF : RangeImg dt F) (hc : HiClear dt (dilateImg dt F sup)) :
    LeImg F (closeModel dt F sup) ∧
    ∀ j, j < shapeSize F.shape →
      (closeModel dt (closeModel dt F sup) sup).data.getD j 0 = (closeModel dt F sup).data.getD j 0 :=
  ⟨le_close dt sup sc F (dflt_of_wf dt wfF) hlen hF hc,
   close_idem dt sup sc F (dflt_of_wf dt wfF) hlen hF hc⟩

/-- **opening and closing on signed images are increasing** — no saturation hypothesis at all. -/
theorem C02_open_close_increasing_signed (dt : DT) (sup : List (List Int × Int)) (sc : ScalarsG dt sup)
    (F G : Img Int) (wfF : WFImg F) (wfG : WFImg G) (hshape : G.shape = F.shape) (hs : ∀ d ∈ F.shape, 0 < d)
    (hlen : ∀ kh ∈ sup, kh.1.length = F.shape.length) (hF : RangeImg dt F) (hG : RangeImg dt G)
    (hle : LeImg F G) :
    LeImg (openModel dt F sup) (openModel dt G sup) ∧ LeImg (closeModel dt F sup) (closeModel dt G sup) :=
  ⟨open_mono dt sup sc F G hshape hlen hF hG hle,
   close_mono dt sup sc F G (dflt_of_wf dt wfF) (dflt_of_wf dt wfG) hshape hlen hF hG hle⟩

/-- **clear of the upper limit ⇒ the dilation stays below the maximum**, every integer dtype: if
`f i + h < hi` for every pixel and every height `h` of a member, `dilate(f)` never reaches `hi`. -/
theorem C02_dilate_below_max_signed (dt : DT) (wf : dt.WF) (sup : List (List Int × Int))
    (hsup : ∀ kh ∈ sup, AdmissibleEntry dt kh.2) (F : Img Int) (wfF : WFImg F)
    (hs : ∀ d ∈ F.shape, 0 < d) (hF : RangeImg dt F)
    (hcl : ∀ i, i < shapeSize F.shape → ∀ kh ∈ sup, kh.2 ≠ dt.lo → F.data.getD i 0 + kh.2 < dt.hi) :
    HiClear dt (dilateImg dt F sup) :=
  hiClear_dilate_int dt wf sup hsup F (dflt_of_wf dt wfF) hF hcl

/-- the centre of an element is a member for every integer dtype as soon as its entry is a height in
`[0, hi]` other than the marker — for a signed dtype the height 0 qualifies. -/
theorem C02_centre_member_signed (dt : DT) (wf : dt.WF) (sup : List (List Int × Int))
    (kh : List Int × Int) (hkh : kh ∈ sup) (hz : C14.isZeroPos kh.1 = true) (h0 : 0 ≤ kh.2)
    (h1 : kh.2 ≤ dt.hi) (hne : kh.2 ≠ dt.lo) : CentreMember dt sup :=
  centreMember_int dt wf sup kh hkh hz h0 h1 hne

/-- **conditional operators on signed images**: `g ≤ cerode(f, g) ≤ max(f, g)` and
`min(f, g) ≤ cdilate(f, g, Bc, n) ≤ g` at every pixel for every `n` (early exit included), saturation at
either limit included, whenever the centre of the element is a member. -/
theorem C02_cerode_cdilate_bounds_signed (dt : DT) (sup : List (List Int × Int)) (sc : ScalarsG dt sup)
    (cm : CentreMember dt sup) (f g : Img Int) (hshape : g.shape = f.shape)
    (hs : ∀ d ∈ f.shape, 0 < d) (hlen : ∀ kh ∈ sup, kh.1.length = f.shape.length)
    (hf : RangeImg dt f) (hg : RangeImg dt g) (n : Nat) :
    ∀ i, i < shapeSize f.shape →
      (g.data.getD i 0 ≤ (cerodeModel dt f g sup).data.getD i 0 ∧
       (cerodeModel dt f g sup).data.getD i 0 ≤ max (f.data.getD i 0) (g.data.getD i 0)) ∧
      (min (f.data.getD i 0) (g.data.getD i 0) ≤ (cdilateModel dt f g sup n).data.getD i 0 ∧
       (cdilateModel dt f g sup n).data.getD i 0 ≤ g.data.getD i 0) :=
  fun i hi => ⟨cerode_bounds dt sup cm f g hshape hlen hf hg i hi,
    cdilate_bounds dt sup sc cm f g hshape hlen hf hg n i hi⟩

/-- **top-hats on signed images**: under the hypotheses of anti-extensivity / extensivity,
`tophat_open(f) = min(f − open f, hi)` and `tophat_close(f) = min(close f − f, hi)` at every pixel — the
difference is non-negative but, unlike the unsigned case, it may exceed the dtype maximum (e.g. `100 − (−100)`
in int8), where `subm` clamps; it is the exact difference wherever that difference is `≤ hi`. -/
theorem C02_tophats_signed (dt : DT) (wf : dt.WF) (sup : List (List Int × Int)) (sc : ScalarsG dt sup)
    (f : Img Int) (wff : WFImg f) (hs : ∀ d ∈ f.shape, 0 < d)
    (hlen : ∀ kh ∈ sup, kh.1.length = f.shape.length)
    (hf : RangeImg dt f) (hc : HiClear dt f) (hcd : HiClear dt (dilateImg dt f sup)) :
    ∀ i, i < shapeSize f.shape →
      ((tophatOpenModel dt f sup).data.getD i 0 =
          min (f.data.getD i 0 - (openModel dt f sup).data.getD i 0) dt.hi ∧
       (tophatCloseModel dt f sup).data.getD i 0 =
          min ((closeModel dt f sup).data.getD i 0 - f.data.getD i 0) dt.hi) ∧
      (f.data.getD i 0 - (openModel dt f sup).data.getD i 0 ≤ dt.hi →
        (tophatOpenModel dt f sup).data.getD i 0 = f.data.getD i 0 - (openModel dt f sup).data.getD i 0) ∧
      ((closeModel dt f sup).data.getD i 0 - f.data.getD i 0 ≤ dt.hi →
        (tophatCloseModel dt f sup).data.getD i 0 = (closeModel dt f sup).data.getD i 0 - f.data.getD i 0) := by
  intro i hi
  have h1 := submElem_of_le_int dt wf (hf i hi) (range_open dt sup sc f hlen hf i hi)
    (open_le dt sup sc f hlen hf hc i hi)
  have h2 := submElem_of_le_int dt wf (range_close dt sup sc f (dflt_of_wf dt wff) hlen hf i hi) (hf i hi)
    (le_close dt sup sc f (dflt_of_wf dt wff) hlen hf hcd i hi)
  rw [tophatOpen_getD dt f sup i hi, tophatClose_getD dt f sup i hi, h1, h2]
  exact ⟨⟨rfl, rfl⟩, Int.min_eq_left, Int.min_eq_left⟩

/-- **every cross / box / disk on every integer dtype** (`support S bc false`, what the driver builds for a
non-bool image): all entries are admissible heights 0/1 — so `ScalarsG` holds, for signed dtypes **every cell
of the box is a member** (height 0 off the footprint: the element is not flat) — and the centre is a member
for the centred families. -/
theorem C02_cross_box_disk_signed (dt : DT) (wf : dt.WF) (d : Nat) (S : List Nat) (bc : Array Int)
    (h : CrossBoxDisk d S bc) :
    ScalarsG dt (support S bc false) ∧
    (∀ kh ∈ support S bc false, AdmissibleEntry dt kh.2 ∧ kh.1.length = d) ∧
    (dt.lo < 0 → ∀ kh ∈ support S bc false, isMember dt kh = true) ∧
    (CentredCrossBoxDisk d S bc → CentreMember dt (support S bc false)) := by
  have hr := h.regular
  have hp := wf.hi_pos
  have hadm := admissible_family dt wf hr false
  refine ⟨scalars_int dt wf _ hadm, fun kh hkh => ⟨hadm kh hkh, hr.len false kh hkh⟩, ?_, ?_⟩
  · intro hneg kh hkh
    unfold isMember
    rw [wf.notBool]
    rcases hr.heights false kh hkh with h0 | h1 <;> simp <;> omega
  · exact centreMember_family_int dt wf

/-- **the laws for `Bc = None`/int/box/disk on signed images**, hypotheses about the image only: for every
integer dtype, every cross/box/disk, every well-formed image of the element's rank with non-empty axes and
representable values: opening is anti-extensive and idempotent when no pixel is at the maximum; closing is
extensive and idempotent when `f + 1 < hi` everywhere; both are increasing unconditionally. -/
theorem C02_open_close_laws_cross_box_disk_signed (dt : DT) (wf : dt.WF) (F : Img Int) (S : List Nat)
    (bc : Array Int) (hfam : CrossBoxDisk F.shape.length S bc) (wfF : WFImg F) (hs : ∀ d ∈ F.shape, 0 < d)
    (hF : RangeImg dt F) :
    let sup := support S bc false
    (HiClear dt F →
      LeImg (openModel dt F sup) F ∧
      ∀ j, j < shapeSize F.shape →
        (openModel dt (openModel dt F sup) sup).data.getD j 0 = (openModel dt F sup).data.getD j 0) ∧
    ((∀ i, i < shapeSize F.shape → F.data.getD i 0 + 1 < dt.hi) →
      LeImg F (closeModel dt F sup) ∧
      ∀ j, j < shapeSize F.shape →
        (closeModel dt (closeModel dt F sup) sup).data.getD j 0 = (closeModel dt F sup).data.getD j 0) ∧
    (∀ G : Img Int, WFImg G → G.shape = F.shape → RangeImg dt G → LeImg F G →
      LeImg (openModel dt F sup) (openModel dt G sup) ∧ LeImg (closeModel dt F sup) (closeModel dt G sup)) := by
  obtain ⟨sc, hk, -, -⟩ := C02_cross_box_disk_signed dt wf _ S bc hfam
  have hlen : ∀ kh ∈ support S bc false, kh.1.length = F.shape.length := fun kh hkh => (hk kh hkh).2
  have hadm : ∀ kh ∈ support S bc false, AdmissibleEntry dt kh.2 := fun kh hkh => (hk kh hkh).1
  refine ⟨fun hc => C02_open_laws_signed dt _ sc F hs hlen hF hc, fun hcl => ?_, fun G wfG hshape hG hle =>
    C02_open_close_increasing_signed dt _ sc F G wfF wfG hshape hs hlen hF hG hle⟩
  exact C02_close_laws_signed dt _ sc F wfF hs hlen hF
    (hiClear_dilate_family_int dt wf hfam.regular false F (dflt_of_wf dt wfF) hF hcl)

/-! non-vacuity (signed): an int8 2×3 image with negative values and a pixel at the dtype minimum, the
    default cross (for int8 the full 3×3 box, height 1 on the cross and 0 at the corners): the laws hold
    and act non-trivially; the signed cross is *not* the flat cross (the corners take part). -/
example :
    let dt := dtI 8
    let sup := support [3, 3] (crossElem 2 1) false
    let f : Img Int := { shape := [2, 3], data := #[-5, 9, -128, 7, -7, 100] }
    (sup.all fun kh => isMember dt kh) = true ∧
    (erodeImg dt f sup).data.toList = [-7, -128, -128, -8, -128, -128] ∧
    (dilateImg dt f sup).data.toList = [10, 100, 101, 9, 101, 101] ∧
    (openModel dt f sup).data.toList = [-6, -6, -128, -6, -7, -128] ∧
    (closeModel dt f sup).data.toList = [8, 9, 99, 8, 8, 100] ∧
    (tophatOpenModel dt f sup).data.toList = [1, 15, 0, 13, 0, 127] ∧
    (tophatCloseModel dt f sup).data.toList = [13, 0, 127, 1, 15, 0] ∧
    -- the flat cross (corners absent: marker −128) gives another closing
    (closeModel dt f (support [3, 3] #[-128, 1, -128, 1, 1, 1, -128, 1, -128] false)).data.toList ≠
      (closeModel dt f sup).data.toList := by
  decide +kernel

/-- the corollary applies to that image: every hypothesis is discharged by `decide` -/
example :
    let f : Img Int := { shape := [2, 3], data := #[-5, 9, -128, 7, -7, 100] }
    LeImg (openModel (dtI 8) f (support [3, 3] (crossElem 2 1) false)) f ∧
    LeImg f (closeModel (dtI 8) f (support [3, 3] (crossElem 2 1) false)) := by
  intro f
  have h := C02_open_close_laws_cross_box_disk_signed (dtI 8) wf_i8 f [3, 3] (crossElem 2 1)
    (Or.inl ⟨1, rfl, rfl⟩) rfl (by decide) (by unfold RangeImg DT.InRange; decide)
  exact ⟨(h.1 (by unfold HiClear; decide)).1, (h.2.1 (by decide)).1⟩

/-! where signed laws genuinely stop (each evaluated by `decide +kernel` on the model the driver runs):
    * the top-hat is **not** the exact difference when the difference exceeds the maximum (int8, 1-D box of
      heights 1: `f − open f = 200` at the first pixel, `subm` clamps to 127);
    * at the dtype maximum closing is not extensive (as for unsigned dtypes: `dilate_add` saturates at `hi`,
      `erode_sub` then subtracts from the saturated value: `close [127, 0, 0] = [126, 0, 0]`). -/
example :
    let f : Img Int := { shape := [3], data := #[100, -100, -100] }
    let sup := support [3] #[1, 1, 1] false
    (openModel (dtI 8) f sup).data.toList = [-100, -100, -100] ∧
    (tophatOpenModel (dtI 8) f sup).data.toList = [127, 0, 0] := by
  decide +kernel

example :
    let f : Img Int := { shape := [3], data := #[127, 0, 0] }
    let sup := support [3] #[1, 1, 1] false
    (closeModel (dtI 8) f sup).data.toList = [126, 0, 0] ∧ ¬ LeImg f (closeModel (dtI 8) f sup) := by
  refine ⟨by decide +kernel, fun h => absurd (h 0 (by decide)) (by decide +kernel)⟩

/-! ## `open` / `close` with `out=`: the buffer programs of `morph.py` (`open`, `close`)

`openBuf dt A sup out` / `closeBuf dt A sup out` (`Model/C02.lean`) run the source line by line on an explicit
output buffer: `erode(f, Bc, out=out)` stores into every cell of `out` in scan order; `.copy()`;
`dilate(copy, Bc, out=eroded)` fills the buffer with the dtype minimum and scatters into it. The driver prints
them (`openbuf=`/`closebuf=`) next to the pure compositions, and the harness calls the real `open`/`close` with a
dirty caller buffer. -/

/-- **`open(f, Bc, out=buf)` and `close(f, Bc, out=buf)` compute the pure compositions the laws are about**, for
every dtype, image, element and **every initial content of the buffer** (of the size of the image — what
`_get_output` enforces); the intermediate kernels alone also ignore the old contents. -/
theorem C02_open_close_buffer_program (dt : DT) (A : Img Int) (sup : List (List Int × Int)) (buf : Array Int)
    (hsz : buf.size = A.size) :
    openBuf dt A sup buf = (openModel dt A sup).data ∧
    closeBuf dt A sup buf = (closeModel dt A sup).data ∧
    erodeInto dt A sup buf = (erodeImg dt A sup).data ∧
    dilateInto dt A sup buf = (dilateImg dt A sup).data :=
  ⟨openBuf_eq dt A sup buf hsz, closeBuf_eq dt A sup buf hsz, erodeInto_eq dt A sup buf hsz,
   dilateInto_eq dt A sup buf hsz⟩

/-- **why the source copies** ("otherwise the image will be modified in place, which can mess up the
implementation"): `dilate(eroded, Bc, out=eroded)` on one and the same memory first fills it with the dtype
minimum and then finds every pixel absorbing — the aliased "opening" is the constant `lo` image, for every
image, element and buffer. -/
theorem C02_open_aliased_is_constant (dt : DT) (A : Img Int) (sup : List (List Int × Int)) (buf : Array Int)
    (hsz : buf.size = A.size) :
    openAliased dt A sup buf = Array.replicate A.size dt.lo := by
  unfold openAliased
  rw [dilateInPlace_eq, erodeInto_eq dt A sup buf hsz]
  congr 1
  exact size_map_allPos _ _

/-! non-vacuity and the aliasing counterexamples, evaluated by `decide +kernel` on the definitions the driver runs: a uint8 2×3
    image, the default cross, a dirty buffer. The buffer program gives the opening/closing; dilating or eroding
    in place (no copy) gives something else. -/
example :
    let dt := dtU 8
    let sup := support [3, 3] #[0, 1, 0, 1, 1, 1, 0, 1, 0] false
    let f : Img Int := { shape := [2, 3], data := #[5, 9, 5, 7, 7, 250] }
    let dirty : Array Int := #[255, 0, 13, 255, 1, 77]
    (openBuf dt f sup dirty).toList = [5, 7, 5, 7, 7, 7] ∧
    (openModel dt f sup).data.toList = [5, 7, 5, 7, 7, 7] ∧
    (openAliased dt f sup dirty).toList = [0, 0, 0, 0, 0, 0] ∧
    (closeBuf dt f sup dirty).toList = (closeModel dt f sup).data.toList ∧
    (closeAliased dt f sup dirty).toList ≠ (closeModel dt f sup).data.toList := by
  decide +kernel

/-! ## `subm(a, b, out=…)` as a buffer program

`morph.subm` is `out = _get_output(a, out)`, `if out is not a: out[:] = a`, `_morph.subm(out, b)`, and the C++ loop
works in place on its first argument. `submBuf dt a b arg` (`Model/C02.lean`) runs that on explicit buffers for the three
things `out=` can name; the driver prints it as `prog=` and the harness calls the real `subm` in the same three ways. -/

/-- **`subm` with `out=` is the pure clamped subtraction in every aliasing mode**: in place on `a` (the documented form),
into a separate buffer with arbitrary old contents, and in place on `b`; every cell is
`subm(a[i], b[i]) = clamp(a[i] − b[i])` (`C02_subm_exact`). The loop is aliasing-safe because it reads cell `i` of both
operands before it writes cell `i`, and the wrapper copies `b` before overwriting it with `a` (`morph.py`, /repo 5ae511d).
Without that copy the `out=b` call subtracts the buffer from itself (`submBufUnfixed`: every cell `subm(a[i], a[i])`, i.e. 0
for representable values). -/
theorem C02_subm_buffer_program (dt : DT) (a b buf : Array Int) (hb : b.size = a.size) (hbuf : buf.size = a.size) :
    submBuf dt a b .aliasA = submPure dt a b ∧
    submBuf dt a b (.fresh buf) = submPure dt a b ∧
    submBuf dt a b .aliasB = submPure dt a b ∧
    (∀ j, j < a.size → (submPure dt a b).getD j 0 = submElem dt (a.getD j 0) (b.getD j 0)) ∧
    (∀ j, j < a.size → (submBufUnfixed dt a b .aliasB).getD j 0 = submElem dt (a.getD j 0) (a.getD j 0)) := by
  refine ⟨submInPlace_eq dt a b, ?_, ?_, fun j hj => submPure_getD dt a b j hj, fun j hj => ?_⟩
  · show submInPlace dt (copyInto buf a) b = _
    rw [copyInto_eq buf a hbuf]; exact submInPlace_eq dt a b
  · show submInPlace dt (copyInto b a) b = _
    rw [copyInto_eq b a hb]; exact submInPlace_eq dt a b
  · show (submInPlaceSelf dt (copyInto b a)).getD j 0 = _
    rw [copyInto_eq b a hb]; exact submInPlaceSelf_getD dt a j hj

/-! non-vacuity, and the two broken orders evaluated by `decide +kernel` on the definitions the driver runs (uint8):
    the buffer program in all three modes gives `[0, 4, 100]`; `submBufUnfixed` gives zeros for `out=b`;
    the seeded "mask after the subtraction" fast path run with `out=a` gives `[255, 4, 100]`. -/
example :
    let a : Array Int := #[0, 10, 200]
    let b : Array Int := #[1, 6, 100]
    (submBuf (dtU 8) a b .aliasA).toList = [0, 4, 100] ∧
    (submBuf (dtU 8) a b (.fresh #[255, 7, 13])).toList = [0, 4, 100] ∧
    (submBuf (dtU 8) a b .aliasB).toList = [0, 4, 100] ∧
    (submBufUnfixed (dtU 8) a b .aliasB).toList = [0, 0, 0] ∧
    (submMaskAfter (dtU 8) a b).toList = [255, 4, 100] := by
  decide +kernel
