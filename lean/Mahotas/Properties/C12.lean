/-
C12 — the property theorems `C12_*` with their non-vacuity examples: the *reason* concurrent calls return the single-threaded results.
T1: confinement ⇒ every interleaving gives every thread its solo result. T2: the three control skeletons used around
released-lock regions keep the lock discipline on every path, and every extracted release site falls into them with no
interpreter call lexically inside the released region. T3: no kernel writes a C++ object with static storage duration,
and the Python module globals that functions write are idempotent lazy caches (`decide +kernel` over the tables the
translator extracts from the current sources). T4: the access programs of the kernels touch only the call's arguments
and its own arrays, with roles inside the kernel's arity, so calls with disjoint outputs are confined and T1 applies to
them — also when a call raises after any number of kernel steps; fourteen programs compute the models' values in
their solo run (five of these ties are instances of a general tie `Mahotas.C12.*_tie` stated just above them, which asks for the
input image only at the positions one pixel reads). Real data races inside the compiled C++ and CPython's own guarantees are runtime behaviour and are only
validated (thread stress), see the evidence file.
-/
import Mahotas.Proofs.C12
import Mahotas.Proofs.C12Kernels
import Mahotas.Proofs.C12Roles
import Mahotas.Proofs.C12Exceptions
import Mahotas.Proofs.C12Label
import Mahotas.Proofs.C12Cwatershed
import Mahotas.Proofs.C12Kernels2
import Mahotas.Proofs.C12Histogram
import Mahotas.Proofs.C12Kernels3
import Mahotas.Generated.Statics
namespace Mahotas.C12
open Mahotas

/-- the lock discipline of a trace, declaratively (what `disciplined true tr` means, see
`disciplined_sound`): starting with the lock held, before every `release`, `validate`,
`interpAccess` and `ret` the lock is held; before every `acquire` it is not held (so releases and
acquisitions strictly alternate); `ret` occurs exactly once, as the last event; at the end the lock
is held. -/
def Discipline (tr : List Ev) : Prop :=
  (∀ (i : Nat) (e : Ev), tr[i]? = some e →
      ((e = .release ∨ e = .validate ∨ e = .interpAccess ∨ e = .ret) → heldAfter true (tr.take i) = true) ∧
      (e = .acquire → heldAfter true (tr.take i) = false) ∧
      (e = .ret → i + 1 = tr.length)) ∧
  tr.getLast? = some .ret ∧ heldAfter true tr = true

/-- T3 predicate for C++ objects with static storage duration: shared by concurrent calls only if
immutable (`const`) or never written by any function of its file (only the loader/interpreter touches
it at module initialisation). -/
def staticOk (o : Generated.StaticObj) : Bool :=
  o.isConst || (!o.written)

/-- T3 predicate for Python module globals that some function rebinds or mutates: a lazily
initialised cache whose complete value is published by a single guarded rebinding (every racing
initialiser publishes an equal value; readers never see it half built). There is NO exception list:
`labeled._perimeter_values` satisfies the predicate — the table is
built in a local and published by one rebinding. -/
def pyGlobalOk (o : Generated.StaticObj) : Bool :=
  o.lazyIdempotent

/-- T2 (site table) predicate: the site uses one of the three idioms and no Python C-API call is
lexically inside the released region -/
def siteOk (s : Generated.GilSite) : Bool :=
  decide (s.idiom ≤ 2) && decide (s.interpCalls = 0)

end Mahotas.C12

open Mahotas Mahotas.C12

/-- C12-T1 (interleaving independence, every prefix). If every step of every thread `t` writes only
memory private to `t` and reads only memory private to `t` or shared read-only memory, then for EVERY
schedule (any interleaving of any length, complete or not) and every initial memory `m`: after the
interleaved run, thread `t`'s private memory and program counter are exactly those of `t` running
alone from `m` for as many turns as the schedule gave it. Quantified over all thread counts, all
programs (arbitrary step functions) and all schedules. -/
theorem C12_interleaving_independent (progs : Progs) (hc : Confined progs) (sched : List Nat)
    (m : Mem) (t : Nat) :
    (∀ l : Loc, l.region = .priv t →
        (run progs sched (init m)).mem l = (soloSteps progs t (sched.count t) m).mem l) ∧
    (run progs sched (init m)).pc t = (soloSteps progs t (sched.count t) m).pc t := by
  have h := view_run progs hc t sched (init m)
  exact ⟨fun l hl => h.2 l (Or.inl hl), h.1⟩

/-- C12-T1 (complete schedules). Under the same confinement hypothesis, for every schedule that
gives each thread at least as many turns as it has steps, each thread's final private memory equals
the result of its complete solo run from the same initial memory — whatever the interleaving. -/
theorem C12_interleaving_independent_complete (progs : Progs) (hc : Confined progs)
    (sched : List Nat) (hs : Complete progs sched) (m : Mem) (t : Nat) (l : Loc)
    (hl : l.region = .priv t) :
    (run progs sched (init m)).mem l = solo progs t m l := by
  rw [(C12_interleaving_independent progs hc sched m t).1 l hl]
  unfold solo
  rw [soloSteps_ge progs t _ m (hs t)]

/-- C12-T1 (schedule independence). Any two complete schedules leave every thread's private
memory in the same state. -/
theorem C12_schedule_independent (progs : Progs) (hc : Confined progs) (s1 s2 : List Nat)
    (h1 : Complete progs s1) (h2 : Complete progs s2) (m : Mem) (t : Nat) (l : Loc)
    (hl : l.region = .priv t) :
    (run progs s1 (init m)).mem l = (run progs s2 (init m)).mem l := by
  rw [C12_interleaving_independent_complete progs hc s1 h1 m t l hl,
      C12_interleaving_independent_complete progs hc s2 h2 m t l hl]

/-- C12-T1 (shared and interpreter memory untouched). Under confinement no schedule changes any
location outside the private regions: shared read-only inputs and interpreter state keep their
initial values. -/
theorem C12_shared_unchanged (progs : Progs) (hc : Confined progs) (sched : List Nat) (m : Mem)
    (l : Loc) (hl : l.region = .sharedRO ∨ l.region = .interp) :
    (run progs sched (init m)).mem l = m l := by
  apply run_nonpriv progs hc sched (init m) l
  intro t ht
  rcases hl with h | h <;> rw [h] at ht <;> cases ht

/-- C12-T1 (no call observes another call's temporaries). Thread `t`'s result does not depend on
the other threads at all: replacing their private memories (any initial memory `m'` that agrees with
`m` on `t`'s private and on the shared read-only locations) leaves `t`'s final private memory unchanged,
for every schedule. -/
theorem C12_no_observation_of_others (progs : Progs) (hc : Confined progs) (sched : List Nat)
    (m m' : Mem) (t : Nat)
    (hagree : ∀ l : Loc, (l.region = .priv t ∨ l.region = .sharedRO) → m l = m' l)
    (l : Loc) (hl : l.region = .priv t) :
    (run progs sched (init m)).mem l = (run progs sched (init m')).mem l := by
  have h1 := view_run progs hc t sched (init m)
  have h2 := view_run progs hc t sched (init m')
  have h0 : View t (init m) (init m') := ⟨rfl, hagree⟩
  have h3 := view_run_self progs hc (sched.count t) h0
  exact ((h1.trans h3).trans h2.symm).2 l (Or.inl hl)

/-- C12-T2 (lock discipline of the three idioms, every path). For each of the three idioms —
(a) RAII `gil_release` as first statement of a kernel called inside `SAFE_SWITCH_ON_TYPES_OF`
(try / `CATCH_PYTHON_EXCEPTIONS`), (b) a braced `{ gil_release nogil; … }` block with
`nogil.restore()` before `PyErr_*` on its error path (no site of the current sources has such a path), (c) `try { gil_release … } catch (bad_alloc)` —
for every number `n` of kernel steps and every outcome the idiom's code can exhibit (normal
completion; a C++ exception after any number `k` of steps for (a) and (c); an in-place error after any
`k` steps for (b)), provided no reference-counted wrapper is constructed inside the released region:
every interpreter access (`validate`, `PyErr_*`, allocation, building the return value) happens with
the lock held, releases and acquisitions strictly alternate, and the call returns holding the lock. -/
theorem C12_gil_discipline_all_paths (i : Idiom) (n : Nat) (o : Outcome)
    (hp : Outcome.possible i o = true) : Discipline (skeleton i n false o) := by
  apply disciplined_sound
  -- `validate, release`, kernel steps (which neither need nor change the lock), then the exit sequence
  rw [skeleton_shape i n o hp]
  show (true && (true && disciplined false (steps (o.ran n) ++ exitSeq o))) = true
  rw [disciplined_steps _ _ _ (by cases o <;> exact List.cons_ne_nil _ _)]
  cases o <;> rfl

/-- C12-T2 (validation failure path). `PyErr_SetString(...); return NULL;` before any release
keeps the discipline trivially. -/
theorem C12_gil_discipline_invalid_args : Discipline skeletonInvalid := by
  apply disciplined_sound; decide

/-- C12-T2 (why the hypotheses are needed). (1) A reference-counted array wrapper constructed
inside the released region is an interpreter access without the lock — in every idiom, on every path,
for every number of steps: such a skeleton is never disciplined. (2) In idiom (b) (no handler) a C++
exception leaves the entry point without `ret`: not disciplined either. -/
theorem C12_gil_discipline_violations (i : Idiom) (n : Nat) (o : Outcome) (k : Nat) :
    disciplined true (skeleton i n true o) = false ∧
    disciplined true (skeleton .b n false (.throwAt k)) = false := by
  constructor
  · -- the wrapper's reference count is touched right after the release
    obtain ⟨rest, h⟩ : ∃ rest, skeleton i n true o = .validate :: .release :: .interpAccess :: rest := by
      cases i <;> cases o <;> exact ⟨_, rfl⟩
    rw [h]
    rfl
  · have hk := disciplined_steps
    simp [skeleton, gilScope, kernelBody, andThen, disciplined, hk, List.append_assoc]

/-- C12-T2 (site table). Every `gil_release` declaration of the current sources (extracted by
`translator/statics.py` on this run) uses one of the three idioms, and no Python C-API call
(`PyErr_*`, allocation, reference counting macros, …) is lexically inside its released region, except
after an explicit `restore()`. Array wrappers constructed inside a released region are NOT covered
by this statement: see `C12_release_sites_without_wrappers_partial`. -/
theorem C12_release_sites_disciplined :
    Generated.gilSites.all siteOk = true ∧ Generated.gilSites.length ≥ 30 := by
  decide +kernel

/-- C12-T2 (partial: reference counts). The released regions in which NO reference-counted array
wrapper (`numpy::aligned_array`, `array_base`) is constructed lexically — for these sites skeleton and
code agree with `C12_gil_discipline_all_paths` — are all sites but at most three (in the table of the current
sources `wrappers` is 0 at every site).
Missing: a site with a wrapper (listed by the driver, `kind=sites`) touches a reference count of a possibly
shared array without the lock (`C12_gil_discipline_violations` (1)); helper objects whose constructor
builds a wrapper (field `helperWrappers`, 0 at every site: `filter_iterator` of `_filters.h`, constructed inside 11
released regions, iterates over the raw filter array) and wrappers copied *by value* into helper functions are not counted
here. These are covered by the reference-count stress run and the harness' site check only. -/
theorem C12_release_sites_without_wrappers_partial :
    (Generated.gilSites.filter (fun s => decide (s.wrappers ≠ 0))).length ≤ 3 := by
  decide +kernel

/-- C12-T3 (no shared writes, C++). Over the WHOLE table of objects with static storage duration
(namespace scope, class-static, function-`static`, in every `.cpp`/`.h`/`.hpp`) extracted from the
current sources on this run: every object is `const`, or no function of its file writes it or lets it
escape (it is touched only at module initialisation). `_factorialtable` is non-const but only read;
`methods`/`moduledef` are handed to the interpreter at import. A new `static int counter; counter++`
in a kernel makes this statement false. -/
theorem C12_no_shared_writes :
    (Generated.statics.filter (fun o => o.lang == "c++")).all staticOk = true ∧
    (Generated.statics.filter (fun o => o.lang == "c++")).length ≥ 40 := by
  decide +kernel

/-- C12-T3 (Python module globals, no exceptions). Every module global of `mahotas/**.py` that some
function rebinds (`global X` followed by a plain, augmented, annotated or tuple-unpacking assignment, a
`for` / `with … as` target, a walrus or a `del`) or mutates in place (item / attribute / slice store,
`del X[…]`, a mutating method such as `append`/`update`/`sort`/`fill` on the global or on something
reached from it) is a lazily initialised cache: the writes sit under an `if X is None:` guard, the
complete, argument-independent value is published by ONE rebinding and nothing mutates it afterwards.
NO function-written global is excused; the table is
extracted from the current sources on every run, so any NEW function-written global that is not an
idempotent lazy cache makes this statement false. -/
theorem C12_python_globals_benign :
    (Generated.statics.filter (fun o => o.lang == "py")).all pyGlobalOk = true ∧
    (Generated.statics.filter (fun o => o.lang == "py")).length ≥ 1 ∧
    (Generated.statics.any fun o => o.lang == "py" && o.name == "_perimeter_values" && o.lazyIdempotent) = true := by
  decide +kernel

/-- C12-T4 (kernel confinement). Each of the five kernel access programs of `Model/C12Kernels.lean`
(`erode`, `convolve`, `label`, `cwatershed`, the labeled folds) called on ANY footprint `c` with at least one
owned array, for ALL shapes, strides, base offsets, element values, border modes and fold functions:
(1) every step writes an array the call owns and reads only argument arrays or owned arrays
(`KStep.Within`: write set ⊆ outputs, read set ⊆ inputs ∪ outputs, stated on `writeSet`/`readSet`);
(2) in every family of calls with disjoint outputs in which this call is number `t`, every step of the
compiled thread program is `Step.Confined t` (writes `priv t`, reads `priv t` or `sharedRO`).
The statement asks nothing of the program (`kcall_confined` holds of every role-level program: a role can only name
one of the call's own arrays); what is particular to the kernels is that no role falls back to the default array
(`C12_kernel_roles_wellformed`). The read set over-approximates where the C++ leaves a loop early (`erode`'s break at
the dtype minimum). How the programs relate to the kernels' VALUES is a separate matter: see `C12_erode_program_computes_model`,
`C12_convolve_program_computes_model`, `C12_labeled_fold_program_computes_model`,
`C12_label_program_computes_model`, `C12_cwatershed_program_computes_model` (all five tied). -/
theorem C12_kernel_confined (k : Kernel) (c : Call) (hne : c.outputs ≠ []) :
    (∀ s ∈ (k.call c).prog, s.Within c) ∧
    (∀ l ∈ writeSet (k.call c).prog, l.arr ∈ c.outputs) ∧
    (∀ l ∈ readSet (k.call c).prog, l.arr ∈ c.inputs ∨ l.arr ∈ c.outputs) ∧
    (∀ (kcs : List KCall) (t : Nat), kcs[t]? = some (k.call c) → DisjointOutputs (kcs.map (·.call)) →
      ∀ s ∈ compile kcs t, s.Confined t) :=
  kcall_confined (k.call c) hne

/-- C12-T4 (any role-level programs). `C12_concurrent_kernels_independent` for an arbitrary family of calls, each
running an ARBITRARY role-level program (`KCall`: the five kernels, further kernels, truncated programs of calls that
raise): every call owns at least one array and an array owned by one call is neither owned nor read by another ⇒ for
every schedule and initial memory (1) every location of an array owned by call `t` holds what `t`'s solo run with the
same number of turns leaves there, (2) for a complete schedule the result of its complete solo run, (3) arrays nobody
owns are unchanged. -/
theorem C12_concurrent_calls_independent (kcs : List KCall)
    (hne : ∀ kc ∈ kcs, kc.call.outputs ≠ []) (hd : DisjointOutputs (kcs.map (·.call)))
    (sched : List Nat) (m : Mem) :
    let calls := kcs.map (·.call)
    (∀ (t : Nat) (kc : KCall), kcs[t]? = some kc → ∀ l : KLoc, l.arr ∈ kc.call.outputs →
      (run (compile kcs) sched (init m)).mem (l.toLoc calls) =
        (soloSteps (compile kcs) t (sched.count t) m).mem (l.toLoc calls) ∧
      (Complete (compile kcs) sched →
        (run (compile kcs) sched (init m)).mem (l.toLoc calls) = solo (compile kcs) t m (l.toLoc calls))) ∧
    (∀ l : KLoc, (∀ kc ∈ kcs, l.arr ∉ kc.call.outputs) →
      (run (compile kcs) sched (init m)).mem (l.toLoc calls) = m (l.toLoc calls)) := by
  intro calls
  have hconf : Confined (compile kcs) := compile_confined kcs hne hd
  refine ⟨?_, ?_⟩
  · intro t kc ht l hl
    have hreg : (l.toLoc calls).region = .priv t :=
      region_of_output calls hd t kc.call (by simp [calls, ht]) l.arr hl
    exact ⟨(C12_interleaving_independent _ hconf sched m t).1 _ hreg,
      fun hs => C12_interleaving_independent_complete _ hconf sched hs m t _ hreg⟩
  · intro l hl
    apply C12_shared_unchanged _ hconf
    left
    apply region_unowned
    intro c hc
    simp only [calls, List.mem_map] at hc
    obtain ⟨kc, hkc, rfl⟩ := hc
    exact hl kc hkc

/-- C12-T4 (concurrent kernels are independent). Take any number of native calls in flight — any mix
of the five kernels with any parameters, call number `t` running kernel `ks[t].1` on the arrays
`ks[t].2` — such that every call owns at least one array and the outputs are disjoint: an array owned
by one call (result buffer, queue, status, filter copy, …) is neither owned nor read by another call
(shared ARGUMENT arrays are allowed). Then for EVERY schedule and every initial memory:
(1) after the interleaved run every location of every array owned by call `t` holds exactly what it
holds after `t` has run alone for as many turns as the schedule gave it — in particular
(2) for a complete schedule, exactly the result of its complete solo run — and
(3) every array that no call owns (the shared inputs) is unchanged.
The instance of `C12_concurrent_calls_independent` for the five kernels. -/
theorem C12_concurrent_kernels_independent (ks : List (Kernel × Call))
    (hne : ∀ p ∈ ks, p.2.outputs ≠ []) (hd : DisjointOutputs (ks.map (·.2)))
    (sched : List Nat) (m : Mem) :
    let kcs := ks.map (fun p => p.1.call p.2)
    let calls := ks.map (·.2)
    (∀ (t : Nat) (p : Kernel × Call), ks[t]? = some p → ∀ l : KLoc, l.arr ∈ p.2.outputs →
      (run (compile kcs) sched (init m)).mem (l.toLoc calls) =
        (soloSteps (compile kcs) t (sched.count t) m).mem (l.toLoc calls) ∧
      (Complete (compile kcs) sched →
        (run (compile kcs) sched (init m)).mem (l.toLoc calls) = solo (compile kcs) t m (l.toLoc calls))) ∧
    (∀ l : KLoc, (∀ p ∈ ks, l.arr ∉ p.2.outputs) →
      (run (compile kcs) sched (init m)).mem (l.toLoc calls) = m (l.toLoc calls)) := by
  intro kcs calls
  have hcalls : kcs.map (·.call) = calls := by rw [List.map_map]; rfl
  have h := C12_concurrent_calls_independent kcs
    (fun kc hkc => by obtain ⟨p, hp, rfl⟩ := List.mem_map.1 hkc; exact hne p hp) (hcalls ▸ hd) sched m
  dsimp only at h
  rw [hcalls] at h
  refine ⟨fun t p ht => h.1 t (p.1.call p.2) (by rw [List.getElem?_map, ht]; rfl), fun l hl => h.2 l fun kc hkc => ?_⟩
  obtain ⟨p, hp, rfl⟩ := List.mem_map.1 hkc
  exact hl p hp

/-- `C12_erode_program_computes_model` for one pixel, asking of the memory only that it shows the samples this pixel reads.
Every image qualifies when the structuring element has the image's rank (`ShowsSample.of_inside`). -/
theorem Mahotas.C12.erode_tie {kcs : List KCall} {t : Nat} {dt : DT} {vA vOut vBc : C08.View}
    {bc : Array Int} {aA aBc aOut aTmp : Nat}
    (hk : kcs[t]? = some ((Kernel.erode dt vA vOut vBc bc).call ⟨[aA, aBc], [aOut, aTmp]⟩))
    (hne1 : aA ≠ aOut) (hne2 : aA ≠ aTmp)
    {A : Img Int} (hshape : A.shape = vA.shape) (hpos : ∀ d ∈ vA.shape, 0 < d) {m : Mem}
    (hinj : ∀ k k', k < shapeSize vA.shape → k' < shapeSize vA.shape →
        iterAddr vOut k = iterAddr vOut k' → k = k')
    {k : Nat} (hkn : k < shapeSize vA.shape)
    (hA : ∀ kh ∈ C01.support vBc.shape bc dt.isBool, ShowsSample .nearest vA A
      (fun a => m (L (kcs.map (·.call)) aA a)) (addPos (unravelI vA.shape k) kh.1)) :
    solo (compile kcs) t m (L (kcs.map (·.call)) aOut (iterAddr vOut k)) =
      (C01.erodeModel dt A (C01.support vBc.shape bc dt.isBool)).getD k 0 := by
  let c : Call := ⟨[aA, aBc], [aOut, aTmp]⟩
  let calls := kcs.map (·.call)
  let sup := C01.support vBc.shape bc dt.isBool
  obtain ⟨M, hval, hunowned, -⟩ := solo_gather kcs t calls rfl c _ hk (List.cons_ne_nil _ _) (filterCopyRaw 1 vBc)
    (erodePixel dt vA vOut sup) _ 0 rfl (fun _ => rfl) hinj m k hkn
  refine hval.trans ?_
  have hread : ∀ a, M (L calls (c.arrOf (.inp 0)) a) = m (L calls aA a) := fun a =>
    hunowned aA a (show aA ∉ [aOut, aTmp] by simp [hne1, hne2])
  show erodeVals dt (sup.map (·.2)) (List.map _ (sup.map _ ++ _)) dt.hi = _
  simp only [List.map_append, List.map_map, Function.comp_def, hread]
  rw [List.map_congr_left fun kh hkh => read_nbrAddr_nearest vA A hshape hpos (fun a => m (L calls aA a)) _ (hA kh hkh),
    erodeVals_eq]
  simp only [C01.erodeModel, allPos, hshape, List.map_map]
  simp [Array.getD, hkn, C01.erodeAtExit, sup]

/-- C12-T4 (tie: the erode program computes `C01.erodeModel`). Let call number `t` of ANY family of
calls be `erode` (any dtype, any views of the array / result / structuring element: arbitrary base,
strides, shape with positive axis lengths; any structuring element `bc`: the heights are the generator's support of `bc`,
nothing is assumed about what array `aBc` holds) on arrays `[aA, aBc]` → `[aOut, aTmp]`
with the input array distinct from the owned ones. If the initial memory presents the logical image `A`
through the view `vA` at every position the border rule `nearest` delivers (`hA` ranges over `q` of ANY length, and `fixPos` cuts to the shorter list: for `q` shorter than the rank, `q'` is a prefix
of a position, `vA.addr` gives it the cell of that prefix continued by zeros, and `A.getD q' 0 = 0`. So `hA` can only hold
of an image that is 0 wherever the last coordinate is 0 — `A[0] = 0` in 1-D, a zero first column in 2-D — and the theorem
speaks of those images only; `erode_tie` asks this only at the positions pixel `k` reads and speaks of every image), and the result view does not
overlap itself (distinct iterator addresses for distinct pixels), then after the SOLO run of the compiled
step program the result location of pixel number `k` (the address `iterator_base` reaches after `k`
increments) holds exactly `(C01.erodeModel dt A sup)[k]` — the value of the model the driver runs
(`c01 kind=erode`), early exit included. Together with `C12_concurrent_kernels_independent` the same value
is there after every complete interleaving with any other calls that have disjoint outputs. -/
theorem C12_erode_program_computes_model (kcs : List KCall) (t : Nat) (dt : DT) (vA vOut vBc : C08.View)
    (bc : Array Int) (aA aBc aOut aTmp : Nat)
    (hk : kcs[t]? = some ((Kernel.erode dt vA vOut vBc bc).call ⟨[aA, aBc], [aOut, aTmp]⟩))
    (hne1 : aA ≠ aOut) (hne2 : aA ≠ aTmp)
    (A : Img Int) (hshape : A.shape = vA.shape) (hpos : ∀ d ∈ vA.shape, 0 < d) (m : Mem)
    (hA : ∀ q q', fixPos .nearest vA.shape q = some q' →
        m ((KLoc.mk aA (vA.addr (q'.map Int.toNat))).toLoc (kcs.map (·.call))) = A.getD q' 0)
    (hinj : ∀ k k', k < shapeSize vA.shape → k' < shapeSize vA.shape →
        iterAddr vOut k = iterAddr vOut k' → k = k')
    (k : Nat) (hkn : k < shapeSize vA.shape) :
    solo (compile kcs) t m ((KLoc.mk aOut (iterAddr vOut k)).toLoc (kcs.map (·.call))) =
      (C01.erodeModel dt A (C01.support vBc.shape bc dt.isBool)).getD k 0 :=
  erode_tie hk hne1 hne2 hshape hpos hinj hkn fun _ _ => hA _

/-- `C12_convolve_program_computes_model` for one pixel, asking of the memory only that it shows the samples this pixel reads -/
theorem Mahotas.C12.convolve_tie {kcs : List KCall} {t : Nat} {md : Mode} {vA vOut vW : C08.View}
    {w : Array Int} {aA aW aOut aTmp : Nat}
    (hk : kcs[t]? = some ((Kernel.convolve md vA vOut vW w).call ⟨[aA, aW], [aOut, aTmp]⟩))
    (hne1 : aA ≠ aOut) (hne2 : aA ≠ aTmp)
    {f : Img Int} (hshape : f.shape = vA.shape) {m : Mem}
    (hinj : ∀ k k', k < shapeSize vA.shape → k' < shapeSize vA.shape →
        iterAddr vOut k = iterAddr vOut k' → k = k')
    {k : Nat} (hkn : k < shapeSize vA.shape)
    (hA : ∀ kw ∈ C06.support (fun (x : Int) => x == 0) vW.shape w, ShowsSample md vA f
      (fun a => m (L (kcs.map (·.call)) aA a)) (addPos (unravelI vA.shape k) kw.1)) :
    solo (compile kcs) t m (L (kcs.map (·.call)) aOut (iterAddr vOut k)) =
      C06.convAcc md f (C06.support (fun (x : Int) => x == 0) vW.shape w) (unravelI vA.shape k) := by
  let c : Call := ⟨[aA, aW], [aOut, aTmp]⟩
  let calls := kcs.map (·.call)
  let sup := C06.support (fun (x : Int) => x == 0) vW.shape w
  obtain ⟨M, hval, hunowned, -⟩ := solo_gather kcs t calls rfl c _ hk (List.cons_ne_nil _ _) (filterCopyRaw 1 vW)
    (convPixel md vA vOut sup) _ 0 rfl (fun _ => rfl) hinj m k hkn
  refine hval.trans ?_
  have hread : ∀ a, M (L calls (c.arrOf (.inp 0)) a) = m (L calls aA a) := fun a =>
    hunowned aA a (show aA ∉ [aOut, aTmp] by simp [hne1, hne2])
  show convVals ((convLive md vA sup (unravelI vA.shape k)).map (·.2))
    (List.map _ ((convLive md vA sup (unravelI vA.shape k)).map _ ++ _)) 0 = _
  simp only [List.map_append, List.map_map, Function.comp_def, hread]
  rw [convVals_eq md vA f hshape (fun a => m (L calls aA a)) _ _ hA]
  unfold C06.convAcc
  congr 1
  funext cur kw
  cases C06.sample md f (addPos (unravelI vA.shape k) kw.1) <;> rfl

/-- C12-T4 (tie: the convolve program computes `C06.convAcc`). Same setting (`hA` with the restriction said at
`C12_erode_program_computes_model`) for `convolve` with ANY border mode (flagged samples of `constant`/`ignore` are neither read nor accumulated): after the solo run
the result location of pixel `k` holds the accumulator `C06.convAcc mode f support (unravel k)` of the
polymorphic kernel model, here at `Int` (the driver instantiates the same definition at `Float`; the final
cast to the output dtype of `convolveModel` is not part of the access program). -/
theorem C12_convolve_program_computes_model (kcs : List KCall) (t : Nat) (md : Mode) (vA vOut vW : C08.View)
    (w : Array Int) (aA aW aOut aTmp : Nat)
    (hk : kcs[t]? = some ((Kernel.convolve md vA vOut vW w).call ⟨[aA, aW], [aOut, aTmp]⟩))
    (hne1 : aA ≠ aOut) (hne2 : aA ≠ aTmp)
    (f : Img Int) (hshape : f.shape = vA.shape) (m : Mem)
    (hA : ∀ q q', fixPos md vA.shape q = some q' →
        m ((KLoc.mk aA (vA.addr (q'.map Int.toNat))).toLoc (kcs.map (·.call))) = f.getD q' 0)
    (hinj : ∀ k k', k < shapeSize vA.shape → k' < shapeSize vA.shape →
        iterAddr vOut k = iterAddr vOut k' → k = k')
    (k : Nat) (hkn : k < shapeSize vA.shape) :
    solo (compile kcs) t m ((KLoc.mk aOut (iterAddr vOut k)).toLoc (kcs.map (·.call))) =
      C06.convAcc md f (C06.support (fun (x : Int) => x == 0) vW.shape w) (unravelI vA.shape k) :=
  convolve_tie hk hne1 hne2 hshape hinj hkn fun _ _ => hA _

/-- C12-T4 (tie: the labeled-fold program computes `C08.labeledFoldView`). Let call number `t` be
`labeled_foldl` (any fold function — sum, max, min —, any start value, any `maxlabel`, any views of the
array and of the labels) on arrays `[aA, aL]` → `[aRes, aReg]`, the two owned ids distinct from each other and from both inputs.
If the initial memory holds `mA` in array `aA` and `mL` in array `aL` (the label memory the trace was
generated from), then after the solo run of the step program — `std::fill`, then one read-modify-write
of `result[label]` per in-range element — entry `j < maxlabel` of the result table is exactly
`(C08.labeledFoldView f start maxlabel mA vA mL vL)[j]`, the kernel model the driver runs (`c08 kind=lsum`). -/
theorem C12_labeled_fold_program_computes_model (kcs : List KCall) (t : Nat) (f : Val → Val → Val)
    (start : Val) (maxlabel : Nat) (vA vL : C08.View) (mA mL : Int → Int) (aA aL aRes aReg : Nat)
    (hk : kcs[t]? = some ((Kernel.fold f start maxlabel vA vL mL).call ⟨[aA, aL], [aRes, aReg]⟩))
    (h1 : aA ≠ aRes) (h2 : aA ≠ aReg) (h3 : aL ≠ aRes) (h4 : aL ≠ aReg) (h5 : aRes ≠ aReg) (m : Mem)
    (hA : ∀ a, m ((KLoc.mk aA a).toLoc (kcs.map (·.call))) = mA a)
    (hL : ∀ a, m ((KLoc.mk aL a).toLoc (kcs.map (·.call))) = mL a)
    (j : Nat) (hj : j < maxlabel) :
    (C08.labeledFoldView f start maxlabel mA vA mL vL)[j]? =
      some (solo (compile kcs) t m ((KLoc.mk aRes (j : Int)).toLoc (kcs.map (·.call)))) := by
  -- not needed: the generator takes the labels from `mL`, no step's value depends on what array `aL` holds
  clear hL h3 h4
  let c : Call := ⟨[aA, aL], [aRes, aReg]⟩
  let calls := kcs.map (·.call)
  let fill : Nat → RStep := fun (j : Nat) => ⟨0, (j : Int), [], fun _ => start⟩
  have hne : c.outputs ≠ [] := List.cons_ne_nil _ _
  have hAo : aA ∉ c.outputs := by simp [c, h1, h2]
  rw [solo_compile kcs t _ hk]
  show _ = some (runR calls c ((List.range maxlabel).map fill ++
    (List.range (shapeSize vA.shape)).map (foldStep f maxlabel vA vL mL)) m (L calls aRes (j : Int)))
  -- the cell ends with the fold of the read-modify-writes that hit it (`runR_accumulate`): cell `j` starts at `start` and
  -- takes `f` of the elements labelled `j`
  rw [runR_append, runR_accumulate calls c hne _ aRes (j : Int) _ (fun k => decide (C08.readIter mL vL k = (j : Int)))
    (fun k => f (C08.readIter mA vA k)) _ (fun k _ M hM => ?_)]
  · have hfill := runR_gather calls c [] fill maxlabel 0 (fun _ => rfl) (fun a b _ _ hab => Int.ofNat.inj hab) m j hj
    rw [show runR calls c ((List.range maxlabel).map fill) m (L calls aRes (j : Int)) = start from hfill]
    -- the model side is the owner's slot theorem
    unfold C08.labeledFoldView
    rw [labeledFoldList_eq, C13.labeledFold_slot _ _ _ _ j hj, C13.valuesOf, List.zip_map', List.filter_map, List.map_map,
      List.foldl_map]
    congr 3
  · -- the step of element `k` hits cell `j` exactly when the label it was generated from is `j`
    unfold foldStep
    by_cases hkj : C08.readIter mL vL k = (j : Int)
    · rw [if_pos (decide_eq_true hkj), if_pos (by rw [hkj]; omega), hkj]
      exact ⟨rfl, rfl, congrArg (f · _) ((hM aA _ hAo).trans ((runR_unowned calls c hne _ m aA _ hAo).trans (hA _)))⟩
    · rw [if_neg (by simpa using hkj)]
      by_cases hin : 0 ≤ C08.readIter mL vL k ∧ C08.readIter mL vL k < (maxlabel : Int)
      · rw [if_pos hin]; exact fun _ e => hkj e
      · rw [if_neg hin]; exact fun e _ => h5 e.symm

/-- C12-T4 (tie: the label program computes `C03.labelModel`). Let call number `t` of ANY family of calls be
`label` (any border mode, shape, structuring element) on arrays `[aBc]` → `[aL, aF, aReg, aSeen]` (the `labeled` buffer,
the filter copy, the registers, the `seen` map; `aL` distinct from the other three, registers distinct from `seen`). The
access program is a REAL step program: the addresses are generated along the run of the union-find model (`find` follows
the parent pointers, so they are data dependent, as in `labeled_foldl`), but every stored value is computed by the step
from the values it reads — `data[i] = data[i] ? i : -1`; `find` loads `data[i]`, returns the root through the register
and stores the register on the way back; `join` stores the register at the first root; the renumbering loop does
`data[i] = seen[val]` or `data[i] = next; seen[val] = next; ++next`. If the initial memory holds `data` in the `labeled`
buffer, then after the SOLO run of the compiled program element `j` of that buffer is exactly
`(C03.labelModel mode shape data bshape bc).1[j]` — the model the driver runs (`c03 kind=label`, proved equal to the
connected-component specification in C03) — and the `next` register holds the returned count plus one. With
`C12_concurrent_kernels_independent` the same labels are there after every complete interleaving with any other calls that
have disjoint outputs. (No well-formedness of the parent forest is assumed: the simulation holds for every input, using
only that every parent entry is `-1` or an index below `N`, which the program itself maintains.) -/
theorem C12_label_program_computes_model (kcs : List KCall) (t : Nat) (md : Mode) (shape : List Nat)
    (data : List Int) (vBc : C08.View) (bc : Array Int) (aBc aL aF aReg aSeen : Nat)
    (hk : kcs[t]? = some ((Kernel.label md shape data vBc bc).call ⟨[aBc], [aL, aF, aReg, aSeen]⟩))
    (hLF : aL ≠ aF) (hLR : aL ≠ aReg) (hLS : aL ≠ aSeen) (hRS : aReg ≠ aSeen) (m : Mem)
    (hM : ∀ j, j < data.length → m ((KLoc.mk aL (j : Int)).toLoc (kcs.map (·.call))) = data.getD j 0) :
    (∀ j, j < data.length →
      solo (compile kcs) t m ((KLoc.mk aL (j : Int)).toLoc (kcs.map (·.call))) =
        (C03.labelModel md shape data vBc.shape bc).1.getD j 0) ∧
    solo (compile kcs) t m ((KLoc.mk aReg 1).toLoc (kcs.map (·.call))) =
      (C03.labelModel md shape data vBc.shape bc).2 + 1 := by
  rw [solo_compile kcs t ⟨lcall aBc aL aF aReg aSeen, labelRaw md shape data vBc bc⟩ hk]
  have h := label_runR (calls := kcs.map fun (x : KCall) => x.call) (aBc := aBc) hLF hLR hLS hRS md shape data vBc bc m hM
  dsimp only [L] at h ⊢
  exact h

/-- C12-T4 (tie: the cwatershed program computes `C04.cwatershedModel`). Let call number `t` of ANY family of calls
be `cwatershed` on arrays `[aS, aM, aBc]` (surface, markers, Bc) → `[aRes, aSt, aQ, aLn, aT, aR]` (result, `status`, priority
queue, `lines`, neighbour table, register) with `res`, `status`, `lines` distinct from each other and from the queue, the
table and the register, and the markers array distinct from the owned arrays written before it is read (`CDist`). Every
value the access program stores into `res`, `status`, `lines` is a constant the C++ stores as a constant
(`status[..] = grey/black`, `lines[..] = true`) or a copy of a value it reads (`res[mpos] = *miter`,
`rdata[npos] = rdata[next.position]`); the addresses are generated along the run of the model (the order in which the queue
delivers the pixels is data dependent). If markers and surface have the same shape, `Bc` has their rank, the initial
memory shows the markers through `vM`'s iterator and holds zeros in the `res` and `lines` buffers (`PyArray_ZEROS` in
`py_cwatershed`), then after the SOLO run of the compiled program, for every pixel `j`: `res[j]`, `status[j]` (0 white / 1 grey
/ 2 black) and `lines[j]` (0/1) are exactly those of `C04.cwatershedModel surf markers bshape bc` — the model the driver
runs (`c04 kind=ws`), proved equal to the specification flooding in C04. That every popped position lies inside the
buffers (`next.position < N`) is part of the proof (from `C04.Rel`: `C04.visit_rel`, `C04.rel_pop`); that a neighbour
position does (`npos < N`) is `C04.nbCheck_sound` and is not needed for this statement. The surface VALUES are
irrelevant for this statement: they only flow into queue cells; the pop order is the model's. -/
theorem C12_cwatershed_program_computes_model (kcs : List KCall) (t : Nat) (vS vM vBc : C08.View)
    (surf markers : Img Int) (bc : Array Int) (aS aM aBc aRes aSt aQ aLn aT aR : Nat)
    (hk : kcs[t]? = some ((Kernel.cwatershed vS vM vBc surf markers bc).call
      ⟨[aS, aM, aBc], [aRes, aSt, aQ, aLn, aT, aR]⟩))
    (hd : CDist aM aRes aSt aQ aLn aT aR)
    (hms : markers.shape = surf.shape) (hb : vBc.shape.length = surf.shape.length) (m : Mem)
    (hres : ∀ j, j < shapeSize surf.shape → m ((KLoc.mk aRes (j : Int)).toLoc (kcs.map (·.call))) = 0)
    (hln : ∀ j, j < shapeSize surf.shape → m ((KLoc.mk aLn (j : Int)).toLoc (kcs.map (·.call))) = 0)
    (hmk : ∀ i, i < shapeSize surf.shape →
      m ((KLoc.mk aM (iterAddr vM i)).toLoc (kcs.map (·.call))) = markers.data.getD i 0)
    (j : Nat) (hj : j < shapeSize surf.shape) :
    solo (compile kcs) t m ((KLoc.mk aRes (j : Int)).toLoc (kcs.map (·.call))) =
      (C04.cwatershedModel surf markers vBc.shape bc).res.getD j 0 ∧
    solo (compile kcs) t m ((KLoc.mk aSt (j : Int)).toLoc (kcs.map (·.call))) =
      (((C04.cwatershedModel surf markers vBc.shape bc).status.getD j 0 : Nat) : Int) ∧
    solo (compile kcs) t m ((KLoc.mk aLn (j : Int)).toLoc (kcs.map (·.call))) =
      (if (C04.cwatershedModel surf markers vBc.shape bc).lines.getD j false = true then 1 else 0) := by
  rw [solo_compile kcs t ⟨ccall aS aM aBc aRes aSt aQ aLn aT aR, cwatershedRaw vS vM vBc surf markers bc⟩ hk]
  obtain ⟨h1, h2, h3, -, -, -⟩ := cwatershed_runR (calls := kcs.map fun (x : KCall) => x.call) (aS := aS) (aBc := aBc) hd
    vS vM vBc surf markers bc hms hb m hres hln hmk
  dsimp only [L] at h1 h2 h3 ⊢
  exact ⟨h1 j hj, h2 j hj, h3 j hj⟩

/-- C12-T4 (roles are well formed: confinement is not an artefact of the fall-back). `Call.arrOf` resolves a role
whose index does not exist to the call's first owned array, which makes `mkStep_within` true for ANY role-level
step. This theorem removes that crutch for the five kernel access programs: for every kernel `k` (any parameters,
any data) (1) every step `r` of `k.raw` mentions only roles inside `k.arity` (`RStep.rolesOk`: destination index
`< arity.2`, every source `inp i` with `i < arity.1`, `own i` with `i < arity.2`) — erode, convolve and the labeled
folds use 2 argument and 2 owned arrays, label 1 and 4, cwatershed 3 and 6; hence (2) for every footprint `c` with
at least `arity.1` argument arrays and `arity.2` owned arrays the STRICT resolution `mkStep?` (which fails instead of
falling back) succeeds on every step and returns exactly `mkStep c r`; (3) the array written is `c.outputs[r.dst]`,
the owned array the step names. So the write set of each kernel is contained in the call's owned arrays because
every destination IS one of the named owned arrays, and the read set in the named argument / owned arrays. -/
theorem C12_kernel_roles_wellformed (k : Kernel) :
    (∀ r ∈ k.raw, r.rolesOk k.arity = true) ∧
    (∀ c : Call, c.HasArity k.arity → ∀ r ∈ k.raw,
      mkStep? c r = some (mkStep c r) ∧ c.outputs[r.dst]? = some (mkStep c r).dst.arr) := by
  refine ⟨kernel_rolesOk k, fun c hc r hr => ⟨?_, ?_⟩⟩
  · exact mkStep?_of_rolesOk c k.arity hc r (kernel_rolesOk k r hr)
  · exact mkStep_dst_of_rolesOk c k.arity hc r (kernel_rolesOk k r hr)

/-- **C12 (exception paths release nothing).** Composition of the lock skeletons (T2) with the confinement of the
access programs (T4). Take any family `kcs` of native calls in flight (arbitrary role-level programs, every call owns an
array, disjoint outputs) and let call `t` = `kc` be wrapped in idiom `i` ∈ {(a) RAII release inside
`SAFE_SWITCH_ON_TYPES_OF`, (b) braced scope with `restore()`, (c) `try { gil_release … } catch (bad_alloc)`} and leave
its kernel with ANY outcome `o` the idiom can exhibit: a C++ exception after `k` steps ((a), (c)), an in-place error
after `k` steps ((b)), or normal completion. Then
(1) *control*: the trace keeps the lock `Discipline`; it is `validate, release`, then exactly as many `kernelStep`s as the
truncated access program `kc.truncate o` has steps (the first `min k n` steps of the program), then the exit sequence
(`throw, acquire, PyErr, ret` resp. `acquire, PyErr, ret`) — every kernel step lies between the release and the exit
sequence, none after the throw;
(2) *memory, the call alone*: the steps that did run leave every location of every array the call does not own
unchanged (its arguments included) — whatever `k` is;
(3) *memory, the other calls*: for every schedule, every location outside the arrays `t` owns holds exactly what it
holds when call `t` never runs its kernel at all (program `[]`): the other calls' results and the shared inputs cannot
tell whether, or where, `t` raised;
(4) the partial result left in `t`'s own arrays after a complete schedule is that of the first `min k n` steps of its
solo program, independent of the schedule. -/
theorem C12_exception_paths_release_nothing (kcs : List KCall)
    (hne : ∀ kc ∈ kcs, kc.call.outputs ≠ []) (hd : DisjointOutputs (kcs.map (·.call)))
    (t : Nat) (kc : KCall) (ht : kcs[t]? = some kc) (i : Idiom) (o : Outcome)
    (hp : Outcome.possible i o = true) (sched : List Nat) (m : Mem) :
    let n := kc.raw.length
    let tr := skeleton i n false o
    let kcs' := kcs.set t (kc.truncate o)
    let kcs0 := kcs.set t ⟨kc.call, []⟩
    let calls := kcs.map (·.call)
    (Discipline tr ∧
      tr = [.validate, .release] ++ steps (kc.truncate o).raw.length ++ exitSeq o ∧
      tr.count .kernelStep = (kc.truncate o).raw.length ∧
      (∀ j, tr[j]? = some .kernelStep → 2 ≤ j ∧ j < 2 + (kc.truncate o).raw.length) ∧
      Ev.kernelStep ∉ exitSeq o) ∧
    (∀ l : KLoc, l.arr ∉ kc.call.outputs →
      solo (compile kcs') t m (l.toLoc calls) = m (l.toLoc calls)) ∧
    (∀ l : KLoc, l.arr ∉ kc.call.outputs →
      (run (compile kcs') sched (init m)).mem (l.toLoc calls) =
        (run (compile kcs0) sched (init m)).mem (l.toLoc calls)) ∧
    (Complete (compile kcs') sched → ∀ l : KLoc, l.arr ∈ kc.call.outputs →
      (run (compile kcs') sched (init m)).mem (l.toLoc calls) =
        execAll ((compile kcs t).take (o.ran n)) m (l.toLoc calls)) := by
  intro n tr kcs' kcs0 calls
  have hlen : (kc.truncate o).raw.length = o.ran n := truncate_length kc o
  have hc' : kcs'.map (·.call) = calls := set_map_call kcs t kc _ ht (truncate_call kc o)
  have hlt : t < kcs.length := (List.getElem?_eq_some_iff.1 ht).1
  have ht' : kcs'[t]? = some (kc.truncate o) := by simp [kcs', hlt]
  have hkcne : kc.call.outputs ≠ [] := hne kc (List.mem_of_getElem? ht)
  have hconf' : Confined (compile kcs') := compile_confined kcs' (fun x hx => by
    rcases List.mem_or_eq_of_mem_set hx with h | h
    · exact hne x h
    · rw [h, truncate_call]; exact hkcne) (by rw [hc']; exact hd)
  refine ⟨⟨C12_gil_discipline_all_paths i n o hp, ?_, ?_, ?_, (exitSeq_no_kernelStep o).1⟩, ?_, ?_, ?_⟩
  · rw [hlen]; exact skeleton_shape i n o hp
  · rw [hlen]; exact skeleton_kernelSteps i n o hp
  · intro j hj; rw [hlen]; exact skeleton_kernelStep_pos i n o hp j hj
  · intro l hl
    have := solo_frame kcs' t (kc.truncate o) ht' (by rw [truncate_call]; exact hkcne) m l
      (by rw [truncate_call]; exact hl)
    rw [hc'] at this
    exact this
  · -- what call `t` runs is invisible outside its arrays
    exact fun l hl => run_indep_of_call kcs hne hd t kc ht _ ⟨kc.call, []⟩ (truncate_call kc o) rfl sched m l hl
  · intro hs l hl
    have hreg : (l.toLoc calls).region = .priv t :=
      region_of_output calls hd t kc.call (by simp [calls, ht]) l.arr hl
    rw [C12_interleaving_independent_complete _ hconf' sched hs m t _ hreg, solo_eq_execAll,
      compile_truncate kcs t kc ht o]

/-- C12-T4 (confinement of eight more kernels). Each access program of `Model/C12Kernels2.lean` (`dilate`,
`rank_filter`, `template_match`, `cooccurence`, `dist_transform`/`py_dt`, `borders`, `thin`, `zoom_shift`; what each
reads and writes is said there) called on ANY footprint `c` with at least one owned array, for ALL shapes, strides, base
offsets, element values, border modes, ranks, orders:
(1) every step writes an array the call owns and reads only argument arrays or owned arrays (`KStep.Within`),
(2) the write set lies in the outputs, (3) the read set lies in inputs ∪ outputs,
(4) in every family of calls with disjoint outputs in which this call is number `t`, every step of the
compiled thread program is `Step.Confined t`.
As for the kernels of `Model/C12Kernels.lean` this is a statement about the hand-written access programs (they follow the
C++ by reading); see `C12_more_kernels_roles_ok` for "no role falls back to the default array". -/
theorem C12_more_kernels_confined (k : Kernel2) (c : Call) (hne : c.outputs ≠ []) :
    (∀ s ∈ (k.call c).prog, s.Within c) ∧
    (∀ l ∈ writeSet (k.call c).prog, l.arr ∈ c.outputs) ∧
    (∀ l ∈ readSet (k.call c).prog, l.arr ∈ c.inputs ∨ l.arr ∈ c.outputs) ∧
    (∀ (kcs : List KCall) (t : Nat), kcs[t]? = some (k.call c) → DisjointOutputs (kcs.map (·.call)) →
      ∀ s ∈ compile kcs t, s.Confined t) :=
  kcall_confined (k.call c) hne

/-- C12-T4 (roles within the arity). For every kernel of `Model/C12Kernels2.lean` and every step `r` of its
role-level program, every role `r` mentions exists in a call of the kernel's arity
(`RStep.rolesOk k.arity`: the destination index is below the number of owned arrays, every source
`inp i` / `own i` below the number of argument / owned arrays).  Consequently, on a footprint `c` with exactly
`k.arity.1` argument arrays and `k.arity.2` owned arrays NO role falls back to the default array: the step
`mkStep c r` writes the array `c.outputs[r.dst]`, and every source role `inp i` / `own i` resolves to
`c.inputs[i]` / `c.outputs[i]`; and on every footprint with AT LEAST that arity the strict resolution `mkStep?`
(which fails instead of falling back, see `C12_kernel_roles_wellformed`) returns exactly `mkStep c r`. -/
theorem C12_more_kernels_roles_ok (k : Kernel2) :
    (∀ r ∈ k.raw, r.rolesOk k.arity = true) ∧
    (∀ (c : Call), c.inputs.length = k.arity.1 → c.outputs.length = k.arity.2 → ∀ r ∈ k.raw,
      (∃ h : r.dst < c.outputs.length, (mkStep c r).dst.arr = c.outputs[r.dst]) ∧
      (∀ l ∈ r.srcs, match l.role with
        | .inp i => ∃ h : i < c.inputs.length, c.arrOf l.role = c.inputs[i]
        | .own i => ∃ h : i < c.outputs.length, c.arrOf l.role = c.outputs[i])) ∧
    (∀ c : Call, c.HasArity k.arity → ∀ r ∈ k.raw, mkStep? c r = some (mkStep c r)) :=
  ⟨kernel2_rolesOk k, fun c hi ho r hr => mkStep_resolved c k.arity r (kernel2_rolesOk k r hr) hi ho,
   fun c hc r hr => mkStep?_of_rolesOk c k.arity hc r (kernel2_rolesOk k r hr)⟩

/-- `C12_template_match_program_computes_model` for one pixel, asking of the memory only that it shows the samples this pixel
reads -/
theorem Mahotas.C12.template_match_tie {kcs : List KCall} {t : Nat} {md : Mode}
    {vA vOut vT : C08.View} {aF aT aOut : Nat}
    (hk : kcs[t]? = some ((Kernel2.templateMatch md false vA vOut vT).call ⟨[aF, aT], [aOut]⟩))
    (hne1 : aF ≠ aOut) (hne2 : aT ≠ aOut)
    {f : Img Int} (hshape : f.shape = vA.shape) {tp : Array Int} {m : Mem}
    (hT : ∀ j : Nat, j < shapeSize vT.shape → m (L (kcs.map (·.call)) aT (vT.base + (j : Int))) = tp.getD j 0)
    (hinj : ∀ k k', k < shapeSize vA.shape → k' < shapeSize vA.shape →
        iterAddr vOut k = iterAddr vOut k' → k = k')
    {k : Nat} (hkn : k < shapeSize vA.shape)
    (hA : ∀ j, j < shapeSize vT.shape → ShowsSample md vA f (fun a => m (L (kcs.map (·.call)) aF a))
      (addPos (unravelI vA.shape k) (C07.offsetOf vT.shape j))) :
    solo (compile kcs) t m (L (kcs.map (·.call)) aOut (iterAddr vOut k)) =
      C07.tmAt md f vT.shape tp (unravelI vA.shape k) := by
  let c : Call := ⟨[aF, aT], [aOut]⟩
  let calls := kcs.map (·.call)
  let p := unravelI vA.shape k
  obtain ⟨M, hval, hunowned, -⟩ := solo_gather kcs t calls rfl c _ hk (List.cons_ne_nil _ _) []
    (tmPixel md false vA vOut vT) _ 0 rfl (fun _ => rfl) hinj m k hkn
  refine hval.trans ?_
  have hread : ∀ a off, a ≠ aOut → M (L calls a off) = m (L calls a off) := fun a off ha =>
    hunowned a off (show a ∉ [aOut] by simpa using ha)
  dsimp only [tmPixel]
  simp only [List.map_append, List.map_map, Function.comp_def]
  rw [List.take_left' (List.length_map _), List.drop_left' (List.length_map _)]
  exact tmVals_eq md vA f hshape vT.shape tp (fun a => M (L calls aF a)) (fun j => M (L calls aT (vT.base + (j : Int))))
    p (List.range (shapeSize vT.shape)) (fun j hj q' hq => (hread aF _ hne1).trans (hA j (List.mem_range.1 hj) q' hq))
    (fun j hj => (hread aT _ hne2).trans (hT j (List.mem_range.1 hj))) 0

/-- C12-T4 (tie: the template_match program computes `C07.tmAt`). Let call number `t` of ANY family of
calls be `template_match` (`just_equality = false`, any border mode, any views of the image / result /
template) on arrays `[aF, aT]` → `[aOut]`, the result array distinct from both arguments. If the initial memory
presents the logical image `f` through the view `vA` at every position the border rule delivers (`hA` ranges over `q` of ANY
length: see `C12_erode_program_computes_model`), and the
template `tp` at `t.data()[j]` (`vT.base + j`, `j` below the template size: the wrapper passes a C-contiguous
template), and the result view does not overlap itself, then after the SOLO run of the compiled step program
— one step per pixel whose operation recomputes `diff2` from the values READ from the image and from the
template — the result location of pixel number `k` holds exactly `C07.tmAt mode f tshape tp (unravel k)`, the
value of the model the driver runs (`c07 kind=tm`). With `C12_concurrent_calls_independent` the same value is
there after every complete interleaving with any other calls that have disjoint outputs. -/
theorem C12_template_match_program_computes_model (kcs : List KCall) (t : Nat) (md : Mode)
    (vA vOut vT : C08.View) (aF aT aOut : Nat)
    (hk : kcs[t]? = some ((Kernel2.templateMatch md false vA vOut vT).call ⟨[aF, aT], [aOut]⟩))
    (hne1 : aF ≠ aOut) (hne2 : aT ≠ aOut)
    (f : Img Int) (hshape : f.shape = vA.shape) (tp : Array Int) (m : Mem)
    (hA : ∀ q q', fixPos md vA.shape q = some q' →
        m ((KLoc.mk aF (vA.addr (q'.map Int.toNat))).toLoc (kcs.map (·.call))) = f.getD q' 0)
    (hT : ∀ j : Nat, j < shapeSize vT.shape →
        m ((KLoc.mk aT (vT.base + (j : Int))).toLoc (kcs.map (·.call))) = tp.getD j 0)
    (hinj : ∀ k k', k < shapeSize vA.shape → k' < shapeSize vA.shape →
        iterAddr vOut k = iterAddr vOut k' → k = k')
    (k : Nat) (hkn : k < shapeSize vA.shape) :
    solo (compile kcs) t m ((KLoc.mk aOut (iterAddr vOut k)).toLoc (kcs.map (·.call))) =
      C07.tmAt md f vT.shape tp (unravelI vA.shape k) :=
  template_match_tie hk hne1 hne2 hshape hT hinj hkn fun _ _ => hA _

/-- `C12_rank_filter_program_computes_model` for one pixel, asking of the memory only that it shows the samples this pixel
reads -/
theorem Mahotas.C12.rank_filter_tie {kcs : List KCall} {t : Nat} {md : Mode} {rank : Int}
    {vA vOut vBc : C08.View} {bc : Array Int} {aA aBc aOut aFd aNb aTmp : Nat}
    (hk : kcs[t]? = some ((Kernel2.rank md rank vA vOut vBc bc).call ⟨[aA, aBc], [aOut, aFd, aNb, aTmp]⟩))
    (hA1 : aA ≠ aOut) (hA2 : aA ≠ aFd) (hA3 : aA ≠ aNb) (hA4 : aA ≠ aTmp)
    (h1 : aOut ≠ aNb) (h2 : aOut ≠ aTmp) (h3 : aNb ≠ aTmp)
    {f : Img Int} (hshape : f.shape = vA.shape) {m : Mem}
    (hinj : ∀ k k', k < shapeSize vA.shape → k' < shapeSize vA.shape →
        iterAddr vOut k = iterAddr vOut k' → k = k')
    {k : Nat} (hkn : k < shapeSize vA.shape)
    (hA : ∀ d ∈ C07.footprint vBc.shape bc, ShowsSample md vA f (fun a => m (L (kcs.map (·.call)) aA a))
      (addPos (unravelI vA.shape k) d)) {v : Int}
    (hv : C07.rankAt md f (C07.footprint vBc.shape bc) rank (unravelI vA.shape k) = some v) :
    solo (compile kcs) t m (L (kcs.map (·.call)) aOut (iterAddr vOut k)) = v := by
  let c : Call := ⟨[aA, aBc], [aOut, aFd, aNb, aTmp]⟩
  let calls := kcs.map (·.call)
  let fp := C07.footprint vBc.shape bc
  let N := shapeSize vA.shape
  let p := unravelI vA.shape k
  let smp := rankSamples md vA fp p
  let n := smp.length
  let cr := C07.curRank n fp.length rank.toNat
  have hrank : ¬(rank < 0 ∨ rank ≥ (fp.length : Int)) := fun h => by
    unfold C07.rankAt at hv
    rw [if_pos h] at hv
    cases hv
  -- the blocks of the other pixels write `neighbours`, the locals and their own result cells
  obtain ⟨M0, hval, hunowned, -⟩ := solo_block kcs t calls rfl c _ hk (List.cons_ne_nil _ _) (filterCopyRaw 1 vBc)
    (rankPixel md rank.toNat vA vOut fp) N (congrArg _ (if_neg hrank)) m k hkn aOut (iterAddr vOut k) (fun i hiN hik =>
    allOf_append (allOf_append (allOf_append (allOf_map fun _ h => absurd h h1.symm)
      (allOf_map fun _ h => absurd h h2.symm)) (allOf_map fun _ h => absurd h h1.symm))
      (allOf_cons (fun _ heq => hik (hinj i k hiN hkn heq)) allOf_nil))
  refine hval.trans ?_
  have hread : ∀ a, M0 (L calls aA a) = m (L calls aA a) := fun a =>
    hunowned aA a (by simp [c, hA1, hA2, hA3, hA4])
  let g : Option Int → Val := fun o => match o with | some a => M0 (L calls aA a) | none => 0
  unfold rankPixel
  dsimp only
  rw [runR_append, runR_append, runR_append]
  have injOff : ∀ k k', k < n → k' < n → ((k : Nat) : Int) = (k' : Int) → k = k' := fun _ _ _ _ h => Int.ofNat.inj h
  -- both facts by cases on the sample: a flagged sample has no source
  have hS : ∀ o : Option Int,
      (∀ l ∈ (match o with | some a => [⟨.inp 0, a⟩] | none => [] : List RLoc), c.arrOf l.role ≠ aNb) ∧
      List.headD (List.map (fun l : RLoc => M0 (L calls (c.arrOf l.role) l.off))
        (match o with | some a => [⟨.inp 0, a⟩] | none => [] : List RLoc)) 0 = g o := fun o => by
    cases o
    · exact ⟨allOf_nil, rfl⟩
    · exact ⟨allOf_cons hA3 allOf_nil, rfl⟩
  generalize hM1 : runR calls c (List.map _ (List.range n)) M0 = M1
  have hP1 : ∀ j, j < n → M1 (L calls aNb (j : Int)) = g (smp.getD j none) := fun j hj => by
    rw [← hM1]
    refine (runR_phase calls c _ n 2 (fun _ => rfl) injOff M0 j hj ?_).trans ?_
    · exact (hS (smp.getD j none)).1
    · dsimp only
      exact (hS (smp.getD j none)).2
  generalize hM2 : runR calls c (List.map _ (List.range n)) M1 = M2
  have hP2 : ∀ j, j < n → M2 (L calls aTmp (j : Int)) = g (smp.getD j none) := fun j hj => by
    rw [← hM2]
    refine (runR_phase calls c _ n 3 (fun _ => rfl) injOff M1 j hj ?_).trans (hP1 j hj)
    exact allOf_cons h3 allOf_nil
  have hgather : smp.map g = C07.gather md f fp p :=
    rankSamples_vals md vA f hshape (fun a => M0 (L calls aA a)) fp p fun d hd q' hq => (hread _).trans (hA d hd q' hq)
  generalize hM3 : runR calls c (List.map _ (List.range n)) M2 = M3
  have hP3 : ∀ j, j < n → M3 (L calls aNb (j : Int)) = sortedAt j (C07.gather md f fp p) := fun j hj => by
    rw [← hM3]
    refine (runR_phase calls c _ n 2 (fun _ => rfl) injOff M2 j hj ?_).trans ?_
    · exact allOf_map fun _ => h3.symm
    dsimp only
    rw [List.map_map, ← hgather, ← range_map_getD_comp smp none]
    exact congrArg _ (List.map_congr_left fun l hl => hP2 l (List.mem_range.1 hl))
  have hlen : (C07.gather md f fp p).length = n := by rw [← hgather]; exact List.length_map _
  have hnth : C07.nthElement (C07.gather md f fp p) cr = some v := by
    unfold C07.rankAt at hv
    rw [if_neg hrank] at hv
    dsimp only at hv
    rw [hlen] at hv
    exact hv
  have hcr : cr < n := hlen ▸ C07.nthElement_lt _ _ _ hnth
  rw [runR_cons, runR_nil, exec_mkStep]
  refine (set_same _ _ _).trans ((hP3 cr hcr).trans ?_)
  unfold sortedAt
  rw [C07.kthSmallest_eq_nthElement, hnth]
  rfl

/-- C12-T4 (tie: the rank_filter program computes `C07.rankAt`). Let call number `t` of ANY family of calls
be `rank_filter` (any border mode, any rank, any views, any structuring element) on arrays `[aA, aBc]` →
`[aOut, aFd, aNb, aTmp]` (result, `filter_data_`, the private `neighbours` buffer, the locals of
`nth_element`), the input array distinct from the owned ones and result / `neighbours` / locals pairwise
distinct. If the initial memory presents the logical image `f` through the view `vA` at every position the
border rule delivers (`hA` ranges over `q` of ANY length: see `C12_erode_program_computes_model`) and the result view does not overlap itself, then after the SOLO run of the compiled step
program — per pixel: the samples are stored into `neighbours` one by one (`cval = 0` for a flagged sample in
mode constant), the range is snapshot and written back sorted (one admissible outcome of `nth_element`), and
`neighbours[currank]` is copied to the result — the result location of every pixel `k` at which the model is
defined (`C07.rankAt … = some v`: rank inside `[0, N2)`, at least one sample) holds exactly `v`, the value of the
model the driver runs (`c07 kind=rank`). The private buffer is reused by all pixels; that no later pixel
disturbs an earlier result is part of the proof. With `C12_concurrent_calls_independent` the same value is there
after every complete interleaving with any other calls that have disjoint outputs. -/
theorem C12_rank_filter_program_computes_model (kcs : List KCall) (t : Nat) (md : Mode) (rank : Int)
    (vA vOut vBc : C08.View) (bc : Array Int) (aA aBc aOut aFd aNb aTmp : Nat)
    (hk : kcs[t]? = some ((Kernel2.rank md rank vA vOut vBc bc).call ⟨[aA, aBc], [aOut, aFd, aNb, aTmp]⟩))
    (hA1 : aA ≠ aOut) (hA2 : aA ≠ aFd) (hA3 : aA ≠ aNb) (hA4 : aA ≠ aTmp)
    (h1 : aOut ≠ aNb) (h2 : aOut ≠ aTmp) (h3 : aNb ≠ aTmp)
    (f : Img Int) (hshape : f.shape = vA.shape) (m : Mem)
    (hA : ∀ q q', fixPos md vA.shape q = some q' →
        m ((KLoc.mk aA (vA.addr (q'.map Int.toNat))).toLoc (kcs.map (·.call))) = f.getD q' 0)
    (hinj : ∀ k k', k < shapeSize vA.shape → k' < shapeSize vA.shape →
        iterAddr vOut k = iterAddr vOut k' → k = k')
    (k : Nat) (hkn : k < shapeSize vA.shape) (v : Int)
    (hv : C07.rankAt md f (C07.footprint vBc.shape bc) rank (unravelI vA.shape k) = some v) :
    solo (compile kcs) t m ((KLoc.mk aOut (iterAddr vOut k)).toLoc (kcs.map (·.call))) = v :=
  rank_filter_tie hk hA1 hA2 hA3 hA4 h1 h2 h3 hshape hinj hkn (fun _ _ => hA _) hv

/-- C12-T4 (tie: the dilate program computes `C01.dilateModel`). Let call number `t` of ANY family of calls
be `dilate` — a SCATTER kernel: after `std::fill(res, min)` every pixel raises the result at its (clamped)
neighbour positions by read-modify-writes of the RESULT array — with any dtype, any view of the input (axis lengths positive), any
structuring element of the image's rank, on arrays `[aA, aBc]` → `[aOut, aFd]`, the input array distinct from the
owned ones. The result view has the image's shape and one stride per axis (any strides: then its iterator
visits `addr (unravel i)`, `C08_iterator_visits_C_order`) and does not overlap itself. If the initial memory
presents the logical image `A` through the iterator of `vA`, then after the SOLO run of the compiled step
program the result location of pixel number `k` holds exactly `(C01.dilateModel dt A sup)[k]`, the value of
the model the driver runs (`c01 kind=dilate`) — the `continue` at `*iter == min` and the conditional store
`if (nval > arr_val)` included (the step stores the old value back where the C++ does not store). The proof is
cell by cell: through all `N · N2` read-modify-writes the result cell takes the running maximum of the candidates scattered
to it (`runR_accumulate`), and so does the model's (`C01.dilateModel_getD`).
With `C12_concurrent_calls_independent` the same value is there after every complete interleaving with any
other calls that have disjoint outputs. -/
theorem C12_dilate_program_computes_model (kcs : List KCall) (t : Nat) (dt : DT) (vA vOut vBc : C08.View)
    (bc : Array Int) (aA aBc aOut aFd : Nat)
    (hk : kcs[t]? = some ((Kernel2.dilate dt vA vOut vBc bc).call ⟨[aA, aBc], [aOut, aFd]⟩))
    (hA1 : aA ≠ aOut) (hA2 : aA ≠ aFd)
    (A : Img Int) (hshape : A.shape = vA.shape) (hpos : ∀ d ∈ vA.shape, 0 < d)
    (hsup : ∀ kh ∈ C01.support vBc.shape bc dt.isBool, kh.1.length = vA.shape.length) (m : Mem)
    (hA : ∀ i, i < shapeSize vA.shape →
        m ((KLoc.mk aA (iterAddr vA i)).toLoc (kcs.map (·.call))) = A.getD (unravelI vA.shape i) dt.lo)
    (hOshape : vOut.shape = vA.shape) (hOlen : vOut.strides.length = vOut.shape.length)
    (hinj : ∀ k k', k < shapeSize vA.shape → k' < shapeSize vA.shape →
        iterAddr vOut k = iterAddr vOut k' → k = k')
    (k : Nat) (hkn : k < shapeSize vA.shape) :
    solo (compile kcs) t m ((KLoc.mk aOut (iterAddr vOut k)).toLoc (kcs.map (·.call))) =
      (C01.dilateModel dt A (C01.support vBc.shape bc dt.isBool)).getD k dt.lo := by
  have hvis : ∀ i, i < shapeSize vA.shape → iterAddr vOut i = vOut.addr (unravel vA.shape i) := fun i hi => by
    have := iterAddr_eq_addr vOut hOlen i (by rw [hOshape]; exact hi)
    rw [hOshape] at this
    exact this
  let c : Call := ⟨[aA, aBc], [aOut, aFd]⟩
  let calls := kcs.map (·.call)
  let sup := C01.support vBc.shape bc dt.isBool
  let N := shapeSize vA.shape
  let fill : Nat → RStep := fun i => ⟨0, iterAddr vOut i, [], fun _ => dt.lo⟩
  have hne : c.outputs ≠ [] := List.cons_ne_nil _ _
  have hAo : aA ∉ c.outputs := by simp [c, hA1, hA2]
  rw [solo_compile kcs t _ hk]
  show runR calls c ((filterCtorRaw dt.isBool 1 vBc ++ (List.range N).map fill) ++
    (List.range N).flatMap fun i => (enumFrom 0 sup).filterMap (dilateStepR dt vA vOut vBc i)) m
      (L calls aOut (iterAddr vOut k)) = _
  -- the cell ends with the fold of the read-modify-writes that hit it (`runR_accumulate`): cell `k` starts at the minimum
  -- and takes `dilateVal` of the candidates scattered to it
  rw [dilate_steps_eq dt vA vOut vBc hpos, runR_append, runR_accumulate calls c hne _ aOut (iterAddr vOut k) _
    (fun x => ravelI vA.shape (clampPos vA.shape (addPos (unravelI vA.shape x.1) x.2.2.1)) == k)
    (fun x r => dilateVal dt x.2.2.2 [r, A.getD (unravelI vA.shape x.1) dt.lo]) _ (fun x hx M hM => ?_),
    show runR calls c (filterCtorRaw dt.isBool 1 vBc ++ (List.range N).map fill) m (L calls aOut (iterAddr vOut k)) =
      dt.lo from runR_gather calls c (filterCtorRaw dt.isBool 1 vBc) fill N 0 (fun _ => rfl) hinj m k hkn]
  · -- the model side is the owner's slot theorem: the running maximum of the same candidates, pixel by pixel
    rw [C01.dilateModel_getD dt A _ k (by rw [Img.size, hshape]; exact hkn), C01.listMax, C01.scatCands, C01.scatStores,
      List.foldl_map, List.foldl_filter, List.foldl_filter, List.foldl_flatMap, List.foldl_flatMap, allPos, List.foldl_map,
      hshape]
    refine foldl_congr_mem _ _ _ (fun r i _ => ?_) _
    rw [List.foldl_map]
    refine (foldl_enumFrom (fun r kh =>
      if (ravelI vA.shape (clampPos vA.shape (addPos (unravelI vA.shape i) kh.1)) == k) = true then
        dilateVal dt kh.2 [r, A.getD (unravelI vA.shape i) dt.lo] else r) sup 0 r).trans ?_
    by_cases hv : A.getD (unravelI vA.shape i) dt.lo = dt.lo
    · rw [if_pos hv]
      exact foldl_fixed _ _ (fun kh => by unfold dilateVal; dsimp only; rw [if_pos hv, ite_self]) _
    · rw [if_neg hv, List.foldl_map]
      refine foldl_congr_mem _ _ _ (fun r kh _ => ?_) _
      unfold dilateVal
      dsimp only
      rw [if_neg hv, Int.max_def]
      split
      · split <;> split <;> (show (_ : Int) = _) <;> omega
      · rfl
  · -- the step of pixel `i` and support entry `jkh` hits cell `k` exactly when its clamped target is pixel `k`
    obtain ⟨i, hi, hx⟩ := List.mem_flatMap.1 hx
    obtain ⟨jkh, hjkh, rfl⟩ := List.mem_map.1 hx
    have hi := List.mem_range.1 hi
    have hqin : inside vA.shape (clampPos vA.shape (addPos (unravelI vA.shape i) jkh.2.1)) = true :=
      C01.clampPos_addPos_inside _ _ _ (C01.inside_unravelI _ i hi) (hsup _ (mem_enumFrom _ _ _ hjkh))
    have hoff := scatter_eq vOut vA.shape hvis i hi _ hqin
    have hread : M (L calls aA (iterAddr vA i)) = A.getD (unravelI vA.shape i) dt.lo :=
      (hM aA _ hAo).trans ((runR_unowned calls c hne _ m aA _ hAo).trans (hA i hi))
    unfold dilateStepC
    dsimp only
    rw [hoff]
    by_cases hit : ravelI vA.shape (clampPos vA.shape (addPos (unravelI vA.shape i) jkh.2.1)) = k
    · rw [if_pos (by simpa using hit), hit]
      refine ⟨rfl, rfl, ?_⟩
      show dilateVal dt jkh.2.2 [M (L calls aOut (iterAddr vOut k)), M (L calls aA (iterAddr vA i)), _] = _
      rw [hread]
      rfl
    · rw [if_neg (by simpa using hit)]
      exact fun _ e => hit (hinj _ _ (C01.ravelI_lt _ _ hqin) hkn e)

/-- C12-T4 (tie: the cooccurence program computes `C19.coocModel`). Let call number `t` of ANY family of
calls be `cooccurence` on arrays `[aA, aBc]` → `[aRes, aFd, aReg]` (result matrix, `filter_data_`, register), the
image array distinct from the owned ones and the result array distinct from the other two, with a structuring
element whose FIRST non-zero entry is at offset `d` (of the image's rank). Let the image view have one stride per
axis, let the initial memory of array `aA` be the memory `mA` the program was generated from, presenting the
logical image `im` (all values in `[0, mm)`: no exception is thrown and every increment lands inside the `mm × mm`
matrix), let the result view address the `mm × mm` cells injectively and let the matrix start at zero (as
`texture.py` allocates it). Then after the SOLO run of the compiled step program — one read-modify-write
`++res.at(val, val2)` per element whose neighbour at `d` lies inside the image (mode `ignore`), at an address
that depends on the two values read — cell `(i, j)` of the result holds exactly `(C19.coocModel mm im d)[i*mm + j]`,
the value of the model the driver runs (`c19 kind=cooc`). With `C12_concurrent_calls_independent` the same
matrix is there after every complete interleaving with any other calls that have disjoint outputs. -/
theorem C12_cooccurence_program_computes_model (kcs : List KCall) (t : Nat) (vA vR vBc : C08.View)
    (bc : Array Int) (mA : Int → Int) (aA aBc aRes aFd aReg : Nat)
    (hk : kcs[t]? = some ((Kernel2.cooccurence vA vR vBc bc mA).call ⟨[aA, aBc], [aRes, aFd, aReg]⟩))
    (hA1 : aA ≠ aRes) (hA2 : aA ≠ aFd) (hA3 : aA ≠ aReg) (hR1 : aRes ≠ aFd) (hR : aRes ≠ aReg)
    (d : List Int) (rest : List (List Int)) (hfp : C07.footprint vBc.shape bc = d :: rest)
    (hd : d.length = vA.shape.length)
    (mm : Nat) (im : Img Int) (hshape : im.shape = vA.shape)
    (hAlen : vA.strides.length = vA.shape.length)
    (hAv : ∀ q, inside vA.shape q = true → mA (vA.addr (q.map Int.toNat)) = im.getD q 0)
    (hval : ∀ q, inside vA.shape q = true → 0 ≤ im.getD q 0 ∧ im.getD q 0 < (mm : Int))
    (hRinj : ∀ i j i' j', i < mm → j < mm → i' < mm → j' < mm → vR.addr [i, j] = vR.addr [i', j'] →
      i = i' ∧ j = j')
    (m : Mem) (hm : ∀ a, m ((KLoc.mk aA a).toLoc (kcs.map (·.call))) = mA a)
    (hZ : ∀ i j, i < mm → j < mm → m ((KLoc.mk aRes (vR.addr [i, j])).toLoc (kcs.map (·.call))) = 0)
    (i j : Nat) (hi : i < mm) (hj : j < mm) :
    solo (compile kcs) t m ((KLoc.mk aRes (vR.addr [i, j])).toLoc (kcs.map (·.call))) =
      (((C19.coocModel mm im d).getD (i * mm + j) 0 : Nat) : Int) := by
  let c : Call := ⟨[aA, aBc], [aRes, aFd, aReg]⟩
  let calls := kcs.map (·.call)
  let N := shapeSize vA.shape
  have hne : c.outputs ≠ [] := List.cons_ne_nil _ _
  have hAo : aA ∉ c.outputs := by simp [c, hA1, hA2, hA3]
  have hel : ∀ k, k < N → inside vA.shape (unravelI vA.shape k) = true ∧
      mA (iterAddr vA k) = im.getD (unravelI vA.shape k) 0 ∧
      nbrAddr .ignore vA (addPos (unravelI vA.shape k) d) =
        if inside vA.shape (addPos (unravelI vA.shape k) d) = true then
          some (vA.addr ((addPos (unravelI vA.shape k) d).map Int.toNat)) else none := fun k hk => by
    have hpin : inside vA.shape (unravelI vA.shape k) = true := C01.inside_unravelI _ _ hk
    refine ⟨hpin, by rw [iterAddr_eq_addr vA hAlen k hk, ← unravelI_toNat, hAv _ hpin], ?_⟩
    unfold nbrAddr
    rw [fixPos_ignore_eq _ _ (by rw [C01.addPos_length, hd, Mahotas.unravelI_length]; simp)]
    split <;> rfl
  rw [solo_compile kcs t _ hk]
  have hraw : (Kernel2.cooccurence vA vR vBc bc mA).raw =
      filterCopyRaw 1 vBc ++ (List.range N).map (coocStep vA vR mA d) := by
    show filterCopyRaw 1 vBc ++ (match C07.footprint vBc.shape bc with | [] => [] | d :: _ => _) = _
    rw [hfp]
    refine congrArg _ (coocLog_eq_map vA vR mA d _ fun k hk a ha => ?_)
    obtain ⟨hpin, hv1, hn⟩ := hel k (List.mem_range.1 hk)
    rw [hn] at ha
    split at ha
    · next hqin => cases ha; rw [hv1, hAv _ hqin]; exact ⟨(hval _ hpin).1, (hval _ hqin).1⟩
    · cases ha
  show runR calls c (Kernel2.cooccurence vA vR vBc bc mA).raw m (L calls aRes (vR.addr [i, j])) = _
  -- the cell ends with the fold of the read-modify-writes that hit it (`runR_accumulate`): cell `(i, j)` starts at zero
  -- and counts the elements whose pair of values is `(i, j)`
  rw [hraw, runR_append, runR_accumulate calls c hne _ aRes (vR.addr [i, j]) _
    (fun k => inside vA.shape (addPos (unravelI vA.shape k) d) &&
      ((im.getD (unravelI vA.shape k) 0).toNat * mm + (im.getD (addPos (unravelI vA.shape k) d) 0).toNat == i * mm + j))
    (fun _ v => v + 1) _ (fun k hk M hM => ?_),
    runR_frame calls c (filterCopyRaw 1 vBc) _ aRes _ (allOf_map fun _ => hR1.symm), foldl_succ_int,
    show m (L calls aRes (vR.addr [i, j])) = 0 from hZ i j hi hj, Int.zero_add]
  · -- the model side is the owner's slot theorem: the same count
    rw [C19.coocModel_getD mm im d _ (rowMajor_lt hi hj), C19.boxPos_eq_allPos, allPos, List.countP_map,
      List.countP_eq_length_filter, hshape]
    rfl
  · -- the step of element `k` hits cell `(i, j)` exactly when its neighbour is inside and the two values are `i`, `j`
    obtain ⟨hpin, hv1, hn⟩ := hel k (List.mem_range.1 hk)
    have hM' : ∀ a, M (L calls aA a) = mA a := fun a =>
      (hM aA a hAo).trans ((runR_unowned calls c hne _ m aA a hAo).trans (hm a))
    unfold coocStep
    rw [hn]
    by_cases hqin : inside vA.shape (addPos (unravelI vA.shape k) d) = true
    · rw [if_pos hqin, hqin, Bool.true_and]
      dsimp only
      rw [hv1, hAv _ hqin]
      obtain ⟨hp0, hp1⟩ := hval _ hpin
      obtain ⟨hq0, hq1⟩ := hval _ hqin
      by_cases hit : (im.getD (unravelI vA.shape k) 0).toNat * mm +
          (im.getD (addPos (unravelI vA.shape k) d) 0).toNat = i * mm + j
      · obtain ⟨e1, e2⟩ := C19.cooc_digits_unique mm _ _ i j (by omega) hj hit
        rw [if_pos (by simpa using hit), e1, e2]
        exact ⟨rfl, rfl, rfl⟩
      · rw [if_neg (by simpa using hit)]
        intro _ e
        obtain ⟨e1, e2⟩ := hRinj _ _ _ _ (by omega) (by omega) hi hj e
        exact hit (by rw [e1, e2])
    · rw [if_neg hqin, Bool.eq_false_iff.2 hqin, Bool.false_and, if_neg Bool.false_ne_true]
      exact fun e _ => hR e.symm

/-- C12-T4 (tie: the borders program computes `C13.bordersModel`). Let call number `t` of ANY family of calls be
`borders` (any border mode, any structuring element of the image's rank, any view of the labeled image with one
stride per axis and positive axis lengths) on arrays `[aA, aBc]` → `[aOut, aFd, aReg]` (result, `filter_data_`,
register), the image array distinct from the owned ones and the result array from the other two. Let the initial
memory of array `aA` be the memory `mA` the program was generated from, presenting the flat label list `labels`,
let the result start at zero (`labeled.borders` zero-fills it) and not overlap itself. Then after the SOLO run
of the compiled step program — per pixel the neighbours are read up to the first one that differs and `true` is
stored only then; other pixels store nothing — the result location of pixel `k` holds `1` exactly when
`(C13.bordersModel mode shape labels footprint)[k]` is `true` and `0` otherwise: the model the driver runs
(`c13 kind=borders`). With `C12_concurrent_calls_independent` the same values are there after every complete
interleaving with any other calls that have disjoint outputs. -/
theorem C12_borders_program_computes_model (kcs : List KCall) (t : Nat) (md : Mode) (vA vOut vBc : C08.View)
    (bc : Array Int) (mA : Int → Int) (aA aBc aOut aFd aReg : Nat)
    (hk : kcs[t]? = some ((Kernel2.borders md vA vOut vBc bc mA).call ⟨[aA, aBc], [aOut, aFd, aReg]⟩))
    (hA1 : aA ≠ aOut) (hA2 : aA ≠ aFd) (hA3 : aA ≠ aReg) (hO1 : aOut ≠ aFd) (hO2 : aOut ≠ aReg)
    (labels : List Int) (hlen : labels.length = shapeSize vA.shape)
    (hpos : ∀ d ∈ vA.shape, 0 < d) (hAlen : vA.strides.length = vA.shape.length)
    (hoffs : ∀ d ∈ C07.footprint vBc.shape bc, d.length = vA.shape.length)
    (hAv : ∀ q, inside vA.shape q = true → mA (vA.addr (q.map Int.toNat)) = labels.getD (ravelI vA.shape q) 0)
    (m : Mem) (hm : ∀ a, m ((KLoc.mk aA a).toLoc (kcs.map (·.call))) = mA a)
    (hZ : ∀ k, k < shapeSize vA.shape → m ((KLoc.mk aOut (iterAddr vOut k)).toLoc (kcs.map (·.call))) = 0)
    (hinj : ∀ k k', k < shapeSize vA.shape → k' < shapeSize vA.shape →
        iterAddr vOut k = iterAddr vOut k' → k = k')
    (k : Nat) (hkn : k < shapeSize vA.shape) :
    solo (compile kcs) t m ((KLoc.mk aOut (iterAddr vOut k)).toLoc (kcs.map (·.call))) =
      if (C13.bordersModel md vA.shape labels (C07.footprint vBc.shape bc)).getD k false then 1 else 0 := by
  let c : Call := ⟨[aA, aBc], [aOut, aFd, aReg]⟩
  let calls := kcs.map (·.call)
  let fp := C07.footprint vBc.shape bc
  let g := bordersPixel md vA vOut fp mA
  let p := unravelI vA.shape k
  let cur := mA (iterAddr vA k)
  let addrs := fp.filterMap fun d => nbrAddr md vA (addPos p d)
  let r := bordersReads mA cur addrs
  -- a pixel stores into its own result cell or into the register
  have hother : ∀ i, i < shapeSize vA.shape → i ≠ k → ∀ r ∈ [g i], c.arrOf (.own r.dst) = aOut → r.doff ≠ iterAddr vOut k := by
    intro i hiN hik r hr
    rw [List.mem_singleton.1 hr]
    show c.arrOf (.own (bordersPixel md vA vOut fp mA i).dst) = aOut → (bordersPixel md vA vOut fp mA i).doff ≠ _
    unfold bordersPixel
    dsimp only
    split
    · exact fun _ hd => hik (hinj i k hiN hkn hd)
    · exact fun ha _ => hO2 ha.symm
  obtain ⟨M, hval, hunowned, hfresh⟩ := solo_block kcs t calls rfl c _ hk (List.cons_ne_nil _ _) (filterCopyRaw 1 vBc)
    (fun i => [g i]) _ (congrArg _ List.map_eq_flatMap) m k hkn aOut (iterAddr vOut k) hother
  refine hval.trans ?_
  have hMA : ∀ a, M (L calls (c.arrOf (.inp 0)) a) = mA a := fun a =>
    (hunowned aA a (by simp [c, hA1, hA2, hA3])).trans (hm a)
  have hM0 := (hfresh (allOf_map fun _ e => absurd e hO1.symm)).trans (hZ k hkn)
  have hpin : inside vA.shape p = true := C01.inside_unravelI _ _ hkn
  have hcur : cur = labels.getD k 0 := by
    show mA (iterAddr vA k) = _
    rw [iterAddr_eq_addr vA hAlen k hkn, ← unravelI_toNat, hAv _ hpin, C01.ravelI_unravelI _ _ hkn]
  have hmodel : (C13.bordersModel md vA.shape labels fp).getD k false = r.2 := by
    unfold C13.bordersModel
    rw [getD_map_range _ _ k false (by omega), (bordersReads_spec mA cur addrs).1, List.any_filterMap]
    apply any_congr_mem
    intro kk hkk
    cases hfix : fixPos md vA.shape (addPos (unravelI vA.shape k) kk) with
    | none => simp [nbrAddr, p, hfix]
    | some q =>
      have hqin : inside vA.shape q = true :=
        inside_fixPos md vA.shape _ q hpos (by
          rw [C01.addPos_length, hoffs kk hkk, Mahotas.unravelI_length]; simp) hfix
      simp only [nbrAddr, p, hfix, Option.map_some]
      rw [hAv q hqin, hcur]
  rw [hmodel, runR_cons, runR_nil, exec_mkStep]
  have hG : g k = if r.2 = true then _ else _ := rfl
  by_cases hr : r.2 = true
  · rw [if_pos hr] at hG
    rw [if_pos hr, hG]
    refine (set_same _ _ _).trans ?_
    simp only [List.map_cons, List.map_map, Function.comp_def, hMA]
    exact if_pos ((bordersReads_spec mA cur addrs).2 hr)
  · rw [if_neg hr] at hG
    rw [if_neg hr, hG]
    exact (set_other _ _ _ _ (L_ne_arr calls _ _ _ _ hO2)).trans hM0

namespace Mahotas.C12.Examples
open Mahotas.C12

/-- two confined threads sharing a read-only input: thread `t` computes `priv t [0] := sharedRO[0] + 1 + t`
then `priv t [1] := priv t [0] + sharedRO[1]` -/
def progs : Progs := fun t =>
  if t < 2 then
    [ ⟨⟨.priv t, 0⟩, [⟨.sharedRO, 0⟩], fun vs => vs.foldl (· + ·) (1 + t)⟩,
      ⟨⟨.priv t, 1⟩, [⟨.priv t, 0⟩, ⟨.sharedRO, 1⟩], fun vs => vs.foldl (· + ·) 0⟩ ]
  else []

theorem progs_confined : Confined progs := by
  intro t s hs
  unfold progs at hs
  by_cases h : t < 2
  · simp [h] at hs
    rcases hs with rfl | rfl <;> simp [Step.Confined]
  · simp [h] at hs

def m0 : Mem := ⟨fun l => match l.region with
  | .sharedRO => 10 + l.idx
  | _ => 0⟩

/-- the hypotheses of T1 are satisfiable and the conclusion is not trivial: in the interleaving
`[1,0,0,1]` thread 1 ends with `priv 1 [1] = (10+2) + 11 = 23`, thread 0 with `22`. -/
example : (run progs [1, 0, 0, 1] (init m0)).mem ⟨.priv 1, 1⟩ = 23 ∧
    (run progs [1, 0, 0, 1] (init m0)).mem ⟨.priv 0, 1⟩ = 22 ∧
    solo progs 1 m0 ⟨.priv 1, 1⟩ = 23 ∧ Complete progs [1, 0, 0, 1] := by
  refine ⟨by decide +kernel, by decide +kernel, by decide +kernel, ?_⟩
  intro t
  unfold progs
  by_cases h : t < 2
  · have : t = 0 ∨ t = 1 := by omega
    rcases this with rfl | rfl <;> simp
  · simp [h]

/-- the confinement hypothesis is necessary: two threads incrementing / doubling a *shared*
location give schedule-dependent results (1·2 = 2 vs 0·2+1 = 1). -/
def racy : Progs := fun t =>
  if t = 0 then [⟨⟨.sharedRO, 0⟩, [⟨.sharedRO, 0⟩], fun vs => vs.foldl (· + ·) 1⟩]
  else if t = 1 then [⟨⟨.sharedRO, 0⟩, [⟨.sharedRO, 0⟩], fun vs => vs.foldl (· + ·) 0 * 2⟩]
  else []

example : (run racy [0, 1] (init ⟨fun _ => 0⟩)).mem ⟨.sharedRO, 0⟩ = 2 ∧
    (run racy [1, 0] (init ⟨fun _ => 0⟩)).mem ⟨.sharedRO, 0⟩ = 1 := by
  decide +kernel

/-- T2 is about non-trivial traces: idiom (a), 2 kernel steps, exception after 1 step -/
example : skeleton .a 2 false (.throwAt 1) =
    [.validate, .release, .kernelStep, .throw, .acquire, .interpAccess, .ret] := by decide

/-- idiom (b), in-place error after 1 step: explicit restore, then `PyErr_Format`, then `return` (the
destructor finds the object inactive and does not acquire twice) -/
example : skeleton .b 3 false (.errorAt 1) =
    [.validate, .release, .kernelStep, .acquire, .interpAccess, .ret] := by decide

/-- the checker rejects a `PyErr_*` call inside the released region, a double acquire and a `ret` without the lock -/
example : disciplined true [.validate, .release, .interpAccess, .acquire, .ret] = false ∧
    disciplined true [.validate, .release, .acquire, .acquire, .ret] = false ∧
    disciplined true [.validate, .release, .kernelStep, .ret] = false := by decide

/-- the generated tables are not empty and contain the objects the property names -/
example : (Generated.statics.any fun o => o.name == "_factorialtable" && !o.isConst && !o.written) = true ∧
    (Generated.statics.any fun o => o.name == "_perimeter_values" && o.lang == "py") = true ∧
    (Generated.gilSites.any fun s => s.func == "erode" && s.idiom == 0) = true ∧
    (Generated.gilSites.any fun s => s.func == "py_thin" && s.idiom == 1) = true ∧
    (Generated.gilSites.any fun s => s.func == "py_znl" && s.idiom == 2) = true := by decide +kernel

/-! T4: two concrete `erode` calls (uint8, 1-D, 3 pixels) reading the SAME input array 10 with
structuring elements 11 / 12 and results 20 / 30 -/

def memOf (calls : List Call) (content : List (KLoc × Val)) : Mem :=
  ⟨fun l => ((content.find? (fun p => p.1.toLoc calls == l)).map (·.2)).getD 0⟩

def v3 : C08.View := { base := 0, shape := [3], strides := [1] }
def k0 : Kernel := .erode (dtU 8) v3 v3 v3 #[1, 1, 0]
def k1 : Kernel := .erode (dtU 8) v3 v3 v3 #[0, 1, 1]
def ks : List (Kernel × Call) := [(k0, ⟨[10, 11], [20, 21]⟩), (k1, ⟨[10, 12], [30, 31]⟩)]
def content : List (KLoc × Val) :=
  [(⟨10,0⟩,5),(⟨10,1⟩,3),(⟨10,2⟩,7),(⟨11,0⟩,1),(⟨11,1⟩,1),(⟨11,2⟩,0),(⟨12,0⟩,0),(⟨12,1⟩,1),(⟨12,2⟩,1)]
def outOf (calls : List Call) (m : Mem) (a : Nat) : List Int :=
  (List.range 3).map fun (i : Nat) => m ((KLoc.mk a (i : Int)).toLoc calls)

/-- the hypothesis "disjoint outputs" of `C12_concurrent_kernels_independent` holds for `ks` -/
theorem ks_disjoint : DisjointOutputs (ks.map (·.2)) :=
  disjointOutputs_pair _ _ (by decide) (by decide)

/-- … and the conclusion is not trivial: in the interleaving below each call ends with its own erosion
(`[4,2,2]` = `C01.erodeModel` of `[5,3,7]` with element `[1,1,0]`; `[2,2,6]` with `[0,1,1]`), equal to its
solo run; every step is inside its call's footprint -/
example :
    let kcs := ks.map (fun p => p.1.call p.2)
    let calls := ks.map (·.2)
    let m0 := memOf calls content
    let sched := [0,1,1,0,0,1,0,1,1,0,0,1]
    outOf calls (run (compile kcs) sched (init m0)).mem 20 = [4, 2, 2] ∧
    outOf calls (run (compile kcs) sched (init m0)).mem 30 = [2, 2, 6] ∧
    outOf calls (solo (compile kcs) 0 m0) 20 = [4, 2, 2] ∧
    outOf calls (solo (compile kcs) 1 m0) 30 = [2, 2, 6] ∧
    (C01.erodeModel (dtU 8) ⟨[3], #[5, 3, 7]⟩ (C01.support [3] #[1, 1, 0] false)).toList = [4, 2, 2] ∧
    (kcs.all fun kc => kc.prog.all (KStep.withinB kc.call)) = true := by
  decide +kernel

/-- the same two calls writing the SAME result array 20: not covered (`DisjointOutputs` fails) … -/
def bad : List (Kernel × Call) := [(k0, ⟨[10, 11], [20, 21]⟩), (k1, ⟨[10, 12], [20, 31]⟩)]

example : ¬ DisjointOutputs (bad.map (·.2)) := by
  intro h
  have := h 0 1 ⟨[10, 11], [20, 21]⟩ ⟨[10, 12], [20, 31]⟩ (by simp [bad]) (by simp [bad]) 20 (by simp) (by simp)
  omega

/-- … and they really race: the content of array 20 depends on the schedule, and the compiled program of
call 1 is not confined -/
example :
    let kcs := bad.map (fun p => p.1.call p.2)
    let calls := bad.map (·.2)
    let m0 := memOf calls content
    outOf calls (run (compile kcs) [0,0,0,0,0,0,1,1,1,1,1,1] (init m0)).mem 20 = [2, 2, 6] ∧
    outOf calls (run (compile kcs) [1,1,1,1,1,1,0,0,0,0,0,0] (init m0)).mem 20 = [4, 2, 2] ∧
    ((compile kcs 1).all (Step.confinedB 1)) = false := by
  decide +kernel

/-- a labeled sum through reversed / strided views, a `label` trace and a `cwatershed` trace are non-empty
programs inside their footprints; the fold program leaves `labeledFoldView` in the result table -/
example :
    let vA : C08.View := { base := 3, shape := [4], strides := [-1] }
    let vL : C08.View := { base := 0, shape := [4], strides := [2] }
    let mA : Int → Int := fun a => 10 + a
    let mL : Int → Int := fun a => if a = 6 then 7 else a / 4
    let kf : Kernel := .fold (fun x r => x + r) 0 2 vA vL mL
    let c : Call := ⟨[1, 2], [3, 4]⟩
    let kcs := [kf.call c]
    let m0 : Mem := memOf [c] ((List.range 8).flatMap fun (a : Nat) => [(⟨1, (a : Int)⟩, mA a), (⟨2, (a : Int)⟩, mL a)])
    (List.range 2).map (fun (j : Nat) => solo (compile kcs) 0 m0 ((KLoc.mk 3 (j : Int)).toLoc [c])) = [25, 11] ∧
    (C08.labeledFoldView (fun x r => x + r) 0 2 mA vA mL vL).toList = [25, 11] ∧
    (kf.call c).prog.length = 6 ∧
    let kl : Kernel := .label .constant [2, 2] [1, 1, 0, 1] { base := 0, shape := [3, 3], strides := [3, 1] }
      #[0, 1, 0, 1, 1, 1, 0, 1, 0]
    let cl : Call := ⟨[5], [6, 7, 8, 9]⟩
    ((kl.call cl).prog.all (KStep.withinB cl)) = true ∧ 20 ≤ (kl.call cl).prog.length ∧
    let v22 : C08.View := { base := 0, shape := [2, 2], strides := [2, 1] }
    let kw : Kernel := .cwatershed v22 v22 { base := 0, shape := [3, 3], strides := [3, 1] }
      ⟨[2, 2], #[1, 2, 3, 4]⟩ ⟨[2, 2], #[1, 0, 0, 2]⟩ #[0, 1, 0, 1, 1, 1, 0, 1, 0]
    let cw : Call := ⟨[1, 2, 3], [10, 11, 12, 13, 14, 15]⟩
    ((kw.call cw).prog.all (KStep.withinB cw)) = true ∧ 20 ≤ (kw.call cw).prog.length := by
  decide +kernel

/-- roles: the footprints of `ks` have the arity of `erode`; a step naming a sixth owned array in a call
with two is caught by the strict resolution (while `mkStep` silently falls back to the first owned array) -/
example : (⟨[10, 11], [20, 21]⟩ : Call).HasArity k0.arity ∧
    (k0.raw.all fun r => r.rolesOk k0.arity) = true ∧ k0.raw.length = 6 ∧
    (mkStep? ⟨[10, 11], [20, 21]⟩ ⟨5, 0, [], fun _ => 0⟩).isNone = true ∧
    (mkStep ⟨[10, 11], [20, 21]⟩ ⟨5, 0, [], fun _ => 0⟩).dst.arr = 20 ∧
    RStep.rolesOk (2, 2) ⟨5, 0, [], fun _ => 0⟩ = false := by
  refine ⟨⟨by decide, by decide⟩, by decide +kernel, by decide +kernel, by decide, by decide, by decide⟩

/-- exception paths: call 0 of `ks` (idiom (a)) throws after 4 of its 6 steps (3 filter copies, 1 pixel):
its trace has 4 kernel steps, its own result array holds the partial result `[4, 0, 0]`, call 1 still ends with its
full erosion `[2, 2, 6]`, the shared input array 10 is unchanged -/
example :
    let kcs := ks.map (fun p => p.1.call p.2)
    let calls := ks.map (·.2)
    let kcs' := kcs.set 0 ((k0.call ⟨[10, 11], [20, 21]⟩).truncate (.throwAt 4))
    let m0 := memOf calls content
    let sched := [0,1,1,0,0,1,0,1,1,0,0,1]
    skeleton .a 6 false (.throwAt 4) =
      [.validate, .release, .kernelStep, .kernelStep, .kernelStep, .kernelStep, .throw, .acquire, .interpAccess, .ret] ∧
    Outcome.possible .a (.throwAt 4) = true ∧
    outOf calls (run (compile kcs') sched (init m0)).mem 20 = [4, 0, 0] ∧
    outOf calls (run (compile kcs') sched (init m0)).mem 30 = [2, 2, 6] ∧
    outOf calls (run (compile kcs') sched (init m0)).mem 10 = [5, 3, 7] := by
  decide +kernel

/-- label: 2×2 image `[1,1,0,1]` with the 3×3 cross: the solo run of the step program leaves the labels
`[1,1,0,1]`… of `C03.labelModel` (one component: pixels 0,1,3 are 4-connected through pixel 1) in array 6 and
`count + 1` in the `next` register -/
example :
    let vB : C08.View := { base := 0, shape := [3, 3], strides := [3, 1] }
    let bc : Array Int := #[0, 1, 0, 1, 1, 1, 0, 1, 0]
    let kl : Kernel := .label .constant [2, 2] [1, 1, 0, 1] vB bc
    let cl : Call := ⟨[5], [6, 7, 8, 9]⟩
    let kcs := [kl.call cl]
    let m0 : Mem := memOf [cl] [(⟨6, 0⟩, 1), (⟨6, 1⟩, 1), (⟨6, 2⟩, 0), (⟨6, 3⟩, 1)]
    (List.range 4).map (fun (j : Nat) => solo (compile kcs) 0 m0 ((KLoc.mk 6 (j : Int)).toLoc [cl])) = [1, 1, 0, 1] ∧
    (C03.labelModel .constant [2, 2] [1, 1, 0, 1] [3, 3] bc).1 = [1, 1, 0, 1] ∧
    solo (compile kcs) 0 m0 ((KLoc.mk 8 1).toLoc [cl]) = 2 ∧
    let kl2 : Kernel := .label .constant [2, 2] [1, 0, 0, 1] vB bc
    let m1 : Mem := memOf [cl] [(⟨6, 0⟩, 1), (⟨6, 1⟩, 0), (⟨6, 2⟩, 0), (⟨6, 3⟩, 1)]
    (List.range 4).map (fun (j : Nat) => solo (compile [kl2.call cl]) 0 m1 ((KLoc.mk 6 (j : Int)).toLoc [cl])) =
      [1, 0, 0, 2] := by
  -- evaluated as a fold over the steps, without `run`'s indexed lookup of each step in the program
  simp only [solo_eq_execAll]
  decide +kernel

/-- cwatershed: 2×2 surface `[1,2,3,4]`, markers `[1,0,0,2]`, 3×3 cross: the solo run of the step program
leaves `res = [1,1,1,2]` of `C04.cwatershedModel` in array 10 and `status` all black in array 11 -/
example :
    let v22 : C08.View := { base := 0, shape := [2, 2], strides := [2, 1] }
    let vB : C08.View := { base := 0, shape := [3, 3], strides := [3, 1] }
    let bc : Array Int := #[0, 1, 0, 1, 1, 1, 0, 1, 0]
    let kw : Kernel := .cwatershed v22 v22 vB ⟨[2, 2], #[1, 2, 3, 4]⟩ ⟨[2, 2], #[1, 0, 0, 2]⟩ bc
    let cw : Call := ⟨[1, 2, 3], [10, 11, 12, 13, 14, 15]⟩
    let m0 : Mem := memOf [cw] [(⟨1, 0⟩, 1), (⟨1, 1⟩, 2), (⟨1, 2⟩, 3), (⟨1, 3⟩, 4), (⟨2, 0⟩, 1), (⟨2, 3⟩, 2)]
    (List.range 4).map (fun (j : Nat) => solo (compile [kw.call cw]) 0 m0 ((KLoc.mk 10 (j : Int)).toLoc [cw])) =
      (C04.cwatershedModel ⟨[2, 2], #[1, 2, 3, 4]⟩ ⟨[2, 2], #[1, 0, 0, 2]⟩ [3, 3] bc).res.toList ∧
    (C04.cwatershedModel ⟨[2, 2], #[1, 2, 3, 4]⟩ ⟨[2, 2], #[1, 0, 0, 2]⟩ [3, 3] bc).res.toList = [1, 1, 1, 2] ∧
    (List.range 4).map (fun (j : Nat) => solo (compile [kw.call cw]) 0 m0 ((KLoc.mk 11 (j : Int)).toLoc [cw])) =
      [2, 2, 2, 2] ∧
    CDist 2 10 11 12 13 14 15 := by
  simp only [solo_eq_execAll]
  refine ⟨by decide +kernel, by decide +kernel, by decide +kernel, ?_⟩
  constructor <;> decide

end Mahotas.C12.Examples

namespace Mahotas.C12.Examples2
open Mahotas.C12

def memOf (calls : List Call) (content : List (KLoc × Val)) : Mem :=
  ⟨fun l => ((content.find? (fun p => p.1.toLoc calls == l)).map (·.2)).getD 0⟩

def v3 : C08.View := { base := 0, shape := [3], strides := [1] }
def v4 : C08.View := { base := 0, shape := [4], strides := [1] }
def outOf (calls : List Call) (m : Mem) (a n : Nat) : List Int :=
  (List.range n).map fun (i : Nat) => m ((KLoc.mk a (i : Int)).toLoc calls)

/-- a `dilate` call (uint8, 4 pixels, element `[1,1,0]`) and a `rank_filter` call (mode reflect, rank 1 of 3)
reading the SAME input array 10; structuring elements 11 / 12; owned arrays 20, 21 / 30 … 33 -/
def kd : Kernel2 := .dilate (dtU 8) v4 v4 v3 #[1, 1, 0]
def kr : Kernel2 := .rank .reflect 1 v4 v4 v3 #[1, 1, 1]
def kcs : List KCall := [kd.call ⟨[10, 11], [20, 21]⟩, kr.call ⟨[10, 12], [30, 31, 32, 33]⟩]
def content : List (KLoc × Val) :=
  [(⟨10,0⟩,5),(⟨10,1⟩,3),(⟨10,2⟩,7),(⟨10,3⟩,0),(⟨11,0⟩,1),(⟨11,1⟩,1),(⟨11,2⟩,0),(⟨12,0⟩,1),(⟨12,1⟩,1),(⟨12,2⟩,1)]

/-- the hypothesis "disjoint outputs" of `C12_concurrent_calls_independent` holds for `kcs` -/
theorem kcs_disjoint : DisjointOutputs (kcs.map (·.call)) :=
  disjointOutputs_pair _ _ (by decide) (by decide)

/-- … and the conclusion is not trivial: in the interleaving below (16 steps of the dilation, 43 of the rank
filter) the dilate call ends with `C01.dilateModel` of `[5,3,7,0]` = `[6,8,8,0]` and the rank filter with
`C07.rankAt` = `[5,5,3,0]`, each equal to its solo run; both programs are non-empty, every step is inside its
call's footprint and every role inside the arity -/
example :
    let calls := kcs.map (·.call)
    let m0 := memOf calls content
    let sched := (List.range 43).flatMap fun _ => [1, 0]
    outOf calls (run (compile kcs) sched (init m0)).mem 20 4 = [6, 8, 8, 0] ∧
    outOf calls (run (compile kcs) sched (init m0)).mem 30 4 = [5, 5, 3, 0] ∧
    outOf calls (solo (compile kcs) 0 m0) 20 4 = [6, 8, 8, 0] ∧
    outOf calls (solo (compile kcs) 1 m0) 30 4 = [5, 5, 3, 0] ∧
    (C01.dilateModel (dtU 8) ⟨[4], #[5, 3, 7, 0]⟩ (C01.support [3] #[1, 1, 0] false)).toList = [6, 8, 8, 0] ∧
    (kcs.map fun kc => kc.prog.length) = [16, 43] ∧
    (kcs.all fun kc => kc.prog.all (KStep.withinB kc.call)) = true ∧
    (kd.raw.all (RStep.rolesOk kd.arity) && kr.raw.all (RStep.rolesOk kr.arity)) = true := by
  decide +kernel

/-- `template_match` (mode constant), `cooccurence` (2×2 image, direction `(0,1)`, 3×3 result matrix) and
`borders`: the solo runs leave `C07.tmAt`, `C19.coocModel` and the border marks; roles inside the arities -/
example :
    let kt : Kernel2 := .templateMatch .constant false v4 v4 v3
    let ct : Call := ⟨[10, 11], [20]⟩
    outOf [ct] (solo (compile [kt.call ct]) 0 (memOf [ct] content)) 20 4 = [25, 69, 40, 37] ∧
    (allPos [4]).map (C07.tmAt .constant ⟨[4], #[5, 3, 7, 0]⟩ [3] #[1, 1, 0]) = [25, 69, 40, 37] ∧
    let v22 : C08.View := { base := 0, shape := [2, 2], strides := [2, 1] }
    let v33 : C08.View := { base := 0, shape := [3, 3], strides := [3, 1] }
    let mA : Int → Int := fun a => if a = 0 ∨ a = 2 then 1 else if a = 1 ∨ a = 3 then 2 else 0
    let kc : Kernel2 := .cooccurence v22 v33 v33 #[0, 0, 0, 0, 0, 1, 0, 0, 0] mA
    let cc : Call := ⟨[1, 2], [3, 4, 5]⟩
    outOf [cc] (solo (compile [kc.call cc]) 0
      (memOf [cc] ((List.range 4).map fun (a : Nat) => (⟨1, (a : Int)⟩, mA a)))) 3 9 = [0, 0, 0, 0, 0, 2, 0, 0, 0] ∧
    (C19.coocModel 3 ⟨[2, 2], #[1, 2, 1, 2]⟩ [0, 1]).toList = [0, 0, 0, 0, 0, 2, 0, 0, 0] ∧
    let mB : Int → Int := fun a => if a < 2 then 1 else 2
    let kb : Kernel2 := .borders .constant v4 v4 v3 #[1, 1, 1] mB
    outOf [cc] (solo (compile [kb.call cc]) 0
      (memOf [cc] ((List.range 4).map fun (a : Nat) => (⟨1, (a : Int)⟩, mB a)))) 3 4 = [0, 1, 1, 0] ∧
    (kt.raw.all (RStep.rolesOk kt.arity) && kc.raw.all (RStep.rolesOk kc.arity) &&
      kb.raw.all (RStep.rolesOk kb.arity)) = true ∧
    ((kc.call cc).prog.all (KStep.withinB cc) && (kb.call cc).prog.all (KStep.withinB cc)) = true := by
  decide +kernel

/-- `py_dt` on a 2×3 array with origins (104 steps: the run of `C05.pyDt` is reproduced, values and origins),
`zoom_shift`
(order 1, shift 1/2, 3 output elements: 12 steps); all inside their footprints and arities -/
example :
    let f0 : Array Int := #[0, 100, 100, 100, 0, 100]
    let kdist : Kernel2 := .distance true (f0, #[0, 1, 2, 3, 4, 5]) 2 3 0 3 1 0 3 1
    let cdist : Call := ⟨[], [1, 2, 3, 4, 5, 6]⟩
    let m := solo (compile [kdist.call cdist]) 0
      (memOf [cdist] ((List.range 6).flatMap fun (a : Nat) => [(⟨1, (a : Int)⟩, f0.getD a 0), (⟨5, (a : Int)⟩, (a : Int))]))
    (outOf [cdist] m 1 6, outOf [cdist] m 5 6) = ([0, 1, 2, 1, 0, 1], [0, 0, 4, 0, 4, 4]) ∧
    C05.pyDt (f0, #[0, 1, 2, 3, 4, 5]) 2 3 0 3 1 0 3 1 = (#[0, 1, 2, 1, 0, 1], #[0, 0, 4, 0, 4, 4]) ∧
    (kdist.call cdist).prog.length = 104 ∧
    ((kdist.call cdist).prog.all (KStep.withinB cdist) && kdist.raw.all (RStep.rolesOk kdist.arity)) = true ∧
    let kz : Kernel2 := .zoomShift Rat.floor 1 .nearest v4 v3 [some (1 / 2 : Rat)] [none]
    let cz : Call := ⟨[1, 2, 3], [4, 5, 6]⟩
    (kz.call cz).prog.length = 12 ∧
    ((kz.call cz).prog.all (KStep.withinB cz) && kz.raw.all (RStep.rolesOk kz.arity)) = true := by
  simp only [solo_eq_execAll]
  decide +kernel

/-- a 2×2 block in its zero frame -/
def bin : C15.Bin := C15.Bin.ofInts 4 4 [0,0,0,0, 0,1,1,0, 0,1,1,0, 0,0,0,0]

/-- `thin` with `max_iter = 1` on the 2×2 block (482 steps: element table, one outer iteration of eight passes):
the solo run reproduces `C15.thinCore` (which changes the image); inside footprint and arity -/
example :
    let v44 : C08.View := { base := 0, shape := [4, 4], strides := [4, 1] }
    let kth : Kernel2 := .thin v44 v44 bin 1
    let cth : Call := ⟨[], [1, 2, 3, 4]⟩
    (kth.call cth).prog.length = 482 ∧
    ((kth.call cth).prog.all (KStep.withinB cth) && kth.raw.all (RStep.rolesOk kth.arity)) = true ∧
    outOf [cth] (solo (compile [kth.call cth]) 0
      (memOf [cth] ((List.range 16).map fun (a : Nat) => (⟨1, (a : Int)⟩, bin.toInts.getD a 0)))) 1 16 =
      (C15.thinCore bin 1).toInts ∧
    (C15.thinCore bin 1).toInts ≠ bin.toInts := by
  simp only [solo_eq_execAll]
  decide +kernel

end Mahotas.C12.Examples2

open Mahotas Mahotas.C12 in
/-- C12-T4 (tie: the histogram program computes `C13.histogram`). `compute_histogram` (`_histogram.cpp`, behind
`fullhistogram`, `otsu`, `rc`, `pftas`) is `for (i = 0; i != N; ++i) { ++histogram[*data]; ++data; }`: the labeled fold `result[l] = f(v, result[l])` with the image as
its own label array and `f _ r = r + 1`, so its access program is `Kernel.fold` on the footprint `[aA, aA] → [aRes, aReg]`
(the same argument array in both input roles: confinement, role well-formedness and independence under every schedule are
the instances of `C12_kernel_confined`, `C12_kernel_roles_wellformed`, `C12_concurrent_kernels_independent`). Value tie: if
the memory of array `aA` holds `mA` and the values the iterator reads are non-negative (the wrapper admits unsigned images
only), then after the SOLO run of the compiled program — zero fill, then one read-modify-write of `histogram[value]` per
element — bin `j < n` holds exactly `(C13.histogram n values)[j]`, the model the driver runs (`c13 kind=hist`). -/
theorem C12_histogram_program_computes_model (kcs : List KCall) (t : Nat) (n : Nat) (vA : C08.View) (mA : Int → Int)
    (aA aRes aReg : Nat)
    (hk : kcs[t]? = some ((Kernel.fold (fun (_ r : Int) => r + 1) 0 n vA vA mA).call ⟨[aA, aA], [aRes, aReg]⟩))
    (h1 : aA ≠ aRes) (h2 : aA ≠ aReg) (h5 : aRes ≠ aReg) (m : Mem)
    (hA : ∀ a, m ((KLoc.mk aA a).toLoc (kcs.map (·.call))) = mA a)
    (hnn : ∀ k, k < shapeSize vA.shape → 0 ≤ C08.readIter mA vA k)
    (j : Nat) (hj : j < n) :
    solo (compile kcs) t m ((KLoc.mk aRes (j : Int)).toLoc (kcs.map (·.call))) =
      (((C13.histogram n ((List.range (shapeSize vA.shape)).map (C08.readIter mA vA))).getD j 0 : Nat) : Int) := by
  have h := C12_labeled_fold_program_computes_model kcs t (fun (_ r : Int) => r + 1) 0 n vA vA mA mA aA aA aRes aReg hk
    h1 h2 h1 h2 h5 m hA hA j hj
  unfold C08.labeledFoldView at h
  simp only at h
  rw [hist_fold_eq n _ (by
    intro v hv
    simp only [List.mem_map, List.mem_range] at hv
    obtain ⟨k, hk', rfl⟩ := hv
    exact hnn k hk')] at h
  rw [Array.getElem?_map] at h
  generalize C13.histogram n ((List.range (shapeSize vA.shape)).map (C08.readIter mA vA)) = H at h ⊢
  rw [Array.getD_eq_getD_getElem?]
  cases hH : H[j]? with
  | none => rw [hH] at h; simp at h
  | some c => rw [hH] at h; simp at h; simp [h]

namespace Mahotas.C12.Examples4
open Mahotas Mahotas.C12
/-- non-vacuity: the fold model with the image as its own labels IS the histogram, on a reversed strided view -/
def memH : Int → Int := fun a => [2, 9, 0, 9, 2, 9, 1].getD a.toNat 0
def vHr : C08.View := { base := 6, shape := [4], strides := [-2] }
example : (List.range 4).map (C08.readIter memH vHr) = [1, 2, 0, 2] ∧
    (C08.labeledFoldView (fun (_ r : Int) => r + 1) 0 3 memH vHr memH vHr).toList = [1, 1, 2] ∧
    (C13.histogram 3 [1, 2, 0, 2]).toList = [1, 1, 2] := by decide +kernel
end Mahotas.C12.Examples4

/-- a hand-written release is disciplined when a re-acquire follows it in the same function and nothing between the two can
leave the function (no `return`, `throw`, `goto`, no dispatch macro whose catch clause returns) -/
def rawSiteOk (s : Mahotas.Generated.RawGilSite) : Bool := decide (1 ≤ s.restores) && s.exits == 0

/-- C12-T2 (source tie, hand-written releases). The translator extracts EVERY use of the interpreter's own release API
(`PyEval_SaveThread`, `Py_BEGIN_ALLOW_THREADS`, `Py_UNBLOCK_THREADS`, `PyGILState_Release`) outside the body of the RAII class
`gil_release` (`Generated.rawGilSites`, regenerated on every run; the list is empty: the code base releases the lock only
through the RAII object, whose sites `C12_release_sites_disciplined` covers). Each such site must be followed by a re-acquire in
the same function with no exit in between — otherwise an error path returns to the interpreter without the lock (the fourth
idiom, which none of the three proved skeletons covers). A release guarded by a size threshold whose error path skips the
re-acquire (`if (size >= 4096) ts = PyEval_SaveThread(); … SAFE_SWITCH…; if (ts) PyEval_RestoreThread(ts);`) is rejected
before any input runs. -/
theorem C12_raw_release_sites_disciplined : Mahotas.Generated.rawGilSites.all rawSiteOk = true := by decide

/-- the checker is not vacuous: it rejects the size-gated release whose dispatch macro can return in between, and a release
that is never followed by a re-acquire; it accepts a straight-line `Py_BEGIN_ALLOW_THREADS … Py_END_ALLOW_THREADS` pair -/
example : rawSiteOk ⟨"mahotas/_interpolate.cpp", "py_spline_filter1d", 387, "PyEval_SaveThread", 1, 3⟩ = false ∧
    rawSiteOk ⟨"mahotas/_x.cpp", "f", 10, "PyEval_SaveThread", 0, 0⟩ = false ∧
    rawSiteOk ⟨"mahotas/_x.cpp", "g", 20, "Py_BEGIN_ALLOW_THREADS", 1, 0⟩ = true := by decide

open Mahotas Mahotas.C12 in
/-- C12-T4 (`Model/C12Kernels3.lean`: confinement). `C12_kernel_confined` for every kernel of `Kernel3` (`majority_filter`,
a gather kernel reading `input.at(y+dy, x+dx)` on any strides, `locmin_max` behind locmax/locmin/regmax/regmin, and `hitmiss`): on every footprint with at least one owned array every
step is `Within` the call (write set ⊆ outputs, read set ⊆ inputs ∪ outputs), and in every family of calls with pairwise
disjoint outputs every compiled step is `Step.Confined t` — so `C12_concurrent_calls_independent` gives: after EVERY
schedule each owned location equals the solo run. -/
theorem C12_kernels3_confined (k : Kernel3) (c : Call) (hne : c.outputs ≠ []) :
    (∀ s ∈ (k.call c).prog, s.Within c) ∧
    (∀ l ∈ writeSet (k.call c).prog, l.arr ∈ c.outputs) ∧
    (∀ l ∈ readSet (k.call c).prog, l.arr ∈ c.inputs ∨ l.arr ∈ c.outputs) ∧
    (∀ (kcs : List KCall) (t : Nat), kcs[t]? = some (k.call c) → DisjointOutputs (kcs.map (·.call)) →
      ∀ s ∈ compile kcs t, s.Confined t) :=
  kcall_confined (k.call c) hne

open Mahotas Mahotas.C12 in
/-- C12-T4 (`Model/C12Kernels3.lean`: roles within the arity). Every role a step of a `Kernel3` program mentions exists in a call of
the kernel's arity; on every footprint with at least that arity the strict resolution `mkStep?` (which fails instead of
falling back to a default array) returns exactly `mkStep c r`. -/
theorem C12_kernels3_roles_ok (k : Kernel3) :
    (∀ r ∈ k.raw, r.rolesOk k.arity = true) ∧
    (∀ c : Call, c.HasArity k.arity → ∀ r ∈ k.raw, mkStep? c r = some (mkStep c r)) :=
  ⟨kernel3_rolesOk k, fun c hc r hr => mkStep?_of_rolesOk c k.arity hc r (kernel3_rolesOk k r hr)⟩

open Mahotas Mahotas.C12 in
/-- C12-T4 (tie: the majority_filter program computes the kernel's count test). Let call number `t` of ANY family of calls
be `majority_filter` with window `n` on a `rows × cols` image (`n ≤ rows`, `n ≤ cols`; any view `vA` of the image: the C++
reads `input.at(y+dy, x+dx)`) on arrays `[aA]` → `[aOut]`, `aA ≠ aOut`. If the initial memory holds `mA` in array `aA` and the
output array is zero (`PyArray_FILLWBYTE(res_a, 0)`), then after the SOLO run of the compiled step program — one step per
window `k`, whose operation recounts the window from the `n·n` values READ — the output cell `(y+n/2)*cols + n/2 + x` of
window `(y, x) = (k / (cols−n), k % (cols−n))` holds `1` exactly when `C08.majorityCount n pixels y x ≥ n*n/2` and `0`
otherwise: the very count and threshold of `C08.majorityLoops`, the model the driver runs (`c08 kind=kviewA
kernel=majority`, compared with the compiled `mahotas.majority_filter` on strided views). With
`C12_concurrent_calls_independent` the same values are there after every complete interleaving with any other calls that
have disjoint outputs. -/
theorem C12_majority_program_computes_model (kcs : List KCall) (t : Nat) (n rows cols : Nat) (vA vOut : C08.View)
    (aA aOut : Nat) (hsh : vA.shape = [rows, cols]) (hr : n ≤ rows) (hc : n ≤ cols)
    (hk : kcs[t]? = some ((Kernel3.majority n vA vOut).call ⟨[aA], [aOut]⟩))
    (hne : aA ≠ aOut) (mA : Int → Int) (m : Mem)
    (hA : ∀ a, m ((KLoc.mk aA a).toLoc (kcs.map (·.call))) = mA a)
    (hZ : ∀ a, m ((KLoc.mk aOut a).toLoc (kcs.map (·.call))) = 0)
    (k : Nat) (hkn : k < (rows - n) * (cols - n)) :
    solo (compile kcs) t m
        ((KLoc.mk aOut (vOut.base + ((majIdx n cols (k / (cols - n)) (k % (cols - n)) : Nat) : Int))).toLoc
          (kcs.map (·.call))) =
      if C08.majorityCount n (fun y x => mA (vA.at [y, x]) != 0) (k / (cols - n)) (k % (cols - n)) ≥ n * n / 2
      then 1 else 0 := by
  let c : Call := ⟨[aA], [aOut]⟩
  let calls := kcs.map (·.call)
  let g := majPixel n cols vA vOut
  have hraw : (Kernel3.majority n vA vOut).raw = [] ++ (List.range ((rows - n) * (cols - n))).map g := by
    show majorityRaw n vA vOut = _
    unfold majorityRaw
    rw [hsh]
    exact if_neg (by rw [Bool.or_eq_true, decide_eq_true_eq, decide_eq_true_eq]; omega)
  have hinj : ∀ a b, a < (rows - n) * (cols - n) → b < (rows - n) * (cols - n) → (g a).doff = (g b).doff → a = b :=
    fun a b ha _ hab => majIdx_inj n cols (cols - n) rfl hc a b (rows - n) ha
      (Int.ofNat.inj (Int.add_left_cancel hab))
  obtain ⟨M, hval, hunowned, hfresh⟩ := solo_gather kcs t calls rfl c _ hk (List.cons_ne_nil _ _) [] g _ 0 hraw
    (fun _ => rfl) hinj m k hkn
  refine hval.trans ?_
  have hreadO := (hfresh allOf_nil).trans (hZ _)
  have hreadA : ∀ a, M (L calls (c.arrOf (.inp 0)) a) = mA a := fun a =>
    (hunowned aA a (show aA ∉ [aOut] by simpa using hne)).trans (hA a)
  dsimp only [g, majPixel]
  rw [List.map_cons, List.map_map]
  refine (congrArg (fun x => majVal n (x :: _)) hreadO).trans ?_
  show (if List.countP _ (List.map _ _) ≥ n * n / 2 then 1 else 0) = _
  have hcount : ((majWindow n vA (k / (cols - n)) (k % (cols - n))).map
        ((fun l : RLoc => M (L calls (c.arrOf l.role) l.off)) ∘ fun a => ⟨.inp 0, a⟩)).countP (fun v => v != 0) =
      C08.majorityCount n (fun y x => mA (vA.at [y, x]) != 0) (k / (cols - n)) (k % (cols - n)) := by
    rw [countP_map_ne]
    unfold C08.majorityCount majWindow
    congr 1
    simp only [List.map_flatMap, List.map_map, Function.comp_def, hreadA]
  rw [hcount]

/-- `C12_locminmax_program_computes_model` for one pixel, asking of the memory only that it shows this pixel and the samples it
reads -/
theorem Mahotas.C12.locminmax_tie {kcs : List KCall} {t : Nat} {isMin : Bool} {vA vOut vBc : C08.View}
    {bc : Array Int} {aA aBc aOut aFd : Nat}
    (hk : kcs[t]? = some ((Kernel3.locminmax isMin vA vOut vBc bc).call ⟨[aA, aBc], [aOut, aFd]⟩))
    (hne1 : aA ≠ aOut) (hne2 : aA ≠ aFd) (hne3 : aOut ≠ aFd)
    {A : Img Int} (hshape : A.shape = vA.shape) (hpos : ∀ d ∈ vA.shape, 0 < d) {m : Mem}
    (hZ : ∀ a, m (L (kcs.map (·.call)) aOut a) = 0)
    (hinj : ∀ k k', k < shapeSize vA.shape → k' < shapeSize vA.shape →
        iterAddr vOut k = iterAddr vOut k' → k = k')
    {k : Nat} (hkn : k < shapeSize vA.shape)
    (hA : ∀ d ∈ C14.neighbours vBc.shape bc, ShowsSample .nearest vA A (fun a => m (L (kcs.map (·.call)) aA a))
      (addPos (unravelI vA.shape k) d))
    (hC : m (L (kcs.map (·.call)) aA (iterAddr vA k)) = A.getD (unravelI vA.shape k) 0) :
    solo (compile kcs) t m (L (kcs.map (·.call)) aOut (iterAddr vOut k)) =
      if C14.locAt isMin A (C14.neighbours vBc.shape bc) (unravelI vA.shape k) then 1 else 0 := by
  let c : Call := ⟨[aA, aBc], [aOut, aFd]⟩
  let calls := kcs.map (·.call)
  let nb := C14.neighbours vBc.shape bc
  let g := locPixel isMin vA vOut nb
  obtain ⟨M, hval, hunowned, hfresh⟩ := solo_gather kcs t calls rfl c _ hk (List.cons_ne_nil _ _)
    (filterCopyRaw 1 vBc) g _ 0 rfl (fun _ => rfl) hinj m k hkn
  refine hval.trans ?_
  -- the cell of pixel `k` is still zero: the filter copy writes `own 1`, earlier pixels other cells
  have hreadO := (hfresh (allOf_map fun _ h => absurd h hne3.symm)).trans (hZ _)
  have hread : ∀ a, M (L calls (c.arrOf (.inp 0)) a) = m (L calls aA a) := fun a =>
    hunowned aA a (show aA ∉ [aOut, aFd] by simp [hne1, hne2])
  dsimp only [g, locPixel]
  rw [List.map_cons, List.map_cons, List.map_map]
  refine (congrArg (fun x => locVal isMin (x :: _)) hreadO).trans ?_
  simp only [Function.comp_def, hread]
  rw [List.map_congr_left fun d hd => read_nbrAddr_nearest vA A hshape hpos (fun a => m (L calls aA a)) _ (hA d hd)]
  simp only [show m (L calls aA (iterAddr vA k)) = _ from hC, locVal, C14.locAt, List.all_map, Function.comp_def]
  rfl

open Mahotas Mahotas.C12 in
/-- C12-T4 (tie: the locmin_max program computes `C14.locAt`). Let call number `t` of ANY family of calls be `locmin_max`
(minima or maxima; any views of the image (axis lengths positive) and the result; `Bc` with its centre removed, as the wrappers of
locmax/locmin/regmax/regmin pass it) on arrays `[aA, aBc]` → `[aOut, aFd]` (result, `filter_data_`), the image array distinct
from both owned arrays and these from each other. If the initial memory presents the logical image `A` through the view `vA` —
at every position the `ExtendNearest` rule delivers (`hA` ranges over `q` of ANY length: see `C12_erode_program_computes_model`) and at the addresses the array iterator visits — the result array is zero
(`PyArray_FILLWBYTE(output, 0)`) and the result view does not overlap itself, then after the SOLO run of the compiled step
program — one step per pixel that re-evaluates the neighbour test from the values READ and stores `1` or the old cell — the
result location of pixel `k` holds `1` exactly when `C14.locAt isMin A (C14.neighbours bshape bc) (unravel k)` and `0`
otherwise: the model the driver runs (`c14 kind=loc`, and `C08.locView` over views), proved equal to "no neighbour inside the
image beats the pixel" in C14. With `C12_concurrent_calls_independent` the same marks are there after every complete
interleaving with any other calls that have disjoint outputs. -/
theorem C12_locminmax_program_computes_model (kcs : List KCall) (t : Nat) (isMin : Bool) (vA vOut vBc : C08.View)
    (bc : Array Int) (aA aBc aOut aFd : Nat)
    (hk : kcs[t]? = some ((Kernel3.locminmax isMin vA vOut vBc bc).call ⟨[aA, aBc], [aOut, aFd]⟩))
    (hne1 : aA ≠ aOut) (hne2 : aA ≠ aFd) (hne3 : aOut ≠ aFd)
    (A : Img Int) (hshape : A.shape = vA.shape) (hpos : ∀ d ∈ vA.shape, 0 < d) (m : Mem)
    (hA : ∀ q q', fixPos .nearest vA.shape q = some q' →
        m ((KLoc.mk aA (vA.addr (q'.map Int.toNat))).toLoc (kcs.map (·.call))) = A.getD q' 0)
    (hC : ∀ k, k < shapeSize vA.shape →
        m ((KLoc.mk aA (iterAddr vA k)).toLoc (kcs.map (·.call))) = A.getD (unravelI vA.shape k) 0)
    (hZ : ∀ a, m ((KLoc.mk aOut a).toLoc (kcs.map (·.call))) = 0)
    (hinj : ∀ k k', k < shapeSize vA.shape → k' < shapeSize vA.shape →
        iterAddr vOut k = iterAddr vOut k' → k = k')
    (k : Nat) (hkn : k < shapeSize vA.shape) :
    solo (compile kcs) t m ((KLoc.mk aOut (iterAddr vOut k)).toLoc (kcs.map (·.call))) =
      if C14.locAt isMin A (C14.neighbours vBc.shape bc) (unravelI vA.shape k) then 1 else 0 :=
  locminmax_tie hk hne1 hne2 hne3 hshape hpos hZ hinj hkn (fun _ _ => hA _) (hC k hkn)

open Mahotas Mahotas.C12 in
/-- C12-T4 (tie: the hitmiss program computes the C08 view model of `hitmiss`). Let call number `t` of ANY family of calls
be `hitmiss` on arrays `[aA, aBc]` → `[aOut]` (`aA ≠ aOut`), its program generated from the neighbour table `tab`
(`C08.hmTable vA mB vB`: flat deltas and required values of the template entries different from 2) of a template of shape
`bshape`; the input may be ANY view (the kernel reads `input.at_flat(i + delta)`). If the initial memory holds `mA` in array
`aA` and the result view does not overlap itself, then after the SOLO run of the compiled step program — one unconditional
store per pixel, recomputed from the values READ — the result location of pixel `k` holds exactly the cell `k` of
`C08.hitmissView mA vA mB vB`: `0` where `C14.hmEvaluated` skips the pixel, else `1` iff every table entry matches. That model
is run by the driver (`c08 kind=kview kernel=hitmiss`, compared with the compiled function on strided views) and proved equal
to `C14.hitmissAt` and the hit-or-miss definition (`C08_hitmiss_view_correct`). -/
theorem C12_hitmiss_program_computes_model (kcs : List KCall) (t : Nat) (vA vOut : C08.View) (mB : Int → Int)
    (vB : C08.View) (aA aBc aOut : Nat)
    (hk : kcs[t]? = some ((Kernel3.hitmiss vA vOut (C08.hmTable vA mB vB) vB.shape).call ⟨[aA, aBc], [aOut]⟩))
    (hne : aA ≠ aOut) (mA : Int → Int) (m : Mem)
    (hA : ∀ a, m ((KLoc.mk aA a).toLoc (kcs.map (·.call))) = mA a)
    (hinj : ∀ k k', k < shapeSize vA.shape → k' < shapeSize vA.shape →
        iterAddr vOut k = iterAddr vOut k' → k = k')
    (k : Nat) (hkn : k < shapeSize vA.shape) :
    some (solo (compile kcs) t m ((KLoc.mk aOut (iterAddr vOut k)).toLoc (kcs.map (·.call)))) =
      (C08.hitmissView mA vA mB vB).getD k none := by
  let c : Call := ⟨[aA, aBc], [aOut]⟩
  let calls := kcs.map (·.call)
  let tab := C08.hmTable vA mB vB
  let g := hmPixel vA vOut tab vB.shape
  have hoff : ∀ i, (g i).doff = iterAddr vOut i := fun i => (hmPixel_dst vA vOut tab vB.shape i).2
  obtain ⟨M, hval, hunowned, -⟩ := solo_gather kcs t calls rfl c _ hk (List.cons_ne_nil _ _) [] g _ 0 rfl
    (fun i => (hmPixel_dst vA vOut tab vB.shape i).1)
    (fun a b ha hb hab => hinj a b ha hb (by rw [← hoff a, ← hoff b]; exact hab)) m k hkn
  have hreadA : ∀ a, M (L calls (c.arrOf (.inp 0)) a) = mA a := fun a =>
    (hunowned aA a (show aA ∉ [aOut] by simpa using hne)).trans (hA a)
  have hsolo : solo (compile kcs) t m (L calls aOut (iterAddr vOut k)) =
      if C14.hmEvaluated vA.shape vB.shape (vA.flatToPos (k : Int)) then
        (if tab.all (fun e => C08.readAtFlat mA vA ((k : Int) + e.1).toNat == e.2) then 1 else 0)
      else 0 := by
    rw [← hoff k]
    refine hval.trans ?_
    have hG : g k = if C14.hmEvaluated vA.shape vB.shape (vA.flatToPos (k : Int)) = true then _ else _ := rfl
    by_cases hev : C14.hmEvaluated vA.shape vB.shape (vA.flatToPos (k : Int)) = true
    · rw [if_pos hev] at hG
      rw [if_pos hev, hG]
      show hmVal (tab.map (·.2)) (List.map _ (List.map _ tab)) = _
      rw [List.map_map]
      simp only [Function.comp_def, hreadA, hmVal]
      rw [all_zip_map tab (fun d => mA (vA.atFlat ((k : Int) + d).toNat))]
      rfl
    · rw [if_neg hev] at hG
      rw [if_neg hev, hG]
  refine (congrArg some hsolo).trans ?_
  show _ = (C08.pixelLoop (shapeSize vA.shape) _).getD k none
  rw [C08.pixelLoop_getD _ _ k hkn]

namespace Mahotas.C12.Examples4
open Mahotas.C12.Examples2
/-- non-vacuity: a 4×4 bool image in Fortran order (array 10), window 2, output array 20: the solo run of the compiled
program marks exactly the cells `C08.majorityView` marks; 4 steps, all inside the footprint, roles inside the arity -/
def vJ : C08.View := { base := 0, shape := [4, 4], strides := [1, 4] }
def vO : C08.View := { base := 0, shape := [4, 4], strides := [4, 1] }
def km : Kernel3 := .majority 2 vJ vO
def cm : Call := ⟨[10], [20]⟩
def contentJ : List (KLoc × Val) :=
  [(⟨10,0⟩,1),(⟨10,1⟩,1),(⟨10,2⟩,1),(⟨10,4⟩,1),(⟨10,5⟩,1),(⟨10,8⟩,1)]
example :
    outOf [cm] (solo (compile [km.call cm]) 0 (memOf [cm] contentJ)) 20 16 =
      [0, 0, 0, 0, 0, 1, 1, 0, 0, 1, 0, 0, 0, 0, 0, 0] ∧
    (C08.majorityView 2 (fun a => if a = 0 ∨ a = 1 ∨ a = 2 ∨ a = 4 ∨ a = 5 ∨ a = 8 then 1 else 0) vJ).toList.map
        (fun o => if o.getD false then (1 : Int) else 0) = [0, 0, 0, 0, 0, 1, 1, 0, 0, 1, 0, 0, 0, 0, 0, 0] ∧
    (km.call cm).prog.length = 4 ∧
    ((km.call cm).prog.all (KStep.withinB cm)) = true ∧
    (km.raw.all (RStep.rolesOk km.arity)) = true := by
  decide +kernel
/-- a `locmax` call on `[5,3,7,0]` with neighbourhood `[1,0,1]` (centre removed): the solo run of the compiled program
leaves the marks of `C14.locModel`; inside footprint and arity -/
example :
    let kl : Kernel3 := .locminmax false v4 v4 v3 #[1, 0, 1]
    let cl : Call := ⟨[10, 11], [30, 31]⟩
    let contentL : List (KLoc × Val) := [(⟨10,0⟩,5),(⟨10,1⟩,3),(⟨10,2⟩,7),(⟨10,3⟩,0),(⟨11,0⟩,1),(⟨11,1⟩,0),(⟨11,2⟩,1)]
    outOf [cl] (solo (compile [kl.call cl]) 0 (memOf [cl] contentL)) 30 4 = [1, 0, 1, 0] ∧
    (C14.locModel false ⟨[4], #[5, 3, 7, 0]⟩ (C14.neighbours [3] #[1, 0, 1])).toList = [true, false, true, false] ∧
    ((kl.call cl).prog.all (KStep.withinB cl)) = true ∧
    (kl.raw.all (RStep.rolesOk kl.arity)) = true := by
  decide +kernel
/-- a `hitmiss` call: input `[1,0,1,1]` (array 10), template `[1,2,1]` read from Bc's memory; the solo run of the compiled
program = `C08.hitmissView` (the margins are skipped, pixel 2 does not match, pixel 1 does) -/
example :
    let mT : Int → Int := fun a => [1, 2, 1].getD a.toNat 0
    let mI : Int → Int := fun a => [1, 0, 1, 1].getD a.toNat 0
    let kh : Kernel3 := .hitmiss v4 v4 (C08.hmTable v4 mT v3) [3]
    let ch : Call := ⟨[10, 11], [30]⟩
    let contentH : List (KLoc × Val) := [(⟨10,0⟩,1),(⟨10,1⟩,0),(⟨10,2⟩,1),(⟨10,3⟩,1)]
    outOf [ch] (solo (compile [kh.call ch]) 0 (memOf [ch] contentH)) 30 4 = [0, 1, 0, 0] ∧
    (C08.hitmissView mI v4 mT v3).toList = [some 0, some 1, some 0, some 0] ∧
    ((kh.call ch).prog.all (KStep.withinB ch)) = true ∧
    (kh.raw.all (RStep.rolesOk kh.arity)) = true := by
  decide +kernel
end Mahotas.C12.Examples4
