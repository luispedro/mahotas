/-
C19 — property theorems.
Direction and factorial tables are the ones `translator/tables.py` extracts on every run.
-/
import Mahotas.Proofs.C19Cooc
import Mahotas.Proofs.C19CoocModel
import Mahotas.Proofs.C19Lbp
import Mahotas.Proofs.C19Integral
import Mahotas.Proofs.C19Haralick
import Mahotas.Proofs.C19Zernike
import Mahotas.Proofs.C19Necklace
import Mahotas.Proofs.C19Burnside
import Mahotas.Proofs.C19HaralickFeat
import Mahotas.Proofs.C19CoocData
import Mahotas.Proofs.C19Entropy
import Mahotas.Proofs.C19Machine
import Mahotas.Proofs.C19Moments
import Mahotas.Proofs.C19Tas
import Mahotas.Proofs.C19TasNorm
import Mahotas.Proofs.C19HaralickQ
import Mahotas.Proofs.C19LbpSample
import Mahotas.Proofs.C19HaralickMean
import Mahotas.Model.Border
import Mathlib.Data.ZMod.Basic
namespace Mahotas.C19
open Mahotas Mahotas.Generated

/-- all vectors of `{-1,0,1}^n` -/
def cube : Nat → List (List Int)
  | 0 => [[]]
  | n + 1 => [-1, 0, 1].flatMap fun (x : Int) => (cube n).map (x :: ·)

/-- the `3^n − 1` neighbours of the origin -/
def neighbours (n : Nat) : List (List Int) := (cube n).filter fun v => v.any (· != 0)

def factN : Nat → Nat
  | 0 => 1
  | n + 1 => (n + 1) * factN n

/-- direction permutation induced by swapping the first two axes (2-D: transposition) -/
def perm2d : List Nat := [2, 1, 0, 3]
def perm3d : List Nat := [2, 1, 0, 3, 4, 6, 5, 7, 12, 10, 9, 11, 8]

/-- `swap01 (table[i])` is `± table[perm[i]]` for every row `i` -/
def permutesUpToSign (table : List (List Int)) (perm : List Nat) : Bool :=
  (List.range table.length).all fun i =>
    let v := swap01 (table.getD i [])
    let w := table.getD (perm.getD i 0) []
    v == w || v == negPos w

end Mahotas.C19

open Mahotas Mahotas.C19 Mahotas.Generated

/-- **C19 (direction tables).** `_2d_deltas` / `_3d_deltas` contain exactly one representative of each
`±` pair of the 8 / 26 neighbours: the table together with its negation is a permutation of all
neighbours (4 + 4 = 8, 13 + 13 = 26, no repetition, nothing missing). -/
theorem C19_direction_tables :
    (deltas2d ++ deltas2d.map negPos).Perm (neighbours 2) ∧
    (deltas3d ++ deltas3d.map negPos).Perm (neighbours 3) ∧
    deltas2d.length = 4 ∧ deltas3d.length = 13 := by
  refine ⟨?_, ?_, rfl, rfl⟩ <;> decide +kernel

/-- **C19 (transposition permutes directions).** Swapping the first two axes maps direction `i` of the
table to direction `perm[i]` up to sign (2-D: `0↔2`, `1`, `3` fixed), and `perm` is an involution. -/
theorem C19_swap_permutes_directions :
    permutesUpToSign deltas2d perm2d = true ∧ permutesUpToSign deltas3d perm3d = true ∧
    (∀ i < 4, perm2d.getD (perm2d.getD i 0) 0 = i) ∧ (∀ i < 13, perm3d.getD (perm3d.getD i 0) 0 = i) := by
  refine ⟨by decide, by decide, by decide, by decide⟩

/-- **C19 (Zernike factorial table).** `_factorialtable[i] = i!` for every entry (13 entries: 0!..12!). -/
theorem C19_factorial_table :
    factorialTable.length = 13 ∧ ∀ i < factorialTable.length, factorialTable.getD i 0 = factN i := by
  refine ⟨rfl, ?_⟩
  decide

/-- **C19-T1 (co-occurrence counts).** For every image of any rank whose values lie in `[0, m)` and every
offset `d`, the model of `_texture.cpp: cooccurence` (scan in C order, `++res[f p][f (p+d)]` wherever the
neighbour lies inside the image) yields exactly the matrix of counts
`C[a][b] = #{p | p inside, p+d inside, f p = a, f (p+d) = b}`, and with the symmetric fold exactly `C + Cᵀ`
— the whole `m×m` matrices the driver prints as `model` and `spec` are equal. -/
theorem C19_cooc_counts (m : Nat) (im : Img Int) (d : List Int)
    (hv : ∀ p, 0 ≤ im.getD p 0 ∧ im.getD p 0 < (m : Int)) :
    (coocModel m im d).toList = coocSpecMat m im d false ∧
    (symFold m (coocModel m im d)).toList = coocSpecMat m im d true ∧
    ∀ a b : Nat, a < m → b < m →
      (coocModel m im d).getD (a * m + b) 0 = coocCount im.shape (fun p => im.getD p 0) d a b ∧
      (symFold m (coocModel m im d)).getD (a * m + b) 0 = coocSym im.shape (fun p => im.getD p 0) d a b :=
  have hv := fun p (_ : inside im.shape p = true) => hv p
  ⟨coocModel_toList m im d hv, coocModel_sym_toList m im d hv,
   fun a b ha hb => ⟨coocModel_eq_count m im d hv a b ha hb, coocModel_sym_eq m im d hv a b ha hb⟩⟩

/-- **C19-T2 (180° rotation).** For every shape (any rank), image `f`, direction `d` of matching rank and
grey levels `a, b`: the co-occurrence count of the image rotated by 180° (`p ↦ shape−1−p`) is the
transposed count, hence the symmetric matrix (`C + Cᵀ`, what `haralick` uses) is *equal*. -/
theorem C19_cooc_rot180 (s : List Nat) (f : List Int → Int) (d : List Int) (a b : Int)
    (hd : d.length = s.length) :
    coocCount s (fun p => f (revPos s p)) d a b = coocCount s f d b a ∧
    coocSym s (fun p => f (revPos s p)) d a b = coocSym s f d a b :=
  ⟨coocCount_rot180 s f d a b hd, coocSym_rot180 s f d a b hd⟩

/-- **C19-T2 (transposition).** Swapping the first two axes of the image and of the direction leaves
every count unchanged; negating a direction transposes the matrix, so it leaves the symmetric matrix
unchanged. With `C19_swap_permutes_directions` (`swap01 dᵢ = ± d_{perm i}`): the symmetric matrix of the
transposed image in direction `perm i` equals that of the image in direction `i`. -/
theorem C19_cooc_transpose (s : List Nat) (f : List Int → Int) (d : List Int) (a b : Int)
    (hd : d.length = s.length) :
    coocCount (swap01 s) (fun p => f (swap01 p)) (swap01 d) a b = coocCount s f d a b ∧
    coocCount s f (negPos d) a b = coocCount s f d b a ∧
    coocSym s f (negPos d) a b = coocSym s f d a b ∧
    coocSym (swap01 s) (fun p => f (swap01 p)) (swap01 d) a b = coocSym s f d a b :=
  ⟨coocCount_swap01 s f d a b hd, coocCount_neg s f d a b hd, coocSym_neg s f d a b hd,
   coocSym_swap01 s f d a b hd⟩

/-- **C19 (haralick invariance, bit for bit).** `haralick` is a function `F` of the symmetric matrices.
Whatever `F` is (in particular the Float functions `haralick13` the driver runs), its value on the
180°-rotated image equals its value on the image, and its value on the axis-swapped image with the
swapped direction equals its value on the image — exact equality, no tolerance. -/
theorem C19_haralick_invariance {β : Type} (F : (Int → Int → Nat) → β) (s : List Nat) (f : List Int → Int)
    (d : List Int) (hd : d.length = s.length) :
    F (coocSym s (fun p => f (revPos s p)) d) = F (coocSym s f d) ∧
    F (coocSym (swap01 s) (fun p => f (swap01 p)) (swap01 d)) = F (coocSym s f d) ∧
    F (coocSym s f (negPos d)) = F (coocSym s f d) := by
  refine ⟨congrArg F ?_, congrArg F ?_, congrArg F ?_⟩ <;> funext a b
  · exact coocSym_rot180 s f d a b hd
  · exact coocSym_swap01 s f d a b hd
  · exact coocSym_neg s f d a b hd

/-- **C19-T3 (LBP code mapping).** For every number of points `P ≥ 1` (no upper bound) and every `P`-bit code
`v`, the unbounded-`Nat` model `lbpMap` of `_lbp.cpp: map` (`roll_right`, running minimum over `P` rotations; its
agreement with the `uint32` code `C10Misc.lbpMap32` for `P ≤ 32` is `C10_lbp_map_in_bounds` in `Properties/C10.lean`,
and `cscalar_lbp_map_eq_model` ties `lbpMap32` to the C++ text)
returns the minimum of the rotation orbit: it is below every rotation of `v` and is one of them;
rotating the code does not change it (codes that are cyclic rotations of one another share a bin);
it is idempotent (bins are class representatives) and stays a `P`-bit code. General proof over `Nat`
bit arithmetic, not an enumeration. -/
theorem C19_lbp_map (P v : Nat) (hP : 1 ≤ P) (hv : v < 2 ^ P) :
    (∀ k, lbpMap P v ≤ iter (rollRight P) k v) ∧
    (∃ k, k < P ∧ lbpMap P v = iter (rollRight P) k v) ∧
    lbpMap P (rollRight P v) = lbpMap P v ∧
    (∀ k, lbpMap P (iter (rollRight P) k v) = lbpMap P v) ∧
    lbpMap P (lbpMap P v) = lbpMap P v ∧
    lbpMap P v < 2 ^ P ∧
    iter (rollRight P) P v = v :=
  ⟨lbpMap_le_orbit P v hP hv, lbpMap_mem_orbit P v hP hv, lbpMap_rollRight P v hP hv,
   fun k => lbpMap_iter P v k hP hv, lbpMap_idem P v hP hv, lbpMap_lt P v hP hv,
   iter_rollRight_period P v hP hv⟩

/-- **C19-T3 (LBP histogram).** For every `P ≥ 1` and every list of `P`-bit pixel codes, the compressed
histogram `lbp` returns (one bin per *pivot* `c = map c`, i.e. one bin per rotation class of `P`-bit
codes) sums to the number of pixels considered, and the bin of every non-pivot code is empty — nothing
is lost by the compression. -/
theorem C19_lbp_histogram (P : Nat) (hP : 1 ≤ P) (codes : List Nat) (hc : ∀ v ∈ codes, v < 2 ^ P) :
    (lbpCompress P (codes.map (lbpMap P))).sum = codes.length ∧
    ∀ c, lbpMap P c ≠ c → (codes.map (lbpMap P)).count c = 0 := by
  refine ⟨?_, fun c hnp => List.count_eq_zero.2 fun hx => ?_⟩
  · unfold lbpCompress
    refine (sum_count_eq_length (pivots P) _ (pivots_nodup P) fun x hx => ?_).trans (List.length_map _)
    obtain ⟨v, hv, rfl⟩ := List.mem_map.1 hx
    exact mem_pivots P hP v (hc v hv)
  · obtain ⟨v, hv, rfl⟩ := List.mem_map.1 hx
    exact hnp (lbpMap_idem P v hP (hc v hv))

/-- **C19-T4 (integral image).** For every rectangular integer image the model of `_surf.cpp: integral`
(the in-place recurrence `a(i,j) += a(i−1,j) + a(i,j−1) − a(i−1,j−1)`, with zeros outside the image for the first row and
column, which the C++ runs as separate loops without the zero terms) is the two-dimensional prefix sum `Σ_{a ≤ i} Σ_{b ≤ j} f[a][b]` at every pixel, and the
result has the shape of the input. -/
theorem C19_integral_prefix (w : Nat) (rows : List (List Int)) (hw : ∀ r ∈ rows, r.length = w) :
    (integral w rows).length = rows.length ∧ (∀ r ∈ integral w rows, r.length = w) ∧
    ∀ i j, i < rows.length → j < w → ((integral w rows).getD i []).getD j 0 = prefix2 rows i j :=
  ⟨integral_length w rows, integral_row_length w rows hw,
   fun i j hi hj => integral_eq_prefix2 w rows hw i j hi hj⟩

/-- **C19-T5 (moments).** The model of `moments` (two successive dot products with the power vectors)
equals the defining double sum `Σ_i Σ_j img[i][j] (i − c0)^p0 (j − c1)^p1` for every integer image,
all natural powers and every integer centre. -/
theorem C19_moments_def (rows : List (List Int)) (p0 p1 : Nat) (c0 c1 : Int) :
    moments (fun n => (n : Int)) rows p0 p1 c0 c1 = momentsSpec (fun n => (n : Int)) rows p0 p1 c0 c1 :=
  moments_eq_spec _ rows p0 p1 c0 c1

/-- **C19-T7 (haralick sanity: the normalised matrix and its marginals).** Over any ordered field, for
every `m × m` count matrix `c` (row-major) with a non-zero total — the generic definitions `normMat`,
`matAt`, `asmG`, `pplusG`, `pminusG` are the ones `haralick13` (the model the driver runs) uses at `Float`:
`p = c / Σc` sums to 1; the angular second moment `Σ p(i,j)²` lies in `[0, 1]`; entry `k` of `p_{x+y}`
is the fold `Σ_{i+j=k} p(i,j)` and entry `k` of `p_{x−y}` is the fold `Σ_{|i−j|=k} p(i,j)` over all
index pairs; `p_{x+y}` has `2m` entries, `p_{x−y}` has `m`, and each sums to 1. -/
theorem C19_haralick_sanity {α : Type} [Field α] [LinearOrder α] [IsStrictOrderedRing α]
    (m : Nat) (c : List Nat) (hlen : c.length = m * m) (hT : c.sum ≠ 0) :
    let p := normMat (Nat.cast : Nat → α) c
    let P := matAt (0 : α) m p
    gsum 0 p.toList = 1 ∧
    (0 ≤ asmG 0 m P ∧ asmG 0 m P ≤ 1) ∧
    (∀ k, k < 2 * m → (pplusG 0 m P).getD k 0 =
      gsum 0 ((allPairs m).map fun (ij : Nat × Nat) => if ij.1 + ij.2 = k then P ij.1 ij.2 else 0)) ∧
    (∀ k, k < m → (pminusG 0 m P).getD k 0 =
      gsum 0 ((allPairs m).map fun (ij : Nat × Nat) => if absDiff ij.1 ij.2 = k then P ij.1 ij.2 else 0)) ∧
    ((pplusG 0 m P).length = 2 * m ∧ gsum 0 (pplusG 0 m P) = 1) ∧
    ((pminusG 0 m P).length = m ∧ gsum 0 (pminusG 0 m P) = 1) := by
  intro p P
  refine ⟨normMat_sum c hT, asm_bounds m c hlen hT, fun k hk => pplus_getD m P k hk,
    fun k hk => pminus_getD m P k hk, ⟨by simp [pplusG], ?_⟩, ⟨by simp [pminusG], ?_⟩⟩
  · rw [pplus_sum]; exact matAt_total m c hlen hT
  · rw [pminus_sum]; exact matAt_total m c hlen hT

/-- **C19-T6 (Zernike: the pixel weights do not depend on the intensity scale).** `zernikeFrac` is the
transliteration of the normalisation step of `zernike_moments` (`k = (Dn <= 1) & (P > 0)`,
`frac_center = P[k] / P[k].sum()`), generic in the scalar type (the driver runs it at `Float`; the
check feeds its output to the real `_zernike.znl`). Over any ordered field, multiplying every pixel
by `s > 0` changes neither the selection nor the normalised weights — hence no Zernike magnitude —
and the weights sum to 1 as soon as some pixel inside the disc is positive. -/
theorem C19_zernike_scale_invariance {α : Type} [Field α] [LinearOrder α] [IsStrictOrderedRing α]
    (inDisc : List Bool) (P : List α) (s : α) (hs : 0 < s) :
    zernikeFrac 0 inDisc (P.map (s * ·)) = zernikeFrac 0 inDisc P ∧
    ((∃ dv ∈ inDisc.zip P, dv.1 = true ∧ 0 < dv.2) → gsum 0 (zernikeFrac 0 inDisc P) = 1) :=
  ⟨zernikeFrac_scale inDisc P s hs, zernikeFrac_sum_of_exists inDisc P⟩

/-- **C19-T6 (Zernike: rotation by 90° about the chosen centre).** `zernikeZ` is the transliteration of
`zernike_moments` up to `abs` — grid `Yn = (y − c0)/radius`, `Xn = (x − c1)/radius`, `Dn = max(sqrt(Xn² + Yn²), eps)`,
selection `(Dn <= 1) & (P > 0)`, weights `P[k]/P[k].sum()`, angles `An ** l` with `An = (Xn + i·Yn)/Dn`, then the
kernel `_zernike.znl` (`znlG`: radial coefficients from the extracted factorial table, `Vnl = Σ_m g_m · pow(d, n−2m) · a`,
`v = Σ p · conj(Vnl)`, `v *= (n+1)/π`) — generic in the scalar type; the driver runs it at `Float` and the check compares
it with the real `_zernike.znl` and `zernike_moments`. Over **any field with a decidable linear order**, for **arbitrary**
functions `sqrt` and `pow` and arbitrary `eps`, `π`, every image size, image, centre, radius, `n` and `l`:
the moment of the image rotated by 90° (`rot[i][j] = im[j][C−1−i]`, i.e. `np.rot90`, centre moved with it to
`(C−1−c1, c0)`) is `i^l` times the moment of the image; `|i^l|² = 1`, hence `|z_nl|²` is unchanged, and the whole vector
returned by `zernike_moments` (`sqrt |z_nl|²` for every `(n, l)` through any degree) is *equal*. (Rotation permutes the
selected pixels, keeps `Dn`, the value and the weight of each, and multiplies its angle `An` by `−i`.) -/
theorem C19_zernike_rot90 {α : Type} [Field α] [LinearOrder α] (sqrt : α → α) (pow : α → ℕ → α) (eps pi : α)
    (R C : ℕ) (im : ℕ → ℕ → α) (c0 c1 radius : α) :
    let rot := fun (i j : ℕ) => im j (C - 1 - i)
    (∀ n l, zernikeZ 0 1 Nat.cast sqrt pow eps pi C R rot ((C : α) - 1 - c1) c0 radius n l =
      cxMul (cxPow 0 1 (0, 1) l) (zernikeZ 0 1 Nat.cast sqrt pow eps pi R C im c0 c1 radius n l)) ∧
    (∀ l, cxNormSq (cxPow 0 1 ((0 : α), 1) l) = 1) ∧
    (∀ n l, cxNormSq (zernikeZ 0 1 Nat.cast sqrt pow eps pi C R rot ((C : α) - 1 - c1) c0 radius n l) =
      cxNormSq (zernikeZ 0 1 Nat.cast sqrt pow eps pi R C im c0 c1 radius n l)) ∧
    (∀ degree, zernikeAbs 0 1 Nat.cast sqrt pow eps pi C R rot ((C : α) - 1 - c1) c0 radius degree =
      zernikeAbs 0 1 Nat.cast sqrt pow eps pi R C im c0 c1 radius degree) := by
  intro rot
  exact ⟨fun n l => zernikeZ_rot90 sqrt pow eps pi R C im c0 c1 radius n l, cxNormSq_pow_i,
    fun n l => zernikeZ_rot90_normSq sqrt pow eps pi R C im c0 c1 radius n l,
    zernikeAbs_congr sqrt pow eps pi (zernikeZ_rot90_normSq sqrt pow eps pi R C im c0 c1 radius)⟩

/-- **C19-T3 (LBP: the bins are the rotation classes — binary necklaces).** `pivots P` are the codes `c = map c`
among all `2^P` codes; the compressed histogram `lbpCompress` has exactly one bin per pivot, whatever the pixel codes.
For **every** `P ≥ 1` (no bound): two `P`-bit codes are mapped to the same bin iff they are cyclic rotations of one
another (`RotEq`); the pivots are pairwise distinct and every rotation class contains exactly one pivot (a system of
distinct representatives); hence the number of bins equals the number of rotation classes of `P`-bit codes
(`Nat.card` of the quotient of `{v // v < 2^P}` by rotation — the equivalence `classEquiv` is `⟦v⟧ ↦ map v`).
And for **every** `P ≥ 1` this number times `P` equals the closed form `Σ_{d ∣ P} φ(d) · 2^{P/d}` (Mathlib's
`Nat.divisors`, `Nat.totient`) — the number of binary necklaces of length `P`: 2, 3, 4, 6, 8, 14, 20, 36, 60, 108, 188,
352, … bins. Proof (`Proofs/C19Burnside.lean`): `ZMod P` acts on the codes by `k +ᵥ v = rollRight^k v`, its orbits are
the rotation classes, a rotation by `k` fixes exactly the codes whose bit pattern is `k`-periodic, the `2^gcd(P,k)`
patterns on `ZMod P ⧸ ⟨k⟩` (Lagrange: `⟨k⟩` has `P / gcd(P,k)` elements), Burnside's lemma, and `#{k < P | gcd(P,k) = d} = φ(P/d)`; `pivots_closed_form` restates it with the
list-level `necklaceSum`, which evaluates. -/
theorem C19_lbp_bins_count :
    (∀ P mapped, (lbpCompress P mapped).length = (pivots P).length) ∧
    (∀ P v w, 1 ≤ P → v < 2 ^ P → w < 2 ^ P → (lbpMap P v = lbpMap P w ↔ RotEq P v w)) ∧
    (∀ P, (pivots P).Nodup) ∧
    (∀ P v, 1 ≤ P → v < 2 ^ P → ∃! c, c ∈ pivots P ∧ RotEq P v c) ∧
    (∀ P (hP : 1 ≤ P), Nat.card (Quotient (rotSetoid P hP)) = (pivots P).length) ∧
    (∀ P, 1 ≤ P → (pivots P).length * P = ∑ d ∈ P.divisors, Nat.totient d * 2 ^ (P / d)) :=
  ⟨lbpCompress_length, fun P v w hP hv hw => lbpMap_eq_iff P v w hP hv hw, pivots_nodup,
   fun P v hP hv => pivot_unique P v hP hv, card_classes,
   pivots_burnside⟩

/-- **C19-T7 (the Haralick features without logarithms are their textbook formulas).** `haralick13` (the model the
driver runs at `Float`, compared with the real `haralick` at 1e-9) is assembled from generic definitions — first part:
f2, f3, f4, f5, f6, f7, f10 of the returned list *are* `contrastG`, `covG / (sqrt vx · sqrt vy)`, `varG`, `idmG`, `sumAvgG`,
`sumVarG`, `diffVarG` at `Float` (by `rfl`). Over **any ordered field**, for every `m × m` count matrix `c` with non-zero
total, `p = c / Σc`, marginals `p_x = p.sum(0)`, `p_y = p.sum(1)`, `p_{x+y}`, `p_{x−y}`:
* contrast `Σ_k k² p_{x−y}(k) = Σ_{i,j} (i − j)² p(i,j)`;
* sum average `Σ_k k p_{x+y}(k) = Σ_{i,j} (i + j) p(i,j) = μ_y + μ_x`;
* inverse difference moment `Σ p(i,j)/(1 + (i−j)²) ∈ [0, 1]`;
* the variances `Σ k² p_x(k) − μ_x²` (f4) and `Σ k² p_y(k) − μ_y²` are `≥ 0` and equal the centred textbook forms
  `Σ_{i,j} (j − μ_x)² p(i,j)`, `Σ_{i,j} (i − μ_y)² p(i,j)`; sum variance `= Σ_{i,j} (i + j − f6)² p(i,j)`, which also equals the
  form `texture.py` evaluates, `np.dot(tk2, px_plus_y) − feats[5]**2` (the model uses the centred form: same real number);
* covariance² `(Σ i j p(i,j) − μ_x μ_y)² ≤ var_x · var_y` (weighted Cauchy–Schwarz, no square roots), hence with any
  positive square roots `s_x² = var_x`, `s_y² = var_y` the correlation `cov/(s_x s_y)` lies in `[−1, 1]` (where a
  variance vanishes the textbook formula is 0/0 and the check does not compare f3);
* sum variance `Σ_k (k − f6)² p_{x+y}(k) ≥ 0`, difference variance `≥ 0`, and the alternative difference variance of
  the option `use_x_minus_y_variance`, `VAR[|x−y|] = Σ k² p_{x−y}(k) − (Σ k p_{x−y}(k))² ≥ 0`.
The entropies f8, f9, f11 and the information measures f12, f13 are the textbook `−Σ q log₂ q` formulas of the model at
`Float` (`entropy`); what is proved about them is in `C19_haralick_entropies`. -/
theorem C19_haralick_features_def :
    (∀ (m : ℕ) (c : List ℕ),
      let P := matAt 0.0 m (normMat Float.ofNat c)
      let px := colSumG 0.0 m P
      let py := rowSumG 0.0 m P
      let h := haralick13 m c
      h.getD 1 0.0 = contrastG 0.0 Float.ofNat m (pminusG 0.0 m P) ∧
      h.getD 2 0.0 = covG 0.0 Float.ofNat m P (meanG 0.0 Float.ofNat px m) (meanG 0.0 Float.ofNat py m) /
        (Float.sqrt (varG 0.0 Float.ofNat px m) * Float.sqrt (varG 0.0 Float.ofNat py m)) ∧
      h.getD 3 0.0 = varG 0.0 Float.ofNat px m ∧
      h.getD 4 0.0 = idmG 0.0 1.0 Float.ofNat m P ∧
      h.getD 5 0.0 = sumAvgG 0.0 Float.ofNat m (pplusG 0.0 m P) ∧
      h.getD 6 0.0 = sumVarG 0.0 Float.ofNat m (pplusG 0.0 m P) (sumAvgG 0.0 Float.ofNat m (pplusG 0.0 m P)) ∧
      h.getD 9 0.0 = diffVarG 0.0 Float.ofNat m (pminusG 0.0 m P)) ∧
    (∀ {α : Type} [Field α] [LinearOrder α] [IsStrictOrderedRing α]
      (m : ℕ) (c : List ℕ), c.length = m * m → c.sum ≠ 0 →
      let P := matAt (0 : α) m (normMat (Nat.cast : ℕ → α) c)
      let px := colSumG 0 m P
      let py := rowSumG 0 m P
      let ux := meanG 0 Nat.cast px m
      let uy := meanG 0 Nat.cast py m
      let vx := varG 0 Nat.cast px m
      let vy := varG 0 Nat.cast py m
      let cov := covG 0 Nat.cast m P ux uy
      let f6 := sumAvgG 0 Nat.cast m (pplusG 0 m P)
      contrastG 0 Nat.cast m (pminusG 0 m P) =
        ∑ i ∈ Finset.range m, ∑ j ∈ Finset.range m, ((i : α) - (j : α)) ^ 2 * P i j ∧
      f6 = ∑ i ∈ Finset.range m, ∑ j ∈ Finset.range m, ((i : α) + (j : α)) * P i j ∧
      f6 = uy + ux ∧
      (0 ≤ idmG 0 1 Nat.cast m P ∧ idmG 0 1 Nat.cast m P ≤ 1) ∧
      (0 ≤ vx ∧ 0 ≤ vy) ∧
      (vx = ∑ i ∈ Finset.range m, ∑ j ∈ Finset.range m, P i j * ((j : α) - ux) ^ 2 ∧
       vy = ∑ i ∈ Finset.range m, ∑ j ∈ Finset.range m, P i j * ((i : α) - uy) ^ 2) ∧
      sumVarG 0 Nat.cast m (pplusG 0 m P) f6 =
        ∑ i ∈ Finset.range m, ∑ j ∈ Finset.range m, ((i : α) + (j : α) - f6) ^ 2 * P i j ∧
      sumVarG 0 Nat.cast m (pplusG 0 m P) f6 =
        gsum 0 ((List.range (2 * m)).map fun k => ((k * k : ℕ) : α) * (pplusG 0 m P).getD k 0) - f6 * f6 ∧
      cov ^ 2 ≤ vx * vy ∧
      (∀ sx sy : α, sx ^ 2 = vx → sy ^ 2 = vy → 0 < sx → 0 < sy →
        -1 ≤ cov / (sx * sy) ∧ cov / (sx * sy) ≤ 1) ∧
      0 ≤ sumVarG 0 Nat.cast m (pplusG 0 m P) f6 ∧
      0 ≤ diffVarG 0 Nat.cast m (pminusG 0 m P) ∧
      0 ≤ varG 0 Nat.cast (pminusG 0 m P) m) := by
  refine ⟨fun m c => ⟨rfl, rfl, rfl, rfl, rfl, rfl, rfl⟩, ?_⟩
  intro α _ _ _ m c hlen hT P px py ux uy vx vy cov f6
  have h0 : ∀ i j, 0 ≤ P i j := fun i j => matAt_nonneg m c i j
  have h1 : ∑ i ∈ Finset.range m, ∑ j ∈ Finset.range m, P i j = 1 := matAt_total m c hlen hT
  exact ⟨contrast_eq m P, sumAvg_eq m P, sumAvg_eq_means m P, idm_bounds m P h0 h1, var_nonneg m P h0 h1,
    var_centered m P h1, sumVar_eq m P f6, sumVar_code_form m P h1, cov_sq_le m P h0 h1,
    fun sx sy hx hy px' py' => corr_bounds cov vx vy sx sy (cov_sq_le m P h0 h1) hx hy px' py',
    sumVar_nonneg m P h0 f6, diffVar_nonneg m _, diffVarAlt_nonneg m P h0 h1⟩

/-- **C19-T2 on the data arrays (what `f[::-1, ::-1, …]` and `swapaxes(0,1)` do to the driver's input).**
`C19_cooc_rot180` / `C19_cooc_transpose` speak about index maps; this theorem is about the arrays the model receives.
For every image of any rank with a full C-order data array and values in `[0, m)`, every direction of matching rank:
the image whose **data array is reversed** reads, at every inside position `p`, the value at the mirrored position
`shape − 1 − p`, and the symmetric co-occurrence matrix the model computes from it (`symFold ∘ coocModel`, what the
driver prints and `haralick13` consumes) is the **same array**; the C-contiguous copy of the axis swap (`swapImg`,
element `p` = element `swap01 p`) with the swapped direction gives the same array too; hence every feature vector
`haralick13` computes is identical (exact equality of `Float` lists). -/
theorem C19_cooc_invariance_on_data (m : Nat) (im : Img Int) (d : List Int)
    (hsz : im.data.size = shapeSize im.shape) (hd : d.length = im.shape.length)
    (hv : ∀ p, 0 ≤ im.getD p 0 ∧ im.getD p 0 < (m : Int)) :
    let rev : Img Int := { shape := im.shape, data := im.data.reverse }
    (∀ p, inside im.shape p = true → rev.getD p 0 = im.getD (revPos im.shape p) 0) ∧
    symFold m (coocModel m rev d) = symFold m (coocModel m im d) ∧
    (∀ p, inside (swap01 im.shape) p = true → (swapImg im).getD p 0 = im.getD (swap01 p) 0) ∧
    symFold m (coocModel m (swapImg im) (swap01 d)) = symFold m (coocModel m im d) ∧
    haralick13 m (symFold m (coocModel m rev d)).toList = haralick13 m (symFold m (coocModel m im d)).toList ∧
    haralick13 m (symFold m (coocModel m (swapImg im) (swap01 d))).toList =
      haralick13 m (symFold m (coocModel m im d)).toList := by
  intro rev
  have h1 := symFold_reverse m im d hsz hd hv
  have h2 := symFold_swap m im d hd hv
  exact ⟨fun p hp => getD_reverse_img im hsz p hp, h1, fun p hp => swapImg_getD im p hp, h2,
    by rw [h1], by rw [h2]⟩

/-- **C19-T6 (Zernike: intensity scaling, on the full model).** For the same generic model `zernikeZ` / `zernikeAbs` of
`zernike_moments` as in `C19_zernike_rot90` (the one the driver runs at `Float`), over any ordered field and for arbitrary
`sqrt`, `pow`, `eps`, `π`: multiplying every pixel by `s > 0` changes no `z_nl` (the selection `P > 0` is unchanged and the
weights `P[k]/ΣP[k]` are scale-free), hence not the returned vector. -/
theorem C19_zernike_scale_full {α : Type} [Field α] [LinearOrder α] [IsStrictOrderedRing α]
    (sqrt : α → α) (pow : α → ℕ → α) (eps pi : α) (R C : ℕ) (im : ℕ → ℕ → α) (c0 c1 radius s : α) (hs : 0 < s) :
    (∀ n l, zernikeZ 0 1 Nat.cast sqrt pow eps pi R C (fun y x => s * im y x) c0 c1 radius n l =
      zernikeZ 0 1 Nat.cast sqrt pow eps pi R C im c0 c1 radius n l) ∧
    (∀ degree, zernikeAbs 0 1 Nat.cast sqrt pow eps pi R C (fun y x => s * im y x) c0 c1 radius degree =
      zernikeAbs 0 1 Nat.cast sqrt pow eps pi R C im c0 c1 radius degree) :=
  ⟨fun n l => zernikeZ_scale sqrt pow eps pi R C im c0 c1 radius s hs n l,
   zernikeAbs_congr sqrt pow eps pi fun n l => by rw [zernikeZ_scale sqrt pow eps pi R C im c0 c1 radius s hs]⟩

/-- **C19-T6 (Zernike: rotation by 180°).** Two quarter turns: the image `im[R−1−i][C−1−j]` with centre
`(R−1−c0, C−1−c1)` has `z_nl = i^l · i^l · z_nl(im)`, the same `|z_nl|²` and the same returned vector (a third
application of `C19_zernike_rot90` gives 270°). -/
theorem C19_zernike_rot180 {α : Type} [Field α] [LinearOrder α] (sqrt : α → α) (pow : α → ℕ → α) (eps pi : α)
    (R C : ℕ) (im : ℕ → ℕ → α) (c0 c1 radius : α) :
    let rot := fun (i j : ℕ) => im (R - 1 - i) (C - 1 - j)
    (∀ n l, zernikeZ 0 1 Nat.cast sqrt pow eps pi R C rot ((R : α) - 1 - c0) ((C : α) - 1 - c1) radius n l =
      cxMul (cxPow 0 1 (0, 1) l) (cxMul (cxPow 0 1 (0, 1) l)
        (zernikeZ 0 1 Nat.cast sqrt pow eps pi R C im c0 c1 radius n l))) ∧
    (∀ degree, zernikeAbs 0 1 Nat.cast sqrt pow eps pi R C rot ((R : α) - 1 - c0) ((C : α) - 1 - c1) radius degree =
      zernikeAbs 0 1 Nat.cast sqrt pow eps pi R C im c0 c1 radius degree) := by
  intro rot
  have hz : ∀ n l, zernikeZ 0 1 Nat.cast sqrt pow eps pi R C rot ((R : α) - 1 - c0) ((C : α) - 1 - c1) radius n l =
      cxMul (cxPow 0 1 (0, 1) l) (cxMul (cxPow 0 1 (0, 1) l)
        (zernikeZ 0 1 Nat.cast sqrt pow eps pi R C im c0 c1 radius n l)) := fun n l =>
    zernikeZ_rot90 sqrt pow eps pi R C im c0 c1 radius n l ▸
      zernikeZ_rot90 sqrt pow eps pi C R (fun i j => im j (C - 1 - i)) ((C : α) - 1 - c1) c0 radius n l
  refine ⟨hz, zernikeAbs_congr sqrt pow eps pi fun n l => ?_⟩
  rw [hz, cxNormSq_cxMul, cxNormSq_cxMul, cxNormSq_pow_i, one_mul, one_mul]

/-- **C19-T7 (the entropy features and information measures, over the reals).** `entropyG`, `hxy1G`, `hxy2G` are generic
definitions; f8, f9, f11 and HX, HY, HXY1, HXY2 inside `haralick13` are these at `Float` with `Float.log2` (first part, by
`rfl` for the returned entries f8, f9, f11, HX, HY). Instantiated at `ℝ` with `log₂ = Real.logb 2`, for every `m × m` count
matrix with non-zero total: the five entropies (sum entropy f8, entropy f9, difference entropy f11, `HX`, `HY`) are `≥ 0`;
**Gibbs' inequality** `f9 = HXY ≤ HXY1`, so the numerator `f9 − HXY1` of the information measure f12 is `≤ 0`;
`HXY1 = HXY2 = HX + HY` exactly (the marginals of `p` are exact); hence the argument of f13,
`1 − exp(−2 (HXY2 − f9))`, lies in `[0, 1)` and the clamp `max(0, ·)` of the code never acts in exact arithmetic.
(Nothing relates `Float.log2`/`Float.exp` to the real functions: the Float values are compared with the real `haralick`
at 1e-9.) -/
theorem C19_haralick_entropies :
    (∀ (m : ℕ) (c : List ℕ),
      let P := matAt 0.0 m (normMat Float.ofNat c)
      let h := haralick13 m c
      h.getD 7 0.0 = entropyG 0.0 Float.log2 (pplusG 0.0 m P) ∧
      h.getD 8 0.0 = entropyG 0.0 Float.log2 (normMat Float.ofNat c).toList ∧
      h.getD 10 0.0 = entropyG 0.0 Float.log2 (pminusG 0.0 m P) ∧
      h.getD 15 0.0 = entropyG 0.0 Float.log2 (colSumG 0.0 m P) ∧
      h.getD 16 0.0 = entropyG 0.0 Float.log2 (rowSumG 0.0 m P)) ∧
    (∀ (m : ℕ) (c : List ℕ), c.length = m * m → c.sum ≠ 0 →
      let P := matAt (0 : ℝ) m (normMat Nat.cast c)
      let px := colSumG 0 m P
      let py := rowSumG 0 m P
      let f9 := entropyG 0 log2R (normMat (Nat.cast : ℕ → ℝ) c).toList
      let hx := entropyG 0 log2R px
      let hy := entropyG 0 log2R py
      let hxy1 := hxy1G 0 log2R m P px py
      let hxy2 := hxy2G 0 log2R m P px py
      (0 ≤ entropyG 0 log2R (pplusG 0 m P) ∧ 0 ≤ f9 ∧ 0 ≤ entropyG 0 log2R (pminusG 0 m P) ∧ 0 ≤ hx ∧ 0 ≤ hy) ∧
      f9 ≤ hxy1 ∧ f9 - hxy1 ≤ 0 ∧
      hxy1 = hx + hy ∧ hxy2 = hx + hy ∧
      (0 ≤ 1 - Real.exp (-2 * (hxy2 - f9)) ∧ 1 - Real.exp (-2 * (hxy2 - f9)) < 1)) := by
  refine ⟨fun m c => ⟨rfl, rfl, rfl, rfl, rfl⟩, ?_⟩
  intro m c hlen hT P px py f9 hx hy hxy1 hxy2
  have h0 : ∀ i j, 0 ≤ P i j := fun i j => matAt_nonneg m c i j
  have h1 : ∑ i ∈ Finset.range m, ∑ j ∈ Finset.range m, P i j = 1 := matAt_total m c hlen hT
  have hg : f9 ≤ hxy1 := entropy_le_hxy1 m c hlen hT
  obtain ⟨e1, e2⟩ := hxy_eq_hx_add_hy m P h0 h1
  have hg2 : f9 ≤ hxy2 := by
    show f9 ≤ hxy2G 0 log2R m P px py
    rw [e2, ← e1]; exact hg
  exact ⟨entropies_nonneg m c hlen hT, hg, by linarith, e1, e2, f13_arg_bounds hxy2 f9 hg2⟩

/-- **C19-T4 (integral image, any additive commutative group — in particular wrap-around integers).** The same
statement as `C19_integral_prefix` for the generic model `integral` (the C++ template `integral<T>`) over **every**
`[AddCommGroup α]`: the in-place recurrence is the two-dimensional prefix sum at every pixel and keeps the shape.
At `α = ZMod (2^bits)` this is the arithmetic of the integer dtypes (unsigned, and signed with `-fno-strict-overflow`):
the recurrence evaluated *with* wrap-around equals the prefix sum taken modulo `2^bits` — what the check compares the
real output with (`wrapTo` of the exact sum). -/
theorem C19_integral_prefix_any_group {α : Type} [AddCommGroup α] (w : Nat) (rows : List (List α))
    (hw : ∀ r ∈ rows, r.length = w) :
    (integral w rows).length = rows.length ∧ (∀ r ∈ integral w rows, r.length = w) ∧
    ∀ i j, i < rows.length → j < w → ((integral w rows).getD i []).getD j 0 = prefix2 rows i j :=
  ⟨integral_length w rows, integral_row_length w rows hw,
   fun i j hi hj => integral_eq_prefix2 w rows hw i j hi hj⟩

/-- **C19-T5 (moments, any commutative ring).** `C19_moments_def` for the generic model over every commutative ring,
every embedding `cast` of the indices and every centre — e.g. `ℚ` or `ℝ` with the (non-integer) centre of mass. -/
theorem C19_moments_def_any_ring {R : Type} [CommRing R] (cast : Nat → R) (rows : List (List R)) (p0 p1 : Nat)
    (c0 c1 : R) : moments cast rows p0 p1 c0 c1 = momentsSpec cast rows p0 p1 c0 c1 :=
  moments_eq_spec cast rows p0 p1 c0 c1

/-- **C19-T4 (integral image in the dtype's own arithmetic).** `integralMachine bits signed` is the C++ template
`integral<T>` for an integer `T` of `bits ≥ 1` bits run on machine integers (`MInt`: **every** `+` and `-` of the in-place
recurrence is reduced into the dtype's range — unsigned modulo `2^bits`, signed two's complement). For every rectangular
image of integers (each first converted to the dtype, as `astype` does): the shape is kept, every entry is the **exact**
two-dimensional prefix sum `Σ_{a≤i} Σ_{b≤j} f[a][b]` (taken in `ℤ`) reduced once into the range — intermediate overflows
leave no trace — and the entries lie in `[0, 2^bits)` resp. `[-2^(bits-1), 2^(bits-1))`. This is what the driver prints as
`machine=` and the check compares the real `surf.integral(f, dtype=<integer dtype>)` with. -/
theorem C19_integral_machine_arithmetic (bits : Nat) (signed : Bool) (hb : 0 < bits) (w : Nat)
    (rows : List (List Int)) (hw : ∀ r ∈ rows, r.length = w) :
    integralMachine bits signed w rows = (integral w rows).map (fun r => r.map (wrapTo bits signed)) ∧
    (integralMachine bits signed w rows).length = rows.length ∧
    (∀ i j, i < rows.length → j < w →
      ((integralMachine bits signed w rows).getD i []).getD j 0 = wrapTo bits signed (prefix2 rows i j)) ∧
    (∀ x : Int, 0 ≤ wrapTo bits false x ∧ wrapTo bits false x < 2 ^ bits) ∧
    (∀ x : Int, -(2 ^ (bits - 1)) ≤ wrapTo bits true x ∧ wrapTo bits true x < 2 ^ (bits - 1)) ∧
    (∀ x y : Int, x % 2 ^ bits = y % 2 ^ bits → wrapTo bits signed x = wrapTo bits signed y) ∧
    (∀ x : Int, wrapTo bits signed x % 2 ^ bits = x % 2 ^ bits) := by
  refine ⟨Machine.integralMachine_eq bits signed hb w rows, ?_,
    fun i j hi hj => Machine.integralMachine_getD bits signed hb w rows hw i j hi hj,
    Machine.wrapTo_range_unsigned bits, Machine.wrapTo_range_signed bits hb,
    fun x y h => Machine.wrapTo_congr bits signed h, Machine.wrapTo_emod bits signed⟩
  rw [Machine.integralMachine_eq bits signed hb, List.length_map]
  exact integral_length w rows

/-- `uint8`: 200 + 100 + 100 + 200 = 600 ↦ 88, through the intermediate 300 ↦ 44; `int8`: 100 + 100 ↦ −56 -/
example : integralMachine 8 false 2 [[200, 100], [100, 200]] = [[200, 44], [44, 88]] ∧
    integralMachine 8 true 2 [[100, 100], [-128, -1]] = [[100, -56], [-28, 71]] ∧
    wrapTo 8 false 600 = 88 := by decide

/-- **C19-T5 (moments: `normalize=True`, `cm=None`).** `momentsFull` transliterates `moments.py` with its options: the two
weight vectors `p = (arange(n) − c)**pw` (nothing subtracted for `cm=None`), each divided by its sum when `normalize`, then
`np.dot(np.dot(img, p_cols), p_rows)`. Over every field, every `R×C` image and every centre: (i) without `normalize` it is
the model `moments`, hence the defining double sum `momentsSpec`; (ii) `cm=None` is `cm=(0,0)`; (iii) with
`normalize` the result is the plain moment divided by `(Σ_j (j−c1)^p1)·(Σ_i (i−c0)^p0)` — "normalised to the size of the
image": for `p0 = p1 = 0` the divisor is `C·R` — with the convention `x/0 = 0` of fields where numpy gives `inf`/`nan`. -/
theorem C19_moments_options {α : Type} [Field α] (cast : Nat → α) (R C : Nat) (rows : List (List α)) (p0 p1 : Nat)
    (c0 c1 : α) (hR : rows.length = R) (hC : ∀ r ∈ rows, r.length = C) :
    momentsFull cast R C rows p0 p1 (some (c0, c1)) false = momentsSpec cast rows p0 p1 c0 c1 ∧
    (∀ nz, momentsFull cast R C rows p0 p1 none nz = momentsFull cast R C rows p0 p1 (some (0, 0)) nz) ∧
    momentsFull cast R C rows p0 p1 (some (c0, c1)) true =
      momentsSpec cast rows p0 p1 c0 c1 /
        (gsum 0 (Machine.rawWeights cast C p1 c1) * gsum 0 (Machine.rawWeights cast R p0 c0)) := by
  have h1 := Machine.momentsFull_eq_moments cast R C rows p0 p1 c0 c1 hR hC
  rw [moments_eq_spec] at h1
  refine ⟨h1, fun nz => Machine.momentsFull_none cast R C rows p0 p1 nz, ?_⟩
  rw [Machine.momentsFull_normalize, h1]

/-- `[[1,2],[3,4]]`, powers (1,1), centre (0,0): plain 4; normalised 4/((0+1)(0+1)) = 4; powers (0,0): mean 10/4;
    powers (2,0) about (1/2, 0): 5/2 divided by (1/4+1/4)·2 = 1 -/
example : momentsFull (fun n => (n : Rat)) 2 2 [[1, 2], [3, 4]] 1 1 none true = 4 ∧
    momentsFull (fun n => (n : Rat)) 2 2 [[1, 2], [3, 4]] 0 0 none true = 5 / 2 ∧
    momentsFull (fun n => (n : Rat)) 2 2 [[1, 2], [3, 4]] 2 0 (some (1 / 2, 0)) true = 5 / 2 ∧
    momentsFull (fun n => (n : Rat)) 2 2 [[1, 2], [3, 4]] 2 0 (some (1 / 2, 0)) false = 5 / 2 := by decide +kernel

/-- **C19-T5 (central moments are translation invariant).** Over every commutative ring, for the model of `moments`
(= the defining sum, `C19_moments_def_any_ring`): putting a row of zeros on top of the image and moving the centre down by
one, or a column of zeros to its left and moving the centre right by one, leaves every moment `(p0, p1)` unchanged — so
moments about the centre of mass do not depend on where the object sits in the frame (iterate for any integer shift). -/
theorem C19_moments_translation {R : Type} [CommRing R] (rows : List (List R)) (n p0 p1 : Nat) (c0 c1 : R) :
    momentsSpec (Nat.cast : Nat → R) (List.replicate n 0 :: rows) p0 p1 (c0 + 1) c1 =
      momentsSpec Nat.cast rows p0 p1 c0 c1 ∧
    momentsSpec (Nat.cast : Nat → R) (rows.map fun r => (0 : R) :: r) p0 p1 c0 (c1 + 1) =
      momentsSpec Nat.cast rows p0 p1 c0 c1 := by
  rw [← moments_eq_spec, ← moments_eq_spec, ← moments_eq_spec]
  exact ⟨Machine.moments_shift_rows rows n p0 p1 c0 c1, Machine.moments_shift_cols rows p0 p1 c0 c1⟩

example : momentsSpec (Nat.cast : Nat → Int) [[0, 0], [1, 2], [3, 4]] 2 1 (1 + 1) 0 = 2 ∧
    momentsSpec (Nat.cast : Nat → Int) [[1, 2], [3, 4]] 2 1 1 0 = 2 ∧
    momentsSpec (Nat.cast : Nat → Int) [[0, 1, 2], [0, 3, 4]] 2 1 1 (0 + 1) = 2 := by decide

/-- **C19-T6 (Zernike radial polynomial = textbook formula).** Over every field: `fact(n)` of `_zernike.cpp` (the extracted
table below 13, the recursion `n·fact(n−1)` beyond) is `n!` for **every** `n`; the coefficient `g_m[m]` that `znl` tabulates
is the textbook coefficient `(−1)^m (n−m)! / (m! ((n+l)/2 − m)! ((n−l)/2 − m)!)` of `ρ^(n−2m)` for every `m ≤ (n−l)/2`; the
inner loop of `znl` at one pixel is `R_n^l(d)·a` with `zRadial n l d = Σ_{m ≤ (n−l)/2} g_m · pow(d, n−2m)` (any `pow`);
in characteristic 0, `R_n^n(d) = pow(d, n)`. -/
theorem C19_zernike_radial_textbook {α : Type} [Field α] :
    (∀ n : Nat, zfact (Nat.cast : Nat → α) n = ((n.factorial : Nat) : α)) ∧
    (∀ n l m : Nat, 2 * m + l ≤ n →
      zcoef (1 : α) Nat.cast n l m =
        (-1) ^ m * ((n - m).factorial : α) /
          ((m.factorial : α) * (((n + l) / 2 - m).factorial : α) * (((n - l) / 2 - m).factorial : α))) ∧
    (∀ (pow : α → Nat → α) (n l : Nat) (d : α) (a : α × α),
      zVnl 0 1 Nat.cast pow n l d a = cxScale (zRadial 0 1 Nat.cast pow n l d) a) ∧
    (∀ (pow : α → Nat → α) (n l : Nat) (d : α),
      zRadial 0 1 Nat.cast pow n l d =
        ((List.range ((n - l) / 2 + 1)).map fun m => zcoef 1 Nat.cast n l m * pow d (n - 2 * m)).sum) ∧
    (CharZero α → ∀ (pow : α → Nat → α) (n : Nat) (d : α), zRadial 0 1 Nat.cast pow n n d = pow d n) :=
  ⟨Machine.zfact_eq_factorial, Machine.zcoef_textbook, zVnl_eq Nat.cast, zRadial_eq_sum Nat.cast,
   fun _ pow n d => Machine.zRadial_diag pow n d⟩

/-- **C19-T6 (radial polynomials at the rim).** For every degree the factorial table covers (`n ≤ 12`, every admissible `l`):
`R_n^l(1) = 1` over ℚ — the normalisation of the Zernike basis (`decide +kernel` on the model's `zRadial`). -/
theorem C19_zernike_radial_at_one : ∀ n ∈ List.range 13, ∀ l ∈ List.range (n + 1), (n - l) % 2 = 0 →
    zRadial (0 : Rat) 1 Nat.cast (fun d k => d ^ k) n l 1 = 1 := by decide +kernel

/-- `R_4^2(ρ) = 4ρ⁴ − 3ρ²` at `ρ = 1/2`; `13! = 6227020800` comes from the recursion, not from the table -/
example : zRadial (0 : Rat) 1 Nat.cast (fun d k => d ^ k) 4 2 (1 / 2) = 4 * (1 / 2) ^ 4 - 3 * (1 / 2) ^ 2 ∧
    zfact (Nat.cast : Nat → Rat) 13 = 6227020800 ∧ zcoef (1 : Rat) Nat.cast 4 2 1 = -3 := by decide +kernel

example : coocCount [2, 3] (fun p => ([0, 1, 1, 1, 0, 1].getD (ravelI [2, 3] p) 0)) [0, 1] 1 1 = 1 ∧
    coocSym [2, 3] (fun p => ([0, 1, 1, 1, 0, 1].getD (ravelI [2, 3] p) 0)) [0, 1] 0 1 = 3 := by decide
example : lbpMap 4 0b0110 = 0b0011 ∧ lbpMap 4 0b1100 = 0b0011 ∧ (1 : Nat) ≤ 4 ∧ 0b0110 < 2 ^ 4 := by decide
example : lbpCompress 3 ([1, 2, 4, 7, 5].map (lbpMap 3)) = [0, 3, 1, 1] := by decide
example : integral 3 [[1, 2, 3], [4, 5, 6]] = [[1, 3, 6], [5, 12, 21]] := by decide
example : moments (fun n => (n : Int)) [[1, 2], [3, 4]] 1 1 0 0 = 4 := by decide
example : zernikeFrac (0 : Rat) [true, false, true, true] [2, 5, 0, 6] = [1 / 4, 3 / 4] ∧
    zernikeFrac (0 : Rat) [true, false, true, true] [20, 50, 0, 60] = [1 / 4, 3 / 4] := by decide +kernel
example : (normMat (Nat.cast : Nat → Rat) [1, 2, 2, 3]).toList = [1 / 8, 1 / 4, 1 / 4, 3 / 8] ∧
    pplusG (0 : Rat) 2 (matAt 0 2 (normMat (Nat.cast : Nat → Rat) [1, 2, 2, 3])) = [1 / 8, 1 / 2, 3 / 8, 0] ∧
    pminusG (0 : Rat) 2 (matAt 0 2 (normMat (Nat.cast : Nat → Rat) [1, 2, 2, 3])) = [1 / 2, 1 / 2] := by
  decide +kernel
/-- a 2×3 image, centre (1/2, 1), radius 2 (with `sqrt := id`, a legitimate instance of the arbitrary function):
    `z_11 = −1/8 − i/24`, and the rotated image gives `i · z_11 = 1/24 − i/8` -/
example :
    let im : Nat → Nat → Rat := fun y x => ([1, 2, 0, 3, 1, 1] : List Rat).getD (y * 3 + x) 0
    zernikeZ (0 : Rat) 1 Nat.cast (fun x => x) (fun d k => d ^ k) (1 / 1000000000) 3 2 3 im (1 / 2) 1 2 1 1
      = (-1 / 8, -1 / 24) ∧
    zernikeZ (0 : Rat) 1 Nat.cast (fun x => x) (fun d k => d ^ k) (1 / 1000000000) 3 3 2
      (fun i j => im j (3 - 1 - i)) (3 - 1 - 1) (1 / 2) 2 1 1 = (1 / 24, -1 / 8) := by
  decide +kernel
example : pivots 4 = [0, 1, 3, 5, 7, 15] ∧ (pivots 8).length = 36 ∧ RotEq 4 0b0110 0b0011 := by
  refine ⟨by decide +kernel, by decide +kernel, ⟨1, by decide⟩⟩
/-- the count matrix `[[1,2],[2,3]]`: contrast 1/2, sum average 5/4, IDM 3/4, variances 15/64, covariance −1/64 -/
example :
    let P := matAt (0 : Rat) 2 (normMat (Nat.cast : Nat → Rat) [1, 2, 2, 3])
    contrastG 0 Nat.cast 2 (pminusG 0 2 P) = 1 / 2 ∧ sumAvgG 0 Nat.cast 2 (pplusG 0 2 P) = 5 / 4 ∧
    idmG 0 1 Nat.cast 2 P = 3 / 4 ∧ varG 0 Nat.cast (colSumG 0 2 P) 2 = 15 / 64 ∧
    covG 0 Nat.cast 2 P (meanG 0 Nat.cast (colSumG 0 2 P) 2) (meanG 0 Nat.cast (rowSumG 0 2 P) 2) = -1 / 64 := by
  decide +kernel
/-- a 2×3 image with levels 0..2, direction (0,1): reversed data and swapped axes give the same symmetric matrix -/
example :
    let im : Img Int := { shape := [2, 3], data := #[0, 1, 2, 2, 1, 1] }
    symFold 3 (coocModel 3 { shape := [2, 3], data := im.data.reverse } [0, 1]) = #[0, 1, 0, 1, 2, 2, 0, 2, 0] ∧
    symFold 3 (coocModel 3 im [0, 1]) = #[0, 1, 0, 1, 2, 2, 0, 2, 0] ∧
    (swapImg im).data = #[0, 2, 1, 1, 2, 1] ∧
    symFold 3 (coocModel 3 (swapImg im) [1, 0]) = #[0, 1, 0, 1, 2, 2, 0, 2, 0] := by
  decide +kernel
example :
    let im : Nat → Nat → Rat := fun y x => ([1, 2, 0, 3, 1, 1] : List Rat).getD (y * 3 + x) 0
    zernikeZ (0 : Rat) 1 Nat.cast (fun x => x) (fun d k => d ^ k) (1 / 1000000000) 3 2 3 (fun y x => 7 * im y x)
      (1 / 2) 1 2 1 1 = (-1 / 8, -1 / 24) ∧
    zernikeZ (0 : Rat) 1 Nat.cast (fun x => x) (fun d k => d ^ k) (1 / 1000000000) 3 2 3
      (fun i j => im (2 - 1 - i) (3 - 1 - j)) (2 - 1 - 1 / 2) (3 - 1 - 1) 2 1 1 = (1 / 8, 1 / 24) := by
  decide +kernel
/-- the entropy hypotheses are satisfiable (count matrix `[[1,2],[2,3]]`), and a fair coin has one bit -/
example : 0 ≤ entropyG 0 log2R (normMat (Nat.cast : ℕ → ℝ) [1, 2, 2, 3]).toList :=
  (C19_haralick_entropies.2 2 [1, 2, 2, 3] rfl (by decide)).1.2.1
example : entropyG 0 log2R [1 / 2, 1 / 2] = 1 := by
  rw [entropyG_eq]
  have h : Real.logb 2 (1 / 2) = -1 := by
    rw [one_div, Real.logb_inv, Real.logb_self_eq_one (by norm_num)]
  simp only [List.map_cons, List.map_nil, List.sum_cons, List.sum_nil, xlog, log2R, h]
  norm_num
/-- `uint8` arithmetic: 200 + 100 wraps to 44 -/
example : integral 2 ([[200, 100], [100, 200]] : List (List (ZMod 256))) = [[200, 44], [44, 88]] := by decide
example : moments (fun n => (n : Rat)) [[1, 2], [3, 4]] 2 0 (1 / 2) 0 = 5 / 2 := by decide +kernel

/-- **TAS, model = counting definition.** For every image shape of rank 2 (rank 3) and every binarisation `b`, the
integer part of `tas.py: _ctas` — `np.histogram(convolve(b.astype(uint8), M), bins)[0][:saved]` with the kernel of
ones whose centre is 10 (28), border mode `reflect`, `bins = arange(11)` (`arange(28)`, last bin closed),
`saved = 9` (`27`) — is, bin by bin, the number of pixels that are **not** selected by `b` and have exactly `k` selected
pixels among their 8 (26) neighbours (`k = 0 … 8`, `0 … 26`; a neighbour outside the image is the reflected pixel).
At every pixel the convolution value is `centre·[b p] + #selected neighbours`. -/
theorem C19_tas_counts (s : List Nat) (b : List Int → Bool) :
    (s.length = 2 → C19Tas.ctasCounts s b = (List.range 9).map (C19Tas.tasCount s b)) ∧
    (s.length = 3 → C19Tas.ctasCounts s b = (List.range 27).map (C19Tas.tasCount s b)) ∧
    (∀ w0 p, p ∈ C19Tas.boxPos s →
      C19Tas.convAt s w0 b p = w0 * C19Tas.bit (b p) + C19Tas.nbCount s b p) :=
  ⟨fun h => by rw [C19Tas.ctasCounts_eq s (.inl h) b, h, C19Tas.nNb_two],
   fun h => by rw [C19Tas.ctasCounts_eq s (.inr h) b, h, C19Tas.nNb_three],
   fun w0 p hp => C19Tas.convAt_eq s w0 b p hp⟩

/-- **TAS, the kept bins partition the unselected pixels**: the 9 (27) counts of `_ctas` add up to the number of pixels
not selected by `b` (`values.sum()`, the normalisation constant of `_ctas`). -/
theorem C19_tas_total (s : List Nat) (b : List Int → Bool) (h : s.length = 2 ∨ s.length = 3) :
    (C19Tas.ctasCounts s b).sum = C19Tas.offCount s b := by
  rw [C19Tas.ctasCounts_eq s h b]
  exact C19Tas.tasCount_sum s b

/-- **TAS, normalisation** (`values / float(s)` when `s > 0`): over any ordered field every entry of `_ctas` lies in
`[0, 1]`; the entries sum to 1 when some pixel is not selected; when every pixel is selected all entries are 0. The
model's `ctas` is this definition at the scalar type (the driver runs it at `Float`). -/
theorem C19_tas_normalised {α : Type} [Field α] [LinearOrder α] [IsStrictOrderedRing α]
    (s : List Nat) (b : List Int → Bool) (h : s.length = 2 ∨ s.length = 3) :
    (∀ x ∈ C19Tas.ctas (Nat.cast : Nat → α) s b, 0 ≤ x ∧ x ≤ 1) ∧
    (0 < C19Tas.offCount s b → (C19Tas.ctas (Nat.cast : Nat → α) s b).sum = 1) ∧
    (C19Tas.offCount s b = 0 → ∀ x ∈ C19Tas.ctas (Nat.cast : Nat → α) s b, x = 0) := by
  have ht := C19_tas_total s b h
  refine ⟨fun x hx => C19Tas.normalise_mem _ x hx, fun hpos => ?_, fun hz x hx => ?_⟩
  · exact C19Tas.normalise_sum _ (by rw [ht]; exact hpos)
  · exact C19Tas.normalise_zero _ (by rw [ht]; exact hz) x hx

/-- **TAS, the complement half is Hamilton's statistic.** `_tas` also evaluates `_ctas` on `~b`. Bin `k` of that half
is the number of pixels **selected** by `b` that have exactly `N − k` selected neighbours (`N = 8`, `26`): the
threshold adjacency statistic of Hamilton et al. with the bin order reversed. (The half computed on `b` itself counts
the unselected pixels by selected neighbours — theorem `C19_tas_counts`.) -/
theorem C19_tas_complement (s : List Nat) (b : List Int → Bool) :
    (s.length = 2 → C19Tas.ctasCounts s (fun p => !b p)
        = (List.range 9).map fun k => C19Tas.hamiltonCount s b (8 - k)) ∧
    (s.length = 3 → C19Tas.ctasCounts s (fun p => !b p)
        = (List.range 27).map fun k => C19Tas.hamiltonCount s b (26 - k)) :=
  ⟨fun h => by rw [C19Tas.ctasCounts_not s (.inl h) b, h, C19Tas.nNb_two],
   fun h => by rw [C19Tas.ctasCounts_not s (.inr h) b, h, C19Tas.nNb_three]⟩

/-- a 2×3 image with one selected pixel in a corner: the corner sees itself three times through the reflecting border -/
example :
    let b : List Int → Bool := fun p => p == [0, 0]
    C19Tas.ctasCounts [2, 3] b = [2, 1, 2, 0, 0, 0, 0, 0, 0] ∧
    C19Tas.ctasCounts [2, 3] (fun p => !b p) = [0, 0, 0, 0, 0, 1, 0, 0, 0] ∧
    C19Tas.hamiltonCount [2, 3] b 3 = 1 ∧ C19Tas.offCount [2, 3] b = 5 ∧
    C19Tas.ctas (Nat.cast : Nat → Rat) [2, 3] b = [2 / 5, 1 / 5, 2 / 5, 0, 0, 0, 0, 0, 0] := by
  decide +kernel
example : (C19Tas.ctasCounts [2, 2, 2] (fun p => p == [0, 0, 0])).sum = 7 := by decide +kernel

/-- **haralick options `ignore_zeros`, `distance`, 3-D directions on the count matrix.** For every image (rank 2 or 3
or any other) with values in `[0, m)`, every direction index `dir`, every `distance` and all levels `a, b < m`: the matrix
the driver normalises for `haralick(f, ignore_zeros=True, distance=dist)` — `stripZeros` (`cmat[0] = 0; cmat[:,0] = 0`)
of the symmetric fold of the `_texture.cpp` scan with the offset `direction nd dir dist` — has entry `(a, b)` equal to
0 when `a = 0` or `b = 0`, and otherwise to the number of ordered pixel pairs `(p, p ± dist·δ_dir)` inside the image
with values `(a, b)`: the co-occurrence matrix with row and column 0 removed, of the direction vector scaled by the
distance (`δ_dir` = row `dir` of the extracted `_2d_deltas` / `_3d_deltas`, 4 / 13 rows). -/
theorem C19_haralick_ignore_zeros_distance (m : Nat) (im : Img Int) (dir : Nat) (dist : Int)
    (hv : ∀ p, 0 ≤ im.getD p 0 ∧ im.getD p 0 < (m : Int)) (a b : Nat) (ha : a < m) (hb : b < m) :
    direction im.shape.length dir dist
      = ((if im.shape.length == 2 then deltas2d else deltas3d).getD dir []).map (· * dist) ∧
    (stripZeros m (symFold m (coocModel m im (direction im.shape.length dir dist))).toList).getD (a * m + b) 0
      = (if a = 0 ∨ b = 0 then 0
         else coocSym im.shape (fun p => im.getD p 0) (direction im.shape.length dir dist) a b) ∧
    deltas2d.length = 4 ∧ deltas3d.length = 13 := by
  refine ⟨rfl, ?_, by decide, by decide⟩
  rw [stripZeros_getD m _ a b ha hb]
  split
  · rfl
  · rw [← (C19_cooc_counts m im _ hv).2.2 a b ha hb |>.2, Array.getD_eq_getD_getElem?, List.getD_eq_getElem?_getD,
      Array.getElem?_toList]

/-- **haralick, 14th feature: Haralick's matrix `Q`.** Over any ordered field, for every `m × m` count matrix with a
non-zero total and `p = c/Σc`: the model's `Q(i,j) = Σ_k p(i,k) p(j,k) / (p_x(i) p_y(k))` (terms of empty rows/columns
dropped; the driver evaluates the same definition at `Float`) has non-negative entries; every row `i` whose marginal
`p_x(i)` is not zero sums to 1 — `Q·1 = 1` on the occupied levels, so 1 is an eigenvalue of `Q` (of a non-negative
row-stochastic matrix: the largest one, which is why feature 14 takes the *second* largest); and `Q` is reversible with
respect to the row marginal, `p_x(i)·Q(i,j) = p_x(j)·Q(j,i)`, i.e. `Q` is similar to the symmetric matrix whose
eigenvalues `texture.py` computes, so its eigenvalues are real. (No eigenvalue algorithm is modelled: the square root of
the second largest eigenvalue of the model's `Q` is taken numerically by the harness and compared with the real output.) -/
theorem C19_haralick_Q {α : Type} [Field α] [LinearOrder α] [IsStrictOrderedRing α]
    (m : Nat) (c : List Nat) (hlen : c.length = m * m) (hT : c.sum ≠ 0) :
    let P := matAt (0 : α) m (normMat (Nat.cast : Nat → α) c)
    (∀ i < m, ∀ j < m, 0 ≤ qMatG (0 : α) m P i j) ∧
    (∀ i < m, (∑ l ∈ Finset.range m, P i l) ≠ 0 → ∑ j ∈ Finset.range m, qMatG (0 : α) m P i j = 1) ∧
    (∀ i < m, ∀ j < m, (∑ l ∈ Finset.range m, P i l) * qMatG (0 : α) m P i j
        = (∑ l ∈ Finset.range m, P j l) * qMatG (0 : α) m P j i) ∧
    (∀ i < m, (rowSumG (0 : α) m P).getD i 0 = ∑ l ∈ Finset.range m, P i l) := by
  intro P
  have hP : ∀ i < m, ∀ j < m, 0 ≤ P i j := fun i _ j _ => normMat_nonneg c _
  have _ := hlen; have _ := hT
  exact ⟨fun i hi j hj => qMat_nonneg m P hP i j hi hj, fun i hi hr => qMat_row_sum m P hP i hi hr,
    fun i hi j hj => qMat_reversible m P hP i j hi hj, fun i hi => rowSum_getD m P i hi⟩

/-- the count matrix `[[1,2],[2,3]]`: `Q = [[17/45, 28/45], [28/75, 47/75]]` (rows sum to 1, `3·(28/45) = 5·(28/75)`);
    a matrix with an empty level keeps a zero row -/
example :
    let P := matAt (0 : Rat) 2 (normMat (Nat.cast : Nat → Rat) [1, 2, 2, 3])
    (allPairs 2).map (fun ij => qMatG (0 : Rat) 2 P ij.1 ij.2) = [17 / 45, 28 / 45, 28 / 75, 47 / 75] := by
  decide +kernel
example :
    let P := matAt (0 : Rat) 2 (normMat (Nat.cast : Nat → Rat) [0, 0, 0, 3])
    (allPairs 2).map (fun ij => qMatG (0 : Rat) 2 P ij.1 ij.2) = [0, 0, 0, 1] := by
  decide +kernel
example : stripZeros 2 [5, 1, 1, 3] = [0, 0, 0, 3] ∧ direction 2 3 2 = [2, -2] ∧ direction 3 12 3 = [3, -3, -3] := by
  decide +kernel

/-- **LBP sampling (`lbp_transform`).** Over any ordered field with a floor function, for every 2-D image, radius, list
of `(sin, cos)` pairs (any number `P` of points) and every pixel `p` of the image, with the model of C18 for
`interpolate.shift(image, [radius·dy, radius·dx], order=1)` (mode `constant`, `cval = 0`):
(1) the raw code `Σ_i [sample_i(p) > image(p)]·2^i` is a `P`-bit number;
(2) its bit `i` is set exactly when the `i`-th shifted image is brighter at `p` than the centre pixel, the shifted image
    being the order-1 `zoom_shift` pixel of C18 at the coordinate `p − radius·(dy_i, dx_i)`;
(3) wherever that coordinate lies inside the image the sample is the bilinear interpolation of the four surrounding
    pixels (`C18.multilinear`, theorem `C18_fractional_order1_is_linear_nd`);
(4) turning the sampling pattern by one angular step (first sample moved to the end) rotates the raw code
    (`roll_right`), hence the code `_lbp.map` returns — the one `lbp_transform` outputs and `lbp` counts — is unchanged. -/
theorem C19_lbp_sampling {K : Type} [Field K] [LinearOrder K] [IsStrictOrderedRing K]
    {fl : K → Int} (h : C18.IsFloor fl) (im : Img K) (r : K) (dydx : List (K × K)) (p : List Int)
    (hp : inside im.shape p = true) (hs : im.shape.length = 2) :
    let bits := C19Lbp.bitsAt im (dydx.map (C19Lbp.sample fl im r)) p
    C19Lbp.codeOfBits bits < 2 ^ dydx.length ∧
    (∀ i (hi : i < dydx.length), (C19Lbp.codeOfBits bits).testBit i
        = decide (im.getD p 0 < C18.pixel fl 1 .constant 0 im
            [some (-(r * dydx[i].1)), some (-(r * dydx[i].2))] [none, none] p)) ∧
    (∀ d : K × K,
      C18.InRange im.shape (List.zipWith (fun (kk : Int) (s : K) => (kk : K) - s) p [r * d.1, r * d.2]) →
      C18.pixel fl 1 .constant 0 im [some (-(r * d.1)), some (-(r * d.2))] [none, none] p
        = C18.multilinear fl (fun pos => im.getD pos 0) im.shape
            (List.zipWith (fun (kk : Int) (s : K) => (kk : K) - s) p [r * d.1, r * d.2])) ∧
    (∀ b rest, bits = b :: rest →
      lbpMap dydx.length (C19Lbp.codeOfBits (rest ++ [b])) = lbpMap dydx.length (C19Lbp.codeOfBits bits)) := by
  intro bits
  have hlen : bits.length = dydx.length := by simp [bits, C19Lbp.bitsAt]
  refine ⟨by rw [← hlen]; exact C19Lbp.codeOfBits_lt bits, ?_, ?_, ?_⟩
  · intro i hi
    rw [C19Lbp.testBit_codeOfBits, C19Lbp.bitsAt_getD im _ p i (by simpa using hi)]
    rw [List.getD_eq_getElem?_getD, List.getElem?_map, List.getElem?_eq_getElem hi]
    simp only [Option.map_some, Option.getD_some, C19Lbp.sample_getD fl im r _ p hp]
  · intro d hr
    have hpl : p.length = 2 := by rw [C01.inside_length hp, hs]
    exact C19Lbp.pixel_shift_multilinear h im [r * d.1, r * d.2] p (C01.inside_nonneg _ _ hp) (by rw [hs, hpl])
      (by rw [hpl]; rfl) hr
  · intro b rest hb
    have hl : dydx.length = rest.length + 1 := by rw [← hlen, hb]; rfl
    rw [hb, hl]
    exact C19Lbp.lbpMap_rotate b rest

/-- a 3×3 ramp, radius 1, the four axis directions with exact sines/cosines: the centre pixel sees its four neighbours
    (`image[p − (dy, dx)]`, 0 outside the image), the brighter ones set their bit; rotating the pattern keeps the mapped code -/
example :
    let im : Img Rat := { shape := [3, 3], data := #[1, 2, 3, 4, 5, 6, 7, 8, 9] }
    let dydx : List (Rat × Rat) := [(0, 1), (1, 0), (0, -1), (-1, 0)]
    C19Lbp.rawCodes (fun x => x.floor) im 1 dydx false = [12, 12, 8, 12, 12, 8, 4, 4, 0] ∧
    C19Lbp.rawCodes (fun x => x.floor) im (1 / 2) dydx false = [12, 12, 8, 12, 12, 8, 4, 4, 0] ∧
    (C19Lbp.rawCodes (fun x => x.floor) im 1 dydx false).map (lbpMap 4) = [3, 3, 1, 3, 3, 1, 1, 1, 0] := by
  decide +kernel

/-- **haralick `return_mean` / `return_mean_ptp`.** Over any ordered field, for every non-empty feature matrix (one row
per direction, all rows of width `w`) and every column `j < w`: the model of `features.mean(axis=0)` (rows added in
order, one division by the number of rows; the driver runs it at `Float` on the real feature matrix and must reproduce
the real output bit for bit) is the arithmetic mean of the column; the model of `np.ptp(features, axis=0)` is
`hi − lo` for two entries `hi`, `lo` of the column that bound every entry; hence `lo ≤ mean ≤ hi`, `ptp ≥ 0`, and
`ptp = 0` exactly when the feature takes the same value in every direction (then that value is the mean). -/
theorem C19_haralick_mean_ptp {α : Type} [Field α] [LinearOrder α] [IsStrictOrderedRing α]
    (w : Nat) (r0 : List α) (rest : List (List α)) (h0 : r0.length = w) (hr : ∀ r ∈ rest, r.length = w)
    (j : Nat) (hj : j < w) :
    let rows := r0 :: rest
    let col := rows.map (·.getD j 0)
    let mean := (colMeanG (Nat.cast : Nat → α) rows).getD j 0
    let ptp := (colPtpG rows).getD j 0
    mean = col.sum / (rows.length : α) ∧
    ∃ hi ∈ col, ∃ lo ∈ col, (∀ x ∈ col, lo ≤ x ∧ x ≤ hi) ∧ ptp = hi - lo ∧ lo ≤ mean ∧ mean ≤ hi ∧ 0 ≤ ptp ∧
      (ptp = 0 → ∀ x ∈ col, x = mean) := by
  intro rows col mean ptp
  obtain ⟨hsl, hsum⟩ := colFoldG_getD (· + ·) w r0 rest h0 hr j hj (0 : α)
  obtain ⟨hxl, hmax⟩ := colFoldG_getD maxG w r0 rest h0 hr j hj (0 : α)
  obtain ⟨hnl, hmin⟩ := colFoldG_getD minG w r0 rest h0 hr j hj (0 : α)
  obtain ⟨hhi, hle⟩ := foldl_maxG (rest.map (·.getD j 0)) (r0.getD j 0)
  obtain ⟨hlo, hge⟩ := foldl_minG (rest.map (·.getD j 0)) (r0.getD j 0)
  have hmean : mean = col.sum / (col.length : α) := by
    show ((colFoldG (· + ·) rows).map (· / (rows.length : α))).getD j 0 = _
    rw [getD_map_of_lt _ _ j 0 0 (hsl ▸ hj), hsum, foldl_add_sum, ← List.sum_cons, List.length_map]
    rfl
  have hptp : ptp = (rest.map (·.getD j 0)).foldl maxG (r0.getD j 0) - (rest.map (·.getD j 0)).foldl minG (r0.getD j 0) := by
    show (List.zipWith (· - ·) (colFoldG maxG rows) (colFoldG minG rows)).getD j 0 = _
    rw [zipWith_getD _ _ _ j 0 (hxl ▸ hj) (hnl ▸ hj), hmax, hmin]
  have hb : ∀ x ∈ col, _ ≤ x ∧ x ≤ _ := fun x hx => ⟨hge x hx, hle x hx⟩
  obtain ⟨hlm, hmh⟩ := mean_bounds col (Nat.succ_pos _) _ _ hb
  rw [← hmean] at hlm hmh
  refine ⟨by rw [hmean, List.length_map], _, hhi, _, hlo, hb, hptp, hlm, hmh, ?_, fun hz x hx => ?_⟩
  · rw [hptp]; exact sub_nonneg.2 (le_trans hlm hmh)
  · have hhl := sub_eq_zero.1 (hptp ▸ hz)
    rw [hhl] at hb hmh
    exact (le_antisymm (hb x hx).2 (hb x hx).1).trans (le_antisymm hlm hmh)

/-- **haralick marginals.** Over any ordered field, for every `m × m` count matrix with a non-zero total: the marginals
`p_x = p.sum(0)` and `p_y = p.sum(1)` of `haralick13` (`colSumG`, `rowSumG` of the normalised matrix) are probability
vectors — entries in `[0, 1]`, each summing to 1. -/
theorem C19_haralick_marginals {α : Type} [Field α] [LinearOrder α] [IsStrictOrderedRing α]
    (m : Nat) (c : List Nat) (hlen : c.length = m * m) (hT : c.sum ≠ 0) :
    let P := matAt (0 : α) m (normMat (Nat.cast : Nat → α) c)
    ∑ k ∈ Finset.range m, (rowSumG (0 : α) m P).getD k 0 = 1 ∧ ∑ k ∈ Finset.range m, (colSumG (0 : α) m P).getD k 0 = 1 ∧
    (∀ k < m, 0 ≤ (rowSumG (0 : α) m P).getD k 0 ∧ (rowSumG (0 : α) m P).getD k 0 ≤ 1) ∧
    (∀ k < m, 0 ≤ (colSumG (0 : α) m P).getD k 0 ∧ (colSumG (0 : α) m P).getD k 0 ≤ 1) := by
  intro P
  obtain ⟨r1, r2⟩ := fiber_prob m m (fun i _ => i) P (fun i hi _ _ => hi) (fun i j => matAt_nonneg m c i j)
    (matAt_total m c hlen hT)
  obtain ⟨c1, c2⟩ := fiber_prob m m (fun _ j => j) P (fun _ _ j hj => hj) (fun i j => matAt_nonneg m c i j)
    (matAt_total m c hlen hT)
  rw [rowSumG_eq, colSumG_eq]
  refine ⟨r1 ▸ Finset.sum_congr rfl fun k hk => ?_, c1 ▸ Finset.sum_congr rfl fun k hk => ?_, fun k hk => ?_, fun k hk => ?_⟩
  · rw [getD_map_range _ _ _ _ (Finset.mem_range.1 hk)]
  · rw [getD_map_range _ _ _ _ (Finset.mem_range.1 hk)]
  · rw [getD_map_range _ _ _ _ hk]; exact r2 k hk
  · rw [getD_map_range _ _ _ _ hk]; exact c2 k hk

example : colMeanG (Nat.cast : Nat → Rat) [[1, 5], [3, 5], [8, 5]] = [4, 5] ∧
    colPtpG ([[1, 5], [3, 5], [8, 5]] : List (List Rat)) = [7, 0] := by decide +kernel
example :
    let P := matAt (0 : Rat) 2 (normMat (Nat.cast : Nat → Rat) [1, 2, 2, 3])
    rowSumG (0 : Rat) 2 P = [3 / 8, 5 / 8] ∧ colSumG (0 : Rat) 2 P = [3 / 8, 5 / 8] := by decide +kernel

/-- **haralick, 14th feature: `Q` has no negative eigenvalue.** Over any ordered field, for every count matrix,
`p = c/Σc` and every vector `x`: the quadratic form of `Q` weighted by the row marginal is a sum of
squares, `Σ_i Σ_j p_x(i) Q(i,j) x_i x_j = Σ_k (Σ_i p(i,k) x_i)² / p_y(k) ≥ 0` (`k` over the occupied columns). Together
with `C19_haralick_Q` (reversible, row-stochastic, non-negative): every eigenvalue of `Q` is real and `≥ 0`, so the
square root `texture.py` takes of the second largest one is defined (the `max(0, ·)` guard only absorbs rounding). -/
theorem C19_haralick_Q_psd {α : Type} [Field α] [LinearOrder α] [IsStrictOrderedRing α]
    (m : Nat) (c : List Nat) (x : Nat → α) :
    let P := matAt (0 : α) m (normMat (Nat.cast : Nat → α) c)
    ∑ i ∈ Finset.range m, ∑ j ∈ Finset.range m, (∑ l ∈ Finset.range m, P i l) * qMatG (0 : α) m P i j * (x i * x j)
      = ∑ k ∈ Finset.range m, (if (∑ l ∈ Finset.range m, P l k) = 0 then 0
          else (∑ i ∈ Finset.range m, P i k * x i) ^ 2 / (∑ l ∈ Finset.range m, P l k)) ∧
    0 ≤ ∑ i ∈ Finset.range m, ∑ j ∈ Finset.range m, (∑ l ∈ Finset.range m, P i l) * qMatG (0 : α) m P i j * (x i * x j) := by
  intro P
  have hP : ∀ i < m, ∀ j < m, 0 ≤ P i j := fun i _ j _ => normMat_nonneg c _
  simp only [ite_zero_div]
  exact ⟨qMat_form m P hP x, qMat_form_nonneg m P hP x⟩

/-- the count matrix `[[1,2],[2,3]]` and `x = (1, −1)`: `3/8·(17/45 − 28/45) + 5/8·(47/75 − 28/75) = 1/15 = (1/8−2/8)²/(3/8) + (2/8−3/8)²/(5/8)` -/
example :
    let P := matAt (0 : Rat) 2 (normMat (Nat.cast : Nat → Rat) [1, 2, 2, 3])
    let x : Nat → Rat := fun i => if i = 0 then 1 else -1
    ∑ i ∈ Finset.range 2, ∑ j ∈ Finset.range 2, (∑ l ∈ Finset.range 2, P i l) * qMatG (0 : Rat) 2 P i j * (x i * x j) = 1 / 15 := by
  decide +kernel

/-- **TAS, the border rule is `fix_offset(ExtendReflect)`.** The model of `_ctas` folds a window position one step outside
an axis of length `n ≥ 1` with `reflect1` (`−1 ↦ 0`, `n ↦ n−1`); for every index the 3-wide window can produce
(`−1 ≤ i ≤ n`) this is exactly what the shared transliteration of `_filters.cpp: fix_offset` returns for the mode
`reflect` that `convolve` uses by default (`Model/Border.lean: fixOffset`, the border model of C01–C03). -/
theorem C19_tas_border_is_reflect (n : Nat) (hn : 1 ≤ n) (i : Int) (h0 : -1 ≤ i) (h1 : i ≤ n) :
    fixOffset .reflect i n = some (C19Tas.reflect1 n i) := by
  rw [fixOffset_reflect i n (by omega)]
  congr 1
  unfold reflectSpec C19Tas.reflect1
  -- `i = −1`, `0 ≤ i < n`, `i = n`, each with its residue modulo `2n`
  rcases (by omega : i = -1 ∨ (0 ≤ i ∧ i < n) ∨ i = n) with rfl | ⟨h2, h3⟩ | rfl
  · have e : (-1 : Int) % (2 * n) = 2 * n - 1 := by
      rw [Int.emod_eq_add_self_emod, Int.emod_eq_of_lt (by omega) (by omega)]; omega
    simp only [e]
    rw [if_neg (by omega), if_pos (by omega)]; omega
  · simp only [Int.emod_eq_of_lt h2 (by omega : i < 2 * (n : Int))]
    rw [if_pos h3, if_neg (by omega), if_neg (by omega)]
  · simp only [Int.emod_eq_of_lt (by omega : (0 : Int) ≤ n) (by omega : (n : Int) < 2 * n)]
    rw [if_neg (by omega), if_neg (by omega), if_pos (by omega)]; omega

example : C19Tas.reflect1 5 (-1) = 0 ∧ C19Tas.reflect1 5 5 = 4 ∧ C19Tas.reflect1 5 3 = 3 ∧ C19Tas.reflect1 1 1 = 0 ∧
    fixOffset .reflect 5 5 = some 4 := by decide

/-- **haralick, 14th feature: the spectrum of `Q` lies in `[0, 1]`.** Over any ordered field, for every count matrix,
`p = c/Σc`: the Rayleigh quotient of `Q` in the inner product weighted by the row marginal is at most 1,
`Σ_i Σ_j p_x(i) Q(i,j) x_i x_j ≤ Σ_i p_x(i) x_i²` (weighted Cauchy–Schwarz per column), and therefore every eigenvalue
`λ` of `Q` (`Q x = λ x` with an eigenvector not supported on empty levels only) satisfies `0 ≤ λ ≤ 1`. Together with
`C19_haralick_Q` (`Q·1 = 1`): 1 is the largest eigenvalue and the maximal correlation coefficient — the square root of
the second largest — lies in `[0, 1]` (`texture.py` takes it from a symmetric matrix similar to `Q`). -/
theorem C19_haralick_Q_spectrum {α : Type} [Field α] [LinearOrder α] [IsStrictOrderedRing α]
    (m : Nat) (c : List Nat) (x : Nat → α) :
    let P := matAt (0 : α) m (normMat (Nat.cast : Nat → α) c)
    (∑ i ∈ Finset.range m, ∑ j ∈ Finset.range m, (∑ l ∈ Finset.range m, P i l) * qMatG (0 : α) m P i j * (x i * x j)
      ≤ ∑ i ∈ Finset.range m, (∑ l ∈ Finset.range m, P i l) * x i ^ 2) ∧
    (∀ lam : α, (∀ i < m, ∑ j ∈ Finset.range m, qMatG (0 : α) m P i j * x j = lam * x i) →
      0 < ∑ i ∈ Finset.range m, (∑ l ∈ Finset.range m, P i l) * x i ^ 2 → 0 ≤ lam ∧ lam ≤ 1) := by
  intro P
  have hP : ∀ i < m, ∀ j < m, 0 ≤ P i j := fun i _ j _ => normMat_nonneg c _
  exact ⟨qMat_le_one m P hP x, fun lam hx hS => qMat_eigenvalue_bounds m P hP x lam hx hS⟩

/-- the count matrix `[[1,2],[2,3]]`: `x = (5, −3)` is an eigenvector of `Q` with eigenvalue `1/225` (and `(1,1)` with 1) -/
example :
    let P := matAt (0 : Rat) 2 (normMat (Nat.cast : Nat → Rat) [1, 2, 2, 3])
    let x : Nat → Rat := fun i => if i = 0 then 5 else -3
    (∀ i < 2, ∑ j ∈ Finset.range 2, qMatG (0 : Rat) 2 P i j * x j = 1 / 225 * x i) ∧
    (∀ i < 2, ∑ j ∈ Finset.range 2, qMatG (0 : Rat) 2 P i j * 1 = 1) := by
  decide +kernel
