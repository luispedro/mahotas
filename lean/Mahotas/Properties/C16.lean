/-
C16 — property theorems.

The kernels of `Model/C16.lean` are generic in the arithmetic; the driver runs them at `Float`
(compared bit-for-bit with the real code) and at `Rat`; the theorems below are about the `Rat`/`Int`
instances of the same definitions, or hold for every instance.
-/
import Mahotas.Proofs.C16
import Mahotas.Proofs.C16Otsu
import Mahotas.Proofs.C16Rc
import Mahotas.Proofs.C16Zeros
import Mahotas.Proofs.C16Round
import Mahotas.Proofs.C16Degenerate
import Mahotas.Proofs.C16Circle
import Mahotas.Proofs.C16RcRound
import Mahotas.Proofs.C05Binary64
open Mahotas Mahotas.C16 Mahotas.C05

/-- **soft_threshold = the statement (integers).** For `tval ≥ 0` the three numpy statements
`f = f*((f>t)|(f<-t)); f -= t*(f>t); f += t*(f<-t)` compute, element by element, `f − t` above `t`, `f + t`
below `−t` and `0` in between (magnitudes shrunk by `t`, those not exceeding it zeroed). -/
theorem C16_soft_threshold_int (f t : Int) (ht : 0 ≤ t) :
    softGen (0 : Int) f t = softSpec (0 : Int) f t ∧ softSpec (0 : Int) f t = Int.sign f * max (|f| - t) 0 :=
  ⟨softGen_eq_softSpec f t ht, softSpec_int_closed f t ht⟩

/-- **soft_threshold = the statement (exact rationals)**, same definitions instantiated at `Rat`. -/
theorem C16_soft_threshold_rat (f t : Rat) (ht : 0 ≤ t) : softGen (0 : Rat) f t = softSpec (0 : Rat) f t :=
  softGen_eq_softSpec f t ht

/-- **fullhistogram counts.** Bin `i` of the model histogram is the number of pixels equal to `i`
(and reads 0 above the largest level), for every pixel list. -/
theorem C16_histogram_counts (img : List Nat) (i : Nat) : (fullhistogram img).getD i 0 = img.count i :=
  fullhistogram_count img i

/-- **otsu and rc depend only on the histogram, which ignores pixel order.** For any arithmetic
instance (in particular the `Float` one the driver runs and the exact `Rat` one) and either setting
of `ignore_zeros`, permuting the pixels changes neither the histogram nor the two thresholds.
(The model takes the pixels in C order, so a reshape is the identity on its input.) -/
theorem C16_histogram_only {α : Type} [Add α] [Sub α] [Mul α] [Div α] [LT α] [DecidableLT α]
    (cast : Nat → α) {img₁ img₂ : List Nat} (p : img₁.Perm img₂) (ignoreZeros : Bool) :
    fullhistogram img₁ = fullhistogram img₂ ∧
    otsuImg cast img₁ ignoreZeros = otsuImg cast img₂ ignoreZeros ∧
    rcImg cast img₁ ignoreZeros = rcImg cast img₂ ignoreZeros := by
  refine ⟨fullhistogram_perm p, ?_, ?_⟩
  · unfold otsuImg; rw [histOf_perm p]
  · unfold rcImg; rw [histOf_perm p, fullhistogram_perm p, p.length_eq]

/-- **The class sums used below are the statement's.** `nBOf hist T = Σ_{i≤T} hist[i]` and
`sBOf hist T = Σ_{i≤T} i·hist[i]` (by their recurrences), `nOOf hist T` the remaining count;
`otsuSigma hist T = n_B n_O (μ_B − μ_O)²` with `μ_B = s_B/n_B`, `μ_O = s_O/n_O`, and 0 when a class is
empty — the between-class variance of the split `{0..T} | {T+1..}`. The oracle table `sigmaAll`
that the check evaluates on the returned threshold is exactly this function. -/
theorem C16_otsu_class_sums (hist : List Nat) :
    (0 < hist.length → nBOf hist 0 = hOf hist 0) ∧ sBOf hist 0 = 0 ∧
    (∀ T, T + 1 < hist.length → nBOf hist (T + 1) = nBOf hist T + hOf hist (T + 1)) ∧
    (∀ T, T + 1 < hist.length → sBOf hist (T + 1) = sBOf hist T + (T + 1) * hOf hist (T + 1)) ∧
    (∀ T, T < hist.length → (sigmaAll hist)[T]? = some (otsuSigma hist T)) := by
  exact ⟨fun h => by rw [nBOf_sum hist h, Finset.sum_range_one], sB_zero hist, nB_succ hist, sB_succ hist,
    sigmaAll_getElem? hist⟩

/-- **otsu returns the first maximiser of the between-class variance.** For every image and either
setting of `ignore_zeros` (bin 0 cleared), the model of `_histogram.otsu` — cumulative counts,
running class means updated in one pass, `continue` on an empty lower class, `break` on an empty
upper class, strict `>` — run over the exact rationals returns a threshold `T*` inside the histogram
with `σ(T) ≤ σ(T*)` for every level `T` and `σ(T) < σ(T*)` for every `T < T*`; it is also what the
oracle `firstArgmax (sigmaAll hist)` of the check computes. -/
theorem C16_otsu_first_argmax (img : List Nat) (ignoreZeros : Bool) :
    let hist := histOf img ignoreZeros
    let Ts := otsuImg ratCast img ignoreZeros
    (Ts < hist.length ∨ Ts = 0) ∧
    (∀ T, T < hist.length → otsuSigma hist T ≤ otsuSigma hist Ts) ∧
    (∀ T, T < Ts → otsuSigma hist T < otsuSigma hist Ts) ∧
    firstArgmax (sigmaAll hist) = Ts := by
  have h := otsuGen_first_argmax (histOf img ignoreZeros)
  exact ⟨h.1, h.2.1, h.2.2, firstArgmax_sigmaAll _⟩

/-- **rc obeys the Riddler–Calvard stopping rule and stays between the occurring levels.** For every
histogram with an occupied bin (an image, bin 0 cleared when zeros are ignored and some pixel is
non-zero), with `lo`/`hi` the smallest/largest occupied level (`hist[lo] ≠ 0`, nothing below;
`hist[hi] ≠ 0`, nothing above) and `m(t)` the midpoint of the mean grey levels of the classes
`{≤ t}` and `{> t}`, the model of `rc` run over the exact rationals returns: the single level when
`lo = hi`; otherwise `m(t*)` for the FIRST `t* ∈ [lo, hi)` with `m(t*) ≤ t*+1` (all earlier
`t ∈ [lo, t*)` have `m(t) > t+1`); and in all cases a value in `[lo, hi]`. The oracle `rcSpec` that
the check compares the real double with is this same value. -/
theorem C16_rc_rule (img : List Nat) (ignoreZeros : Bool)
    (hne : ∃ v ∈ histOf img ignoreZeros, v ≠ 0) :
    let hist := histOf img ignoreZeros
    let r := rcGen ratCast hist
    let lo := loOf hist
    let hi := lastNonzero hist
    (hOf hist lo ≠ 0 ∧ ∀ i, i < lo → hOf hist i = 0) ∧
    (hOf hist hi ≠ 0 ∧ ∀ i, hi < i → hOf hist i = 0) ∧
    (lo = hi → r = (hi : Rat)) ∧
    (lo < hi → ∃ ts, lo ≤ ts ∧ ts < hi ∧ r = rcMid hist ts ∧ rcMid hist ts ≤ (ts : Rat) + 1 ∧
      ∀ t, lo ≤ t → t < ts → (t : Rat) + 1 < rcMid hist t) ∧
    ((lo : Rat) ≤ r ∧ r ≤ (hi : Rat)) ∧
    (rcSpec hist).1 = r := by
  intro hist r lo hi
  have h := rcGen_spec hist hne
  exact ⟨loOf_spec hist hne, lastNonzero_spec hist hne, h.1, h.2, h.between hne, rcSpec_fst hist hne⟩

/-- `rc` of the image is `rcGen` of its histogram, except that with `ignore_zeros` an all-zero
image returns 0 (`if hist[0] == img.size: return 0`). -/
theorem C16_rc_of_image (img : List Nat) (ignoreZeros : Bool) :
    rcImg ratCast img ignoreZeros =
      if ignoreZeros && (fullhistogram img).getD 0 0 == img.length then 0
      else rcGen ratCast (histOf img ignoreZeros) := by
  unfold rcImg
  split <;> simp [ratCast]

/-- **Bernsen rule.** At every pixel whose (reflect-extended) neighbourhood is non-empty the model
of `gbernsen` returns: with `M`/`m` the largest/smallest neighbourhood value (both attained),
`M + m > 2·f` (pixel below the local mid-grey `(M+m)/2`) where the local contrast `M − m` reaches
`contrast_threshold`, and `M + m < 2·gthresh` (mid-grey below the global threshold) where it does not. -/
theorem C16_bernsen_rule (A : Img Int) (offs : List (List Int)) (ct g2 : Int) (p : List Int)
    (hne : neighbours A offs p ≠ []) :
    ∃ M m, M ∈ neighbours A offs p ∧ (∀ v ∈ neighbours A offs p, v ≤ M) ∧
           m ∈ neighbours A offs p ∧ (∀ v ∈ neighbours A offs p, m ≤ v) ∧
           gbernsenAt bernsenRule A offs ct g2 p =
             (if M - m ≥ ct then decide (M + m > 2 * A.getD p 0) else decide (M + m < g2)) := by
  obtain ⟨h1, h2⟩ := listMaxI_spec _ hne
  obtain ⟨h3, h4⟩ := listMinI_spec _ hne
  exact ⟨_, _, h1, h2, h3, h4, rfl⟩

/-- **otsu with `ignore_zeros` = otsu without the zero pixels.** For every arithmetic instance (the
`Float` one the driver runs and the exact one) and every image: `otsu(img, ignore_zeros=True)` is the
kernel applied to the histogram with bin 0 cleared (`hist[0] = 0`, as in `thresholding.py`), and that
histogram *is* the histogram of the image with its zero pixels removed — same number of bins (an
all-zero image gives the one-bin histogram `[0]` either way: the model's histogram of the empty pixel
list, where the real `fullhistogram` raises on `img.max()`) — so the result equals
`otsu(img[img != 0], ignore_zeros=False)`. With `C16_otsu_first_argmax` (stated for both settings) the
threshold maximises the between-class variance of the non-zero pixels. -/
theorem C16_otsu_ignore_zeros {α : Type} [Add α] [Sub α] [Mul α] [Div α] [LT α] [DecidableLT α]
    (cast : Nat → α) (img : List Nat) :
    otsuImg cast img true = otsuGen cast ((fullhistogram img).toList.set 0 0) ∧
    histOf img true = (fullhistogram (img.filter (· ≠ 0))).toList ∧
    otsuImg cast img true = otsuImg cast (img.filter (· ≠ 0)) false := by
  refine ⟨rfl, histOf_ignore_zeros img, ?_⟩
  unfold otsuImg; rw [histOf_ignore_zeros]

/-- **rc with `ignore_zeros` = rc without the zero pixels**, for every arithmetic instance and every
image: when some pixel is non-zero the result is the kernel applied to the histogram with bin 0
cleared; an all-zero image returns 0 (the early return `if hist[0] == img.size`); in both cases the
result equals `rc(img[img != 0], ignore_zeros=False)` (for the all-zero image in the model only: its
histogram of the empty pixel list is `[0]`, no occupied level, result level 0; the real `rc` raises
on an empty array). -/
theorem C16_rc_ignore_zeros {α : Type} [Add α] [Sub α] [Mul α] [Div α] [LT α] [DecidableLT α]
    (cast : Nat → α) (img : List Nat) :
    (img.count 0 ≠ img.length →
      rcImg cast img true = rcGen cast ((fullhistogram img).toList.set 0 0)) ∧
    (img.count 0 = img.length → rcImg cast img true = cast 0) ∧
    rcImg cast img true = rcImg cast (img.filter (· ≠ 0)) false := by
  refine ⟨fun h => ?_, fun h => ?_, rcImg_ignore_zeros cast img⟩
  · have hz : ¬ (fullhistogram img).getD 0 0 = img.length := by rw [fullhistogram_count]; exact h
    unfold rcImg
    simp only [Bool.true_and, beq_iff_eq, hz, if_false]; rfl
  · have hz : (fullhistogram img).getD 0 0 = img.length := by rw [fullhistogram_count]; exact h
    unfold rcImg
    simp only [Bool.true_and, beq_iff_eq, hz, if_true]

/-- **otsu separates the occupied levels.** For every image and either setting of `ignore_zeros`:
if the histogram handed to the kernel has at least two occupied levels (`lo < hi`, the smallest and
the largest occupied level), the threshold returned by the exact instance of the model satisfies
`lo ≤ T < hi` — both classes `{≤ T}` and `{> T}` contain pixels. Corollary of
`C16_otsu_first_argmax`: at any `t ∈ [lo, hi)` the class means satisfy `μ_B ≤ t < t+1 ≤ μ_O`, so
`σ(t) > 0`, while `σ = 0` whenever a class is empty. -/
theorem C16_otsu_separates (img : List Nat) (ignoreZeros : Bool)
    (hne : ∃ v ∈ histOf img ignoreZeros, v ≠ 0)
    (hlh : loOf (histOf img ignoreZeros) < lastNonzero (histOf img ignoreZeros)) :
    let hist := histOf img ignoreZeros
    let T := otsuImg ratCast img ignoreZeros
    loOf hist ≤ T ∧ T < lastNonzero hist ∧ nBOf hist T ≠ 0 ∧ nOOf hist T ≠ 0 ∧ 0 < otsuSigma hist T := by
  intro hist T
  have h := otsuGen_separates hist hne hlh
  have hT := h.2.trans (hi_lt_length hist hne)
  obtain ⟨hB, hO⟩ := (occupied_iff hist hne hT).2 h
  exact ⟨h.1, h.2, hB, hO, (otsuSigma_pos_iff hist hne hT).2 h⟩

/-- **otsu on a two-level image separates the two levels.** If every pixel (every non-zero pixel when
zeros are ignored) is `a` or `b` with `a < b` and both occur, the returned threshold `T` satisfies
`a ≤ T < b`: thresholding with `img > T` yields exactly the pixels of level `b`. -/
theorem C16_otsu_two_level (img : List Nat) (ignoreZeros : Bool) (a b : Nat) (hab : a < b)
    (hz : ignoreZeros = true → a ≠ 0) (ha : a ∈ img) (hb : b ∈ img)
    (hall : ∀ p ∈ img, p = a ∨ p = b ∨ (ignoreZeros = true ∧ p = 0)) :
    let T := otsuImg ratCast img ignoreZeros
    a ≤ T ∧ T < b ∧ ∀ p ∈ img, (p = a → ¬ T < p) ∧ (p = b → T < p) := by
  intro T
  have hA : hOf (histOf img ignoreZeros) a ≠ 0 := hOf_histOf_ne_zero.2 ⟨ha, fun h => hz h.1 h.2⟩
  have hB : hOf (histOf img ignoreZeros) b ≠ 0 := hOf_histOf_ne_zero.2 ⟨hb, fun h => by omega⟩
  have hAll : ∀ i, hOf (histOf img ignoreZeros) i ≠ 0 → i = a ∨ i = b := fun i hi => by
    obtain ⟨hm, hc⟩ := hOf_histOf_ne_zero.1 hi
    rcases hall i hm with h | h | h
    · exact Or.inl h
    · exact Or.inr h
    · exact absurd h hc
  obtain ⟨hne, hlo, hhi⟩ := two_level_lo_hi _ a b hab hA hB hAll
  obtain ⟨h1, h2⟩ := otsuGen_separates (histOf img ignoreZeros) hne (by rw [hlo, hhi]; exact hab)
  rw [hlo] at h1
  rw [hhi] at h2
  refine ⟨h1, h2, fun p _ => ⟨fun e => ?_, fun e => ?_⟩⟩
  · subst e; exact Nat.not_lt.2 h1
  · subst e; exact h2

/-- **σ computed by the loop = the between-class variance at every step T.** For every histogram
with at least two bins and a pixel above level 0 (otherwise `otsu` returns 0 before the loop) and for
EVERY arithmetic instance, `otsuGen` is "the first strict maximum (`otsuPick`) of the list of pairs
`(T, sigma_between)` that the loop computes (`otsuTraceOf`), starting from the value computed for
`T = 0`"; over the exact rationals that starting value is `σ(0)`, every pair `(T, s)` of the list has
`s = σ(T)` — the single-pass update of the two running means reproduces the between-class variance
`n_B n_O (μ_B − μ_O)²` of the definition at every step — and the list visits every level `T ≥ 1` with
both classes occupied (the others have `σ = 0`). -/
theorem C16_otsu_sigma_stepwise (hist : List Nat) (hn : 2 ≤ hist.length) (hH : sumL (hist.drop 1) ≠ 0) :
    (∀ {α : Type} [Add α] [Sub α] [Mul α] [Div α] [LT α] [DecidableLT α] (cast : Nat → α),
      otsuGen cast hist = otsuPick (otsuTraceOf cast hist)
        (cast (nBOf hist 0) * cast (nOOf hist 0) *
          (cast 0 - cast (sumL (weighted hist)) / cast (sumL (hist.drop 1))) *
          (cast 0 - cast (sumL (weighted hist)) / cast (sumL (hist.drop 1)))) 0) ∧
    ratCast (nBOf hist 0) * ratCast (nOOf hist 0) *
          (ratCast 0 - ratCast (sumL (weighted hist)) / ratCast (sumL (hist.drop 1))) *
          (ratCast 0 - ratCast (sumL (weighted hist)) / ratCast (sumL (hist.drop 1))) = otsuSigma hist 0 ∧
    (∀ p ∈ otsuTraceOf ratCast hist, p.2 = otsuSigma hist p.1) ∧
    (∀ T, 1 ≤ T → T < hist.length → nBOf hist T ≠ 0 → nOOf hist T ≠ 0 →
      ∃ s, (T, s) ∈ otsuTraceOf ratCast hist) :=
  otsu_sigma_stepwise hist hn hH

/-- **Floating-point error bound for every `sigma_between` of the loop.** Run the same generic loop
in rounded arithmetic (`Rd rnd`: every `+ − × ÷` and every int→double conversion followed by `rnd`)
for ANY `rnd` satisfying the `Rounding` interface (monotone, relative error ≤ 2^-53, integers up to
2^53 exact — binary64 round-to-nearest `rne53` in particular). Assume `N² ≤ 2^53` (`N` = number of
counted pixels, so `N < 2^26.5`) and first moment `Fn = Σ i·h[i] ≤ 2^53`, and let `E t` be any budget
that bounds the error of the two running means at level 0 (`hB`, `hO`), is monotone, and grows by three roundings
(`g3`) per proper step. Then every pair `(T, σ̂)` in the trace satisfies
`|σ̂ − σ(T)| ≤ sigBound N N² Δ Emax`, where `Δ` bounds the distance of the exact class means. (The
instantiation `E t = u·Fn·(1 + 4·#steps)`, `Δ = hi − lo` is `C16_otsu_rounded_near_optimal`.) -/
theorem C16_otsu_rounded_sigma_error {rnd : ℚ → ℚ} (hr : Rounding rnd) (hist : List Nat) (N Fn : ℕ)
    (hN : N = nBOf hist (hist.length - 1)) (hF : Fn = sBOf hist (hist.length - 1))
    (hNN : N * N ≤ 2 ^ 53) (hFF : Fn ≤ 2 ^ 53) (Δ Emax : ℚ) (E : ℕ → ℚ)
    (hEmono : ∀ t, E t ≤ E (t + 1)) (hEmax : ∀ t, t < hist.length → E t ≤ Emax)
    (hEstep : ∀ T, 1 ≤ T → T < hist.length → nBOf hist T ≠ 0 → nOOf hist T ≠ 0 →
      g3 (Fn : ℚ) (E (T - 1)) ≤ E T)
    (hΔ : ∀ T, T < hist.length → nBOf hist T ≠ 0 → nOOf hist T ≠ 0 →
      |(sBOf hist T : ℚ) / (nBOf hist T : ℚ) -
        ((Fn - sBOf hist T : ℕ) : ℚ) / (nOOf hist T : ℚ)| ≤ Δ)
    (muB muO : ℚ)
    (hB : |muB * (nBOf hist 0 : ℚ) - (sBOf hist 0 : ℚ)| ≤ E 0)
    (hO : |muO * (nOOf hist 0 : ℚ) - ((Fn - sBOf hist 0 : ℕ) : ℚ)| ≤ E 0) :
    ∀ p ∈ otsuTrace (α := Rd rnd) (rdCast rnd) (hOf hist) (nBOf hist) (nOOf hist)
        (List.range' 1 (hist.length - 1)) muB muO,
      |Rd.val rnd p.2 - otsuSigma hist p.1| ≤ sigBound (N : ℚ) ((N : ℚ) * (N : ℚ)) Δ Emax := by
  subst hN hF
  exact otsuTrace_rd hr hist hNN hFF Δ Emax E hEmono hEmax hEstep hΔ muB muO hB hO

/-- **otsu in rounded (binary64) arithmetic is optimal up to an explicit margin — the guarded
comparison of the check is sound.** For every image, either `ignore_zeros`, and ANY `Rounding`
(`rne53` = IEEE binary64 round-to-nearest-even is one: `C16_otsu_binary64_margin`): if the histogram
has an occupied bin, at most 2^32 bins, `N² ≤ 2^53` counted pixels and first moment `≤ 2^53`, then
the threshold `Tr` returned by the model run in rounded arithmetic lies inside the histogram and its
EXACT between-class variance is within `otsuMargin hist = 2·otsuErrBound N Fn lo hi` of the exact
maximum, for every competitor `T`. In the form the check evaluates (`smax`, `sgot` printed by the
driver from `sigmaAll`): `0 ≤ smax − sgot ≤ otsuMargin hist`. So a returned threshold that is not an
exact maximiser but within the margin is explained by rounding ("near-tie, not judged"), and one
outside the margin cannot be produced by the model in binary64 arithmetic. The bound is explicit
(`C16_otsu_margin_explicit`), leading terms `16u·Δ²·Fn·N + 8u·Δ²·N²` (`u = 2^-53`, `Δ = hi − lo`). -/
theorem C16_otsu_rounded_near_optimal {rnd : ℚ → ℚ} (hr : Rounding rnd) (img : List Nat)
    (ignoreZeros : Bool) (hne : ∃ v ∈ histOf img ignoreZeros, v ≠ 0)
    (hlen : (histOf img ignoreZeros).length ≤ 2 ^ 32)
    (hNN : nBOf (histOf img ignoreZeros) ((histOf img ignoreZeros).length - 1) *
      nBOf (histOf img ignoreZeros) ((histOf img ignoreZeros).length - 1) ≤ 2 ^ 53)
    (hFF : sBOf (histOf img ignoreZeros) ((histOf img ignoreZeros).length - 1) ≤ 2 ^ 53) :
    let hist := histOf img ignoreZeros
    let Tr := otsuImg (α := Rd rnd) (rdCast rnd) img ignoreZeros
    Tr < hist.length ∧
    (∀ T, T < hist.length → otsuSigma hist T - otsuMargin hist ≤ otsuSigma hist Tr) ∧
    0 ≤ listMax (sigmaAll hist) - (sigmaAll hist).getD Tr (-1) ∧
    listMax (sigmaAll hist) - (sigmaAll hist).getD Tr (-1) ≤ otsuMargin hist := by
  intro hist Tr
  obtain ⟨h1, h2, h3⟩ := otsu_margin_sound hr hist (histOf_length img ignoreZeros ▸ Nat.succ_pos _) hlen hNN hFF
  exact ⟨h1, otsuGen_rd_near_optimal hr hist hlen hNN hFF, h2, h3⟩

/-- The same for IEEE binary64 round-to-nearest-even (`rne53` of `Proofs/C05Binary64.lean`, exponent
range unbounded): `0 ≤ smax − sgot ≤ otsuMargin hist` for the threshold computed in doubles. -/
theorem C16_otsu_binary64_margin (img : List Nat) (ignoreZeros : Bool)
    (hne : ∃ v ∈ histOf img ignoreZeros, v ≠ 0)
    (hlen : (histOf img ignoreZeros).length ≤ 2 ^ 32)
    (hNN : nBOf (histOf img ignoreZeros) ((histOf img ignoreZeros).length - 1) *
      nBOf (histOf img ignoreZeros) ((histOf img ignoreZeros).length - 1) ≤ 2 ^ 53)
    (hFF : sBOf (histOf img ignoreZeros) ((histOf img ignoreZeros).length - 1) ≤ 2 ^ 53) :
    let hist := histOf img ignoreZeros
    let Tr := otsuImg (α := Rd rne53) (rdCast rne53) img ignoreZeros
    Tr < hist.length ∧
    0 ≤ listMax (sigmaAll hist) - (sigmaAll hist).getD Tr (-1) ∧
    listMax (sigmaAll hist) - (sigmaAll hist).getD Tr (-1) ≤ otsuMargin hist := by
  intro hist Tr
  obtain ⟨h1, _, h3, h4⟩ := C16_otsu_rounded_near_optimal rne53_rounding img ignoreZeros hne hlen hNN hFF
  exact ⟨h1, h3, h4⟩

/-- **The margin, written out.** With `u = 2^-53`, `N` the number of counted pixels, `Fn = Σ i·h[i]`,
`Δ = hi − lo` (largest minus smallest occupied level), `E = u·Fn·(1 + 4Δ)` (accuracy of the running
means after at most `Δ` proper steps of three roundings each) and `η = 2(1+u)E + uΔ` (accuracy of
`μ_B − μ_O`): `otsuMargin = 2·[((1+u)·E·N + u·N²·Δ)·(2Δ + η) + (2u + u²)·N²·(Δ + η)²]`, and it is
non-negative. -/
theorem C16_otsu_margin_explicit (hist : List Nat) :
    let N : ℚ := (nBOf hist (hist.length - 1) : ℚ)
    let Fn : ℚ := (sBOf hist (hist.length - 1) : ℚ)
    let Δ : ℚ := ((lastNonzero hist - loOf hist : ℕ) : ℚ)
    let u : ℚ := 1 / 2 ^ 53
    let E : ℚ := u * Fn * (1 + 4 * Δ)
    let η : ℚ := (1 + u) * (2 * E) + u * Δ
    otsuMargin hist = 2 * (((1 + u) * (E * N) + u * (N * N * Δ)) * (2 * Δ + η) +
      (2 * u + u * u) * (N * N * ((Δ + η) * (Δ + η)))) ∧ 0 ≤ otsuMargin hist := by
  intro N Fn Δ u E η
  refine ⟨?_, ?_⟩
  · rw [otsuMargin_eq]
    unfold otsuErrBound sigBound etaMax
    rw [u53_eq]
  · rw [otsuMargin_eq]
    have := otsuErrBound_nonneg (nBOf hist (hist.length - 1)) (sBOf hist (hist.length - 1))
      (loOf hist) (lastNonzero hist)
    linarith

/-- **rc in rounded (binary64) arithmetic follows the stopping rule on the rounded midpoints.** For
ANY `Rounding` (binary64 `rne53` included), every image with an occupied bin, at most 2^53 bins,
pixels and first moment: the model of `rc` run in rounded arithmetic returns the single level when only
one is occupied, otherwise `m̂(ts)` for the first `ts ∈ [lo, hi)` with `m̂(ts) ≤ ts + 1` (or
`ts = hi − 1`), where `m̂(t) = rcMidR` is the midpoint as the loop body computes it — four roundings
applied to exact integer sums — and every `m̂(t)` is within `4·2^-53` RELATIVE of the exact midpoint
`m(t)` (no accumulation: each midpoint is computed afresh). -/
theorem C16_rc_rounded_rule {rnd : ℚ → ℚ} (hr : Rounding rnd) (img : List Nat) (ignoreZeros : Bool)
    (hne : ∃ v ∈ histOf img ignoreZeros, v ≠ 0)
    (hlen : (histOf img ignoreZeros).length ≤ 2 ^ 53)
    (hN : nBOf (histOf img ignoreZeros) ((histOf img ignoreZeros).length - 1) ≤ 2 ^ 53)
    (hF : sBOf (histOf img ignoreZeros) ((histOf img ignoreZeros).length - 1) ≤ 2 ^ 53) :
    let hist := histOf img ignoreZeros
    let r := Rd.val rnd (rcGen (α := Rd rnd) (rdCast rnd) hist)
    let lo := loOf hist
    let hi := lastNonzero hist
    (lo = hi → r = (hi : ℚ)) ∧
    (lo < hi → ∃ ts, lo ≤ ts ∧ ts < hi ∧ r = rcMidR rnd hist ts ∧
      (rcMidR rnd hist ts ≤ (ts : ℚ) + 1 ∨ ts + 1 = hi) ∧
      ∀ t, lo ≤ t → t < ts → (t : ℚ) + 1 < rcMidR rnd hist t) ∧
    (∀ t, |rcMidR rnd hist t - rcMid hist t| ≤ 4 * u53 * rcMid hist t) := by
  intro hist r lo hi
  have h := rcGenR_spec hr hist hne hN hF
  exact ⟨h.1, h.2, fun t => rcMidR_err hr hist t⟩

/-- **The guarded comparison of `rc` in the check is sound.** Same hypotheses, at most 2^20 grey
levels. If every comparison `m(t) ≤ t + 1` that the EXACT rule makes (all `t` from `lo` up to and
including the exact stopping level) is decided with a margin above `1e-9` — the check's "judged"
cases: its margin test is `min_t |m(t) − (t+1)| > 1e-9·max(1,|exact|)` — then the value computed in
rounded arithmetic stops at the same level and differs from the exact one by at most
`4·2^-53·exact ≤ 1e-12·exact`, the tolerance the check applies. Contrapositive: a binary64 result
outside the tolerance is only possible when the margin is below `1e-9` ("near-tie, not judged"). -/
theorem C16_rc_rounded_close {rnd : ℚ → ℚ} (hr : Rounding rnd) (img : List Nat) (ignoreZeros : Bool)
    (hne : ∃ v ∈ histOf img ignoreZeros, v ≠ 0)
    (hlen : (histOf img ignoreZeros).length ≤ 2 ^ 20)
    (hN : nBOf (histOf img ignoreZeros) ((histOf img ignoreZeros).length - 1) ≤ 2 ^ 53)
    (hF : sBOf (histOf img ignoreZeros) ((histOf img ignoreZeros).length - 1) ≤ 2 ^ 53)
    (hmargin : ∀ t, loOf (histOf img ignoreZeros) ≤ t → t < lastNonzero (histOf img ignoreZeros) →
      (∀ s, loOf (histOf img ignoreZeros) ≤ s → s < t → (s : ℚ) + 1 < rcMid (histOf img ignoreZeros) s) →
      1 / 10 ^ 9 < |rcMid (histOf img ignoreZeros) t - ((t : ℚ) + 1)|) :
    let hist := histOf img ignoreZeros
    let r := rcGen ratCast hist
    let rr := Rd.val rnd (rcGen (α := Rd rnd) (rdCast rnd) hist)
    |rr - r| ≤ 4 * u53 * r ∧ 4 * u53 * r ≤ r / 10 ^ 12 ∧ 0 ≤ r := by
  intro hist r rr
  have hhn := hi_lt_length hist hne
  have hlen' : hist.length ≤ 2 ^ 20 := hlen
  have hr0 : 0 ≤ r := (Nat.cast_nonneg _).trans ((rcGen_spec hist hne).between hne).1
  have hu : 4 * u53 * 2 ^ 20 ≤ 1 / 10 ^ 9 := by unfold u53; norm_num
  refine ⟨rcGenR_close hr hist hne hN hF (fun t h1 h2 h3 => ?_), ?_, hr0⟩
  · -- `m(t) ≤ hi ≤ 2^20`, so the margin `4u·m(t)` is below `1e-9`
    have hm : rcMid hist t ≤ 2 ^ 20 := by
      have hb := (rcMid_bounds hist hne h1 h2).2
      have ht : (t : ℚ) ≤ (lastNonzero hist : ℚ) := Nat.cast_le.2 h2.le
      have hh : (lastNonzero hist : ℚ) ≤ 2 ^ 20 := by exact_mod_cast (show lastNonzero hist ≤ 2 ^ 20 by omega)
      linarith
    exact ((mul_le_mul_of_nonneg_left hm (mul_nonneg (by norm_num) u53_pos.le)).trans hu).trans_lt
      (hmargin t h1 h2 h3)
  · rw [div_eq_mul_one_div, mul_comm r]
    exact mul_le_mul_of_nonneg_right (by unfold u53; norm_num) hr0

/-- **otsu on degenerate images, every arithmetic instance.** If every pixel — every NON-ZERO pixel
when zeros are ignored — has the same level `v` (constant images, all-zero images with either
setting, zeros plus one other level with `ignore_zeros`, one-pixel images, and the empty pixel list,
on which the real `otsu` raises) the model of `otsu` returns 0 whatever the arithmetic (`Float`, exact,
rounded): the histogram has one bin, or no pixel above level 0, or the loop `continue`s up to the
occupied level and `break`s there. -/
theorem C16_otsu_single_level {α : Type} [Add α] [Sub α] [Mul α] [Div α] [LT α] [DecidableLT α]
    (cast : Nat → α) (img : List Nat) (ignoreZeros : Bool) (v : Nat)
    (hall : ∀ p ∈ img, p = v ∨ (ignoreZeros = true ∧ p = 0)) : otsuImg cast img ignoreZeros = 0 :=
  otsuGen_single_level cast _ (single_level_hist hall)

/-- `otsu(img, ignore_zeros=True)` of an image without non-zero pixel is 0, for every arithmetic
instance (special case of `C16_otsu_single_level`). -/
theorem C16_otsu_all_zero_ignore_zeros {α : Type} [Add α] [Sub α] [Mul α] [Div α] [LT α] [DecidableLT α]
    (cast : Nat → α) (img : List Nat) (hz : ∀ p ∈ img, p = 0) : otsuImg cast img true = 0 :=
  C16_otsu_single_level cast img true 0 (fun p hp => Or.inl (hz p hp))

/-- **rc on a single-level image is that level, every arithmetic instance.** If every counted pixel
has level `v`, some pixel has it, and `v ≠ 0` when zeros are ignored, the model of `rc` returns
`cast v` — whatever the arithmetic's `<` says in the loop guard `t < res`, because the lower class is
empty below `v` and the update is skipped. (With `ignore_zeros` and no non-zero pixel the result is
`cast 0`: `C16_rc_ignore_zeros`.) -/
theorem C16_rc_single_level {α : Type} [Add α] [Sub α] [Mul α] [Div α] [LT α] [DecidableLT α]
    (cast : Nat → α) (img : List Nat) (ignoreZeros : Bool) (v : Nat)
    (hv : v ∈ img) (hz : ignoreZeros = true → v ≠ 0)
    (hall : ∀ p ∈ img, p = v ∨ (ignoreZeros = true ∧ p = 0)) : rcImg cast img ignoreZeros = cast v := by
  have hV : hOf (histOf img ignoreZeros) v ≠ 0 := hOf_histOf_ne_zero.2 ⟨hv, fun h => hz h.1 h.2⟩
  have hne := hne_of_hOf hV
  have hs := single_level_hist hall
  have hearly : ¬ ((ignoreZeros && (fullhistogram img).getD 0 0 == img.length) = true) := by
    intro h
    simp only [Bool.and_eq_true, beq_iff_eq] at h
    have h0 : img.count 0 = img.length := by rw [← fullhistogram_count]; exact h.2
    exact hz h.1 (List.count_eq_length.1 h0 v hv).symm
  unfold rcImg
  rw [if_neg hearly, rcGen_single_level cast _ hne hs, hs _ _ (lastNonzero_spec _ hne).1 hV]

/-- **Support of `circle_se(r)`** (the element `bernsen(f, r, …)` hands to `gbernsen`; the driver
builds it with `circleSe`, it does not take the implementation's): a `(2r+1)×(2r+1)` row-major
array whose entry `(i, j)` is 1 exactly when `(i − r)² + (j − r)² < r²` — STRICT, as in `morph.py` —
so the centre is set for `r ≥ 1` while the first/last row and column never are (`circle_se(1)` is the
single centre pixel). -/
theorem C16_circle_se_spec (r : Nat) :
    (circleSe r).length = (2 * r + 1) * (2 * r + 1) ∧
    (∀ i j, i ≤ 2 * r → j ≤ 2 * r → (circleSe r).getD (i * (2 * r + 1) + j) 0 =
      if ((i : Int) - r) * ((i : Int) - r) + ((j : Int) - r) * ((j : Int) - r) < (r : Int) * r then 1 else 0) ∧
    (1 ≤ r → (circleSe r).getD (r * (2 * r + 1) + r) 0 = 1 ∧
      (∀ j, j ≤ 2 * r → (circleSe r).getD (0 * (2 * r + 1) + j) 0 = 0) ∧
      (∀ j, j ≤ 2 * r → (circleSe r).getD (2 * r * (2 * r + 1) + j) 0 = 0) ∧
      (∀ i, i ≤ 2 * r → (circleSe r).getD (i * (2 * r + 1) + 0) 0 = 0) ∧
      (∀ i, i ≤ 2 * r → (circleSe r).getD (i * (2 * r + 1) + 2 * r) 0 = 0)) := by
  refine ⟨circleSe_length r, circleSe_spec r, fun hr => ⟨?_, fun j hj => ?_, fun j hj => ?_, fun i hi => ?_,
    fun i hi => ?_⟩⟩
  · rw [circleSe_spec r r r (by omega) (by omega), if_pos]
    rw [sub_self, mul_zero, add_zero]
    exact mul_pos (by exact_mod_cast hr) (by exact_mod_cast hr)
  · rw [circleSe_spec r 0 j (by omega) hj, if_neg (circle_rim (Or.inl (by push_cast; ring)))]
  · rw [circleSe_spec r (2 * r) j (by omega) hj, if_neg (circle_rim (Or.inl (by push_cast; ring)))]
  · rw [circleSe_spec r i 0 hi (by omega), if_neg (circle_rim (Or.inr (by push_cast; ring)))]
  · rw [circleSe_spec r i (2 * r) hi (by omega), if_neg (circle_rim (Or.inr (by push_cast; ring)))]

example : softGen (0 : Int) 5 2 = 3 ∧ softGen (0 : Int) (-5) 2 = -3 ∧ softGen (0 : Int) 2 2 = 0 := by decide
example : bernsenRule 200 10 10 50 60 = true ∧ bernsenRule 12 10 12 50 60 = true ∧
    bernsenRule 12 10 12 50 20 = false := by decide
example : [0, 2, 1, 2].Perm [2, 2, 1, 0] := by decide
example : histOf [0, 0, 3, 3, 5] true = [0, 0, 0, 2, 0, 1] ∧ histOf [3, 3, 5] false = [0, 0, 0, 2, 0, 1] ∧
    histOf [0, 0] true = [0] ∧ histOf [] false = [0] := by decide
example : loOf (histOf [5, 2, 2, 7] false) = 2 ∧ lastNonzero (histOf [5, 2, 2, 7] false) = 7 ∧
    (∃ v ∈ histOf [5, 2, 2, 7] false, v ≠ 0) := by decide

example : Rounding rne53 := rne53_rounding
example : Rounding (id : ℚ → ℚ) :=
  ⟨fun _ _ h => h, fun x => by simp only [id, sub_self, abs_zero]; positivity, fun _ _ => rfl⟩
example : 2 ≤ (histOf [5, 2, 2, 7] false).length ∧ sumL ((histOf [5, 2, 2, 7] false).drop 1) ≠ 0 := by decide
example : ∃ s, (1, s) ∈ otsuTraceOf ratCast [1, 2, 0, 1] :=
  (C16_otsu_sigma_stepwise [1, 2, 0, 1] (by decide) (by decide)).2.2.2 1 (by decide) (by decide)
    (by decide) (by decide)
example : (histOf [5, 2, 2, 7] false).length ≤ 2 ^ 32 ∧
    nBOf (histOf [5, 2, 2, 7] false) ((histOf [5, 2, 2, 7] false).length - 1) *
      nBOf (histOf [5, 2, 2, 7] false) ((histOf [5, 2, 2, 7] false).length - 1) ≤ 2 ^ 53 ∧
    sBOf (histOf [5, 2, 2, 7] false) ((histOf [5, 2, 2, 7] false).length - 1) ≤ 2 ^ 53 := by decide
example : circleSe 1 = [0, 0, 0, 0, 1, 0, 0, 0, 0] := by decide
example : otsuImg floatCast [7, 7, 7] false = 0 ∧ otsuImg ratCast [0, 0, 5, 5] true = 0 :=
  ⟨C16_otsu_single_level _ _ _ 7 (by simp), C16_otsu_single_level _ _ _ 5 (by simp)⟩
example : rcImg ratCast [0, 0, 5, 5] true = 5 :=
  C16_rc_single_level ratCast [0, 0, 5, 5] true 5 (by simp) (by simp) (by simp)
example : (histOf [5, 2, 2, 7] false).length ≤ 2 ^ 20 ∧
    ∀ t, loOf (histOf [5, 2, 2, 7] false) ≤ t → t < lastNonzero (histOf [5, 2, 2, 7] false) → t < 8 := by
  refine ⟨by decide, fun t _ h => ?_⟩
  have : lastNonzero (histOf [5, 2, 2, 7] false) = 7 := by decide
  omega
