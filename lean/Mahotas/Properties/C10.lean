/-
C10 — native kernels are memory-safe on the documented domain: for every kernel modelled in `Model/C10*.lean` and all
parameters of its domain, every access of its index model is inside the buffer it names and its loops end. B1 … B9 in
the docstrings are the theorem groups of DESIGN.md §5 (C10); after them come the union–find of `label`, floods and
containers, feature kernels, result buffers written before read.

`haarAccesses` is `C10.haarAccesses n1` (the Haar wavelet, B8) except inside `section SurfB9`, where
`open Mahotas.C10Surf` makes it `C10Surf.haarAccesses n0 n1 y x w` (the `haar_x`/`haar_y` samples of SURF).
-/
import Mahotas.Proofs.C10Loops
import Mahotas.Proofs.C10Tables
import Mahotas.Proofs.C10Hitmiss
import Mahotas.Proofs.C10MiscLbp
import Mahotas.Proofs.C10MiscDist
import Mahotas.Proofs.C10MiscTerm
import Mahotas.Proofs.C10Odometer
import Mahotas.Proofs.C10Interp
import Mahotas.Proofs.C10IWavelet
import Mahotas.Proofs.C10Graham
import Mahotas.Proofs.C10Thin
import Mahotas.Properties.C04
import Mahotas.Proofs.C10Line
import Mahotas.Proofs.C10Surf
import Mahotas.Proofs.Modes
import Mahotas.Proofs.C10Labeled
import Mahotas.Proofs.C10Slic
import Mahotas.Proofs.C10Flood
import Mahotas.Proofs.C10Feat
import Mahotas.Proofs.C10Conv
import Mahotas.Proofs.C10Alloc
open Mahotas Mahotas.C10

/-- The C-order flat index of a position inside the box `[0,shape)` is a valid flat index
(`< shapeSize shape`), for every rank and shape. -/
theorem C10_ravel_lt (shape : List Nat) (p : List Int) (h : inside shape p = true) :
    ravelI shape p < shapeSize shape := C01.ravelI_lt shape p h

/-- The C-order position (`flat_to_pos`, the non-contiguous branch of `at_flat`) of a valid flat
index lies inside the box, for every rank and shape. -/
theorem C10_unravel_inside (shape : List Nat) (i : Nat) (h : i < shapeSize shape) :
    inside shape (unravelI shape i) = true := C01.inside_unravelI shape i h

/-- **B1, coordinates.** For every border mode, every rank, every array shape with positive axis
lengths, every filter shape (smaller, equal, larger than the array; even or odd), every position `p`
and every filter coordinate `k` — no restriction on either, `fix_offset` maps any integer into range —
the coordinates the offset table encodes (`fix_offset(mode, k_d - fshape_d/2 + p_d, ashape_d)` per
axis) are inside the array whenever the entry is not the border flag. -/
theorem C10_filter_offsets_in_bounds (m : Mode) (ashape fshape : List Nat) (p k q : List Int)
    (hpos : ∀ d ∈ ashape, 0 < d) (hf : fshape.length = ashape.length)
    (hp : p.length = ashape.length) (hk : k.length = ashape.length)
    (h : neighbourIndex m ashape fshape p k = some q) : inside ashape q = true :=
  neighbourIndex_inside m ashape fshape p k q hpos hf hp hk h

/-- **B1, per axis.** What `init_filter_offsets` stores for one axis is `cc - position` where
`cc = fix_offset(..)`; added back to the position it is a valid index of that axis. -/
theorem C10_filter_axis_offset (m : Mode) (a f : Nat) (p k cc : Int) (ha : 0 < a)
    (h : fixOffset m (k - origin f + p) a = some cc) :
    0 ≤ p + (cc - p) ∧ p + (cc - p) < (a : Int) := by
  have := fixOffset_range m _ (a : Int) (by omega) cc h
  omega

/-- **B1, addresses, any strides.** The entry of the offset table (the transliteration of the
accumulation `offset += astrides[ii] * (cc - position[ii])`) is the flag exactly when some axis is
flagged; otherwise, added to the address `Σ stride_d·p_d` of the position the iterator points at, it
is the address `Σ stride_d·q_d` of an element `q` inside the array — for arbitrary integer (element)
strides: C, Fortran, negative, sliced. -/
theorem C10_filter_address_is_element (m : Mode) (ashape fshape : List Nat) (strides p k : List Int)
    (hpos : ∀ d ∈ ashape, 0 < d) (hs : strides.length = ashape.length)
    (hf : fshape.length = ashape.length) (hp : p.length = ashape.length)
    (hk : k.length = ashape.length) :
    (tableOffset m ashape strides fshape p k = none ↔ neighbourIndex m ashape fshape p k = none) ∧
    ∀ off, tableOffset m ashape strides fshape p k = some off →
      ∃ q, inside ashape q = true ∧ dot strides p + off = dot strides q := by
  rw [tableOffset_eq m ashape strides fshape p k hs hf hp hk]
  refine ⟨by simp, ?_⟩
  intro off h
  cases hq : neighbourIndex m ashape fshape p k with
  | none => simp [hq] at h
  | some q =>
    simp only [hq, Option.map_some, Option.some.injEq] at h
    exact ⟨q, neighbourIndex_inside m ashape fshape p k q hpos hf hp hk hq, by omega⟩

/-- **B1, C-contiguous case.** The C-order flat index of the element read is in `[0, size)`. -/
theorem C10_filter_flat_index_in_range (m : Mode) (ashape fshape : List Nat) (p k q : List Int)
    (hpos : ∀ d ∈ ashape, 0 < d) (hf : fshape.length = ashape.length)
    (hp : p.length = ashape.length) (hk : k.length = ashape.length)
    (h : neighbourIndex m ashape fshape p k = some q) :
    0 ≤ ravelZ ashape q ∧ ravelZ ashape q < (shapeSize ashape : Int) :=
  ravelZ_range ashape q (neighbourIndex_inside m ashape fshape p k q hpos hf hp hk h)

/-- **B1, the table the driver prints.** For every mode and all shapes of equal rank with positive
array axes, the checker `filterOk` answers `true` and every entry of `filterIdx` (the `idx=` list of
`c10 kind=filter`) is the flag `-1` or a flat index in `[0, size)`. -/
theorem C10_filter_table_ok (m : Mode) (shape fshape : List Nat) (hpos : ∀ d ∈ shape, 0 < d)
    (hf : fshape.length = shape.length) :
    filterOk m shape fshape = true ∧
    ∀ i ∈ filterIdx m shape fshape, i = -1 ∨ (0 ≤ i ∧ i < (shapeSize shape : Int)) := by
  constructor
  · simp only [filterOk, List.all_eq_true]
    intro r hr
    cases r with
    | none => rfl
    | some q => exact filterReads_inside m shape fshape hpos hf q hr
  · intro i hi
    simp only [filterIdx, List.mem_map] at hi
    obtain ⟨r, hr, rfl⟩ := hi
    cases r with
    | none => left; rfl
    | some q => right; exact ravelZ_range shape q (filterReads_inside m shape fshape hpos hf q hr)

/-- **B1, one axis of the region table.** Along an axis of length `a` under a filter of length `f`
(any relation between them), following `iterate_both` from coordinate 0 to coordinate `p` selects the
region whose representative `position[]` (as produced by the "move to the next array region" code of
`init_filter_offsets`) is `p` itself, except on the interior `[f/2, a - f + f/2]`, which shares the
single region computed at `f/2`. -/
theorem C10_filter_region_axis (a f p : Nat) :
    regionPos a f (regionIndex a f p) =
      if origin f ≤ (p : Int) ∧ (p : Int) ≤ (a : Int) - f + origin f then origin f else (p : Int) :=
  regionRep_eq a f p

/-- **B1, stored offsets are valid where they are used.** The table entry a filter iterator uses at
array position `p` was computed at the representative `repPos p` of `p`'s border region, and
`retrieve`/`set` add it to the pointer at `p` itself. For every mode, rank, shapes, integer strides,
position `p` inside the array and filter coordinate `k` inside the filter: that entry equals the
entry computed at `p`; hence pointer-at-`p` plus the stored offset is the address of an element
inside the array (or the entry is the flag). -/
theorem C10_filter_region_offset_valid (m : Mode) (ashape fshape : List Nat) (strides p k : List Int)
    (hs : strides.length = ashape.length) (hf : fshape.length = ashape.length)
    (hp : inside ashape p = true) (hk : inside fshape k = true) :
    tableOffset m ashape strides fshape (repPos ashape fshape p) k =
      tableOffset m ashape strides fshape p k ∧
    ∀ off, tableOffset m ashape strides fshape (repPos ashape fshape p) k = some off →
      ∃ q, inside ashape q = true ∧ dot strides p + off = dot strides q := by
  have h := tableOffset_rep m ashape strides fshape p k hp hk
  refine ⟨h, ?_⟩
  rw [h]
  exact (C10_filter_address_is_element m ashape fshape strides p k (C01.inside_dims_pos ashape p hp)
    hs hf (C01.inside_length hp) (by rw [C01.inside_length hk, hf])).2

/-- **B1, the offsets table itself is read in range.** `retrieve` reads `cur_offsets_idx_[j]`,
`j < footprint_size`, where `cur_offsets_idx_` sits at row `Σ_d regionIndex_d(p_d)·strides[d]` of a
table of `offsets_size = Π_d min(ashape_d, fshape_d)` rows. For every rank, shapes (filter axes ≥ 1,
any relation to the array) and position `p` inside the array: per axis the region index is
`< min(a,f)`, the last coordinate `a-1` uses exactly the last region `min(a,f)-1` (so the carry
`-= backstrides[d] = (step-1)·strides[d]` of `iterate_both` returns to region 0 and never leaves the
table), the row is `< offsets_size`, and `row·size + j` is inside the vector of `offsets_size·size`
entries. -/
theorem C10_filter_table_row_in_bounds (ashape fshape : List Nat) (p : List Int)
    (hf : ∀ f ∈ fshape, 0 < f) (hlen : fshape.length = ashape.length)
    (hp : inside ashape p = true) (fsize j : Nat) (hj : j < fsize) :
    tableRow ashape fshape p < shapeSize (minShape ashape fshape) ∧
    tableRow ashape fshape p * fsize + j < shapeSize (minShape ashape fshape) * fsize ∧
    ∀ a f : Nat, 0 < f → 0 < a →
      (∀ q, q < a → regionIndex a f q < min a f) ∧ regionIndex a f (a - 1) = min a f - 1 := by
  have h := C01.ravelI_lt _ _ (regionIdxPos_inside ashape fshape p hf hlen hp)
  refine ⟨h, ?_, fun a f hf' _ => ⟨fun q hq => regionIndex_lt a f q hf' hq, regionIndex_last a f⟩⟩
  have h2 := Nat.mul_le_mul_right fsize (Nat.succ_le_of_lt h)
  rw [Nat.succ_mul] at h2
  unfold tableRow
  omega

/-- **B1, `iterate_both` keeps the row pointer in step with the array iterator.** Starting at the first
element with the pointer at row 0 and applying `iterate_both` `n` times (its transliterated pointer
arithmetic: `+= strides[d]` when the coordinate leaves/enters a border region, `-= backstrides[d]` on
a carry) while the array iterator advances in C scan order: the array position is inside the array,
and the pointer is at row `tableRow p` — the row of the per-axis region indices of `p` — which is
inside the table (`< offsets_size`). For every rank, every array shape (axes ≥ 1) and every filter
shape (axes ≥ 1; smaller, equal, larger). -/
theorem C10_filter_iterate_both_row (ashape fshape : List Nat) (hpos : ∀ d ∈ ashape, 0 < d)
    (hf : ∀ f ∈ fshape, 0 < f) (hlen : fshape.length = ashape.length) (n : Nat) (p : List Int)
    (row : Int) (h : scanState ashape fshape n = some (p, row)) :
    inside ashape p = true ∧ row = (tableRow ashape fshape p : Int) ∧
    0 ≤ row ∧ row < (shapeSize (minShape ashape fshape) : Int) := by
  rw [scanState_eq ashape fshape hpos hf hlen] at h
  split at h <;> cases h
  have h1 := C01.inside_unravelI ashape n ‹_›
  have h3 := C01.ravelI_lt _ _ (regionIdxPos_inside ashape fshape _ hf hlen h1)
  refine ⟨h1, rfl, by omega, ?_⟩
  unfold tableRow; omega

/-- **B1, the row in use at `p` was filled at `repPos p` (F6, model level).** Transliterating the
position odometer of `init_filter_offsets` ("move to the next array region", all axes, with the wrap
to 0 when `position[ii] >= ashape[ii]`): while row number `tableRow p` of the table is filled,
`position[]` equals `repPos p`. Together with `C10_filter_iterate_both_row` (the pointer is at row
`tableRow p` when the array iterator is at `p`) and `C10_filter_region_offset_valid` (offsets computed
at `repPos p` are valid at `p`): every offset a filter iterator retrieves, added to the array
iterator's pointer, addresses an element of the array — for every mode, rank, array shape (axes ≥ 1),
filter shape (axes ≥ 1: smaller, equal, larger, even, odd) and any integer strides. -/
theorem C10_filter_iterator_refines (m : Mode) (ashape fshape : List Nat) (strides : List Int)
    (hf : ∀ f ∈ fshape, 0 < f) (hlen : fshape.length = ashape.length)
    (hs : strides.length = ashape.length) (p k : List Int) (hp : inside ashape p = true)
    (hk : inside fshape k = true) :
    ∃ pos, fillPos ashape fshape (tableRow ashape fshape p) = some pos ∧
      ∀ off, tableOffset m ashape strides fshape pos k = some off →
        ∃ q, inside ashape q = true ∧ dot strides p + off = dot strides q :=
  ⟨repPos ashape fshape p, fillPos_tableRow ashape fshape p hf hlen hp,
    (C10_filter_region_offset_valid m ashape fshape strides p k hs hlen hp hk).2⟩

/-! non-vacuity (B1): a 1-D array of 3 elements, a filter of 5 (larger than the array), `reflect`:
    15 reads, none flagged, all in range; with `constant` the out-of-array ones are the flag. -/
example : filterIdx .reflect [3] [5] = [1, 0, 0, 1, 2, 0, 0, 1, 2, 2, 0, 1, 2, 2, 1] := by decide +kernel
example : filterIdx .constant [2, 2] [1, 3] =
    [-1, 0, 1, 0, 1, -1, -1, 2, 3, 2, 3, -1] := by decide +kernel
example : tableOffset .nearest [2, 3] [1, 2] [3, 3] [0, 2] [2, 2] = some 1 := by decide +kernel
example : (List.range 7).map (fun p => regionPos 7 3 (regionIndex 7 3 p)) = [0, 1, 1, 1, 1, 1, 6] ∧
    repPos [7, 3] [3, 5] [4, 1] = [1, 1] ∧ tableRow [7, 3] [3, 5] [6, 2] = 8 ∧
    shapeSize (minShape [7, 3] [3, 5]) = 9 ∧ scanState [7, 3] [3, 5] 20 = some ([6, 2], 8) ∧
    fillPos [7, 3] [3, 5] 8 = some [6, 2] ∧ fillPos [7, 3] [3, 5] 4 = some [1, 1] := by decide +kernel

/-- **B2.** For every image size `Ny, Nx ≥ 1`, every row `y ∈ [0,Ny)`, every raw structuring-element
offset `(dy, dx)` (arbitrary integers: the element may be larger than the image) and both operations
(erosion gathers, dilation scatters), after the clamp of `dx` to `[-Nx, Nx]` (lines 182-183) and the two
row clamps (lines 201-204): the row indices `y` and `y+dy` are in `[0,Ny)`, and every column index used
by the border loop (`out[Nx-i-1]`, `in[Nx-1]`, `out[i]`, `in[0]`, … for `i < |dx|`, including the case
`|dx| = Nx` where it runs `Nx` times and the main loop not at all) and by the main loop
(`n = Nx - |dx|` steps from the shifted pointers) is in `[0,Nx)`; both `i != …` loops leave through
their test. -/
theorem C10_fastbinary_in_bounds (ny nx y dy dx : Int) (erosion : Bool)
    (hnx : 0 < nx) (hy0 : 0 ≤ y) (hy1 : y < ny) :
    (∀ a ∈ fbAccesses ny nx y dy (fbClampDx nx dx) erosion, 0 ≤ a.i ∧ a.i < a.size) ∧
    fbDone nx (fbClampDx nx dx) = true := by
  have h := fbClampDx_range nx dx (by omega)
  exact fb_ok ny nx y dy _ erosion hy0 hy1 h.1 h.2

/-! non-vacuity (B2): the hypotheses are met by a 2x3 image and the offset (-5, 9) (clamped to 3:
    the border loop runs 3 times, the main loop 0 times); without the clamp the model leaves the row. -/
example : fbClampDx 3 9 = 3 ∧ (fbAccesses 2 3 0 (-5) (fbClampDx 3 9) true).length = 8 ∧
    allOk (fbAccesses 2 3 0 (-5) (fbClampDx 3 9) true) = true ∧
    allOk (fbAccesses 2 3 0 (-5) 9 true) = false := by decide +kernel

/-- **B3, convolve1d.** For every row length `N1 ≥ 1`, every number of weights `Nf ≥ 0` with
`2·(Nf/2) ≤ N1` (this is the weakest condition under which the first loop
`for (x = centre; x != N1 - centre; ++x)` terminates; the kernel's own guard `centre >= N1` does NOT
imply it) and every border mode: every column read `base0[(x+j-centre)*step]`, every column written
through `result.data(y,centre) + (x-centre)`, every column read through `offsets[j]`
(= `fix_offset(mode, x + (j-centre), N1)`, skipped when it is the flag) and every column written by
the second loop is in `[0,N1)`; the first loop leaves through its test. The second loop is in
bounds for every `Nf`, `N1 ≥ 1` (it needs no guard). -/
theorem C10_convolve1d_in_bounds (m : Mode) (n1 nf : Int) (h1 : 0 < n1) (hf : 0 ≤ nf)
    (hg : 2 * (nf / 2) ≤ n1) :
    (∀ a ∈ conv1dAccesses m n1 nf, 0 ≤ a.i ∧ a.i < a.size) ∧ conv1dDone n1 nf = true :=
  conv1d_ok m n1 nf hf hg

/-- **B3, convolve1d under the guard that exists.** `mahotas.convolve1d` (convolve.py:114) takes the
fast path only when `len(weights) < f.shape[axis]`, i.e. `Nf < N1`; this implies the condition of
`C10_convolve1d_in_bounds`. -/
theorem C10_convolve1d_python_guard (m : Mode) (n1 nf : Int) (hf : 0 ≤ nf) (hg : nf < n1) :
    (∀ a ∈ conv1dAccesses m n1 nf, 0 ≤ a.i ∧ a.i < a.size) ∧ conv1dDone n1 nf = true :=
  C10_convolve1d_in_bounds m n1 nf (by omega) hf (by omega)

/-- **B3, the kernel's own guard is not enough** (only reachable by calling `_convolve.convolve1d`
directly): `N1 = 3`, `Nf = 4` passes `if (centre >= N1) break;` (centre = 2) but `N1 - centre = 1 < 2`,
so `x != N1 - centre` never becomes false: the model reads column 3 of a row of 3 and runs out of budget. -/
theorem C10_convolve1d_kernel_guard_insufficient :
    ¬ ((4 : Int) / 2 ≥ 3) ∧ allOk (conv1dAccesses .reflect 3 4) = false ∧ conv1dDone 3 4 = false := by
  decide +kernel

/-- **B3, find2d.** For every image `N0 × N1` and every template `Nt0 × Nt1` with at least one element per
axis (larger than the image included: the loops are then empty), with exclusive loop bounds
(`y < N0 - Nt0`) and with the inclusive bounds of the source (`y + Nt0 <= N0`): every `array.at(y+sy, x+sx)`,
`target.at(sy,sx)` and `out.at(y,x)` has its row index in `[0,N0)` resp. `[0,Nt0)` and its column
index in `[0,N1)` resp. `[0,Nt1)`. -/
theorem C10_find2d_in_bounds (n0 n1 t0 t1 : Int) (incl : Bool) (ht0 : 1 ≤ t0) (ht1 : 1 ≤ t1) :
    ∀ a ∈ find2dAccesses n0 n1 t0 t1 incl, 0 ≤ a.i ∧ a.i < a.size := by
  have he : (if incl = true then (1 : Int) else 0) ≤ 1 := by split <;> omega
  simp only [find2dAccesses, acc_forall]
  intro y hy x hx
  exact ⟨fun sy hsy sx hsx => by omega, by omega⟩

/-- **B3, majority_filter.** For every image `rows × cols` and every window `N ≥ 0` (the wrapper
enforces `N > 1`): behind `if (rows < N || cols < N) return;` every `input.at(y+dy, x+dx)` has
`y+dy ∈ [0,rows)`, `x+dx ∈ [0,cols)`, the flat output index `(y+N/2)*cols + N/2 + x` is in
`[0, rows*cols)`, and all four `!=` loops leave through their test. -/
theorem C10_majority_in_bounds (rows cols n : Int) (hn : 0 ≤ n) :
    (∀ a ∈ majorityAccesses rows cols n, 0 ≤ a.i ∧ a.i < a.size) ∧
    majorityDone rows cols n = true :=
  majority_ok rows cols n hn

/-! non-vacuity (B3): parameters meeting the hypotheses produce accesses; parameters outside do not pass. -/
example : (conv1dAccesses .mirror 5 4).length = 25 ∧ allOk (conv1dAccesses .mirror 5 4) = true := by decide +kernel
example : (find2dAccesses 3 3 2 2 true).length = 72 ∧ allOk (find2dAccesses 3 3 0 2 true) = false := by decide +kernel
example : (majorityAccesses 4 5 3).length = 38 ∧ allOk (majorityAccesses 2 2 (-1)) = false := by decide +kernel

/-- **B6.** For every line length `n ≥ 1`, with the two float comparisons abstracted as arbitrary
oracles subject only to the two facts the kernel relies on — (i) the test `s > z[0]` against
`z[0] = -inf` succeeds (`cmp q 0 = true`; true whenever `s` is not NaN, i.e. the input holds no NaN
and no `inf - inf`), (ii) `z[kmax+1] = +inf` is never `< q` (`lt2 q kmax = false`) — every access of
the two loops is in range: in the do-while `0 ≤ k ≤ q-1`, so `v[k]`, `z[k]`, `f[q]`, `f[v[k]]` are in
`v[n]`, `z[n+1]`, `f[n]` (the stored values `v[k]` are earlier `q`'s); after `++k`, `v[k]`, `z[k]`,
`z[k+1]` with `k ≤ q ≤ n-1`; in the second loop `z[k+1]`, `v[k]`, `Df[q]`, `f[v[k]]` with `k ≤ kmax < n`;
and `k` never becomes `-1` (the do-while leaves through `break`). -/
theorem C10_dist_transform_in_bounds (cmp lt2 : Nat → Nat → Bool) (n : Nat) (hn : 0 < n)
    (hcmp : ∀ q, cmp q 0 = true) (hlt : ∀ q, lt2 q (dtKmax cmp n) = false) :
    (∀ a ∈ dtAccesses cmp lt2 n, 0 ≤ a.i ∧ a.i < a.size) ∧
    (dtFirst cmp n (n - 1) 1 0 [0]).2.isSome = true := by
  -- the loops as `dtAccesses` starts them: the first `n - 1` rounds from `q = 1`, `k = 0`, stack `v[0] = 0`; the second `n` rounds
  -- from `q = 0`, `k = 0`
  obtain ⟨hacc, kf, vsf, he, hkf, hlen, hmem⟩ :=
    dtFirst_spec cmp n hcmp (n - 1) 1 0 [0] (by omega) (by omega)
      ⟨rfl, fun v h => by obtain rfl := List.mem_singleton.1 h; omega⟩
  have hk : dtKmax cmp n = kf := by simp [dtKmax, he]
  rw [hk] at hlt
  refine ⟨?_, by simp [he]⟩
  simp only [dtAccesses, he, acc_forall]
  exact ⟨⟨by omega, hacc⟩, dtSecond_spec lt2 n kf vsf.reverse hkf hlt (by simp [hlen])
    (fun x hx => hmem x (List.mem_reverse.mp hx)) n 0 0 (by omega) (by omega)⟩

/-! non-vacuity (B6): always-pop (down to the guard) and never-pop oracles on n = 4 meet the
    hypotheses; without assumption (i) (a NaN) the model reaches `v[-1]`. -/
example : (∀ q : Nat, (fun (_ k : Nat) => k == 0) q 0 = true) ∧ dtKmax (fun _ k => k == 0) 4 = 1 ∧
    allOk (dtAccesses (fun _ k => k == 0) (fun _ k => decide (k < 1)) 4) = true ∧
    (dtAccesses (fun _ k => k == 0) (fun _ k => decide (k < 1)) 4).length = 49 :=
  ⟨fun _ => rfl, by decide +kernel, by decide +kernel, by decide +kernel⟩
example : dtKmax (fun _ _ => true) 4 = 3 ∧
    allOk (dtAccesses (fun _ _ => true) (fun _ k => decide (k < 3)) 4) = true := by decide +kernel
example : allOk (dtAccesses (fun _ _ => false) (fun _ _ => false) 3) = false := by decide +kernel

/-- **B7, bbox_labeled.** With the allocation of `labeled.bbox` (`ndim·2·(max+1)` entries) every
`extrema[label·2·ndim + 2j (+1)]`, `j < ndim`, is in range when `0 ≤ label ≤ max`; and conversely,
for `ndim ≥ 1`, a label outside `[0, max]` — in particular any negative label — puts the very first
access outside the table: this is exactly why negative labels are outside the domain. -/
theorem C10_bbox_labeled_in_bounds (nd maxlabel label : Int) :
    (0 ≤ label → label ≤ maxlabel →
      ∀ a ∈ bboxAccesses nd maxlabel label, 0 ≤ a.i ∧ a.i < a.size) ∧
    (1 ≤ nd → (∀ a ∈ bboxAccesses nd maxlabel label, 0 ≤ a.i ∧ a.i < a.size) →
      0 ≤ label ∧ label ≤ maxlabel) :=
  ⟨bboxAccesses_ok nd maxlabel label, bboxAccesses_bad nd maxlabel label⟩

/-- **B7, labeled_foldl.** Behind the kernel's guard `label >= 0 && label < maxlabel` the access
`result[label]` is in range for every label value (negative and too large labels are skipped). -/
theorem C10_labeled_foldl_in_bounds (maxi label : Int) :
    ∀ a ∈ foldlAccesses maxi label, 0 ≤ a.i ∧ a.i < a.size := by
  unfold foldlAccesses
  split
  · simp only [acc_forall]
    omega
  · nofun

/-- **B7, center_of_mass with labels.** For every rank, every label with `0 ≤ label ≤ max_label`
(the kernel rejects negative labels and computes `max_label` itself) and every flat position
`i < size` of the image: `totals[label]`, `centers[label·ndim + j]` (`j < ndim`) are inside their
allocations (`max_label+1`, `ndim·(max_label+1)`), and `labels[i]` is inside the labels buffer
provided it has at least `size` elements — the guard `same_shape(array, labels_arr)` of the entry point. -/
theorem C10_center_of_mass_in_bounds (nd maxlabel label size lsize : Int) (h0 : 0 ≤ label)
    (h1 : label ≤ maxlabel) (hs : size ≤ lsize) :
    ∀ a ∈ comAccesses nd maxlabel label size lsize, 0 ≤ a.i ∧ a.i < a.size := by
  simp only [comAccesses, comAccessesAt, acc_forall]
  intro i hi
  refine ⟨by omega, fun j hj => ?_⟩
  have := flat2_range label j (maxlabel + 1) nd h0 (by omega) hj.1 hj.2
  rw [Int.mul_comm nd]
  omega

/-- **B7, cooccurence.** `++res.at(val, val2)` is inside a result of shape `(m0, m1)` whenever both
dimensions exceed the largest pixel value (`output = zeros((max+1, max+1))`, the default allocation);
negative values are rejected by the kernel before the access. -/
theorem C10_cooccurence_in_bounds (m0 m1 maxv v v2 : Int) (hv : v ≤ maxv) (hv2 : v2 ≤ maxv)
    (hm0 : maxv < m0) (hm1 : maxv < m1) :
    ∀ a ∈ coocAccesses m0 m1 v v2, 0 ≤ a.i ∧ a.i < a.size := by
  unfold coocAccesses
  split
  · nofun
  · simp only [acc_forall]
    omega

/-- **B7, a test `min(output.shape) >= f.max()` for a user-supplied `output` is off by one**
(`texture.py:440` rejects `np.min(output.shape) <= f.max()`, fix 8e0fd3a): a 3×3 output passes `>=` for an image
whose maximum is 3, but the pixel value 3 indexes row 3 of 3. -/
theorem C10_cooccurence_assertion_off_by_one :
    min (3 : Int) 3 ≥ 3 ∧ allOk (coocAccesses 3 3 3 0) = false := by decide +kernel

/-- **B7, compute_plus_minus.** For an `N × N` matrix, `px_plus_y.at(i+j)` and `px_minus_y.at(|i-j|)`
are in range when the vectors have at least `2N-1` resp. `N` elements (`texture.py:267-268` allocates
`2·maxv` and `maxv` for `N = maxv`). -/
theorem C10_compute_plus_minus_in_bounds (n plus minus : Int) (hp : 2 * n - 1 ≤ plus)
    (hm : n ≤ minus) : ∀ a ∈ plusMinusAccesses n plus minus, 0 ≤ a.i ∧ a.i < a.size := by
  simp only [plusMinusAccesses, acc_forall]
  intro i hi j hj
  omega

example : (bboxAccesses 2 3 3).length = 4 ∧ allOk (bboxAccesses 2 3 3) = true ∧
    allOk (bboxAccesses 2 3 (-1)) = false ∧ allOk (bboxAccesses 2 3 4) = false := by decide +kernel
example : foldlAccesses 3 2 = [⟨2, 3⟩] ∧ foldlAccesses 3 (-1) = [] ∧ foldlAccesses 3 3 = [] := by decide +kernel
example : (comAccesses 2 1 1 6 6).length = 24 ∧ allOk (comAccesses 2 1 1 6 6) = true ∧
    allOk (comAccesses 2 1 1 6 4) = false := by decide +kernel

/-- **B4, the margin test is sufficient.** For every rank and all shapes of the image and of `Bc`
(equal rank; even and odd sizes), at every flat index `i < N` whose position `flat_to_pos(i)` passes
the margin test on every axis (`min(cur[d], dim(d)-cur[d]-1) >= Bc.dim(d)/2`), every neighbour
`i + delta`, `delta = pos_to_flat(k - centre)` for a coordinate `k` of `Bc`, is a flat index in
`[0,N)` — so `input.at_flat(i + delta)` is inside the buffer (for a non-contiguous input
`C10_unravel_inside` then gives a position inside the array). -/
theorem C10_hitmiss_margin_test_sufficient (shape bshape : List Nat) (i : Nat)
    (hlen : bshape.length = shape.length) (hi : i < shapeSize shape)
    (h : hmFirstFail shape bshape (unravelI shape i) = none) :
    ∀ δ ∈ hmDeltas shape bshape, 0 ≤ (i : Int) + δ ∧ (i : Int) + δ < (shapeSize shape : Int) :=
  hm_neighbour_ok shape bshape i hi
    (firstFail_none_fits shape bshape _ hlen (unravelI_length shape i) h)

/-- **B4, the whole loop including the `slack` shortcut.** For every rank ≥ 1 and all shapes of the
image and of `Bc` of equal rank (`Bc` smaller, equal or larger than the image, even or odd; the positivity
hypotheses `hs`, `hb` are not used: `hmRun_ok_all` also covers zero-length axes), the transliterated main loop of `hitmiss`
— state `(i, slack)`; margin test only
when `slack = 0`, skipping `size` elements (stopping at `N`) on failure; after a pass the next
`slack = dim(last) - Bc.dim(last) + 1` pixels of the row are processed WITHOUT re-testing — only
dereferences `res.at_flat(i)` with `i < N` and `input.at_flat(i + delta)` with `0 ≤ i + delta < N`,
and ends through `i == N` within `2N+2` steps (in particular `slack` is never set to a value `≤ 0`,
which would disable the test for good). -/
theorem C10_hitmiss_in_bounds (shape bshape : List Nat) (hne : shape ≠ [])
    (hlen : bshape.length = shape.length) (hs : ∀ d ∈ shape, 0 < d) (hb : ∀ d ∈ bshape, 0 < d) :
    (∀ a ∈ (hmRun shape bshape true).1, 0 ≤ a.i ∧ a.i < a.size) ∧
    (hmRun shape bshape true).2 = true :=
  hmRun_ok_all shape bshape hne hlen

/-! non-vacuity (B4): a 4x5 image and an even-sized 2x4 element (the slack covers the column that
    fails the margin test but fits); without the margin test the model leaves the buffer. -/
example : (hmRun [4, 5] [2, 4] true).1.length = 52 ∧ allOk (hmRun [4, 5] [2, 4] true).1 = true ∧
    (hmRun [4, 5] [2, 4] true).2 = true ∧ allOk (hmRun [4, 5] [2, 4] false).1 = false := by decide +kernel
example : (plusMinusAccesses 3 6 3).length = 36 ∧ allOk (plusMinusAccesses 3 6 3) = true ∧
    allOk (plusMinusAccesses 3 4 3) = false ∧ allOk (coocAccesses 4 4 3 3) = true := by decide +kernel

/-- **B8, zoom_shift.** For every rank, every array shape with at least one element per axis, every spline
order (0..5 and beyond), every border mode and every per-axis coordinate the border rule can produce —
in fact for ARBITRARY integer `start`s, one per axis — every index `idxs[fi]`, `fi < (order+1)^rank`, that
`zoom_shift` forms for an output position addresses an element of the array:
(i) with arbitrary integer element strides the index equals `Σ stride_r·q_r` for a position `q` inside the
array, where `q_r = start_r + ff_r` on an axis without edge offsets and the mirror-folded sample
(`s2 = 2·len-2` folding, `len ≤ 1 → 0`) on an axis with them — this covers both branches of the code, the
`on_edge` sum of `edge_offsets`/`ff[r]·stride(r)` plus `oo`, and `oo + foffsets[fi]`, where `foffsets`
and `fcoordinates` are produced by the transliterated odometer (`off += stride(r)` / `off -= stride(r)·order`);
(ii) for the C-contiguous array the entry point insists on (`PyArray_ISCARRAY`), `0 ≤ idx < size`;
(iii) the per-axis `start`s computed from a coordinate list of the right length have the right length, and
the base coordinate the border rule leaves (`cc` after `fix_offset`) is in `[0, len)` — so the `int(...)`
conversions act on small numbers;
(iv) the edge folding is the `mirror` rule of `fix_offset`. -/
theorem C10_zoom_shift_in_bounds (shape : List Nat) (order : Nat) (starts : List Int)
    (hpos : ∀ d ∈ shape, 0 < d) (hst : starts.length = shape.length) :
    (∀ (strides : List Int), strides.length = shape.length →
      ∀ idx ∈ zsAccesses shape strides order starts,
        ∃ q, inside shape q = true ∧ idx = dot strides q) ∧
    (∀ idx ∈ zsAccesses shape (cStrides shape) order starts, 0 ≤ idx ∧ idx < (shapeSize shape : Int)) ∧
    (∀ (m : Mode) (coord st : List Int), coord.length = shape.length →
      zsStarts m order shape coord = some st → st.length = shape.length) ∧
    (∀ (m : Mode) (len c b : Int), 0 < len → zsBase m len c = some b → 0 ≤ b ∧ b < len) ∧
    (∀ len idx : Int, 0 < len → fixOffset .mirror idx len = some (zsFold len idx) ∧
      0 ≤ zsFold len idx ∧ zsFold len idx < len) := by
  refine ⟨fun strides hs => zsAccesses_address shape strides order starts hpos hs hst, ?_,
    fun m coord st hl h => zsStarts_length m order shape coord st hl h,
    fun m len c b h hb => zsBase_range m len c b h hb,
    fun len idx h => ⟨zsFold_eq_mirror len idx, zsFold_range len idx h⟩⟩
  intro idx hidx
  obtain ⟨q, hq, rfl⟩ :=
    zsAccesses_address shape (cStrides shape) order starts hpos (cStrides_length shape) hst idx hidx
  rw [dot_cStrides]
  exact ravelZ_range shape q hq

/-- **B8, zoom_shift, the per-axis tables.** The filter coordinates `ff[r] = fcoordinates[r + fi·rank]` produced by
the odometer have one entry per axis and stay in `[0, order]` for every `fi` (any number of steps, any strides):
so `splvals[r][kk][ff[r]]` and `edge_offsets[r][kk][ff[r]]` (vectors of `order+1` entries) are read in range, and
the running `off` stored in `foffsets[fi]` is `Σ stride(r)·ff[r]`. -/
theorem C10_zoom_shift_tables_in_bounds (order : Nat) (strides : List Int) (fi : Nat) :
    (zsOdo order strides fi).1.length = strides.length ∧
    (∀ f ∈ (zsOdo order strides fi).1, 0 ≤ f ∧ f < (order : Int) + 1) ∧
    (zsOdo order strides fi).2 = dot strides (zsOdo order strides fi).1 := by
  obtain ⟨h1, h2, h3⟩ := zsOdo_spec order (by omega) strides fi
  exact ⟨h1, fun f hf => by have := h2 f hf; omega, h3⟩

/-- **B8, spline_filter1d.** For every line length (the kernel returns at once when `len ≤ 1`), every number
of poles and every value — positive, zero, negative, larger than the line — of the horizon
`max = (int)ceil(log_tolerance / log|pole|)` of the truncated initial sum, every `line[stride·ll]` of the
weight loop, of the initial causal sum (`ll < max` when `max < len`, else the mirrored sum with
`line[stride·(len-1)]` and `ll ≤ len-2`), of the causal recursion (`ll`, `ll-1`, `1 ≤ ll < len`), of
`line[stride·(len-1)]`, `line[stride·(len-2)]` and of the anticausal recursion (`ll+1`, `ll`,
`len-2 ≥ ll ≥ 0`) has its axis coordinate `ll` in `[0, len)`. -/
theorem C10_spline_filter1d_in_bounds (len : Int) (mxs : List Int) :
    ∀ a ∈ splineAccesses len mxs, 0 ≤ a.i ∧ a.i < a.size := by
  unfold splineAccesses
  split
  · nofun
  · simp only [acc_forall]
    -- per pole: the initial sum (next goal), `line[0]`, the causal recursion, the three end reads, the anticausal recursion
    refine ⟨fun ll hll => hll, fun mx _ => ⟨⟨⟨⟨?_, by omega⟩, fun j hj => by omega⟩, by omega⟩, fun j hj => by omega⟩⟩
    split
    · simp only [acc_forall]
      exact ⟨by omega, fun j hj => by omega⟩
    · simp only [acc_forall]
      exact ⟨by omega, fun j hj => by omega⟩

/-- **B8, haar / ihaar.** For every row length `N1 ≥ 0`, odd lengths included: `haar` reads the columns `2x`,
`2x+1` (`x < N1/2`), writes `low[x]` and `high[x] = buffer[N1/2 + x]` inside the buffer of `N1` elements
(for odd `N1` the last buffer element is never written by the loop; it keeps the zero that
`bufdata.resize(N1)` put there) and copies `buffer[x]` to column `x`, `x < N1`; both `!=` loops leave through
their test. `ihaar`, for every column step `≥ 1`: the element offsets `x·step` (low) and
`(step·N1)/2 + x·step` (high, as `ihaarAccesses` has it: the source before 67fd67c; `_convolve.cpp` has
`step·(N1/2)`, the same offset when `N1` is even or `step = 1`) are inside the extent `(N1-1)·step + 1` of the row,
`buffer[2x]`, `buffer[2x+1]` inside the buffer. -/
theorem C10_haar_in_bounds (n1 : Int) (h : 0 ≤ n1) :
    (∀ a ∈ haarAccesses n1, 0 ≤ a.i ∧ a.i < a.size) ∧ haarDone n1 = true ∧
    ∀ step : Int, 1 ≤ step → ∀ a ∈ ihaarAccesses n1 step, 0 ≤ a.i ∧ a.i < a.size :=
  ⟨(haar_ok n1 h).1, (haar_ok n1 h).2, fun step hs => ihaarAccesses_ok n1 step h hs⟩

/-- **B8, wavelet / iwavelet (daubechies, idaubechies).** For every row length `N1 ≥ 0` (odd included) and
every number of coefficients `ncoeffs ≥ 0`: `_access(data, N, p, step)` dereferences only `0 ≤ p < N`
(it returns 0 otherwise), so every column read by `wavelet` (`p = 2x+ci`) is in `[0,N1)`; `coeffs[ci]`,
`coeffs[ncoeffs-ci-1]` are inside the coefficient array; `low[x]`, `high[x] = buffer[N1/2+x]`, `x < N1/2`,
and the copy loop stay inside the buffer of `N1` elements resp. the row. For `iwavelet` and every column
step `≥ 1`: `low[xmap·step]`, `high[xmap·step]` with `high = data + (step·N1)/2` (as `iwaveletAccesses` has it; the source
has `step·(N1/2)`, see `C10_haar_in_bounds`) and `0 ≤ xmap < N1/2` are inside the extent of the row, `buffer[x]`, `x < N1`,
inside the buffer. -/
theorem C10_wavelet_in_bounds (n1 nc : Int) (h : 0 ≤ n1) (hc : 0 ≤ nc) :
    (∀ a ∈ waveletAccesses n1 nc, 0 ≤ a.i ∧ a.i < a.size) ∧ waveletDone n1 nc = true ∧
    ∀ step : Int, 1 ≤ step → ∀ a ∈ iwaveletAccesses n1 nc step, 0 ≤ a.i ∧ a.i < a.size :=
  ⟨(wavelet_ok n1 nc h hc).1, (wavelet_ok n1 nc h hc).2, fun step hs => iwaveletAccesses_ok n1 nc step h hc hs⟩

/-- **B8, integral (SURF integral image).** For every `N0 × N1 ≥ 0` (behind `if (N0 == 0 || N1 == 0) return;`):
the recurrence reads `[i-1][j]`, `[i][j-1]`, `[i-1][j-1]` only for `i, j ≥ 1`, the first row only `[0][j-1]`,
`j ≥ 1`, the first column only `[i-1][0]`, `i ≥ 1`: every row index is in `[0,N0)`, every column index in
`[0,N1)`, and the `j != N1`, `i != N0` loops starting at 1 leave through their test. -/
theorem C10_integral_in_bounds (n0 n1 : Int) (h0 : 0 ≤ n0) (h1 : 0 ≤ n1) :
    (∀ a ∈ integralAccesses n0 n1, 0 ≤ a.i ∧ a.i < a.size) ∧ integralDone n0 n1 = true :=
  integral_ok n0 n1 h0 h1

/-- **B8, Graham scan.** For every number of points `N` and every outcome of the `isLeft(..) >= 0` tests
(two arbitrary oracles, one per scan; a pair `(i,h)` is tested at most once per scan): every `P[h-2]`,
`P[h-1]`, `P[i]`, `std::swap(P[h],P[i])` of both `inPlaceScan`s — the second on `P + h - 2` with `N - h + 2`
points, where `2 ≤ h ≤ N` — every `swap(P[i],P[i+1])`, `i < h-1`, and every `Pv[i]`, `i <` the returned hull
size, of the caller is inside the vector of `N` points; the returned size is in `[0, N]`; the `i != h-1`
loop leaves through its test. -/
theorem C10_graham_in_bounds (cmp1 cmp2 : Nat → Nat → Bool) (n : Nat) :
    (∀ a ∈ (grahamRun cmp1 cmp2 n).1, 0 ≤ a.i ∧ a.i < a.size) ∧
    0 ≤ (grahamRun cmp1 cmp2 n).2.1 ∧ (grahamRun cmp1 cmp2 n).2.1 ≤ n ∧
    (grahamRun cmp1 cmp2 n).2.2 = true := by
  unfold grahamRun
  split
  · refine ⟨?_, by simp, by simp, rfl⟩
    simp only [acc_forall]
    exact fun i hi => hi
  · rename_i hn
    dsimp only
    -- a scan of `m` points as `grahamRun` starts it: `m - 1` steps from `i = 1`, `h = 1`; the second at base `h - 2`, `m = n - h + 2`
    have s1 := ghScan_spec cmp1 0 n (by omega) (n - 1) 1 1 (by omega) (by omega) (by omega)
    generalize ghScan cmp1 0 n (n - 1) 1 1 = r1 at s1 ⊢
    obtain ⟨s1a, s1b, s1c, s1d⟩ := s1
    have hh2 : 2 ≤ r1.2 := s1c (by omega)
    have s2 := ghScan_spec cmp2 ((r1.2 : Int) - 2) n (by omega)
      (((n : Int) - (r1.2 : Int) + 2).toNat - 1) 1 1 (by omega) (by omega) (by omega)
    generalize ghScan cmp2 ((r1.2 : Int) - 2) n (((n : Int) - (r1.2 : Int) + 2).toNat - 1) 1 1 = r2 at s2 ⊢
    obtain ⟨s2a, s2b, s2c, s2d⟩ := s2
    have hr2 : 2 ≤ r2.2 := s2c (by omega)
    obtain ⟨m, d⟩ := iterNe_spec 0 ((r1.2 : Int) - 1) (n + 1) (by omega) (by omega)
    refine ⟨?_, by omega, by omega, d⟩
    simp only [acc_forall, m]
    exact ⟨⟨⟨s1a, fun i hi => by omega⟩, s2a⟩, fun i hi => by omega⟩

/-- **B8, a line of an n-D array.** `spline_filter1d` works on `line = &*iter` at the positions `p` whose
coordinate along `axis` is 0 and dereferences `line[stride(axis)·ll]`; `haar` / `wavelet` work on
`data = array.data(y)` (position `(y, 0)`, `axis = 1`) and dereference `data[step·x]`. For every rank, shape,
integer element strides (any layout), position `p` inside the array with `p[axis] = 0` and every axis
coordinate `0 ≤ ll < shape[axis]` — which is what `C10_spline_filter1d_in_bounds`, `C10_haar_in_bounds` and
`C10_wavelet_in_bounds` establish — the address `Σ stride·p + stride(axis)·ll` is the address of the position
`p` with its `axis` coordinate set to `ll`, which is inside the array. -/
theorem C10_line_address (shape : List Nat) (strides p : List Int) (axis : Nat) (ll : Int)
    (hp : inside shape p = true) (hs : strides.length = shape.length) (ha : axis < shape.length)
    (h0 : p.getD axis 0 = 0) (hl0 : 0 ≤ ll) (hl1 : ll < ((shape.getD axis 0 : Nat) : Int)) :
    inside shape (p.set axis ll) = true ∧
    dot strides p + strides.getD axis 0 * ll = dot strides (p.set axis ll) :=
  line_address shape strides p axis ll hp ha h0 hl0 hl1

example : inside [3, 4] [2, 0] = true ∧ dot [4, 1] [2, 0] + ([4, 1] : List Int).getD 1 0 * 3 = 11 ∧
    inside [3, 4] ([2, 0].set 1 3) = true := by decide +kernel
example : zsAccesses [4, 5] (cStrides [4, 5]) 3 [-1, 3] =
    [8, 9, 8, 7, 3, 4, 3, 2, 8, 9, 8, 7, 13, 14, 13, 12] := by decide +kernel
example : zsOdo 3 [5, 1] 7 = ([1, 3], 8) ∧ zsOdo 3 [5, 1] 16 = ([0, 0], 0) := by decide +kernel
example : zsStarts .reflect 3 [4, 5] [0, 4] = some [-1, 3] ∧ zsStarts .constant 3 [4, 5] [-1, 4] = none ∧
    zsFold 5 (-3) = 3 ∧ zsFold 5 6 = 2 ∧ zsFold 1 9 = 0 := by decide +kernel
example : (splineAccesses 5 [3, 40]).length = 61 ∧ allOk (splineAccesses 5 [3, 40]) = true ∧
    splineAccesses 1 [3] = [] := by decide +kernel
example : (haarAccesses 5).length = 18 ∧ (waveletAccesses 5 4).length = 37 ∧
    (iwaveletAccesses 5 4 3).length = 53 ∧ allOk (iwaveletAccesses 5 4 3) = true ∧
    (integralAccesses 3 4).length = 68 ∧ allOk (ihaarAccesses 5 3) = true := by decide +kernel
example : (grahamRun (fun _ _ => true) (fun i _ => i % 2 == 0) 6).2.1 = 3 ∧
    (grahamRun (fun _ _ => true) (fun i _ => i % 2 == 0) 6).1.length = 52 := by decide +kernel

/-- **B5, thin.** On a `rows × cols` C-contiguous image (`cols ≥ 1`) with no set pixel on its one-pixel frame
(the image `thin.py` builds: the bounding box of the input surrounded by a frame of zeros), a whole
`fast_hitmiss` sweep — `match(first, elem)` at every flat index for all eight structuring elements, whose
offsets `d0·cols + d1` come from the delta tables extracted from `_thin.cpp` — dereferences `*array`
at indices `< rows·cols` and the six neighbours `*(array + offset[j])` only of set pixels, all of them
inside the buffer; and the update after each element (`if (*pb && *pa) *pa = false`) only clears pixels,
whatever the buffer holds, so the frame stays clear and the size unchanged: the hypotheses hold again for
the next element and the next iteration (the induction over the rounds of `max_iter` is not stated). -/
theorem C10_thin_in_bounds (rows cols : Int) (img : List Bool) (hc : 0 < cols)
    (hlen : (img.length : Int) = rows * cols) (hf : thinFrameClear rows cols img = true) :
    (∀ a ∈ thinSweep rows cols img, 0 ≤ a.i ∧ a.i < a.size) ∧
    ∀ buf : List Bool, buf.length = img.length →
      thinFrameClear rows cols (thinUpdate img buf) = true ∧
      ((thinUpdate img buf).length : Int) = rows * cols :=
  ⟨thinSweep_ok rows cols img hc hlen hf, fun buf hb =>
    ⟨thinUpdate_frameClear rows cols img buf hf, by rw [thinUpdate_length img buf hb]; exact hlen⟩⟩

/-! non-vacuity (B5): a framed 3x3 image; a set pixel on the frame of a 2x2 image leaves the buffer -/
example : thinFrameClear 3 3 [false, false, false, false, true, false, false, false, false] = true ∧
    (thinSweep 3 3 [false, false, false, false, true, false, false, false, false]).length = 57 ∧
    thinFrameClear 2 2 [true, false, false, false] = false ∧
    allOk (thinSweep 2 2 [true, false, false, false]) = false := by decide +kernel

/-- **B4, cwatershed.** For every rank and shape, every flat position `pos < N` taken from the queue with a
margin that is a lower bound of its true distance to the border (`margin_of` itself at the marker scan;
the bound is re-established for every pushed neighbour and for the running margin — last three conjuncts),
and every offset `o` of the neighbourhood (entry `delta = pos_to_flat(o)`, `step` = Chebyshev length):
whenever the bounds decision of the inner loop lets the neighbour through (`nmargin = margin - step ≥ 0`,
or the recomputed `margin_of(position + o) ≥ 0`), `npos = pos + delta` is in `[0, N)` — so `status[npos]`,
`res[npos]`, `lines[npos]`, `array[npos]` are inside their buffers. From `C04_margin_check_sound` and
`C04_delta_sound`. -/
theorem C10_cwatershed_in_bounds (s : List Nat) (pos : Nat) (m : Int) (o : List Int) (nm m' : Int)
    (hi : pos < shapeSize s) (ho : o.length = s.length) (hm : m ≤ C04.marginOf s (unravelI s pos))
    (h : C04.nbCheck s pos m ⟨C04.posToFlat s o, C04.chebStep o, o⟩ = some (nm, m')) :
    (0 ≤ (pos : Int) + C04.posToFlat s o ∧ (pos : Int) + C04.posToFlat s o < (shapeSize s : Int)) ∧
    nm ≤ C04.marginOf s (addPos (unravelI s pos) o) ∧ m ≤ m' ∧ m' ≤ C04.marginOf s (unravelI s pos) := by
  have hs := C04_margin_check_sound s pos m o (C04.posToFlat s o) hi ho hm
  rw [h] at hs
  obtain ⟨hin, h1, h2, h3⟩ := hs
  have hp := C01.inside_unravelI s pos hi
  have hr := C01.ravelI_unravelI s pos hi
  have hd := (C04_delta_sound s (unravelI s pos) o hp hin).1
  rw [hr] at hd
  have hlt := C01.ravelI_lt s _ hin
  refine ⟨?_, h1, h2, h3⟩
  omega

/-- **B4, cwatershed, the table the driver prints.** For every shape and every list of offsets of the rank
of the image, all neighbour accesses enumerated by `cwAccesses` (every position, every offset, margin test
started from the exact margin) are in `[0, N)`. -/
theorem C10_cwatershed_table_ok (shape : List Nat) (offs : List (List Int))
    (ho : ∀ o ∈ offs, o.length = shape.length) :
    ∀ a ∈ cwAccesses shape offs, 0 ≤ a.i ∧ a.i < a.size := by
  simp only [cwAccesses, acc_forall, List.mem_range]
  intro i hi o hoo
  cases hc : C04.nbCheck shape i (C04.marginOf shape (unravelI shape i))
      ⟨C04.posToFlat shape o, C04.chebStep o, o⟩ with
  | none => nofun
  | some r =>
    simp only [acc_forall]
    exact (C10_cwatershed_in_bounds shape i _ o r.1 r.2 hi (ho o hoo) (Int.le_refl _) hc).1

example : (cwAccesses [2, 3] [[0, 1], [1, 0], [-1, -1]]).length = 9 ∧
    allOk (cwAccesses [2, 3] [[0, 1], [1, 0], [-1, -1]]) = true := by decide +kernel

/-- **B7, histogram.** `compute_histogram` executes `++histogram[*data]` for the `N` elements of the array. Let the
dtype be one the type switch of `py_histogram` admits (`histTypeRange ty = some (lo, hi)`: NPY_UBYTE, NPY_USHORT,
NPY_UINT, NPY_ULONG, NPY_ULONGLONG — everything else is rejected with `RuntimeError` before any access), let the
elements be values of that dtype, and let the histogram have the `int(img.max()) + 1` bins `fullhistogram` allocates
(`histWrapperSize`; an empty array never reaches the kernel because `max()` raises). Then, for every array length
and every content: every `data[i]` is in `[0, N)` and every bin index `histogram[data[i]]` is in `[0, max+1)`. -/
theorem C10_histogram_in_bounds (ty : Nat) (lo hi : Int) (vals : List Int) (s : Int)
    (hty : C10Misc.histTypeRange ty = some (lo, hi)) (hv : ∀ v ∈ vals, lo ≤ v ∧ v ≤ hi)
    (hs : C10Misc.histWrapperSize vals = some s) :
    ∀ a ∈ C10Misc.histAccesses vals s, 0 ≤ a.i ∧ a.i < a.size := by
  have hlo := C10Misc.histTypeRange_lo ty lo hi hty
  exact C10Misc.histAccesses_ok vals s (fun v h => by have := hv v h; omega)
    (C10Misc.histWrapperSize_gt vals s hs)

/-- **B7, histogram: the unsigned guard is needed.** (i) Every dtype the switch admits has no negative values.
(ii) If the array could hold a negative value `v` (a signed dtype let through), the access `histogram[v]` is out of
bounds whatever the number of bins — in particular for the wrapper's `max()+1`. (iii) A value `≥` the number of
bins is out of bounds as well (a histogram shorter than `max()+1`, possible only in a direct native call). -/
theorem C10_histogram_needs_unsigned :
    (∀ ty lo hi, C10Misc.histTypeRange ty = some (lo, hi) → lo = 0) ∧
    (∀ (vals : List Int) (s v : Int), v ∈ vals → (v < 0 ∨ s ≤ v) →
      ¬ ∀ a ∈ C10Misc.histAccesses vals s, 0 ≤ a.i ∧ a.i < a.size) :=
  ⟨C10Misc.histTypeRange_lo, fun vals s v hv hb => C10Misc.histAccesses_bad vals s v hv hb⟩

/-! non-vacuity: an unsigned image; the same call with a negative element (bins = max()+1 = 4) leaves the buffer -/
example : C10Misc.histWrapperSize [3, 0, 2, 3] = some 4 ∧ (C10Misc.histAccesses [3, 0, 2, 3] 4).length = 8 ∧
    C10Misc.allOk (C10Misc.histAccesses [3, 0, 2, 3] 4) = true ∧
    C10Misc.histWrapperSize [3, -1, 2] = some 4 ∧ C10Misc.allOk (C10Misc.histAccesses [3, -1, 2] 4) = false ∧
    C10Misc.histTypeRange 5 = none ∧ C10Misc.histTypeRange 6 = some (0, 4294967295) := by decide +kernel

/-- **lbp map.** `_lbp.map(codes, points)` for `0 ≤ points ≤ 32` (no guard in the entry point; `lbp.py` builds
`np.arange(2**points, dtype=uint32)`, so `points ≤ 32` is what the uint32 code type can hold) and codes of `points`
bits (`codes = Σ bit_k·2^k`, `k < points`): every `data[i]` is inside the array; the shift count `points-1` of every
`roll_right` is in `[0, 32)`, the width of `npy_uint32`; the `i != points` loop leaves through its test; and the
mapped code — the index into the `2^points`-entry pivot table (`final[pivots[:len(final)]]` with
`len(final) = max code + 1`) — is `< 2^points`. Moreover for `points ≥ 1` the uint32 arithmetic never truncates:
`roll_right` and `map` agree with the unbounded model of C19 (`C19.rollRight`, `C19.lbpMap`, the orbit minimum). -/
theorem C10_lbp_map_in_bounds (P : Nat) (hP : P ≤ 32) :
    (∀ codes : List Nat, (∀ v ∈ codes, v < 2 ^ P) →
      ∀ a ∈ C10Misc.lbpAccesses (P : Int) codes, 0 ≤ a.i ∧ a.i < a.size) ∧
    C10Misc.lbpDone (P : Int) = true ∧
    (∀ v, v < 2 ^ P → C10Misc.lbpMap32 (P : Int) v < 2 ^ P) ∧
    (1 ≤ P → ∀ v, v < 2 ^ P → C10Misc.rollRight32 (P : Int) v = C19.rollRight P v ∧
      C10Misc.lbpMap32 (P : Int) v = C19.lbpMap P v) :=
  ⟨fun codes hc => C10Misc.lbpAccesses_ok P hP codes hc, by simp [C10Misc.lbpDone],
    fun v hv => C10Misc.lbpMap32_lt P v hP hv,
    fun h1 v hv => ⟨C10Misc.rollRight32_eq P v h1 hP hv, C10Misc.lbpMap32_eq P v h1 hP hv⟩⟩

/-! non-vacuity: 4-bit codes; `points = 33` shifts by 32; a 5-bit code under `points = 2` maps outside the table -/
example : (C10Misc.lbpAccesses 4 [6, 9, 15]).length = 21 ∧ C10Misc.allOk (C10Misc.lbpAccesses 4 [6, 9, 15]) = true ∧
    [6, 9, 15].map (C10Misc.lbpMap32 4) = [3, 3, 15] ∧
    C10Misc.allOk (C10Misc.lbpAccesses 33 [1]) = false ∧ C10Misc.lbpMap32 2 16 = 4 ∧
    C10Misc.allOk (C10Misc.lbpAccesses 2 [16]) = false ∧ C10Misc.lbpDone (-1) = false := by decide +kernel

/-- **B7, bbox.** Fast path (`carray2_bbox`, C-contiguous 2-D array of `N0 × N1` elements, any `N0, N1 ≥ 0`, ANY
content — `px` is an arbitrary predicate on pointer offsets): with `extrema = [N0, 0, N1, 0]` as `py_bbox` initialises
it, every `*array` is read at a pointer offset in `[0, N0·N1)` with the column `x` in `[0, N1)` — including after the
skip-ahead `step = extrema[3]-x-1; x += step; array += step`, because `extrema[3]` stays in `[0, N1]`, so the row loop
ends with the pointer exactly at the start of the next row —; the `extrema[0..3]` accesses are inside the `2·nd = 4`
entries; both loops leave through their tests; and the returned box satisfies `0 ≤ min_0, max_0 ≤ N0`,
`0 ≤ min_1, max_1 ≤ N1` (so slicing with it stays inside the array). Generic path (`bbox`, any rank, shape, content):
`where[j]`, `extrema[2j]`, `extrema[2j+1]`, `j < nd`, are inside `nd` resp. `2·nd` entries. -/
theorem C10_bbox_in_bounds (px : Int → Bool) (n0 n1 : Nat) :
    (∀ a ∈ (C10Misc.bboxFast px n0 n1).1, 0 ≤ a.i ∧ a.i < a.size) ∧ (C10Misc.bboxFast px n0 n1).2.2 = true ∧
    (0 ≤ (C10Misc.bboxFast px n0 n1).2.1.e0 ∧ (C10Misc.bboxFast px n0 n1).2.1.e0 ≤ n0 ∧
     0 ≤ (C10Misc.bboxFast px n0 n1).2.1.e1 ∧ (C10Misc.bboxFast px n0 n1).2.1.e1 ≤ n0 ∧
     0 ≤ (C10Misc.bboxFast px n0 n1).2.1.e2 ∧ (C10Misc.bboxFast px n0 n1).2.1.e2 ≤ n1 ∧
     0 ≤ (C10Misc.bboxFast px n0 n1).2.1.e3 ∧ (C10Misc.bboxFast px n0 n1).2.1.e3 ≤ n1) ∧
    ∀ (shape : List Nat) (img : List Bool), ∀ a ∈ (C10Misc.bboxGen shape img).1, 0 ≤ a.i ∧ a.i < a.size :=
  ⟨(C10Misc.bboxFast_ok px n0 n1).1, (C10Misc.bboxFast_ok px n0 n1).2.1, (C10Misc.bboxFast_ok px n0 n1).2.2,
    fun shape img => C10Misc.bboxGen_ok shape img⟩

/-! non-vacuity: a 3x4 image (skip-ahead taken in row 1); an initial `extrema[3] = 6 > N1` sends the pointer out -/
example : (C10Misc.bboxFast (fun k => k == 2 || k == 4 || k == 9) 3 4).2.1 = ⟨0, 3, 0, 3⟩ ∧
    (C10Misc.bboxFast (fun k => k == 2 || k == 4 || k == 9) 3 4).1.length = 30 ∧
    C10Misc.allOk (C10Misc.bboxFast (fun k => k == 2 || k == 4 || k == 9) 3 4).1 = true ∧
    C10Misc.allOk (C10Misc.bboxFast (fun k => k == 2 || k == 4 || k == 9) 3 4 6).1 = false ∧
    (C10Misc.bboxGen [2, 3] [false, false, true, false, true, false]).2 = [0, 2, 1, 3] := by decide +kernel

/-- **remove_regions, the search.** `std::lower_bound` on the window `[first, first+len)` of a buffer of `size`
elements, for ARBITRARY outcomes of the comparisons `*middle < val` (the oracle `lt`; the array need not be sorted):
every `*middle` is inside the window, hence inside the buffer; the loop ends (`len` at least halves); the returned
index is in `[first, first+len]`. -/
theorem C10_lower_bound_in_bounds (lt : Int → Bool) (size : Int) (f : Nat) (first len : Int)
    (h0 : 0 ≤ first) (h1 : 0 ≤ len) (h2 : first + len ≤ size) (hf : len < f) :
    (∀ a ∈ (C10Misc.lowerBound lt size f first len).1, 0 ≤ a.i ∧ a.i < a.size) ∧
    first ≤ (C10Misc.lowerBound lt size f first len).2.1 ∧
    (C10Misc.lowerBound lt size f first len).2.1 ≤ first + len ∧
    (C10Misc.lowerBound lt size f first len).2.2 = true :=
  C10Misc.lowerBound_post lt size f first len h0 h1 h2 hf

/-- **remove_regions.** For every `labeled` and every `regions` array (any lengths incl. 0, any content, sorted or
not): every `data[i]` (read, and the write `data[i] = 0`), every `*middle` of `std::lower_bound` and the final `*i` of
`std::binary_search` (read only when `i != last`) is inside its buffer; all loops end; the result has the length of
the input. And when `regions` is sorted (what `np.unique` in `labeled.remove_regions` guarantees), the search
answers membership: a label is zeroed iff it is non-zero and occurs in `regions`. -/
theorem C10_remove_regions_in_bounds (regions labeled : List Int) :
    (∀ a ∈ (C10Misc.removeRegions regions labeled).1, 0 ≤ a.i ∧ a.i < a.size) ∧
    (C10Misc.removeRegions regions labeled).2.2 = true ∧
    (C10Misc.removeRegions regions labeled).2.1.length = labeled.length ∧
    ((∀ i j : Nat, i ≤ j → j < regions.length → regions.getD i 0 ≤ regions.getD j 0) →
      ∀ val, (C10Misc.binarySearch regions val).2.1 = true ↔ val ∈ regions) :=
  ⟨(C10Misc.removeRegions_ok regions labeled).1, (C10Misc.removeRegions_ok regions labeled).2.1,
    (C10Misc.removeRegions_ok regions labeled).2.2, fun hs val => C10Misc.binarySearch_sorted regions val hs⟩

example : (C10Misc.removeRegions [2, 5, 7] [0, 5, 3, 7, 9]).2.1 = [0, 0, 3, 0, 9] ∧
    (C10Misc.removeRegions [2, 5, 7] [0, 5, 3, 7, 9]).1.length = 18 ∧
    (C10Misc.removeRegions [] [4]).1.length = 1 ∧ (C10Misc.binarySearch [2, 5, 7] 9).2.1 = false := by decide +kernel

/-- **relabel.** For every `labeled` array: `data[i]` (read and write) is inside the array; the result has the same
length; the returned number of objects `n` satisfies `0 ≤ n ≤ N`; and every new label is in `[0, n]` — so any table
with `n+1` entries indexed by the relabelled array (`labeled_sum`, `bbox`, `center_of_mass` with
`max()+1` entries) is indexed in range. -/
theorem C10_relabel_in_bounds (labeled : List Int) :
    (∀ a ∈ (C10Misc.relabel labeled).1, 0 ≤ a.i ∧ a.i < a.size) ∧
    (C10Misc.relabel labeled).2.1.length = labeled.length ∧
    0 ≤ (C10Misc.relabel labeled).2.2 ∧ (C10Misc.relabel labeled).2.2 ≤ labeled.length ∧
    ∀ w ∈ (C10Misc.relabel labeled).2.1, 0 ≤ w ∧ w ≤ (C10Misc.relabel labeled).2.2 := by
  have h := C10Misc.relabelLoop_spec labeled [(0, 0)] 1 (by omega) (by simp)
  unfold C10Misc.relabel
  dsimp only
  generalize C10Misc.relabelLoop labeled [(0, 0)] 1 = r at h ⊢
  obtain ⟨h1, h2, h3, h4⟩ := h
  refine ⟨?_, h1, by omega, by omega, fun w hw => by have := h4 w hw; omega⟩
  simp only [acc_forall]
  exact fun i hi => ⟨hi, hi⟩

example : (C10Misc.relabel [7, 0, -2, 7, 3]).2 = ([1, 0, 2, 1, 3], 3) ∧
    (C10Misc.relabel [7, 0, -2, 7, 3]).1.length = 10 := by decide +kernel

/-- **B6, distance_multi: `validposition` precedes every access.** For EVERY shape (any rank, axes of length 0
included), every content of `array` and `res`, every list of deltas (`Bcs`: any number, any rank, any integers — so
also what `neighbours_delta` yields for a structuring element of another rank, where the C++ adds uninitialised
components) and every step budget of the queue loop: every position dereferenced by `distance_multi` — `*aiter`,
`*riter`, `array.at(next)`, `res.data(next)` in both phases, and the `res.at(next)` of a popped queue entry, which is
NOT itself preceded by `validposition` but was validated before it was pushed — is inside the array. The
transliterated `validposition` (rank test, then `pos[i] < 0 || pos[i] >= dim(i)` per axis) is exactly `inside`. -/
theorem C10_distance_multi_in_bounds (shape : List Nat) (img : List Bool) (res : List Int)
    (deltas : List (List Int)) (fuel : Nat) :
    (∀ a ∈ (C10Misc.dmRun true shape img res deltas fuel).1, inside a.shape a.pos = true) ∧
    ∀ pos, C10Misc.validPosition shape pos = true ↔ inside shape pos = true :=
  ⟨C10Misc.dmRun_ok shape img res deltas fuel,
    fun pos => by rw [C10Misc.validPosition_eq_inside]⟩

/-- **distance_multi: the native guards do not suffice.** `neighbours_delta` starts with
`numpy::position accumulated = rs[0];` unconditionally: its vector accesses are in range iff the structuring element
has at least one set element other than its centre. `py_distance_multi` checks types and `same_shape(array, res)`
only (`nativeGuards_morph_distance_multi`): an all-False, centre-only or 0-d `Bc` reads `rs[0]` of an empty vector
(observed: SIGSEGV / ASan SEGV in `neighbours_delta`). A rank mismatch between `Bc` and `array` is not checked
either, but is harmless for memory by `C10_distance_multi_in_bounds`. -/
theorem C10_distance_multi_needs_neighbour (rs : List (List Int)) :
    (∀ a ∈ (C10Misc.neighboursDelta rs).1, 0 ≤ a.i ∧ a.i < a.size) ↔ rs ≠ [] := by
  -- `Bcs[0]` first, then `Bcs[i+1]` for `i < N2 - 1`
  simp only [C10Misc.neighboursDelta, acc_forall, ← List.length_pos_iff]
  exact ⟨fun h => by omega, fun hl => ⟨by omega, fun i hi => by omega⟩⟩

/-! non-vacuity: a 2x3 image with the cross; without `validposition` positions leave the array; centre-only `Bc` -/
example : C10Misc.neighbours [3, 3] [false, true, false, true, true, true, false, true, false] =
      [[-1, 0], [0, -1], [0, 1], [1, 0]] ∧
    (C10Misc.neighboursDelta [[-1, 0], [0, -1], [0, 1], [1, 0]]).2 = [[-1, 0], [1, -1], [0, 2], [1, -1]] ∧
    (C10Misc.dmRun true [2, 3] [true, true, false, true, true, true] [99, 99, 99, 99, 99, 99]
      [[-1, 0], [1, -1], [0, 2], [1, -1]] 50).2 = ([4, 1, 0, 5, 2, 1], true) ∧
    ((C10Misc.dmRun false [2, 3] [true, true, false, true, true, true] [99, 99, 99, 99, 99, 99]
      [[-1, 0], [1, -1], [0, 2], [1, -1]] 50).1.all C10Misc.PAcc.ok) = false ∧
    C10Misc.neighbours [3, 3] [false, false, false, false, true, false, false, false, false] = [] ∧
    C10Misc.allOk (C10Misc.neighboursDelta []).1 = false := by decide +kernel

section SurfB9
open Mahotas.C10Surf

/-- **B9, `sum_rect` (the two-sided clamps of 6faa5ae).** For ALL integers `y0, x0, y1, x1` — every window, also one that ends
before the image or begins beyond it — and every image size: an empty image (`N0 ≤ 0` or `N1 ≤ 0`) performs NO access
(`return 0.`), and for a non-empty image the four reads `integral.at(y0',x0')`, `at(y0',x1')`, `at(y1',x0')`, `at(y1',x1')`
behind the two-sided clamps `v' = min(max(v-1, 0), N-1)` of all four corners are inside the `N0 x N1` integral image. There is no
precondition. -/
theorem C10_surf_sum_rect_in_bounds (n0 n1 y0 x0 y1 x1 : Int) :
    sAllOk (sumRectAccesses n0 n1 y0 x0 y1 x1) = true ∧
    (sumRectAccesses n0 n1 y0 x0 y1 x1).length = if n0 ≤ 0 ∨ n1 ≤ 0 then 0 else 8 :=
  ⟨(sAllOk_iff _).2 (sumRect_ok n0 n1 y0 x0 y1 x1), sumRect_length n0 n1 y0 x0 y1 x1⟩

/-! non-vacuity: windows inside, beyond, before the image and an empty image -/
example : sAllOk (sumRectAccesses 40 40 (-5) 3 7 50) = true ∧ (sumRectAccesses 40 40 (-5) 3 7 50).length = 8 ∧
    sAllOk (sumRectAccesses 40 40 100 0 200 5) = true ∧ (sumRectAccesses 40 40 100 0 200 5).map (·.i) = [39, 0, 39, 4, 39, 0, 39, 4] ∧
    sAllOk (sumRectAccesses 40 40 (-5) 0 0 5) = true ∧ sumRectAccesses 0 4 0 0 1 1 = [] := by decide +kernel

/-- **B9, `sum_rect` as the entry point `_surf.sum_rect` runs it** (four arbitrary C `int`s; the decrement `v-1` wraps at
`INT_MIN` to `INT_MAX` as compiled with `-fno-strict-overflow`, modelled by `wrap32`): whatever the wrapped values are, the
two-sided clamps keep all reads inside a non-empty image, and an empty one is not read. -/
theorem C10_surf_sum_rect_entry_in_bounds (n0 n1 y0 x0 y1 x1 : Int) :
    sAllOk (sumRectEntry n0 n1 y0 x0 y1 x1) = true :=
  (sAllOk_iff _).2 (sumRectEntry_ok n0 n1 y0 x0 y1 x1)

example : sAllOk (sumRectEntry 5 5 (-2147483648) 0 3 3) = true ∧ (sumRectEntry 5 5 (-2147483648) 0 3 3).length = 8 ∧
    sAllOk (sumRectEntry 5 5 2 2 4 4) = true ∧ sumRectEntry 5 0 2 2 4 4 = [] := by decide +kernel

/-- **B9, `csum_rect`.** For all integers: `csum_rect(integral, y, x, dy, dx, h, w)` (`y0 = y+dy-h/2`, `x0 = x+dx-w/2` with C
division, `y1 = y0+h`, `x1 = x0+w`) reads inside the image (nothing for an empty image). -/
theorem C10_surf_csum_rect_in_bounds (n0 n1 y x dy dx h w : Int) :
    sAllOk (csumRectAccesses n0 n1 y x dy dx h w) = true :=
  (sAllOk_iff _).2 (csumRect_ok n0 n1 y x dy dx h w)

example : sAllOk (csumRectAccesses 9 9 4 4 (-2) 2 3 3) = true ∧ sAllOk (csumRectAccesses 9 9 0 4 (-2) 2 1 3) = true ∧
    (csumRectAccesses 9 9 0 4 (-2) 2 1 3).length = 8 := by decide +kernel

/-- **B9, `build_pyramid`.** For every image size `N0, N1` (any integers, also smaller than the filters), every number of
octaves and intervals and every `initial_step_size ≥ 1` (the guard of `check_pyramid_parameters`, fix d1a663a): every
access of the fill loops — `pyramid[o]` with `o < nr_octaves`; the 32 reads of the eight `csum_rect` windows (Dxx, Dyy, Dxy
lobes) at every sample `(y, x)`, `y = border, border+step, … < N0-border`; the write
`pyramid[o].at(i, y/step_size, x/step_size)` into the array of shape `(nr_intervals, N0/step_size, N1/step_size)` — is in
bounds, and every `y += step_size` loop terminates (`step_size ≥ 1`). The `csum_rect` windows may stick out of the image:
the two-sided clamps of `sum_rect` take care of that (`C10_surf_sum_rect_in_bounds`). The write needs `border ≥ step`
(`y < N0 - border` gives `y/step < N0/step` although `N0/step` rounds down). Arithmetic is over ℤ here; that the C `int`s
do not overflow is `C10_surf_pyramid_no_int_overflow`. -/
theorem C10_surf_pyramid_in_bounds (n0 n1 noct nint init : Int) (hi : 1 ≤ init) :
    sAllOk (pyramidAccesses n0 n1 noct nint init) = true ∧ pyramidDone noct init = true :=
  ⟨(sAllOk_iff _).2 (pyramidAccesses_ok n0 n1 noct nint init hi), pyramidDone_ok noct init hi⟩

example : (pyramidAccesses 20 21 1 1 1).length = 1341 ∧ sAllOk (pyramidAccesses 20 21 1 1 1) = true ∧
    pyramidDone 1 0 = false := by decide +kernel

/-- **B9, `build_pyramid`: the guard and the allocation.** When `check_pyramid_parameters` accepts (`0 < nr_octaves ≤ 30`,
`nr_intervals > 0`, `initial_step_size > 0`, `max_step*max_border < INT_MAX`) and the image has `N0, N1 ≥ 0`: all accesses are in
bounds, the loops terminate, and `pyramid[o]` is allocated with shape `(nr_intervals ≥ 1, N0/step ≥ 0, N1/step ≥ 0)` (a plane
may be empty when the image is smaller than the step: then nothing is written to it). -/
theorem C10_surf_pyramid_guarded (n0 n1 noct nint init : Int) (o : Nat) (h0 : 0 ≤ n0) (h1 : 0 ≤ n1)
    (hg : checkPyramidParameters noct nint init = true) :
    sAllOk (pyramidAccesses n0 n1 noct nint init) = true ∧ pyramidDone noct init = true ∧
    1 ≤ (pyramidDims n0 n1 nint init o).1 ∧ 0 ≤ (pyramidDims n0 n1 nint init o).2.1 ∧
    0 ≤ (pyramidDims n0 n1 nint init o).2.2 := by
  obtain ⟨_, _, hn, hin, _⟩ := (checkPyramidParameters_iff noct nint init).1 hg
  have hs : 0 ≤ stepSize init o := Int.le_trans (by decide +kernel) (stepSize_pos init o hin)
  exact ⟨(C10_surf_pyramid_in_bounds n0 n1 noct nint init hin).1, pyramidDone_ok noct init hin, hn,
    Int.tdiv_nonneg h0 hs, Int.tdiv_nonneg h1 hs⟩

example : checkPyramidParameters 4 6 1 = true ∧ checkPyramidParameters 31 6 1 = false ∧ checkPyramidParameters 4 0 1 = false ∧
    checkPyramidParameters 4 6 0 = false ∧ checkPyramidParameters 30 6 1 = false ∧ checkPyramidParameters 1 700000000 1 = true := by
  decide +kernel

/-- **B9, `build_pyramid`: no `int` overflow.** Under `check_pyramid_parameters`, for every octave `o < nr_octaves` and interval
`0 ≤ i < nr_intervals`, the C `int`s computed from the parameters alone — `step_size = initial_step_size*2^o`,
`get_border_size(o, nr_intervals)`, `border_size = get_border_size*step_size`, `lobe_size = 2^(o+1)*(i+1)+1`,
`lobe_offset = lobe_size/2+1` — lie in `[1, INT_MAX]`: the computation over ℤ of `C10_surf_pyramid_in_bounds` is the
computation of the machine. (The window sizes `3*lobe_size`, `2*lobe_size-1` are evaluated only inside the `y` loop, where
`3*lobe_size ≤ 2*border < N0`; that last step is not formalised.) -/
theorem C10_surf_pyramid_no_int_overflow (noct nint init : Int) (o : Nat) (i : Int)
    (hg : checkPyramidParameters noct nint init = true) (ho : (o : Int) < noct) (hi : 0 ≤ i ∧ i < nint) :
    ∀ v ∈ pyramidInts nint init o i, 1 ≤ v ∧ v ≤ 2147483647 := fun v hv =>
  have h := pyramidInts_le_border nint init o i ((checkPyramidParameters_iff noct nint init).1 hg).2.2.2.1 hi v hv
  ⟨h.1, Int.le_trans h.2 (border_le_intMax noct nint init o hg ho)⟩

example : pyramidInts 6 1 3 5 = [8, 170, 1360, 97, 49] := by decide +kernel

/-- **B9, `get_interest_points`.** For every plane count `nr_intervals`, every plane size `nr x nc` (any integers) and every
border `get_border_size ≥ 0`: all reads of one octave — the scan `for (i = 1; i < nr_intervals-1; i += 3) for (r = border+1;
r < nr-border-1; r += 3) for (c …)`, the block `ii < min(i+3, nr_intervals-1)`, `rr < min(r+3, nr-border-1)`, `cc < …`, and, for
EVERY element of the block as candidate maximum (the float comparisons are not modelled: a superset of any run),
`is_maximum_in_region` (27 neighbours `(i-1..i+1, r-1..r+1, c-1..c+1)` behind `i <= 0 || i+1 >= nr_intervals`) and
`interpolate_point` (27 reads at offsets in `{-1,0,1}³`) — are inside the `nr_intervals x nr x nc` array. The border the code
uses is non-negative (`≥ 8`) whenever `nr_intervals ≥ 1`. -/
theorem C10_surf_interest_points_in_bounds (nint nr nc bs : Int) (hbs : 0 ≤ bs) :
    sAllOk (ipScanAccesses nint nr nc bs) = true ∧ ∀ o : Nat, 1 ≤ nint → 8 ≤ borderSize o nint :=
  ⟨(sAllOk_iff _).2 (ipScan_ok nint nr nc bs hbs), fun o h => borderSize_ge o nint h⟩

example : (ipScanAccesses 3 3 3 0).length = 171 ∧ sAllOk (ipScanAccesses 3 3 3 0) = true ∧
    sAllOk (ipScanAccesses 3 3 3 (-1)) = false := by decide +kernel

/-- **B9, gradient samples (`haar_x`, `haar_y`).** For all integers `y, x, w` and every image size: the 16 reads of
`haar_x(integral, y, x, w)` and `haar_y(integral, y, x, w)` are inside the image — also for a sample position in row or
column 0 (`y = 0`: the top window ends before the image; with the two-sided clamps it is empty and `integral.at(-1, ·)` is not read). -/
theorem C10_surf_haar_in_bounds (n0 n1 y x w : Int) :
    sAllOk (haarAccesses n0 n1 y x w) = true :=
  (sAllOk_iff _).2 (haar_ok n0 n1 y x w)

/-- **B9, descriptor / orientation sampling windows.** The sample positions of `compute_dominant_angle`
(`round(scale*r + center.y)`, …) and `compute_surf_descriptor` (`int(p.y())`, `int(p.x())` of the rotated grid) and the window
sizes (`(~1)&int(4*scale+.5)`, `int(2*scale+.5)`) are float-derived; here they are ARBITRARY integers — no hypothesis on
positions, window or scale is needed: all reads of all samples are in bounds. -/
theorem C10_surf_descriptor_windows_in_bounds (n0 n1 : Int) (pts : List (Int × Int)) (w : Int) :
    sAllOk (descWindowAccesses n0 n1 pts w) = true :=
  (sAllOk_iff _).2 (descWindow_ok n0 n1 pts w)

example : sAllOk (descWindowAccesses 9 9 [(1, 1), (9, 9), (4, 5), (0, 3), (3, 0), (-7, 40)] 4) = true ∧
    (descWindowAccesses 9 9 [(1, 1), (9, 9), (4, 5)] 4).length = 96 ∧
    sAllOk (haarAccesses 9 9 0 3 2) = true ∧ sAllOk (haarAccesses 9 9 3 0 0) = true ∧
    sAllOk (haarPinnedAccesses 9 9 0 3 2) = false := by decide +kernel

/-- **B9, the descriptor vector.** The 16 cells of `for (r = -10; r < 10; r += 5) for (c = -10; c < 10; c += 5)` write
`des[count++]` four times each: exactly the indices `0 … 63` of `double des[64]`; `compute_dominant_angle` takes 109 samples
(so `samples[0]` exists). -/
theorem C10_surf_descriptor_index_in_bounds :
    sAllOk descIndexAccesses = true ∧ descIndexAccesses.map (·.i) = (List.range 64).map Int.ofNat ∧ angleGrid.length = 109 := by
  decide +kernel

/-- **B9, the one-sided clamps of `sum_rect` (`sumRectPinnedAccesses`; not the code of /repo).** Before 6faa5ae the clamps were
(`y0' = max(y0-1,0)`, `x0' = max(x0-1,0)`, `y1' = min(y1-1,N0-1)`, `x1' = min(x1-1,N1-1)`, no test for an empty image): the
reads were inside the image IF AND ONLY IF `N0, N1 ≥ 1`, `y0 ≤ N0`, `x0 ≤ N1`, `y1 ≥ 1`, `x1 ≥ 1`. -/
theorem C10_surf_sum_rect_pinned_in_bounds_iff (n0 n1 y0 x0 y1 x1 : Int) :
    sAllOk (sumRectPinnedAccesses n0 n1 y0 x0 y1 x1) = true ↔
      1 ≤ n0 ∧ 1 ≤ n1 ∧ y0 ≤ n0 ∧ x0 ≤ n1 ∧ 1 ≤ y1 ∧ 1 ≤ x1 := by
  rw [sAllOk_iff]; exact sumRectPinned_ok_iff n0 n1 y0 x0 y1 x1

/-- **B9, the border test of `compute_descriptors` does not protect the one-sided clamps (the two-sided ones need no guard:
`C10_surf_descriptor_windows_in_bounds`).** In exact rational arithmetic: a 40x40 image, interest point `(15, 15)` with
`scale = 1` (what `surf.dense(f, 1)` passes) and rotation `sin = -20/29`, `cos = 21/29` (`sin² + cos² = 1`). The border test of
`compute_descriptors` accepts (`border_size = 31/2 = 15 ≤ 15`, `15 + 15 < 40`), the grid point `(x, y) = (-10, -10)` is sampled
at row `int(p.y) = 0`, column 14, window `int(2*1+.5) = 2`; over the one-sided clamps `haar_y` reads `integral.at(-1, ·)`
(mahotas before
6faa5ae, witnesses `corpus/C10/surf_*.json`), over the two-sided clamps the same sample is in bounds. -/
theorem C10_surf_descriptor_pinned_guard_insufficient :
    descGuard 40 40 15 15 1 = true ∧
    ((-20 / 29 : Rat) * (-20 / 29) + (21 / 29) * (21 / 29) = 1) ∧
    descSample 15 15 1 (-20 / 29) (21 / 29) (-10) (-10) = (0, 14) ∧ descWindow 1 = 2 ∧
    sAllOk (haarPinnedAccesses 40 40 0 14 2) = false ∧ sAllOk (haarAccesses 40 40 0 14 2) = true := by
  decide +kernel

end SurfB9

/-- **C10 (tie to the source, generated tables).** The code by which the models number a border mode is the code the
current source gives it in both places: `mode2int` of `mahotas/_filters.py` (what the wrappers send) and
`enum ExtendMode` of `mahotas/_filters.h` (what the kernels switch on); neither table has further entries. Both tables
are regenerated from the source on every run. -/
theorem C10_mode_codes_agree (m : Mahotas.Mode) :
    (Mahotas.Generated.pyModes.lookup m.name = some m.code ∧ Mahotas.Generated.cppModes.lookup m.name = some m.code) ∧
    Mahotas.Generated.pyModes.length = 6 ∧ Mahotas.Generated.cppModes.length = 6 :=
  ⟨Mahotas.mode_codes_agree m, Mahotas.mode_tables_complete.1, Mahotas.mode_tables_complete.2.1⟩

section Labeled
open Mahotas.C10Labeled

/-- **C10, `_labeled.cpp: slic` — one assignment window.** For every image size, every `S ≥ 1` and EVERY (truncated) centroid position
inside the image — centroids are means of pixel coordinates, hence inside — the window
`[max(0, cy-2S), min(Ny, cy+2S)) × [max(0, cx-2S), min(Nx, cx+2S))` is non-empty in both directions (so the loops
`for (y = start_y; y != end_y; ++y)` end) and every `pos = y*Nx + x` is a cell of `distance` / `nlabels` (`N = Ny*Nx` cells; the
pixel reads are `array.at(y, x, c)`). For a centroid outside the image the `!=` loops would not end (second example). -/
theorem C10_slic_window_in_bounds (ny nx S cy cx : Int) (hS : 1 ≤ S) (hy0 : 0 ≤ cy) (hy : cy < ny) (hx0 : 0 ≤ cx) (hx : cx < nx) :
    ∃ l, Mahotas.C10Slic.windowPositions ny nx S cy cx = some l ∧ Mahotas.C10Slic.inN (ny * nx) l = true ∧
      Mahotas.C10Slic.winLo cy S < Mahotas.C10Slic.winHi ny cy S ∧ Mahotas.C10Slic.winLo cx S < Mahotas.C10Slic.winHi nx cx S :=
  Mahotas.C10Slic.window_ok ny nx S cy cx hS hy0 hy hx0 hx

example : Mahotas.C10Slic.windowPositions 5 4 1 0 3 = some [1, 2, 3, 5, 6, 7] ∧
    Mahotas.C10Slic.windowPositions 5 4 1 9 3 = none := by decide +kernel

/-- **C10, `slic` — the first iteration assigns every pixel (why no label `-1` is ever used as an index).** For `S ≥ 1` and an image
with a seed on both axes (`S/2 < Ny`, `S/2 < Nx`: the guards of `segmentation.slic`, `C11_slic_guards_imply_pre`), every pixel lies
inside the assignment window of at least one seed centroid (`covered`), there is at least one seed centroid and all of them are
inside the image. The assignment fold is not modelled; the statement is the reason why in the first iteration every `nlabels[pos]`
is overwritten with a centroid index `< K` (a finite `D2` beats the initial `distance = 10e20`), so that `centroid_counts[labels[pos]]`,
`centroids[labels[pos]]`, `centroids[alabels.at(y,x)]` are valid afterwards. -/
theorem C10_slic_first_iteration_covers (S ny nx : Nat) (hS : 1 ≤ S) (hy : S / 2 < ny) (hx : S / 2 < nx) :
    Mahotas.C10Slic.covered S ny nx = true ∧ 1 ≤ (Mahotas.C10Slic.seedCentroids S ny nx).length ∧
      ∀ c ∈ Mahotas.C10Slic.seedCentroids S ny nx, c.1 < ny ∧ c.2 < nx := by
  exact ⟨Mahotas.C10Slic.covered_ok S ny nx hS hy hx, Mahotas.C10Slic.seedCentroids_length_pos hy hx,
    fun _ hc => Mahotas.C10Slic.seedCentroids_lt hc⟩

/-- the image smaller than `S/2` along an axis (a crash before 0466b20; rejected by the wrapper): no centroid, nothing is
covered; a 14 × 20 image with `S = 16`: two centroids cover everything -/
example : Mahotas.C10Slic.covered 16 14 7 = false ∧ Mahotas.C10Slic.seedCentroids 16 14 7 = [] ∧
    Mahotas.C10Slic.covered 16 14 20 = true ∧ Mahotas.C10Slic.seedCentroids 16 14 20 = [(8, 8)] := by decide +kernel

/-- **C10, `_labeled.cpp: find` on ANY array.** If the parent pointers from cell `i` reach a root after `d` steps inside the array
(`C03.RootN par i r d`: the acyclicity/closedness fact) and `d < fuel`, `findAcc` (a recursion up the chain; the source walks
the same chain with two `while` loops, `_labeled.cpp:55-66`) ends and every `data[·]` it reads or writes (path compression) is a
cell of the array. -/
theorem C10_find_in_bounds (fuel : Nat) (par : Array Int) (i r d : Nat) (h : Mahotas.C03.RootN par i r d) (hd : d < fuel) :
    (findAcc fuel par (i : Int)).2 = true ∧ inRange par.size (findAcc fuel par (i : Int)).1 = true := by
  obtain ⟨h1, h2⟩ := findAcc_ok fuel par i r d h hd
  exact ⟨h1, (inRange_iff _ _).mpr h2⟩

/-- non-vacuity: a chain 3 → 0 → 1 → 2 (root): four reads, three writes; a two-cycle never reaches a root (the walk would
not end); a parent `-1` (a background mark used as an index) is dereferenced outside the array -/
example : findAcc 5 #[1, 2, 2, 0] 3 = ([3, 0, 1, 2, 1, 0, 3], true) ∧ (findAcc 9 #[1, 0] 0).2 = false ∧
    inRange 2 (findAcc 9 #[1, -1] 0).1 = false := by decide +kernel

/-- **C10, `_labeled.cpp: label` — the union–find array accesses (an invariant proof).** For EVERY image (any rank, any content,
`data.length` cells), every structuring element (any list of neighbour offsets `offs`, centre included or not) and both border
treatments of the filter iterator: during the scan loop (`join(data, i, arr_val)` for every retrieved neighbour value
`arr_val != -1`) and the compression loop (`compress(data, i)`), EVERY index dereferenced by `find` / `join` — each
`data[i]`, each `data[data[i]]` up the chain, each path-compression store `data[i] = j`, each root update `data[find i] = find j`
— is inside the `N` cells of the array, and every `find` reaches its root within `N + 1` steps (so the C++ loop ends).
The reason is the invariant C03 proves (`C03.Roots`, the forest part of `C03.Inv`): at every moment each foreground cell holds the index of a foreground cell
from which the parent pointers reach a root without leaving the array (the neighbour VALUE `arr_val` handed to `join` is such a
parent index, never a raw label), each background cell holds `-1` and is never used as an index. The array the trace carries is
exactly `C03.parents` (the state C03's partition theorems are about), and at the end every cell holds `-1` or an index `< N`. -/
theorem C10_label_union_find_in_bounds (m : Mahotas.Mode) (shape : List Nat) (data : List Int) (offs : List (List Int)) :
    inRange data.length (labelUF m shape data offs (data.length + 1)).2.1 = true ∧
    (labelUF m shape data offs (data.length + 1)).2.2 = true ∧
    (labelUF m shape data offs (data.length + 1)).1 = Mahotas.C03.parents m shape data offs ∧
    ∀ i : Nat, (Mahotas.C03.parents m shape data offs).getD i (-1) = -1 ∨
      (0 ≤ (Mahotas.C03.parents m shape data offs).getD i (-1) ∧
        (Mahotas.C03.parents m shape data offs).getD i (-1) < (data.length : Int)) := by
  obtain ⟨⟨E, hE⟩, hr, ht⟩ := labelUF_good m shape data offs
  have hp := labelUF_parents m shape data offs
  refine ⟨(inRange_iff _ _).mpr hr, ht, hp, fun i => ?_⟩
  rw [hp] at hE
  exact inv_entries hE i

/-- non-vacuity: a 3×3 image with three components, cross neighbourhood (constant border): 38 dereferences, all inside the
9 cells; the parents afterwards -/
example : (labelUF Mahotas.Mode.constant [3, 3] [1, 1, 0, 0, 1, 0, 1, 0, 1] [[-1, 0], [0, -1], [0, 0], [0, 1], [1, 0]] 10).2.1.length = 38 ∧
    (labelUF Mahotas.Mode.constant [3, 3] [1, 1, 0, 0, 1, 0, 1, 0, 1] [[-1, 0], [0, -1], [0, 0], [0, 1], [1, 0]] 10).1 =
      #[4, 4, -1, -1, 4, -1, 6, -1, 8] := by decide +kernel

end Labeled

section Flood
open Mahotas.C10Flood

/-- **C10, `numpy::position_queue` (`numpypp/array.hpp`; used by `distance_multi`).** For every rank `size_ ≥ 1`, every compaction
constant `limit` (512 in the source) and EVERY sequence of `push` / `if (!empty()) top_pop()` (the protocol of the callers'
`while (!queue.empty())` loops): each `store_[next_*size_ + d]` read by `top()` is inside `store_`, and whenever `next_` reaches
the limit the erased range `[begin, begin + next_*size_)` lies inside `store_`; the vector always holds a whole number of
positions and `next_` never passes it (so the unsigned `size() = store_.size()/size_ - next_` does not wrap). -/
theorem C10_position_queue_in_bounds (limit sz : Nat) (hsz : 1 ≤ sz) (ops : List Bool) :
    vAllOk (qRun limit sz ops ⟨0, 0⟩).1 = true ∧
      ∃ m : Nat, (qRun limit sz ops ⟨0, 0⟩).2.1.len = m * sz ∧ (qRun limit sz ops ⟨0, 0⟩).2.1.next ≤ m :=
  have h := qRun_ok limit sz hsz ops ⟨0, 0⟩ ⟨0, (Nat.zero_mul sz).symm, Nat.le_refl _⟩
  ⟨(vAllOk_iff _).2 h.1, h.2⟩

/-- non-vacuity: rank 2, limit 3, four pushes and five guarded pops (the compaction happens at the third pop; the fifth pop finds
the queue empty): 4 × 2 reads + 1 erase; popping WITHOUT the `empty()` test reads past the vector -/
example : (qRun 3 2 [true, true, true, true, false, false, false, false, false] ⟨0, 0⟩) =
    ([⟨0, 8⟩, ⟨1, 8⟩, ⟨2, 8⟩, ⟨3, 8⟩, ⟨4, 8⟩, ⟨5, 8⟩, ⟨5, 8⟩, ⟨0, 2⟩, ⟨1, 2⟩], ⟨2, 1⟩, 4) ∧
    vAllOk (qTopPop 512 2 ⟨2, 1⟩).1 = false := by decide +kernel

/-- **C10, `numpy::position_stack` (`close_holes`, `remove_fake_regmin_max`).** For every rank `size_ ≥ 1` and every sequence of
`push` / `if (!empty()) top_pop()`: each `store_[store_.size() - size_ + d]` is inside `store_`; the vector always holds a whole
number of positions (so `end() - size_` is a valid iterator whenever the stack is not empty). -/
theorem C10_position_stack_in_bounds (sz : Nat) (hsz : 1 ≤ sz) (ops : List Bool) :
    vAllOk (sRun sz ops 0).1 = true ∧ ∃ m : Nat, (sRun sz ops 0).2.1 = m * sz :=
  have h := sRun_ok sz ops 0 ⟨0, (Nat.zero_mul sz).symm⟩
  ⟨(vAllOk_iff _).2 h.1, h.2⟩

example : sRun 2 [true, true, false, false, false, true, false] 0 =
    ([⟨2, 4⟩, ⟨3, 4⟩, ⟨0, 2⟩, ⟨1, 2⟩, ⟨0, 2⟩, ⟨1, 2⟩], 0, 3) := by decide +kernel

/-- **C10, `close_holes`: the border seeding loops.** For EVERY 1-D and 2-D shape (zero-length axes included: the axis is skipped,
resp. `N/dim(d) = 0` iterations) every `ref.at(pos)` / `f.at(pos)` of the seeding — `pos[d] = 0`, `pos[d] = dim(d) - 1`, the other
coordinate advanced by the odometer `if (pos[j] < dim(j)) { ++pos[j]; break; }` — is inside the array. The odometer's test is `<`
where `< dim(j) - 1` would be needed to carry: for rank ≥ 3 it steps one past an axis (third conjunct: a `1 × 3 × 3` array is left);
the public `mahotas.close_holes` admits 2-D images only (`_check_2`, `C11_close_holes_safe`). -/
theorem C10_close_holes_seeding_in_bounds :
    (∀ n : Nat, pAllOk (chSeedAccesses [n]) = true) ∧ (∀ n0 n1 : Nat, pAllOk (chSeedAccesses [n0, n1]) = true) ∧
      pAllOk (chSeedAccesses [1, 3, 3]) = false :=
  ⟨fun n => (pAllOk_iff _).2 (chSeed_rank1 n), fun n0 n1 => (pAllOk_iff _).2 (chSeed_rank2 n0 n1), by decide +kernel⟩

example : (chSeedAccesses [2, 3]).map (·.pos) =
    [[0, 0], [1, 0], [0, 1], [1, 1], [0, 2], [1, 2], [0, 0], [0, 2], [1, 0], [1, 2]] ∧ chSeedAccesses [0, 4] = [] := by decide +kernel

/-- **C10, `distance_multi`: the queue loop TERMINATES.** For every shape (any rank), every image,
every list of deltas and every initial INTEGER content of `res` (one cell per pixel: `same_shape(array, res)` is a native guard;
the floating dtypes `py_distance_multi` also dispatches over are not modelled, the measure below is over integers): a queue
entry is pushed only together with a store that strictly lowers a cell of `res` to a squared distance (a non-negative integer,
`*rpos > next_dist` ⇒ `*rpos = next_dist`), so `Σ max(res[p], 0)` drops by at least one per push and `while (!dist_q.empty())` ends
within `(pushes of the first phase) + Σ max(res[p], 0)` pops — with every budget at least that large the model's queue runs empty. -/
theorem C10_distance_multi_terminates (shape : List Nat) (img : List Bool) (res : List Int) (deltas : List (List Int))
    (hlen : res.length = shapeSize shape) (fuel : Nat)
    (hf : (Mahotas.C10Misc.dmFirst true shape img deltas (List.range (shapeSize shape)) res).2.2.length +
      Mahotas.C10Misc.resMass (Mahotas.C10Misc.dmFirst true shape img deltas (List.range (shapeSize shape)) res).2.1 ≤ fuel) :
    (Mahotas.C10Misc.dmRun true shape img res deltas fuel).2.2 = true :=
  Mahotas.C10Misc.dmSecond_terminates shape img deltas fuel _ _ (Mahotas.C10Misc.dmFirst_len shape img deltas _ res hlen) hf

/-- non-vacuity: a 1×4 line with one background pixel, `res` = 100 everywhere, deltas ±1: budget 20 suffices (it ends after
3 pops; the bound of the theorem, first-phase pushes + `Σ max(res[p], 0)`, is larger); with budget 1 the queue is not yet empty -/
example : (Mahotas.C10Misc.dmRun true [1, 4] [false, true, true, true] [100, 100, 100, 100] [[0, -1], [0, 2]] 20).2 = ([0, 1, 4, 9], true) ∧
    (Mahotas.C10Misc.dmRun true [1, 4] [false, true, true, true] [100, 100, 100, 100] [[0, -1], [0, 2]] 1).2.2 = false := by
  decide +kernel

/-- **C10, the stack flood of `close_holes` and `remove_fake_regmin_max`: accesses AND termination.**
`while (!stack.empty()) { p = stack.top_pop(); for every neighbour delta: npos = p + delta; if (validposition(npos) && available(npos))
{ take(npos); stack.push(npos); } }` — the step is `C14.floodVisit`. For every shape (any rank), every neighbourhood, every
availability map and every initial stack: every position dereferenced is inside the array (all dereferences are behind
`validposition`), and — because a position is pushed exactly when its flag is cleared — the loop DRAINS the stack after at most
`stack length + number of available pixels` pops, and the stack never holds more positions than that. -/
theorem C10_stack_flood_in_bounds (shape : List Nat) (nb : List (List Int)) (fuel : Nat) (av : Array Bool)
    (st : List (List Int)) (hf : st.length + cntTrue av ≤ fuel) :
    pAllOk (floodRun shape nb fuel av st).1 = true ∧ (floodRun shape nb fuel av st).2.1 = true ∧
      (floodRun shape nb fuel av st).2.2.1 ≤ st.length + cntTrue av ∧
      (floodRun shape nb fuel av st).2.2.2.1 ≤ st.length + cntTrue av :=
  have h := floodRun_ok shape nb fuel av st hf
  ⟨(pAllOk_iff _).2 h.1, h.2⟩

/-- non-vacuity: a 3×3 map with three unavailable pixels (the seed among them), cross neighbourhood, seed (0,0): 6 pixels taken in 7 pops, the stack is
drained; with fuel 3 it is not -/
example :
    let av : Array Bool := #[false, true, true, true, false, true, true, true, false]
    let nb : List (List Int) := [[-1, 0], [0, -1], [0, 1], [1, 0]]
    ((floodRun [3, 3] nb 20 av [[0, 0]]).2.1, (floodRun [3, 3] nb 20 av [[0, 0]]).2.2.1,
      cntTrue (floodRun [3, 3] nb 20 av [[0, 0]]).2.2.2.2, (floodRun [3, 3] nb 3 av [[0, 0]]).2.1) = (true, 7, 0, false) := by
  decide +kernel

/-- **C10, `remove_fake_regmin_max` (behind `regmax` / `regmin`): the whole scan with its floods.** For every shape (any rank), every
neighbourhood, every initial marking (what `locmin_max` left in the zero-filled result) and EVERY outcome of the value tests on
the neighbours (`witness`): over all positions of the image in scan order — the iterator's positions, inside by construction
(`C10_unravel_inside`) — every `f.at(pos)`, every neighbour probe `regmin.at(npos)` / `f.at(npos)` (behind `validposition`), and
every dereference of every flood started at a marked pixel with a witness is inside the array, and EVERY flood drains its stack
(within `1 + #marked` pops: `C10_stack_flood_in_bounds`), so the function returns. -/
theorem C10_regmin_max_in_bounds (shape : List Nat) (nb : List (List Int)) (witness : List Int → Array Bool → Bool)
    (av : Array Bool) :
    pAllOk (regScan shape nb witness (allPos shape) av).1 = true ∧ (regScan shape nb witness (allPos shape) av).2.1 = true := by
  have h := regScan_ok shape nb witness (allPos shape) av fun p hp => (C01.mem_allPos shape p).1 hp
  exact ⟨(pAllOk_iff _).2 h.1, h.2⟩

/-- non-vacuity: a 2×3 plateau, all marked, the first pixel has a witness: one flood clears everything (6 probes + flood accesses) -/
example : (regScan [2, 3] [[-1, 0], [0, -1], [0, 1], [1, 0]] (fun p _ => p == [0, 0]) (allPos [2, 3])
    #[true, true, true, true, true, true]).2 = (true, #[false, false, false, false, false, false]) := by decide +kernel

/-- **C10, `close_holes` as `C14.closeHoles` runs it.** For every well-formed image (`data.size = ∏ shape`, any rank) and every
neighbourhood: with the fuel `C14.closeHoles` passes to its flood (`size + #seeds + 1`) the access model `floodRun`, started on
the state `C14.closeHoles` starts `C14.flood` on and stepping with the same `C14.floodVisit`, drains its stack, and every
position it dereferences is inside the array. (That `floodRun` returns the flags of `C14.flood` holds by the common recursion
but is not stated as a theorem.) -/
theorem C10_close_holes_flood_terminates (ref : Img Int) (nb : List (List Int)) (hwf : ref.data.size = ref.size) :
    pAllOk (floodRun ref.shape nb (ref.size + (C14.chSeeds ref).length + 1) (C14.chAvail1 ref) (C14.chSeeds ref).reverse).1 = true ∧
      (floodRun ref.shape nb (ref.size + (C14.chSeeds ref).length + 1) (C14.chAvail1 ref) (C14.chSeeds ref).reverse).2.1 = true := by
  have h2 := cntTrue_chAvail1_le ref hwf
  have := floodRun_ok ref.shape nb (ref.size + (C14.chSeeds ref).length + 1) (C14.chAvail1 ref) (C14.chSeeds ref).reverse
    (by rw [List.length_reverse]; omega)
  exact ⟨(pAllOk_iff _).2 this.1, this.2.1⟩

end Flood

section Feat
open Mahotas.C10Feat

/-- **C10, `_histogram.cpp: otsu(hist, n)`.** For EVERY `n` (0, 1 and negative included: no access, result 0) and every outcome of
the floating-point tests (`Hsum == 0`, `nB[T] == 0` → `continue`, `nO[T] == 0` → `break`, `sigma_between > best`): every `hist[i]`,
`nB[i]`, `nB[i-1]`, `nB[n-1]`, `nO[i]`, `nO[T-1]` is inside its `n` cells (`nB`, `nO` are `resize(n)`), and the threshold returned
is `0` for `n ≤ 1` and lies in `[0, n)` otherwise (a valid bin of the histogram). -/
theorem C10_otsu_in_bounds (n : Int) (hz : Bool) (nbz noz better : Nat → Bool) :
    allOk (otsuRun n hz nbz noz better).1 = true ∧
      (n ≤ 1 → (otsuRun n hz nbz noz better).2 = 0) ∧ (2 ≤ n → ((otsuRun n hz nbz noz better).2 : Int) < n) := by
  rw [otsuRun]
  by_cases hn : n ≤ 1
  · rw [if_pos hn]
    exact ⟨rfl, fun _ => rfl, fun h => absurd (Int.le_trans h hn) (by decide)⟩
  · rw [if_neg hn]
    have hn0 : 0 < n := Int.lt_trans Int.zero_lt_one (Int.not_le.1 hn)
    have hn1 : 0 ≤ n - 1 := Int.sub_nonneg.2 (Int.le_of_lt (Int.not_le.1 hn))
    by_cases hz' : hz = true
    · rw [if_pos hz']
      refine ⟨allOk_iff.2 ?_, fun _ => rfl, fun _ => hn0⟩
      simp only [acc_forall, List.mem_range, FOk, Int.ofNat_eq_natCast]
      omega
    · rw [if_neg hz']
      obtain ⟨h1, h2⟩ := otsuLoop_ok n nbz noz better (n - 1).toNat 1 0 (le_refl 1) (Int.toNat_of_nonneg hn1) hn0
      refine ⟨allOk_iff.2 ?_, fun h => absurd h hn, fun _ => h2⟩
      -- the counted loops run over `i < n - 1` (reading `i`, `i + 1`) and over `i < n` (reading `i`, `n - 1`)
      simp only [acc_forall, List.mem_range, FOk, Int.ofNat_eq_natCast]
      refine ⟨⟨⟨⟨⟨fun i hi => ?_, ?_, fun i hi => ?_⟩, fun i hi => ?_⟩, fun i hi => ?_⟩, ?_⟩, h1⟩ <;> omega

example : ((otsuRun 4 false (fun _ => false) (fun t => t == 3) (fun t => t == 2)).1.length,
           (otsuRun 4 false (fun _ => false) (fun t => t == 3) (fun t => t == 2)).2) = (53, 2) := by decide +kernel
/-- reading `nB[T-1]` for `T = 0` (a loop started at 0 instead of 1) would leave the vector -/
example : (FAcc.mk (0 - 1) 4).ok = false := by decide +kernel

/-- **C10, `_zernike.cpp: fact(k)`.** For every `k ≥ 0` the recursion `double(k) * fact(k-1)` ends (`max(0, k-12)` calls deep) at ONE
access `_factorialtable[k']` inside the table as extracted from the source (`Generated.factorialTable`, 13 entries). For `k < 0`
the recursion never reaches the table (`unsigned(k) ≥ 13`): no amount of fuel suffices — in C a stack overflow, reachable only
by calling `_zernike.znl` directly with `l > n` or `n < 0` (see `C11_znl_safe`). -/
theorem C10_znl_fact_in_bounds (k : Int) :
    (0 ≤ k → ∀ fuel : Nat, k < fuel → ∃ r, factRun fuel k = some r ∧ r.1.ok = true ∧ r.1.size = 13 ∧
        (r.2 : Int) = max 0 (k - 12)) ∧
    (k < 0 → ∀ fuel : Nat, factRun fuel k = none) := by
  refine ⟨fun h0 fuel hf => ⟨_, factRun_eq fuel k h0 hf, ok_iff.2 (factCell_ok h0), factTableLen_eq, ?_⟩,
    fun hk fuel => factRun_neg fuel k hk⟩
  rw [factTableLen_eq]
  exact (Int.toNat_eq_max _).trans (max_comm _ _)

example : factRun 20 15 = some (⟨12, 13⟩, 3) ∧ factRun 20 0 = some (⟨0, 13⟩, 0) ∧ factRun 20 (-1) = none := by decide +kernel

/-- **C10, `_zernike.cpp: py_znl`.** For `0 ≤ l ≤ n` (what `zernike_moments` passes: `C11_zernike_loop_pre`), any parity of `n - l`,
`Nelems = SIZE(Da)` elements and arrays `Aa`, `Pa` with at least as many elements (the wrapper passes three arrays of one shape; the
entry point does not compare them): every `fact` call of the coefficient loop `m = 0 … (n-l)/2` comes back and reads inside the
factorial table, every `g_m[m]` is inside the `(n-l)/2 + 1` cells of the scratch array (filling loop and element loop), every
`D[i]`, `A[i]`, `P[i]` is inside its array. -/
theorem C10_znl_in_bounds (fuel : Nat) (n l : Int) (nd na np : Nat) (hl0 : 0 ≤ l) (hln : l ≤ n) (hn : n < fuel)
    (ha : nd ≤ na) (hp : nd ≤ np) :
    allOk (znlRun fuel n l nd na np).1 = true ∧ (znlRun fuel n l nd na np).2 = true := by
  have hgm := List.forall_mem_map.2 fun m (hm : m ∈ (List.range (Int.tdiv (n - l) 2 + 1).toNat).map Int.ofNat) =>
    mem_ofNat_range hm
  simp only [znlRun]
  refine ⟨allOk_iff.2 (List.forall_mem_append.2 ⟨List.forall_mem_append.2 ⟨(factCalls_ok ?calls).1, hgm⟩,
    List.forall_mem_flatMap.2 fun i hi => List.forall_mem_append.2 ⟨?_, hgm⟩⟩), (factCalls_ok ?calls).2⟩
  case calls =>
    intro r hr
    obtain ⟨m, hm, hr⟩ := List.mem_flatMap.1 hr
    obtain ⟨x, hx, rfl⟩ := List.mem_map.1 hr
    obtain ⟨hm0, hm1⟩ := mem_ofNat_range hm
    obtain ⟨hx0, hx1⟩ := znlFactArgs_nonneg n l m hl0 hln hm0 (Int.le_of_lt_add_one hm1) x hx
    exact ⟨_, factRun_eq fuel x hx0 (Int.lt_of_le_of_lt hx1 hn), factCell_ok hx0⟩
  simp only [acc_forall]
  -- `(Int.ofNat na).toNat` reduces to `na`
  exact ⟨FOk_of_mem_range hi (Nat.le_refl nd), FOk_of_mem_range hi ha, FOk_of_mem_range hi hp⟩

example : (znlRun 100 8 2 3 3 3).2 = true ∧ allOk (znlRun 100 8 2 3 3 3).1 = true ∧ (znlRun 100 8 2 3 3 3).1.length = 41 := by decide +kernel
/-- `n < 0` (direct call only): `fact(-1)` does not come back; a shorter `Pa`: `P[i]` leaves the array -/
example : (znlRun 20 (-1) 0 1 1 1).2 = false ∧ allOk (znlRun 20 4 2 3 3 2).1 = false := by decide +kernel

/-- **C10, the paired scans `_labeled.cpp: is_same_labeling` and `_morph.cpp: subm`.** `for (p = 0; p < N; ++p) … a[p] … b[p] …` with
`N` = the size of the FIRST array: the complete scan stays inside both buffers IF AND ONLY IF the second array has at least `N`
elements — `subm` checks `same_shape(a, b)` itself; `is_same_labeling` has NO native size test and relies on the wrapper's
`labeled0.shape != labeled1.shape → return False`. With enough elements every prefix of the scan (the early `return false` of
`is_same_labeling`) is inside as well. -/
theorem C10_pair_scan_in_bounds (na nb : Nat) :
    (allOk (pairScan na nb none) = true ↔ na ≤ nb) ∧
    (na ≤ nb → ∀ stop : Option Nat, allOk (pairScan na nb stop) = true) :=
  ⟨pairScan_ok_iff na nb, fun h stop => pairScan_ok na nb stop h⟩

example : allOk (pairScan 4 4 none) = true ∧ allOk (pairScan 4 3 none) = false ∧ (pairScan 4 3 (some 1)).length = 4 := by decide +kernel

/-- **C10, `_morph.cpp: py_disk_2d`.** For every `N0 × N1` C-contiguous bool array (zero-length axes included) and EVERY `radius`
(also values whose square wraps in `int`: the comparison then merely selects other cells): each store `*iter = true` is at
offset `x0*N1 + x1` inside the `N0*N1` cells. -/
theorem C10_disk_2d_in_bounds (n0 n1 : Nat) (radius : Int) : allOk (diskStores n0 n1 radius) = true := by
  refine allOk_iff.2 (List.forall_mem_flatMap.2 fun x0 h0 a ha => ?_)
  obtain ⟨x1, h1, ha⟩ := List.mem_filterMap.1 ha
  obtain ⟨-, ha⟩ := Option.ite_none_right_eq_some.1 ha
  cases ha
  have := flat2_range x0 x1 n0 n1 (Int.natCast_nonneg x0) (Int.ofNat_lt.2 (List.mem_range.1 h0)) (Int.natCast_nonneg x1)
    (Int.ofNat_lt.2 (List.mem_range.1 h1))
  rwa [← Int.natCast_mul] at this

example : (diskStores 5 5 2).map (·.i) = [6, 7, 8, 11, 12, 13, 16, 17, 18] ∧ diskStores 0 7 3 = [] := by decide +kernel

/-- **C10, `_interpolate.cpp`: the small tables of the spline code.** `init_poles`: for the orders
2…5 every `pole[pi]` (`pi < npoles ≤ 2`, the stores and both loops over the poles) is inside `FT pole[2]`; every other order throws
before any access. `spline_coefficients`: for EVERY `order` the stores `result[hh]`, `hh ≤ order`, are inside the `order + 1` cells the
caller has `resize`d (`order < 0`: no store). -/
theorem C10_interpolate_small_tables_in_bounds (order : Int) :
    (∀ l, polesAccesses order = some l → allOk l = true) ∧ (polesAccesses order = none ↔ order < 2 ∨ 5 < order) ∧
      allOk (splineCoeffStores order) = true :=
  ⟨(polesAccesses_spec order).1, (polesAccesses_spec order).2, splineCoeffStores_ok order⟩

example : polesAccesses 4 = some [⟨0, 2⟩, ⟨1, 2⟩, ⟨0, 2⟩, ⟨1, 2⟩] ∧ polesAccesses 6 = none ∧
    (splineCoeffStores 3).map (·.i) = [0, 1, 2, 3] ∧ (FAcc.mk 2 2).ok = false := by decide +kernel

/-- **C10 (B9), SURF `compute_dominant_angle`: the window over the sorted samples.** For every
number of samples `Nsamples ≥ 1` and EVERY outcome of `between_angles` (any angles, NaN included): `samples[0]`, every
`samples[j]` of the first loop (`j != Nsamples` tested first), every `samples[i]`, `samples[j]` of the update loop — where `j`
advances circularly (`++j; if (j == Nsamples) j = 0`) — is inside the vector; each `while (j != i && …)` ends within `Nsamples`
rounds (the circular distance from `j` to `i` decreases), so the function returns; after a non-early return `j < Nsamples`.
The sampling loops always collect exactly 109 samples (`r*r + c*c < 36`, `-6 ≤ r, c ≤ 6`). -/
theorem C10_surf_dominant_angle_in_bounds (ns : Nat) (btw : Nat → Nat → Bool) (hns : 1 ≤ ns) :
    allOk (angleRun ns btw).1 = true ∧ (angleRun ns btw).2.2.2 = true ∧
      ((angleRun ns btw).2.1 = false → (angleRun ns btw).2.2.1 < ns) ∧ angleSampleCount = 109 := by
  obtain ⟨h1, h2, h3⟩ := angleRun_ok ns btw hns
  exact ⟨allOk_iff.2 h1, h2, h3, by decide +kernel⟩

/-- non-vacuity: 4 samples, every pair "between": the first loop takes everything (early return); nothing between: the update loop
runs with `j` parked; all but one: `j` wraps around; an empty sample vector (impossible: 109) would make `samples[0]` leave it -/
example : (angleRun 4 (fun _ _ => true)).2.1 = true ∧ (angleRun 4 (fun _ _ => false)).2 = (false, 1, true) ∧
    (angleRun 4 (fun i j => !(i == 0 && j == 3))).2 = (false, 3, true) ∧ allOk (angleRun 0 (fun _ _ => false)).1 = false := by decide +kernel

end Feat

section Conv
open Mahotas.C10Conv

/-- **C10, `_convolve.cpp: rank_filter` — the scratch vector `n_data` (`resize(N2)`).** For every footprint size `N2`, every
`rank` with `0 ≤ rank < N2` (what `_check_rank` guarantees: `C11_rank_guards_imply_pre`; outside that range the kernel returns before
any access), every border mode and EVERY outcome of the `N2` `retrieve` calls of a pixel: each store `neighbours[n++]` and the read
`neighbours[currank]` is inside the `N2` cells; the final count satisfies `0 ≤ n ≤ N2` (`= N2` in constant mode);
`0 ≤ currank ≤ n`, so `std::nth_element(neighbours, neighbours + currank, neighbours + n)` gets a valid range; and whenever at
least one neighbour was retrieved `currank < n`: the value written to the result was stored for THIS pixel. (Only for `n = 0` —
`ignore` mode with a footprint that misses the image entirely — `neighbours[0]` is a value-initialised or stale cell of the
vector: defined memory, see `C08_rank_filter_ignore_stale_witness`.) -/
theorem C10_rank_filter_in_bounds (n2 rank : Int) (isConst : Bool) (retr : List Bool) (hlen : (retr.length : Int) = n2)
    (hr0 : 0 ≤ rank) (hr : rank < n2) :
    allOk (rankPixelAccesses n2 rank isConst retr) = true ∧
    0 ≤ (rankStores isConst retr 0).2 ∧ (rankStores isConst retr 0).2 ≤ n2 ∧
    (isConst = true → (rankStores isConst retr 0).2 = n2) ∧
    0 ≤ curRank n2 (rankStores isConst retr 0).2 rank ∧
    curRank n2 (rankStores isConst retr 0).2 rank ≤ (rankStores isConst retr 0).2 ∧
    (0 < (rankStores isConst retr 0).2 → curRank n2 (rankStores isConst retr 0).2 rank < (rankStores isConst retr 0).2) := by
  obtain ⟨h1, h2, -, h4⟩ := rankStores_spec isConst retr 0
  rw [Int.zero_add, hlen] at h2 h4
  obtain ⟨c1, c2, -, c4⟩ := curRank_spec n2 _ rank hr0 hr h1 h2
  exact ⟨rankPixelAccesses_ok n2 rank isConst retr hlen hr0 hr, h1, h2, h4, c1, c2, c4⟩

/-- non-vacuity: a 5-cell footprint, `ignore` mode, two neighbours outside the image, rank 2 (the median): three stores at 0, 1, 2,
`currank = 3*2/5 = 1`; with `rank = 5` nothing is accessed; over a vector of 2 cells the third store would be outside -/
example : rankPixelAccesses 5 2 false [true, false, true, true, false] = [⟨0, 5⟩, ⟨1, 5⟩, ⟨2, 5⟩, ⟨1, 5⟩] ∧
    rankPixelAccesses 5 5 false [true, false, true, true, false] = [] ∧
    allOk ((rankStores false [true, true, true] 0).1.map (fun i => CAcc.mk i 2)) = false := by decide +kernel

/-- **C10, `py_daubechies` / `py_idaubechies`: the coefficient table selected by `dcoeffs(code)`.** For EVERY `int code`: the entry point
goes on exactly for `0 ≤ code ≤ 9` (otherwise `dcoeffs` sets an error and the entry point returns), and then every
`coeffs[j]`, `j < ncoeffs = 2*(code+1)`, of `wavelet` / `iwavelet` is inside the table the `switch` selected — the ten tables as
extracted from the source have at least `2*(code+1)` entries (exactly that many: `C10Conv.dcoeffs_row_length`, so `nc` of
`C10_wavelet_in_bounds` is the table length). -/
theorem C10_daubechies_tables_in_bounds (code : Int) :
    (daubCoeffReads code = none ↔ code < 0 ∨ 9 < code) ∧ ∀ l, daubCoeffReads code = some l → Mahotas.C10Conv.allOk l = true := by
  exact ⟨daubCoeffReads_eq_none code, daubCoeffReads_ok code⟩

example : (daubCoeffReads 1).map (fun l => l.map (·.i)) = some [0, 1, 2, 3] ∧ daubCoeffReads 10 = none ∧ daubCoeffReads (-1) = none := by
  decide +kernel

/-- **C10, `rank_filter`: the rank test in front of the loop is necessary.** Without `rank >= N2` rejected, `rank = N2` with every
neighbour retrieved reads `neighbours[N2]`, one past the vector, for every footprint size. -/
theorem C10_rank_filter_needs_rank_guard (n2 : Int) : (CAcc.mk (curRank n2 n2 n2) n2).ok = false := by
  simp [curRank, CAcc.ok]

end Conv

section Alloc
open Mahotas.C10Alloc

/-- **C10, uninitialised results — `std::fill` / `fill_n` / `PyArray_FILLWBYTE` / `a.fill(v)` / `a[...] = v`.** For every size `n`:
every store is inside the buffer and EVERY cell `0 … n-1` is stored (so nothing of what the allocation left in the buffer survives). -/
theorem C10_alloc_fill_defined (n : Nat) : within n (fillWrites n) = true ∧ covers n (fillWrites n) = true :=
  defined_of_mem (mem_fillWrites n)

example : fillWrites 3 = [0, 1, 2] ∧ covers 4 (fillWrites 3) = false := by decide +kernel

/-- **C10, uninitialised results — the pixel loop** (`convolve`, `rank_filter`, `mean_filter`, `template_match`, `erode`,
`zoom_shift`'s output iterator, `fast_hitmiss`, the footprint copy of `filter_iterator`, `hitmiss`'s cursor): a pointer that starts at
cell 0, ONE unconditional store per iteration, advanced once per iteration, `N` iterations. For every `N`: all stores inside the
buffer of `N` cells, and every cell stored. -/
theorem C10_alloc_pixel_loop_defined (n : Nat) : within n (pixelWrites n) = true ∧ covers n (pixelWrites n) = true :=
  defined_of_mem (mem_pixelWrites n)

example : pixelWrites 4 = [0, 1, 2, 3] := by decide +kernel
/-- a pixel loop that skips the store in one iteration (a `continue` in front of `*rpos = …`) leaves a cell undefined -/
example : covers 4 ((pixelWrites 4).erase 2) = false := by decide +kernel

/-- **C10, uninitialised results — row/column loops over a C-contiguous 2-D result** (`convolve1d` fast path into `out` / the
`np.empty` scratch `tmp`, `gaussian_filter`): for all `N0`, `N1` every `y*N1 + x` is inside the `N0*N1` cells and every cell is stored. -/
theorem C10_alloc_rows_defined (n0 n1 : Nat) :
    within (n0 * n1) (rowsWrites n0 n1) = true ∧ covers (n0 * n1) (rowsWrites n0 n1) = true :=
  defined_of_mem (mem_rowsWrites n0 n1)

example : rowsWrites 2 3 = [0, 1, 2, 3, 4, 5] := by decide +kernel

/-- **C10, `_convex.cpp: convexhull`.** The `(h, 2)` result of `PyArray_SimpleNew` is filled by `*oiter++ = y; *oiter++ = x` for
`i < h`: for every hull size `h` (0 included: an empty result has no cell) all stores are inside the `2h` cells and every cell is stored. -/
theorem C10_alloc_convexhull_output_defined (h : Nat) :
    within (h * 2) (pairsWrites h) = true ∧ covers (h * 2) (pairsWrites h) = true :=
  defined_of_mem (mem_pairsWrites h)

example : pairsWrites 2 = [0, 1, 2, 3] ∧ pairsWrites 0 = [] := by decide +kernel

/-- **C10, `_surf.cpp`: the point arrays returned by `surf`, `descriptors`, `interest_points`.** `new_array<double>(n, k)` followed by
`points[i].dump(arr.data(i))` for `i < n`, where `dump` stores `out[0 … k-1]`: for every `n`, `k` all stores are inside the `n*k` cells
and every cell is stored. -/
theorem C10_alloc_surf_records_defined (n k : Nat) :
    within (n * k) (recordsWrites n k) = true ∧ covers (n * k) (recordsWrites n k) = true :=
  defined_of_mem (mem_recordsWrites n k)

example : recordsWrites 2 5 = [0, 1, 2, 3, 4, 5, 6, 7, 8, 9] := by decide +kernel

/-- **C10, `_bbox.cpp: py_bbox` / `py_bbox_labeled`.** The `2*nd` cells (`bbox_labeled`: `osize = 2*nd*(n+1)` cells, `j < osize/2`)
are stored by `extrema_v[2*j] = …; extrema_v[2*j+1] = 0` before the scan only reads-modifies them: for every `nd`, inside and complete. -/
theorem C10_alloc_bbox_extrema_defined (nd : Nat) :
    within (2 * nd) (bboxInitWrites nd) = true ∧ covers (2 * nd) (bboxInitWrites nd) = true :=
  defined_of_mem (mem_bboxInitWrites nd)

example : bboxInitWrites 2 = [0, 1, 2, 3] := by decide +kernel
/-- an odd `osize` would leave the last cell of the labeled output undefined (`labeled.py` allocates `f.ndim * 2 * (n+1)`: even) -/
example : covers 5 (bboxInitWrites (5 / 2)) = false := by decide +kernel

/-- **C10, `zernike.py: An = np.empty(…, complex128); An.real = …; An.imag = …`**: seen as `2n` doubles every cell is stored. -/
theorem C10_alloc_complex_halves_defined (n : Nat) :
    within (2 * n) (complexHalvesWrites n) = true ∧ covers (2 * n) (complexHalvesWrites n) = true :=
  defined_of_mem (mem_complexHalvesWrites n)

example : complexHalvesWrites 2 = [0, 2, 1, 3] := by decide +kernel

/-- **C10, `_filters.h: filter_iterator(…, compress = true)`.** `new_filter_data = new T[size_]` with `size_` = the number of non-zero
filter cells (what `init_filter_offsets` counts from `footprint[i] = !!filter[i]`), stored by `if (*fiter) new_filter_data[j++] = *fiter`:
for EVERY filter content the stores are inside the `size_` cells and every cell is stored (the kernels index `filter[j]`, `j < size_`). -/
theorem C10_alloc_filter_compress_defined (mask : List Bool) :
    within (compressSize mask) (compressWrites mask) = true ∧ covers (compressSize mask) (compressWrites mask) = true :=
  defined_of_mem (mem_compressWrites mask)

example : compressWrites [true, false, true, true, false] = [0, 1, 2] ∧ compressSize [true, false, true, true, false] = 3 := by decide +kernel
example : compressWrites [false, false] = [] ∧ compressSize [false, false] = 0 := by decide +kernel

/-- **C10, `_zernike.cpp: py_znl`, the scratch `g_m = new double[int((n-l)/2) + 1]`.** For ALL ints `n`, `l` (C division truncating
towards zero): every `g_m[m]` of the filling loop `m = 0 … (n-l)/2` is inside the allocation, every cell is stored, and every `g_m[m]`
the element loop reads was stored. (For `n - l ≤ -2` the allocation size is `≤ 0` and both loops run zero times.) -/
theorem C10_alloc_znl_gm_defined (n l : Int) :
    within (gmSize n l).toNat (gmIndices n l) = true ∧ covers (gmSize n l).toNat (gmIndices n l) = true ∧
      readsDefined (gmIndices n l) (gmIndices n l) = true :=
  ⟨(defined_of_mem (mem_gmIndices n l)).1, (defined_of_mem (mem_gmIndices n l)).2, readsDefined_self _⟩

example : gmIndices 8 2 = [0, 1, 2, 3] ∧ gmSize 8 2 = 4 ∧ gmIndices 3 7 = [] := by decide +kernel

/-- **C10, `thin.py: imagebuf = np.empty((r+2, c+2), bool)`** (scratch of `_thin.thin`): in every round `fast_hitmiss` stores
`*output++` once per input byte, BEFORE the clearing loop reads `*pb` for `j < N`: all stores/reads inside, every cell stored,
every cell read was stored in the same round. -/
theorem C10_alloc_thin_buffer_defined (n : Nat) :
    within n (hitmissBufRound n).1 = true ∧ covers n (hitmissBufRound n).1 = true ∧
      within n (hitmissBufRound n).2 = true ∧ readsDefined (hitmissBufRound n).1 (hitmissBufRound n).2 = true :=
  ⟨(C10_alloc_pixel_loop_defined n).1, (C10_alloc_pixel_loop_defined n).2, (C10_alloc_pixel_loop_defined n).1,
    readsDefined_self _⟩

/-- **C10, `_distance.cpp: dist_transform` — the scratch arrays `v = new int[n]`, `z = new double[n+1]` of `py_dt` are never read before
they are written.** With the two float tests as arbitrary oracles subject to (i) `s > z[0] = -inf` succeeds: no NaN; (ii) the sentinel
`z[kfin+1] = +inf` is never `< q`, where `kfin = dtKfin cmp n` is the final `k` of `dtFirstD`, the first loop as `Model/C10Alloc.lean`
transliterates it (`C10_dist_transform_in_bounds` asks the same of `dtKmax`; no lemma relates the two): every `v[k]`, `z[k]` read by the
do-while of the first loop and every `z[k+1]`, `v[k]` read by the second loop addresses a cell that an earlier statement of the SAME
call has stored (`v[0]`, `z[0]`, `z[1]` at the start; `v[k]`, `z[k]`, `z[k+1]` after every `++k`; cells above the current `k` keep earlier
stores of this call), for every line length and every outcome of the comparisons; and the do-while always leaves through `break`.
(`Df[q]`, `ot[q]` are stored for every `q < n` by the second loop before the third loop reads them: the pixel-loop shape.) -/
theorem C10_alloc_dt_scratch_defined (cmp lt2 : Nat → Nat → Bool) (n : Nat) (hcmp : ∀ q, cmp q 0 = true)
    (hlt : ∀ q, lt2 q (dtKfin cmp n) = false) :
    (dtScratchReads cmp lt2 n).1.all DRead.ok = true ∧ (dtScratchReads cmp lt2 n).2.isSome = true :=
  dtScratchReads_ok cmp lt2 n hcmp hlt

/-- non-vacuity: `n = 4`, never pop (`k` grows to 3), the second loop advances while `k < 3`: 17 reads, all of stored cells; a
second loop that ignores the sentinel (`lt2` always true) reads `z[5]`, which nobody stored -/
example : dtKfin (fun _ _ => true) 4 = 3 ∧ (dtScratchReads (fun _ _ => true) (fun _ k => decide (k < 3)) 4).1.length = 17 ∧
    (dtScratchReads (fun _ _ => true) (fun _ k => decide (k < 3)) 4).1.all DRead.ok = true ∧
    (dtScratchReads (fun _ _ => true) (fun _ _ => true) 4).1.all DRead.ok = false := by decide +kernel

/-- **C10, `majority_filter` (and `find2d`): fill, then window stores.** `PyArray_FILLWBYTE(res_a, 0)` stores every cell; the
stores of the window loops `output.data() + (y + N/2)*cols + N/2 + x` (`y < rows-N`, `x < cols-N`, taken only when `rows, cols ≥ N`)
stay inside the `rows*cols` cells, for every size and every window `N` (even, zero and larger than the image included). -/
theorem C10_alloc_window_defined (rows cols win : Nat) :
    within (rows * cols) (windowWrites rows cols win) = true ∧ covers (rows * cols) (windowWrites rows cols win) = true :=
  defined_of_mem (mem_windowWrites rows cols win)

example : windowWrites 4 4 3 = (fillWrites 16) ++ [5] := by decide +kernel
example : windowWrites 2 5 3 = fillWrites 10 := by decide +kernel

/-- one row of the cover: an allocation site of uninitialised memory (`file`, enclosing `fn`, variable, ordinal), the loop shape that
fills the buffer (`mech`, with the source text in `how`), the theorems of this file about that shape and about the kernel's index
arithmetic, and whether "every cell stored before it is read/returned" is PROVED for the shape (`false`: validated only, by the
two-heap-fillings sweep of `harness/props/c10.py`). -/
structure AllocCover where
  file : String
  fn : String
  var : String
  ord : Nat
  mech : String
  how : String
  thms : List Lean.Name
  proved : Bool

/-- the hand-written cover of `Generated.allocSiteTable` (regenerated from the sources on every run). `C10_alloc_sites_covered`
matches file, function, variable and ordinal (not the generated allocation kind) and checks site ⇒ row only; `mech`, `how`
and `proved` are filled in by hand. -/
def allocCover : List AllocCover := [
  ⟨"_bbox.cpp", "py_bbox", "extrema", 0, "bboxinit", "for j != nd: extrema_v[2*j] = DIM(j); extrema_v[2*j+1] = 0 right after the allocation", [``C10_alloc_bbox_extrema_defined, ``C10_bbox_in_bounds], true⟩,
  ⟨"_center_of_mass.cpp", "py_center_of_mass", "centers", 0, "fill", "std::fill(centers_v, centers_v + dims[0], 0) before the kernel", [``C10_alloc_fill_defined, ``C10_center_of_mass_in_bounds], true⟩,
  ⟨"_center_of_mass.cpp", "py_center_of_mass", "totals", 0, "fill", "std::fill(totals, totals + max_label + 1, 0.0) right after new[]", [``C10_alloc_fill_defined], true⟩,
  ⟨"_convex.cpp", "convexhull", "output", 0, "pairs", "for i != h: *oiter++ = P[i].y; *oiter++ = P[i].x into the (h,2) result", [``C10_alloc_convexhull_output_defined, ``C10_graham_in_bounds], true⟩,
  ⟨"_convolve.cpp", "py_convolve", "output", 0, "pixel", "convolve<T>: one store *rpos per iteration of the pixel loop", [``C10_alloc_pixel_loop_defined], true⟩,
  ⟨"_distance.cpp", "py_dt", "z", 0, "dtscratch", "dist_transform stores z[0], z[1] first and z[k], z[k+1] after every ++k; every z[k] / z[k+1] read is at or below the watermark", [``C10_alloc_dt_scratch_defined, ``C10_dist_transform_in_bounds], true⟩,
  ⟨"_distance.cpp", "py_dt", "v", 0, "dtscratch", "dist_transform stores v[0] first and v[k] after every ++k; every v[k] read is below the watermark", [``C10_alloc_dt_scratch_defined, ``C10_dist_transform_in_bounds], true⟩,
  ⟨"_distance.cpp", "py_dt", "ot", 0, "pixel", "second loop: ot[q] = … for every q < n (one store per iteration), third loop reads ot[q] for q < n", [``C10_alloc_pixel_loop_defined, ``C10_alloc_thin_buffer_defined, ``C10_dist_transform_in_bounds], true⟩,
  ⟨"_distance.cpp", "py_dt", "Df", 0, "pixel", "second loop: Df[q] = … for every q < n (one store per iteration), third loop reads Df[q] for q < n", [``C10_alloc_pixel_loop_defined, ``C10_alloc_thin_buffer_defined, ``C10_dist_transform_in_bounds], true⟩,
  ⟨"_morph.cpp", "py_close_holes", "res_a", 0, "fill", "close_holes starts with std::fill_n(f.data(), f.size(), false)", [``C10_alloc_fill_defined], true⟩,
  ⟨"_surf.cpp", "build_pyramid", "pyramid", 0, "fill", "PyArray_FILLWBYTE(pyramid[o].raw_array(), 0) right after new_array", [``C10_alloc_fill_defined, ``C10_surf_pyramid_in_bounds], true⟩,
  ⟨"_surf.cpp", "py_surf", "arr", 0, "records", "for i: spoints[i].dump(arr.data(i)) stores all ndoubles cells of row i", [``C10_alloc_surf_records_defined], true⟩,
  ⟨"_surf.cpp", "py_descriptors", "arr", 0, "records", "for i: spoints[i].dump(arr.data(i))", [``C10_alloc_surf_records_defined], true⟩,
  ⟨"_surf.cpp", "py_interest_points", "arr", 0, "records", "for i: interest_points[i].dump(arr.data(i))", [``C10_alloc_surf_records_defined], true⟩,
  ⟨"_zernike.cpp", "py_znl", "g_m", 0, "gm", "for m <= (n-l)/2: g_m[m] = … before the element loop reads g_m[m] over the same range", [``C10_alloc_znl_gm_defined], true⟩,
  ⟨"_filters.h", "filter_iterator", "footprint", 0, "pixel", "for i != filter_size: footprint[i] = !!(*fiter)", [``C10_alloc_pixel_loop_defined], true⟩,
  ⟨"_filters.h", "filter_iterator", "new_filter_data", 0, "compress", "j = 0; for i: if (*fiter) new_filter_data[j++] = *fiter into new T[size_]", [``C10_alloc_filter_compress_defined], true⟩,
  ⟨"array.hpp", "new_array", "?", 0, "helper", "numpy::new_array: the allocation helper itself; its call sites are the four _surf.cpp rows", [``C10_alloc_surf_records_defined, ``C10_alloc_fill_defined], true⟩,
  ⟨"array.hpp", "array_like", "return", 0, "helper", "numpy::array_like: allocation helper without a call site in the current sources", [], true⟩,
  ⟨"convolve.py", "convolve", "output", 0, "pixel", "_convolve.convolve pixel loop", [``C10_alloc_pixel_loop_defined], true⟩,
  ⟨"convolve.py", "convolve1d", "out", 0, "rows", "native fast path: result.data(y)[x] for every row and column (C06 fastwrites); other axes: generic convolve pixel loop", [``C10_alloc_rows_defined, ``C10_alloc_pixel_loop_defined, ``C10_convolve1d_in_bounds], true⟩,
  ⟨"convolve.py", "convolve1d", "tmp", 0, "rows", "native fast path writes every column of every row of tmp before out[...] = tmp…", [``C10_alloc_rows_defined, ``C10_convolve1d_in_bounds], true⟩,
  ⟨"convolve.py", "median_filter", "output", 0, "pixel", "rank_filter pixel loop (rank in range by _check_rank: C11_rank_guards_imply_pre)", [``C10_alloc_pixel_loop_defined, ``C10_rank_filter_in_bounds], true⟩,
  ⟨"convolve.py", "mean_filter", "out", 0, "pixel", "mean_filter pixel loop", [``C10_alloc_pixel_loop_defined], true⟩,
  ⟨"convolve.py", "rank_filter", "output", 0, "pixel", "rank_filter pixel loop (rank in range by _check_rank: C11_rank_guards_imply_pre)", [``C10_alloc_pixel_loop_defined, ``C10_rank_filter_in_bounds], true⟩,
  ⟨"convolve.py", "template_match", "output", 0, "pixel", "template_match pixel loop", [``C10_alloc_pixel_loop_defined], true⟩,
  ⟨"convolve.py", "find", "out", 0, "window", "find2d: std::fill(rpos, rpos + N0*N1, false) before the window loops", [``C10_alloc_fill_defined, ``C10_find2d_in_bounds], true⟩,
  ⟨"convolve.py", "gaussian_filter", "output", 0, "rows", "filled by convolve1d (fast path rows / generic pixel loop) per axis", [``C10_alloc_rows_defined, ``C10_alloc_pixel_loop_defined], true⟩,
  ⟨"features/texture.py", "haralick", "cmat", 0, "fill", "cooccurence(f, dir, cmat, …) executes output.fill(0) before the kernel", [``C10_alloc_fill_defined, ``C10_cooccurence_in_bounds], true⟩,
  ⟨"features/texture.py", "haralick_features", "px_plus_y", 0, "fill", "px_plus_y.fill(0) before _texture.compute_plus_minus (which only adds)", [``C10_alloc_fill_defined, ``C10_compute_plus_minus_in_bounds], true⟩,
  ⟨"features/texture.py", "haralick_features", "px_minus_y", 0, "fill", "px_minus_y.fill(0) before _texture.compute_plus_minus", [``C10_alloc_fill_defined, ``C10_compute_plus_minus_in_bounds], true⟩,
  ⟨"features/zernike.py", "zernike_moments", "An", 0, "complexhalves", "An.real = Xn/Dn; An.imag = Yn/Dn", [``C10_alloc_complex_halves_defined], true⟩,
  ⟨"internal.py", "_get_output", "return", 0, "helper", "np.empty(array.shape, dtype) of _get_output: handed to the callers listed as get_output rows", [], true⟩,
  ⟨"interpolate.py", "spline_filter1d", "output", 0, "fill", "output[...] = array before the in-place kernel", [``C10_alloc_fill_defined, ``C10_spline_filter1d_in_bounds], true⟩,
  ⟨"interpolate.py", "spline_filter", "output", 0, "fill", "output[...] = array before the in-place kernel", [``C10_alloc_fill_defined, ``C10_spline_filter1d_in_bounds], true⟩,
  ⟨"interpolate.py", "zoom", "out", 0, "pixel", "zoom_shift: *io = cval or *io = t for every element of the output iterator", [``C10_alloc_pixel_loop_defined, ``C10_zoom_shift_in_bounds], true⟩,
  ⟨"interpolate.py", "zoom", "out", 1, "pixel", "zoom_shift: *io = cval or *io = t for every element of the output iterator", [``C10_alloc_pixel_loop_defined, ``C10_zoom_shift_in_bounds], true⟩,
  ⟨"interpolate.py", "shift", "output", 0, "pixel", "zoom_shift output iterator loop", [``C10_alloc_pixel_loop_defined, ``C10_zoom_shift_in_bounds], true⟩,
  ⟨"labeled.py", "label", "output", 0, "fill", "output[:] = (array != 0) before _labeled.label", [``C10_alloc_fill_defined], true⟩,
  ⟨"labeled.py", "border", "output", 0, "fill", "output.fill(False) before _labeled.border", [``C10_alloc_fill_defined], true⟩,
  ⟨"labeled.py", "borders", "output", 0, "fill", "output.fill(False) before _labeled.borders", [``C10_alloc_fill_defined], true⟩,
  ⟨"labeled.py", "labeled_sum", "output", 0, "fill", "labeled_foldl: std::fill(result, result + maxlabel, start)", [``C10_alloc_fill_defined, ``C10_labeled_foldl_in_bounds], true⟩,
  ⟨"labeled.py", "labeled_max", "output", 0, "fill", "labeled_foldl: std::fill(result, result + maxlabel, start)", [``C10_alloc_fill_defined, ``C10_labeled_foldl_in_bounds], true⟩,
  ⟨"labeled.py", "labeled_min", "output", 0, "fill", "labeled_foldl: std::fill(result, result + maxlabel, start)", [``C10_alloc_fill_defined, ``C10_labeled_foldl_in_bounds], true⟩,
  ⟨"labeled.py", "bbox", "output", 0, "bboxinit", "py_bbox_labeled: for j < osize/2: extrema_v[2*j] = …; extrema_v[2*j+1] = 0 (osize = 2*nd*(n+1) is even)", [``C10_alloc_bbox_extrema_defined, ``C10_bbox_labeled_in_bounds], true⟩,
  ⟨"morph.py", "dilate", "output", 0, "fill", "dilate<T>: std::fill / std::copy of the whole result before the scatter loop (C08_defined_everywhere_dilate, C08_defined_everywhere_fast_binary)", [``C10_alloc_fill_defined, ``C10_fastbinary_in_bounds], true⟩,
  ⟨"morph.py", "erode", "output", 0, "pixel", "erode<T>: pixel loop; fast binary path: std::copy / std::fill_n first (C08_defined_everywhere_erode, C08_defined_everywhere_fast_binary)", [``C10_alloc_pixel_loop_defined, ``C10_alloc_fill_defined, ``C10_fastbinary_in_bounds], true⟩,
  ⟨"morph.py", "cerode", "out", 0, "pixel", "_morph.erode(f, Bc, out)", [``C10_alloc_pixel_loop_defined, ``C10_alloc_fill_defined], true⟩,
  ⟨"morph.py", "hitmiss", "out", 0, "pixel", "hitmiss<T>: every store is res.at_flat(i) at the loop cursor i, which then advances by one (margin run: at_flat(i++) = 0), return only when i == N", [``C10_alloc_pixel_loop_defined, ``C10_hitmiss_in_bounds], true⟩,
  ⟨"morph.py", "majority_filter", "output", 0, "window", "PyArray_FILLWBYTE(res_a, 0) before the window loops", [``C10_alloc_window_defined, ``C10_majority_in_bounds], true⟩,
  ⟨"morph.py", "locmax", "output", 0, "fill", "PyArray_FILLWBYTE(output, 0) in py_locminmax", [``C10_alloc_fill_defined], true⟩,
  ⟨"morph.py", "locmin", "output", 0, "fill", "PyArray_FILLWBYTE(output, 0) in py_locminmax", [``C10_alloc_fill_defined], true⟩,
  ⟨"morph.py", "regmin", "output", 0, "fill", "PyArray_FILLWBYTE(output, 0) in py_regminmax", [``C10_alloc_fill_defined], true⟩,
  ⟨"morph.py", "regmax", "output", 0, "fill", "PyArray_FILLWBYTE(output, 0) in py_regminmax", [``C10_alloc_fill_defined], true⟩,
  ⟨"morph.py", "subm", "out", 0, "fill", "out[:] = a before _morph.subm (in place)", [``C10_alloc_fill_defined], true⟩,
  ⟨"morph.py", "tophat_close", "out", 0, "fill", "handed to subm(fc, f, out=out): out[:] = a", [``C10_alloc_fill_defined], true⟩,
  ⟨"morph.py", "tophat_open", "out", 0, "fill", "handed to subm(f, fo, out=out): out[:] = a", [``C10_alloc_fill_defined], true⟩,
  ⟨"resize.py", "resize_to", "out", 0, "pixel", "handed to zoom(out=out): zoom_shift output iterator loop", [``C10_alloc_pixel_loop_defined, ``C10_zoom_shift_in_bounds], true⟩,
  ⟨"resize.py", "imresize", "out", 0, "pixel", "handed to zoom(out=out): zoom_shift output iterator loop", [``C10_alloc_pixel_loop_defined, ``C10_zoom_shift_in_bounds], true⟩,
  ⟨"thin.py", "thin", "imagebuf", 0, "hitmissbuf", "scratch: fast_hitmiss stores every cell (*output++ per input byte) before the clearing loop reads it, in every round", [``C10_alloc_thin_buffer_defined, ``C10_thin_in_bounds], true⟩
]

/-- **C10, uninitialised results: every allocation site is classified.** `translator/allocs.py` lists every allocation of
uninitialised memory in the sources (`PyArray_SimpleNew`, `PyArray_EMPTY`, `new_array`, `new T[n]`, `operator new`,
`np.empty`, `np.empty_like`, `np.ndarray(shape)`, and every call of `_get_output`): each of them has a row in `allocCover` naming the
loop shape that fills it and the theorems about that shape. A NEW result buffer that nobody has looked at makes this `decide +kernel` fail. -/
theorem C10_alloc_sites_covered :
    Mahotas.Generated.allocSiteTable.all (fun s =>
      allocCover.any fun c => c.file == s.1 && c.fn == s.2.1 && c.var == s.2.2.1 && c.ord == s.2.2.2.2) = true := by
  decide +kernel

/-- **C10, uninitialised results: nothing is left validated-only.** Every row of the cover is marked proved (by hand) and (unless
it is one of the three allocation helpers, whose call sites have rows of their own) cites at least one theorem about the loop shape
that fills the buffer. (The scratch arrays `z`, `v` of `py_dt`: `C10_alloc_dt_scratch_defined`; `ot`, `Df`: the pixel-loop shape.) -/
theorem C10_alloc_validated_only :
    (allocCover.filter fun c => !c.proved).map (fun c => (c.file, c.var)) = [] ∧
    allocCover.all (fun c => c.proved → (c.mech == "helper" || !c.thms.isEmpty)) = true := by
  decide +kernel

-- every theorem the cover cites exists (a renamed or deleted theorem breaks the build)
open Lean in
#eval show CoreM Unit from do
  let env ← getEnv
  for c in allocCover do
    for n in c.thms do
      unless env.contains n do throwError "allocCover: {c.file}:{c.fn}:{c.var} cites the unknown theorem {n}"

end Alloc
