/-
C18 — property theorems.
They are about the polymorphic definitions of `Model/C18.lean` that the native driver runs at `Float`,
instantiated at an arbitrary ordered field `K` with an arbitrary floor function `fl`
(`IsFloor fl : ∀ z, fl z ≤ z < fl z + 1`).
-/
import Mahotas.Proofs.C18Shift
import Mahotas.Proofs.C18Filter
import Mahotas.Proofs.C18Tensor
import Mahotas.Proofs.C18Init
import Mahotas.Proofs.C18BSplineW
import Mahotas.Proofs.C18Interp
import Mahotas.Proofs.C18Resize
import Mahotas.Proofs.C18Border
import Mahotas.Proofs.C18Shape
import Mahotas.Proofs.C18Array
import Mathlib.Analysis.SpecialFunctions.Pow.Real
import Mathlib.Data.Rat.Floor
import Mahotas.Proofs.Modes

open Mahotas Mahotas.C18

/-- **C18-T1 (partition of unity).** For every spline order 1–5 and every coordinate `x` the `order+1`
weights computed by `spline_coefficients` — start knot `order odd ? ⌊x⌋ : ⌊x+½⌋` minus `order/2`, distance
`|start − x + h|`, the piecewise polynomial of the order — sum to one, over every ordered field and for
every floor function. -/
theorem C18_weights_partition {K : Type} [Field K] [LinearOrder K] [IsStrictOrderedRing K]
    {fl : K → Int} (h : IsFloor fl) (order : Nat) (h1 : 1 ≤ order) (h5 : order ≤ 5) (x : K) :
    (weights fl order x).sum = 1 :=
  weights_sum h order h1 h5 x

/-- **C18-T1 (order 1 is linear interpolation).** With `t = x − ⌊x⌋` the two weights of order 1 are
`(1 − t, t)` on the knots `⌊x⌋, ⌊x⌋+1`, and the accumulation of `zoom_shift` along an axis with these
weights is `(1−t)·f[i] + t·f[j]`: at fractional offsets order 1 is the linear interpolation of the two
neighbours. -/
theorem C18_order1_linear {K : Type} [Field K] [LinearOrder K] [IsStrictOrderedRing K]
    {fl : K → Int} (h : IsFloor fl) (x : K) (sample : List Int → K) (i j : Int) :
    startIdx fl 1 x = fl x ∧
    weights fl 1 x = [1 - (x - (fl x : K)), x - (fl x : K)] ∧
    tensorSum ((0 : Nat) : K) sample [([i, j], weights fl 1 x)]
      = (1 - (x - (fl x : K))) * sample [i] + (x - (fl x : K)) * sample [j] := by
  refine ⟨startIdx_one fl x, weights_order1 h x, ?_⟩
  rw [weights_order1 h x]
  exact tensorSum_linear1 sample i j _

/-- **C18-T2 (integer shifts are exact translations, order 1, any dimension).** For an image of any rank
with positive axis lengths, an integer shift vector `d` and every output position `p`, the model of
`interpolate.shift(order=1)` (`shift *= -1`, then `zoom_shift`: coordinate `p − d`, border handling,
start knot, weights, tensor-product accumulation) returns exactly the input sample at `p − d` where that
lies inside the array, the sample the border rule of the mode assigns to `p − d` (mathematical
definition `borderSpec`: clamp / modulo / reflection / mirror) where it lies outside, and `cval` for
`constant`/`ignore`. A zero shift returns the input. -/
theorem C18_integer_shift_exact {K : Type} [Field K] [LinearOrder K] [IsStrictOrderedRing K]
    {fl : K → Int} (h : IsFloor fl) (m : Mode) (cval : K) (im : Img K) (p ds : List Int)
    (hs : ∀ len ∈ im.shape, 0 < len) (hp : ∀ kk ∈ p, 0 ≤ kk) :
    pixel fl 1 m cval im (ds.map fun (d : Int) => some (-(d : K))) (ds.map fun _ => none) p =
      match shiftPos m im.shape p ds with
      | some pos => im.getD pos 0
      | none => cval := by
  have hc := coordsOf_shift_take im.shape p (ds.map fun (d : Int) => (d : K)) hp
  rw [List.map_map, List.map_map] at hc
  rw [shiftPos_eq_specPos, ← specPos_take]
  exact pixel_order1_int h m cval im hs _ _ p _ (hc.trans (by
    simp only [List.zipWith_map_right, List.map_take, List.map_zipWith, Int.cast_sub]))

/-- **C18-T2 (zero shift).** A zero shift at order 1 returns the input: every pixel inside the array, in
any dimension and every border mode. -/
theorem C18_zero_shift_identity {K : Type} [Field K] [LinearOrder K] [IsStrictOrderedRing K]
    {fl : K → Int} (h : IsFloor fl) (m : Mode) (cval : K) (im : Img K) (p : List Int)
    (hs : ∀ len ∈ im.shape, 0 < len) (hp : inside im.shape p = true) :
    pixel fl 1 m cval im ((p.map fun _ => (0 : Int)).map fun (d : Int) => some (-(d : K)))
        ((p.map fun _ => (0 : Int)).map fun _ => none) p = im.getD p 0 := by
  rw [C18_integer_shift_exact h m cval im p _ hs (C01.inside_nonneg im.shape p hp), shiftPos_eq_specPos,
    List.zipWith_map_right, List.zipWith_self]
  simp only [sub_zero, List.map_id', C01.specPos_of_inside m im.shape p hp]

/-- **C18-T2 (unit zoom).** A unit zoom (output shape = input shape, the factor `(n−1)/(n−1)`, or 1 for a
one-sample axis) at order 1 returns the input: every pixel inside the array, in any dimension and every
border mode, through the `zoom` glue and the whole `zoom_shift` model. -/
theorem C18_unit_zoom_identity {K : Type} [Field K] [LinearOrder K] [IsStrictOrderedRing K]
    {fl : K → Int} (h : IsFloor fl) (m : Mode) (cval : K) (im : Img K) (p : List Int)
    (hp : inside im.shape p = true) :
    pixel fl 1 m cval im (im.shape.map fun _ => (none : Option K))
        ((im.shape.zip im.shape).map fun io => some (zoomFactor io.1 io.2 : K)) p = im.getD p 0 := by
  rw [pixel_order1_int h m cval im (C01.inside_dims_pos _ _ hp) _ _ p p (coordsOf_unit_zoom im.shape p hp),
    C01.specPos_of_inside m im.shape p hp]

/-- **C18-T2 (orders 2–4 at integer coordinates).** At an integer coordinate the weights of orders 2, 3, 4
are the B-spline sampled at the integers — `(1/8, 3/4, 1/8)`, `(1/6, 2/3, 1/6, 0)`,
`(1/384, 19/96, 115/192, 19/96, 1/384)` — centred on that coordinate: what `shift`/`zoom` return at
integer coordinates is the sampled-B-spline combination of the coefficients around it, i.e. exactly the
quantity `spline_filter` is required to make equal to the input sample (`C18_prefilter_inverts_partial`). -/
theorem C18_integer_weights {K : Type} [Field K] [LinearOrder K] [IsStrictOrderedRing K]
    {fl : K → Int} (h : IsFloor fl) (n : Int) :
    (startIdx fl 2 (n : K) = n - 1 ∧ weights fl 2 (n : K) = [1 / 8, 3 / 4, 1 / 8]) ∧
    (startIdx fl 3 (n : K) = n - 1 ∧ weights fl 3 (n : K) = [1 / 6, 2 / 3, 1 / 6, 0]) ∧
    (startIdx fl 4 (n : K) = n - 2 ∧ weights fl 4 (n : K) = [1 / 384, 19 / 96, 115 / 192, 19 / 96, 1 / 384]) :=
  ⟨⟨startIdx_int h 2 n, weights_int2 h n⟩, ⟨startIdx_int h 3 n, weights_int3 h n⟩,
    ⟨startIdx_int h 4 n, weights_int4 h n⟩⟩

/-- **C18-T4 (partial: one-pole prefilter, every sample but the first).** For orders 2 and 3
`spline_filter1d` runs, per line, `line *= weight` and then the causal and anti-causal recursions for the single
pole `z` (`onePole`, the definition the driver runs). If `z` is an exact root of `z² + 6z + 1` (order 2,
`√8 − 3`) resp. `z² + 4z + 1` (order 3, `√3 − 2`) then `weight = (1−z)(1−1/z)` is 8 resp. 6 and the resulting
coefficients `c` satisfy, for **any** initial value `c0` of the causal pass (the code's truncated or full
geometric sum), `⅛c[k−1] + ¾c[k] + ⅛c[k+1] = f[k]` resp. `⅙c[k−1] + ⅔c[k] + ⅙c[k+1] = f[k]` at every interior
sample `1 ≤ k ≤ n−2`, and the same with the mirrored knot `c[n] = c[n−2]` at the last sample: by
`C18_integer_weights` this is "the B-spline expansion reproduces the input at the sample points" for all samples
`k ≥ 1`. Not covered by this statement: sample 0 (it depends on the initialisation of the causal sum — the closed form of the
mirrored geometric series, cut at `1e−15` on long lines: `C18_prefilter_first_sample`), the two-pole orders 4 and 5
(see `C18_prefilter_inverts_order4_partial`, `C18_prefilter_inverts_order5`), and the fact that the floating-point poles are only approximate roots. -/
theorem C18_prefilter_inverts_partial {K : Type} [Field K] (z c0 : K) (n : Nat) (hn : 2 ≤ n)
    (hz1 : z * z - 1 ≠ 0) (f : Nat → K) :
    (z * z + 6 * z + 1 = 0 → (8 : K) ≠ 0 →
      (1 - z) * (1 - 1 / z) = 8 ∧
      (∀ k, 1 ≤ k → k + 2 ≤ n →
        1 / 8 * onePole z c0 n (fun i => 8 * f i) (k - 1) + 3 / 4 * onePole z c0 n (fun i => 8 * f i) k
          + 1 / 8 * onePole z c0 n (fun i => 8 * f i) (k + 1) = f k) ∧
      1 / 8 * onePole z c0 n (fun i => 8 * f i) (n - 2) + 3 / 4 * onePole z c0 n (fun i => 8 * f i) (n - 1)
          + 1 / 8 * onePole z c0 n (fun i => 8 * f i) (n - 2) = f (n - 1)) ∧
    (z * z + 4 * z + 1 = 0 → (6 : K) ≠ 0 →
      (1 - z) * (1 - 1 / z) = 6 ∧
      (∀ k, 1 ≤ k → k + 2 ≤ n →
        1 / 6 * onePole z c0 n (fun i => 6 * f i) (k - 1) + 2 / 3 * onePole z c0 n (fun i => 6 * f i) k
          + 1 / 6 * onePole z c0 n (fun i => 6 * f i) (k + 1) = f k) ∧
      1 / 6 * onePole z c0 n (fun i => 6 * f i) (n - 2) + 2 / 3 * onePole z c0 n (fun i => 6 * f i) (n - 1)
          + 1 / 6 * onePole z c0 n (fun i => 6 * f i) (n - 2) = f (n - 1)) := by
  constructor
  · intro hz h8
    obtain ⟨ha, hb⟩ := sampledCoeffs2 h8
    exact ⟨by rw [poleWeight_eq z 6 hz]; norm_num,
      fun k h1 h2 => threeTap_div h8 ha hb (onePole_interior z 6 c0 hz n _ k h1 h2),
      threeTap_div h8 ha hb (by linear_combination onePole_last z 6 c0 hz hz1 n hn fun i => 8 * f i)⟩
  · intro hz h6
    obtain ⟨ha, hb⟩ := sampledCoeffs3 h6
    exact ⟨by rw [poleWeight_eq z 4 hz]; norm_num,
      fun k h1 h2 => threeTap_div h6 ha hb (onePole_interior z 4 c0 hz n _ k h1 h2),
      threeTap_div h6 ha hb (by linear_combination onePole_last z 4 c0 hz hz1 n hn fun i => 6 * f i)⟩

/-- **C18-T4 (partial: order 4, every sample but the first two).** For order 4 `spline_filter1d` runs the
one-pole recursion twice, the second pass on the output of the first. If `z₁, z₂` are exact roots of
`z² + λᵢz + 1` with `λ₁ + λ₂ = 76`, `λ₁λ₂ = 228` (the factorisation of the sampled quartic B-spline
`(1, 76, 230, 76, 1)/384`; `init_poles`' values satisfy this to rounding) then the weight
`(1−z₁)(1−1/z₁)(1−z₂)(1−1/z₂)` is 384 and, for any initial values of the two causal passes, the coefficients
satisfy `(c[k−2] + 76c[k−1] + 230c[k] + 76c[k+1] + c[k+2])/384 = f[k]` at every sample `2 ≤ k ≤ n−3` and, with
the mirrored knots `c[n] = c[n−2]`, `c[n+1] = c[n−3]`, at the last two samples. Not covered by this statement:
samples 0 and 1 (they depend on the initial sums: `C18_prefilter_order4_first_samples`) and the approximate poles. -/
theorem C18_prefilter_inverts_order4_partial {K : Type} [Field K] (z1 z2 l1 l2 c1 c2 : K) (n : Nat) (hn : 4 ≤ n)
    (h1 : z1 * z1 + l1 * z1 + 1 = 0) (h2 : z2 * z2 + l2 * z2 + 1 = 0)
    (hz1 : z1 * z1 - 1 ≠ 0) (hz2 : z2 * z2 - 1 ≠ 0) (hs : l1 + l2 = 76) (hp : l1 * l2 = 228)
    (h384 : (384 : K) ≠ 0) (f : Nat → K) :
    let c := onePole z2 c2 n (onePole z1 c1 n (fun i => 384 * f i))
    (1 - z1) * (1 - 1 / z1) * ((1 - z2) * (1 - 1 / z2)) = 384 ∧
    (∀ k, 2 ≤ k → k + 3 ≤ n →
      1 / 384 * c (k - 2) + 19 / 96 * c (k - 1) + 115 / 192 * c k + 19 / 96 * c (k + 1) + 1 / 384 * c (k + 2) = f k) ∧
    (1 / 384 * c (n - 4) + 19 / 96 * c (n - 3) + 115 / 192 * c (n - 2) + 19 / 96 * c (n - 1) + 1 / 384 * c (n - 2)
      = f (n - 2)) ∧
    (1 / 384 * c (n - 3) + 19 / 96 * c (n - 2) + 115 / 192 * c (n - 1) + 19 / 96 * c (n - 2) + 1 / 384 * c (n - 3)
      = f (n - 1)) := by
  intro c
  obtain ⟨ha, hb, hc⟩ := sampledCoeffs4 h384
  rw [← hs] at hb
  rw [← hp] at hc
  exact ⟨by rw [poleWeight_eq z1 l1 h1, poleWeight_eq z2 l2 h2]; linear_combination 2 * hs + hp,
    fun k hk hk' => fiveTap_div h384 ha hb hc (twoPole_interior z1 z2 l1 l2 c1 c2 h1 h2 n _ k hk hk'),
    fiveTap_div h384 ha hb hc (twoPole_last z1 z2 l1 l2 c1 c2 h1 h2 hz1 hz2 n hn _).1,
    fiveTap_div h384 ha hb hc (twoPole_last z1 z2 l1 l2 c1 c2 h1 h2 hz1 hz2 n hn _).2⟩

/-- **C18-T2/T4 (partial: integer shifts at order 3 on a line).** If the coefficient line holds what the
one-pole prefilter produces from the samples `f`
(`weight = 6`, exact pole `z² + 4z + 1 = 0`, **any** initial value of the causal pass), then `shift` by an integer
`d` at order 3 — the `zoom_shift` model: coordinate `kk − d`, start knot, the weights `(⅙, ⅔, ⅙, 0)`, mirror folding of
the knot beyond the end, accumulation — returns exactly the sample `f[kk − d]` at every output index whose source
`kk − d` lies in `[1, n−1]`. Not covered by this statement: source index 0 (it depends on the initial sum:
`C18_integer_shift_order3_line`); sources outside the array, more than one dimension and the other orders
(`C18_interpolation_property_border`, `C18_interpolation_property_border_order4_5`). -/
theorem C18_integer_shift_order3_line_partial {K : Type} [Field K] [LinearOrder K] [IsStrictOrderedRing K]
    {fl : K → Int} (h : IsFloor fl) (m : Mode) (cval z c0 : K) (hz : z * z + 4 * z + 1 = 0)
    (hz1 : z * z - 1 ≠ 0) (h6 : (6 : K) ≠ 0) (n : Nat) (f : Nat → K) (im : Img K) (hshape : im.shape = [n])
    (hdata : ∀ k, k < n → im.getD [((k : Nat) : Int)] 0 = onePole z c0 n (fun i => 6 * f i) k)
    (kk d : Int) (i : Nat) (hkk : 0 ≤ kk) (hi : kk - d = (i : Int)) (h1 : 1 ≤ i) (h2 : i + 1 ≤ n) :
    pixel fl 3 m cval im [some (-(d : K))] [none] [kk] = f i :=
  shift3_line h m cval z c0 hz hz1 n f im hshape hdata kk d i hkk hi h2 (by omega) (fun e => absurd e (by omega))

/-- **C18-T3 (shape and corners).** `zoom` onto a requested shape returns an image of exactly that shape
(also through `resize_to`, `resize_rgb_to`, `imresize` with an integer size, which pass the requested
shape as `out`), output index 0 maps to input coordinate 0, and on every axis with at least two output
samples the last output index maps to the last input sample `n_in − 1`: corners go to corners. With
equal input and output lengths every index maps to itself (unit zoom). -/
theorem C18_shape_exact {K : Type} [Field K] [LinearOrder K] [IsStrictOrderedRing K]
    (fl : K → Int) (order : Nat) (m : Mode) (cval : K) (im : Img K) (oshape : List Nat)
    (nin nout kk : Nat) (h2 : 2 ≤ nout) :
    (zoomGlue fl order m cval im oshape).shape = oshape ∧
    coord 0 none (some (zoomFactor nin nout : K)) = 0 ∧
    coord (nout - 1) none (some (zoomFactor nin nout : K)) = (((nin : Int) - 1 : Int) : K) ∧
    coord kk none (some (zoomFactor nin nin : K)) = (kk : K) :=
  ⟨rfl, coord_zoom_origin _, coord_zoom_corner nin nout h2, coord_zoom_unit nin kk⟩

/-- non-vacuity: over ℚ with the true floor, the cubic weights at `x = 5/2` are the B-spline samples
`1/48, 23/48, 23/48, 1/48`, and a shift by 2 of a length-3 signal in `nearest` mode reads sample 0 at
output index 1 -/
example : weights (fun z : ℚ => ⌊z⌋) 3 (5 / 2) = [1 / 48, 23 / 48, 23 / 48, 1 / 48] ∧
    shiftPos .nearest [3] [1] [2] = some [0] := by
  constructor
  · have f1 : ⌊(5 / 2 : ℚ)⌋ = 2 := by norm_num
    have r : List.range (3 + 1) = [0, 1, 2, 3] := rfl
    simp only [weights, startIdx, f1, r, List.map_cons, List.map_nil, absV_eq_abs]
    norm_num [abs_of_nonneg, abs_of_nonpos, splineCoeff3_a, splineCoeff3_b]
  · decide

/-- **C18 (`zoom_shift` IS the evaluation of the tensor-product B-spline expansion).** For every spline order
(1–5 are the ones `spline_coefficients` implements; the statement holds for any), every rank and shape, every
border mode and every output position whose mapped coordinates `x_r = coord kk_r shift_r zoom_r` lie inside
`[0, len_r − 1]` on every axis (`InRange`: no border rule is applied to the coordinate), the whole `zoom_shift`
model (`pixel`: coordinate map, `mapCoord`, start knot, weights, knot folding, the flat accumulation
`t += ((c·w₀)·w₁)…` in `fcoordinates` order) returns

`Σ_{h ∈ {0..order}^rank} (∏_r w_{h_r}(x_r)) · c[k_0(h_0), …, k_{rank−1}(h_{rank−1})]`

where, exactly as the code computes them, `w_h(x) = splineCoeff order |start(x) − x + h|` (`weights`),
`start(x) = (order odd ? ⌊x⌋ : ⌊x + ½⌋) − order/2` (`startIdx`) and `k_r(h) = edgeFold len_r (start(x_r) + h)`
(the mirror folding, the identity for knots inside the array: `edgeFold_inside`). `splineAxes` packs these per
axis, `tensorTerms` enumerates all `(order+1)^rank` knot tuples (third conjunct: their number is the product of
the per-axis knot counts). Second conjunct: the same value as the nested (axis-by-axis) sum `nestedSum`. With
`C18_weights_partition` (the weights sum to one for orders 1–5) this is the value at `x` of the B-spline
expansion of the coefficient array `c`. No property of `fl` is used. -/
theorem C18_zoom_shift_is_tensor_spline {K : Type} [Field K] [LinearOrder K] [IsStrictOrderedRing K]
    (fl : K → Int) (order : Nat) (m : Mode) (cval : K) (im : Img K)
    (shifts zooms : List (Option K)) (p : List Int)
    (hr : InRange im.shape (coordsOf im.shape p shifts zooms)) :
    let axes := splineAxes fl order im.shape (coordsOf im.shape p shifts zooms)
    pixel fl order m cval im shifts zooms p
        = ((tensorTerms axes).map fun pw => pw.2.prod * im.getD pw.1 0).sum ∧
    pixel fl order m cval im shifts zooms p = nestedSum (fun pos => im.getD pos 0) axes ∧
    (tensorTerms axes).length = (axes.map fun e => (e.1.zip e.2).length).prod := by
  intro axes
  have e : pixel fl order m cval im shifts zooms p
      = ((tensorTerms axes).map fun pw => pw.2.prod * im.getD pw.1 0).sum := by
    unfold pixel
    rw [go_inrange fl order m im.shape p shifts zooms hr]
    simp only [Nat.cast_zero]
    exact tensorSum_eq_sum _ axes
  exact ⟨e, pixel_inrange fl order m cval im shifts zooms p hr, tensorTerms_length axes⟩

/-- **C18 (order 1 at fractional coordinates is multilinear interpolation, any rank).** For every rank, shape,
border mode and output position whose mapped coordinates lie inside `[0, len_r − 1]` on every axis, the
`zoom_shift` model at order 1 returns the multilinear interpolation of the `2^rank` neighbouring samples
(`multilinear`): along every axis `(1 − t_r)·(… at ⌊x_r⌋) + t_r·(… at ⌊x_r⌋ + 1)` with `t_r = x_r − ⌊x_r⌋`
(the upper neighbour passes through the knot folding, which is the identity unless `x_r = len_r − 1`, where its
weight `t_r` is 0). -/
theorem C18_fractional_order1_is_linear_nd {K : Type} [Field K] [LinearOrder K] [IsStrictOrderedRing K]
    {fl : K → Int} (h : IsFloor fl) (m : Mode) (cval : K) (im : Img K)
    (shifts zooms : List (Option K)) (p : List Int)
    (hr : InRange im.shape (coordsOf im.shape p shifts zooms)) :
    pixel fl 1 m cval im shifts zooms p
      = multilinear fl (fun pos => im.getD pos 0) im.shape (coordsOf im.shape p shifts zooms) :=
  pixel_multilinear h m cval im shifts zooms p hr

/-- **C18 (coordinate map of `shift`).** In any rank: the model of `interpolate.shift` is `zoom_shift` onto the
input's shape with the negated shift vector, and output index `kk_r` reads input coordinate `kk_r − shift_r` on
every axis (`coordsOf` is the list of coordinates `pixel` works with, cf. `C18_zoom_shift_is_tensor_spline`). -/
theorem C18_shift_coordinate_map {K : Type} [Field K] [LinearOrder K] [IsStrictOrderedRing K]
    (fl : K → Int) (order : Nat) (m : Mode) (cval : K) (im : Img K) (sh : List K) (p : List Int)
    (hp : ∀ kk ∈ p, 0 ≤ kk) (h1 : im.shape.length = p.length) (h2 : p.length = sh.length) :
    shiftGlue fl order m cval im sh
        = Img.tabulate im.shape
            (pixel fl order m cval im (sh.map fun s => some (-s)) (sh.map fun _ => none)) ∧
    coordsOf im.shape p (sh.map fun s => some (-s)) (sh.map fun _ => (none : Option K))
      = List.zipWith (fun (kk : Int) (s : K) => (kk : K) - s) p sh :=
  ⟨rfl, coordsOf_shift im.shape p sh hp h1 h2⟩

/-- **C18 (coordinate map of `zoom`).** In any rank, for output axes of at least two samples: the model of
`interpolate.zoom(out=…)` is `zoom_shift` onto the requested shape with the factors `(n_in − 1)/(n_out − 1)`,
output index `kk_r` reads input coordinate `kk_r·(n_in,r − 1)/(n_out,r − 1)` on every axis, and this map sends
corner to corner: `0 ↦ 0`, `n_out − 1 ↦ n_in − 1`. -/
theorem C18_zoom_coordinate_map {K : Type} [Field K] [LinearOrder K] [IsStrictOrderedRing K]
    (fl : K → Int) (order : Nat) (m : Mode) (cval : K) (im : Img K) (oshape : List Nat) (p : List Int)
    (hp : ∀ kk ∈ p, 0 ≤ kk) (ho : ∀ n ∈ oshape, 2 ≤ n)
    (h1 : im.shape.length = p.length) (h2 : p.length = oshape.length) :
    zoomGlue fl order m cval im oshape
        = Img.tabulate oshape
            (pixel fl order m cval im (oshape.map fun _ => none)
              ((im.shape.zip oshape).map fun io => some (zoomFactor io.1 io.2))) ∧
    coordsOf im.shape p (oshape.map fun _ => (none : Option K))
        ((im.shape.zip oshape).map fun io => some (zoomFactor io.1 io.2 : K))
      = List.zipWith (fun (kk : Int) (io : Nat × Nat) => (kk : K) * ((io.1 : K) - 1) / ((io.2 : K) - 1))
          p (im.shape.zip oshape) ∧
    (∀ nin nout : Nat, 2 ≤ nout →
      ((0 : Int) : K) * ((nin : K) - 1) / ((nout : K) - 1) = 0 ∧
      (((nout : Int) - 1 : Int) : K) * ((nin : K) - 1) / ((nout : K) - 1) = (nin : K) - 1) := by
  refine ⟨rfl, coordsOf_zoom im.shape oshape p hp ho h1 h2, fun nin nout h => ⟨?_, ?_⟩⟩
  · rw [Int.cast_zero, zero_mul, zero_div]
  · have : (nout : K) - 1 ≠ 0 := sub_ne_zero.mpr (Nat.one_lt_cast.mpr h).ne'
    rw [Int.cast_sub, Int.cast_natCast, Int.cast_one, mul_comm, mul_div_assoc, div_self this, mul_one]

/-- **C18-T4 (what the two initialisations of the causal pass are).** `spline_filter1d` starts the causal
recursion from `initTrunc` (lines longer than the cut `max = ⌈log 1e−15 / log|p|⌉`) or from `initFull` (shorter
lines) — the polymorphic definitions `filterLine` runs. Over any field: (1) `initTrunc z mx s` is the geometric sum
`Σ_{k<mx} z^k s[k]`; (2) `initFull z (z^(n−1)) n s` — the code's closed form
`(s₀ + z^(n−1)s_{n−1} + Σ_{k=1}^{n−2} (z^k + z^(2n−2−k)) s_k) / (1 − z^(2n−2))`, accumulated as the loop does — is the
**exact mirror-symmetric initial value** `MirrorInit`: the solution of `c0 = Σ_{k<P} z^k s̃[k] + z^P·c0`
(`P = 2n − 2`, `s̃` the mirror extension), which is how `c0 = Σ_{k≥0} z^k s̃[k]` reads without infinite sums;
(3) equivalently, `c0` is the value from which the causal recursion, run once around the mirrored period, returns
to itself. -/
theorem C18_initFull_is_mirror_init {K : Type} [Field K] (z : K) (hz : z ≠ 0) (n : Nat) (hn : 2 ≤ n)
    (hP : 1 - z ^ (n - 1) * z ^ (n - 1) ≠ 0) (s : Nat → K) :
    (∀ mx, 1 ≤ mx → initTrunc z mx s = geomSum z s mx) ∧
    MirrorInit z n s (initFull z (z ^ (n - 1)) n s) ∧
    (∀ c0, MirrorInit z n s c0 ↔ causal z c0 (mirrorExt n s) (2 * n - 2) = c0) :=
  ⟨fun mx h => initTrunc_eq z mx h s, initFull_mirrorInit z hz n hn hP s,
    fun c0 => mirrorInit_iff_steady z c0 n s⟩

/-- **C18-T4 (the first sample, orders 2 and 3).** What `C18_prefilter_inverts_partial` leaves out: if the causal pass
starts from the exact mirror-symmetric initial value (`MirrorInit`, see `C18_initFull_is_mirror_init`: hypothesis
stated explicitly; it is what the code computes on short lines), then for an exact root `z` of `z² + 6z + 1`
(order 2) resp. `z² + 4z + 1` (order 3) the coefficients produced by `onePole` also reproduce sample 0, with the
mirrored knot `c[−1] = c[1]`: `⅛c[1] + ¾c[0] + ⅛c[1] = f[0]` resp. `⅙c[1] + ⅔c[0] + ⅙c[1] = f[0]`. -/
theorem C18_prefilter_first_sample {K : Type} [Field K] (z c0 : K) (n : Nat) (hn : 2 ≤ n)
    (hz1 : z * z - 1 ≠ 0) (f : Nat → K) :
    (z * z + 6 * z + 1 = 0 → (8 : K) ≠ 0 → MirrorInit z n (fun i => 8 * f i) c0 →
      1 / 8 * onePole z c0 n (fun i => 8 * f i) 1 + 3 / 4 * onePole z c0 n (fun i => 8 * f i) 0
        + 1 / 8 * onePole z c0 n (fun i => 8 * f i) 1 = f 0) ∧
    (z * z + 4 * z + 1 = 0 → (6 : K) ≠ 0 → MirrorInit z n (fun i => 6 * f i) c0 →
      1 / 6 * onePole z c0 n (fun i => 6 * f i) 1 + 2 / 3 * onePole z c0 n (fun i => 6 * f i) 0
        + 1 / 6 * onePole z c0 n (fun i => 6 * f i) 1 = f 0) := by
  constructor
  · intro hz h8 hinit
    obtain ⟨ha, hb⟩ := sampledCoeffs2 h8
    exact threeTap_div h8 ha hb (by linear_combination onePole_first z 6 c0 hz hz1 n hn _ hinit)
  · intro hz h6 hinit
    obtain ⟨ha, hb⟩ := sampledCoeffs3 h6
    exact threeTap_div h6 ha hb (by linear_combination onePole_first z 4 c0 hz hz1 n hn _ hinit)

/-- **C18-T4 (`prefilter_inverts`, orders 2 and 3, short lines — every sample).** On the lines where the code uses
its closed-form initialisation (`max ≥ len`: lines of at most 20 / 27 samples for orders 2 / 3 with the `1e−15` cut), in exact
arithmetic with an exact pole (`z² + λz + 1 = 0`, `λ = 6` / `4`, `weight = 2 + λ`) and `pow(p, len−1) = z^(len−1)`:
the coefficients `c = onePole z (initFull z (z^(n−1)) n (w·f)) n (w·f)` — exactly what `filterLine` computes —
satisfy **all** `n` equations of "the B-spline expansion reproduces the samples" with mirror boundaries:
`(c[k−1] + λ·c[k] + c[k+1]) / (2 + λ) = f[k]` for `1 ≤ k ≤ n−2`, `(2c[1] + λc[0]) / (2 + λ) = f[0]`,
`(2c[n−2] + λc[n−1]) / (2 + λ) = f[n−1]`. (By `C18_integer_weights` these are the values `zoom_shift` returns at
the integer coordinates.) What is not covered: the floating-point pole is only an approximate root; long lines use
the truncated sum (`C18_prefilter_truncation_bound`). -/
theorem C18_prefilter_inverts_short_lines {K : Type} [Field K] (z lam : K) (n : Nat) (hn : 2 ≤ n)
    (hz : z * z + lam * z + 1 = 0) (hz1 : z * z - 1 ≠ 0) (hP : 1 - z ^ (n - 1) * z ^ (n - 1) ≠ 0)
    (hw : (2 + lam : K) ≠ 0) (f : Nat → K) :
    let s := fun i => (2 + lam) * f i
    let c := onePole z (initFull z (z ^ (n - 1)) n s) n s
    (1 - z) * (1 - 1 / z) = 2 + lam ∧
    (2 * c 1 + lam * c 0) / (2 + lam) = f 0 ∧
    (∀ k, 1 ≤ k → k + 2 ≤ n → (c (k - 1) + lam * c k + c (k + 1)) / (2 + lam) = f k) ∧
    (2 * c (n - 2) + lam * c (n - 1)) / (2 + lam) = f (n - 1) := by
  intro s c
  have hz0 : z ≠ 0 := by
    rintro rfl
    simp at hz
  have hinit := initFull_mirrorInit z hz0 n hn hP s
  refine ⟨poleWeight_eq z lam hz, ?_, ?_, ?_⟩
  · rw [div_eq_iff hw]
    have := onePole_first z lam _ hz hz1 n hn s hinit
    simp only [c, s] at this ⊢
    linear_combination this
  · intro k h1 h2
    rw [div_eq_iff hw]
    have := onePole_interior z lam (initFull z (z ^ (n - 1)) n s) hz n s k h1 h2
    simp only [c, s] at this ⊢
    linear_combination this
  · rw [div_eq_iff hw]
    have := onePole_last z lam (initFull z (z ^ (n - 1)) n s) hz hz1 n hn s
    simp only [c, s] at this ⊢
    linear_combination this

/-- **C18-T4 (order 4: the first two samples).** What `C18_prefilter_inverts_order4_partial` leaves out: if both
causal passes start from their exact mirror-symmetric initial values (`MirrorInit`; on short lines the code's
`initFull`, by `C18_initFull_is_mirror_init`), then with exact poles (`λ₁ + λ₂ = 76`, `λ₁λ₂ = 228`) samples 0 and 1
are reproduced as well, with the mirrored knots `c[−1] = c[1]`, `c[−2] = c[2]`:
`(c[2] + 76c[1] + 230c[0] + 76c[1] + c[2])/384 = f[0]`, `(c[1] + 76c[0] + 230c[1] + 76c[2] + c[3])/384 = f[1]`. -/
theorem C18_prefilter_order4_first_samples {K : Type} [Field K] (z1 z2 l1 l2 c1 c2 : K) (n : Nat) (hn : 4 ≤ n)
    (h1 : z1 * z1 + l1 * z1 + 1 = 0) (h2 : z2 * z2 + l2 * z2 + 1 = 0)
    (hz1 : z1 * z1 - 1 ≠ 0) (hz2 : z2 * z2 - 1 ≠ 0) (hs : l1 + l2 = 76) (hp : l1 * l2 = 228)
    (h384 : (384 : K) ≠ 0) (f : Nat → K)
    (hi1 : MirrorInit z1 n (fun i => 384 * f i) c1)
    (hi2 : MirrorInit z2 n (onePole z1 c1 n (fun i => 384 * f i)) c2) :
    let c := onePole z2 c2 n (onePole z1 c1 n (fun i => 384 * f i))
    (1 / 384 * c 2 + 19 / 96 * c 1 + 115 / 192 * c 0 + 19 / 96 * c 1 + 1 / 384 * c 2 = f 0) ∧
    (1 / 384 * c 1 + 19 / 96 * c 0 + 115 / 192 * c 1 + 19 / 96 * c 2 + 1 / 384 * c 3 = f 1) := by
  intro c
  obtain ⟨ha, hb, hc⟩ := sampledCoeffs4 h384
  rw [← hs] at hb
  rw [← hp] at hc
  obtain ⟨k0, k1⟩ := twoPole_first z1 z2 l1 l2 c1 c2 h1 h2 hz1 hz2 n hn (fun i => 384 * f i) hi1 hi2
  exact ⟨fiveTap_div h384 ha hb hc k0, fiveTap_div h384 ha hb hc k1⟩

/-- **C18-T4 (long lines: the truncated initial sum).** Over an ordered field, for `|z| < 1` and a line with
`|s| ≤ M`: the value `initTrunc z mx s = Σ_{k<mx} z^k s[k]` from which the code starts the causal pass on lines
longer than the cut (`mx ≤ n`) differs from the exact mirror-symmetric initial value `c0` (`MirrorInit`) by at most
`|z|^mx · M / (1 − |z|)` — with the code's `mx = ⌈log 1e−15 / log|z|⌉`, `|z|^mx ≤ 1e−15`. -/
theorem C18_prefilter_truncation_bound {K : Type} [Field K] [LinearOrder K] [IsStrictOrderedRing K]
    (z : K) (hz : |z| < 1) (n : Nat) (hn : 2 ≤ n) (s : Nat → K) (M : K) (hs : ∀ k, k < n → |s k| ≤ M)
    (c0 : K) (hinit : MirrorInit z n s c0) (mx : Nat) (h1 : 1 ≤ mx) (h2 : mx ≤ n) :
    |c0 - initTrunc z mx s| ≤ |z| ^ mx * M / (1 - |z|) := by
  rw [initTrunc_eq z mx h1 s]
  exact mirrorInit_trunc_bound z hz n hn s M hs c0 hinit mx h2

/-- non-vacuity of `MirrorInit` / `initFull`: over ℚ, `z = 1/2`, the line `(1, 2, 3)` (mirror period `1 2 3 2`):
the code's closed form gives `c0 = (1 + 2/2 + 3/4 + 2/8) / (1 − 1/16) = 16/5`, and it is the fixed point -/
example : initFull (1 / 2 : ℚ) ((1 / 2) ^ (3 - 1)) 3 (fun k => ((k + 1 : Nat) : ℚ)) = 16 / 5 ∧
    MirrorInit (1 / 2 : ℚ) 3 (fun k => ((k + 1 : Nat) : ℚ)) (16 / 5) := by
  constructor
  · norm_num [initFull, stepFull, List.range_succ]
  · norm_num [MirrorInit, geomSum, mirrorExt]

/-- **C18-T2/T4 (integer shifts at order 3 on a line, every source inside the array).**
`C18_integer_shift_order3_line_partial` with source 0 included: if the coefficient line holds what the one-pole prefilter produces from
the samples `f` (`weight = 6`, exact pole `z² + 4z + 1 = 0`) **from the exact mirror-symmetric initial value**
(`MirrorInit`; the code's `initFull` on lines of at most 27 samples, `C18_initFull_is_mirror_init`), then `shift` by an
integer `d` at order 3 — the whole `zoom_shift` model, with the knot before the start folded to `c[1]` and the knot
beyond the end folded to `c[n−2]` — returns exactly `f[kk − d]` at every output index whose source `kk − d` lies in
`[0, n−1]`. Not covered by this statement: sources outside the array, more than one dimension and the other orders
(`C18_interpolation_property_border`, `C18_interpolation_property_border_order4_5`); approximate poles. -/
theorem C18_integer_shift_order3_line {K : Type} [Field K] [LinearOrder K] [IsStrictOrderedRing K]
    {fl : K → Int} (h : IsFloor fl) (m : Mode) (cval z c0 : K) (hz : z * z + 4 * z + 1 = 0)
    (hz1 : z * z - 1 ≠ 0) (h6 : (6 : K) ≠ 0) (n : Nat) (hn : 2 ≤ n) (f : Nat → K) (im : Img K)
    (hshape : im.shape = [n]) (hinit : MirrorInit z n (fun i => 6 * f i) c0)
    (hdata : ∀ k, k < n → im.getD [((k : Nat) : Int)] 0 = onePole z c0 n (fun i => 6 * f i) k)
    (kk d : Int) (i : Nat) (hkk : 0 ≤ kk) (hi : kk - d = (i : Int)) (h2 : i + 1 ≤ n) :
    pixel fl 3 m cval im [some (-(d : K))] [none] [kk] = f i :=
  shift3_line h m cval z c0 hz hz1 n f im hshape hdata kk d i hkk hi h2 hn (fun _ => hinit)

/-- a 2×2 image over ℚ for the non-vacuity example below -/
def c18Im22 : Img ℚ := { shape := [2, 2], data := #[0, 1, 2, 3] }

/-- non-vacuity of the in-range hypothesis and of `C18_fractional_order1_is_linear_nd`: a shift by `(½, ½)` of
the 2×2 image `[[0,1],[2,3]]` reads, at output `(1,1)`, the in-range coordinate `(½, ½)`, and the multilinear
interpolation there is the mean `3/2` of the four samples -/
example : InRange c18Im22.shape
      (coordsOf c18Im22.shape [1, 1] [some (-(1 / 2 : ℚ)), some (-(1 / 2))] [none, none]) ∧
    multilinear (fun z : ℚ => ⌊z⌋) (fun pos => c18Im22.getD pos 0) c18Im22.shape
      (coordsOf c18Im22.shape [1, 1] [some (-(1 / 2 : ℚ)), some (-(1 / 2))] [none, none]) = 3 / 2 := by
  have f1 : ⌊(1 / 2 : ℚ)⌋ = 0 := by norm_num
  have c : coordsOf c18Im22.shape [1, 1] [some (-(1 / 2 : ℚ)), some (-(1 / 2))] [none, none] = [1 / 2, 1 / 2] := by
    simp [coordsOf, coord, c18Im22]; norm_num
  rw [c]
  constructor
  · norm_num [InRange, c18Im22]
  · simp only [multilinear, c18Im22, f1]
    norm_num [edgeFold, fixOffset, Img.getD, inside, ravelI, shapeSize]

/-- **C18 (the weights are B-splines).** The piecewise polynomials of `spline_coefficients` are the cardinal B-splines.
`bspline n` (`Proofs/C18BSpline.lean`) is the centred cardinal B-spline of degree `n` over an ordered field, defined by
the Cox–de Boor recursion on the uniform knots `k − (n+1)/2`: `β⁰ = 1` on `[−½, ½)`,
`β^{n+1}(x) = [(x + (n+2)/2)·βⁿ(x + ½) + ((n+2)/2 − x)·βⁿ(x − ½)]/(n+1)`. For **every** order 1–5 and **every** `x`:
(1) the `switch(order)` body of the C++ code at the distance `|x|` is `β^order(x)`; (2) weight `h` of
`spline_coefficients(x)` — the code's `splineCoeff order |start − x + h|` — is `β^order(x − (start + h))`, `start` as the
code computes it; (3) at every other integer knot `k` (`k < start` or `k > start + order`) `β^order(x − k) = 0` — the
`order + 1` knots the code visits are all the knots whose B-spline does not vanish at `x` (this part for every order
and the true floor), so the finite sum the code forms is the full expansion `Σ_{k∈ℤ} c[k]·βⁿ(x − k)`; (4) `βⁿ` is
even and vanishes outside `[−(n+1)/2, (n+1)/2)`. -/
theorem C18_weights_are_bsplines {K : Type} [Field K] [LinearOrder K] [IsStrictOrderedRing K]
    {fl : K → Int} (h : IsFloor fl) (order : Nat) (h1 : 1 ≤ order) (h5 : order ≤ 5) (x : K) :
    bspline order x = splineCoeff order (absV x) ∧
    weights fl order x
      = (List.range (order + 1)).map (fun hh =>
          bspline order (x - ((startIdx fl order x + ((hh : Nat) : Int) : Int) : K))) ∧
    (∀ k : Int, (k < startIdx fl order x ∨ startIdx fl order x + (order : Int) < k) →
      bspline order (x - (k : K)) = 0) ∧
    bspline order (-x) = bspline order x ∧
    ((x < -(((order : K) + 1) / 2) ∨ ((order : K) + 1) / 2 ≤ x) → bspline order x = 0) :=
  ⟨bspline_eq_splineCoeff order h1 h5 x, weights_eq_bspline fl order h1 h5 x,
    fun k hk => bspline_outside_knots h order x k hk, bspline_even_all order h1 x, bspline_support order x⟩

/-- **C18 (`zoom_shift` evaluates the cardinal B-spline expansion).** `C18_zoom_shift_is_tensor_spline` with the
weights identified: for orders 1–5, every rank, shape, border mode and every output position whose mapped
coordinates `x_r` lie inside `[0, len_r − 1]`, the `zoom_shift` model returns
`Σ_{h_0} β(x_0 − k_0) · Σ_{h_1} β(x_1 − k_1) ⋯ c[fold k_0, fold k_1, …]`, `k_r = start(x_r) + h_r`, `β = bspline order`
(`bsplineAxes`): the tensor-product B-spline expansion `Σ_k c[k]·Π_r βⁿ(x_r − k_r)` of the (mirror-extended)
coefficient array evaluated at the mapped coordinate — all other knots contribute nothing
(`C18_weights_are_bsplines` (3)). -/
theorem C18_zoom_shift_is_bspline_expansion {K : Type} [Field K] [LinearOrder K] [IsStrictOrderedRing K]
    (fl : K → Int) (order : Nat) (h1 : 1 ≤ order) (h5 : order ≤ 5) (m : Mode) (cval : K) (im : Img K)
    (shifts zooms : List (Option K)) (p : List Int)
    (hr : InRange im.shape (coordsOf im.shape p shifts zooms)) :
    pixel fl order m cval im shifts zooms p
      = nestedSum (fun pos => im.getD pos 0)
          (bsplineAxes fl order im.shape (coordsOf im.shape p shifts zooms)) := by
  rw [(C18_zoom_shift_is_tensor_spline fl order m cval im shifts zooms p hr).2.1,
    splineAxes_eq_bsplineAxes fl order h1 h5]

/-- non-vacuity: over ℚ, `β³(½) = 23/48` and `β²(¼) = 11/16` from the recursion -/
example : bspline 3 (1 / 2 : ℚ) = 23 / 48 ∧ bspline 2 (1 / 4 : ℚ) = 11 / 16 := by
  rw [bspline3_nonneg_arg _ (by norm_num), bspline2_nonneg_arg _ (by norm_num),
    splineCoeff3_a _ (by norm_num), splineCoeff2_a _ (by norm_num)]
  norm_num

/-- **C18 (interpolation property, orders 2 and 3, any rank).** Let `c` be what the separable prefilter
produces from the samples `f` (`prefilterNd`: along axis
0, then 1, …, every line goes through `lineFilter1`: `line *= weight`, then `onePole` — the recursions `filterLine`
runs — from an initial value `ini len line`), with an exact pole (`z² + λz + 1 = 0`, `λ = 6` for order 2, `λ = 4` for
order 3, `weight = 2 + λ`) and the exact mirror-symmetric initial values (`MirrorInit`; the code's `initFull` on short
lines, `C18_initFull_is_mirror_init`), every axis of at least two samples. Then at **every** output position whose
mapped coordinates are an integer position `js` inside the array — zero shift, integer shifts with the source inside
the array, unit zoom, the corners of every zoom — the whole `zoom_shift` model returns exactly `f js`: the spline
interpolant interpolates. Any rank (tensor product), any border mode. Not covered: the floating-point pole is only an
approximate root; long lines start from the truncated sum (`C18_prefilter_truncation_bound`); that the array loop
`filterAxis` of the `Float` driver visits the lines as `prefilterNd` does is a separate theorem,
`C18_spline_filter_is_prefilterNd`. -/
theorem C18_interpolation_property {K : Type} [Field K] [LinearOrder K] [IsStrictOrderedRing K]
    {fl : K → Int} (h : IsFloor fl) (m : Mode) (cval : K) (order : Nat) (lam z : K)
    (hord : (order = 2 ∧ lam = 6) ∨ (order = 3 ∧ lam = 4))
    (hz : z * z + lam * z + 1 = 0) (hz1 : z * z - 1 ≠ 0)
    (ini : Nat → (Nat → K) → K) (im : Img K) (hshape : ∀ len ∈ im.shape, 2 ≤ len)
    (hini : ∀ len ∈ im.shape, ∀ s : Nat → K, MirrorInit z len s (ini len s))
    (f : List Int → K)
    (hdata : ∀ pos, inside im.shape pos = true →
      im.getD pos 0 = prefilterNd (lineFilter1 z (2 + lam) ini) im.shape f pos)
    (shifts zooms : List (Option K)) (p js : List Int) (hin : inside im.shape js = true)
    (hc : coordsOf im.shape p shifts zooms = js.map fun (j : Int) => (j : K)) :
    pixel fl order m cval im shifts zooms p = f js := by
  have := interp_core h m cval (factors23 h hord) (.cons ⟨hz, hz1⟩ .nil) (fun _ => ini) im
    (fun len hl => Or.inr (hshape len hl))
    (fun len hl _ z' hz' s => by rw [List.mem_singleton.mp hz']; exact hini len hl s) f
    (by simpa only [lineFilterL_single] using hdata) shifts zooms p js (C01.inside_length hin) hc
  rwa [C01.specPos_of_inside m im.shape js hin] at this

/-- **C18 (interpolation property with the code's own initialisation).** The instance of
`C18_interpolation_property` for `ini = initFull z (z^(len−1))`, the closed form `spline_filter1d` uses on lines of at
most 20 / 27 samples (orders 2 / 3): no hypothesis on the initial values is left. -/
theorem C18_interpolation_property_short_lines {K : Type} [Field K] [LinearOrder K] [IsStrictOrderedRing K]
    {fl : K → Int} (h : IsFloor fl) (m : Mode) (cval : K) (order : Nat) (lam z : K)
    (hord : (order = 2 ∧ lam = 6) ∨ (order = 3 ∧ lam = 4))
    (hz : z * z + lam * z + 1 = 0) (hz1 : z * z - 1 ≠ 0)
    (im : Img K) (hshape : ∀ len ∈ im.shape, 2 ≤ len)
    (hP : ∀ len ∈ im.shape, 1 - z ^ (len - 1) * z ^ (len - 1) ≠ 0)
    (f : List Int → K)
    (hdata : ∀ pos, inside im.shape pos = true →
      im.getD pos 0
        = prefilterNd (lineFilter1 z (2 + lam) (fun len s => initFull z (z ^ (len - 1)) len s)) im.shape f pos)
    (shifts zooms : List (Option K)) (p js : List Int) (hin : inside im.shape js = true)
    (hc : coordsOf im.shape p shifts zooms = js.map fun (j : Int) => (j : K)) :
    pixel fl order m cval im shifts zooms p = f js := by
  have hz0 : z ≠ 0 := by
    rintro rfl
    simp at hz
  exact C18_interpolation_property h m cval order lam z hord hz hz1 _ im hshape
    (fun len hl s => initFull_mirrorInit z hz0 len (hshape len hl) (hP len hl) s) f hdata shifts zooms p js hin hc

/-- non-vacuity of `prefilterNd` / `lineFilter1`: on a 2-sample line over ℚ with the (non-root) value `z = 1/2`,
    weight 8 and initial value `s 0`, the filtered line is computed -/
example : prefilterNd (lineFilter1 (1 / 2 : ℚ) 8 (fun _ s => s 0)) [2] (fun p => ((p.getD 0 0 + 1 : Int) : ℚ)) [0]
    = -12 := by
  norm_num [prefilterNd, lineFilter1, onePole, anticausalRev, causal]

/-- **C18 (order 5 at integer coordinates).** At an integer coordinate `n` the six weights of order 5 are the quintic
B-spline sampled at the integers, `(1/120, 13/60, 11/20, 13/60, 1/120, 0)`, on the knots `n−2 … n+3`. Order 5 exists in the
C++ templates only: `interpolate.py: _check_interpolate` rejects every order outside 1–4. -/
theorem C18_integer_weights_order5 {K : Type} [Field K] [LinearOrder K] [IsStrictOrderedRing K]
    {fl : K → Int} (h : IsFloor fl) (n : Int) :
    startIdx fl 5 (n : K) = n - 2 ∧
    weights fl 5 (n : K) = [1 / 120, 13 / 60, 11 / 20, 13 / 60, 1 / 120, 0] :=
  ⟨startIdx_int h 5 n, weights_int5 h n⟩

/-- **C18-T4 (order 5: every sample).** The order-5 instance of the two-pole theorems: if `z₁, z₂` are exact roots of
`z² + λᵢz + 1` with `λ₁ + λ₂ = 26`, `λ₁λ₂ = 64` (the factorisation of the sampled quintic B-spline
`(1, 26, 66, 26, 1)/120`; `init_poles`' values for order 5 satisfy this to rounding), then the weight
`(1−z₁)(1−1/z₁)(1−z₂)(1−1/z₂)` is 120 and the coefficients `c = onePole z₂ c₂ (onePole z₁ c₁ (120·f))` satisfy
`(c[k−2] + 26c[k−1] + 66c[k] + 26c[k+1] + c[k+2])/120 = f[k]` at every sample `2 ≤ k ≤ n−3` and at the last two
(mirrored knots `c[n] = c[n−2]`, `c[n+1] = c[n−3]`) for **any** initial values, and at samples 0 and 1 (mirrored
knots `c[−1] = c[1]`, `c[−2] = c[2]`) when both causal passes start from their exact mirror-symmetric values
(`MirrorInit`). With `C18_integer_weights_order5` this is "the expansion reproduces the samples" for order 5. -/
theorem C18_prefilter_inverts_order5 {K : Type} [Field K] (z1 z2 l1 l2 c1 c2 : K) (n : Nat) (hn : 4 ≤ n)
    (h1 : z1 * z1 + l1 * z1 + 1 = 0) (h2 : z2 * z2 + l2 * z2 + 1 = 0)
    (hz1 : z1 * z1 - 1 ≠ 0) (hz2 : z2 * z2 - 1 ≠ 0) (hs : l1 + l2 = 26) (hp : l1 * l2 = 64)
    (h120 : (120 : K) ≠ 0) (f : Nat → K) :
    let c := onePole z2 c2 n (onePole z1 c1 n (fun i => 120 * f i))
    (1 - z1) * (1 - 1 / z1) * ((1 - z2) * (1 - 1 / z2)) = 120 ∧
    (∀ k, 2 ≤ k → k + 3 ≤ n →
      1 / 120 * c (k - 2) + 13 / 60 * c (k - 1) + 11 / 20 * c k + 13 / 60 * c (k + 1) + 1 / 120 * c (k + 2) = f k) ∧
    (1 / 120 * c (n - 4) + 13 / 60 * c (n - 3) + 11 / 20 * c (n - 2) + 13 / 60 * c (n - 1) + 1 / 120 * c (n - 2)
      = f (n - 2)) ∧
    (1 / 120 * c (n - 3) + 13 / 60 * c (n - 2) + 11 / 20 * c (n - 1) + 13 / 60 * c (n - 2) + 1 / 120 * c (n - 3)
      = f (n - 1)) ∧
    (MirrorInit z1 n (fun i => 120 * f i) c1 → MirrorInit z2 n (onePole z1 c1 n (fun i => 120 * f i)) c2 →
      (1 / 120 * c 2 + 13 / 60 * c 1 + 11 / 20 * c 0 + 13 / 60 * c 1 + 1 / 120 * c 2 = f 0) ∧
      (1 / 120 * c 1 + 13 / 60 * c 0 + 11 / 20 * c 1 + 13 / 60 * c 2 + 1 / 120 * c 3 = f 1)) := by
  intro c
  obtain ⟨ha, hb, hc⟩ := sampledCoeffs5 h120
  rw [← hs] at hb
  rw [← hp] at hc
  refine ⟨by rw [poleWeight_eq z1 l1 h1, poleWeight_eq z2 l2 h2]; linear_combination 2 * hs + hp,
    fun k hk hk' => fiveTap_div h120 ha hb hc (twoPole_interior z1 z2 l1 l2 c1 c2 h1 h2 n _ k hk hk'),
    fiveTap_div h120 ha hb hc (twoPole_last z1 z2 l1 l2 c1 c2 h1 h2 hz1 hz2 n hn _).1,
    fiveTap_div h120 ha hb hc (twoPole_last z1 z2 l1 l2 c1 c2 h1 h2 hz1 hz2 n hn _).2, fun hi1 hi2 => ?_⟩
  obtain ⟨k0, k1⟩ := twoPole_first z1 z2 l1 l2 c1 c2 h1 h2 hz1 hz2 n hn (fun i => 120 * f i) hi1 hi2
  exact ⟨fiveTap_div h120 ha hb hc k0, fiveTap_div h120 ha hb hc k1⟩

/-- **C18-T3 (shape of `resize_to`).** `resize_to(im, nsize, order)` (the wrapper model `resizeTo`, transliterated from
`resize.py`: length check, `out = np.empty(nsize)`, `zoom(…, out=out)`) raises exactly when `len(nsize) != im.ndim`,
and otherwise returns `zoom`'s result onto the requested shape: the shape is **exactly** `nsize` for every list of
target lengths, and everything proved about `zoomGlue` (coordinate map, corners, interpolation) applies. -/
theorem C18_resize_to_shape {K : Type} [Field K] [LinearOrder K] [IsStrictOrderedRing K]
    (fl : K → Int) (pre : Img K → Img K) (order : Nat) (im : Img K) (nsize : List Nat) :
    (resizeTo fl pre order im nsize = none ↔ nsize.length ≠ im.shape.length) ∧
    (∀ r, resizeTo fl pre order im nsize = some r →
      r.shape = nsize ∧ r = zoomGlue fl order .constant 0 (pre im) nsize) := by
  by_cases hl : nsize.length = im.shape.length
  · rw [resizeTo_some fl pre order im nsize hl]
    exact ⟨by simp [hl], fun r hr => by cases hr; exact ⟨rfl, rfl⟩⟩
  · rw [resizeTo_none fl pre order im nsize hl]
    exact ⟨by simp [hl], fun r hr => by cases hr⟩

/-- **C18-T3 (shape of `imresize`).** `imresize(img, nsize, order)` on its integer path (`imresizeInt`, `resize.py` as
repaired by `5ab5421`: the requested shape is handed to `zoom` as `out`) returns an array of **exactly** the requested
shape for every integer target — including a length-49 axis resized to 1 sample, where `int(s·(n/s))` in `float64`
is 0 — and its values are `zoom`'s onto that shape. -/
theorem C18_imresize_shape {K : Type} [Field K] [LinearOrder K] [IsStrictOrderedRing K]
    (fl : K → Int) (pre : Img K → Img K) (order : Nat) (img : Img K) (nsize : List Nat)
    (hl : nsize.length = img.shape.length) :
    imresizeInt fl pre order img nsize = some (zoomGlue fl order .constant 0 (pre img) nsize) ∧
    (zoomGlue fl order .constant 0 (pre img) nsize).shape = nsize ∧
    (∀ data : Array K, (imresizeInt fl pre order { shape := [49], data := data } [1]).map (·.shape) = some [1]) := by
  refine ⟨?_, rfl, ?_⟩
  · unfold imresizeInt
    rw [if_neg (by simp [hl])]
    simp
  · intro data
    simp [imresizeInt, zoomGlue, zoomShift, Img.tabulate]

/-- **C18-T3 (shape of `resize_rgb_to`).** `resize_rgb_to(im, (h', w'), order)` on an `(h, w, 3)` array (`resizeRgbTo`:
`_check_3`, `np.dstack` of `resize_to` of the three channels `im.transpose((2,0,1))`): the result has shape
`(h', w', 3)` exactly, and its entry `(y, x, c)` is entry `(y, x)` of `zoom` applied to channel `c` alone onto
`(h', w')` — the channels are resized independently, each as `resize_to` does; channel `c` is the `(h, w)` array
`im[:, :, c]`. A wrong rank / third axis ≠ 3 raises. -/
theorem C18_resize_rgb_to_shape {K : Type} [Field K] [LinearOrder K] [IsStrictOrderedRing K]
    (fl : K → Int) (pre : Img K → Img K) (order : Nat) (im : Img K) (h w h' w' : Nat)
    (hs : im.shape = [h, w, 3]) :
    ∃ r, resizeRgbTo fl pre order im [h', w'] = some r ∧ r.shape = [h', w', 3] ∧
      (∀ (y x : Int) (c : Nat), 0 ≤ y → y < h' → 0 ≤ x → x < w' → c < 3 →
        r.getD [y, x, (c : Int)] 0
          = (zoomGlue fl order .constant 0 (pre (channel im c)) [h', w']).getD [y, x] 0) ∧
      (∀ c, (channel im c).shape = [h, w]) ∧
      (∀ (y x : Int) (c : Nat), 0 ≤ y → y < h → 0 ≤ x → x < w →
        (channel im c).getD [y, x] 0 = im.getD [y, x, (c : Int)] 0) := by
  refine ⟨_, resizeRgbTo_some fl pre order im h w hs [h', w'] rfl, rfl, ?_, ?_, ?_⟩
  · intro y x c hy0 hy1 hx0 hx1 hc
    exact dstack_getD h' w' _ y x c _ ⟨hy0, hy1⟩ ⟨hx0, hx1⟩ (by simp [hc])
  · intro c
    rw [channel_shape, hs]; rfl
  · intro y x c hy0 hy1 hx0 hx1
    exact channel_getD im h w 3 hs c y x ⟨hy0, hy1⟩ ⟨hx0, hx1⟩

/-- `resize_rgb_to` raises on anything that is not `(h, w, 3)` -/
example : resizeRgbTo (fun z : ℚ => ⌊z⌋) id 1 { shape := [2, 2], data := #[0, 1, 2, 3] } [2, 2] = none := by
  simp [resizeRgbTo]

/-- **C18 (tie to the source, generated tables).** The code by which the models number a border mode is the code the
current source gives it in both places: `mode2int` of `mahotas/_filters.py` (what the wrappers send) and
`enum ExtendMode` of `mahotas/_filters.h` (what the kernels switch on); neither table has further entries. Both tables
are regenerated from the source on every run. -/
theorem C18_mode_codes_agree (m : Mahotas.Mode) :
    (Mahotas.Generated.pyModes.lookup m.name = some m.code ∧ Mahotas.Generated.cppModes.lookup m.name = some m.code) ∧
    Mahotas.Generated.pyModes.length = 6 ∧ Mahotas.Generated.cppModes.length = 6 :=
  ⟨Mahotas.mode_codes_agree m, Mahotas.mode_tables_complete.1, Mahotas.mode_tables_complete.2.1⟩

/-- **C18 (interpolation property, orders 4 and 5, any rank).** The two-pole analogue of
`C18_interpolation_property`. Let `c` be what the separable prefilter produces from the samples `f` (`prefilterNd`:
along axis 0, then 1, …, every line goes through `lineFilterL w [z₁, z₂] ini`: `line *= w`, then for each pole the
causal pass from `ini z len line` and the anti-causal pass — `onePole`, the recursions `filterLine` runs — the second
pole on the output of the first), with exact poles (`zᵢ² + λᵢzᵢ + 1 = 0`; order 4: `λ₁+λ₂ = 76`, `λ₁λ₂ = 228`,
`w = 384`; order 5: `λ₁+λ₂ = 26`, `λ₁λ₂ = 64`, `w = 120`), the exact mirror-symmetric initial values of every
causal pass (`MirrorInit`), every axis of at least two samples. Then `w` is the code's weight
`(1−z₁)(1−1/z₁)(1−z₂)(1−1/z₂)` and at **every** output position whose mapped coordinates are an integer position `js`
inside the array the whole `zoom_shift` model — start knot, the five (six) weights, the **two** mirror-folded knots
per side, tensor sum — returns exactly `f js`. Any rank, any border mode. Not covered: approximate floating-point
poles, the truncated initial sum on long lines. -/
theorem C18_interpolation_property_order4_5 {K : Type} [Field K] [LinearOrder K] [IsStrictOrderedRing K]
    {fl : K → Int} (h : IsFloor fl) (m : Mode) (cval : K) (order : Nat) (z1 z2 l1 l2 w : K)
    (hord : (order = 4 ∧ l1 + l2 = 76 ∧ l1 * l2 = 228 ∧ w = 384) ∨
      (order = 5 ∧ l1 + l2 = 26 ∧ l1 * l2 = 64 ∧ w = 120))
    (h1 : z1 * z1 + l1 * z1 + 1 = 0) (h2 : z2 * z2 + l2 * z2 + 1 = 0)
    (hz1 : z1 * z1 - 1 ≠ 0) (hz2 : z2 * z2 - 1 ≠ 0)
    (ini : K → Nat → (Nat → K) → K) (im : Img K) (hshape : ∀ len ∈ im.shape, 2 ≤ len)
    (hini : ∀ len ∈ im.shape, ∀ z, z = z1 ∨ z = z2 → ∀ s : Nat → K, MirrorInit z len s (ini z len s))
    (f : List Int → K)
    (hdata : ∀ pos, inside im.shape pos = true →
      im.getD pos 0 = prefilterNd (lineFilterL w [z1, z2] ini) im.shape f pos)
    (shifts zooms : List (Option K)) (p js : List Int) (hin : inside im.shape js = true)
    (hc : coordsOf im.shape p shifts zooms = js.map fun (j : Int) => (j : K)) :
    (1 - z1) * (1 - 1 / z1) * ((1 - z2) * (1 - 1 / z2)) = w ∧
    pixel fl order m cval im shifts zooms p = f js := by
  constructor
  · rw [poleWeight_eq z1 l1 h1, poleWeight_eq z2 l2 h2]
    rcases hord with ⟨_, hs, hp, rfl⟩ | ⟨_, hs, hp, rfl⟩ <;> linear_combination 2 * hs + hp
  have := interp_core h m cval (factors45 h hord) (.cons ⟨h1, hz1⟩ (.cons ⟨h2, hz2⟩ .nil)) ini im
    (fun len hl => Or.inr (hshape len hl)) (fun len hl _ z hz => hini len hl z (by simpa using hz)) f hdata
    shifts zooms p js (C01.inside_length hin) hc
  rwa [C01.specPos_of_inside m im.shape js hin] at this

/-- **C18 (orders 4 and 5 with the code's own initialisation).** The instance of
`C18_interpolation_property_order4_5` for `ini z len = initFull z (z^(len−1)) len`, the closed form `spline_filter1d`
uses on short lines (at most 9 / 11 samples for orders 4 / 5: `max ≥ len` for the second pole, whose cut
`⌈log 1e−15 / log|p|⌉` is the smaller one): no hypothesis on the initial values is left. -/
theorem C18_interpolation_property_order4_5_short_lines {K : Type} [Field K] [LinearOrder K]
    [IsStrictOrderedRing K] {fl : K → Int} (h : IsFloor fl) (m : Mode) (cval : K) (order : Nat)
    (z1 z2 l1 l2 w : K)
    (hord : (order = 4 ∧ l1 + l2 = 76 ∧ l1 * l2 = 228 ∧ w = 384) ∨
      (order = 5 ∧ l1 + l2 = 26 ∧ l1 * l2 = 64 ∧ w = 120))
    (h1 : z1 * z1 + l1 * z1 + 1 = 0) (h2 : z2 * z2 + l2 * z2 + 1 = 0)
    (hz1 : z1 * z1 - 1 ≠ 0) (hz2 : z2 * z2 - 1 ≠ 0)
    (im : Img K) (hshape : ∀ len ∈ im.shape, 2 ≤ len)
    (hP : ∀ len ∈ im.shape, ∀ z, z = z1 ∨ z = z2 → 1 - z ^ (len - 1) * z ^ (len - 1) ≠ 0)
    (f : List Int → K)
    (hdata : ∀ pos, inside im.shape pos = true →
      im.getD pos 0
        = prefilterNd (lineFilterL w [z1, z2] (fun z len s => initFull z (z ^ (len - 1)) len s)) im.shape f pos)
    (shifts zooms : List (Option K)) (p js : List Int) (hin : inside im.shape js = true)
    (hc : coordsOf im.shape p shifts zooms = js.map fun (j : Int) => (j : K)) :
    pixel fl order m cval im shifts zooms p = f js := by
  have hz0 : ∀ z, z = z1 ∨ z = z2 → z ≠ 0 := by
    rintro z (rfl | rfl) rfl
    · simp at h1
    · simp at h2
  exact (C18_interpolation_property_order4_5 h m cval order z1 z2 l1 l2 w hord h1 h2 hz1 hz2 _ im hshape
    (fun len hl z hzz s => initFull_mirrorInit z (hz0 z hzz) len (by have := hshape len hl; omega) (hP len hl z hzz) s)
    f hdata shifts zooms p js hin hc).2

/-- non-vacuity of `lineFilterL`: on a 2-sample line over ℚ, two (non-root) values `1/2`, `1/3`, weight 2, initial
    value `line[0]`: the filtered line is computed, and a one-sample line is returned as it is -/
example : lineFilterL (2 : ℚ) [1 / 2, 1 / 3] (fun _ _ s => s 0) 2 (fun k => ((k + 1 : Nat) : ℚ)) 0 = 7 / 4 ∧
    lineFilterL (2 : ℚ) [1 / 2, 1 / 3] (fun _ _ s => s 0) 1 (fun k => ((k + 1 : Nat) : ℚ)) 0 = 1 := by
  constructor <;> norm_num [lineFilterL, onePole, anticausalRev, causal]

/-- **C18 (integer coordinates anywhere: the border rule, orders 2 and 3, any rank).** Extension of
`C18_interpolation_property` to sources **outside** the array. Same hypotheses on the coefficients (separable one-pole
prefilter of `f`, exact pole, `MirrorInit` initial values), every axis of one sample (not filtered, all knots fold to
it) or at least two. At **every** output position whose mapped
coordinates are an integer vector `js` — anywhere, e.g. an integer shift larger than the array — the whole
`zoom_shift` model (`mapCoord`: `std_like_round` + `fix_offset` for coordinates outside `[0, len−1]`, then start knot,
weights, mirror-folded knots, tensor sum) returns `f` at the position the **mathematical border rule** of the mode
(`specPos`: `borderSpec` coordinate-wise — clamp / modulo / reflect / mirror, `Model/Border.lean`) assigns to `js`,
and `cval` when the mode flags an axis (`constant`, `ignore`): an integer shift is an exact translation with the border
rule filling vacated pixels, for every mode, rank and both orders. -/
theorem C18_interpolation_property_border {K : Type} [Field K] [LinearOrder K] [IsStrictOrderedRing K]
    {fl : K → Int} (h : IsFloor fl) (m : Mode) (cval : K) (order : Nat) (lam z : K)
    (hord : (order = 2 ∧ lam = 6) ∨ (order = 3 ∧ lam = 4))
    (hz : z * z + lam * z + 1 = 0) (hz1 : z * z - 1 ≠ 0)
    (ini : Nat → (Nat → K) → K) (im : Img K) (hshape : ∀ len ∈ im.shape, len = 1 ∨ 2 ≤ len)
    (hini : ∀ len ∈ im.shape, 2 ≤ len → ∀ s : Nat → K, MirrorInit z len s (ini len s))
    (f : List Int → K)
    (hdata : ∀ pos, inside im.shape pos = true →
      im.getD pos 0 = prefilterNd (lineFilter1 z (2 + lam) ini) im.shape f pos)
    (shifts zooms : List (Option K)) (p js : List Int) (hl : js.length = im.shape.length)
    (hc : coordsOf im.shape p shifts zooms = js.map fun (j : Int) => (j : K)) :
    pixel fl order m cval im shifts zooms p
      = match specPos m im.shape js with
        | some js' => f js'
        | none => cval := by
  exact interp_core h m cval (factors23 h hord) (.cons ⟨hz, hz1⟩ .nil) (fun _ => ini) im hshape
    (fun len hl' h2' z' hz' s => by rw [List.mem_singleton.mp hz']; exact hini len hl' h2' s) f
    (by simpa only [lineFilterL_single] using hdata) shifts zooms p js hl hc

/-- **C18 (integer coordinates anywhere, orders 4 and 5).** The two-pole instance of
`C18_interpolation_property_border` (hypotheses of `C18_interpolation_property_order4_5`): at any integer coordinate
vector `js` the model returns `f` at the position the border rule assigns to `js`, or `cval`. -/
theorem C18_interpolation_property_border_order4_5 {K : Type} [Field K] [LinearOrder K] [IsStrictOrderedRing K]
    {fl : K → Int} (h : IsFloor fl) (m : Mode) (cval : K) (order : Nat) (z1 z2 l1 l2 w : K)
    (hord : (order = 4 ∧ l1 + l2 = 76 ∧ l1 * l2 = 228 ∧ w = 384) ∨
      (order = 5 ∧ l1 + l2 = 26 ∧ l1 * l2 = 64 ∧ w = 120))
    (h1 : z1 * z1 + l1 * z1 + 1 = 0) (h2 : z2 * z2 + l2 * z2 + 1 = 0)
    (hz1 : z1 * z1 - 1 ≠ 0) (hz2 : z2 * z2 - 1 ≠ 0)
    (ini : K → Nat → (Nat → K) → K) (im : Img K) (hshape : ∀ len ∈ im.shape, len = 1 ∨ 2 ≤ len)
    (hini : ∀ len ∈ im.shape, 2 ≤ len → ∀ z, z = z1 ∨ z = z2 → ∀ s : Nat → K, MirrorInit z len s (ini z len s))
    (f : List Int → K)
    (hdata : ∀ pos, inside im.shape pos = true →
      im.getD pos 0 = prefilterNd (lineFilterL w [z1, z2] ini) im.shape f pos)
    (shifts zooms : List (Option K)) (p js : List Int) (hl : js.length = im.shape.length)
    (hc : coordsOf im.shape p shifts zooms = js.map fun (j : Int) => (j : K)) :
    pixel fl order m cval im shifts zooms p
      = match specPos m im.shape js with
        | some js' => f js'
        | none => cval := by
  exact interp_core h m cval (factors45 h hord) (.cons ⟨h1, hz1⟩ (.cons ⟨h2, hz2⟩ .nil)) ini im hshape
    (fun len hl' h2' z hz => hini len hl' h2' z (by simpa using hz)) f hdata shifts zooms p js hl hc

/-- **C18 (order 1 at integer coordinates anywhere, shift or zoom, any rank).** Without any prefilter: at every output
position whose mapped coordinates are an integer vector `js` (an integer shift, a unit zoom, the corners of a zoom, an
integer zoom ratio, …) the `zoom_shift` model at order 1 returns the input sample at the position the border rule
assigns to `js` (`specPos`), or `cval`; axes of length 1 included. The analogue of `C18_integer_shift_exact` (shifts only)
for every coordinate map, for `js` of the array's rank (`hl`, which that theorem does not need). -/
theorem C18_order1_integer_coordinates {K : Type} [Field K] [LinearOrder K] [IsStrictOrderedRing K]
    {fl : K → Int} (h : IsFloor fl) (m : Mode) (cval : K) (im : Img K) (hpos : ∀ len ∈ im.shape, 0 < len)
    (shifts zooms : List (Option K)) (p js : List Int) (hl : js.length = im.shape.length)
    (hc : coordsOf im.shape p shifts zooms = js.map fun (j : Int) => (j : K)) :
    pixel fl 1 m cval im shifts zooms p
      = match specPos m im.shape js with
        | some js' => im.getD js' 0
        | none => cval :=
  pixel_order1_int h m cval im hpos shifts zooms p js hc

/-- non-vacuity of the border rule: on an axis of 4 samples the integer coordinate `−1` reads sample 1 in `mirror`
mode, sample 0 in `nearest`, sample 3 in `wrap`, and is flagged in `constant` mode; coordinate 5 reads sample 2 in
`reflect` mode -/
example : specPos .mirror [4] [-1] = some [1] ∧ specPos .nearest [4] [-1] = some [0] ∧
    specPos .wrap [4] [-1] = some [3] ∧ specPos .constant [4] [-1] = none ∧ specPos .reflect [4] [5] = some [2] := by
  decide

/-- **C18 (corners of `zoom`, any rank).** For every input shape and requested output shape of the same rank (no empty axis) and every
**corner** `p` of the output box (every index 0, or `n_out − 1` on an axis with at least two output samples —
`IsCorner`), the full coordinate vector `zoom` maps `p` to is the corresponding corner of the input box (`cornerSrc`:
0 ↦ 0, `n_out − 1 ↦ n_in − 1` on every axis), which lies inside the array; hence the entry of `zoom`'s result
(`zoomGlue`, also what `resize_to` / `imresize` / `resize_rgb_to` return per channel) at `p` is
* order 1: the input sample at that corner (no hypothesis);
* orders 2, 3: `f` at that corner when the coefficients are the one-pole prefilter of `f`
  (hypotheses of `C18_interpolation_property`);
* orders 4, 5: likewise with the two-pole prefilter (hypotheses of `C18_interpolation_property_order4_5`).
Corner samples go to corner samples, in every rank and for every mode. -/
theorem C18_zoom_corners {K : Type} [Field K] [LinearOrder K] [IsStrictOrderedRing K]
    {fl : K → Int} (h : IsFloor fl) (m : Mode) (cval : K) (im : Img K) (oshape : List Nat) (p : List Int)
    (hrank : im.shape.length = oshape.length) (hcorner : IsCorner oshape p)
    (hpos : ∀ len ∈ im.shape, 0 < len) (hopos : ∀ n ∈ oshape, 0 < n) :
    coordsOf im.shape p (oshape.map fun _ => (none : Option K))
        ((im.shape.zip oshape).map fun io => some (zoomFactor io.1 io.2 : K))
      = (cornerSrc im.shape p).map (fun (j : Int) => (j : K)) ∧
    inside im.shape (cornerSrc im.shape p) = true ∧
    (zoomGlue fl 1 m cval im oshape).getD p 0 = im.getD (cornerSrc im.shape p) 0 ∧
    (∀ (order : Nat) (lam z : K) (ini : Nat → (Nat → K) → K) (f : List Int → K),
      ((order = 2 ∧ lam = 6) ∨ (order = 3 ∧ lam = 4)) → z * z + lam * z + 1 = 0 → z * z - 1 ≠ 0 →
      (∀ len ∈ im.shape, 2 ≤ len) → (∀ len ∈ im.shape, ∀ s : Nat → K, MirrorInit z len s (ini len s)) →
      (∀ pos, inside im.shape pos = true →
        im.getD pos 0 = prefilterNd (lineFilter1 z (2 + lam) ini) im.shape f pos) →
      (zoomGlue fl order m cval im oshape).getD p 0 = f (cornerSrc im.shape p)) ∧
    (∀ (order : Nat) (z1 z2 l1 l2 w : K) (ini : K → Nat → (Nat → K) → K) (f : List Int → K),
      ((order = 4 ∧ l1 + l2 = 76 ∧ l1 * l2 = 228 ∧ w = 384) ∨ (order = 5 ∧ l1 + l2 = 26 ∧ l1 * l2 = 64 ∧ w = 120)) →
      z1 * z1 + l1 * z1 + 1 = 0 → z2 * z2 + l2 * z2 + 1 = 0 → z1 * z1 - 1 ≠ 0 → z2 * z2 - 1 ≠ 0 →
      (∀ len ∈ im.shape, 2 ≤ len) →
      (∀ len ∈ im.shape, ∀ z, z = z1 ∨ z = z2 → ∀ s : Nat → K, MirrorInit z len s (ini z len s)) →
      (∀ pos, inside im.shape pos = true →
        im.getD pos 0 = prefilterNd (lineFilterL w [z1, z2] ini) im.shape f pos) →
      (zoomGlue fl order m cval im oshape).getD p 0 = f (cornerSrc im.shape p)) := by
  have hc := coordsOf_corner (K := K) im.shape oshape p hrank hcorner
  have hin := cornerSrc_inside im.shape oshape p hrank hcorner hpos
  have hpin := isCorner_inside oshape p hcorner hopos
  have hget : ∀ order, (zoomGlue fl order m cval im oshape).getD p 0
      = pixel fl order m cval im (oshape.map fun _ => none)
          ((im.shape.zip oshape).map fun io => some (zoomFactor io.1 io.2)) p := by
    intro order
    unfold zoomGlue zoomShift
    exact tabulate_getD _ _ _ _ hpin
  refine ⟨hc, hin, ?_, ?_, ?_⟩
  · rw [hget, pixel_order1_int h m cval im hpos _ _ p _ hc, C01.specPos_of_inside m im.shape _ hin]
  · intro order lam z ini f hord hz hz1 hshape hini hdata
    rw [hget]
    exact C18_interpolation_property h m cval order lam z hord hz hz1 ini im hshape hini f hdata _ _ p _ hin hc
  · intro order z1 z2 l1 l2 w ini f hord h1 h2 hz1 hz2 hshape hini hdata
    rw [hget]
    exact (C18_interpolation_property_order4_5 h m cval order z1 z2 l1 l2 w hord h1 h2 hz1 hz2 ini im hshape hini f
      hdata _ _ p _ hin hc).2

/-- non-vacuity: `(2, 0)` is a corner of a `3 × 2` output box and corresponds to the corner `(4, 0)` of a `5 × 7`
input box -/
example : IsCorner [3, 2] [2, 0] ∧ cornerSrc [5, 7] [2, 0] = [4, 0] := by
  constructor
  · simp [IsCorner]
  · rfl

/-- **C18 (the output shape of `zoom` / `imresize` by factor).** `zoomOutShape` is `interpolate.zoom`'s
`output_shape = tuple([int(s * z) for s, z in zip(array.shape, zoom)])` (`int` truncates toward zero: `truncI`; Python's
`round` is **not** involved) after the length check; `none` = the call raises. Over an ordered field with a floor
function, for every shape:
(1) a factor vector of the wrong length raises; (2) non-negative factors never raise; (3) a successful call returns one
length per axis, each `int(s_r · z_r)`; (4) for `z ≥ 0` that length is `⌊s·z⌋`: `len ≤ s·z < len + 1`; (5) it is
monotone in the factor; (6) the factor 1 (broadcast to every axis) asks for the input's own shape; (7) natural factors
`k_r` ask for the exact multiples `s_r·k_r`; (8) `zoomByFactor` (hence `imresizeFactor`) returns `zoom`'s result onto
exactly that shape — everything proved about `zoomGlue` (coordinate map, corners, interpolation) applies. -/
theorem C18_zoom_output_shape {K : Type} [Field K] [LinearOrder K] [IsStrictOrderedRing K]
    {fl : K → Int} (h : IsFloor fl) (shape : List Nat) :
    (∀ zs : List K, zs.length ≠ shape.length → zoomOutShape fl shape zs = none) ∧
    (∀ zs : List K, zs.length = shape.length → (∀ z ∈ zs, 0 ≤ z) → ∃ os, zoomOutShape fl shape zs = some os) ∧
    (∀ (zs : List K) (os : List Nat), zoomOutShape fl shape zs = some os →
      os.length = shape.length ∧ os.map (fun (o : Nat) => (o : Int)) = List.zipWith (zoomOutLen fl) shape zs) ∧
    (∀ (s : Nat) (z : K), 0 ≤ z →
      0 ≤ zoomOutLen fl s z ∧ ((zoomOutLen fl s z : Int) : K) ≤ (s : K) * z ∧
        (s : K) * z < ((zoomOutLen fl s z : Int) : K) + 1) ∧
    (∀ (s : Nat) (z z' : K), z ≤ z' → zoomOutLen fl s z ≤ zoomOutLen fl s z') ∧
    zoomOutShape fl shape (zoomFactors shape.length true [(1 : K)]) = some shape ∧
    (∀ ks : List Nat, ks.length = shape.length →
      zoomOutShape fl shape (ks.map fun (k : Nat) => (k : K)) = some (List.zipWith (· * ·) shape ks)) ∧
    (∀ (pre : Img K → Img K) (order : Nat) (m : Mode) (cval : K) (im : Img K) (scalar : Bool) (zs : List K)
      (r : Img K), zoomByFactor fl pre order m cval im scalar zs = some r →
        ∃ os, zoomOutShape fl im.shape (zoomFactors im.shape.length scalar zs) = some os ∧
          r = zoomGlue fl order m cval (pre im) os ∧ r.shape = os) := by
  refine ⟨fun zs hl => zoomOutShape_length_ne fl shape zs hl, fun zs hl hz => zoomOutShape_nonneg h shape zs hl hz,
    fun zs os hs => (zoomOutShape_some fl shape zs os hs).2, ?_, fun s z z' hz => zoomOutLen_mono h s z z' hz,
    ?_, fun ks hl => zoomOutShape_nat h shape ks hl, ?_⟩
  · intro s z hz
    exact (truncI_bounds h ((s : K) * z)).1 (mul_nonneg (Nat.cast_nonneg s) hz)
  · simp only [zoomFactors, if_true]
    exact zoomOutShape_unit h shape
  · intro pre order m cval im scalar zs r hr
    unfold zoomByFactor at hr
    cases hs : zoomOutShape fl im.shape (zoomFactors im.shape.length scalar zs) with
    | none => rw [hs] at hr; cases hr
    | some os =>
      rw [hs] at hr
      simp only [Option.some.injEq] at hr
      subst hr
      exact ⟨os, rfl, rfl, rfl⟩

/-- non-vacuity: over ℚ with the true floor, a `3 × 4` array zoomed by `(3/2, 1/2)` gets the shape `(4, 2)`, by `−1/2`
the call raises, and the length 49 with the factor `1/49` gives 1 over ℚ (the double product `49·(1/49)` is below 1:
the defect of `imresize` repaired by `5ab5421` is a floating-point effect) -/
example : zoomOutShape (fun z : ℚ => ⌊z⌋) [3, 4] [3 / 2, 1 / 2] = some [4, 2] ∧
    zoomOutShape (fun z : ℚ => ⌊z⌋) [3] [-1 / 2] = none ∧
    zoomOutShape (fun z : ℚ => ⌊z⌋) [49] [1 / 49] = some [1] := by
  norm_num [zoomOutShape, zoomOutLen, truncI]
  decide

/-- **C18 (integer images: the stored value is the interpolated value truncated toward zero).** `resize_to` on an
image of an integer dtype (`resizeToDT`: `out = np.empty(nsize, dtype=im.dtype)`, `zoom` in `float64`, then
`o_out[:] = out[:]`) raises exactly when `resize_to` does, returns exactly the requested shape, and every stored entry
is `castToInt` of the `float64` entry of `resize_to`'s result: (1) an integer value inside the dtype's range is stored
unchanged — with the interpolation theorems: corners, unit zoom and integer ratios are exact over a field; (2) any
other value `v` is replaced by the integer between 0 and `v` less than one away from it (`int(v)`), so the statement's
"reproduces the samples" holds on integer images only up to that truncation — in floating point a corner value
`2.9999999999999996` is stored as 2 (observed; integer arrays are outside the statement's quantifier). -/
theorem C18_integer_dtype_truncation {K : Type} [Field K] [LinearOrder K] [IsStrictOrderedRing K]
    {fl : K → Int} (h : IsFloor fl) (pre : Img K → Img K) (order : Nat) (dt : DT) (im : Img K)
    (nsize : List Nat) :
    (resizeToDT fl pre order dt im nsize = none ↔ nsize.length ≠ im.shape.length) ∧
    (∀ r, resizeToDT fl pre order dt im nsize = some r →
      r.shape = nsize ∧
      r.data = (zoomGlue fl order .constant 0 (pre im) nsize).data.map (castToInt fl dt)) ∧
    (∀ n : Int, dt.lo ≤ n → n ≤ dt.hi → castToInt fl dt (n : K) = some n) ∧
    (∀ (v : K) (t : Int), castToInt fl dt v = some t →
      dt.lo ≤ t ∧ t ≤ dt.hi ∧
      (0 ≤ v → 0 ≤ t ∧ (t : K) ≤ v ∧ v < (t : K) + 1) ∧ (v ≤ 0 → t ≤ 0 ∧ v ≤ (t : K) ∧ (t : K) - 1 < v)) := by
  rw [← and_assoc]
  refine ⟨?_, fun n hlo hhi => castToInt_int h dt n hlo hhi, ?_⟩
  · unfold resizeToDT
    by_cases hl : nsize.length = im.shape.length
    · rw [resizeTo_some fl pre order im nsize hl]
      exact ⟨by simp [hl], fun r hr => by cases hr; exact ⟨rfl, rfl⟩⟩
    · rw [resizeTo_none fl pre order im nsize hl]
      exact ⟨by simp [hl], fun r hr => by cases hr⟩
  · intro v t hc
    obtain ⟨rfl, hlo, hhi⟩ := castToInt_some fl dt v t hc
    exact ⟨hlo, hhi, (truncI_bounds h v).1, (truncI_bounds h v).2⟩

/-- non-vacuity: over ℚ, `uint8`: `5/2` is stored as 2, `−1/3` as 0, 255 as 255, and `256` is outside the range -/
example : castToInt (fun z : ℚ => ⌊z⌋) (dtU 8) (5 / 2) = some 2 ∧ castToInt (fun z : ℚ => ⌊z⌋) (dtU 8) (-1 / 3) = some 0 ∧
    castToInt (fun z : ℚ => ⌊z⌋) (dtU 8) 255 = some 255 ∧ castToInt (fun z : ℚ => ⌊z⌋) (dtU 8) 256 = none := by
  norm_num [castToInt, truncI, dtU, DT.lo, DT.hi]

/-- **C18 (the prefilter the driver runs is the separable prefilter of the theorems).** `splineFilterP`, `filterAxisP`,
`filterLineP` (`Model/C18.lean`) are the array loop of `interpolate.spline_filter` / `spline_filter1d`, polymorphic in
the scalar type; the driver's `splineFilter order` **is** `splineFilterP (filterLineP (poleWeight (poles order))
(poles order) (iniCode cutLen pow))` at `Float` for every order > 1 (`C18_driver_prefilter_instance`). Over any ordered field, for
every weight `w`, list of poles `ps`, shape, rank and every initialisation rule that reads only the line (`IniLocal`;
the code's rule `iniCode cut pw` — truncated sum below the cut, closed form otherwise — is local whatever `cut` and `pw`
are): the result has the input's shape and at **every** position inside the array it holds
`prefilterNd (lineFilterL w ps ini)` of the input samples — axis 0 first, then axis 1, …, every line replaced by
`line·w` run through the causal/anti-causal recursions of every pole (`onePole`), axes of length ≤ 1 left alone. So the
hypothesis `hdata` of the interpolation theorems is what the driver's own prefilter establishes. -/
theorem C18_spline_filter_is_prefilterNd {K : Type} [Field K] [LinearOrder K] [IsStrictOrderedRing K]
    (w : K) (ps : List K) (im : Img K) :
    (∀ ini : K → Nat → (Nat → K) → K, IniLocal ini →
      (splineFilterP (filterLineP w ps ini) im).shape = im.shape ∧
      ∀ p, inside im.shape p = true →
        (splineFilterP (filterLineP w ps ini) im).getD p 0
          = prefilterNd (lineFilterL w ps ini) im.shape (fun q => im.getD q 0) p) ∧
    (∀ (cut : K → Int) (pw : K → Nat → K), IniLocal (iniCode cut pw)) ∧
    (∀ (F : Array K → Array K) (axis : Nat) (p : List Int), inside im.shape p = true →
      (filterAxisP F im axis).shape = im.shape ∧
      (filterAxisP F im axis).getD p 0
        = if im.shape.getD axis 1 ≤ 1 then im.getD p 0
          else (F (lineOf im axis p (im.shape.getD axis 1))).getD (p.getD axis 0).toNat 0) :=
  ⟨fun ini hini => splineFilterP_eq_prefilterNd w ps ini hini im, fun cut pw => iniCode_local cut pw,
    fun F axis p hin => ⟨filterAxisP_shape F im axis, filterAxisP_getD_line F im axis p hin⟩⟩

/-- non-vacuity: over ℚ, one (non-root) pole `1/2`, weight 2, initial value `line[0]` (a local rule): the array loop
on the `2 × 1` image `[[1],[2]]` filters the first axis (`7/2` at `(0,0)`) and leaves the axis of length 1 alone -/
example : (splineFilterP (filterLineP (2 : ℚ) [1 / 2] (fun _ _ s => s 0)) { shape := [2, 1], data := #[1, 2] }).getD
    [0, 0] 0 = prefilterNd (lineFilterL (2 : ℚ) [1 / 2] (fun _ _ s => s 0)) [2, 1]
      (fun q => ({ shape := [2, 1], data := #[1, 2] } : Img ℚ).getD q 0) [0, 0] ∧
    IniLocal (fun (_ : ℚ) (_ : Nat) (s : Nat → ℚ) => s 0) := by
  have hloc : IniLocal (fun (_ : ℚ) (_ : Nat) (s : Nat → ℚ) => s 0) := fun z len s s' hlen h => h 0 (by omega)
  exact ⟨(splineFilterP_eq_prefilterNd (2 : ℚ) [1 / 2] _ hloc { shape := [2, 1], data := #[1, 2] }).2 [0, 0] rfl, hloc⟩

/-- **C18 (the interpolation property of what the driver computes, orders 2–5, any rank, any mode, sources anywhere).**
Let `coeffs = splineFilterP (filterLineP w ps (iniCode cut pw)) im` — the array computation the
driver's `spline_filter` runs (`C18_spline_filter_is_prefilterNd`), with exact poles and their weight (order 2:
`ps = [z₁]`, `z₁² + 6z₁ + 1 = 0`, `w = 8`; order 3: `z₁² + 4z₁ + 1 = 0`, `w = 6`; order 4: `ps = [z₁, z₂]`,
`λ₁+λ₂ = 76`, `λ₁λ₂ = 228`, `w = 384`; order 5: `26`, `64`, `120`), on lines where the code uses its closed-form
initialisation (`cut z ≥ len` for every pole and axis: with the code's `1e−15` cut, axes of at most 20 / 27 / 9 / 11 samples
for orders 2 / 3 / 4 / 5; `pw z n = zⁿ`, `z^(2len−2) ≠ 1`; every axis has one sample — it is then left
alone by the prefilter and every knot folds to it — or more; no axis is empty). Then at
every output position `p` of `zoom_shift` on `coeffs` (any shifts / zoom factors) whose mapped coordinates are an
integer vector `js`, the result is the **input sample** `im[js']` at the position the border rule of the mode assigns to
`js` (`js' = js` inside the array), or `cval` when the mode flags it: zero shift and unit zoom return the input,
integer shifts are exact translations with the border rule in vacated pixels, corners go to corners — for the composite
`spline_filter` + `zoom_shift` as the driver runs it. Not covered: approximate floating-point poles / `pow`, the
truncated initial sum on long lines (`C18_prefilter_truncation_bound`). -/
theorem C18_interpolation_property_driver {K : Type} [Field K] [LinearOrder K] [IsStrictOrderedRing K]
    {fl : K → Int} (h : IsFloor fl) (m : Mode) (cval : K) (order : Nat) (z1 z2 l1 l2 w : K) (ps : List K)
    (hord : (order = 2 ∧ ps = [z1] ∧ l1 = 6 ∧ w = 8) ∨ (order = 3 ∧ ps = [z1] ∧ l1 = 4 ∧ w = 6) ∨
      (order = 4 ∧ ps = [z1, z2] ∧ l1 + l2 = 76 ∧ l1 * l2 = 228 ∧ w = 384) ∨
      (order = 5 ∧ ps = [z1, z2] ∧ l1 + l2 = 26 ∧ l1 * l2 = 64 ∧ w = 120))
    (h1 : z1 * z1 + l1 * z1 + 1 = 0) (h2 : z2 * z2 + l2 * z2 + 1 = 0)
    (hz1 : z1 * z1 - 1 ≠ 0) (hz2 : z2 * z2 - 1 ≠ 0)
    (cut : K → Int) (pw : K → Nat → K) (im : Img K)
    (hshape : ∀ len ∈ im.shape, 0 < len)
    (hcut : ∀ len ∈ im.shape, 2 ≤ len → ∀ z ∈ ps, ¬ cut z < (len : Int))
    (hpw : ∀ len ∈ im.shape, 2 ≤ len → ∀ z ∈ ps, pw z (len - 1) = z ^ (len - 1))
    (hP : ∀ len ∈ im.shape, 2 ≤ len → ∀ z ∈ ps, 1 - z ^ (len - 1) * z ^ (len - 1) ≠ 0)
    (shifts zooms : List (Option K)) (p js : List Int) (hl : js.length = im.shape.length)
    (hc : coordsOf im.shape p shifts zooms = js.map fun (j : Int) => (j : K)) :
    pixel fl order m cval (splineFilterP (filterLineP w ps (iniCode cut pw)) im) shifts zooms p
      = match specPos m im.shape js with
        | some js' => im.getD js' 0
        | none => cval := by
  obtain ⟨hs, hg⟩ := splineFilterP_eq_prefilterNd w ps (iniCode cut pw) (iniCode_local cut pw) im
  -- name the coefficient array and give it the input's shape
  generalize splineFilterP (filterLineP w ps (iniCode cut pw)) im = co at hs hg ⊢
  obtain ⟨sh, data⟩ := co
  change sh = im.shape at hs
  subst hs
  have key : ∀ lams, Factors fl order w lams → List.Forall₂ IsPole ps lams →
      pixel fl order m cval ⟨im.shape, data⟩ shifts zooms p
        = match specPos m im.shape js with
          | some js' => im.getD js' 0
          | none => cval := fun lams hf hp =>
    interp_core h m cval hf hp (iniCode cut pw) ⟨im.shape, data⟩ (fun len hl' => by have := hshape len hl'; omega)
      (fun len hl' hlen z hz s => iniCode_mirrorInit cut pw z (IsPole.ne_zero_of_mem hp z hz) len hlen
        (hcut len hl' hlen z hz) (hpw len hl' hlen z hz) (hP len hl' hlen z hz) s)
      (fun q => im.getD q 0) hg shifts zooms p js hl hc
  rcases hord with ⟨rfl, rfl, rfl, rfl⟩ | ⟨rfl, rfl, rfl, rfl⟩ | ⟨rfl, rfl, hsum, hprod, rfl⟩ |
    ⟨rfl, rfl, hsum, hprod, rfl⟩
  · exact key _ (factors2 h) (.cons ⟨h1, hz1⟩ .nil)
  · exact key _ (factors3 h) (.cons ⟨h1, hz1⟩ .nil)
  · exact key _ (factors4 h hsum hprod) (.cons ⟨h1, hz1⟩ (.cons ⟨h2, hz2⟩ .nil))
  · exact key _ (factors5 h hsum hprod) (.cons ⟨h1, hz1⟩ (.cons ⟨h2, hz2⟩ .nil))

/-- **C18 (the `Float` driver instantiates the polymorphic prefilter).** What the native driver runs for
`spline_filter` (`kind=sf`, and inside every `kind=zs` / `rs` / `rsi` line with a prefilter) is, for every order > 1,
the polymorphic array loop `splineFilterP (filterLineP weight poles rule)` at `Float` with the code's `poles order`,
their `poleWeight`, and the code's initialisation rule `iniCode cutLen pow`; `spline_filter1d` along one axis is
`filterAxisP` of the same line filter; orders ≤ 1 return the input. So `C18_spline_filter_is_prefilterNd` and
`C18_interpolation_property_driver` speak about the definitions the driver executes (instantiated at an exact field). -/
theorem C18_driver_prefilter_instance (order : Nat) (im : Img Float) :
    letI : NatCast Float := ⟨Float.ofNat⟩
    letI : IntCast Float := ⟨Float.ofInt⟩
    (1 < order → splineFilter order im
      = splineFilterP (filterLineP (poleWeight (poles order)) (poles order)
          (iniCode cutLen (fun p n => Float.pow p (Float.ofNat n)))) im) ∧
    (order ≤ 1 → splineFilter order im = im) ∧
    (∀ axis, filterAxis order im axis
      = filterAxisP (filterLineP (poleWeight (poles order)) (poles order)
          (iniCode cutLen (fun p n => Float.pow p (Float.ofNat n)))) im axis) := by
  refine ⟨?_, ?_, fun axis => rfl⟩
  · intro ho
    unfold splineFilter
    rw [if_neg (by omega)]
    rfl
  · intro ho
    unfold splineFilter
    rw [if_pos ho]

/-- non-vacuity: the driver's prefilter leaves an order-1 request alone and keeps the shape for order 3 -/
example : (splineFilter 1 { shape := [2], data := #[1.0, 2.0] }).shape = [2] ∧
    (filterAxis 3 { shape := [1], data := #[1.0] } 0).shape = [1] := by
  constructor <;> rfl

/-- non-vacuity of the pole hypotheses of the interpolation theorems: over ℝ the code's poles `√8 − 3` (order 2) and
`√3 − 2` (order 3) are exact roots of `z² + 6z + 1` / `z² + 4z + 1`, different from 0 and from ±1 -/
example : (∃ z : ℝ, z * z + 6 * z + 1 = 0 ∧ z * z - 1 ≠ 0 ∧ z ≠ 0) ∧
    (∃ z : ℝ, z * z + 4 * z + 1 = 0 ∧ z * z - 1 ≠ 0 ∧ z ≠ 0) := by
  -- `s − b` with `s² = b² − 1` is a root of `z² + 2bz + 1`; it is `0` or `±1` only if `s = b` or `s = b − 1/b`
  have key : ∀ s b lam r : ℝ, lam = 2 * b → s * s = b * b - 1 → s ≠ b → b * r = b * b - 1 → s ≠ r → b ≠ 0 →
      (s - b) * (s - b) + lam * (s - b) + 1 = 0 ∧ (s - b) * (s - b) - 1 ≠ 0 ∧ s - b ≠ 0 := by
    rintro s b lam r rfl hs h1 hr h2 hb
    refine ⟨by linear_combination hs, fun e => h2 (mul_left_cancel₀ hb ?_), fun e => h1 (by linear_combination e)⟩
    linear_combination (1 / 2 : ℝ) * hs - (1 / 2 : ℝ) * e - hr
  have s8 := Real.mul_self_sqrt (show (0 : ℝ) ≤ 8 by norm_num)
  have s3 := Real.mul_self_sqrt (show (0 : ℝ) ≤ 3 by norm_num)
  exact ⟨⟨_, key (Real.sqrt 8) 3 6 (8 / 3) (by norm_num) (by rw [s8]; norm_num)
      (fun e => by rw [e] at s8; norm_num at s8) (by norm_num) (fun e => by rw [e] at s8; norm_num at s8) (by norm_num)⟩,
    ⟨_, key (Real.sqrt 3) 2 4 (3 / 2) (by norm_num) (by rw [s3]; norm_num)
      (fun e => by rw [e] at s3; norm_num at s3) (by norm_num) (fun e => by rw [e] at s3; norm_num at s3) (by norm_num)⟩⟩

/-- **C18 (zero shift and unit zoom return the input — for the driver's composite, orders 2–5, any rank, any mode).**
The first clause of the statement for the spline orders. Under the hypotheses of `C18_interpolation_property_driver`
(exact poles and weight, lines on which the code uses its closed-form initialisation, no empty axis) let `coeffs = splineFilterP (filterLineP w ps (iniCode cut pw)) im` be what the driver's `spline_filter`
computes. Then `shift(im, 0)` — `shiftGlue` of `coeffs` with the zero shift vector — and `zoom(im, out of the same
shape)` — `zoomGlue` of `coeffs` onto `im.shape` — have the input's shape and hold the input sample `im[p]` at **every**
position `p` of the array, whatever the border mode. -/
theorem C18_driver_zero_shift_unit_zoom_identity {K : Type} [Field K] [LinearOrder K] [IsStrictOrderedRing K]
    {fl : K → Int} (h : IsFloor fl) (m : Mode) (cval : K) (order : Nat) (z1 z2 l1 l2 w : K) (ps : List K)
    (hord : (order = 2 ∧ ps = [z1] ∧ l1 = 6 ∧ w = 8) ∨ (order = 3 ∧ ps = [z1] ∧ l1 = 4 ∧ w = 6) ∨
      (order = 4 ∧ ps = [z1, z2] ∧ l1 + l2 = 76 ∧ l1 * l2 = 228 ∧ w = 384) ∨
      (order = 5 ∧ ps = [z1, z2] ∧ l1 + l2 = 26 ∧ l1 * l2 = 64 ∧ w = 120))
    (h1 : z1 * z1 + l1 * z1 + 1 = 0) (h2 : z2 * z2 + l2 * z2 + 1 = 0)
    (hz1 : z1 * z1 - 1 ≠ 0) (hz2 : z2 * z2 - 1 ≠ 0)
    (cut : K → Int) (pw : K → Nat → K) (im : Img K)
    (hshape : ∀ len ∈ im.shape, 0 < len)
    (hcut : ∀ len ∈ im.shape, 2 ≤ len → ∀ z ∈ ps, ¬ cut z < (len : Int))
    (hpw : ∀ len ∈ im.shape, 2 ≤ len → ∀ z ∈ ps, pw z (len - 1) = z ^ (len - 1))
    (hP : ∀ len ∈ im.shape, 2 ≤ len → ∀ z ∈ ps, 1 - z ^ (len - 1) * z ^ (len - 1) ≠ 0)
    (p : List Int) (hin : inside im.shape p = true) :
    let coeffs := splineFilterP (filterLineP w ps (iniCode cut pw)) im
    (shiftGlue fl order m cval coeffs (im.shape.map fun _ => (0 : K))).shape = im.shape ∧
    (shiftGlue fl order m cval coeffs (im.shape.map fun _ => (0 : K))).getD p 0 = im.getD p 0 ∧
    (zoomGlue fl order m cval coeffs im.shape).shape = im.shape ∧
    (zoomGlue fl order m cval coeffs im.shape).getD p 0 = im.getD p 0 := by
  intro coeffs
  have hs : coeffs.shape = im.shape :=
    (splineFilterP_eq_prefilterNd w ps (iniCode cut pw) (iniCode_local cut pw) im).1
  have hlen : p.length = im.shape.length := C01.inside_length hin
  have key : ∀ shifts zooms, coordsOf im.shape p shifts zooms = p.map (fun (j : Int) => (j : K)) →
      pixel fl order m cval coeffs shifts zooms p = im.getD p 0 := by
    intro shifts zooms hc
    have := C18_interpolation_property_driver h m cval order z1 z2 l1 l2 w ps hord h1 h2 hz1 hz2 cut pw im hshape
      hcut hpw hP shifts zooms p p hlen hc
    rw [C01.specPos_of_inside m im.shape p hin] at this
    exact this
  refine ⟨?_, ?_, rfl, ?_⟩
  · show coeffs.shape = im.shape
    exact hs
  · unfold shiftGlue zoomShift
    rw [hs, tabulate_getD _ _ _ _ hin]
    exact key _ _ (coordsOf_zero_shift im.shape p hin)
  · unfold zoomGlue zoomShift
    rw [hs, tabulate_getD _ _ _ _ hin]
    exact key _ _ (coordsOf_unit_zoom im.shape p hin)

/-- non-vacuity: `(1, 0)` is a position of a `2 × 2` array, in `constant` mode the border rule leaves it where it is, and
the zero shift / unit zoom coordinates of that position are the position itself (over ℚ) -/
example : inside [2, 2] [1, 0] = true ∧ specPos .constant [2, 2] [1, 0] = some [1, 0] ∧
    coordsOf [2, 2] [1, 0] (([2, 2].map fun _ => (0 : ℚ)).map fun s => some (-s)) (([2, 2].map fun _ => (0 : ℚ)).map fun _ => none)
      = [1, 0] ∧
    coordsOf [2, 2] [1, 0] ([2, 2].map fun _ => (none : Option ℚ))
      (([2, 2].zip [2, 2]).map fun io => some (zoomFactor io.1 io.2 : ℚ)) = [1, 0] := by
  refine ⟨by decide, by decide, ?_, ?_⟩
  · have := coordsOf_zero_shift (K := ℚ) [2, 2] [1, 0] (by decide)
    simpa using this
  · have := coordsOf_unit_zoom (K := ℚ) [2, 2] [1, 0] (by decide)
    simpa using this
