/-
C14 — property theorems (helper lemmas live in `Proofs/C14*.lean`).
-/
import Mahotas.Proofs.C14
import Mahotas.Proofs.C14Holes
import Mahotas.Proofs.C14Reg
import Mahotas.Proofs.StarCheck
import Mahotas.Proofs.C14Families
import Mahotas.Proofs.C14Hitmiss
import Mahotas.Proofs.C14HitmissLoop
import Mahotas.Proofs.C14Centre
import Mahotas.Proofs.C14RegSpec
import Mahotas.Proofs.C14HolesSpec
import Mahotas.Proofs.C14Order
import Mahotas.Proofs.C01Dispatch
open Mahotas Mahotas.C14

/-- C14-T1 (local extrema). For every image of every rank and shape, every pixel `p` inside it and
every neighbourhood (centre removed, offsets of the rank of the image) that is coordinate-wise star-shaped — the centred cross and
every centred box are — the model of `locmin_max` (neighbours read through
`fix_offset(ExtendNearest)`, i.e. clamped onto the image) marks `p` exactly when no neighbour
*inside the image* exceeds it (`isMin = false`, `locmax`) / undercuts it (`isMin = true`, `locmin`):
clamping is unobservable because a clamped neighbour is the pixel itself or a genuine neighbour. -/
theorem C14_locmax_eq_spec (isMin : Bool) (A : Img Int) (nb : List (List Int)) (p : List Int)
    (hp : inside A.shape p = true) (hlen : ∀ k ∈ nb, k.length = p.length) (hstar : StarShaped nb) :
    locAt isMin A nb p = locSpecAt isMin A nb p :=
  locAt_eq_spec isMin A nb p hp (fun k hk => by rw [hlen k hk, C01.inside_length hp]) hstar

/-- C14-T2 (regional ⊆ local), unconditional. Whatever the image and the neighbourhood
(no hypothesis on either): every pixel marked by the model of `regmax`/`regmin`
(`locmin_max` followed by `remove_fake_regmin_max`) is marked by the model of `locmax`/`locmin`,
because the removal pass only ever clears marks. -/
theorem C14_regional_subset_local (isMin : Bool) (A : Img Int) (nb : List (List Int)) (i : Nat)
    (h : (regModel isMin A nb).getD i false = true) : (locModel isMin A nb).getD i false = true :=
  removeFake_sub isMin A nb (locModel isMin A nb) i h

/-- C14-T2 (regional extrema = plateaus without a strictly better neighbour). For every image of
every rank and shape, every neighbourhood (centre removed) that is symmetric (`SymNb`: with `k` also
`−k`, offsets of the rank of the image) and coordinate-wise star-shaped — cross and box are — and
every pixel `q` inside the image: the model of `regmax`/`regmin` (`locmin_max`, then the scan of
`remove_fake_regmin_max` with its stack flood through marked pixels) marks `q` exactly when **every**
pixel `r` of the plateau of `q` (`PConn`: reached from `q` by neighbourhood steps between pixels of
equal value inside the image) has no neighbour inside the image that is strictly higher
(`isMin = false`) / strictly lower (`isMin = true`). Ties between plateaus and plateaus touching the
border are covered; the right-hand side does not mention the scan or stack order of the model. -/
theorem C14_regional_eq_spec (isMin : Bool) (A : Img Int) (nb : List (List Int)) (hn : SymNb A nb)
    (hstar : StarShaped nb) (q : List Int) (hq : inside A.shape q = true) :
    (regModel isMin A nb).getD (ravelI A.shape q) false = true ↔ Regional isMin A nb q :=
  removeFake_spec hn (locModel isMin A nb) (size_map_allPos _ _)
    (fun q' hq' => by rw [flg_locModel q' hq', locAt_eq_spec isMin A nb q' hq' hn.len hstar, locSpecAt_iff]) q hq

/-- C14-T4 (hit-or-miss = its definition). For every image, every template whose sides are all
odd (any rank ≥ 1, template of the rank of the image) and every position `p`: the model of
`hitmiss` (border skipping through the `slack` counter, then the conjunction over the entries
different from 2) is 1 exactly when the whole template lies inside the image and every 0/1 entry
equals the pixel under it. -/
theorem C14_hitmiss_eq_spec (A : Img Int) (bshape : List Nat) (bc : Array Int) (p : List Int)
    (hodd : ∀ b ∈ bshape, b % 2 = 1) (hne : A.shape ≠ [])
    (hl1 : bshape.length = A.shape.length) (hl2 : p.length = A.shape.length) :
    hitmissAt A bshape (hmEntries bshape bc) p = hitmissSpecAt A bshape bc p := by
  rw [hitmissAt_entries, hmEvaluated_closed A.shape bshape p (fun b hb => by have := hodd b hb; omega) hne hl1 hl2,
    hmEvenExcluded_odd A.shape bshape p hodd, Bool.not_false, Bool.and_true]
  rfl

/-- C14-T4 (the shuffle is unobservable). The C++ shuffles the list of tested entries with a
fixed-seed `mt19937` before scanning; the model's answer is the same for *every* permutation of
that list (a conjunction does not depend on the order of evaluation). -/
theorem C14_hitmiss_order_irrelevant (A : Img Int) (bshape : List Nat)
    (es es' : List (List Int × Int)) (hperm : es.Perm es') (p : List Int) :
    hitmissAt A bshape es p = hitmissAt A bshape es' p := by
  unfold hitmissAt
  rw [hperm.all_eq]

/-- **F14 (flood fill = reachability).** For every shape, neighbourhood, initial flag array and
initial stack whose own flags are already cleared: with fuel at least `|stack| + #set flags` the
stack flood shared by `remove_fake_regmin_max` and `close_holes` ends with exactly those flags
cleared that belong to pixels reachable from the stack by steps `p ↦ p + k` through pixels inside
the image whose flag was set — it takes every such pixel, takes nothing else, and the fuel is
never exhausted (each pop is paid for by one stack entry or one set flag). -/
theorem C14_flood_reachability (c : Ctx) (fuel : Nat) (hfuel : c.stack0.length + cnt c.avail0 ≤ fuel)
    (h0 : ∀ p ∈ c.stack0, c.fl c.avail0 p = false) (q : List Int) (hq : inside c.shape q = true) :
    c.fl (flood c.shape c.nb fuel c.avail0 c.stack0) q = true ↔
      (c.fl c.avail0 q = true ∧ ¬ Reach c q) :=
  flood_final c fuel hfuel h0 q hq

/-- C14-T3 (hole closing). For every image (any rank the model is given, any shape, `data` of the
size of the shape), every neighbourhood and every pixel `q` inside the image: the model of
`close_holes` (seed the background pixels of the border, flood through background pixels, complement)
is true at `q` exactly when `q` is **not** a background pixel connected to the image border
(`BorderConn`: a background border pixel, or reached from one by neighbourhood steps through
background pixels inside the image). In particular every foreground pixel stays set and exactly the
enclosed background is filled. -/
theorem C14_close_holes_eq_spec (ref : Img Int) (nb : List (List Int))
    (hwf : ref.data.size = shapeSize ref.shape) (q : List Int) (hq : inside ref.shape q = true) :
    (closeHoles ref nb).getD (ravelI ref.shape q) false = true ↔ ¬ BorderConn ref nb q :=
  closeHoles_spec ref nb hwf q hq

/-- the Boolean checks `starShapedB` / `symNbB` (enumerate every offset between 0 and each member) are
sound for the hypotheses `StarShaped` and `SymNb` of the theorems above: for a concrete neighbourhood
they are discharged by `decide +kernel`. -/
theorem C14_star_sym_check (A : Img Int) (nb : List (List Int))
    (h1 : starShapedB nb = true) (h2 : symNbB A.shape.length nb = true) : StarShaped nb ∧ SymNb A nb :=
  ⟨starShaped_of_check nb h1, symNb_of_check A nb h2⟩

/-! the neighbourhoods of the property's quantifier pass the checks: crosses and boxes in 1, 2 and 3 D -/
example : starShapedB (neighbours [3] #[1, 1, 1]) = true ∧ symNbB 1 (neighbours [3] #[1, 1, 1]) = true := by decide +kernel
example : starShapedB (neighbours [3, 3] #[0, 1, 0, 1, 1, 1, 0, 1, 0]) = true ∧
    symNbB 2 (neighbours [3, 3] #[0, 1, 0, 1, 1, 1, 0, 1, 0]) = true := by decide +kernel
example : starShapedB (neighbours [3, 3] #[1, 1, 1, 1, 1, 1, 1, 1, 1]) = true ∧
    symNbB 2 (neighbours [3, 3] #[1, 1, 1, 1, 1, 1, 1, 1, 1]) = true := by decide +kernel
example : starShapedB (neighbours [3, 3, 3] (C01.crossElem 3 1)) = true ∧
    symNbB 3 (neighbours [3, 3, 3] (C01.crossElem 3 1)) = true := by decide +kernel
example : starShapedB (neighbours [3, 3, 3] (Array.replicate 27 1)) = true ∧
    symNbB 3 (neighbours [3, 3, 3] (Array.replicate 27 1)) = true := by decide +kernel

/-! non-vacuity: the 2-D cross (centre removed) is star-shaped, and a 2×3 image with a plateau
    touching the border and a tie between two plateaus meets every hypothesis of `C14_locmax_eq_spec`;
    there the regional maxima equal the local ones, on the 1×4 image `1 1 2 0` they are a strict subset. -/
example : StarShaped (neighbours [3, 3] #[0, 1, 0, 1, 1, 1, 0, 1, 0]) :=
  starShaped_of_check _ (by decide +kernel)

example :
    let A : Img Int := { shape := [2, 3], data := #[2, 2, 1, 0, 1, 2] }
    let nb := neighbours [3, 3] #[0, 1, 0, 1, 1, 1, 0, 1, 0]
    (locModel false A nb).toList = [true, true, false, false, false, true] ∧
    (regModel false A nb).toList = [true, true, false, false, false, true] ∧
    (regModel false { shape := [1, 4], data := #[1, 1, 2, 0] } (neighbours [1, 3] #[1, 1, 1])).toList
      = [false, false, true, false] ∧
    (locModel false { shape := [1, 4], data := #[1, 1, 2, 0] } (neighbours [1, 3] #[1, 1, 1])).toList
      = [true, false, true, false] := by
  decide +kernel

/-! the 2-D cross is a symmetric neighbourhood of a 2×3 image -/
example : SymNb { shape := [2, 3], data := #[2, 2, 1, 0, 1, 2] } (neighbours [3, 3] #[0, 1, 0, 1, 1, 1, 0, 1, 0]) :=
  ⟨by decide +kernel, by decide +kernel⟩

/-! non-vacuity for hit-or-miss and hole closing: a 3×3 ring is closed, the template matches once. -/
example :
    let A : Img Int := { shape := [3, 3], data := #[1, 1, 1, 1, 0, 1, 1, 1, 1] }
    (closeHoles A (neighbours [3, 3] #[0, 1, 0, 1, 1, 1, 0, 1, 0])).toList = List.replicate 9 true ∧
    (allPos A.shape).map (hitmissAt A [3, 3] (hmEntries [3, 3] #[2, 1, 2, 1, 0, 1, 2, 1, 2]))
      = [0, 0, 0, 0, 1, 0, 0, 0, 0] := by
  decide +kernel

/-! ## the neighbourhood hypotheses proved for whole families

`C01.CrossBoxDisk d S bc` (`Proofs/C02Families.lean`, spelled out in `C02_cross_box_disk_family`): `(S, bc)` is
`crossElem d r` on the shape `3 × … × 3` (what `get_structuring_elem` builds; any radius), `diskElem d r` on
`(2r+1) × … × (2r+1)` (any radius), or an all-ones box of rank `d` with arbitrary odd sides.
`neighbours S bc` is the list the driver hands to the kernels' models (non-zero entries, centre removed). -/

/-- **`StarShaped` and `SymNb` for every cross, box and disk.** For every rank `d`, every radius and every
odd box shape, the neighbourhood list the driver builds from a cross `crossElem d r`, a disk `diskElem d r`
or an all-ones odd box is coordinate-wise star-shaped (hypothesis of `C14_locmax_eq_spec` and
`C14_regional_eq_spec`), consists of offsets of length `d`, is closed under negation, hence is a symmetric
neighbourhood (`SymNb`) of **every** image of rank `d`; and it is exactly the set of non-centre offsets of the
compressed support of C01/C02 (all of height 1). -/
theorem C14_cross_box_star_sym (d : Nat) (S : List Nat) (bc : Array Int) (h : C01.CrossBoxDisk d S bc) :
    StarShaped (neighbours S bc) ∧
    (∀ k ∈ neighbours S bc, k.length = d) ∧
    (∀ k ∈ neighbours S bc, negPos k ∈ neighbours S bc) ∧
    (∀ A : Img Int, A.shape.length = d → SymNb A (neighbours S bc)) ∧
    (∀ k, k ∈ neighbours S bc ↔ (k, (1 : Int)) ∈ C01.support S bc true ∧ isZeroPos k = false) := by
  have hr := h.regular
  refine ⟨starShaped_family hr, neighbours_length_regular hr, neighbours_neg hr, symNb_family hr, fun k => ?_⟩
  rw [mem_neighbours]
  constructor
  · rintro ⟨⟨kh, hkh, rfl⟩, hz⟩
    have : kh = (kh.1, 1) := Prod.ext rfl (hr.ones kh hkh)
    rw [← this]; exact ⟨hkh, hz⟩
  · rintro ⟨hk, hz⟩; exact ⟨⟨(k, 1), hk, rfl⟩, hz⟩

/-- **local extrema with any cross / box / disk = their definition**, with no hypothesis on the
neighbourhood: for every image of every rank and shape, every pixel `p` inside it and the neighbourhood of any
`crossElem`, `diskElem` (every radius) or all-ones odd box of the rank of the image, the model of
`locmin_max` marks `p` exactly when no neighbour inside the image exceeds / undercuts it; consequently the
whole output array of the model is the specification's (the two lists the driver prints). -/
theorem C14_locmax_eq_spec_cross_box_disk (isMin : Bool) (A : Img Int) (S : List Nat) (bc : Array Int)
    (hfam : C01.CrossBoxDisk A.shape.length S bc) :
    (∀ p, inside A.shape p = true →
      locAt isMin A (neighbours S bc) p = locSpecAt isMin A (neighbours S bc) p) ∧
    (locModel isMin A (neighbours S bc)).toList =
      (allPos A.shape).map (locSpecAt isMin A (neighbours S bc)) := by
  have hr := hfam.regular
  exact ⟨fun p hp => locAt_eq_spec isMin A _ p hp (neighbours_length_regular hr) (starShaped_family hr),
    locModel_eq_spec isMin A _ (neighbours_length_regular hr) (starShaped_family hr)⟩

/-- **regional extrema with any cross / box / disk = plateaus without a strictly better neighbour**, with no
hypothesis on the neighbourhood: for every image of every rank and shape, every pixel `q` inside it and the
neighbourhood of any `crossElem`, `diskElem` (every radius) or all-ones odd box of the rank of the image, the
model of `regmax`/`regmin` marks `q` exactly when every pixel of the plateau of `q` has no strictly better
neighbour inside the image (`Regional`). -/
theorem C14_regional_eq_spec_cross_box_disk (isMin : Bool) (A : Img Int) (S : List Nat) (bc : Array Int)
    (hfam : C01.CrossBoxDisk A.shape.length S bc) (q : List Int) (hq : inside A.shape q = true) :
    (regModel isMin A (neighbours S bc)).getD (ravelI A.shape q) false = true ↔
      Regional isMin A (neighbours S bc) q :=
  C14_regional_eq_spec isMin A _ (symNb_family hfam.regular A rfl) (starShaped_family hfam.regular) q hq

/-! non-vacuity: the 3-D cross of radius 2 (18 neighbours), the radius-2 disk (8 neighbours) and
    the 5×3 box (14 neighbours) are instances; the corollaries apply to the 2×3 image with a plateau
    touching the border used above, with no further hypothesis on the neighbourhood. -/
example : StarShaped (neighbours [3, 3, 3] (C01.crossElem 3 2)) ∧
    (neighbours [3, 3, 3] (C01.crossElem 3 2)).length = 18 :=
  ⟨(C14_cross_box_star_sym 3 _ _ (Or.inl ⟨2, rfl, rfl⟩)).1, by decide +kernel⟩
example : StarShaped (neighbours [5, 5] (C01.diskElem 2 2)) ∧
    (neighbours [5, 5] (C01.diskElem 2 2)).length = 8 :=
  ⟨(C14_cross_box_star_sym 2 _ _ (Or.inr (Or.inl ⟨2, rfl, rfl⟩))).1, by decide +kernel⟩
example : SymNb { shape := [2, 3], data := #[2, 2, 1, 0, 1, 2] } (neighbours [5, 3] (Array.replicate 15 1)) ∧
    (neighbours [5, 3] (Array.replicate 15 1)).length = 14 :=
  ⟨(C14_cross_box_star_sym 2 _ _ (Or.inr (Or.inr ⟨rfl, by decide +kernel, by decide +kernel⟩))).2.2.2.1 _ rfl, by decide +kernel⟩

example :
    let A : Img Int := { shape := [2, 3], data := #[2, 2, 1, 0, 1, 2] }
    (locModel false A (neighbours [3, 3] (C01.crossElem 2 1))).toList =
      (allPos A.shape).map (locSpecAt false A (neighbours [3, 3] (C01.crossElem 2 1))) ∧
    ((regModel false A (neighbours [3, 3] (C01.crossElem 2 1))).getD (ravelI A.shape [0, 1]) false = true ↔
      Regional false A (neighbours [3, 3] (C01.crossElem 2 1)) [0, 1]) ∧
    (regModel false A (neighbours [3, 3] (C01.crossElem 2 1))).toList = [true, true, false, false, false, true] := by
  intro A
  exact ⟨(C14_locmax_eq_spec_cross_box_disk false A [3, 3] (C01.crossElem 2 1) (Or.inl ⟨1, rfl, rfl⟩)).2,
    C14_regional_eq_spec_cross_box_disk false A [3, 3] (C01.crossElem 2 1) (Or.inl ⟨1, rfl, rfl⟩) [0, 1]
      (by decide +kernel), by decide +kernel⟩

/-- **`hitmiss` in closed form for every template shape** (odd sides, even sides, templates larger than
the image; all sides positive, any rank ≥ 1, template of the rank of the image): the model of the kernel — the `slack` border skipping and the conjunction over
the entries different from 2 — is 1 at `p` exactly when (a) the whole template lies inside the image when
centred at `p` (centre `⌊b/2⌋` on every axis), (b) `p` is not skipped by the even-side rule
`hmEvenExcluded`: on an axis with an even side `b`, the **last** axis evaluates every fitting position unless
the image side equals `b` (then none), every **other** axis rejects the last fitting position `n − b/2`,
and (c) every 0/1 entry equals the pixel under it. This is `hitmissClosedAt`, which the driver prints next to
the model. -/
theorem C14_hitmiss_even_closed_form (A : Img Int) (bshape : List Nat) (bc : Array Int) (p : List Int)
    (hpos : ∀ b ∈ bshape, 0 < b) (hne : A.shape ≠ [])
    (hl1 : bshape.length = A.shape.length) (hl2 : p.length = A.shape.length) :
    hitmissAt A bshape (hmEntries bshape bc) p = hitmissClosedAt A bshape bc p := by
  rw [hitmissAt_entries, hmEvaluated_closed A.shape bshape p hpos hne hl1 hl2]
  rfl

/-- the closed form is the property's definition when every template side is odd (nothing is skipped). -/
theorem C14_hitmiss_closed_form_odd (A : Img Int) (bshape : List Nat) (bc : Array Int) (p : List Int)
    (hodd : ∀ b ∈ bshape, b % 2 = 1) : hitmissClosedAt A bshape bc p = hitmissSpecAt A bshape bc p := by
  unfold hitmissClosedAt hitmissSpecAt
  rw [hmEvenExcluded_odd A.shape bshape p hodd]; simp

/-- **a template that does not fit gives the all-zero answer.** If on some axis `i` the template side exceeds
the image side — or equals it and is even — then the model of `hitmiss` is 0 at **every** position, whatever
the entries and the order in which they are tested (no hypothesis on ranks or on `p`). -/
theorem C14_hitmiss_template_larger_is_false (A : Img Int) (bshape : List Nat) (es : List (List Int × Int))
    (p : List Int) (i : Nat) (hi : i < A.shape.length)
    (h : A.shape.getD i 0 < bshape.getD i 0 ∨
         (A.shape.getD i 0 = bshape.getD i 0 ∧ bshape.getD i 0 % 2 = 0)) :
    hitmissAt A bshape es p = 0 := by
  unfold hitmissAt
  rw [hmEvaluated_false_of_small A.shape bshape p i hi (by omega)]; rfl

/-- **`_remove_centre` and the C++ centre skipping, as the driver runs them.** `locModelRaw` / `regModelRaw`
take the structuring element **as given**: `removeCentre` clears the entry at `tuple(s//2)` (Python), the
local pass runs over the compressed footprint `rawOffsets` of what is left, the removal pass over the C++
`neighbours(Bc)`. They equal the models on the neighbour list `neighbours S bc` that all other theorems of
this file talk about — so those theorems are about what the driver runs. -/
theorem C14_remove_centre_model (isMin : Bool) (A : Img Int) (S : List Nat) (bc : Array Int) :
    rawOffsets S (removeCentre S bc) = neighbours S bc ∧
    neighbours S (removeCentre S bc) = neighbours S bc ∧
    locModelRaw isMin A S bc = locModel isMin A (neighbours S bc) ∧
    regModelRaw isMin A S bc = regModel isMin A (neighbours S bc) :=
  ⟨rawOffsets_removeCentre S bc, neighbours_removeCentre S bc, locModelRaw_eq isMin A S bc,
    regModelRaw_eq isMin A S bc⟩

/-- **the centre entry of `Bc` is irrelevant.** For every image, every structuring element of every shape
(even sides and `1`-sides included) and **every** value `v` written at the centre entry
`Bc[tuple(s//2 for s in Bc.shape)]`: the models of `locmax`/`locmin` and of `regmax`/`regmin` on the element
as given return the same array, and so does the neighbour list `close_holes` floods with. -/
theorem C14_remove_centre_irrelevant (isMin : Bool) (A : Img Int) (S : List Nat) (bc : Array Int) (v : Int) :
    locModelRaw isMin A S (bc.setIfInBounds (ravelI S (centreOf S)) v) = locModelRaw isMin A S bc ∧
    regModelRaw isMin A S (bc.setIfInBounds (ravelI S (centreOf S)) v) = regModelRaw isMin A S bc ∧
    closeHoles A (neighbours S (bc.setIfInBounds (ravelI S (centreOf S)) v)) = closeHoles A (neighbours S bc) := by
  rw [locModelRaw_eq, locModelRaw_eq, regModelRaw_eq, regModelRaw_eq, neighbours_setCentre]
  exact ⟨rfl, rfl, rfl⟩

/-- **the Python `_remove_centre` is itself unobservable**: had the centre been left set, the kernel would
read the pixel itself through the zero offset, and a pixel does not beat itself. For every pixel inside
the image and every element of the rank of the image, the local pass over the *uncleared* footprint
answers as over the neighbour list. -/
theorem C14_remove_centre_unobservable (isMin : Bool) (A : Img Int) (S : List Nat) (bc : Array Int)
    (p : List Int) (hp : inside A.shape p = true) (hS : S.length = A.shape.length) :
    locAt isMin A (rawOffsets S bc) p = locAt isMin A (neighbours S bc) p := by
  unfold locAt
  rw [neighbours_eq_filter, List.all_filter]
  refine all_congr_mem _ _ _ fun k hk => ?_
  cases hz : isZeroPos k
  · rfl
  · -- the zero offset reads the pixel itself
    rw [C01.addPos_zero p k hz (by rw [rawOffsets_length S bc k hk, hS, C01.inside_length hp]),
      C01.readNearest_eq A _ (C01.inside_dims_pos A.shape p hp), C01.clampPos_of_inside _ _ hp, beats_irrefl]
    rfl

/-- **local extrema with an all-ones box of arbitrary sides (even sides included) = their definition.**
A box with an even side is not symmetric (its centre `⌊b/2⌋` is off-centre) but it is coordinate-wise
star-shaped; hence for every rank, every image, every all-ones box of the rank of the image — sides 1, 2, 3,
4, … in any combination — the model of `locmax`/`locmin` on the element as given marks exactly the pixels
that no neighbour inside the image exceeds / undercuts, pixel by pixel and as whole output arrays (the two
lists the driver prints). -/
theorem C14_locmax_eq_spec_any_box (isMin : Bool) (A : Img Int) (S : List Nat) (bc : Array Int)
    (hrank : S.length = A.shape.length) (hones : ∀ i, i < shapeSize S → bc.getD i 0 = 1) :
    StarShaped (neighbours S bc) ∧
    (∀ p, inside A.shape p = true →
      locAt isMin A (neighbours S bc) p = locSpecAt isMin A (neighbours S bc) p) ∧
    (locModelRaw isMin A S bc).toList = (allPos A.shape).map (locSpecAt isMin A (neighbours S bc)) := by
  have hstar := starShaped_box S bc hones
  have hlen : ∀ k ∈ neighbours S bc, k.length = A.shape.length :=
    fun k hk => (neighbours_length S bc k hk).trans hrank
  rw [locModelRaw_eq]
  exact ⟨hstar, fun p hp => locAt_eq_spec isMin A _ p hp hlen hstar, locModel_eq_spec isMin A _ hlen hstar⟩

/-- **arbitrary (irregular) neighbourhoods: what `locmax`/`locmin` compute.** For every non-empty image and
**every** list of offsets — not star-shaped, not symmetric, of any size — the model of `locmin_max`
(neighbours read through `fix_offset(ExtendNearest)`) marks `p` exactly when no value at a neighbour
position *clamped onto the image coordinate by coordinate* (`max 0 (min x (n−1))`) beats the pixel
(`locClampedSpecAt`, printed by the driver as `cspec`): the irregular cases of the correspondence are judged
against this specification. -/
theorem C14_locmax_clamped_spec (isMin : Bool) (A : Img Int) (nb : List (List Int)) (p : List Int)
    (hs : ∀ d ∈ A.shape, 0 < d) : locAt isMin A nb p = locClampedSpecAt isMin A nb p := by
  unfold locAt locClampedSpecAt
  apply List.all_congr rfl
  intro k
  rw [C01.readNearest_eq A _ hs]

/-- **the executable specification `regSpec` = `Regional`.** The driver prints, next to the model of
`regmax`/`regmin`, the array `regSpec`: start from the pixels with a strictly better neighbour inside the
image and repeat `size` times "a pixel is rejected when an equal-valued neighbour (either direction) is
rejected". For every image of every rank and shape and every symmetric neighbourhood: (1) `size` rounds
always reach the fixed point — one more round changes nothing (`regSpecFixed`, which the driver also evaluates
and prints as `fix=1`): the rounds only ever set flags, a round that changes the array sets at least one more
of its `size` flags; (2) the accepted pixels are exactly the regional ones (`Regional`: every pixel of the
plateau has no strictly better neighbour inside the image). Together with `C14_regional_eq_spec` the two arrays
the driver prints for `reg` are equal for symmetric star-shaped neighbourhoods — by two different algorithms
(stack flood vs. fixed-point iteration). -/
theorem C14_regspec_eq_regional (isMin : Bool) (A : Img Int) (nb : List (List Int)) (hn : SymNb A nb) :
    regSpecFixed isMin A nb = true ∧
    ∀ q, inside A.shape q = true →
      ((regSpec isMin A nb).getD (ravelI A.shape q) false = true ↔ Regional isMin A nb q) :=
  ⟨regSpecFixed_always isMin, fun q hq => regSpec_iff hn q hq⟩

/-- **plateaus of global extrema are marked, wherever they lie** (specialising `C14_regional_eq_spec`): for
every cross / disk / odd box of the rank of the image and every pixel `q` inside the image whose value no
pixel of the image exceeds (`regmax`) / undercuts (`regmin`), the model of `regmax`/`regmin` on the element as
given marks `q` — in particular plateaus touching the border or a corner, several tied plateaus of the
maximal value, and every pixel of a constant image. -/
theorem C14_regmax_marks_global_extrema (isMin : Bool) (A : Img Int) (S : List Nat) (bc : Array Int)
    (hfam : C01.CrossBoxDisk A.shape.length S bc) (q : List Int) (hq : inside A.shape q = true)
    (hg : ∀ r, inside A.shape r = true → beats isMin (A.getD r 0) (A.getD q 0) = false) :
    (regModelRaw isMin A S bc).getD (ravelI A.shape q) false = true := by
  rw [regModelRaw_eq]
  exact (C14_regional_eq_spec_cross_box_disk isMin A S bc hfam q hq).mpr (regional_of_global q hg)


/-- 2×2 template on a 3×3 image: the template fits at rows/columns 1..2; the first axis rejects row 2 (the
    last fitting position), the last axis keeps both columns → positions (1,1), (1,2) are evaluated. -/
example :
    let A : Img Int := { shape := [3, 3], data := #[1, 1, 1, 1, 1, 1, 1, 1, 1] }
    (allPos A.shape).map (hitmissAt A [2, 2] (hmEntries [2, 2] #[1, 1, 1, 1])) = [0, 0, 0, 0, 1, 1, 0, 0, 0] ∧
    (allPos A.shape).map (hitmissClosedAt A [2, 2] #[1, 1, 1, 1]) = [0, 0, 0, 0, 1, 1, 0, 0, 0] ∧
    (allPos A.shape).map (hitmissSpecAt A [2, 2] #[1, 1, 1, 1]) = [0, 0, 0, 0, 1, 1, 0, 1, 1] := by decide +kernel

/-- a 1×4 template on a 2×3 image (larger on the last axis), a 2-template on a 2-image (even, equal) -/
example : hitmissAt { shape := [2, 3], data := #[1, 1, 1, 1, 1, 1] } [1, 4] [] [0, 1] = 0 :=
  C14_hitmiss_template_larger_is_false _ _ _ _ 1 (by decide +kernel) (Or.inl (by decide +kernel))
example : hitmissAt { shape := [2], data := #[1, 1] } [2] [] [1] = 0 :=
  C14_hitmiss_template_larger_is_false _ _ _ _ 0 (by decide +kernel) (Or.inr (by decide +kernel))

/-- centre set / cleared: same neighbour list; 2×2 all-ones box (even sides): neighbours
    (-1,-1), (-1,0), (0,-1), not symmetric -/
example : neighbours [3] #[1, 1, 1] = [[-1], [1]] ∧ rawOffsets [3] #[1, 1, 1] = [[-1], [0], [1]] ∧
    rawOffsets [3] (removeCentre [3] #[1, 1, 1]) = [[-1], [1]] ∧
    neighbours [2, 2] #[1, 1, 1, 1] = [[-1, -1], [-1, 0], [0, -1]] ∧
    symNbB 2 (neighbours [2, 2] #[1, 1, 1, 1]) = false := by decide +kernel

example :
    let A : Img Int := { shape := [2, 3], data := #[2, 2, 1, 0, 1, 2] }
    (locModelRaw false A [2, 2] #[1, 1, 1, 1]).toList = (allPos A.shape).map (locSpecAt false A (neighbours [2, 2] #[1, 1, 1, 1])) ∧
    (locModelRaw false A [2, 2] #[1, 1, 1, 1]).toList = [true, true, false, false, false, true] :=
  ⟨(C14_locmax_eq_spec_any_box false _ [2, 2] #[1, 1, 1, 1] rfl (by decide +kernel)).2.2, by decide +kernel⟩

/-- an irregular neighbourhood (offset (0,2) without (0,1)): model = clamped specification ≠ `locSpecAt` -/
example :
    let A : Img Int := { shape := [1, 3], data := #[0, 1, 5] }
    (allPos A.shape).map (locAt false A [[0, 2]]) = [false, false, true] ∧
    (allPos A.shape).map (locClampedSpecAt false A [[0, 2]]) = [false, false, true] ∧
    (allPos A.shape).map (locSpecAt false A [[0, 2]]) = [false, true, true] := by decide +kernel

/-- `regSpec` reaches its fixed point on the 2×3 example (its rejected set is the complement of the model's marks); the maximal plateau
    {(0,0),(0,1)} touches the border and is marked. -/
example :
    let A : Img Int := { shape := [2, 3], data := #[2, 2, 1, 0, 1, 2] }
    regSpecFixed false A (neighbours [3, 3] (C01.crossElem 2 1)) = true ∧
    (regSpecBad false A (neighbours [3, 3] (C01.crossElem 2 1))).toList = [false, false, true, true, true, false] ∧
    (regModelRaw false A [3, 3] (C01.crossElem 2 1)).getD (ravelI A.shape [0, 1]) false = true := by
  intro A
  refine ⟨regSpecFixed_always false, by decide +kernel, ?_⟩
  exact C14_regmax_marks_global_extrema false A [3, 3] (C01.crossElem 2 1) (Or.inl ⟨1, rfl, rfl⟩) [0, 1] (by decide +kernel)
    (by
      intro r hr
      have hall : ∀ r ∈ allPos A.shape, beats false (A.getD r 0) (A.getD [0, 1] 0) = false := by decide +kernel
      exact hall r ((C01.mem_allPos A.shape r).mpr hr))

/-- **the default / integer structuring elements** (`Bc=None`, `Bc=1`, `4`, `8`, `6`, any Python integer): the
driver obtains the element through C01's model of `get_structuring_elem` (the `translate_sizes` table
extracted from `morph.py`, the literal 3×3 cross, the cross loop). For every image of every rank, every dtype
the element is cast to and every integer `v` (or `None`): the element is the cross `crossElem d r` of radius
`r = seRadius d v` on `3 × … × 3` — a member of the cross/box/disk family — hence on it the model of
`locmax`/`locmin` prints the definition and the model of `regmax`/`regmin` marks exactly the regional plateaus,
with no hypothesis left about the neighbourhood. -/
theorem C14_extrema_default_elem (dt : DT) (isMin : Bool) (A : Img Int) (arg : C01.BcArg)
    (harg : arg = .none ∨ ∃ v : Int, arg = .int v) :
    ∃ S bc, C01.getStructuringElem dt A.shape.length arg = .ok (S, bc) ∧
      C01.CrossBoxDisk A.shape.length S bc ∧
      (locModelRaw isMin A S bc).toList = (allPos A.shape).map (locSpecAt isMin A (neighbours S bc)) ∧
      ∀ q, inside A.shape q = true →
        ((regModelRaw isMin A S bc).getD (ravelI A.shape q) false = true ↔ Regional isMin A (neighbours S bc) q) := by
  -- the element is a cross, whatever the argument
  obtain ⟨S, bc, hse, hfam⟩ : ∃ S bc, C01.getStructuringElem dt A.shape.length arg = .ok (S, bc) ∧
      C01.CrossBoxDisk A.shape.length S bc := by
    rcases harg with rfl | ⟨v, rfl⟩
    · exact ⟨_, _, C01.getSE_none dt _, Or.inl ⟨1, rfl, rfl⟩⟩
    · exact ⟨_, _, C01.getSE_int dt _ v, Or.inl ⟨_, rfl, rfl⟩⟩
  refine ⟨S, bc, hse, hfam, ?_, fun q hq => ?_⟩
  · rw [locModelRaw_eq]
    exact (C14_locmax_eq_spec_cross_box_disk isMin A S bc hfam).2
  · rw [regModelRaw_eq]
    exact C14_regional_eq_spec_cross_box_disk isMin A S bc hfam q hq

/-- `close_holes(ref)` with the default element and `regmax(f, 8)`: the elements the dispatch builds -/
example : C01.getStructuringElem dtBool 2 .none = .ok ([3, 3], #[0, 1, 0, 1, 1, 1, 0, 1, 0]) ∧
    C01.getStructuringElem (dtU 8) 2 (.int 8) = .ok ([3, 3], #[1, 1, 1, 1, 1, 1, 1, 1, 1]) ∧
    [256, 0, -1].map (C01.castTo (dtU 8)) = [0, 0, 255] :=
  ⟨by rfl, by rfl, by decide +kernel⟩

/-- **the executable specification `closeHolesSpec` = complement of `BorderConn`.** The driver prints, next to
the model of `close_holes` (border seeding + stack flood), the array `closeHolesSpec`: start from the background
pixels of the border and repeat `size` times "a background pixel is reached when a neighbour (either direction)
is reached"; the result is the complement. For every image of every rank and shape and every symmetric
neighbourhood: (1) `size` rounds reach the fixed point (a monotone iteration on `size` flags:
`iter_mono_fixed`), (2) the result is true at `q` exactly when `q` is not a background pixel connected to the
border, hence (3) with `C14_close_holes_eq_spec` the two arrays the driver prints for `holes` agree at every
pixel — by two different algorithms. -/
theorem C14_holesspec_eq_borderconn (ref : Img Int) (nb : List (List Int)) (hn : SymNb ref nb) :
    reachStep ref nb (reachFinal ref nb) = reachFinal ref nb ∧
    (∀ q, inside ref.shape q = true →
      ((closeHolesSpec ref nb).getD (ravelI ref.shape q) false = true ↔ ¬ BorderConn ref nb q)) ∧
    (ref.data.size = shapeSize ref.shape → ∀ q, inside ref.shape q = true →
      (closeHoles ref nb).getD (ravelI ref.shape q) false =
        (closeHolesSpec ref nb).getD (ravelI ref.shape q) false) :=
  ⟨reachFinal_fixed, fun q hq => closeHolesSpec_iff hn q hq, fun hwf q hq =>
    Bool.eq_iff_iff.mpr ((closeHoles_spec ref nb hwf q hq).trans (closeHolesSpec_iff hn q hq).symm)⟩

/-- a 3×3 ring with the 3×3 cross: symmetric neighbourhood, the hole is closed by the specification as well -/
example :
    let A : Img Int := { shape := [3, 3], data := #[1, 1, 1, 1, 0, 1, 1, 1, 1] }
    SymNb A (neighbours [3, 3] #[0, 1, 0, 1, 1, 1, 0, 1, 0]) ∧
    (reachFinal A (neighbours [3, 3] #[0, 1, 0, 1, 1, 1, 0, 1, 0])).toList = List.replicate 9 false :=
  ⟨⟨by decide +kernel, by decide +kernel⟩, by decide +kernel⟩

/-- **the two lists the driver prints for `hitmiss` are equal** for every image of rank ≥ 1 and every template
of that rank with positive sides (odd, even, larger than the image): the model's output array (`model=`) is the
closed form's (`closed=`), position by position over the whole image. -/
theorem C14_hitmiss_closed_form_arrays (A : Img Int) (bshape : List Nat) (bc : Array Int)
    (hpos : ∀ b ∈ bshape, 0 < b) (hne : A.shape ≠ []) (hl1 : bshape.length = A.shape.length) :
    (allPos A.shape).map (hitmissAt A bshape (hmEntries bshape bc)) =
      (allPos A.shape).map (hitmissClosedAt A bshape bc) :=
  List.map_congr_left fun p hp =>
    C14_hitmiss_even_closed_form A bshape bc p hpos hne hl1
      (C01.inside_length ((C01.mem_allPos A.shape p).mp hp))

/-- **`hitmiss` never reads outside the image** — for every template shape, even sides and oversized templates
included: at every position the `slack` rule evaluates (`hmEvaluated`), each of the entries tested
(`hmEntries`: offset `k − ⌊b/2⌋` of every template entry different from 2) lies over a pixel inside the image, so
the flat reads `input.at_flat(i + delta)` of the kernel stay within the buffer; everywhere else the kernel
writes 0 without reading. -/
theorem C14_hitmiss_reads_inside (A : Img Int) (bshape : List Nat) (bc : Array Int) (p : List Int)
    (hpos : ∀ b ∈ bshape, 0 < b) (hne : A.shape ≠ [])
    (hl1 : bshape.length = A.shape.length) (hl2 : p.length = A.shape.length)
    (hev : hmEvaluated A.shape bshape p = true) :
    ∀ e ∈ hmEntries bshape bc, inside A.shape (addPos p e.1) = true := by
  intro e he
  rw [hmEvaluated_closed A.shape bshape p hpos hne hl1 hl2, Bool.and_eq_true] at hev
  rw [hmEntries_eq_map] at he
  obtain ⟨i, hi, rfl⟩ := List.mem_map.mp he
  exact templateInside_reads A.shape bshape p _ hl1 hl2 hev.1
    (C01.inside_unravelI bshape i (List.mem_range.mp (List.mem_filter.mp hi).1))

/-- a 2×2 template on a 3×3 image is evaluated at (1,1) and (1,2) only; all four reads are inside there -/
example : hmEvaluated [3, 3] [2, 2] [1, 2] = true ∧ hmEvaluated [3, 3] [2, 2] [2, 2] = false ∧
    (hmEntries [2, 2] #[1, 1, 1, 1]).map (fun e => addPos [1, 2] e.1) = [[0, 1], [0, 2], [1, 1], [1, 2]] := by
  decide +kernel

/-- **only the order of the pixel values matters** — the soundness of the harness's float embedding. For every
strictly increasing re-labelling `f` of the values, every image (`data` of the size of the shape), and every
neighbourhood whose offsets have the rank of the image: the models of `locmax`/`locmin` and of `regmax`/`regmin`
return the same arrays on the re-labelled image `mapImg f A` as on `A` (the kernels only ever compare two pixel
values with `<`, `>`, `<=`, `>=`). Hence feeding a float image through the order isomorphism
`x ↦ sign(x)·bits(|x|)` (NaN excluded) or through any other order-preserving integer labelling gives the same
model output, and the result for integer images does not depend on the dtype's value range. -/
theorem C14_order_embedding_invariant (f : Int → Int) (hf : ∀ a b : Int, a < b → f a < f b) (isMin : Bool)
    (A : Img Int) (hwf : A.data.size = shapeSize A.shape) (nb : List (List Int))
    (hlen : ∀ k ∈ nb, k.length = A.shape.length) :
    locModel isMin (mapImg f A) nb = locModel isMin A nb ∧
    regModel isMin (mapImg f A) nb = regModel isMin A nb :=
  ⟨locModel_mapImg f hf isMin A hwf nb hlen, regModel_mapImg f hf isMin A hwf nb hlen⟩

/-- re-labelling 0,1,2 as −7, 40, 41 keeps the regional maxima of the 2×3 example -/
example :
    let A : Img Int := { shape := [2, 3], data := #[2, 2, 1, 0, 1, 2] }
    let B : Img Int := { shape := [2, 3], data := #[41, 41, 40, -7, 40, 41] }
    (regModel false B (neighbours [3, 3] (C01.crossElem 2 1))).toList =
      (regModel false A (neighbours [3, 3] (C01.crossElem 2 1))).toList := by decide +kernel

/-- **the two arrays the driver prints for `reg` agree** (`model=` from the scan + stack flood of
`remove_fake_regmin_max`, `spec=` from the fixed-point iteration): for every image of every rank and shape, every
cross / disk / odd box of that rank (as given, centre set or not) and every pixel inside the image, the model of
`regmax`/`regmin` and the executable specification `regSpec` give the same flag. -/
theorem C14_reg_model_eq_regspec (isMin : Bool) (A : Img Int) (S : List Nat) (bc : Array Int)
    (hfam : C01.CrossBoxDisk A.shape.length S bc) (q : List Int) (hq : inside A.shape q = true) :
    (regModelRaw isMin A S bc).getD (ravelI A.shape q) false =
      (regSpec isMin A (neighbours S bc)).getD (ravelI A.shape q) false := by
  rw [regModelRaw_eq]
  exact Bool.eq_iff_iff.mpr ((C14_regional_eq_spec_cross_box_disk isMin A S bc hfam q hq).trans
    ((C14_regspec_eq_regional isMin A (neighbours S bc) (symNb_family hfam.regular A rfl)).2 q hq).symm)

/-- the `slack` loop of `hitmiss` and its closed form, on a table of small shapes. `hmLoop` transliterates the main
loop of `hitmiss<T>` as far as *which flat indices are evaluated* goes; `hmEvaluated` — the definition every other
`hitmiss` theorem is about — is its closed form. The entries are instances of `hmLoopOk_of_last_pos`
(`Proofs/C14HitmissLoop.lean`): every shape of rank ≥ 1, every template of that rank whose last side is positive.
The driver re-checks the agreement (`loopok=`) on every `hitmiss` line of the correspondence. -/
theorem C14_hitmiss_loop_table_partial :
    (∀ n ∈ List.range 10, ∀ b ∈ List.range 7, hmLoopOk [n + 1] [b + 1] = true) ∧
    (∀ h ∈ List.range 5, ∀ w ∈ List.range 5, ∀ a ∈ List.range 5, ∀ b ∈ List.range 5,
      hmLoopOk [h + 1, w + 1] [a + 1, b + 1] = true) ∧
    (∀ d ∈ List.range 3, ∀ h ∈ List.range 3, ∀ w ∈ List.range 4, ∀ c ∈ List.range 3, ∀ a ∈ List.range 4,
      ∀ b ∈ List.range 4, hmLoopOk [d + 1, h + 1, w + 1] [c + 1, a + 1, b + 1] = true) :=
  ⟨fun _ _ _ _ => hmLoopOk_all _ _ (List.cons_ne_nil _ _) rfl (by simp),
    fun _ _ _ _ _ _ _ _ => hmLoopOk_all _ _ (List.cons_ne_nil _ _) rfl (by simp),
    fun _ _ _ _ _ _ _ _ _ _ _ _ => hmLoopOk_all _ _ (List.cons_ne_nil _ _) rfl (by simp)⟩

/-- the loop on a 3×3 image with a 2×2 template: rows 0 and 2 are zeroed as whole rows, in row 1 column 0 is
    zeroed, then `slack = 2` positions are evaluated -/
example : hmLoopFlags [3, 3] [2, 2] = [false, false, false, false, true, true, false, false, false] := by decide +kernel
