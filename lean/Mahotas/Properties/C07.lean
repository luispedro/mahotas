/-
C07 — property theorems about the rank, median, mean, template-match and majority filters.
All definitions are those of `Model/C07.lean`, which the driver runs.
-/
import Mahotas.Proofs.C07
import Mahotas.Proofs.C07Order
import Mahotas.Proofs.C07Morph
import Mahotas.Proofs.C07Wrap
import Mahotas.Proofs.C05Binary64
import Mahotas.Proofs.C07Float
import Mahotas.Proofs.C07FloatBound
import Mahotas.Proofs.C07Majority
import Mahotas.Properties.C01
import Mathlib.Algebra.Order.Field.Basic
import Mathlib.Algebra.Order.Field.Rat
import Mathlib.Data.Rat.Cast.Order
import Mahotas.Proofs.Modes
open Mahotas Mahotas.C07

/-- **C07-T1 (rank filter = element of the sorted samples).** For every border mode, image of any
rank/shape with positive axis lengths, neighbourhood and rank inside `[0, N2)`, the model of
`rank_filter<T>` returns the element at index `currank` of the sorted list of the samples that the
*mathematical* border rule selects (constant: 0 for out-of-image samples; ignore: dropped), where
`currank = rank` when every sample is present and `⌊n·rank/N2⌋` otherwise. -/
theorem C07_rank_eq_sorted (m : Mode) (f : Img Int) (hs : ∀ d ∈ f.shape, 0 < d) (fp : List (List Int))
    (rank : Int) (p : List Int) (h0 : 0 ≤ rank) (h1 : rank < fp.length) :
    rankAt m f fp rank p =
      ((specSamples m f fp p).mergeSort leB)[curRank (specSamples m f fp p).length fp.length rank.toNat]? := by
  rw [rankAt_inRange m f fp rank p h0 h1, gather_eq_specSamples m f hs]
  rfl

/-- **C07-T1' (model = executable specification)**: the model of `rank_filter` agrees with the
specification "first sample that has at most `k` smaller and more than `k` smaller-or-equal samples"
at every pixel, for every rank (also outside the range, where both are undefined). -/
theorem C07_rank_eq_spec (m : Mode) (f : Img Int) (hs : ∀ d ∈ f.shape, 0 < d) (fp : List (List Int))
    (rank : Int) (p : List Int) : rankAt m f fp rank p = rankSpecAt m f fp rank p := by
  unfold rankAt rankSpecAt
  rw [gather_eq_specSamples m f hs]
  simp only [kthSmallest_eq_nthElement]

/-- **C07-T1'' (the output is the k-th smallest sample).** With a rank inside `[0, N2)` and at least
one selected sample, the output exists, is one of the samples, has at most `k` strictly smaller and
more than `k` smaller-or-equal samples (`k` = the rescaled rank), and is the only value with this
property. -/
theorem C07_rank_is_kth_smallest (m : Mode) (f : Img Int) (hs : ∀ d ∈ f.shape, 0 < d)
    (fp : List (List Int)) (rank : Int) (p : List Int) (h0 : 0 ≤ rank) (h1 : rank < fp.length)
    (hne : specSamples m f fp p ≠ []) :
    ∃ v, rankAt m f fp rank p = some v ∧
      IsKthSmallest (specSamples m f fp p) (curRank (specSamples m f fp p).length fp.length rank.toNat) v ∧
      ∀ v', IsKthSmallest (specSamples m f fp p)
        (curRank (specSamples m f fp p).length fp.length rank.toNat) v' → v' = v := by
  rw [← gather_eq_specSamples m f hs] at hne ⊢
  obtain ⟨v, hv⟩ := rankAt_isSome m f fp rank p h0 h1 hne
  have hkth := ((rankAt_eq_some_iff m f fp rank p v).1 hv).2
  exact ⟨v, hv, hkth, fun v' h' => isKth_unique _ _ _ _ h' hkth⟩

/-- **C07-T2a (median).** When an odd number `2r+1` of samples is present, the value of rank `r`
(the rank `Bc.sum()//2` that `median_filter` passes for a 0/1 neighbourhood of `2r+1` members) has at
most `r` samples below it and at most `r` samples above it. -/
theorem C07_median_balanced (xs : List Int) (r : Nat) (v : Int) (hlen : xs.length = 2 * r + 1)
    (h : IsKthSmallest xs r v) :
    xs.countP (fun x => decide (x < v)) ≤ r ∧ xs.countP (fun x => decide (v < x)) ≤ r := by
  exact ⟨h.2.1, by have := isKth_countP_gt xs _ v h; omega⟩

/-- **C07-T2b (mean).** The model of `mean_filter<T>` divides the exact sum of the samples selected by
the border rule by their number (constant: zeros are counted; ignore: dropped samples are not). -/
theorem C07_mean_exact (m : Mode) (f : Img Int) (hs : ∀ d ∈ f.shape, 0 < d) (fp : List (List Int))
    (p : List Int) : meanParts m f fp p = meanSpecParts m f fp p := by
  rw [meanParts_eq, gather_eq_specSamples m f hs]
  rfl

/-- **C07-T3 (template_match = sum of squared differences).** At every pixel the model of
`template_match<T>` (absolute difference, squared, accumulated over every template entry, samples
through `fix_offset`) equals `Σ_j (f[border(p + j − c)] − t[j])²` over the samples the border rule
provides (none for out-of-image positions in constant/ignore), in exact integer arithmetic. -/
theorem C07_template_match_ssd (m : Mode) (f : Img Int) (hs : ∀ d ∈ f.shape, 0 < d) (tshape : List Nat)
    (t : Array Int) (p : List Int) : tmAt m f tshape t p = tmSpecAt m f tshape t p := by
  exact (tm_fold m f hs tshape t p _ 0).trans (Int.zero_add _)

/-- **C07-T4 (find).** `find2d` marks `(y, x)` iff the template fits with its top-left corner at
`(y, x)` and equals the image there, for every image position `(y, x)` — including `y = N0 − Nt0`, `x = N1 − Nt1` (flush with the
bottom/right edge) and the template equal to the whole image. -/
theorem C07_find_iff (f t : Img Int) (N0 N1 Nt0 Nt1 : Nat) (hf : f.shape = [N0, N1])
    (ht : t.shape = [Nt0, Nt1]) (y x : Nat) (hy : y < N0) (hx : x < N1) :
    (y, x) ∈ findMarks f t ↔ OccursAt f t y x := by
  unfold findMarks OccursAt
  rw [hf, ht]
  simp only [List.mem_flatMap, List.mem_map, List.mem_filter, mem_takeWhile_range, Prod.mk.injEq,
    matchesAt_iff f t Nt0 Nt1 ht]
  constructor
  · rintro ⟨y', ⟨_, hy2⟩, x', ⟨⟨_, hx2⟩, hmm⟩, rfl, rfl⟩
    exact ⟨N0, N1, Nt0, Nt1, rfl, rfl, hy2, hx2, hmm⟩
  · rintro ⟨a, b, c, d, hab, hcd, hy', hx', hall⟩
    simp only [List.cons.injEq, and_true] at hab hcd
    obtain ⟨rfl, rfl⟩ := hab
    obtain ⟨rfl, rfl⟩ := hcd
    exact ⟨y, ⟨hy, hy'⟩, x, ⟨⟨hx, hx'⟩, hall⟩, rfl, rfl⟩

/-- template equal to the whole image: the single match `(0,0)` is reported; a template in the last
    row / last column is reported at its flush position -/
example :
    let f : Img Int := { shape := [2, 3], data := #[1, 2, 3, 4, 5, 6] }
    findMarks f f = [(0, 0)] ∧
    findMarks f { shape := [1, 2], data := #[5, 6] } = [(1, 1)] ∧
    findMarks f { shape := [2, 1], data := #[3, 6] } = [(0, 2)] := by
  decide +kernel

/-- rank filter in ignore mode at a corner pixel: 3 of 5 cross samples present, rank 2 of 5 rescales
    to ⌊3·2/5⌋ = 1; template match and mean on the same image -/
example :
    let f : Img Int := { shape := [2, 2], data := #[7, 1, 5, 3] }
    let fp := footprint [3, 3] #[0, 1, 0, 1, 1, 1, 0, 1, 0]
    (∀ d ∈ f.shape, 0 < d) ∧ fp.length = 5 ∧
    specSamples .ignore f fp [0, 0] = [7, 1, 5] ∧ rankSpecAt .ignore f fp 2 [0, 0] = some 5 ∧
    meanParts .ignore f fp [0, 0] = (13, 3) ∧
    tmAt .nearest f [1, 2] #[1, 5] [0, 0] = 40 := by
  decide +kernel

example : rankAt .ignore { shape := [2, 2], data := #[7, 1, 5, 3] }
    (footprint [3, 3] #[0, 1, 0, 1, 1, 1, 0, 1, 0]) 2 [0, 0] = some 5 := by
  rw [C07_rank_eq_spec _ _ (by decide)]
  decide +kernel

/-- **C07-R1 (the rank `median_filter` passes is the middle one).** For a neighbourhood `Bc` whose
entries are 0 or 1 (one entry per position of its shape) the rank `Bc.sum() // 2` computed by
`median_filter` is `⌊n/2⌋`, `n` = the number of members of the neighbourhood as the filter iterator
counts them (`N2`): the middle sample for odd `n`, the upper of the two middle samples for even `n`;
it lies in `[0, n)` as soon as the neighbourhood has a member, so `rank_filter` accepts it. -/
theorem C07_median_rank_is_middle (bshape : List Nat) (bc : Array Int) (hsz : bc.size = shapeSize bshape)
    (h01 : ∀ x ∈ bc.toList, x = 0 ∨ x = 1) :
    medianRank bc = (((footprint bshape bc).length / 2 : Nat) : Int) ∧
    (0 < (footprint bshape bc).length →
      0 ≤ medianRank bc ∧ medianRank bc < ((footprint bshape bc).length : Int)) := by
  have h : medianRank bc = (((footprint bshape bc).length / 2 : Nat) : Int) := by
    unfold medianRank
    rw [foldl_add_01 _ h01, footprint_length bshape bc hsz]
    omega
  exact ⟨h, fun hpos => by rw [h]; omega⟩

/-- **C07-R1' (rank `⌊n/2⌋` is the upper median).** Among `n ≥ 1` samples the value of rank `⌊n/2⌋`
has at most `⌊n/2⌋` samples strictly below it and at most `⌊(n−1)/2⌋` strictly above it (for odd `n`
both bounds are `(n−1)/2`: the median; for even `n` it is the upper of the two middle values). -/
theorem C07_median_is_upper_median (xs : List Int) (v : Int) (h : IsKthSmallest xs (xs.length / 2) v) :
    xs.countP (fun x => decide (x < v)) ≤ xs.length / 2 ∧
    xs.countP (fun x => decide (v < x)) ≤ (xs.length - 1) / 2 := by
  exact ⟨h.2.1, by have := isKth_countP_gt xs _ v h; omega⟩

/-- **C07-R2 (monotone in the rank).** At every pixel, in every border mode (including `ignore`, where
the rank is rescaled to `⌊n·rank/N2⌋`), the output of `rank_filter` for a rank `r` is not larger than
its output for any rank `r' ≥ r` (in particular `r' = r + 1`), whenever both are defined. -/
theorem C07_rank_monotone (m : Mode) (f : Img Int) (fp : List (List Int)) (r r' : Int) (p : List Int)
    (a b : Int) (hr : r ≤ r') (ha : rankAt m f fp r p = some a) (hb : rankAt m f fp r' p = some b) :
    a ≤ b := by
  obtain ⟨⟨h0, _⟩, ha⟩ := (rankAt_eq_some_iff m f fp r p a).1 ha
  exact isKth_mono _ _ _ a b (curRank_mono _ _ _ _ (Int.toNat_le_toNat hr)) ha
    ((rankAt_eq_some_iff m f fp r' p b).1 hb).2

/-- **C07-R3 (extreme ranks).** When at least one sample is selected at pixel `p`, rank 0 yields the
minimum of the samples the border rule selects (a sample that is ≤ every sample — the flat grey
erosion over the neighbourhood) and the last rank `N2 − 1` yields their maximum (the flat grey
dilation over the reflected neighbourhood), in every mode; in `ignore` mode with `n < N2` samples the
last rank rescales to `⌊n(N2−1)/N2⌋ = n − 1`, still the last of the sorted samples. -/
theorem C07_rank_extremes (m : Mode) (f : Img Int) (hs : ∀ d ∈ f.shape, 0 < d) (fp : List (List Int))
    (p : List Int) (hne : specSamples m f fp p ≠ []) :
    (∃ lo, rankAt m f fp 0 p = some lo ∧ lo ∈ specSamples m f fp p ∧
      ∀ x ∈ specSamples m f fp p, lo ≤ x) ∧
    (∃ hi, rankAt m f fp ((fp.length : Int) - 1) p = some hi ∧ hi ∈ specSamples m f fp p ∧
      ∀ x ∈ specSamples m f fp p, x ≤ hi) := by
  rw [← gather_eq_specSamples m f hs] at hne ⊢
  have hN : 0 < fp.length := (List.length_pos_iff.2 hne).trans_le (gather_length_le m f fp p)
  obtain ⟨lo, hlo⟩ := rankAt_isSome m f fp 0 p le_rfl (by omega) hne
  obtain ⟨hi, hhi⟩ := rankAt_isSome m f fp ((fp.length : Int) - 1) p (by omega) (by omega) hne
  exact ⟨⟨lo, hlo, rankAt_zero_le m f fp p lo hlo⟩, ⟨hi, hhi, rankAt_last_ge m f fp p hi hhi⟩⟩

/-- **C07-R4 (the mean lies between the extreme ranks).** Wherever `rank_filter` defines a value `lo`
for rank 0 and a value `hi` for the last rank, `mean_filter` has `n ≥ 1` samples and its exact
quotient `sum / n` (which the code rounds once to double) satisfies `lo ≤ sum/n ≤ hi`; in integers,
`lo·n ≤ sum ≤ hi·n`. -/
theorem C07_mean_between_min_max (m : Mode) (f : Img Int) (fp : List (List Int)) (p : List Int)
    (lo hi : Int) (hlo : rankAt m f fp 0 p = some lo)
    (hhi : rankAt m f fp ((fp.length : Int) - 1) p = some hi) :
    0 < (meanParts m f fp p).2 ∧
    lo * ((meanParts m f fp p).2 : Int) ≤ (meanParts m f fp p).1 ∧
    (meanParts m f fp p).1 ≤ hi * ((meanParts m f fp p).2 : Int) ∧
    (lo : ℚ) ≤ ((meanParts m f fp p).1 : ℚ) / ((meanParts m f fp p).2 : ℚ) ∧
    ((meanParts m f fp p).1 : ℚ) / ((meanParts m f fp p).2 : ℚ) ≤ (hi : ℚ) := by
  obtain ⟨hmem, hlo⟩ := rankAt_zero_le m f fp p lo hlo
  have hn : 0 < (gather m f fp p).length := List.length_pos_of_mem hmem
  have hA := sum_ge_of_le _ lo hlo
  have hB := sum_le_of_le _ hi (rankAt_last_ge m f fp p hi hhi).2
  have hq : (0 : ℚ) < ((gather m f fp p).length : ℚ) := Nat.cast_pos.2 hn
  rw [meanParts_eq]
  refine ⟨hn, hA, hB, (le_div_iff₀ hq).2 ?_, (div_le_iff₀ hq).2 ?_⟩
  · exact_mod_cast hA
  · exact_mod_cast hB

/-- **C07-R3' (rank 0 in `nearest` mode = flat grey erosion of C01).** For a signed, non-boolean dtype
(`lo ≠ 0`, so that height 0 marks a member of a structuring element), an image whose samples at `p`
lie in the dtype range, and a non-empty neighbourhood: `rank_filter(f, Bc, 0, mode='nearest')[p]` is the
value the *specification* of C01 gives for the erosion of `f` by the flat structuring element with
height 0 on the members of `Bc` (minimum over the members of `f[clamp(p + k)]`). For unsigned dtypes a
0/1 `Bc` is not a flat element for `erode` (height 1 is subtracted), so the link does not apply. -/
theorem C07_rank0_eq_flat_erosion (dt : DT) (hb : dt.isBool = false) (hlo : dt.lo ≠ 0) (f : Img Int)
    (hs : ∀ d ∈ f.shape, 0 < d) (fp : List (List Int)) (hfp : fp ≠ []) (p : List Int)
    (hrange : ∀ k ∈ fp, dt.lo ≤ f.getD (clampPos f.shape (addPos p k)) 0 ∧
      f.getD (clampPos f.shape (addPos p k)) 0 ≤ dt.hi) :
    rankAt .nearest f fp 0 p = some (C01.erodeSpecAt dt f (fp.map fun k => (k, 0)) p) := by
  have hsamp := specSamples_nearest f fp p
  obtain ⟨⟨lo, hlo1, hlo2, hlo3⟩, _⟩ := C07_rank_extremes .nearest f hs fp p
    (by rw [hsamp]; exact mt List.map_eq_nil_iff.1 hfp)
  rw [hsamp] at hlo2 hlo3
  rw [hlo1, erodeSpecAt_flat dt hb hlo f fp p hrange lo hlo2 hlo3]

/-- non-vacuity: the 3×3 cross has 5 members, `Bc.sum()//2 = 2`; on the 2×2 image in
    reflect mode every pixel has all 5 samples, ranks 0 / 2 / 4 are min / median / max of the
    samples, increasing, and the mean parts lie between; an even 2×2 neighbourhood gets rank 2 of 4. -/
example :
    let bc : Array Int := #[0, 1, 0, 1, 1, 1, 0, 1, 0]
    let f : Img Int := { shape := [2, 2], data := #[7, 1, 5, 3] }
    let fp := footprint [3, 3] bc
    bc.size = shapeSize [3, 3] ∧ (∀ x ∈ bc.toList, x = 0 ∨ x = 1) ∧ medianRank bc = 2 ∧ fp.length = 5 ∧
    specSamples .reflect f fp [0, 0] = [7, 7, 7, 1, 5] ∧
    rankSpecAt .reflect f fp 0 [0, 0] = some 1 ∧ rankSpecAt .reflect f fp 2 [0, 0] = some 7 ∧
    rankSpecAt .reflect f fp 4 [0, 0] = some 7 ∧ meanParts .reflect f fp [0, 0] = (27, 5) ∧
    medianRank #[1, 1, 1, 1] = 2 := by
  decide +kernel

/-- the hypotheses of `C07_mean_between_min_max` are met on that image: `1 ≤ 27/5 ≤ 7` -/
example :
    let f : Img Int := { shape := [2, 2], data := #[7, 1, 5, 3] }
    let fp := footprint [3, 3] #[0, 1, 0, 1, 1, 1, 0, 1, 0]
    (1 : ℚ) ≤ ((meanParts .reflect f fp [0, 0]).1 : ℚ) / ((meanParts .reflect f fp [0, 0]).2 : ℚ) := by
  intro f fp
  have h0 : rankAt .reflect f fp 0 [0, 0] = some 1 := by
    rw [C07_rank_eq_spec _ _ (by decide)]; decide
  have h4 : rankAt .reflect f fp ((fp.length : Int) - 1) [0, 0] = some 7 := by
    rw [C07_rank_eq_spec _ _ (by decide)]; decide
  exact_mod_cast (C07_mean_between_min_max .reflect f fp [0, 0] 1 7 h0 h4).2.2.2.1

/-- the hypotheses of `C07_rank0_eq_flat_erosion` are met (int8, 3×3 cross, corner pixel): both sides are 1 -/
example :
    let dt : DT := { lo := -128, hi := 127 }
    let f : Img Int := { shape := [2, 2], data := #[7, 1, 5, 3] }
    let fp := footprint [3, 3] #[0, 1, 0, 1, 1, 1, 0, 1, 0]
    dt.isBool = false ∧ dt.lo ≠ 0 ∧ (∀ d ∈ f.shape, 0 < d) ∧ fp ≠ [] ∧
    (∀ k ∈ fp, dt.lo ≤ f.getD (clampPos f.shape (addPos [0, 0] k)) 0 ∧
      f.getD (clampPos f.shape (addPos [0, 0] k)) 0 ≤ dt.hi) ∧
    C01.erodeSpecAt dt f (fp.map fun k => (k, 0)) [0, 0] = 1 ∧ rankSpecAt .nearest f fp 0 [0, 0] = some 1 := by
  decide +kernel

/-- **C07-W1' (the same for any dtype shape).** The statement of `C07_template_match_wrapping` holds
for every non-boolean integer range `[lo, hi]` that contains 0 and whose size divides the size of the
type its operands are promoted to (true of every two's-complement type of at most 16 bits, promoted to
the 32-bit `int`, and of every wider type, which is its own promoted type). -/
theorem C07_template_match_wrapping_generic (dt : DT) (hb : dt.isBool = false)
    (h0 : dt.lo ≤ 0 ∧ 0 ≤ dt.hi) (hd : dt.card ∣ (promote dt).card) (m : Mode) (f : Img Int)
    (tshape : List Nat) (t : Array Int) (p : List Int) :
    tmAtWrap dt m f tshape t p = dt.wrap (tmAt m f tshape t p) := by
  unfold tmAtWrap tmAt
  refine foldl_rel_mem (fun a b => a = dt.wrap b) _ _ _ (fun a b j _ hab => ?_) 0 0 (DT.wrap_in dt 0 h0).symm
  subst hab
  cases fixPos m f.shape (addPos p (offsetOf tshape j)) with
  | none => rfl
  | some q => exact tmStep_wrap dt hb hd _ _

/-- **C07-W1 (template_match in the dtype's wrap-around arithmetic).** `tmAtWrap dt` transliterates
`template_match<T>` operation by operation in the arithmetic of the image dtype `T`: `val - tj` (or
`tj - val`), `delta*delta` and `diff2 + delta*delta` are evaluated in the promoted type (`int`, 32 bits,
for 8- and 16-bit `T` — where `65535*65535` overflows `int` and wraps under `-fno-strict-overflow` —
and `T` itself for 32- and 64-bit `T`), each wrapping there, and `delta` and the new `diff2` are
converted back to `T`. For each of the eight integer dtypes of numpy (`uint8 … uint64`, `int8 … int64`),
every border mode, every image and template of any shape and any stored values, at every pixel this
equals the exact sum of squared differences of the model `tmAt` reduced modulo `2^bits` into the range
of `T` (`DT.wrap`) — also when the absolute difference `val - tj` itself overflows a signed `T`
(its square is still right modulo `2^bits`). Consequently, with positive axis lengths it equals the
specification `tmSpecAt` (sum of squared differences over the samples of the border rule) reduced
into `T`, and equals `tmSpecAt` itself wherever that value lies in the range of `T`; no condition on
the intermediate quantities is needed. Floating-point dtypes are not covered by this model. -/
theorem C07_template_match_wrapping (dt : DT) (hdt : dt ∈ intDTs) (m : Mode) (f : Img Int)
    (tshape : List Nat) (t : Array Int) (p : List Int) :
    tmAtWrap dt m f tshape t p = dt.wrap (tmAt m f tshape t p) ∧
    ((∀ d ∈ f.shape, 0 < d) →
      tmAtWrap dt m f tshape t p = dt.wrap (tmSpecAt m f tshape t p) ∧
      (dt.lo ≤ tmSpecAt m f tshape t p ∧ tmSpecAt m f tshape t p ≤ dt.hi →
        tmAtWrap dt m f tshape t p = tmSpecAt m f tshape t p)) := by
  obtain ⟨hb, h0, hd⟩ := intDTs_ok dt hdt
  have h := C07_template_match_wrapping_generic dt hb h0 hd m f tshape t p
  refine ⟨h, fun hs => ?_⟩
  rw [h, C07_template_match_ssd m f hs tshape t p]
  exact ⟨rfl, fun hfit => DT.wrap_in dt _ hfit⟩

/-- **C07-W2 (template_match on bool images).** For `T = bool` (operands promoted to `int`, conversion
back to `bool` = "non-zero") and 0/1 data the wrapping model gives 1 exactly when the exact sum of
squared differences is not zero — with positive axis lengths: exactly when the template differs from
the window somewhere on the samples the border rule provides (`tmSpecAt ≠ 0`); not the sum modulo 2. -/
theorem C07_template_match_bool (m : Mode) (f : Img Int) (tshape : List Nat) (t : Array Int)
    (p : List Int) (hf : ∀ q, f.getD q 0 = 0 ∨ f.getD q 0 = 1) (ht : ∀ j, t.getD j 0 = 0 ∨ t.getD j 0 = 1) :
    tmAtWrap dtBool m f tshape t p = (if tmAt m f tshape t p = 0 then 0 else 1) ∧
    ((∀ d ∈ f.shape, 0 < d) →
      tmAtWrap dtBool m f tshape t p = if tmSpecAt m f tshape t p = 0 then 0 else 1) := by
  have h : tmAtWrap dtBool m f tshape t p = if tmAt m f tshape t p = 0 then 0 else 1 := by
    unfold tmAtWrap tmAt
    refine (foldl_rel_mem (fun (a e : Int) => 0 ≤ e ∧ a = if e = 0 then 0 else 1) _ _ _ ?_ 0 0 ⟨Int.le_refl 0, rfl⟩).2
    intro a e j _ ⟨he, ha⟩
    cases fixPos m f.shape (addPos p (offsetOf tshape j)) with
    | none => exact ⟨he, ha⟩
    | some q =>
      refine tmStep_bool e a _ he ha ?_
      rcases hf q with h | h <;> rcases ht j with h' | h' <;> rw [h, h'] <;> decide
  refine ⟨h, fun hs => ?_⟩
  rw [h, C07_template_match_ssd m f hs tshape t p]

/-- **C07-R3'' (the last rank in `nearest` mode = flat grey dilation of C01 by the reflected element).**
For a signed, non-boolean dtype (`lo ≠ 0`, so that height 0 marks a member of a structuring element and
nothing is added), a completely stored image with positive axis lengths, a pixel `p` of the image, a
non-empty list `fp` of neighbourhood offsets of the image's rank (for `rank_filter`: `footprint bshape Bc`,
offsets `k − shape/2` of the non-zero entries) and samples at `p` inside the dtype range:
`rank_filter(f, Bc, N2 − 1, mode='nearest')[p]` (`N2` = number of members) is the value the gather
*specification* of C01 gives for the grey dilation of `f` at `p` by the flat structuring element whose
support is the *reflection* `{−k : k ∈ fp}` of the neighbourhood through the centre, with height 0:
`max_k f[clamp(p − (−k))] = max_k f[clamp(p + k)]`. The theorem is about offset lists, so even-sized
neighbourhoods are covered: for an even axis length the reflected offsets `−(k − shape/2)` are *not*
the offsets of the flipped array `Bc[::-1]` about its own centre `shape/2` (they are shifted by one), so
`rank_filter(f, Bc, N2−1)` equals the dilation by the flipped array only for odd shapes; in terms of
supports there is no such restriction. For unsigned dtypes a 0/1 `Bc` is not a flat element for `dilate`
(height 1 is added), as for the erosion link. Where C01's theorems show that the scatter kernel
`dilateModel` equals `dilateSpecAt` (box-interior pixels, or star-shaped flat elements everywhere), the
last rank therefore equals the output of the model of `dilate` itself. -/
theorem C07_last_rank_is_flat_dilation (dt : DT) (hb : dt.isBool = false) (hlo : dt.lo ≠ 0) (f : Img Int)
    (hs : ∀ d ∈ f.shape, 0 < d) (hsz : shapeSize f.shape ≤ f.data.size) (fp : List (List Int))
    (hfp : fp ≠ []) (hlen : ∀ k ∈ fp, k.length = f.shape.length) (p : List Int)
    (hp : inside f.shape p = true)
    (hrange : ∀ k ∈ fp, dt.lo ≤ f.getD (clampPos f.shape (addPos p k)) 0 ∧
      f.getD (clampPos f.shape (addPos p k)) 0 ≤ dt.hi) :
    rankAt .nearest f fp ((fp.length : Int) - 1) p =
      some (C01.dilateSpecAt dt f (fp.map fun k => (negPos k, 0)) p) := by
  have hsamp := specSamples_nearest f fp p
  obtain ⟨_, hi, hhi1, hhi2, hhi3⟩ := C07_rank_extremes .nearest f hs fp p
    (by rw [hsamp]; exact mt List.map_eq_nil_iff.1 hfp)
  rw [hsamp] at hhi2 hhi3
  rw [hhi1, dilateSpecAt_flat_reflected dt hb hlo f fp p hrange hsz hlen hp hi hhi2 hhi3]

/-- non-vacuity of `C07_template_match_wrapping`: uint8 image `[0, 250, 100]`, template `[255, 1]`
    (centre 1), nearest mode: the exact sums 65026, 127026, 9826 wrap to 2, 50, 98; int8 with
    `val − tj = 127 − (−128) = 255` (overflows int8 as −1, square 1): 65026 ↦ 2; uint16
    `65535² + 65535²` overflows `int` twice on the way and still wraps to 2; an in-range pixel agrees
    with the specification; bool: two differences give `true`, not `2 mod 2` -/
example :
    let f : Img Int := { shape := [3], data := #[0, 250, 100] }
    dtU 8 ∈ intDTs ∧ dtI 8 ∈ intDTs ∧ dtU 16 ∈ intDTs ∧ (∀ d ∈ f.shape, 0 < d) ∧
    (allPos [3]).map (tmSpecAt .nearest f [2] #[255, 1]) = [65026, 127026, 9826] ∧
    (allPos [3]).map (tmAtWrap (dtU 8) .nearest f [2] #[255, 1]) = [2, 50, 98] ∧
    tmAtWrap (dtI 8) .nearest { shape := [1], data := #[127] } [2] #[-128, -128] [0] = 2 ∧
    tmAtWrap (dtU 16) .nearest { shape := [1], data := #[65535] } [2] #[0, 0] [0] = 2 ∧
    tmSpecAt .nearest f [2] #[3, 247] [1] = 18 ∧ tmAtWrap (dtU 8) .nearest f [2] #[3, 247] [1] = 18 ∧
    tmAtWrap dtBool .nearest { shape := [2], data := #[0, 1] } [2] #[1, 0] [1] = 1 ∧
    tmAt .nearest { shape := [2], data := #[0, 1] } [2] #[1, 0] [1] = 2 := by
  decide +kernel

/-- the hypotheses of `C07_last_rank_is_flat_dilation` are met (int8, 3×3 cross, corner pixel): both
    sides are 7. The even 2×2 box has offsets `{−1,0}²`; at pixel (1,1) the last rank reads rows/columns
    0..1 (maximum 7) and so does the dilation by the reflected support `{0,1}²`, whereas the dilation by
    the unreflected support (= the support of the flipped all-ones 2×2 array) reads
    `clamp((1,1) + {0,1}²)` and yields 3. -/
example :
    let dt : DT := { lo := -128, hi := 127 }
    let f : Img Int := { shape := [2, 2], data := #[7, 1, 5, 3] }
    let fp := footprint [3, 3] #[0, 1, 0, 1, 1, 1, 0, 1, 0]
    let fp2 := footprint [2, 2] #[1, 1, 1, 1]
    dt.isBool = false ∧ dt.lo ≠ 0 ∧ (∀ d ∈ f.shape, 0 < d) ∧ shapeSize f.shape ≤ f.data.size ∧ fp ≠ [] ∧
    (∀ k ∈ fp, k.length = f.shape.length) ∧ inside f.shape [0, 0] = true ∧
    (∀ k ∈ fp, dt.lo ≤ f.getD (clampPos f.shape (addPos [0, 0] k)) 0 ∧
      f.getD (clampPos f.shape (addPos [0, 0] k)) 0 ≤ dt.hi) ∧
    C01.dilateSpecAt dt f (fp.map fun k => (negPos k, 0)) [0, 0] = 7 ∧
    rankSpecAt .nearest f fp 4 [0, 0] = some 7 ∧
    fp2 = [[-1, -1], [-1, 0], [0, -1], [0, 0]] ∧
    C01.dilateSpecAt dt f (fp2.map fun k => (negPos k, 0)) [1, 1] = 7 ∧
    rankSpecAt .nearest f fp2 3 [1, 1] = some 7 ∧
    C01.dilateSpecAt dt f (fp2.map fun k => (k, 0)) [1, 1] = 3 := by
  decide +kernel

/-- **C07-R3k (the last rank = the output of the `dilate` kernel, where C01 proves kernel = definition).**
Let `dt` be a signed integer dtype, `f` a completely stored image with positive axis lengths and all
values in the dtype range, `fp` a non-empty list of neighbourhood offsets whose reflections `−k` are
offsets of an element box `bshape` of the image's rank, and `p` a pixel of the image such that either
the reflected support is coordinate-wise star-shaped (`C01.starShaped`, true of centred crosses, boxes,
disks) or the box placed at `p` and its reflection lie inside the image (`C01.boxInterior`). Then
`rank_filter(f, Bc, N2 − 1, mode='nearest')[p]` equals the cell of `p` in the model of the generic
scatter kernel `dilate<T>` (`C01.dilateModel`, the definition C01's driver runs) applied to `f` and the
flat structuring element with support `{−k : k ∈ fp}` and height 0
(`C07_last_rank_is_flat_dilation` composed with `C01_dilate_eq_spec_where_observed`). -/
theorem C07_last_rank_eq_dilate_kernel (dt : DT) (wf : dt.WF) (hlo : dt.lo ≠ 0) (f : Img Int)
    (hs : ∀ d ∈ f.shape, 0 < d) (hsz : shapeSize f.shape ≤ f.data.size) (bshape : List Nat)
    (hl : bshape.length = f.shape.length) (fp : List (List Int)) (hfp : fp ≠ [])
    (hbox : ∀ k ∈ fp, negPos k ∈ C01.boxOffsets bshape) (hA : C01.ImageInRange dt f) (p : List Int)
    (hp : inside f.shape p = true)
    (hobs : C01.starShaped bshape (fp.map negPos) = true ∨ C01.boxInterior f.shape bshape p = true) :
    rankAt .nearest f fp ((fp.length : Int) - 1) p =
      some ((C01.dilateModel dt f (fp.map fun k => (negPos k, 0))).getD (ravelI f.shape p) dt.lo) := by
  have hlen : ∀ k ∈ fp, k.length = f.shape.length := fun k hk =>
    (C01.negPos_length k).symm.trans ((C01.boxOffsets_length bshape _ (hbox k hk)).trans hl)
  obtain ⟨hadm, hfst, hflat⟩ := flat_elem dt wf hlo fp negPos
  rw [C07_last_rank_is_flat_dilation dt wf.notBool hlo f hs hsz fp hfp hlen p hp (fun k _ => hA _)]
  refine congrArg some (C01_dilate_eq_spec_where_observed dt (Or.inl wf) f bshape _ p hs hl
    (List.forall_mem_map.2 hbox) hA hadm hp ?_).symm
  rw [hfst, hflat, Bool.and_true, Bool.or_eq_true]
  exact hobs

/-- non-vacuity of `C07_last_rank_eq_dilate_kernel`: int8, 3×3 cross (symmetric, star-shaped) on the
    2×2 image, every pixel; the scatter kernel of C01 and the last rank both give `[7, 7, 7, 5]` -/
example :
    let dt : DT := dtI 8
    let f : Img Int := { shape := [2, 2], data := #[7, 1, 5, 3] }
    let fp := footprint [3, 3] #[0, 1, 0, 1, 1, 1, 0, 1, 0]
    dt.lo ≠ 0 ∧ (∀ d ∈ f.shape, 0 < d) ∧ shapeSize f.shape ≤ f.data.size ∧ fp ≠ [] ∧
    (∀ k ∈ fp, negPos k ∈ C01.boxOffsets [3, 3]) ∧ C01.starShaped [3, 3] (fp.map negPos) = true ∧
    (C01.dilateModel dt f (fp.map fun k => (negPos k, 0))).toList = [7, 7, 7, 5] ∧
    (allPos f.shape).map (rankSpecAt .nearest f fp 4) = [some 7, some 7, some 7, some 5] := by
  decide +kernel

/-- **C07 (tie to the source, generated tables).** The code by which the models number a border mode is the code the
source gives it in both places: `mode2int` of `mahotas/_filters.py` (what the wrappers send) and
`enum ExtendMode` of `mahotas/_filters.h` (what `fix_offset` switches on); neither table has an entry the models do
not know. Both tables are regenerated from the source on every run. -/
theorem C07_mode_codes_agree (m : Mahotas.Mode) :
    (Mahotas.Generated.pyModes.lookup m.name = some m.code ∧ Mahotas.Generated.cppModes.lookup m.name = some m.code) ∧
    Mahotas.Generated.pyModes.length = 6 ∧ Mahotas.Generated.cppModes.length = 6 :=
  ⟨Mahotas.mode_codes_agree m, Mahotas.mode_tables_complete.1, Mahotas.mode_tables_complete.2.1⟩

/-- non-vacuity: `reflect` is mode 2 in both tables -/
example : Mahotas.Generated.pyModes.lookup (Mahotas.Mode.reflect).name = some 2 := by decide

/-- **C07-R4a (the rescaled rank, as the C++ computes it in double, is the exact floor).**
`rank_filter` computes `currank = npy_intp(n * rank / double(N2))`: the 64-bit integer product `n·rank` and `N2` are
converted to double, divided there, and the quotient is truncated. For EVERY round-to-nearest arithmetic with a 53-bit
significand (`Rounding rnd`: monotone, relative error `≤ 2^-53`, exact on integers up to `2^53` — IEEE binary64
`roundTiesToEven` is `rne53`, by `rne53_rounding`: the `example` below) and all sizes that occur (`n ≤ N2` gathered samples, `rank < N2`,
fewer than `2^26` members) the generic definition `curRankG` — which the driver runs with binary64 operations
(`floatRankOps`) and prints as `dmodel=` — instantiated with the rounded rational operations equals `curRank`, the
`Nat` division `⌊n·rank / N2⌋` the model and all other C07 theorems use. Hence the whole filter: `rankAtG = rankAt`. -/
theorem C07_currank_double_eq_floor (rnd : ℚ → ℚ) (hr : Mahotas.C05.Rounding rnd) :
    (∀ n N2 rank : ℕ, n ≤ N2 → rank < N2 → N2 < 2 ^ 26 →
      curRankG (ratRankOps rnd) n N2 rank = curRank n N2 rank) ∧
    (∀ (m : Mode) (f : Img Int) (fp : List (List Int)) (rank : Int) (p : List Int), fp.length < 2 ^ 26 →
      rankAtG (ratRankOps rnd) m f fp rank p = rankAt m f fp rank p) := by
  refine ⟨fun n N2 rank hn hrank hsz => curRankG_small rnd hr n N2 rank hn hrank hsz, ?_⟩
  intro m f fp rank p hsz
  unfold rankAtG rankAt
  by_cases h : rank < 0 ∨ rank ≥ (fp.length : Int)
  · rw [if_pos h, if_pos h]
  · rw [if_neg h, if_neg h]
    simp only
    rw [curRankG_small rnd hr _ _ _ (gather_length_le m f fp p) (by omega) hsz]

/-- binary64 `roundTiesToEven` is such an arithmetic, exact arithmetic another; `⌊3·2/5⌋ = 1` at a corner pixel -/
example : (∀ n N2 rank : ℕ, n ≤ N2 → rank < N2 → N2 < 2 ^ 26 →
      curRankG (ratRankOps Mahotas.C05.rne53) n N2 rank = curRank n N2 rank) ∧ curRank 3 5 2 = 1 :=
  ⟨(C07_currank_double_eq_floor _ Mahotas.C05.rne53_rounding).1, by decide⟩

/-- **C07-R4b (pixels without a sample: `ignore` mode and an all-outside neighbourhood).** For a rank inside `[0, N2)`
and offsets of the image's rank: the model of `rank_filter` is undefined at `p` (`none`: the C++ calls `nth_element` on
an empty range and stores `neighbours[0]`, a value left over from the previous pixel — nothing the statement or the
`nth_element` contract fixes) **iff** the mode is `ignore` and every member of the neighbourhood placed at `p` falls
outside the image; `mean_filter` divides by `n = 0` (NaN) in exactly the same case. In the five other modes, and
whenever some member lands inside (e.g. the centre is a member and `p` is a pixel), the value exists and is the
`k`-th smallest sample (`C07_rank_is_kth_smallest`). -/
theorem C07_no_sample_iff (m : Mode) (f : Img Int) (fp : List (List Int)) (rank : Int) (p : List Int)
    (h0 : 0 ≤ rank) (h1 : rank < fp.length) (hlen : ∀ k ∈ fp, (addPos p k).length = f.shape.length) :
    (rankAt m f fp rank p = none ↔ (m = .ignore ∧ ∀ k ∈ fp, inside f.shape (addPos p k) = false)) ∧
    ((meanParts m f fp p).2 = 0 ↔ (m = .ignore ∧ ∀ k ∈ fp, inside f.shape (addPos p k) = false)) ∧
    ((m ≠ .ignore ∨ ∃ k ∈ fp, inside f.shape (addPos p k) = true) → ∃ v, rankAt m f fp rank p = some v) := by
  have hne : fp ≠ [] := fun h => by rw [h, List.length_nil] at h1; omega
  have hg : gather m f fp p = [] ↔ (m = .ignore ∧ ∀ k ∈ fp, inside f.shape (addPos p k) = false) :=
    (gather_eq_nil_iff m f fp p hlen).trans (or_iff_right hne)
  have hr := (rankAt_none_iff_gather m f fp rank p h0 h1).trans hg
  refine ⟨hr, ?_, fun h => rankAt_isSome m f fp rank p h0 h1 fun he => ?_⟩
  · rw [meanParts_eq, List.length_eq_zero_iff]
    exact hg
  · obtain ⟨hm, hall⟩ := hg.1 he
    rcases h with h | ⟨k, hk, hin⟩
    · exact h hm
    · exact Bool.false_ne_true ((hall k hk).symm.trans hin)

/-- non-vacuity: the two horizontal neighbours (centre not a member) on a 1×1 image: no sample in `ignore` mode —
    undefined rank (by the theorem), zero count —, two samples in `reflect` mode -/
example :
    let f : Img Int := { shape := [1, 1], data := #[7] }
    let fp := footprint [1, 3] #[1, 0, 1]
    fp = [[0, -1], [0, 1]] ∧ rankAt .ignore f fp 1 [0, 0] = none ∧ meanParts .ignore f fp [0, 0] = (0, 0) ∧
    rankAt .reflect f fp 1 [0, 0] = some 7 ∧ meanParts .reflect f fp [0, 0] = (14, 2) := by
  intro f fp
  have hfp : fp = [[0, -1], [0, 1]] := by decide
  refine ⟨hfp, ?_, by decide, ?_, by decide⟩
  · exact (C07_no_sample_iff .ignore f fp 1 [0, 0] (by decide) (by decide) (by decide)).1.2 ⟨rfl, by decide⟩
  · rw [C07_rank_eq_spec _ _ (by decide)]
    decide

/-- **C07-R4c (`template_match` generic in the arithmetic of `T`; float images with integer values are exact).**
`tmAtG` is `template_match<T>` written once for every `T` (`T diff2 = 0; delta = val > tj ? val − tj : tj − val;
diff2 += delta*delta`); the driver runs it with binary64 and binary32 operations for float images (kind `tmf`, compared
bit for bit with the real output on arbitrary finite values). (1) With the integer operations it IS the exact model
`tmAt` (`tmAtG intTmOps = tmAt`, so `C07_template_match_ssd` and the wrapping theorems speak about an instance of it).
(2) With rounded rational operations `rnd (a ∘ b)`, for every round-to-nearest `rnd` of 53 bits (`Rounding rnd`), on an
integer-valued image and template whose exact sum of squared differences at `p` is at most `2^53`, no operation rounds:
the result is the exact value of the specification `tmSpecAt` (this is the case on which the harness compares float
images with the specification exactly). -/
theorem C07_template_match_float_exact (m : Mode) (f : Img Int) (tshape : List Nat) (t : Array Int) (p : List Int) :
    tmAtG intTmOps m f tshape t p = tmAt m f tshape t p ∧
    ∀ (rnd : ℚ → ℚ), Mahotas.C05.Rounding rnd → (∀ d ∈ f.shape, 0 < d) → tmSpecAt m f tshape t p ≤ 2 ^ 53 →
      tmAtG (ratTmOps rnd) m (castImg f) tshape (castArr t) p = ((tmSpecAt m f tshape t p : ℤ) : ℚ) := by
  refine ⟨tmAtG_int m f tshape t p, fun rnd hr hs hb => ?_⟩
  rw [← C07_template_match_ssd m f hs tshape t p] at hb ⊢
  exact tmAtG_rat_exact rnd hr m f tshape t p hb

/-- non-vacuity: binary64 rounding, the 2×2 image `[[7,1],[5,3]]`: SSD 40 at the corner, below `2^53` -/
example :
    let f : Img Int := { shape := [2, 2], data := #[7, 1, 5, 3] }
    tmAtG (ratTmOps Mahotas.C05.rne53) .nearest (castImg f) [1, 2] (castArr #[1, 5]) [0, 0] = 40 := by
  intro f
  have h := (C07_template_match_float_exact .nearest f [1, 2] #[1, 5] [0, 0]).2 _ Mahotas.C05.rne53_rounding
    (by decide) (by decide)
  rw [h]
  have : tmSpecAt .nearest f [1, 2] #[1, 5] [0, 0] = 40 := by decide
  rw [this]; norm_num

/-- **C07-R4c' (forward error bound of float `template_match`).** For ANY rational image and template (every finite
float is a rational), every border mode and pixel: the kernel `tmAtG` run with operations rounded to nearest with a
53-bit significand returns a value between `(1 − u)^(N+3) · S` and `(1 + u)^(N+3) · S`, where `u = 2^-53`, `N` is the number
of template entries and `S ≥ 0` is the same kernel in exact rational arithmetic (the exact sum of squared differences over
the provided samples): the difference rounds once, its square carries that factor twice and rounds once, and each of the
at most `N` additions rounds once; all terms are non-negative, so the bound is relative to `S` itself — no cancellation.
This is the margin of the harness (`|got − S| ≤ 2 (N + 3) u · S`, with `(1+u)^k − 1 ≤ 2 k u` for `k u ≤ 1`). Overflow
and underflow are outside the `Rounding` interface (unbounded exponent). -/
theorem C07_template_match_float_error_bound (rnd : ℚ → ℚ) (hr : Mahotas.C05.Rounding rnd) (m : Mode) (f : Img ℚ)
    (tshape : List Nat) (t : Array ℚ) (p : List Int) :
    0 ≤ tmAtG exactTmOps m f tshape t p ∧
    (1 - uRnd) ^ (shapeSize tshape + 3) * tmAtG exactTmOps m f tshape t p ≤ tmAtG (ratTmOps rnd) m f tshape t p ∧
    tmAtG (ratTmOps rnd) m f tshape t p ≤ (1 + uRnd) ^ (shapeSize tshape + 3) * tmAtG exactTmOps m f tshape t p :=
  tmAtG_rat_bound_u uRnd_pos.le uRnd_lt_one.le (rel_of_rounding rnd hr) m f tshape t p

/-- non-vacuity: binary64 rounding of a 1×2 window with values 1/3 and 1/5 against the template (1/7, 2) centred on the second pixel: the exact
    value is `(1/3 − 1/7)² + (2 − 1/5)² = 36121/11025`, and `u = 2^-53` -/
example :
    let f : Img ℚ := { shape := [1, 2], data := #[1 / 3, 1 / 5] }
    tmAtG exactTmOps .nearest f [1, 2] #[1 / 7, 2] [0, 1] = 36121 / 11025 ∧ uRnd = 1 / 9007199254740992 ∧
    (1 - uRnd) ^ 5 * (36121 / 11025) ≤ tmAtG (ratTmOps Mahotas.C05.rne53) .nearest f [1, 2] #[1 / 7, 2] [0, 1] := by
  intro f
  have h := C07_template_match_float_error_bound _ Mahotas.C05.rne53_rounding .nearest f [1, 2] #[1 / 7, 2] [0, 1]
  have e : tmAtG exactTmOps .nearest f [1, 2] #[1 / 7, 2] [0, 1] = 36121 / 11025 := by decide +kernel
  refine ⟨e, by decide +kernel, ?_⟩
  rw [← e]
  exact h.2.1

/-- **C07-R4e (`mean_filter` in double is the correctly rounded exact mean).** `meanAtG` is `mean_filter<T>` generic in
the arithmetic (`double sum = 0; sum += val` over the gathered samples in scan order, then `sum / n`); the driver runs it
with binary64 operations (kind `meanf`, compared bit for bit with the real output on arbitrary finite float values). At
`Int` its samples are those of `gather`. With operations rounded to nearest with a 53-bit significand (`Rounding rnd`), on
an integer-valued image (positive axis lengths) whose selected samples have magnitudes summing to at most `2^53` (and a
neighbourhood of at most `2^53` members), every addition is exact and the result is the ONE rounding of the exact quotient
of the specification: `rnd (Σ samples / number of samples)` — what the harness computes as `float(Fraction(sum, n))`. -/
theorem C07_mean_double_exact (rnd : ℚ → ℚ) (hr : Mahotas.C05.Rounding rnd) (m : Mode) (f : Img Int)
    (hs : ∀ d ∈ f.shape, 0 < d) (fp : List (List Int)) (p : List Int)
    (hb : absSum (specSamples m f fp p) ≤ 2 ^ 53) (hn : (fp.length : Int) ≤ 2 ^ 53) :
    gatherG 0 m f fp p = specSamples m f fp p ∧
    meanAtG (ratMeanOps rnd) m (castImg f) fp p =
      rnd (((meanSpecParts m f fp p).1 : ℚ) / ((meanSpecParts m f fp p).2 : ℚ)) := by
  refine ⟨(gatherG_int m f fp p).trans (gather_eq_specSamples m f hs fp p), ?_⟩
  rw [← C07_mean_exact m f hs fp p]
  rw [← gather_eq_specSamples m f hs fp p] at hb
  exact meanAtG_rat_exact rnd hr m f fp p hb hn

/-- non-vacuity: binary64 rounding, the 3×3 cross at the corner of the 2×2 image in `ignore` mode: samples 7, 1, 5,
    magnitudes sum to 13, result = the rounding of 13/3 -/
example :
    let f : Img Int := { shape := [2, 2], data := #[7, 1, 5, 3] }
    let fp := footprint [3, 3] #[0, 1, 0, 1, 1, 1, 0, 1, 0]
    absSum (specSamples .ignore f fp [0, 0]) = 13 ∧
    meanAtG (ratMeanOps Mahotas.C05.rne53) .ignore (castImg f) fp [0, 0] = Mahotas.C05.rne53 (13 / 3) := by
  intro f fp
  have ha : absSum (specSamples .ignore f fp [0, 0]) = 13 := by decide
  refine ⟨ha, ?_⟩
  have h := (C07_mean_double_exact _ Mahotas.C05.rne53_rounding .ignore f (by decide) fp [0, 0]
    (by rw [ha]; norm_num) (by decide)).2
  rw [h]
  have : meanSpecParts .ignore f fp [0, 0] = (13, 3) := by decide
  rw [this]; norm_num

/-- **C07-R4f (error bounds for any precision: binary32 images, and `mean_filter` with cancellation).** For every
rounding `rnd` with relative error at most `u` (`0 < u < 1`; binary64: `u = 2^-53`, binary32: `u = 2^-24` — the arithmetic of
`template_match<float>`), any rational data, every mode and pixel:
(1) `template_match`: `(1−u)^(N+3) · S ≤ computed ≤ (1+u)^(N+3) · S`, `S` the exact kernel, `N` the template size;
(2) `mean_filter` (samples of both signs, so cancellation is possible): with `n ≥ 1` gathered samples whose count converts
exactly, `|computed − exact mean| ≤ ((1+u)^(n+1) − 1) · (Σ|x|) / n` — the error of recursive summation relative to the sum
of the magnitudes, one more rounding for the division. These are the margins the harness uses for float images
(`2(N+3)u·S` and `2(n+1)u·Σ|x|/n`). -/
theorem C07_float_error_bounds_any_precision (rnd : ℚ → ℚ) (u : ℚ) (hu0 : 0 < u) (hu1 : u < 1)
    (hrel : ∀ x : ℚ, |rnd x - x| ≤ |x| * u) (m : Mode) (f : Img ℚ) (p : List Int) :
    (∀ (tshape : List Nat) (t : Array ℚ),
      (1 - u) ^ (shapeSize tshape + 3) * tmAtG exactTmOps m f tshape t p ≤ tmAtG (ratTmOps rnd) m f tshape t p ∧
      tmAtG (ratTmOps rnd) m f tshape t p ≤ (1 + u) ^ (shapeSize tshape + 3) * tmAtG exactTmOps m f tshape t p) ∧
    (∀ (fp : List (List Int)), 0 < (gatherG (0 : ℚ) m f fp p).length →
      rnd ((gatherG (0 : ℚ) m f fp p).length : ℚ) = ((gatherG (0 : ℚ) m f fp p).length : ℚ) →
      |meanAtG (ratMeanOps rnd) m f fp p - meanAtG exactMeanOps m f fp p| ≤
        ((1 + u) ^ ((gatherG (0 : ℚ) m f fp p).length + 1) - 1) * absSumQ (gatherG (0 : ℚ) m f fp p) /
          ((gatherG (0 : ℚ) m f fp p).length : ℚ)) := by
  refine ⟨fun tshape t => (tmAtG_rat_bound_u hu0.le hu1.le hrel m f tshape t p).2, fun fp hn0 hn => ?_⟩
  -- the summation is `Rounded.foldl_fl_add` with exact terms (`p = p' = id`, `d = 1`), started from `S = s = 0` with `A = 0`,
  -- `c = 1`; the division is one more rounded operation, on the two sums over `n`
  simp only [meanAtG, ratMeanOps, exactMeanOps]
  generalize gatherG (0 : ℚ) m f fp p = xs at hn0 hn ⊢
  have hn' : (0 : ℚ) < xs.length := Nat.cast_pos.2 hn0
  have hfl : ∀ t : ℚ, |rnd t - t| ≤ u * |t| := fun t => (hrel t).trans_eq (mul_comm _ _)
  obtain ⟨hE, hS⟩ := Rounded.foldl_fl_add hu0.le hfl id id (d := 1) (fun i => by simp) xs 0 0 0 1 le_rfl le_rfl
    (abs_zero.trans_le le_rfl) ((congrArg abs (sub_zero 0)).trans_le (abs_zero.trans_le (mul_zero _).ge))
  rw [zero_add, one_mul] at hE
  rw [zero_add] at hS
  rw [hn, pow_succ, mul_div_assoc]
  refine Rounded.abs_fl_sub_le_mul hu0.le hfl ?_ ?_
  · rw [abs_div, abs_of_pos hn']
    exact div_le_div_of_nonneg_right hS hn'.le
  · rw [← sub_div, abs_div, abs_of_pos hn', ← mul_div_assoc]
    exact div_le_div_of_nonneg_right hE hn'.le

/-- non-vacuity: binary64 rounding satisfies the hypothesis with `u = 2^-24` as well (a coarser bound), and converts
    the count 2 exactly; the two horizontal neighbours of a 1×3 row with values 1/3, −1/3 + 1/7 in `nearest` mode -/
example :
    let f : Img ℚ := { shape := [1, 3], data := #[1 / 3, 0, -1 / 3 + 1 / 7] }
    let fp : List (List Int) := [[0, -1], [0, 1]]
    gatherG (0 : ℚ) .nearest f fp [0, 1] = [1 / 3, -1 / 3 + 1 / 7] ∧
    |meanAtG (ratMeanOps Mahotas.C05.rne53) .nearest f fp [0, 1] - meanAtG exactMeanOps .nearest f fp [0, 1]| ≤
      ((1 + 1 / 2 ^ 24) ^ 3 - 1) * absSumQ [1 / 3, -1 / 3 + 1 / 7] / 2 := by
  intro f fp
  have hg : gatherG (0 : ℚ) .nearest f fp [0, 1] = [1 / 3, -1 / 3 + 1 / 7] := by decide +kernel
  refine ⟨hg, ?_⟩
  have hrel : ∀ x : ℚ, |Mahotas.C05.rne53 x - x| ≤ |x| * (1 / 2 ^ 24) := fun x =>
    (rel_of_rounding _ Mahotas.C05.rne53_rounding x).trans
      (mul_le_mul_of_nonneg_left (by decide +kernel) (abs_nonneg x))
  have h := (C07_float_error_bounds_any_precision Mahotas.C05.rne53 (1 / 2 ^ 24) (by norm_num) (by norm_num) hrel
    .nearest f [0, 1]).2 fp
  rw [hg] at h
  exact h (by decide) (Mahotas.C05.rne53_rounding.exact_int 2 (by norm_num))

/-- **C07-R4g (the rank filter is invariant under order embeddings of the values).** `rank_filter` / `median_filter` only
compare samples: for every strictly increasing `g : ℤ → ℤ` with `g 0 = 0` (0 is the `cval` of `constant` mode), every mode,
image, neighbourhood, rank and pixel, filtering the re-encoded image gives the re-encoded result:
`rankAt m (mapImg g f) … = (rankAt m f …).map g` (both undefined together). This is the fact by which the check feeds FLOAT
images to the integer model: quarter-integers through `x ↦ 4x`, arbitrary non-NaN floats (denormals, ±inf; not −0.0) through
`x ↦ sign(x)·bits(|x|)` — the float order is the integer order of the codes, and the real output decodes to the model's. -/
theorem C07_rank_order_embedding (g : Int → Int) (hg : StrictMono g) (h0 : g 0 = 0) (m : Mode) (f : Img Int)
    (fp : List (List Int)) (rank : Int) (p : List Int) :
    rankAt m (mapImg g f) fp rank p = (rankAt m f fp rank p).map g := by
  unfold rankAt
  split
  · rfl
  · simp only
    rw [gather_mapImg g h0, List.length_map, nthElement_map g hg]

/-- non-vacuity: `x ↦ 4x` on the 2×2 image `[[7,1],[5,3]]`, ignore mode at the corner: rank 2 of the cross gives
    5 there and 20 on the re-encoded image -/
example :
    let f : Img Int := { shape := [2, 2], data := #[7, 1, 5, 3] }
    let fp := footprint [3, 3] #[0, 1, 0, 1, 1, 1, 0, 1, 0]
    StrictMono (fun x : Int => 4 * x) ∧ (mapImg (fun x => 4 * x) f).data.toList = [28, 4, 20, 12] ∧
    rankAt .ignore (mapImg (fun x => 4 * x) f) fp 2 [0, 0] = some 20 := by
  intro f fp
  have hm : StrictMono (fun x : Int => 4 * x) := fun a b h => by simp only; omega
  refine ⟨hm, by simp [mapImg, f], ?_⟩
  rw [C07_rank_order_embedding _ hm (by norm_num), C07_rank_eq_spec _ _ (by decide)]
  decide +kernel

/-- **C07-R4d (`majority_filter`, closed form of the loops).** For a 2-D image `rows × cols` and window size `N` (the
wrapper replaces an even `N` by `N + 1`, `majorityN`), `py_majority_filter` — output cleared, nothing done when
`rows < N` or `cols < N`, otherwise `for (y = 0; y != rows−N; ++y) for (x = 0; x != cols−N; ++x)` — sets pixel `(Y, X)`
**iff** the `N × N` window centred on it (top-left corner `(Y − N/2, X − N/2)`) lies inside the image, is NOT the last
such window of its column or row (`Y − N/2 + N < rows`, strictly — the loops stop one short of the window flush with the
bottom/right edge), and holds at least `⌊N²/2⌋` set pixels (for `N = 3`: 4 of 9 suffice; a window never counts more
than `N²`). `majoritySpecB` is the executable form of the right-hand side the driver prints. The docstring of
`majority_filter` ("positive if the majority of pixels in the square … centred on (y,x) are positive") would be
`count > N²/2` on every window inside the image; the model follows the code. -/
theorem C07_majority_closed_form (f : Img Int) (rows cols N Y X : Nat) (hf : f.shape = [rows, cols]) :
    ((Y, X) ∈ majorityMarks f N ↔
      (N / 2 ≤ Y ∧ Y - N / 2 + N < rows ∧ N / 2 ≤ X ∧ X - N / 2 + N < cols ∧
        N * N / 2 ≤ windowCount f N (Y - N / 2) (X - N / 2))) ∧
    ((Y, X) ∈ majorityMarks f N ↔ majoritySpecB f N Y X = true) ∧
    windowCount f N (Y - N / 2) (X - N / 2) ≤ N * N :=
  ⟨mem_majorityMarks f rows cols N Y X hf,
   (mem_majorityMarks f rows cols N Y X hf).trans (majoritySpecB_iff f rows cols N Y X hf).symm,
   windowCount_le f N _ _⟩

/-- non-vacuity: a 5×5 image, `N = 3`: the window at the top-left holds 4 of 9 set pixels and is marked at its centre
    `(1,1)`; the window flush with the bottom-right corner (8 of 9 set, centre `(3,3)`) is not evaluated; `N = 4` becomes 5 -/
example :
    let f : Img Int := { shape := [5, 5], data := #[1,1,0,0,0, 1,1,0,0,0, 0,0,0,1,1, 0,0,1,1,1, 0,0,1,1,1] }
    majorityMarks f 3 = [(1, 1), (2, 2)] ∧ windowCount f 3 0 0 = 4 ∧ windowCount f 3 2 2 = 8 ∧
    majoritySpecB f 3 3 3 = false ∧ majorityN 4 = 5 ∧ majorityMarks f 5 = [] := by
  decide +kernel
