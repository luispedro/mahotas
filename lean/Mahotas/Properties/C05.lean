/-
C05 — property theorems about the models of `mahotas.distance` and `segmentation.gvoronoi`
(`dt1d`, `distanceCoord`, `distanceModel`, `gvoronoiModel`).
-/
import Mahotas.Proofs.C05Nd
import Mahotas.Proofs.C05Strided
import Mahotas.Proofs.C05Abscissa
import Mahotas.Proofs.C05Rounded
import Mahotas.Proofs.C05Binary64
import Mahotas.Generated.Guards
open Mahotas Mahotas.C05

/-- **C05-T1 (the 1-D pass is the exact lower envelope).** For every integer line `f` of every
length, the model of `dist_transform` — stack of parabola roots `v` and breakpoints `z` with the pop
loop `s ≤ z[k]`, then the read-out walk `while (z[k+1] < q) ++k` — returns at every `q` exactly
`min_v (q − v)² + f v`. No assumption on the values of `f` (any integers: zeros, finite "infinity"
fill values, results of an earlier pass). -/
theorem C05_dt1d_lower_envelope (f : Array Int) :
    dt1d f = (List.range f.size).map (minPlus1d f) := by
  unfold dt1d
  rw [owners1d_eq_top]
  unfold owners1dTop
  cases hsz : f.size with
  | zero => rfl
  | succ m =>
    simp only
    rw [zip_map_self]
    exact List.map_congr_left fun q _ => valueAt_owner_eq_min f m hsz q

/-- **C05-T1a (what `minPlus1d` is).** The specification value is a lower bound of every candidate
`(q − v)² + f v`, `v < f.size`, and is attained by one of them. -/
theorem C05_minPlus1d_is_min (f : Array Int) (q : Nat) (hf : 0 < f.size) :
    (∀ v < f.size, minPlus1d f q ≤ valueAt f q v) ∧ ∃ v < f.size, minPlus1d f q = valueAt f q v :=
  ⟨fun v hv => minPlus1d_le f q v hv, minPlus1d_mem f q hf⟩

/-- **C05-T1b (the read-out walk).** The incremental walk of the second loop of `dist_transform`
(`k` only ever moves up while `z[k+1] < q`) selects, for every `q`, the same root as a search of the
whole stack from the top for the first breakpoint below `q`. -/
theorem C05_walk_finds_owner (f : Array Int) : owners1d f = owners1dTop f :=
  owners1d_eq_top f

/-- **C05-T1c (envelope invariant at every rational abscissa).** After the first loop has handled
`q = 1 … m`, the root owning `x` minimises all `m + 1` parabolas at *every* rational `x`, the stack is
a chain (roots and breakpoints strictly increasing, each breakpoint the intersection with the entry
below) and the owner is one of the roots `0 … m`. -/
theorem C05_envelope_invariant (g : ℕ → ℚ) (m : ℕ) (x : ℚ) :
    Chain g (build g m) ∧ owner (build g m) x ≤ m ∧
    ∀ u ≤ m, P g (owner (build g m) x) x ≤ P g u x :=
  ⟨(build_inv g m).1, owner_build_le g m x, fun u hu => owner_build_min g m x u hu⟩

/-- **C05-T2 (`distance` is the exact squared Euclidean transform, any rank and shape).** Let `bw`
be an image of any rank and shape with at least one background pixel (`bw = 0`). After the passes of
the 1-D kernel along every axis, started from 0 on the background and the Python fill value
(`2·max(shape)²+1` for 2-D, `Σ shape²+1` otherwise) on the foreground, the value at every pixel `p` is
a lower bound of the squared distance to every background pixel and is attained by one:
it *is* the minimum squared Euclidean distance to the background. -/
theorem C05_distance_exact (shape : List Nat) (bw : Array Int) (p : List Int)
    (hp : inside shape p = true)
    (hbg : ∃ q0, inside shape q0 = true ∧ bw.getD (ravelI shape q0) 0 = 0) :
    (∀ q, inside shape q = true → bw.getD (ravelI shape q) 0 = 0 →
        (distanceCoord shape bw).1.getD p 0 ≤ sqDist p q) ∧
    (∃ q, inside shape q = true ∧ bw.getD (ravelI shape q) 0 = 0 ∧
        (distanceCoord shape bw).1.getD p 0 = sqDist p q) := by
  obtain ⟨n, hn, _, hbn, hval, hmin⟩ := nd_core shape bw p hp hbg
  have hoin := C01.inside_unravelI shape n hn
  have horav := C01.ravelI_unravelI shape n hn
  refine ⟨fun q hq hb => by rw [hval]; exact hmin q hq hb, unravelI shape n, hoin, ?_, hval⟩
  rw [horav]; exact hbn

/-- **C05-T2c (the passes use the 1-D kernel).** The value a pass writes at a pixel is the entry of
`dt1d` (the model of `dist_transform` that the correspondence check compares with the native
`_distance.dt` on arbitrary sampled lines) for the line through that pixel: by T1 it is
`min_t (p_ax − t)² + F(p[ax := t])`. -/
theorem C05_pass_is_dt1d (fo : Img Int × Img Int) (ax : Nat) (p : List Int)
    (hp : inside fo.1.shape p = true) (hax : ax < fo.1.shape.length) :
    (passCoord fo ax).1.getD p 0 = (dt1d (lineOf fo.1 p ax)).getD (p.getD ax 0).toNat 0 ∧
    (passCoord fo ax).1.getD p 0 = minPlus1d (lineOf fo.1 p ax) (p.getD ax 0).toNat := by
  obtain ⟨h0, h1⟩ := C01.inside_getD fo.1.shape p ax hp hax
  have hq : (p.getD ax 0).toNat < (lineOf fo.1 p ax).size := by rw [lineOf_size]; omega
  have hv := passCoord_fst_getD fo ax p hp
  refine ⟨by rw [hv, dt1d_getD _ _ hq], ?_⟩
  rw [hv, ← dt1d_getD _ _ hq, C05_dt1d_lower_envelope]
  exact getD_map_range _ _ _ 0 hq

/-- **C05-T2a (0 on the background).** A background pixel (`bw = 0`) has squared distance 0 in the value image of
`distanceCoord`: it is its own nearest background pixel. -/
theorem C05_distance_background_zero (shape : List Nat) (bw : Array Int) (p : List Int)
    (hp : inside shape p = true) (hb : bw.getD (ravelI shape p) 0 = 0) :
    (distanceCoord shape bw).1.getD p 0 = 0 := by
  obtain ⟨h1, q, _, _, h2⟩ := C05_distance_exact shape bw p hp ⟨p, hp, hb⟩
  have := h1 p hp hb
  rw [sqDist_self] at this
  have := sqDist_nonneg p q
  omega

/-- **C05-T2b (no background).** If no pixel is background, every pixel gets a value larger than
the largest squared distance attainable inside the array, `Σ (shape_d − 1)²`. -/
theorem C05_distance_no_background (shape : List Nat) (bw : Array Int) (p : List Int)
    (hp : inside shape p = true)
    (hno : ∀ q, inside shape q = true → bw.getD (ravelI shape q) 0 ≠ 0) :
    maxDist2 shape < (distanceCoord shape bw).1.getD p 0 := by
  obtain ⟨n, hn, _, hval, _⟩ := nd_final shape bw p hp
  have hoin := C01.inside_unravelI shape n hn
  have horav := C01.ravelI_unravelI shape n hn
  rw [f0_getD shape bw _ hoin, if_neg (hno _ hoin)] at hval
  have h1 := maxDist2_lt_sentinel shape (C01.inside_dims_pos shape p hp)
  have h2 := sqDist_nonneg p (unravelI shape n)
  omega

/-- **C05-T3 (`gvoronoi` assigns a nearest label).** For a label image `lab` (any rank/shape, at
least one labelled pixel) the origin tracked through the passes (background of the transform =
labelled pixels) is, at every pixel `p`, a *labelled* pixel at minimum squared Euclidean distance
from `p`; the output `lab.flat[orig]` is its label; labelled pixels keep their own label. -/
theorem C05_gvoronoi_nearest (shape : List Nat) (lab : Array Int) (hsz : lab.size = shapeSize shape)
    (p : List Int) (hp : inside shape p = true)
    (hlab : ∃ q0, inside shape q0 = true ∧ lab.getD (ravelI shape q0) 0 ≠ 0) :
    let bw := lab.map fun l => if l == 0 then (1 : Int) else 0
    let o := unravelI shape ((distanceCoord shape bw).2.getD p 0).toNat
    inside shape o = true ∧
    lab.getD ((distanceCoord shape bw).2.getD p 0).toNat 0 = lab.getD (ravelI shape o) 0 ∧
    lab.getD (ravelI shape o) 0 ≠ 0 ∧
    (∀ q, inside shape q = true → lab.getD (ravelI shape q) 0 ≠ 0 → sqDist p o ≤ sqDist p q) ∧
    (lab.getD (ravelI shape p) 0 ≠ 0 → o = p) := by
  intro bw o
  have hbw : ∀ i, i < shapeSize shape → (bw.getD i 0 = 0 ↔ lab.getD i 0 ≠ 0) := by
    intro i hi
    have hi' : i < lab.size := by rw [hsz]; exact hi
    simp only [bw, Array.getD_eq_getD_getElem?, Array.getElem?_map, Array.getElem?_eq_getElem hi',
      Option.map_some, Option.getD_some]
    by_cases h : lab[i] = 0 <;> simp [h]
  obtain ⟨q0, hq0, hl0⟩ := hlab
  obtain ⟨n, hn, ho, hbn, _, hmin⟩ := nd_core shape bw p hp
    ⟨q0, hq0, (hbw _ (C01.ravelI_lt shape q0 hq0)).2 hl0⟩
  have hoin := C01.inside_unravelI shape n hn
  have horav := C01.ravelI_unravelI shape n hn
  have hon : o = unravelI shape n := by simp only [o, ho, Int.toNat_natCast]
  rw [hon, horav, ho, Int.toNat_natCast]
  refine ⟨hoin, rfl, (hbw n hn).1 hbn, ?_, ?_⟩
  · intro q hq hlq
    exact hmin q hq ((hbw _ (C01.ravelI_lt shape q hq)).2 hlq)
  · intro hlp
    have := hmin p hp ((hbw _ (C01.ravelI_lt shape p hp)).2 hlp)
    rw [sqDist_self] at this
    have h0 : sqDist p (unravelI shape n) = 0 := le_antisymm this (sqDist_nonneg _ _)
    exact (sqDist_eq_zero p _ (by rw [C01.inside_length hp, C01.inside_length hoin]) h0).symm

/-- non-vacuity: a 2×2×3 image with one background pixel, and an all-foreground one -/
example : (distanceCoord [2, 2, 3] #[1, 1, 1, 1, 1, 1, 1, 1, 1, 1, 0, 1]).1.data
    = #[3, 2, 3, 2, 1, 2, 2, 1, 2, 1, 0, 1] := by decide +kernel
example : (distanceCoord [4] #[1, 1, 1, 1]).1.data = #[17, 17, 17, 17] ∧ maxDist2 [4] = 9 := by
  decide +kernel

/-- non-vacuity: a line with two zeros, a large fill value and ties -/
example : dt1d #[5, 9, 0, 9, 9, 1] = [4, 1, 0, 1, 2, 1] := by decide +kernel
example : (List.range 6).map (minPlus1d #[5, 9, 0, 9, 9, 1]) = [4, 1, 0, 1, 2, 1] := by decide +kernel

/-- **C05-T2d (`py_dt` on ANY strided 2-D view = the two coordinate-level passes).** `pyDt` is the
transliteration of `py_dt` of `_distance.cpp`: for `k = 0, 1` the `size/dim(k)` lines that
start at `data + start·strides[1−k]` are handed to `dist_transform` with stride `strides[k]`, which
reads the line, stages `Df`/`ot` and copies them back. For every buffer pair (values, origins), every
shape `(d0, d1)` with positive sides and every data pointer / element strides `b, s0, s1` (any sign,
any order: C, Fortran, transposed, reversed, sliced, `(1, n)` rows …) such that the view addresses are
inside the buffer and pairwise distinct (`ViewOK`, what numpy guarantees for a non-overlapping view;
likewise for `orig`): the logical images read through the views after the call are exactly
`passCoord (passCoord · 0) 1` of the logical images before the call, the buffers keep their sizes, and
every buffer element outside the view is unchanged. -/
theorem C05_strided_eq_coord (fo : Array Int × Array Int) (d0 d1 : Nat) (b s0 s1 ob os0 os1 : Int)
    (hd0 : 0 < d0) (hd1 : 0 < d1)
    (hv : ViewOK fo.1.size d0 d1 b s0 s1) (ho : ViewOK fo.2.size d0 d1 ob os0 os1) :
    (logical2 (pyDt fo d0 d1 b s0 s1 ob os0 os1).1 d0 d1 b s0 s1,
     logical2 (pyDt fo d0 d1 b s0 s1 ob os0 os1).2 d0 d1 ob os0 os1) =
      passCoord (passCoord (logical2 fo.1 d0 d1 b s0 s1, logical2 fo.2 d0 d1 ob os0 os1) 0) 1 ∧
    (pyDt fo d0 d1 b s0 s1 ob os0 os1).1.size = fo.1.size ∧
    (pyDt fo d0 d1 b s0 s1 ob os0 os1).2.size = fo.2.size ∧
    (∀ x, (∀ i < d0, ∀ j < d1, addr2 b s0 s1 i j ≠ x) →
      (pyDt fo d0 d1 b s0 s1 ob os0 os1).1.getD x 0 = fo.1.getD x 0) ∧
    (∀ x, (∀ i < d0, ∀ j < d1, addr2 ob os0 os1 i j ≠ x) →
      (pyDt fo d0 d1 b s0 s1 ob os0 os1).2.getD x 0 = fo.2.getD x 0) := by
  have h := pyDt_logical fo d0 d1 b s0 s1 ob os0 os1 hd0 hd1 hv.addrOK ho.addrOK
  exact ⟨h.view, h.size1, h.size2, fun x hx => h.frame1 x (posAddr2_ne hx), fun x hx => h.frame2 x (posAddr2_ne hx)⟩

/-- **C05-T2e (the `(1, n)` views of the n-D loop).** What `distance.py` does for arrays
that are not 2-D: for one axis, every line (enumerated by its first element, in `np.ndindex` order)
is passed to `py_dt` as a `(1, n)` view with strides `(0, stride_ax)`. (a) On such a view `py_dt` is
exactly one `dist_transform` of the row (the pass along the length-1 axis changes nothing).
(b) The whole loop over the lines of axis `ax` — on C-contiguous buffers of any rank and shape —
produces the data of `passCoord · ax`. -/
theorem C05_row_views_eq_coord :
    (∀ (fo : Array Int × Array Int) (n i st : Nat), 0 < n →
      pyDt fo 1 n (i : Int) 0 (st : Int) (i : Int) 0 (st : Int) =
        dtLineA fo (fun t => i + t * st) (fun t => i + t * st) n) ∧
    (∀ (shape : List Nat) (ax : Nat) (A O : Img Int), ax < shape.length →
      A.shape = shape → O.shape = shape → A.data.size = shapeSize shape → O.data.size = shapeSize shape →
      passAxis shape ax (A.data, O.data) = ((passCoord (A, O) ax).1.data, (passCoord (A, O) ax).2.data)) :=
  ⟨fun fo n i st _ => pyDt_row fo n i st,
   fun shape ax A O hax hA hO hAs hOs => passAxis_coord shape ax hax A O hA hO hAs hOs⟩

/-- **C05-T2f (the model of the code = the coordinate-level passes, every rank and shape).**
`distanceModel` — `f = zeros(shape)` filled with the Python sentinel, `orig = arange(size)`, then
`py_dt` on the whole C-contiguous array when it is 2-D and the loop over axes and `(1, n)` line views
otherwise — returns exactly the value and origin arrays of `distanceCoord`, for every shape (empty
axes included) and every input of matching size. -/
theorem C05_model_eq_coord (shape : List Nat) (bw : Array Int) (hsz : bw.size = shapeSize shape) :
    (distanceModel shape bw).1 = (distanceCoord shape bw).1.data ∧
    (distanceModel shape bw).2 = (distanceCoord shape bw).2.data := by
  rw [distanceModel_eq_coord shape bw hsz]
  exact ⟨rfl, rfl⟩

/-- **C05-T2 for the model of the code (`C05_distance_exact` transferred).** With some background
pixel, the flat output of `distanceModel` at the C-order index of every pixel `p` is a lower bound of
the squared distance from `p` to every background pixel and equals the squared distance to one of
them — for every rank and shape. -/
theorem C05_model_exact (shape : List Nat) (bw : Array Int) (hsz : bw.size = shapeSize shape)
    (p : List Int) (hp : inside shape p = true)
    (hbg : ∃ q0, inside shape q0 = true ∧ bw.getD (ravelI shape q0) 0 = 0) :
    (∀ q, inside shape q = true → bw.getD (ravelI shape q) 0 = 0 →
        (distanceModel shape bw).1.getD (ravelI shape p) 0 ≤ sqDist p q) ∧
    (∃ q, inside shape q = true ∧ bw.getD (ravelI shape q) 0 = 0 ∧
        (distanceModel shape bw).1.getD (ravelI shape p) 0 = sqDist p q) := by
  obtain ⟨h1, _, _, _⟩ := distanceCoord_good shape bw
  have hget := Img.getD_inside (distanceCoord shape bw).1 p 0 (h1.symm ▸ hp)
  rw [h1] at hget
  rw [(C05_model_eq_coord shape bw hsz).1, ← hget]
  exact C05_distance_exact shape bw p hp hbg

/-- **C05 (`metric='euclidean'`).** In the wrapper model the result for `metric='euclidean'` is the
element-wise IEEE square root (`np.sqrt(f, f)`; `Float.sqrt` is the correctly rounded C `sqrt`) of the
double array holding the squared transform, which is the result for `'euclidean2'`: element `i` is
`sqrt(double(distanceModel[i]))`. -/
theorem C05_euclidean_is_sqrt (shape : List Nat) (bw : Array Int) :
    distanceWrapper shape bw true = (distanceWrapper shape bw false).map Float.sqrt ∧
    distanceWrapper shape bw false = (distanceModel shape bw).1.map Float.ofInt ∧
    ∀ i (h : i < (distanceModel shape bw).1.size),
      (distanceWrapper shape bw true)[i]? = some (Float.sqrt (Float.ofInt (distanceModel shape bw).1[i])) := by
  refine ⟨rfl, rfl, ?_⟩
  intro i h
  simp [distanceWrapper, h]

/-- **C05 (separation of intersection abscissae).** Two distinct fractions with positive denominators
at most `D` differ by at least `1/D²`; a fraction that is not the integer `q` differs from it by at
least `1/b`. (The abscissae of the kernel are integers over `2(v−u) ≤ 2n`.) -/
theorem C05_abscissa_separation (a c : ℤ) (b d D : ℕ) (hb : 0 < b) (hd : 0 < d) (hbD : b ≤ D) (hdD : d ≤ D) :
    ((a : ℚ) / b ≠ (c : ℚ) / d → 1 / (D : ℚ) ^ 2 ≤ |(a : ℚ) / b - (c : ℚ) / d|) ∧
    ((a : ℚ) / b ≠ (c : ℚ) → 1 / (b : ℚ) ≤ |(a : ℚ) / b - (c : ℚ)|) :=
  ⟨fun h => frac_separation_bound a c b d D hb hd hbD hdD h, fun h => frac_separation_int a c b hb h⟩

/-- **C05 (the double-vs-rational assumption, made precise and discharged).** `AbscissaExact rnd g n`
says: every comparison the C code makes — a rounded abscissa `rnd (s(u,v))` against another rounded
abscissa, or against an integer `q ≤ n` — has the same outcome as the exact rational comparison.
It holds for every rounding function that is monotone, has relative error at most `2⁻⁵³` and is exact
on integers up to `2⁵³` (`Rounding`: what one IEEE-754 binary64 round-to-nearest division gives in the
normal range; bit patterns are not modelled) whenever the sampled values are integers with
`|g i| + i² ≤ B` and `4·n²·B < 2⁵³` — in particular for lines of at most `2¹²` elements with values
in `[0, 2²⁶]` (the sentinels and all intermediate pass values of arrays with sides below `2¹²`, rank ≤ 4). -/
theorem C05_abscissa_exact_of_bounds (rnd : ℚ → ℚ) (hr : Rounding rnd) (g : ℕ → ℚ) (mi : ℕ → ℤ) (n : ℕ)
    (hg : ∀ i ≤ n, g i = (mi i : ℚ)) :
    (∀ B : ℚ, (∀ i ≤ n, |g i| + (i : ℚ) ^ 2 ≤ B) → 4 * (n : ℚ) ^ 2 * B < 2 ^ 53 → AbscissaExact rnd g n) ∧
    (n < 2 ^ 12 → (∀ i ≤ n, 0 ≤ g i) → (∀ i ≤ n, g i ≤ 2 ^ 26) → AbscissaExact rnd g n) :=
  ⟨fun B hgB hB => abscissaExact_of_bounds rnd hr g mi n B hg hgB hB,
   fun hn hlo hhi =>
    abscissaExact_of_range rnd hr g mi n 4095 (2 ^ 26) (by omega) hg hlo hhi (by norm_num)⟩

/-- **C05 (the kernel with rounded abscissae selects the same owners).** `owners1dR rnd` is the model
of `dist_transform` in which every abscissa is rounded (`s = rnd(…)`, stored in `z`, compared with
stored `z` and with integers) — `buildR`/`popToR`/`pushR` instead of `build`/`popTo`/`push`. Under
`AbscissaExact` it returns the same owners as the exact-rational model the theorems T1–T3 are about;
hence for every `Rounding` and every line of at most `2¹²` values in `[0, 2²⁶]` the two kernels agree. -/
theorem C05_rounded_kernel_same_owners (rnd : ℚ → ℚ) (f : Array Int) :
    (AbscissaExact rnd (gOf f) (f.size - 1) → owners1dR rnd f = owners1d f) ∧
    (Rounding rnd → f.size ≤ 2 ^ 12 → (∀ i, 0 ≤ f.getD i 0) → (∀ i, f.getD i 0 ≤ 2 ^ 26) →
      owners1dR rnd f = owners1d f) :=
  ⟨owners1dR_eq rnd f,
   fun hr hs hlo hhi => owners1dR_eq_of_bound rnd hr f 4095 (2 ^ 26) hs hlo hhi (by norm_num)⟩

/-- **C05 (doubles decide like rationals on every line of every pass).** For every shape whose sides are
at most `2¹²` and whose Python sentinel is at most `2²⁶` (every 2-D and 3-D array with sides `≤ 2¹²`,
every 4-D array with sides `< 2¹²`), every input, every pass `k` and every pixel `p`: all values of the
image before pass `k` lie in `[0, sentinel]` (each pass can only lower a value and keeps it non-negative),
hence the line through `p` along axis `k` — the argument of the 1-D kernel in that pass — gets the same
owners from the kernel with rounded abscissae (`owners1dR rnd`, any `Rounding`) as from the exact model. -/
theorem C05_rounded_passes_same_owners (rnd : ℚ → ℚ) (hr : Rounding rnd) (shape : List Nat) (bw : Array Int)
    (hside : ∀ d ∈ shape, d ≤ 2 ^ 12) (hsent : sentinel shape ≤ 2 ^ 26)
    (k : Nat) (hk : k < shape.length) (p : List Int) :
    Bounded (sentinel shape) ((List.range k).foldl passCoord (initCoord shape bw)).1 ∧
    owners1dR rnd (lineOf ((List.range k).foldl passCoord (initCoord shape bw)).1 p k) =
      owners1d (lineOf ((List.range k).foldl passCoord (initCoord shape bw)).1 p k) :=
  ⟨(passes_bounded shape bw k (by omega)).1, lines_rounded_same rnd hr shape bw hside hsent k hk p⟩

/-- non-vacuity of the size hypotheses: the largest 2-D, 3-D and 4-D shapes covered -/
example : sentinel [4096, 4096] ≤ 2 ^ 26 ∧ sentinel [4096, 4096, 4096] ≤ 2 ^ 26 ∧
    sentinel [4095, 4095, 4095, 4095] ≤ 2 ^ 26 := by decide

/-- non-vacuity: a reversed-rows, every-other-column view (base 5, strides −4, 2) into a buffer of 8
elements is `ViewOK`; `py_dt` on it transforms the four view elements and leaves the rest alone -/
example : ViewOK 8 2 2 5 (-4) 2 :=
  ⟨by decide, by intro i hi j hj i' hi' j' hj' h; omega⟩
example : (pyDt (#[7, 9, 7, 9, 7, 0, 7, 9], #[0, 1, 2, 3, 4, 5, 6, 7]) 2 2 5 (-4) 2 5 (-4) 2)
    = (#[7, 1, 7, 2, 7, 0, 7, 1], #[0, 5, 2, 5, 4, 5, 6, 5]) := by decide +kernel
/-- non-vacuity: the model of the code on a 2-D and a 3-D image; the wrapper's square root -/
example : (distanceModel [3, 4] #[1, 1, 1, 1, 1, 1, 1, 1, 1, 1, 0, 1]).1
    = #[8, 5, 4, 5, 5, 2, 1, 2, 4, 1, 0, 1] := by decide +kernel
example : (distanceModel [2, 2, 3] #[1, 1, 1, 1, 1, 1, 1, 1, 1, 1, 0, 1]).1
    = #[3, 2, 3, 2, 1, 2, 2, 1, 2, 1, 0, 1] := by decide +kernel
example : Rounding id ∧ AbscissaExact id (fun _ => 0) 5 :=
  ⟨rounding_id, abscissaExact_id _ 5⟩

/-- **C05 (what the rounded whole-image model is).** `distanceRounded rnd` (proof-side definition,
`Proofs/C05Rounded.lean`) starts from the same images as `distanceCoord` (`initCoord`: 0 on the background,
the Python sentinel elsewhere; origins = own flat index) and folds `passCoordR rnd` over the axes in the
same order. `passCoordR rnd` is `passCoord` with the 1-D kernel with ROUNDED abscissae on every line: the
value it writes at a pixel `p` is the entry of `dt1dR rnd` — `(q − v)² + f v` for the owner `v` that
`owners1dR rnd` (first loop `buildR`/`popToR`/`pushR` with every abscissa `rnd (s)`, stored and compared
rounded; read-out walk against the integers) reports at `q = p_ax` — for the line through `p`, and the
origin it writes is the previous origin at that owner. With the identity for `rnd` the kernel is the exact
one. -/
theorem C05_rounded_is_line_kernel (rnd : ℚ → ℚ) :
    (∀ shape bw, distanceRounded rnd shape bw =
        (List.range shape.length).foldl (passCoordR rnd) (initCoord shape bw)) ∧
    (∀ (fo : Img Int × Img Int) (ax : Nat) (p : List Int), inside fo.1.shape p = true →
      ax < fo.1.shape.length →
      (passCoordR rnd fo ax).1.getD p 0 = (dt1dR rnd (lineOf fo.1 p ax)).getD (p.getD ax 0).toNat 0 ∧
      (passCoordR rnd fo ax).2.getD p 0 =
        fo.2.getD (p.set ax ((ownerAtR rnd (lineOf fo.1 p ax) (p.getD ax 0).toNat : Nat) : Int)) 0) ∧
    (∀ f : Array Int, owners1dR id f = owners1d f) :=
  ⟨fun _ _ => rfl,
   fun fo ax p hp hax => by
    obtain ⟨h0, h1⟩ := C01.inside_getD fo.1.shape p ax hp hax
    rw [dt1dR_getD _ _ _ (by rw [lineOf_size]; omega)]
    exact ⟨tabulate_getD _ _ p 0 hp, tabulate_getD _ _ p 0 hp⟩,
   fun f => owners1dR_eq id f (abscissaExact_id _ _)⟩

/-- **C05 (one pass with the rounded kernel).** For ANY pair of images and any axis: if the kernel with
rounded abscissae selects the owners of the exact kernel on the line through every pixel, the rounded pass
returns exactly the pair of images (values and tracked origins) of the exact pass `passCoord`. -/
theorem C05_rounded_pass_exact (rnd : ℚ → ℚ) (fo : Img Int × Img Int) (ax : Nat)
    (h : ∀ p : List Int, owners1dR rnd (lineOf fo.1 p ax) = owners1d (lineOf fo.1 p ax)) :
    passCoordR rnd fo ax = passCoord fo ax :=
  passCoordR_eq_of_owners rnd fo ax h

/-- **C05 (doubles compute the same image as rationals: the whole function).** For every rounding function
with the properties of one IEEE-754 binary64 round-to-nearest division in the normal range (`Rounding`:
monotone, relative error at most `2⁻⁵³`, exact on integers up to `2⁵³`), every rank and shape whose sides
are at most `2¹²` and whose Python sentinel is at most `2²⁶` (the side condition of
`C05_rounded_passes_same_owners`: every 1-D, 2-D and 3-D array with sides `≤ 2¹²`, every 4-D array with
sides `< 2¹²`) and every input `bw`: the whole-image model in which EVERY intersection abscissa of EVERY
kernel call of EVERY pass is rounded returns exactly the same pair of images — values AND tracked origins
— as the exact-rational model `distanceCoord` that T2/T3 are about and that the driver runs. (Induction
over the passes: the images before pass `k` are equal by induction, so the lines are those of the exact
passes, whose values lie in `[0, sentinel]`, so by the separation lemma every comparison on rounded
abscissae has the exact outcome and the same owners are selected line by line.) -/
theorem C05_rounded_image_exact (rnd : ℚ → ℚ) (hr : Rounding rnd) (shape : List Nat) (bw : Array Int)
    (hside : ∀ d ∈ shape, d ≤ 2 ^ 12) (hsent : sentinel shape ≤ 2 ^ 26) :
    distanceRounded rnd shape bw = distanceCoord shape bw :=
  passesR_eq_of_lines rnd _ _ (lines_rounded_same rnd hr shape bw hside hsent)

/-- **C05 (the same, under the general numeric bound).** Same conclusion for every shape whose sides are at
most `N + 1` (indices `0 … N`) with `4·N²·(sentinel + N²) < 2⁵³`: e.g. every 1-D line of up to 5793 samples,
every 2-D array with sides up to 5234 — slightly beyond the round figures `2¹²`/`2²⁶`. -/
theorem C05_rounded_image_exact_of_bound (rnd : ℚ → ℚ) (hr : Rounding rnd) (shape : List Nat)
    (bw : Array Int) (N : ℕ) (hside : ∀ d ∈ shape, d ≤ N + 1)
    (hB : 4 * (N : ℚ) ^ 2 * ((sentinel shape : ℚ) + (N : ℚ) ^ 2) < 2 ^ 53) :
    distanceRounded rnd shape bw = distanceCoord shape bw :=
  passesR_eq_of_lines rnd _ _ (lines_rounded_of_bound rnd hr shape bw N hside hB)

/-- **C05-T2 for the rounded whole-image model (`C05_distance_exact` / `C05_model_exact` transferred).**
Under the side condition of `C05_rounded_image_exact`, with some background pixel: the value that the model
with rounded abscissae returns at every pixel `p` is a lower bound of the squared distance from `p` to every
background pixel and equals the squared distance to one of them; and for an input of matching size the flat
arrays of the model of the code (`distanceModel`: `py_dt` on strided views) are the data of the rounded
model's images (values and origins). -/
theorem C05_rounded_model_exact (rnd : ℚ → ℚ) (hr : Rounding rnd) (shape : List Nat) (bw : Array Int)
    (hside : ∀ d ∈ shape, d ≤ 2 ^ 12) (hsent : sentinel shape ≤ 2 ^ 26) :
    (∀ p, inside shape p = true →
      (∃ q0, inside shape q0 = true ∧ bw.getD (ravelI shape q0) 0 = 0) →
      (∀ q, inside shape q = true → bw.getD (ravelI shape q) 0 = 0 →
          (distanceRounded rnd shape bw).1.getD p 0 ≤ sqDist p q) ∧
      (∃ q, inside shape q = true ∧ bw.getD (ravelI shape q) 0 = 0 ∧
          (distanceRounded rnd shape bw).1.getD p 0 = sqDist p q)) ∧
    (bw.size = shapeSize shape →
      (distanceModel shape bw).1 = (distanceRounded rnd shape bw).1.data ∧
      (distanceModel shape bw).2 = (distanceRounded rnd shape bw).2.data) := by
  rw [C05_rounded_image_exact rnd hr shape bw hside hsent]
  exact ⟨fun p hp hbg => C05_distance_exact shape bw p hp hbg, fun hsz => C05_model_eq_coord shape bw hsz⟩

/-- **C05-T3 for the rounded whole-image model (`C05_gvoronoi_nearest` transferred).** Under the side
condition of `C05_rounded_image_exact`: the origin tracked through the passes with rounded abscissae is, at
every pixel, a labelled pixel at minimum squared Euclidean distance; labelled pixels keep their label. -/
theorem C05_rounded_gvoronoi_nearest (rnd : ℚ → ℚ) (hr : Rounding rnd) (shape : List Nat) (lab : Array Int)
    (hside : ∀ d ∈ shape, d ≤ 2 ^ 12) (hsent : sentinel shape ≤ 2 ^ 26)
    (hsz : lab.size = shapeSize shape) (p : List Int) (hp : inside shape p = true)
    (hlab : ∃ q0, inside shape q0 = true ∧ lab.getD (ravelI shape q0) 0 ≠ 0) :
    let bw := lab.map fun l => if l == 0 then (1 : Int) else 0
    let o := unravelI shape ((distanceRounded rnd shape bw).2.getD p 0).toNat
    inside shape o = true ∧
    lab.getD ((distanceRounded rnd shape bw).2.getD p 0).toNat 0 = lab.getD (ravelI shape o) 0 ∧
    lab.getD (ravelI shape o) 0 ≠ 0 ∧
    (∀ q, inside shape q = true → lab.getD (ravelI shape q) 0 ≠ 0 → sqDist p o ≤ sqDist p q) ∧
    (lab.getD (ravelI shape p) 0 ≠ 0 → o = p) := by
  simp only [C05_rounded_image_exact rnd hr shape _ hside hsent]
  exact C05_gvoronoi_nearest shape lab hsz p hp hlab

/-- non-vacuity: the identity on `ℚ` is a `Rounding`; the rounded whole-image model evaluates on a 2×2×3
image (values and origins) and on a 3×4 image, and agrees with `distanceCoord` there -/
example : Rounding id ∧ (∀ d ∈ [2, 2, 3], d ≤ 2 ^ 12) ∧ sentinel [2, 2, 3] ≤ 2 ^ 26 :=
  ⟨rounding_id, by decide, by decide⟩
example : (distanceRounded id [2, 2, 3] #[1, 1, 1, 1, 1, 1, 1, 1, 1, 1, 0, 1]).1.data
    = #[3, 2, 3, 2, 1, 2, 2, 1, 2, 1, 0, 1] ∧
    (distanceRounded id [2, 2, 3] #[1, 1, 1, 1, 1, 1, 1, 1, 1, 1, 0, 1]).2.data
    = #[10, 10, 10, 10, 10, 10, 10, 10, 10, 10, 10, 10] := by decide +kernel
example : (distanceRounded id [3, 4] #[1, 0, 1, 1, 1, 1, 1, 1, 1, 1, 0, 1]).1.data
    = (distanceCoord [3, 4] #[1, 0, 1, 1, 1, 1, 1, 1, 1, 1, 0, 1]).1.data ∧
    (distanceRounded id [3, 4] #[1, 0, 1, 1, 1, 1, 1, 1, 1, 1, 0, 1]).2.data
    = #[1, 1, 1, 1, 1, 1, 10, 10, 10, 10, 10, 10] := by decide +kernel
example : dt1dR id #[5, 9, 0, 9, 9, 1] = [4, 1, 0, 1, 2, 1] := by decide +kernel

/-- **C05 (binary64 round-to-nearest satisfies the `Rounding` interface).** `rndBin n x` rounds a rational
`x` to a multiple of `2^(⌊log₂|x|⌋ − 52)` (the spacing of the binary64 numbers in the binade of `|x|`), the
integer quotient being chosen by a nearest-integer function `n`; `roundEven` is nearest with ties to even
and `rne53 = rndBin roundEven` is IEEE-754 binary64 `roundTiesToEven` with an unbounded exponent range (what
the hardware division returns whenever the exact quotient has magnitude in the normal range
`[2^-1022, 2^1024)`; bit patterns, infinities and subnormals are not modelled). Proved: (1) `rne53` is a
`Rounding` — monotone, relative error at most `2⁻⁵³`, exact on integers up to `2⁵³`; (2) so is `rndBin n`
for EVERY nearest-integer function `n` (any tie rule); (3) `roundEven` is a nearest-integer function and
resolves ties to the even integer; (4) for `x ≠ 0` the result is `m·2^(e−52)` with an integer significand
`2⁵² ≤ |m| ≤ 2⁵³` at most half a unit from `x/2^(e−52)`: a nearest binary64 value. -/
theorem C05_binary64_is_rounding :
    Rounding rne53 ∧
    (∀ n : ℚ → ℤ, (∀ y, |(n y : ℚ) - y| ≤ 1 / 2) → Rounding (rndBin n)) ∧
    ((∀ y : ℚ, |(roundEven y : ℚ) - y| ≤ 1 / 2) ∧
      ∀ y : ℚ, y - (⌊y⌋ : ℚ) = 1 / 2 → roundEven y % 2 = 0) ∧
    (∀ x : ℚ, x ≠ 0 → ∃ m : ℤ, rne53 x = (m : ℚ) * (2 : ℚ) ^ (Int.log 2 |x| - 52) ∧
      2 ^ 52 ≤ |m| ∧ |m| ≤ 2 ^ 53 ∧ |(m : ℚ) - x / (2 : ℚ) ^ (Int.log 2 |x| - 52)| ≤ 1 / 2) :=
  ⟨rne53_rounding, rndBin_rounding, ⟨roundEven_near, roundEven_tie_even⟩,
   fun x hx => rndBin_significand roundEven roundEven_near x hx⟩

/-- **C05 (every abscissa of `distance()` is 0 or far inside the normal range of binary64).** For sides
`≤ 2¹²` and sentinel `≤ 2²⁶`: on the line of every pass `k` through every pixel, the intersection abscissa
of any two roots `u < v` of the line — the kernel only ever computes abscissae of this form — is `0` or has
magnitude between `2⁻¹³` and `2²⁷`. So the division that produces it neither overflows nor underflows, which
is the range in which `rne53` is the hardware rounding. -/
theorem C05_abscissa_normal_range (shape : List Nat) (bw : Array Int)
    (hside : ∀ d ∈ shape, d ≤ 2 ^ 12) (hsent : sentinel shape ≤ 2 ^ 26)
    (k : Nat) (hk : k < shape.length) (p : List Int) (u v : ℕ) (huv : u < v)
    (hv : v < shape.getD k 0) :
    sInt (gOf (lineOf ((List.range k).foldl passCoord (initCoord shape bw)).1 p k)) u v = 0 ∨
    (1 / 2 ^ 13 ≤ |sInt (gOf (lineOf ((List.range k).foldl passCoord (initCoord shape bw)).1 p k)) u v| ∧
     |sInt (gOf (lineOf ((List.range k).foldl passCoord (initCoord shape bw)).1 p k)) u v| ≤ 2 ^ 27) :=
  lines_abscissa_normal shape bw hside hsent k hk p u v huv hv

/-- **C05 (`distance()` with binary64 abscissae = `distance()` with exact rational abscissae).** The
instance of `C05_rounded_image_exact` at the concrete rounding `rne53`: for every rank and shape with sides
`≤ 2¹²` and sentinel `≤ 2²⁶` and every input, the whole-image model in which every intersection abscissa is
rounded to binary64 (round to nearest, ties to even) returns exactly the images — values and tracked
origins — of `distanceCoord`; hence (with `C05_model_eq_coord`) the flat arrays of `distanceModel`, and with
some background pixel every value is the exact minimum squared distance to the background. No hypothesis
about the rounding remains. -/
theorem C05_binary64_image_exact (shape : List Nat) (bw : Array Int)
    (hside : ∀ d ∈ shape, d ≤ 2 ^ 12) (hsent : sentinel shape ≤ 2 ^ 26) :
    distanceRounded rne53 shape bw = distanceCoord shape bw ∧
    (bw.size = shapeSize shape →
      (distanceModel shape bw).1 = (distanceRounded rne53 shape bw).1.data ∧
      (distanceModel shape bw).2 = (distanceRounded rne53 shape bw).2.data) ∧
    (∀ p, inside shape p = true →
      (∃ q0, inside shape q0 = true ∧ bw.getD (ravelI shape q0) 0 = 0) →
      (∀ q, inside shape q = true → bw.getD (ravelI shape q) 0 = 0 →
          (distanceRounded rne53 shape bw).1.getD p 0 ≤ sqDist p q) ∧
      (∃ q, inside shape q = true ∧ bw.getD (ravelI shape q) 0 = 0 ∧
          (distanceRounded rne53 shape bw).1.getD p 0 = sqDist p q)) :=
  ⟨distanceRounded_rne53_eq shape bw hside hsent,
   (C05_rounded_model_exact rne53 rne53_rounding shape bw hside hsent).2,
   (C05_rounded_model_exact rne53 rne53_rounding shape bw hside hsent).1⟩

/-- non-vacuity: `rne53` really rounds (`1/3 ↦ 6004799503160661·2⁻⁵⁴`, the binary64 number `0x3FD5555555555555`),
and the whole-image model with `rne53` abscissae on a 2×2×3 image -/
example : rne53 (1 / 3) = 6004799503160661 / 18014398509481984 ∧ rne53 (1 / 3) ≠ 1 / 3 := by
  rw [rne53_one_third]; norm_num
example : (distanceRounded rne53 [2, 2, 3] #[1, 1, 1, 1, 1, 1, 1, 1, 1, 1, 0, 1]).1.data
    = #[3, 2, 3, 2, 1, 2, 2, 1, 2, 1, 0, 1] := by
  rw [(C05_binary64_image_exact [2, 2, 3] _ (by decide) (by decide)).1]
  decide +kernel
/-- non-vacuity of the general bound: a line of 5793 samples and a 5234×5234 image are covered -/
example : 4 * ((5792 : ℕ) : ℚ) ^ 2 * ((sentinel [5793] : ℚ) + ((5792 : ℕ) : ℚ) ^ 2) < 2 ^ 53 ∧
    4 * ((5233 : ℕ) : ℚ) ^ 2 * ((sentinel [5234, 5234] : ℚ) + ((5233 : ℕ) : ℚ) ^ 2) < 2 ^ 53 := by
  have h1 : sentinel [5793] = 33558850 := by decide
  have h2 : sentinel [5234, 5234] = 54789513 := by decide
  rw [h1, h2]; norm_num

/-- **C05-T3 for the model of the code, every rank (`gvoronoi` of /repo b51c3d1).** `gvoronoiModel` is
`labeled.flat[orig]` with `orig` tracked by the flat/strided model of `_distance.dt` (`distanceModel`: one call on
the whole array for a 2-D image, the per-axis loop over `(1, n)` line views of `f` and `orig` for every other rank).
For every label image of every rank and shape with at least one labelled pixel, the entry at the C-order index of
every pixel `p` is the label of a labelled pixel `o` at minimum squared Euclidean distance from `p`, and a labelled
pixel keeps its own label. -/
theorem C05_gvoronoi_model_nearest (shape : List Nat) (lab : Array Int) (hsz : lab.size = shapeSize shape)
    (p : List Int) (hp : inside shape p = true)
    (hlab : ∃ q0, inside shape q0 = true ∧ lab.getD (ravelI shape q0) 0 ≠ 0) :
    (gvoronoiModel shape lab).length = shapeSize shape ∧
    ∃ o, inside shape o = true ∧ lab.getD (ravelI shape o) 0 ≠ 0 ∧
      (gvoronoiModel shape lab).getD (ravelI shape p) 0 = lab.getD (ravelI shape o) 0 ∧
      (∀ q, inside shape q = true → lab.getD (ravelI shape q) 0 ≠ 0 → sqDist p o ≤ sqDist p q) ∧
      (lab.getD (ravelI shape p) 0 ≠ 0 → o = p) := by
  obtain ⟨hin, hl, hne, hmin, hkeep⟩ := C05_gvoronoi_nearest shape lab hsz p hp hlab
  unfold gvoronoiModel
  generalize hbw : (lab.map fun l => if l == 0 then (1 : Int) else 0) = bw at hl hin hne hmin hkeep ⊢
  obtain ⟨_, h2, _, h4⟩ := distanceCoord_good shape bw
  have hlt : ravelI shape p < (distanceCoord shape bw).2.data.size := h4 ▸ C01.ravelI_lt shape p hp
  simp only [(C05_model_eq_coord shape bw (by rw [← hbw, Array.size_map]; exact hsz)).2]
  refine ⟨by rw [List.length_map, Array.length_toList, h4], _, hin, hne, ?_, hmin, hkeep⟩
  rw [← hl, Img.getD_inside _ p 0 (h2.symm ▸ hp), h2, List.getD_eq_getElem?_getD, List.getElem?_map,
    Array.getElem?_toList, Array.getElem?_eq_getElem hlt,
    show (distanceCoord shape bw).2.data.getD (ravelI shape p) 0 = _ from dif_pos hlt]
  rfl

/-- non-vacuity: a 2×2×3 label image (rank 3: the per-axis path) and a 1-D one through the model of the code;
the pixel `(0,0,0)` of the first is at distance² 2 from label 5 at `(0,1,1)` and 3 from label 7 at `(1,1,1)`. -/
example : gvoronoiModel [2, 2, 3] #[0, 0, 0, 0, 5, 0, 0, 0, 0, 0, 7, 0] = [5, 5, 5, 5, 5, 5, 7, 7, 7, 7, 7, 7] ∧
    gvoronoiModel [5] #[0, 2, 0, 0, 9] = [2, 2, 2, 9, 9] := by
  decide +kernel
example : ∃ o, inside [2, 2, 3] o = true ∧
    (gvoronoiModel [2, 2, 3] #[0, 0, 0, 0, 5, 0, 0, 0, 0, 0, 7, 0]).getD (ravelI [2, 2, 3] [1, 0, 2]) 0
      = (#[0, 0, 0, 0, 5, 0, 0, 0, 0, 0, 7, 0] : Array Int).getD (ravelI [2, 2, 3] o) 0 := by
  obtain ⟨_, o, ho, _, h, _⟩ := C05_gvoronoi_model_nearest [2, 2, 3] #[0, 0, 0, 0, 5, 0, 0, 0, 0, 0, 7, 0] (by decide)
    [1, 0, 2] (by decide) ⟨[0, 1, 1], by decide, by decide⟩
  exact ⟨o, ho, h⟩

/-- **C05 (source tie: `distance` and `gvoronoi` reach `_distance.dt` only; nothing reaches `distance_multi`).**
About `Generated.argLinkTable`, which `translator/links.py` regenerates on every run from the Python sources of
`/repo` (one row per call of a native entry point in the body of a top-level wrapper): the rows of
`distance.distance` are exactly two calls of `_distance.dt` (the 2-D call and the call in the per-axis line loop) and
the rows of `segmentation.gvoronoi` likewise; **no wrapper of the package calls `_morph.distance_multi`** (the inexact
n-D propagation kernel that `_morph.cpp` contains: T4–T6 of the design are moot as long as this theorem compiles); the
transformed array `f` handed to the 2-D call is, textually, `np.zeros(bw.shape, np.double)` in both wrappers — a
float64 array, so `dist_transform<float>` (the float32 instantiation of the kernel, whose abscissae would be rounded
to 24 bits) is not reachable from either wrapper and the binary64 analysis (`C05_binary64_image_exact`) is the one that
applies; `distance` passes `None` for `orig` at both calls. Re-introducing a `distance_multi` call, or building `f`
with another dtype, makes `lake build` (hence `./check C05`) fail. -/
theorem C05_wrappers_reach_only_dt :
    ((Generated.argLinkTable.filter fun e => e.1 == "distance.distance").map fun e => (e.2.1, e.2.2.1))
      = [("_distance.dt", 0), ("_distance.dt", 1)] ∧
    ((Generated.argLinkTable.filter fun e => e.1 == "segmentation.gvoronoi").map fun e => (e.2.1, e.2.2.1))
      = [("_distance.dt", 0), ("_distance.dt", 1)] ∧
    (Generated.argLinkTable.all fun e => e.2.1 != "_morph.distance_multi") = true ∧
    Generated.links_distance_distance__distance_dt
      = [("f", .other "np.zeros(bw.shape, np.double)"), ("orig", .noneLit)] ∧
    Generated.links_distance_distance__distance_dt_1.getD 1 default = ("orig", .noneLit) ∧
    Generated.links_segmentation_gvoronoi__distance_dt.getD 0 default
      = ("f", .other "np.zeros(bw.shape, np.double)") := by
  decide +kernel

/-- **C05 (the integers the kernel forms are exact doubles).** `dist_transform<double>` (/repo `8ed1f44`) takes the
squares `q*q`, `v[k]*v[k]`, `(q − v[k])²` in `double` (32-bit `int` products are wrong from axis length 46 342 on). For
every axis of at most `2²⁶` pixels and every sampled function with values in `[0, 2⁵²]` (the fill values of `distance` /
`gvoronoi` and all intermediate pass values are far below; any bound `b` with `b + 2⁵² ≤ 2⁵³` would do), every integer the kernel computes before the one division —
the three squares, `f[q] + q²`, `f[v] + v²`, their difference (the numerator of the abscissa) and the read-out value
`(q − v)² + f[v]` — has magnitude below `2⁵³`, i.e. is an exactly representable double: up to that size the C arithmetic
agrees with the unbounded integers of the model, and the only rounded operation is the division analysed in
`C05_binary64_image_exact`. (An `int` index bounds the axis length by `2³¹`; beyond `2²⁶·√2` pixels `q²` itself stops being
an exact double.) -/
theorem C05_kernel_integers_below_2p53 (n q v fq fv : Int) (hn : n ≤ 2 ^ 26) (hv : 0 ≤ v) (hvq : v < q) (hq : q < n)
    (hfq : 0 ≤ fq ∧ fq ≤ 2 ^ 52) (hfv : 0 ≤ fv ∧ fv ≤ 2 ^ 52) :
    q * q < 2 ^ 52 ∧ v * v < 2 ^ 52 ∧ (q - v) * (q - v) < 2 ^ 52 ∧
    fq + q * q < 2 ^ 53 ∧ fv + v * v < 2 ^ 53 ∧
    -(2 ^ 53) < (fq + q * q) - (fv + v * v) ∧ (fq + q * q) - (fv + v * v) < 2 ^ 53 ∧
    (q - v) * (q - v) + fv < 2 ^ 53 := by
  -- each square is that of an integer in `[0, 2^26 - 1]`, hence in `[0, 2^52)`
  have sq : ∀ x : Int, 0 ≤ x → x < 2 ^ 26 → 0 ≤ x * x ∧ x * x < 2 ^ 52 := fun x h0 h1 =>
    ⟨Int.mul_nonneg h0 h0,
     (Int.mul_le_mul (Int.le_sub_one_of_lt h1) (Int.le_sub_one_of_lt h1) h0 (by norm_num)).trans_lt
       (by norm_num)⟩
  obtain ⟨a0, a1⟩ := sq q (by omega) (by omega)
  obtain ⟨b0, b1⟩ := sq v hv (by omega)
  obtain ⟨c0, c1⟩ := sq (q - v) (by omega) (by omega)
  generalize q * q = A at *
  generalize v * v = B at *
  generalize (q - v) * (q - v) = C at *
  omega

/-- non-vacuity: the first axis length at which 32-bit `int` products overflow, and the largest covered one -/
example : (46341 : Int) * 46341 > 2 ^ 31 - 1 ∧ (46341 : Int) * 46341 < 2 ^ 52 ∧ ((2 : Int) ^ 26 - 1) * (2 ^ 26 - 1) < 2 ^ 52 := by
  norm_num
