/-
C03 — property theorems about `labelModel`, the executable model of `mahotas.label`
(the driver runs `labelModel Mode.constant`).
-/
import Mahotas.Proofs.C03Label
import Mahotas.Proofs.C03Spec
import Mahotas.Proofs.C03Iter
import Mahotas.Proofs.C03Addr
import Mahotas.Generated.Guards
import Mathlib.Data.Int.Interval
namespace Mahotas.C03
open Mahotas Relation

/-- the adjacency of the property statement on flat (C-order) pixel indices: `x` and `y` are non-zero
    pixels and `y` sits at `position(x) + k` for an offset `k` of the connectivity element, inside the image -/
def Linked (shape : List Nat) (data : List Int) (offs : List (List Int)) (x y : Nat) : Prop :=
  Fg data x ∧ Fg data y ∧ ∃ k ∈ offs,
    inside shape (addPos (unravelI shape x) k) = true ∧ y = ravelI shape (addPos (unravelI shape x) k)

end Mahotas.C03

open Mahotas Mahotas.C03 Relation

/-- **C03-T2a (background).** For every shape, image, element and border mode the model of `label`
returns 0 at a pixel exactly when the input pixel is 0. -/
theorem C03_label_zero_iff_background (m : Mode) (shape : List Nat) (data : List Int) (bshape : List Nat)
    (bc : Array Int) (i : Nat) (hi : i < data.length) :
    (labelModel m shape data bshape bc).1.getD i 0 = 0 ↔ data.getD i 0 = 0 :=
  (labelModel_isLabelling m shape data bshape bc).zero i hi

/-- **C03-T2 for an arbitrary border rule**: labels are equal exactly
on the equivalence closure of the edges *the filter iterator yields*; with `Mode.nearest` these include
clamped out-of-image neighbours (`C03_pinned_clamp_defect`). -/
theorem C03_label_same_iff_edges (m : Mode) (shape : List Nat) (data : List Int) (bshape : List Nat)
    (bc : Array Int) (i j : Nat) (fi : Fg data i) (fj : Fg data j) :
    (labelModel m shape data bshape bc).1.getD i 0 = (labelModel m shape data bshape bc).1.getD j 0 ↔
      EqvGen (Edge m shape (offsets bshape bc) data) i j :=
  (labelModel_isLabelling m shape data bshape bc).same i j fi fj

/-- the edges of the scan in `ExtendConstant` mode are the `Linked` relation of the statement -/
theorem C03_edge_eq_linked (shape : List Nat) (data : List Int) (bshape : List Nat) (bc : Array Int)
    (hnd : bshape.length = shape.length) :
    Edge .constant shape (offsets bshape bc) data = Linked shape data (offsets bshape bc) := by
  funext x y
  exact propext (and_congr_right fun _ => and_congr_right fun _ =>
    mem_neighbours_constant shape _ x y fun k hk => by rw [offsets_length bshape bc k hk, hnd])

/-- **C03-T1/T2b (partition).** With the neighbour rule `label` passes (`ExtendConstant`, flagged
neighbours skipped) two non-zero pixels receive the same label exactly when they are linked by a chain of
non-zero pixels, all inside the image, whose consecutive members differ by an offset of the connectivity
element or its reflection (`SymmGen`). Any rank, shape, image and element of the same rank as the image. -/
theorem C03_label_same_iff_linked (shape : List Nat) (data : List Int) (bshape : List Nat) (bc : Array Int)
    (hnd : bshape.length = shape.length) (i j : Nat) (fi : Fg data i) (fj : Fg data j) :
    (labelModel .constant shape data bshape bc).1.getD i 0 = (labelModel .constant shape data bshape bc).1.getD j 0 ↔
      ReflTransGen (SymmGen (Linked shape data (offsets bshape bc))) i j := by
  rw [C03_label_same_iff_edges .constant shape data bshape bc i j fi fj, EqvGen.reflTransGen_symmGen,
    C03_edge_eq_linked shape data bshape bc hnd]

/-- **C03-T3 (numbering and count).** The labels are the consecutive integers `1..n` in order of first
appearance in C scan order and the returned count is `n`: the output has one entry per pixel; every entry
lies in `[0, n]`; every `k` in `1..n` occurs; and before the first occurrence of a label `l` every smaller
positive label has already occurred (`Consec`: each entry is an old label or exactly the next fresh one). -/
theorem C03_label_numbering (m : Mode) (shape : List Nat) (data : List Int) (bshape : List Nat) (bc : Array Int) :
    let r := labelModel m shape data bshape bc
    r.1.length = data.length ∧ Consec 1 r.1 ∧
    (∀ l ∈ r.1, 0 ≤ l ∧ l ≤ r.2) ∧ (∀ k, 1 ≤ k → k ≤ r.2 → k ∈ r.1) ∧
    (∀ (i : Nat) (l : Int), r.1[i]? = some l → ∀ k, 1 ≤ k → k < l → ∃ j, j < i ∧ r.1[j]? = some k) :=
  have h := labelModel_isLabelling m shape data bshape bc
  ⟨h.length, h.consec, h.range, h.all_occur, Consec.earlier _ 1 h.consec⟩

/-- **C03-T1 (union–find refinement, executable `find`/`join` on the int buffer).** Whenever cell `i` has
a root `r` in the buffer (`RootN`), the model's `find` with the fuel the model passes (`size + 1`) returns
`r`, keeps every cell's root and lengthens no path; `join i j` sends exactly the class of `i` to the root
of `j` and leaves every other class alone. No bound on the buffer size: fuel adequacy is proved
(`RootN.depth_lt`, pigeonhole). -/
theorem C03_union_find_refinement (par : Array Int) (i j ri rj di dj : Nat)
    (hi : RootN par i ri di) (hj : RootN par j rj dj) :
    (find (par.size + 1) par i).2 = ri ∧
    (∀ x rx dx, RootN par x rx dx → ∃ dx', dx' ≤ dx ∧ RootN (find (par.size + 1) par i).1 x rx dx') ∧
    (∀ x rx dx, RootN par x rx dx →
      ∃ dx', RootN (join (par.size + 1) par i j) x (if rx = ri then rj else rx) dx') := by
  have hdi : di ≤ par.size + 1 := by have := hi.depth_lt; omega
  have hdj : dj ≤ par.size + 1 := by have := hj.depth_lt; omega
  obtain ⟨a, _, c⟩ := find_spec _ par i ri di hi hdi
  exact ⟨a, c, (join_spec _ par i j ri rj di dj hi hj hdi hdj).2.1⟩

/-- **C03-T4 (border semantics).** In `ExtendConstant` mode, the one `label` passes, the neighbours the scan
retrieves at pixel `x` are exactly the flat indices of the positions `position(x) + k`, `k` an offset of
the element, that lie inside the image: no clamped edge is processed. -/
theorem C03_neighbours_inside_image (shape : List Nat) (bshape : List Nat) (bc : Array Int)
    (hnd : bshape.length = shape.length) (x y : Nat) :
    y ∈ neighbours .constant shape (offsets bshape bc) (unravelI shape x) ↔
      ∃ k ∈ offsets bshape bc, inside shape (addPos (unravelI shape x) k) = true ∧
        y = ravelI shape (addPos (unravelI shape x) k) :=
  mem_neighbours_constant shape _ x y (by intro k hk; rw [offsets_length bshape bc k hk, hnd])

/-- **F9 for C03 (pixels ↔ positions).** C-order flat indices and positions inside the image are in bijection:
`unravelI` of an in-range index is inside the image and ravels back; a position inside the image ravels to an
in-range index and unravels back. So in `Linked` the neighbour `y = ravelI (pos x + k)` of an in-image position
is automatically a pixel of the image when the image fills its shape, and distinct positions are distinct pixels. -/
theorem C03_index_roundtrip (shape : List Nat) :
    (∀ i, i < shapeSize shape →
      inside shape (unravelI shape i) = true ∧ ravelI shape (unravelI shape i) = i) ∧
    (∀ p : List Int, p.length = shape.length → inside shape p = true →
      ravelI shape p < shapeSize shape ∧ unravelI shape (ravelI shape p) = p) :=
  ⟨fun i hi => ⟨C01.inside_unravelI shape i hi, C01.ravelI_unravelI shape i hi⟩,
    fun p _ h => ⟨C01.ravelI_lt shape p h, C01.unravelI_ravelI shape p h⟩⟩

/-- **C03-T4 (negation for `ExtendNearest`, the mode `label` passed up to /repo cd7a335).** With it the image `[[1,1]]`
with the element `{(-1,-1)}` gets ONE component: the out-of-image neighbour of pixel (0,1) is clamped onto
pixel (0,0). With `ExtendConstant` it gets two, as the specification says. -/
theorem C03_pinned_clamp_defect :
    labelModel .nearest [1, 2] [1, 1] [3, 3] #[1, 0, 0, 0, 0, 0, 0, 0, 0] = ([1, 1], 1) ∧
    labelModel .constant [1, 2] [1, 1] [3, 3] #[1, 0, 0, 0, 0, 0, 0, 0, 0] = ([1, 2], 2) ∧
    specLabels [1, 2] [1, 1] [3, 3] #[1, 0, 0, 0, 0, 0, 0, 0, 0] = ([1, 2], 2) := by
  decide +kernel

/-- **C03 oracle soundness.** `specLabels` — the executable oracle the harness compares the real `label` with,
an implementation written independently of union–find (neighbour-minimum relaxation sweeps to a fixpoint, then
counting roots) — *is* the labelling the statement describes, for every rank, shape, image that fills its shape
and element of the image's rank: one label per pixel; 0 exactly on zero pixels; two non-zero pixels carry the same
label exactly when a chain of non-zero pixels inside the image links them, consecutive members differing by an
offset of the element or its reflection; labels are numbered `1..n` in order of first appearance in C scan order
(`Consec 1`, every label in `[0, n]`, every `k ∈ 1..n` occurs, every smaller positive label occurs earlier) and
the returned count is `n`. The proof shows that the relaxation ends (within the fuel `2·N + 2` the oracle passes:
each full sweep makes at least one more pixel correct) in the state where every non-zero pixel holds the least
flat index of its component. -/
theorem C03_specLabels_sound (shape : List Nat) (data : List Int) (bshape : List Nat) (bc : Array Int)
    (hnd : bshape.length = shape.length) (hlen : data.length = shapeSize shape) :
    let r := specLabels shape data bshape bc
    r.1.length = data.length ∧
    (∀ i, i < data.length → (r.1.getD i 0 = 0 ↔ data.getD i 0 = 0)) ∧
    (∀ i j, Fg data i → Fg data j →
      (r.1.getD i 0 = r.1.getD j 0 ↔ ReflTransGen (SymmGen (Linked shape data (offsets bshape bc))) i j)) ∧
    Consec 1 r.1 ∧ (∀ l ∈ r.1, 0 ≤ l ∧ l ≤ r.2) ∧ (∀ k, 1 ≤ k → k ≤ r.2 → k ∈ r.1) ∧
    (∀ (i : Nat) (l : Int), r.1[i]? = some l → ∀ k, 1 ≤ k → k < l → ∃ j, j < i ∧ r.1[j]? = some k) := by
  intro r
  have h := specLabels_isLabelling shape data bshape bc hnd hlen
  refine ⟨h.length, h.zero, fun i j fi fj => ?_, h.consec, h.range, h.all_occur, Consec.earlier r.1 1 h.consec⟩
  rw [h.same i j fi fj, EqvGen.reflTransGen_symmGen, C03_edge_eq_linked shape data bshape bc hnd]

/-- **C03: the model IS the oracle.** For every rank, shape, image that fills its shape and element of the
image's rank, the transliterated union–find model of `label` returns exactly what the oracle
`specLabels` returns — labels and count. Hence the harness' comparison "real output = `specLabels`" is a
comparison with the proved specification, and its comparison "real output = `labelModel`" is the same check.
Proof: both are the labelling of the same partition (`IsLabelling`: `labelModel_isLabelling`,
`specLabels_isLabelling`), and a partition has one first-appearance labelling (`IsLabelling.unique`, on
`consec_unique`, `count_unique`). -/
theorem C03_model_eq_specLabels (shape : List Nat) (data : List Int) (bshape : List Nat) (bc : Array Int)
    (hnd : bshape.length = shape.length) (hlen : data.length = shapeSize shape) :
    labelModel .constant shape data bshape bc = specLabels shape data bshape bc :=
  (labelModel_isLabelling .constant shape data bshape bc).unique (specLabels_isLabelling shape data bshape bc hnd hlen)

/-- **C03 ↔ F6 (the filter iterator).** The neighbour list the model of `label` uses at the `i`-th pixel of the
scan — `offset k − shape/2` pushed through `fix_offset` per axis (`neighbours`, `offsets`) — is, entry by entry,
what the transliterated `filter_iterator` mechanism (`init_filter_offsets` table over array regions,
`init_filter_iterator` strides/backstrides, `iterate_both`, `retrieve`; `Model/FilterIter.lean`, whose walk the
harness compares with the real `_filters.cpp` under op `f6`) retrieves after `i` steps for the footprint of the
non-zero entries of the element: flagged entries are skipped, any other entry `off` reads the pixel at
`position + off`. Any border mode, any rank, array and element shapes with entries ≥ 1 (element smaller than,
equal to or larger than the image, odd or even). So the closed form is not an extra modelling assumption of C03:
it is the F6 theorem instantiated. -/
theorem C03_neighbours_are_filter_iterator_reads (m : Mode) (shape bshape : List Nat) (bc : Array Int)
    (hlen : shape.length = bshape.length) (ha : ∀ a ∈ shape, 1 ≤ a) (hf : ∀ f ∈ bshape, 1 ≤ f)
    (i : Nat) (hi : i < shapeSize shape) :
    neighbours m shape (offsets bshape bc) (unravelI shape i) =
      (List.range (offsets bshape bc).length).filterMap fun j =>
        retrievedIndex shape (unravelI shape i)
          (FilterIter.retrieve (FilterIter.mkFIter m shape bshape (fpOf bc))
            (FilterIter.stateAfter (FilterIter.mkFIter m shape bshape (fpOf bc)) shape i) j) := by
  unfold neighbours
  conv_lhs => rw [← range_map_getD (offsets bshape bc) [], List.filterMap_map]
  refine filterMap_congr_mem _ fun j hj => ?_
  have hj := List.mem_range.mp hj
  rw [retrieve_eq_neighbour m shape bshape bc hlen ha hf i hi j hj, Function.comp_apply, List.getD_eq_getElem?_getD,
    List.getElem?_eq_getElem hj, Option.getD_some]

/-! non-vacuity: a 3×4 image whose three scan-order fragments merge late (U shape) plus an isolated
    pixel; both hypotheses of the partition theorem are met and the model labels it as the spec does. -/
example :
    let data : List Int := [1, 0, 1, 0,
                            1, 0, 1, 0,
                            1, 1, 1, 1]
    Fg data 0 ∧ Fg data 2 ∧ ([3, 3] : List Nat).length = ([3, 4] : List Nat).length ∧
    labelModel .constant [3, 4] data [3, 3] #[0, 1, 0, 1, 1, 1, 0, 1, 0] =
      ([1, 0, 1, 0, 1, 0, 1, 0, 1, 1, 1, 1], 1) := by
  intro data
  refine ⟨?_, ?_, rfl, ?_⟩
  · unfold Fg; decide
  · unfold Fg; decide
  · decide +kernel

/-! non-vacuity of the oracle theorems: the hypotheses (`bshape.length = shape.length`, the image fills its shape)
    hold for the 3×4 example above, and model and oracle indeed agree there. -/
example :
    let data : List Int := [1, 0, 1, 0,
                            1, 0, 1, 0,
                            1, 1, 1, 1]
    ([3, 3] : List Nat).length = ([3, 4] : List Nat).length ∧ data.length = shapeSize [3, 4] ∧
    specLabels [3, 4] data [3, 3] #[0, 1, 0, 1, 1, 1, 0, 1, 0] =
      ([1, 0, 1, 0, 1, 0, 1, 0, 1, 1, 1, 1], 1) := by
  intro data
  refine ⟨rfl, rfl, ?_⟩
  decide +kernel

/-! non-vacuity of the F6 tie: pixel (0,1) of a 1×2 image under the element `{(-1,-1), (0,-1)}` (3×3): the
    mechanism flags the first entry (outside the image, constant mode) and reads pixel 0 through the second. -/
example :
    (List.range (offsets [3, 3] #[1, 0, 0, 1, 0, 0, 0, 0, 0]).length).filterMap (fun j =>
        retrievedIndex [1, 2] (unravelI [1, 2] 1)
          (FilterIter.retrieve (FilterIter.mkFIter .constant [1, 2] [3, 3] (fpOf #[1, 0, 0, 1, 0, 0, 0, 0, 0]))
            (FilterIter.stateAfter (FilterIter.mkFIter .constant [1, 2] [3, 3] (fpOf #[1, 0, 0, 1, 0, 0, 0, 0, 0])) [1, 2] 1) j))
      = [0] := by
  decide +kernel

/-- **C03 (address-level model = coordinate model).** `labelAddr` is `label()` as the C++ runs it on ADDRESSES: the int32
buffer doubles as the union–find parent array, the scan walks flat indices `i`, and a neighbour is read at address
`i + flatDelta shape k` — the flat delta `Σ_d k_d · Π_{e>d} shape_e` of the footprint entry `k` in the C-contiguous buffer —
unless the offset table holds the border flag for it (`ExtendConstant`, `p + k` outside: `retrieve` returns false). For every
rank, shape, image filling its shape and connectivity element of the image's rank it returns exactly the labels and the
count of the coordinate model `labelModel .constant` (which computes the neighbour's coordinates, applies `fix_offset`
and ravels them), hence of the proved specification `specLabels`. The read of footprint entry `k` at pixel `i` is, as an
`Option`, literally the coordinate model's neighbour: `retrieveAddr shape i k = (fixPos .constant shape (p_i + k)).map ravel`. -/
theorem C03_addr_model_eq_coord (shape : List Nat) (data : List Int) (bshape : List Nat) (bc : Array Int)
    (hb : bshape.length = shape.length) (hsz : data.length = shapeSize shape) :
    labelAddr shape data bshape bc = labelModel .constant shape data bshape bc ∧
    labelAddr shape data bshape bc = specLabels shape data bshape bc ∧
    (∀ i, i < shapeSize shape → ∀ k ∈ offsets bshape bc,
      retrieveAddr shape i k = (fixPos .constant shape (addPos (unravelI shape i) k)).map (ravelI shape)) := by
  have h := labelAddr_eq shape data bshape bc hb hsz
  refine ⟨h, by rw [h, C03_model_eq_specLabels shape data bshape bc hb hsz], fun i hi k hk => ?_⟩
  exact retrieveAddr_eq shape i hi k (by rw [offsets_length bshape bc k hk, hb])

/-- **C03 (every read of the scan is inside the buffer).** Each address `i + delta` at which the address-level scan reads
`labeled[…]` (all pixels `i`, all footprint entries that are not flagged) is `< shapeSize shape`, the number of elements of
the buffer — for every rank, shape and element of the image's rank, elements larger than the image and even-sided ones
included. (A bounds lemma for C10: with `ExtendNearest` the same holds, but the read lands on a clamped border pixel.) -/
theorem C03_addr_reads_in_bounds (shape : List Nat) (n : Nat) (hn : n ≤ shapeSize shape) (bshape : List Nat)
    (bc : Array Int) (hb : bshape.length = shape.length) :
    ∀ a ∈ addrReads shape n (offsets bshape bc), a < shapeSize shape :=
  addrReads_lt shape n hn _

/-- **C03 (source tie: the kernel is handed the OUTPUT buffer, never the caller's input view).** From the argument links
`translator/links.py` regenerates from `labeled.py` on every run: the single call of `_labeled.label` in `label` passes
`_get_output(array, out, …)` for the C parameter `array` — a fresh `np.empty(array.shape, int32)` or the caller's `out`
after `_get_output` has checked its dtype, shape and C-contiguity — and `get_structuring_elem(output, Bc)` for `filter`.
The caller's `array` only goes through numpy's `output[:] = (array != 0)`: whatever its strides, dtype or byte order, the
kernel walks a C-contiguous int32 buffer holding the logical 0/1 content, which is why the address-level model uses the
C strides `Π_{e>d} shape_e` and why the result depends on the input only through `array != 0` in logical order. -/
theorem C03_kernel_sees_output_buffer :
    ((Generated.argLinkTable.filter fun e => e.1 == "labeled.label").map fun e => (e.2.1, e.2.2.1))
      = [("_labeled.label", 0)] ∧
    Generated.links_labeled_label__labeled_label
      = [("array", .output "array" "out"), ("filter", .structElem "array" "Bc")] := by
  decide +kernel

/-- **C03 (documented domain: int32).** The buffer is `int32` and, during the scan, holds flat indices. If the image has
fewer than `2³¹` pixels then the count is at most the number of pixels and every label of the result lies in
`[0, 2³¹)`: nothing the kernel stores at the end overflows the buffer's type. (Beyond `2³¹ − 1` pixels `const int N =
labeled.size()` itself overflows: outside the domain, not reachable with the memory of the test machine.) -/
theorem C03_labels_fit_int32 (m : Mode) (shape : List Nat) (data : List Int) (bshape : List Nat) (bc : Array Int)
    (hN : data.length < 2 ^ 31) :
    (labelModel m shape data bshape bc).2 ≤ data.length ∧
    ∀ l ∈ (labelModel m shape data bshape bc).1, 0 ≤ l ∧ l < 2 ^ 31 := by
  obtain ⟨hlen, _, hrange, hall, _⟩ := C03_label_numbering m shape data bshape bc
  have hcount : (labelModel m shape data bshape bc).2 ≤ data.length := by
    by_contra hgt
    have hgt := not_le.1 hgt
    have hsub : Finset.Icc (1 : Int) (labelModel m shape data bshape bc).2 ⊆
        (labelModel m shape data bshape bc).1.toFinset := by
      intro k hk
      rw [Finset.mem_Icc] at hk
      exact List.mem_toFinset.2 (hall k hk.1 hk.2)
    have h1 := Finset.card_le_card hsub
    have h2 := List.toFinset_card_le (labelModel m shape data bshape bc).1
    rw [Int.card_Icc] at h1
    omega
  refine ⟨hcount, fun l hl => ⟨(hrange l hl).1, ?_⟩⟩
  have := (hrange l hl).2
  omega

/-- non-vacuity: the address-level model on the witness of `C03_pinned_clamp_defect` (`[[1,1]]`, element `{(-1,-1)}`: two components),
on a 2×3 image with the 8-neighbourhood, and with an element LARGER than the image (5×5 on 2×2); the reads of the scan
with their addresses. -/
example :
    labelAddr [1, 2] [1, 1] [3, 3] #[1, 0, 0, 0, 0, 0, 0, 0, 0] = ([1, 2], 2) ∧
    labelAddr [2, 3] [1, 0, 1, 0, 1, 0] [3, 3] #[1, 1, 1, 1, 1, 1, 1, 1, 1] = ([1, 0, 1, 0, 1, 0], 1) ∧
    labelAddr [2, 2] [1, 0, 0, 1] [5, 5] (Array.replicate 25 1) = ([1, 0, 0, 1], 1) ∧
    addrReads [2, 3] 6 (offsets [3, 3] #[0, 1, 0, 1, 1, 1, 0, 1, 0]) =
      [0, 1, 3, 0, 1, 2, 4, 1, 2, 5, 0, 3, 4, 1, 3, 4, 5, 2, 4, 5] ∧
    flatDelta [2, 3] [-1, 1] = -2 := by
  decide +kernel
