/-
C13 — property theorems about the executable models of the region measurements and label-map
utilities (`Model/C13.lean`; the driver runs exactly these definitions, the polymorphic fold at `Int`
and `Float`). Helper lemmas: `Proofs/C13*.lean`, `Proofs/C03Renum.lean`.
-/
import Mahotas.Proofs.C13
import Mahotas.Proofs.C13Maps
import Mahotas.Proofs.C13Regions
import Mahotas.Proofs.C13BBox
import Mahotas.Proofs.C13Com
import Mahotas.Proofs.C13Filter
import Mahotas.Proofs.C13Oracles
import Mahotas.Proofs.C13OraclesNum
import Mahotas.Proofs.C13OraclesFloat
import Mahotas.Proofs.C13Wrappers
import Mahotas.Proofs.C13Rounded
import Mahotas.Proofs.C13Perimeter
import Mahotas.Proofs.Modes
open Mahotas Mahotas.C13 Mahotas.C05

/-- C13-T1 (fold_eq, generic). For every value type, operation `f`, identity `start`, number of
labels `n` and list of `(value, label)` pixels in scan order: slot `l < n` of the model of `labeled_foldl`
is the fold of `f` over exactly the values of the pixels carrying label `l` (negative and too-large labels
are ignored). The driver instantiates this very definition at `Int` and at `Float`. -/
theorem C13_fold_eq {α : Type} (f : α → α → α) (start : α) (n : Nat) (px : List (α × Int)) (l : Nat)
    (hl : l < n) :
    (labeledFold f start n px)[l]? = some ((valuesOf px (l : Int)).foldl (fun r a => f a r) start) ∧
    (labeledFold f start n px).size = n :=
  ⟨labeledFold_slot f start n px l hl, labeledFold_size f start n px⟩

/-- C13-T1 (labeled_sum, integer dtypes). For every integer dtype (generic in its range) the model of
`labeled_sum` returns in slot `l` the sum of the values labelled `l` reduced into the dtype
(two's-complement wrap-around, what `std::plus<T>` stores), hence exactly the sum whenever that sum is
representable — for values of both signs. -/
theorem C13_labeled_sum_int (dt : DT) (wf : dt.WF) (n : Nat) (px : List (Int × Int)) (l : Nat) (hl : l < n) :
    (sumInt dt n px)[l]? = some (dt.wrap (valuesOf px (l : Int)).sum) ∧
    (dt.InRange (valuesOf px (l : Int)).sum → (sumInt dt n px)[l]? = some (valuesOf px (l : Int)).sum) := by
  refine ⟨sumInt_slot dt wf n px l hl, fun hr => ?_⟩
  rw [sumInt_slot dt wf n px l hl, DT.wrap_in dt _ hr]

/-- C13-T1 (labeled_sum, any commutative additive monoid: ℤ, ℚ, ℝ, any ordered field). With exact
arithmetic the slot of label `l` is the sum of the values labelled `l`, whatever their signs. (The driver
runs the same fold at `Float`; there the harness uses dyadic data so that every partial sum is exact.) -/
theorem C13_labeled_sum_exact {α : Type} [AddCommMonoid α] (n : Nat) (px : List (α × Int)) (l : Nat)
    (hl : l < n) :
    (labeledFold (fun a r => a + r) 0 n px)[l]? = some (valuesOf px (l : Int)).sum := by
  rw [labeledFold_slot _ _ n px l hl, foldl_add_comm_sum, zero_add]

/-- C13-T1 (labeled_sum, bool). For boolean images the fold is `or`: the slot is 1 iff some pixel
labelled `l` is set. -/
theorem C13_labeled_sum_bool (n : Nat) (px : List (Int × Int)) (l : Nat) (hl : l < n) :
    (sumInt dtBool n px)[l]? = some (if (valuesOf px (l : Int)).any (· ≠ 0) then 1 else 0) :=
  sumInt_bool_slot n px l hl

/-- C13-T1 (labeled_max / labeled_min, any linearly ordered value type). If the identity element is a
lower bound of the values labelled `l` (for `labeled_max`; an upper bound for `labeled_min`) — i.e. it is
the least/greatest element of the *type*, as `lowest()`/`max()` are — and the label is not empty, the slot
holds the maximum (minimum) of those values: it is one of them and dominates (is dominated by) all of them.
Covers ℤ with any dtype range and every ordered field; NaN-free floats are such an order. -/
theorem C13_labeled_max_min {α : Type} [LinearOrder α] (lowest highest : α) (n : Nat) (px : List (α × Int))
    (l : Nat) (hl : l < n) (hne : valuesOf px (l : Int) ≠ [])
    (hlo : ∀ v ∈ valuesOf px (l : Int), lowest ≤ v) (hhi : ∀ v ∈ valuesOf px (l : Int), v ≤ highest) :
    (∃ m, (labeledFold stdMax lowest n px)[l]? = some m ∧ m ∈ valuesOf px (l : Int) ∧
        ∀ v ∈ valuesOf px (l : Int), v ≤ m) ∧
    (∃ m, (labeledFold stdMin highest n px)[l]? = some m ∧ m ∈ valuesOf px (l : Int) ∧
        ∀ v ∈ valuesOf px (l : Int), m ≤ v) :=
  ⟨labeledFold_stdMax_slot lowest n px l hl hne hlo, labeledFold_stdMax_slot (α := αᵒᵈ) highest n px l hl hne hhi⟩

/-- C13-T1 (labeled_max / labeled_min, integer dtypes). For every integer dtype whose range contains the
data, the models `maxInt`/`minInt` (identities `numeric_limits<T>::lowest()`/`max()` = the ends of the range)
return the maximum / minimum of every non-empty label — for values of both signs. -/
theorem C13_labeled_max_min_int (dt : DT) (n : Nat) (px : List (Int × Int)) (l : Nat) (hl : l < n)
    (hne : valuesOf px (l : Int) ≠ []) (hr : ∀ v ∈ valuesOf px (l : Int), dt.InRange v) :
    (∃ m, (maxInt dt n px)[l]? = some m ∧ m ∈ valuesOf px (l : Int) ∧ ∀ v ∈ valuesOf px (l : Int), v ≤ m) ∧
    (∃ m, (minInt dt n px)[l]? = some m ∧ m ∈ valuesOf px (l : Int) ∧ ∀ v ∈ valuesOf px (l : Int), m ≤ v) :=
  C13_labeled_max_min dt.lo dt.hi n px l hl hne (fun v hv => (hr v hv).1) (fun v hv => (hr v hv).2)

/-- C13-T1/T6 (labeled_size, fullhistogram). Bin `l` of the model of `compute_histogram` counts the
pixels whose value is `l` (non-negative data, `n` bins). -/
theorem C13_histogram_counts (n : Nat) (vals : List Int) (hv : ∀ v ∈ vals, 0 ≤ v) (l : Nat) (hl : l < n) :
    (histogram n vals)[l]? = some ((vals.filter (· == (l : Int))).length) :=
  histogram_slot n vals hv l hl

/-- C13-T4 (relabel). `relabel` maps the label map through one function that fixes 0, is injective on
the labels that occur (so the partition and the background are preserved) and sends every other label to a
positive integer; the new labels are `1..n` in order of first appearance and `n` is returned. -/
theorem C13_relabel_spec (labels : List Int) :
    (∃ f : Int → Int, (relabel labels).1 = labels.map f ∧ f 0 = 0 ∧ (∀ v ∈ labels, v ≠ 0 → 1 ≤ f v) ∧
      (∀ a b, (a ∈ labels ∨ a = 0) → (b ∈ labels ∨ b = 0) → f a = f b → a = b)) ∧
    C03.Consec 1 (relabel labels).1 ∧
    (∀ l ∈ (relabel labels).1, l ≤ (relabel labels).2) ∧
    (∀ k, 1 ≤ k → k ≤ (relabel labels).2 → k ∈ (relabel labels).1) :=
  relabel_spec labels

/-- C13-T4 (is_same_labeling). The model answers `true` exactly when the pairs of corresponding labels,
together with the pair `(0, 0)`, form a partial bijection: equal labels in one map correspond to equal
labels in the other, in both directions, and background corresponds to background — i.e. the maps are
related by a bijection of label values fixing 0. -/
theorem C13_same_labeling_iff (a b : List Int) :
    isSameLabeling a b = true ↔ PBij (fun x y => (x = 0 ∧ y = 0) ∨ (x, y) ∈ a.zip b) := by
  have hl : ∀ x y : Int, ([((0 : Int), (0 : Int))] : List (Int × Int)).lookup x = some y ↔ (x = 0 ∧ y = 0) :=
    fun x y => by
      rw [lookup_cons_iff]
      exact ⟨fun h => h.elim id fun h => (nomatch h.2), Or.inl⟩
  rw [isSameLabeling, sameGo_spec _ _ _ fun x y => by rw [hl, hl]; exact and_comm]
  exact PBij_congr fun x y => or_congr_left (hl x y)

/-- C13-T5 (borders, all six modes). With all axes non-empty the model of `borders` (neighbours through
the transliterated `fix_offset`) marks exactly the pixels having, among the neighbours defined by the
element *and the mathematical border rule of the mode* (edge replication, periodic, reflect, mirror; for
`constant`/`ignore`: inside the image only), one with a different label. -/
theorem C13_borders_spec (m : Mode) (shape : List Nat) (labels : List Int) (offs : List (List Int))
    (hs : ∀ d ∈ shape, 0 < d) : bordersModel m shape labels offs = bordersSpec m shape labels offs :=
  bordersModel_eq_spec m shape labels offs hs

/-- C13-T5 (border(i, j)). The model of `border` marks exactly the pixels labelled `i` having a
neighbour labelled `j` inside the image, and vice versa (structuring element of the rank of the image). -/
theorem C13_border_spec (shape : List Nat) (labels : List Int) (bshape : List Nat) (bc : Array Int)
    (hnd : bshape.length = shape.length) (li lj : Int) :
    borderModel shape labels (C03.offsets bshape bc) li lj = borderSpec2 shape labels (C03.offsets bshape bc) li lj :=
  borderModel_eq_spec shape labels _ li lj (by intro k hk; rw [C04.offsets_length bshape bc k hk, hnd])

/-- C13-T5 (bwperim). `bwperim = (bw ≠ 0) ∧ borders(bw)`: a pixel is marked iff it is non-zero and has, per the
border rule, a neighbour of a different value; on a 0/1 map that is "set with an unset neighbour". `labeled.bwperim`
binarises first (`PyBodyTiesC13.lean`), so only 0/1 maps reach the kernel. -/
theorem C13_bwperim_spec (m : Mode) (shape : List Nat) (bw : List Int) (offs : List (List Int))
    (hs : ∀ d ∈ shape, 0 < d) : bwperim m shape bw offs = bwperimSpec m shape bw offs :=
  bwperim_eq_spec m shape bw offs hs

/-- C13-T4 (remove_bordering). For a label map that fills its shape, the model of `remove_bordering`
(Python slices `[:r]` and `[n-r:]` per axis, including `r = 0` and `r > n`) zeroes exactly the non-zero
regions having a pixel closer than `rsize` to a face of the image. -/
theorem C13_remove_bordering_spec (shape : List Nat) (labels : List Int) (rsize : List Nat)
    (hlen : labels.length = shapeSize shape) :
    removeBordering shape labels rsize = removeBorderingSpec shape labels rsize :=
  removeBordering_eq_spec shape labels rsize hlen

/-- C13-T4 (remove_regions, binary search). On a sorted array `std::binary_search` as transliterated
(`lower_bound` by halving, then `!(x < *it)`) decides membership. -/
theorem C13_binary_search_mem (arr : Array Int) (x : Int)
    (hs : ∀ i j, i < j → j < arr.size → arr.getD i 0 ≤ arr.getD j 0) :
    binarySearch arr x = true ↔ ∃ i, i < arr.size ∧ arr.getD i 0 = x :=
  binarySearch_iff arr x hs

/-- C13-T4 (remove_regions). The model of `remove_regions` — `np.unique` (sort + drop duplicates), then
`std::binary_search` for every non-zero pixel — zeroes exactly the pixels whose label is in `regions`
(any list: unsorted, with duplicates, with labels that do not occur, with 0). -/
theorem C13_remove_regions_spec (labels regions : List Int) :
    removeRegions labels regions = removeRegionsSpec labels regions :=
  removeRegions_eq_spec labels regions

/-- C13-T4 (filter_labeled). For a non-negative label map that fills its shape, the model of
`filter_labeled` — optional `remove_bordering` + `relabel`, sizes by `labeled_size`, the size tests
(`min_size`/`max_size`, 0 = not given), `remove_regions` of the failing labels, final `relabel` — returns the
renumbering (`relabel`, characterised by `C13_relabel_spec`) of the label map in which exactly the selected
regions are zeroed: those touching the border (when asked) and those whose pixel count is below `min_size`
or above `max_size`. Uses that `relabel` is invariant under injective renaming (`relabel_map_inj`). -/
theorem C13_filter_labeled_spec (shape : List Nat) (labels : List Int) (rb : Bool) (minSize maxSize : Nat)
    (hnn : ∀ v ∈ labels, 0 ≤ v) (hlen : labels.length = shapeSize shape) :
    filterLabeled shape labels rb minSize maxSize = relabel (filterKept shape labels rb minSize maxSize) :=
  filterLabeled_eq shape labels rb minSize maxSize hnn hlen

/-- C13-T2 (bbox, generic path). Let `ps` be the positions of the non-zero pixels of an image that fills
its shape. On every axis `j` the model of the generic `bbox` loop leaves in `extrema[2j]`, `extrema[2j+1]`
a box that contains every non-zero pixel (`lo ≤ p_j < hi`) and, when there is such a pixel, is tight: the
lower bound is attained by a non-zero pixel and so is the upper bound (`p_j + 1 = hi`). Any rank and shape. -/
theorem C13_bbox_generic_tight (shape : List Nat) (data : List Int) (hlen : data.length = shapeSize shape)
    (j : Nat) (hj : j < shape.length) :
    let ps := ((List.range data.length).filter fun i => data.getD i 0 ≠ 0).map (unravelI shape)
    let ext := (List.range data.length).foldl (fun ext i =>
      if data.getD i 0 ≠ 0 then bboxUpdate ext (unravelI shape i) else ext) (bboxInit shape)
    (∀ p ∈ ps, ext.getD (2 * j) 0 ≤ p.getD j 0 ∧ p.getD j 0 + 1 ≤ ext.getD (2 * j + 1) 0) ∧
    (ps ≠ [] → (∃ p ∈ ps, p.getD j 0 = ext.getD (2 * j) 0) ∧ (∃ p ∈ ps, p.getD j 0 + 1 = ext.getD (2 * j + 1) 0)) :=
  bbox_tight shape data hlen j hj

/-- C13-T2 (bbox: empty image / returned box). For an image of rank ≥ 1 that fills its shape, the model
of `bbox` returns all zeros when no pixel is non-zero and otherwise exactly the box left by the loop (which is
tight by `C13_bbox_generic_tight`). -/
theorem C13_bbox_result (shape : List Nat) (data : List Int) (hlen : data.length = shapeSize shape)
    (hnd : 0 < shape.length) :
    let ps := ((List.range data.length).filter fun i => data.getD i 0 ≠ 0).map (unravelI shape)
    let ext := (List.range data.length).foldl (fun ext i =>
      if data.getD i 0 ≠ 0 then bboxUpdate ext (unravelI shape i) else ext) (bboxInit shape)
    (ps = [] → bboxGeneric shape data = (bboxInit shape).map (fun _ => 0)) ∧
    (ps ≠ [] → bboxGeneric shape data = ext) :=
  ⟨bboxGeneric_of_nil shape data hnd, bboxGeneric_of_ne_nil shape data hlen hnd⟩

/-- C13-T2 (bbox_fast_eq_generic). For every `N0 × N1` C-contiguous image the model of `carray2_bbox` —
row scan with the skip-ahead `x += extrema[3] - x - 1` to the known right edge — returns the same four
numbers as the generic loop: the skipped pixels lie inside the box already known, so that visiting them would
change nothing and the row loop is, in effect, a loop over every pixel of the row. -/
theorem C13_bbox_fast_eq_generic (N0 N1 : Nat) (data : List Int) (hlen : data.length = N0 * N1) :
    bboxFast N0 N1 data = bboxGeneric [N0, N1] data :=
  bboxFast_eq_generic N0 N1 data hlen

/-- C13-T2 (labeled.bbox). The model of `bbox_labeled` (+ the absent-label zeroing) returns, for every
label `l = 0..n`, exactly what the model of `bbox` returns on the indicator image of label `l` — so each
row is the tight box of the pixels carrying `l` (`C13_bbox_generic_tight`, `C13_bbox_result`) and all zeros
for an absent label. -/
theorem C13_bbox_labeled_eq_bbox_of_indicator (shape : List Nat) (labels : List Int) (n : Nat) :
    bboxLabeled shape labels n =
      (List.range (n + 1)).flatMap fun l => bboxGeneric shape (indicator labels l) :=
  bboxLabeled_eq shape labels n

/-- C13-T3 (com_eq). Over any field (the driver runs the same polymorphic definition with `Float`
arithmetic), the model of `center_of_mass` — one pass accumulating `totals[label] += v` and
`centers[label][j] += v * index_rev(j)`, then the division and the coordinate reversal — returns for every
label `l ≤ max label` (label 0 = the whole image when no label map is given) and every axis `j`, in the
documented coordinate order, `Σ v·coord_j / Σ v` over the pixels carrying label `l`. -/
theorem C13_com_eq {α : Type} [Field α] (shape : List Nat) (vals : List α) (labels : List Int) :
    comModelG (fieldOps α) shape vals labels =
      (List.range ((maxOf labels).toNat + 1)).flatMap fun l =>
        (List.range shape.length).map fun j =>
          (((List.range vals.length).filter fun i => (labels.getD i 0).toNat = l).map fun i =>
              vals.getD i 0 * (((unravel shape i).getD j 0 : Nat) : α)).sum /
          (((List.range vals.length).filter fun i => (labels.getD i 0).toNat = l).map fun i => vals.getD i 0).sum := by
  rw [comModelG_closed]
  apply List.flatMap_congr
  intro l _
  apply List.map_congr_left
  intro j _
  show List.foldl (fun x i => x + vals.getD i 0 * (((unravel shape i).getD j 0 : Nat) : α)) 0 _ /
    List.foldl (fun t i => t + vals.getD i 0) 0 _ = _
  rw [foldl_add_map, foldl_add_map, zero_add, zero_add]

/-! non-vacuity, and why the identity must be a lower bound: an identity that is *not* a lower bound of the data
    (as `numeric_limits<double>::min()`, the smallest positive value, would not be) breaks `labeled_max`;
    with the least element the maximum of an all-negative region is right. -/
example : (labeledFold stdMax (1 : Int) 2 [(-5, 1), (-3, 1), (-9, 0)]).toList = [1, 1] ∧
    (labeledFold stdMax (-128 : Int) 2 [(-5, 1), (-3, 1), (-9, 0)]).toList = [-9, -3] ∧
    (sumInt (dtI 8) 2 [(100, 1), (100, 1), (-9, 0)]).toList = [-9, -56] ∧
    (relabel [7, 0, 7, 3, -2, 3]).1 = [1, 0, 1, 2, 3, 2] ∧
    isSameLabeling [7, 0, 7, 3] [1, 0, 1, 2] = true ∧ isSameLabeling [7, 0, 7, 3] [1, 0, 1, 1] = false := by
  decide +kernel

/-! The harness compares the output of the real code with the `spec=` field the driver prints (`handle` in
`Model/C13.lean`). Each `_oracle_eq_model` theorem says that one of these executable oracles equals the executable
model for every input, so that "real = oracle" on a case means "real = proved specification" on that case.
Hypotheses are the ones under which oracle and model can be compared at all; each docstring says what happens
outside them. -/

/-- For every list of labels (any length, any integers, negative ones included) the
executable oracle `relabelSpec` — 0 stays 0, a non-zero value gets 1 + the number of distinct non-zero values
whose first occurrence precedes its own, count = number of distinct non-zero values — returns exactly the pair
(new label map, count) that the model of the `relabel` loop returns. No hypothesis. -/
theorem C13_relabel_oracle_eq_model (labels : List Int) : relabelSpec labels = relabel labels :=
  relabelSpec_eq labels

/-- For every pair of label lists (compared position-wise over the common
length, as both definitions `zip`) the quadratic oracle `sameSpec` — every pair agrees on "is background" and
every two pairs agree on "same label" in both maps — gives the same Boolean as the model of the two-`std::map`
loop. No hypothesis. (Both are equivalent to the partial-bijection statement of `C13_same_labeling_iff`.) -/
theorem C13_same_oracle_eq_model (a b : List Int) : sameSpec a b = isSameLabeling a b := by
  rw [Bool.eq_iff_iff, sameSpec_iff, C13_same_labeling_iff]

/-- For every label list and every list of regions the oracle (zero the pixels
whose label is a member of `regions`) equals the model (`np.unique` + `std::binary_search`). No hypothesis. -/
theorem C13_remove_regions_oracle_eq_model (labels regions : List Int) :
    removeRegionsSpec labels regions = removeRegions labels regions :=
  (removeRegions_eq_spec labels regions).symm

/-- For a label map that fills its shape (any rank, zero-length axes included)
and any `rsize` the oracle (zero the non-zero regions having a pixel closer than `rsize` to a face) equals the
model (Python border slabs). Without `labels.length = shapeSize shape` the two are not comparable (the
coordinates of a flat index are then not those of a pixel); the harness always passes full arrays. -/
theorem C13_remove_bordering_oracle_eq_model (shape : List Nat) (labels : List Int) (rsize : List Nat)
    (hlen : labels.length = shapeSize shape) :
    removeBorderingSpec shape labels rsize = removeBordering shape labels rsize :=
  (removeBordering_eq_spec shape labels rsize hlen).symm

/-- For a non-negative label map that fills its shape, every choice of
`remove_bordering`, `min_size`, `max_size` (0 = not given): the oracle — `relabelSpec` of the map in which
exactly the selected regions are zeroed — returns the same (label map, count) as the model of the wrapper's
pipeline. Negative labels are outside the domain (the wrapper's `labeled_size` counts them modulo 2^32). -/
theorem C13_filter_labeled_oracle_eq_model (shape : List Nat) (labels : List Int) (rb : Bool)
    (minSize maxSize : Nat) (hnn : ∀ v ∈ labels, 0 ≤ v) (hlen : labels.length = shapeSize shape) :
    filterLabeledSpec shape labels rb minSize maxSize = filterLabeled shape labels rb minSize maxSize :=
  filterLabeledSpec_eq shape labels rb minSize maxSize hnn hlen

/-- For an image of rank ≥ 1 that fills its shape the oracle `bboxSpec`
(per axis the least coordinate and the greatest coordinate + 1 over the non-zero pixels) is `none` exactly when
every pixel is zero, and otherwise it is `some` of exactly the list the model of the generic `bbox` loop returns.
For an all-zero image (where the statement is silent and the harness compares with the model only) the model
returns zeros. -/
theorem C13_bbox_oracle_eq_model (shape : List Nat) (data : List Int) (hlen : data.length = shapeSize shape)
    (hnd : 0 < shape.length) :
    bboxSpec shape data = (if data.all (· == 0) then none else some (bboxGeneric shape data)) ∧
    (data.all (· == 0) = true → bboxGeneric shape data = List.replicate (2 * shape.length) 0) :=
  bboxSpec_eq_ite shape data hlen hnd

/-- The same for the model of `carray2_bbox` (the `fast=`
field of the driver, judged on aligned C-contiguous 2-D inputs): for every `N0 × N1` image the oracle is `none`
for an all-zero image and otherwise `some` of what the skip-ahead loop returns. -/
theorem C13_bbox_fast_oracle_eq_model (N0 N1 : Nat) (data : List Int) (hlen : data.length = N0 * N1) :
    bboxSpec [N0, N1] data = (if data.all (· == 0) then none else some (bboxFast N0 N1 data)) := by
  rw [bboxFast_eq_generic N0 N1 data hlen]
  exact (C13_bbox_oracle_eq_model [N0, N1] data (by simp [shapeSize, hlen]) (by simp)).1

/-- For a non-negative label map that fills a shape of rank ≥ 1 and every `n`
(the driver passes the largest label) the oracle — for each label `0..n` the `bboxSpec` box of its indicator
image, zeros for an absent label — is exactly the list the model of `bbox_labeled` returns, rows of absent
labels included. Negative labels are outside the domain (the wrapper `labeled.bbox` raises `ValueError` for them). -/
theorem C13_bbox_labeled_oracle_eq_model (shape : List Nat) (labels : List Int) (n : Nat)
    (hnn : ∀ v ∈ labels, 0 ≤ v) (hlen : labels.length = shapeSize shape) (hnd : 0 < shape.length) :
    bboxLabeledSpec shape labels n = bboxLabeled shape labels n :=
  bboxLabeledSpec_eq shape labels n hnn hlen hnd

/-- For every label list and every list of offsets the oracle (mathematical
border rule) is the model (transliterated `fix_offset`) when all axes are non-empty or there is no pixel at all —
which covers every array that fills its shape (second statement). -/
theorem C13_borders_oracle_eq_model (m : Mode) (shape : List Nat) (labels : List Int) (offs : List (List Int)) :
    ((∀ d ∈ shape, 0 < d) ∨ labels = [] → bordersSpec m shape labels offs = bordersModel m shape labels offs) ∧
    (labels.length = shapeSize shape → bordersSpec m shape labels offs = bordersModel m shape labels offs) :=
  ⟨bordersSpec_eq m shape labels offs, fun hlen => bordersSpec_eq m shape labels offs (pos_or_nil_of_full shape labels hlen)⟩

/-- For a structuring element of the rank of the image the oracle is the model. -/
theorem C13_border_oracle_eq_model (shape : List Nat) (labels : List Int) (bshape : List Nat) (bc : Array Int)
    (hnd : bshape.length = shape.length) (li lj : Int) :
    borderSpec2 shape labels (C03.offsets bshape bc) li lj = borderModel shape labels (C03.offsets bshape bc) li lj :=
  (C13_border_spec shape labels bshape bc hnd li lj).symm

/-- The oracle is the model when all axes are non-empty or there is no pixel at all;
in particular for every array that fills its shape. -/
theorem C13_bwperim_oracle_eq_model (m : Mode) (shape : List Nat) (bw : List Int) (offs : List (List Int)) :
    ((∀ d ∈ shape, 0 < d) ∨ bw = [] → bwperimSpec m shape bw offs = bwperim m shape bw offs) ∧
    (bw.length = shapeSize shape → bwperimSpec m shape bw offs = bwperim m shape bw offs) :=
  ⟨bwperimSpec_eq m shape bw offs, fun hlen => bwperimSpec_eq m shape bw offs (pos_or_nil_of_full shape bw hlen)⟩

/-- Slot `l < n` of the oracle the driver prints for
`op=sum` (`foldSpec`: the exact integer sum of the values labelled `l`; for bool the `or`) equals slot `l` of the
model, for bool data always and for every integer dtype whenever the exact sum is representable in the dtype.
When it is not representable the two differ by design (the model wraps around, as `std::plus<T>` does; the
statement is silent and the harness masks exactly these slots). -/
theorem C13_labeled_sum_oracle_eq_model (dt : DT) (n : Nat) (px : List (Int × Int)) (l : Nat) (hl : l < n)
    (h : dt = dtBool ∨ (dt.WF ∧ dt.InRange (valuesOf px (l : Int)).sum)) :
    (foldSpec dt.isBool "sum" n px)[l]? = (sumInt dt n px)[l]? := by
  rcases h with rfl | ⟨wf, hr⟩
  · rw [orSpec_eq_model]; simp
  · exact sumSpec_slot_eq_model dt wf n px l hl hr

/-- For every integer dtype range containing the
values of label `l`, and `l` non-empty, slot `l` of the oracle (`foldl max/min` from the first value) equals slot
`l` of the models `maxInt` / `minInt` (folds of `std_like_max/min` from `lowest()` / `max()`). For an empty label
they differ by design (oracle 0, model the identity): the statement is silent and the harness masks those slots. -/
theorem C13_labeled_max_min_oracle_eq_model (dt : DT) (n : Nat) (px : List (Int × Int)) (l : Nat) (hl : l < n)
    (hne : valuesOf px (l : Int) ≠ []) (hr : ∀ v ∈ valuesOf px (l : Int), dt.InRange v) :
    (foldSpec dt.isBool "max" n px)[l]? = (maxInt dt n px)[l]? ∧
    (foldSpec dt.isBool "min" n px)[l]? = (minInt dt n px)[l]? :=
  maxSpec_slot_eq_exact dt.isBool dt.lo dt.hi n px l hl hne (fun v hv => (hr v hv).1) (fun v hv => (hr v hv).2)

/-- Partial. For float data `k / scale` the driver's oracle
is `Float.ofInt v / scale` applied entrywise to `foldSpec false op n` of the scaled integers `k`. Proved here:
that integer list is exactly the polymorphic model `labeledFold` (the definition the driver runs at `Float`)
instantiated at ℤ with exact `+` (every slot, every input) and with `std_like_max/min` from any identities that
bound the values (every non-empty label). **Not proved** (validated by the run only): that `Float` addition and
comparison on the dyadic data the harness generates commute with `Float.ofInt · / scale` — Lean's `Float`
operations are opaque. `C13_labeled_sum_float_oracle_eq_model_of_exact` and
`C13_labeled_max_min_float_oracle_eq_model_of_monotone` take exactly these facts as hypotheses. -/
theorem C13_labeled_float_oracle_partial (n : Nat) (px : List (Int × Int)) :
    foldSpec false "sum" n px = (labeledFold (fun a r => a + r) (0 : Int) n px).toList ∧
    ∀ (lowest highest : Int) (l : Nat), l < n → valuesOf px (l : Int) ≠ [] →
      (∀ v ∈ valuesOf px (l : Int), lowest ≤ v) → (∀ v ∈ valuesOf px (l : Int), v ≤ highest) →
      (foldSpec false "max" n px)[l]? = (labeledFold stdMax lowest n px)[l]? ∧
      (foldSpec false "min" n px)[l]? = (labeledFold stdMin highest n px)[l]? :=
  ⟨sumSpec_eq_exact n px, fun lowest highest l hl hne hlo hhi =>
    maxSpec_slot_eq_exact false lowest highest n px l hl hne hlo hhi⟩

/-- For non-negative values (0/1 for a bool image) the oracle
`countSpec` (bin `i` = number of pixels equal to `i`, as many bins as the model returns) is exactly the list the
model of `fullhistogram` returns (`compute_histogram` into `max + 1` bins; `[zeros, ones]` for bool). Negative
values are outside the domain (the kernel's dtype switch takes unsigned types only: `Cannot handle type.` otherwise). -/
theorem C13_hist_oracle_eq_model (isBool : Bool) (vals : List Int) (hv : ∀ v ∈ vals, 0 ≤ v)
    (hb : isBool = true → ∀ v ∈ vals, v ≤ 1) :
    countSpec vals (fullHistogram isBool vals).length = fullHistogram isBool vals :=
  countSpec_eq_model isBool vals hv hb

/-- Over any field (ℚ, ℝ, …), for non-negative labels (`labels = []` = no label
map) and integer data `ks`: the exact fractions `(Σ k·coord_j, Σ k)` that the oracle `comSpec` computes, read in the
field, are — entry for entry, rows of empty labels (`0/0`) included — the output of the polymorphic model
`comModelG` (the definition the driver runs with `Float` operations) run with the operations of that field on the
same data. The `Float` instance itself is validated by the run (data chosen so that every partial sum is exact;
entries with denominator 0 are masked there, `ok=`); `C13_com_float_oracle_eq_model_of_exact` proves it
equal to the oracle under explicit exactness hypotheses. -/
theorem C13_com_oracle_eq_model {α : Type} [Field α] (shape : List Nat) (ks : List Int) (labels : List Int)
    (hnn : ∀ v ∈ labels, 0 ≤ v) :
    (comSpec shape ks labels).map (fun nd => ((nd.1 : Int) : α) / ((nd.2 : Int) : α)) =
      comModelG (fieldOps α) shape (ks.map fun k => ((k : Int) : α)) labels :=
  comSpec_eq_model shape ks labels hnn

/-- About the very definitions the driver runs for float
data: with `emb k = Float.ofInt k / scale` (any function `emb : ℤ → Float` here) the driver's model is
`sumFloat n ((data.map emb).zip labels)` and its oracle is `(foldSpec false "sum" n (data.zip labels)).map emb`.
They agree in slot `l < n` **provided** `emb 0 = 0.0` and every partial sum of the values labelled `l` is exact:
`emb a + emb s = emb (a + s)` whenever `a` is a value labelled `l` and `s` the sum of the values labelled `l`
before it. These two facts about IEEE arithmetic on the dyadic data the harness generates are the whole
remaining trusted gap for `labeled_sum` on floats (Lean's `Float` is opaque; they are validated by the run). -/
theorem C13_labeled_sum_float_oracle_eq_model_of_exact (emb : Int → Float) (n : Nat) (data labels : List Int)
    (l : Nat) (hl : l < n) (h0 : emb 0 = 0.0)
    (hexact : ∀ pre a rest, valuesOf (data.zip labels) (l : Int) = pre ++ a :: rest →
      emb a + emb pre.sum = emb (a + pre.sum)) :
    (sumFloat n ((data.map emb).zip labels))[l]? = ((foldSpec false "sum" n (data.zip labels)).map emb)[l]? := by
  rw [List.getElem?_map]
  exact sumFloat_slot_of_exact emb n data labels l hl h0 hexact

/-- Same setting. The models
`maxFloat lowest` / `minFloat highest` agree with the image of the integer oracle under `emb` in the slot of every
non-empty label **provided** `emb` is strictly monotone on the values of that label (`emb a < emb b ↔ a < b`,
Float comparison) and the identities do not beat any value (`¬ emb v < lowest`, `¬ highest < emb v` — true for
`lowest()`/`max()`, which the source uses; it would be false for `numeric_limits<double>::min()`). -/
theorem C13_labeled_max_min_float_oracle_eq_model_of_monotone (emb : Int → Float) (lowest highest : Float)
    (n : Nat) (data labels : List Int) (l : Nat) (hl : l < n)
    (hne : valuesOf (data.zip labels) (l : Int) ≠ [])
    (hlow : ∀ v ∈ valuesOf (data.zip labels) (l : Int), ¬ (emb v < lowest))
    (hhigh : ∀ v ∈ valuesOf (data.zip labels) (l : Int), ¬ (highest < emb v))
    (hmono : ∀ a ∈ valuesOf (data.zip labels) (l : Int), ∀ b ∈ valuesOf (data.zip labels) (l : Int),
      (emb a < emb b ↔ a < b)) :
    (maxFloat lowest n ((data.map emb).zip labels))[l]? =
      ((foldSpec false "max" n (data.zip labels)).map emb)[l]? ∧
    (minFloat highest n ((data.map emb).zip labels))[l]? =
      ((foldSpec false "min" n (data.zip labels)).map emb)[l]? := by
  rw [List.getElem?_map, List.getElem?_map]
  exact maxMinFloat_slot_of_monotone emb lowest highest n data labels l hl hne hlow hhigh hmono

/-- About the very definition the driver runs
(`comModel = comModelG floatOps`) on the data `ks.map emb` (the driver: `emb k = Float.ofInt k / scale`), for
non-negative labels (`labels = []` = no label map): the model's output is, entry for entry, `emb num / emb den`
of the exact integer pairs `(num, den) = (Σ k·coord_j, Σ k)` the oracle `comSpec` computes, **provided**
`emb 0 = 0.0` and every step of the two accumulations of the kernel is exact on the pixels of each label in scan
order: `totals[l] += v` (`emb s + emb k = emb (s + k)`) and `centers[l][j] += v * coord_j`
(`emb s + emb k * Float.ofNat c = emb (s + k·c)`). The driver prints the oracle as
`Float.ofInt num / Float.ofInt den`, which is `emb num / emb den` when dividing both by the power of two `scale`
is exact. These IEEE facts on the data the harness generates (|values| < 2^53, dyadic) are the whole remaining
trusted gap for `center_of_mass` (Lean's `Float` is opaque; validated by the run). -/
theorem C13_com_float_oracle_eq_model_of_exact (emb : Int → Float) (shape : List Nat) (ks labels : List Int)
    (hnn : ∀ v ∈ labels, 0 ≤ v) (h0 : emb 0 = 0.0)
    (htot : ∀ (l : Nat) (pre : List Nat) (i : Nat) (rest : List Nat),
      ((List.range ks.length).filter fun i => labels.getD i 0 == (l : Int)) = pre ++ i :: rest →
      emb (pre.map fun i => ks.getD i 0).sum + emb (ks.getD i 0) =
        emb ((pre.map fun i => ks.getD i 0).sum + ks.getD i 0))
    (hrow : ∀ (l j : Nat), j < shape.length → ∀ (pre : List Nat) (i : Nat) (rest : List Nat),
      ((List.range ks.length).filter fun i => labels.getD i 0 == (l : Int)) = pre ++ i :: rest →
      emb (pre.map fun i => ks.getD i 0 * ((unravel shape i).getD j 0 : Nat)).sum +
          emb (ks.getD i 0) * Float.ofNat ((unravel shape i).getD j 0) =
        emb ((pre.map fun i => ks.getD i 0 * ((unravel shape i).getD j 0 : Nat)).sum +
          ks.getD i 0 * ((unravel shape i).getD j 0 : Nat))) :
    comModel shape (ks.map emb) labels = (comSpec shape ks labels).map fun nd => emb nd.1 / emb nd.2 :=
  comModelG_of_exact floatOps emb shape ks labels hnn h0 htot hrow

/-- The oracle `relabelSpec` itself satisfies the Prop-level characterisation
of `C13_relabel_spec`: one function fixing 0, injective on the occurring labels, new labels `1..n` in order of
first appearance, `n` returned. -/
theorem C13_relabel_oracle_sound (labels : List Int) :
    (∃ f : Int → Int, (relabelSpec labels).1 = labels.map f ∧ f 0 = 0 ∧ (∀ v ∈ labels, v ≠ 0 → 1 ≤ f v) ∧
      (∀ a b, (a ∈ labels ∨ a = 0) → (b ∈ labels ∨ b = 0) → f a = f b → a = b)) ∧
    C03.Consec 1 (relabelSpec labels).1 ∧
    (∀ l ∈ (relabelSpec labels).1, l ≤ (relabelSpec labels).2) ∧
    (∀ k, 1 ≤ k → k ≤ (relabelSpec labels).2 → k ∈ (relabelSpec labels).1) := by
  rw [C13_relabel_oracle_eq_model]
  exact C13_relabel_spec labels

/-- The oracle `sameSpec` answers `true` exactly when the pairs of
corresponding labels together with `(0, 0)` form a partial bijection. -/
theorem C13_same_oracle_sound (a b : List Int) :
    sameSpec a b = true ↔ PBij (fun x y => (x = 0 ∧ y = 0) ∨ (x, y) ∈ a.zip b) :=
  sameSpec_iff a b

/-- When the oracle returns a box `b` for an image of rank ≥ 1 filling its
shape, there is a non-zero pixel, on every axis `j` the box contains every non-zero pixel
(`b[2j] ≤ p_j < b[2j+1]`) and both bounds are attained by non-zero pixels. -/
theorem C13_bbox_oracle_sound (shape : List Nat) (data : List Int) (hlen : data.length = shapeSize shape)
    (hnd : 0 < shape.length) (b : List Int) (hb : bboxSpec shape data = some b) (j : Nat) (hj : j < shape.length) :
    let ps := ((List.range data.length).filter fun i => data.getD i 0 ≠ 0).map (unravelI shape)
    ps ≠ [] ∧ (∀ p ∈ ps, b.getD (2 * j) 0 ≤ p.getD j 0 ∧ p.getD j 0 + 1 ≤ b.getD (2 * j + 1) 0) ∧
    (∃ p ∈ ps, p.getD j 0 = b.getD (2 * j) 0) ∧ (∃ p ∈ ps, p.getD j 0 + 1 = b.getD (2 * j + 1) 0) :=
  bboxSpec_sound shape data hlen hnd b hb j hj

/-! non-vacuity of the oracle theorems: the oracles compute non-trivial values on small inputs, and the
    hypotheses are satisfiable (a 2 × 3 image, labels with a gap, an out-of-range sum for the masked case) -/
example : relabelSpec [7, 0, 7, 3, -2, 3] = ([1, 0, 1, 2, 3, 2], 3) ∧
    sameSpec [7, 0, 7, 3] [1, 0, 1, 2] = true ∧ sameSpec [7, 0, 7, 3] [1, 0, 1, 1] = false ∧
    bboxSpec [2, 3] [0, 0, 1, 0, 1, 0] = some [0, 2, 1, 3] ∧ bboxSpec [2, 3] [0, 0, 0, 0, 0, 0] = none ∧
    bboxLabeledSpec [2, 2] [0, 2, 2, 0] 2 = [0, 2, 0, 2, 0, 0, 0, 0, 0, 2, 0, 2] ∧
    foldSpec false "sum" 2 [(100, 1), (100, 1), (-9, 0)] = [-9, 200] ∧
    (sumInt (dtI 8) 2 [(100, 1), (100, 1), (-9, 0)]).toList = [-9, -56] ∧
    foldSpec false "max" 2 [(-5, 1), (-3, 1), (-9, 0)] = [-9, -3] ∧
    countSpec [0, 2, 2, 1] 3 = [1, 1, 2] ∧
    comSpec [2, 2] [1, 2, 3, 4] [] = [(7, 10), (6, 10)] ∧
    filterLabeledSpec [1, 4] [1, 1, 0, 2] false 2 0 = ([1, 1, 0, 0], 1) := by
  decide +kernel

/-! non-vacuity of the conditional transfer theorem `comModelG_of_exact`: its exactness hypotheses hold in every
    field (exact arithmetic), which is how `C13_com_oracle_eq_model` is proved; at `Float` they are IEEE facts Lean
    cannot state -/
example {α : Type} [Field α] (shape : List Nat) (ks labels : List Int) (hnn : ∀ v ∈ labels, 0 ≤ v) :
    comModelG (fieldOps α) shape (ks.map fun k => ((k : Int) : α)) labels =
      (comSpec shape ks labels).map fun nd => ((nd.1 : Int) : α) / ((nd.2 : Int) : α) :=
  (C13_com_oracle_eq_model shape ks labels hnn).symm

/-- The code by which the models number a border mode is the code the source gives it in both places: `mode2int` of `mahotas/_filters.py` (what the wrappers send) and
`enum ExtendMode` of `mahotas/_filters.h` (what the kernels switch on); neither table has further entries. Both tables
are regenerated from the source on every run. -/
theorem C13_mode_codes_agree (m : Mahotas.Mode) :
    (Mahotas.Generated.pyModes.lookup m.name = some m.code ∧ Mahotas.Generated.cppModes.lookup m.name = some m.code) ∧
    Mahotas.Generated.pyModes.length = 6 ∧ Mahotas.Generated.cppModes.length = 6 :=
  ⟨Mahotas.mode_codes_agree m, Mahotas.mode_tables_complete.1, Mahotas.mode_tables_complete.2.1⟩

/-- The model of `remove_regions_where(labeled, conditions)` — `np.where(conditions)`
(the indices of the true entries) handed to the model of `remove_regions` (`np.unique` + `std::binary_search`) — zeroes
exactly the pixels whose label `v` satisfies `0 ≤ v < len(conditions)` and `conditions[v]`; every other pixel (labels beyond
the table, negative labels, background) keeps its value. Any `conditions` (empty, shorter or longer than the label range). -/
theorem C13_remove_regions_where_spec (labels conds : List Int) :
    removeRegionsWhere labels conds = removeRegionsWhereSpec labels conds := by
  rw [removeRegionsWhere, removeRegions_eq_spec]
  apply List.map_congr_left
  intro v _
  congr 1
  rw [List.contains_iff_mem, mem_where_iff, Bool.and_eq_true, Bool.and_eq_true, decide_eq_true_iff,
    decide_eq_true_iff, decide_eq_true_iff, and_assoc]

/-- The wrapper's answer (`shape0 != shape1 → False`, else the kernel) is `true`
exactly when the two maps have the same shape and their label pairs together with `(0, 0)` form a partial bijection; the
executable oracle `sameSpecShaped` the harness judges against is the model. Maps of different shapes — also of equal size,
e.g. `(2,3)` against `(3,2)` — are never the same labeling. -/
theorem C13_same_labeling_shaped_iff (s0 s1 : List Nat) (a b : List Int) :
    (isSameLabelingShaped s0 s1 a b = true ↔ s0 = s1 ∧ PBij (fun x y => (x = 0 ∧ y = 0) ∨ (x, y) ∈ a.zip b)) ∧
    sameSpecShaped s0 s1 a b = isSameLabelingShaped s0 s1 a b := by
  constructor
  · unfold isSameLabelingShaped
    rw [Bool.and_eq_true, beq_iff_eq, C13_same_labeling_iff]
  · unfold isSameLabelingShaped sameSpecShaped
    rw [C13_same_oracle_eq_model]

/-- For every label list (any integers): the model of `labeled_size` —
reduce modulo 2^32, then `compute_histogram` into `max + 1` bins, also for a bool map — returns in bin `i` the number of
pixels whose label is `i` modulo 2^32 (`countSpec`); for labels in `[0, 2^32)` (every map `label()` produces) that is the
number of pixels labelled `i`, and there are `max + 1` bins. -/
theorem C13_labeled_size_counts (vals : List Int) :
    countSpec (vals.map (· % 4294967296)) (labeledSize vals).length = labeledSize vals ∧
    ((∀ v ∈ vals, 0 ≤ v ∧ v < 4294967296) →
      countSpec vals ((maxOf vals).toNat + 1) = labeledSize vals) := by
  have h : countSpec (vals.map (· % 4294967296)) (labeledSize vals).length = labeledSize vals := by
    refine C13_hist_oracle_eq_model false _ (fun v hv => ?_) (fun h => Bool.noConfusion h)
    obtain ⟨w, _, rfl⟩ := List.mem_map.1 hv
    exact Int.emod_nonneg _ (by decide)
  refine ⟨h, fun hv => ?_⟩
  have hl : (labeledSize vals).length = (maxOf vals).toNat + 1 := by
    rw [labeledSize, map_emod_id vals hv, fullHistogram, if_neg Bool.false_ne_true, Array.length_toList,
      histogram_size]
  rw [map_emod_id vals hv, hl] at h
  exact h

/-- The wrapper allocates `foldLen = max(labeled.max() + 1, minlength)` slots
(`labeled.max() + 1` without `minlength`), so the result covers every label and has at least `minlength` entries; and in
the model of `labeled_foldl` (any value type, operation and identity — the driver's `Int` and `Float` instances included)
every slot beyond the largest label holds the identity element (0 for `labeled_sum`): no pixel carries that label. -/
theorem C13_labeled_sum_minlength {α : Type} (f : α → α → α) (start : α) (data : List α) (labels : List Int)
    (ml : Option Int) :
    ((maxOf labels + 1).toNat ≤ foldLen labels ml ∧ (∀ m, ml = some m → m.toNat ≤ foldLen labels ml) ∧
      (ml = none → foldLen labels ml = (maxOf labels + 1).toNat)) ∧
    ∀ l : Nat, l < foldLen labels ml → maxOf labels < (l : Int) →
      (labeledFold f start (foldLen labels ml) (data.zip labels))[l]? = some start := by
  refine ⟨?_, fun l hl hgt => ?_⟩
  · cases ml with
    | none => exact ⟨Nat.le_refl _, nofun, fun _ => rfl⟩
    | some m =>
      refine ⟨Int.toNat_le_toNat (le_max_left _ _), fun m' h => ?_, nofun⟩
      cases h
      exact Int.toNat_le_toNat (le_max_right _ _)
  · rw [labeledFold_slot f start _ _ l hl, valuesOf_nil_of_gt data labels l hgt]
    rfl

/-- Let `box = [lo_0, hi_0, lo_1, hi_1, …]` be a list of non-negative
numbers (the result of `bbox`, characterised by `C13_bbox_result`/`C13_bbox_oracle_sound`) and `b ≥ 0`. The model of
`croptobbox(img, border=b)` — `bbox`'s arithmetic `(max(lo - b, 0), hi + b)` (upper end not clipped), Python's slice
semantics per axis (`sliceBound`: clipping to the axis length) and the indexing `img[slices]` — shows exactly the pixels
`p` of the image with `lo_d - b ≤ p_d < hi_d + b` on every axis, in C order: the box grown by `b` and clipped to the image.
In particular (`b = 0`) the crop contains every pixel of the box, hence every non-zero pixel. -/
theorem C13_croptobbox_border_spec (shape : List Nat) (box : List Int) (b : Int) (hb : 0 ≤ b)
    (hlen : box.length = 2 * shape.length) (hnn : ∀ k, 0 ≤ box.getD k 0) :
    (cropTo shape (bboxBorder box b)).2 = cropSpec shape box b := by
  unfold cropTo cropSpec
  apply List.filter_congr
  intro i hi
  rw [Bool.eq_iff_iff, List.all_eq_true, List.all_eq_true]
  refine forall₂_congr fun d hd => Eq.to_iff (congrArg (· = true) ?_)
  have hx := unravel_lt shape i (List.mem_range.1 hi) d (List.mem_range.1 hd)
  unfold bboxBorder
  by_cases hb0 : b = 0
  · rw [if_pos hb0, hb0, Int.sub_zero, Int.add_zero]
    exact sliceSel_iff _ _ _ _ (hnn _) (hnn _) hx
  · obtain ⟨e1, e2⟩ := bboxBorderGo_getD b box d (by have := List.mem_range.1 hd; omega)
    rw [if_neg hb0, e1, e2, sliceSel_iff _ _ _ _ (le_max_right _ _) (Int.add_nonneg (hnn _) hb) hx]
    congr 1
    -- the clipped lower end `max (lo - b) 0` selects the same indices as `lo - b`
    rw [decide_eq_decide, max_le_iff]
    exact and_iff_left (Int.natCast_nonneg _)

/-- For every image of rank ≥ 1 that fills its shape and every `border = b ≥ 0`: the
pixels `croptobbox(img, border=b)` shows — computed by the models of `bbox` (generic loop; the C-contiguous 2-D fast path
is equal by `C13_bbox_fast_eq_generic`), of the border arithmetic, and of Python slicing — are exactly the pixels within `b`
of the returned box on every axis (clipped to the image), and **every non-zero pixel of the image is among them**. (For an
all-zero image the box is `[0,0,…]` and the crop is the leading `b × … × b` corner: what the code does.) -/
theorem C13_croptobbox_contains_nonzero (shape : List Nat) (data : List Int) (hlen : data.length = shapeSize shape)
    (hnd : 0 < shape.length) (b : Int) (hb : 0 ≤ b) :
    (cropTo shape (bboxBorder (bboxGeneric shape data) b)).2 = cropSpec shape (bboxGeneric shape data) b ∧
    ∀ i, i < data.length → data.getD i 0 ≠ 0 → i ∈ cropSpec shape (bboxGeneric shape data) b := by
  refine ⟨C13_croptobbox_border_spec shape _ b hb (bboxGeneric_length shape data) (bboxGeneric_nonneg shape data), ?_⟩
  intro i hi hnz
  have hmem : unravelI shape i ∈ ((List.range data.length).filter fun i => data.getD i 0 ≠ 0).map (unravelI shape) :=
    List.mem_map.2 ⟨i, List.mem_filter.2 ⟨List.mem_range.2 hi, by simpa using hnz⟩, rfl⟩
  rw [bboxGeneric_of_ne_nil shape data hlen hnd (List.ne_nil_of_mem hmem), cropSpec, List.mem_filter, List.mem_range,
    List.all_eq_true]
  refine ⟨by omega, fun d hd => ?_⟩
  have := (bbox_tight shape data hlen d (List.mem_range.1 hd)).1 _ hmem
  rw [unravelI_getD] at this
  simp only [Bool.and_eq_true, decide_eq_true_eq]
  omega

/-! non-vacuity of the wrapper theorems: concrete evaluations (a 3 × 4 image whose box `[1,2,1,3]` is grown by 1 and
    clipped; negative border through Python's negative-index rule; labels beyond 2^32; a `conditions` table shorter than the
    label range; equal-size maps of different shapes) -/
example : bboxBorder [1, 2, 1, 3] 1 = [0, 3, 0, 4] ∧ bboxBorder [1, 2, 1, 3] 5 = [0, 7, 0, 8] ∧
    cropTo [3, 4] (bboxBorder [1, 2, 1, 3] 1) = ([3, 4], [0, 1, 2, 3, 4, 5, 6, 7, 8, 9, 10, 11]) ∧
    cropTo [3, 4] [1, 2, 1, 3] = ([1, 2], [5, 6]) ∧ cropSpec [3, 4] [1, 2, 1, 3] 0 = [5, 6] ∧
    cropTo [4, 5] (bboxBorder [1, 3, 2, 5] (-3)) = ([0, 0], []) ∧ sliceBound 5 (-1) = 4 ∧ sliceBound 5 9 = 5 ∧
    labeledSize [4294967297, 0, 1] = [1, 2] ∧ labeledSize [1, 0, 1] = [1, 2] ∧
    foldLen [0, 2, 2] (some 5) = 5 ∧ foldLen [0, 2, 2] none = 3 ∧ foldLen [0, 2, 2] (some (-5)) = 3 ∧
    isSameLabelingShaped [2, 3] [3, 2] [1, 0, 1, 2, 2, 0] [1, 0, 1, 2, 2, 0] = false ∧
    isSameLabelingShaped [2, 3] [2, 3] [1, 0, 1, 2, 2, 0] [5, 0, 5, 7, 7, 0] = true := by
  decide +kernel

example : removeRegionsWhere [0, 1, 1, 2, 2, 3] [0, 1, 0] = [0, 0, 0, 2, 2, 3] := by
  rw [C13_remove_regions_where_spec]; decide

/-! `C13_labeled_sum_float_oracle_eq_model_of_exact` / `C13_com_float_oracle_eq_model_of_exact` assume
"every accumulation step is exact" as an IEEE fact about Lean's opaque `Float`. In the `_rounded_` theorems the same
polymorphic definitions (`labeledFold`, `comModelG`) are run with the correctly rounded rational arithmetic of
`Proofs/C05Binary64.lean`, and that fact is a theorem. -/

/-- Round-to-nearest with a 53-bit significand — any tie rule (`rndBin n`), in
particular IEEE `roundTiesToEven` (`rne53`) — returns every dyadic rational `k / 2^s` with `|k| ≤ 2^53` unchanged, for every
scale `s`; and every abstract `Rounding` (monotone, relative error ≤ 2^-53, exact on integers up to 2^53) does so for `s = 0`
(integer-valued data). Exponent range unbounded (no overflow/underflow is modelled). -/
theorem C13_binary64_exact_on_dyadic (s : ℕ) :
    ExactDyadic rne53 s ∧
    (∀ (n : ℚ → ℤ), (∀ y, |(n y : ℚ) - y| ≤ 1 / 2) → ExactDyadic (rndBin n) s) ∧
    (∀ rnd : ℚ → ℚ, Rounding rnd → ExactDyadic rnd 0) :=
  ⟨exactDyadic_rne53 s, fun n hn => exactDyadic_rndBin n hn s,
   fun rnd h k hk => by rw [pow_zero, div_one]; exact h.exact_int k hk⟩

/-- `sumRounded rnd` is `labeledFold` — the definition the driver runs
at `Float` — with the addition `rnd (a + r)` over ℚ. For every rounding exact on the dyadics of scale `s` (`rne53`, any
`rndBin n`; any `Rounding` when `s = 0`), data `k_i / 2^s` and label `l < n`: if every partial sum (in scan order) of the
integers `k_i` labelled `l` has magnitude at most `2^53`, then **no accumulation step rounds**: slot `l` is exactly
`(Σ k_i) / 2^s`, which is the `l`-th entry of the harness' oracle `(foldSpec false "sum" …).map (· / 2^s)`. This discharges
the exactness hypothesis of `C13_labeled_sum_float_oracle_eq_model_of_exact` in the rounding model — it is the fact the
harness relies on when it feeds `k/8` data (`s = 3`) and compares bit-for-bit. -/
theorem C13_labeled_sum_rounded_exact (rnd : ℚ → ℚ) (s : ℕ) (hr : ExactDyadic rnd s) (n : Nat)
    (data labels : List Int) (l : Nat) (hl : l < n)
    (hb : ∀ pre a rest, valuesOf (data.zip labels) (l : Int) = pre ++ a :: rest →
      |((a + pre.sum : Int) : ℚ)| ≤ 2 ^ 53) :
    (sumRounded rnd n ((data.map (dy s)).zip labels))[l]? = some (dy s (valuesOf (data.zip labels) (l : Int)).sum) ∧
    (sumRounded rnd n ((data.map (dy s)).zip labels))[l]? =
      ((foldSpec false "sum" n (data.zip labels)).map (dy s))[l]? :=
  sumRounded_exactB rnd s _ hr n data labels l hl hb

/-- The same conclusion when the absolute values of the
integers labelled `l` sum to at most `2^53` (the harness: `|k| ≤ 400`, at most 216 pixels). -/
theorem C13_labeled_sum_rounded_exact_of_abs_sum (rnd : ℚ → ℚ) (s : ℕ) (hr : ExactDyadic rnd s) (n : Nat)
    (data labels : List Int) (l : Nat) (hl : l < n)
    (hb : ((valuesOf (data.zip labels) (l : Int)).map fun v => |v|).sum ≤ 2 ^ 53) :
    (sumRounded rnd n ((data.map (dy s)).zip labels))[l]? = some (dy s (valuesOf (data.zip labels) (l : Int)).sum) ∧
    (sumRounded rnd n ((data.map (dy s)).zip labels))[l]? =
      ((foldSpec false "sum" n (data.zip labels)).map (dy s))[l]? :=
  sumRounded_exactB rnd s _ hr n data labels l hl (partial_sums_bounded _ hb)

/-- `comModelG (rndOps rnd)` is the
definition the driver runs with `Float` operations, run with `rnd (a + b)`, `rnd (a * b)`, `rnd (a / b)`, `rnd c` over ℚ.
For a rounding exact on the dyadics of scale `s` and on the integers (`rne53`, any `rndBin n`), data `k_i / 2^s`,
non-negative labels (`[]` = no label map): if the coordinates, every product `k_i · coord_j`, and every partial sum (scan
order, per label) of the `k_i` and of the `k_i · coord_j` have magnitude at most `2^53`, then both accumulations of the
kernel are exact and the only rounding is the final division: every output entry is `rnd (Σ k·coord_j / Σ k)`, the
correctly rounded exact centroid (the scale cancels; rows of empty labels give `rnd (0/0) = rnd 0`). This discharges the
hypotheses of `C13_com_float_oracle_eq_model_of_exact` in the rounding model. (The bounds on the coordinates and products
are stated here for every flat index `i`; `comRounded_exactB` asks them of the pixels of the image only, for any bound.) -/
theorem C13_com_rounded_exact (rnd : ℚ → ℚ) (s : ℕ) (hr : ExactDyadic rnd s) (hr0 : ExactDyadic rnd 0)
    (shape : List Nat) (ks labels : List Int) (hnn : ∀ v ∈ labels, 0 ≤ v)
    (hc : ∀ i j, (((unravel shape i).getD j 0 : Nat) : ℚ) ≤ 2 ^ 53)
    (hprod : ∀ i j, |((ks.getD i 0 * ((unravel shape i).getD j 0 : Nat) : Int) : ℚ)| ≤ 2 ^ 53)
    (htot : ∀ (l : Nat) (pre : List Nat) (i : Nat) (rest : List Nat),
      ((List.range ks.length).filter fun i => labels.getD i 0 == (l : Int)) = pre ++ i :: rest →
      |(((pre.map fun i => ks.getD i 0).sum + ks.getD i 0 : Int) : ℚ)| ≤ 2 ^ 53)
    (hrow : ∀ (l j : Nat), j < shape.length → ∀ (pre : List Nat) (i : Nat) (rest : List Nat),
      ((List.range ks.length).filter fun i => labels.getD i 0 == (l : Int)) = pre ++ i :: rest →
      |(((pre.map fun i => ks.getD i 0 * ((unravel shape i).getD j 0 : Nat)).sum +
          ks.getD i 0 * ((unravel shape i).getD j 0 : Nat) : Int) : ℚ)| ≤ 2 ^ 53) :
    comModelG (rndOps rnd) shape (ks.map (dy s)) labels =
      (comSpec shape ks labels).map fun nd => rnd ((nd.1 : ℚ) / (nd.2 : ℚ)) :=
  comRounded_exactB rnd s _ hr hr0 shape ks labels hnn (fun i _ j _ => hc i j) (fun i _ j _ => hprod i j) htot hrow

/-- The kernel's accumulator has the dtype of the image
(`float` for float32 images). For round-to-nearest with a `p ≥ 1`-bit significand and any tie rule (`rndBinP p n`; `p = 24` is
binary32, `p = 53` is `rndBin`: `rndBinP_53`) every dyadic `k / 2^s` with `|k| ≤ 2^p` is returned unchanged, and therefore the
model of `labeled_sum` run with the addition `rnd (a + r)` in that format on data `k_i / 2^s` returns in slot `l` exactly
`(Σ k_i) / 2^s` — the harness' oracle — whenever every partial sum (scan order) of the integers labelled `l` has magnitude at
most `2^p` (the judge masks a float32 slot whose `Σ |k_i|` exceeds `2^24`; the generator stays far below). -/
theorem C13_labeled_sum_rounded_exact_any_precision (p : ℕ) (hp : 1 ≤ p) (nr : ℚ → ℤ)
    (hn : ∀ y, |(nr y : ℚ) - y| ≤ 1 / 2) (s : ℕ) (n : Nat) (data labels : List Int) (l : Nat) (hl : l < n)
    (hb : ∀ pre a rest, valuesOf (data.zip labels) (l : Int) = pre ++ a :: rest →
      |((a + pre.sum : Int) : ℚ)| ≤ 2 ^ p) :
    ExactDyadicB (rndBinP p nr) s (2 ^ p) ∧
    (sumRounded (rndBinP p nr) n ((data.map (dy s)).zip labels))[l]? =
      some (dy s (valuesOf (data.zip labels) (l : Int)).sum) ∧
    (sumRounded (rndBinP p nr) n ((data.map (dy s)).zip labels))[l]? =
      ((foldSpec false "sum" n (data.zip labels)).map (dy s))[l]? :=
  ⟨exactDyadicB_rndBinP p hp nr hn s,
   sumRounded_exactB _ s _ (exactDyadicB_rndBinP p hp nr hn s) n data labels l hl hb⟩

/-! non-vacuity: binary32 with ties-to-even leaves `5/8` and `-(2^24)/8` unchanged -/
example : rndBinP 24 roundEven ((5 : ℤ) / 2 ^ 3) = (5 : ℤ) / 2 ^ 3 ∧
    rndBinP 24 roundEven (((-(2 ^ 24) : ℤ) : ℚ) / 2 ^ 3) = ((-(2 ^ 24) : ℤ) : ℚ) / 2 ^ 3 :=
  ⟨exactDyadicB_rndBinP 24 (by norm_num) roundEven roundEven_near 3 5 (by norm_num),
   exactDyadicB_rndBinP 24 (by norm_num) roundEven roundEven_near 3 (-(2 ^ 24)) (by norm_num)⟩

/-! non-vacuity: binary64 `roundTiesToEven` on the harness' scale (`k/8`), label 1 of a three-pixel image: the rounded
    fold returns exactly `(3 - 5)/8` -/
example : (sumRounded rne53 2 (([3, -5, 12].map (dy 3)).zip [1, 1, 0]))[1]? = some (dy 3 (-2)) := by
  have h := (C13_labeled_sum_rounded_exact_of_abs_sum rne53 3 (exactDyadic_rne53 3) 2 [3, -5, 12] [1, 1, 0] 1
    (by decide) (by
      have : valuesOf (([3, -5, 12] : List Int).zip [1, 1, 0]) ((1 : Nat) : Int) = [3, -5] := by decide
      rw [this]; norm_num)).1
  have hv : valuesOf (([3, -5, 12] : List Int).zip [1, 1, 0]) ((1 : Nat) : Int) = [3, -5] := by decide
  rw [hv] at h
  exact h

/-- For a 2-D image with non-empty axes (any border mode and element handed
to `bwperim`): the model of `perimeter` — `bwperim` through `fix_offset`, the 3×3 convolution with the mask
`[[10,2,10],[2,1,2],[10,2,10]]` in `reflect` mode, `fullhistogram` (`max + 1` bins) and the sums of the first 34 bins per
weight of the table `_perimeter_values` — yields exactly the numbers `[n1, n2, n3]` of perimeter pixels (per the proved
`bwperimSpec`) that the direct rule classifies as weight 1 (`a ∈ {2,3}` edge neighbours on the perimeter and `d ≤ 2` diagonal
ones), weight √2 (`(a,d) ∈ {(0,2),(1,3)}`) and weight (1+√2)/2 (`a = 1`, `d ∈ {1,2}`), neighbours taken by the mathematical
`reflect` rule; every other pixel has weight 0 (in particular bins ≥ 34 — e.g. `a = 2, d = 3` — are dropped by the code).
The returned float is `n1 + n2·√2 + n3·(1+√2)/2` evaluated in double (compared with a tolerance by the harness). -/
theorem C13_perimeter_counts_spec (m : Mode) (shape : List Nat) (bw : List Int) (offs : List (List Int))
    (hs : ∀ d ∈ shape, 0 < d) : perimeterCounts m shape bw offs = perimeterCountsSpec m shape bw offs := by
  unfold perimeterCounts perimeterCountsSpec
  rw [bwperim_eq_spec m shape bw offs hs]
  apply List.map_congr_left
  intro c hc
  have hc0 : c ≠ 0 := by
    simp only [List.mem_cons, List.not_mem_nil, or_false] at hc
    omega
  show List.foldl (· + ·) 0 _ = _
  rw [hist_class_count perimClass c 34 (fun v hv h => hc0 (h ▸ perimClass_zero_of_ge v hv)), perimConv,
    List.filter_map, List.length_map]
  congr 1
  apply List.filter_congr
  intro i _
  rw [Function.comp, perimConv_class shape hs _ i]

/-- Every histogram bin `c + 2a + 10d` the convolution can produce (`c ≤ 1`
centre, `a ≤ 4` edge and `d ≤ 4` diagonal neighbours on the perimeter; the decomposition is unique because `c + 2a ≤ 9`) has
in the code's table `[5,7,15,17,25,27] ↦ 1, [21,33] ↦ √2, [13,23] ↦ (1+√2)/2` exactly the class of the direct rule on
`(c, a, d)`; a pixel off the perimeter (`c = 0`) never counts. -/
theorem C13_perimeter_class_table (c a d : Nat) (hc : c ≤ 1) (ha : a ≤ 4) (hd : d ≤ 4) :
    perimClass (c + 2 * a + 10 * d) = perimClassAD c a d ∧ perimClassAD 0 a d = 0 :=
  ⟨perimClass_AD c a d hc ha hd, by unfold perimClassAD; simp⟩

/-! non-vacuity: the table, the mask, and two small images (a 2 × 2 diagonal pair seen through `reflect`; the centre of a 3 × 3 diagonal) -/
example : perimClassAD 1 2 0 = 1 ∧ perimClassAD 1 1 3 = 2 ∧ perimClassAD 1 1 2 = 3 ∧ perimClassAD 1 2 3 = 0 ∧
    perimClass 33 = 2 ∧ perimClass 35 = 0 ∧ perimMagic [1, -1] = 10 ∧ perimMagic [0, 1] = 2 ∧ perimMagic [0, 0] = 1 ∧
    perimAt [2, 2] [true, false, false, true] 0 [1, 1] = 1 ∧ perimAt [2, 2] [true, false, false, true] 0 [-1, -1] = 1 ∧
    perimCls [2, 2] [true, false, false, true] 0 = 1 ∧ perimCls [3, 3] [true, false, false, false, true, false, false, false, true] 4 = 2 := by
  decide +kernel
