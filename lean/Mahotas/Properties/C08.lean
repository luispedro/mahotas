/-
C08 — property theorems for the *logic part* of layout independence: the accessor layer of
`numpypp/array.hpp` computes the logical element for arbitrary (negative, non-monotone, offset)
strides, so a kernel that reads its arguments only through these accessors cannot depend on the
memory layout.  (Heap-history independence and whole-API purity are validated by the sweep, not proved.)
Helper lemmas: `Proofs/C08*.lean`.
-/
import Mahotas.Proofs.C08
import Mahotas.Proofs.C08Kernels
import Mahotas.Proofs.C08Defined
import Mahotas.Proofs.C13BBox
import Mahotas.Proofs.C08Ties
import Mahotas.Proofs.C08TiesMark
import Mahotas.Proofs.C08TiesDilate
import Mahotas.Proofs.C08TiesHitmiss
import Mahotas.Proofs.C08Fast
import Mahotas.Proofs.C08Rank
import Mahotas.Proofs.C08ViewsA
import Mahotas.Proofs.C08ViewsB
import Mahotas.Properties.C19
import Mahotas.Properties.C17
import Mahotas.Properties.C01
import Mahotas.Properties.C04
import Mahotas.Properties.C06
import Mahotas.Properties.C07
import Mahotas.Properties.C13
import Mahotas.Properties.C14
import Mathlib.Data.List.Basic
import Mahotas.Generated.Normalise
import Mahotas.Generated.CopyGuards
open Mahotas Mahotas.C08

namespace Mahotas.C08

theorem map_some_getD {β : Type} (X : Array β) (i : Nat) (d : β) (hi : i < X.size) :
    (X.map some).getD i none = some (X.getD i d) := by
  simp [Array.getD_eq_getD_getElem?, hi]

theorem map_some_getD_true (r : Array Bool) (i : Nat) : (r.map some).getD i none = some true ↔ r.getD i false = true := by
  simp only [Array.getD_eq_getD_getElem?, Array.getElem?_map]
  cases r[i]? <;> simp

theorem map_some_isSome {β : Type} (X : Array β) (i : Nat) (hi : i < (X.map some).size) :
    ((X.map some).getD i none).isSome = true := by
  rw [Array.size_map] at hi
  rw [map_some_getD X i (X[i]) hi]
  rfl

end Mahotas.C08

/-- **F7 (`iterator_base`).** For any base, any shape and any strides (one per axis; negative, zero,
non-monotone all allowed): after `k < size` applications of `operator++` to `begin()`, the iterator's
pointer is the address of the logical element at C-order position `unravel k`, and `position()`
reports exactly that position. -/
theorem C08_iterator_visits_C_order (v : View) (h : v.strides.length = v.shape.length) (k : Nat)
    (hk : k < shapeSize v.shape) :
    ((Iter.begin v).incrN k).data = v.addr (unravel v.shape k) ∧
    ((Iter.begin v).incrN k).position = unravel v.shape k :=
  ⟨incrN_data v h k hk, incrN_position v h k hk⟩

/-- **F8 (`at_flat`).** For every well-formed view (the `is_carray` shortcut only taken
for C-contiguous strides) and every flat index `p < size`, `at_flat(p)` is the address of the logical
element at C-order position `unravel p`. -/
theorem C08_atFlat_eq (v : View) (wf : v.WF) (p : Nat) (hp : p < shapeSize v.shape) :
    v.atFlat p = v.addr (unravel v.shape p) :=
  atFlat_eq_addr v wf p hp

/-- **F8 negation.** The loop with `p /= dim(d-1)` (`atFlatOldGo`: `aligned_array::at_flat` of mahotas before 5f8eb07)
addresses the wrong element: shape (2,3) in Fortran order, `p = 2` lands on the element (1,2) (address 5) instead of
(0,2) (address 4). -/
theorem C08_atFlat_pinned_wrong :
    let v : View := { base := 0, shape := [2, 3], strides := [1, 2] }
    atFlatOldGo v.shape.reverse v.strides.reverse 2 v.base = 5 ∧ v.addr (unravel v.shape 2) = 4 ∧
    v.atFlat 2 = 4 := by
  decide

/-- **F9 (`pos_to_flat` / `flat_to_pos`).** Inside the image the two are the C-order ravel/unravel:
`pos_to_flat(unravel k) = k`, `flat_to_pos(k) = unravel k`, hence they round-trip — for every shape,
independently of the strides. -/
theorem C08_posToFlat_flatToPos (v : View) (k : Nat) (hk : k < shapeSize v.shape) :
    v.posToFlat (unravelI v.shape k) = (k : Int) ∧
    v.flatToPos (k : Int) = unravelI v.shape k ∧
    v.flatToPos (v.posToFlat (unravelI v.shape k)) = unravelI v.shape k := by
  have h1 : v.posToFlat (unravelI v.shape k) = (k : Int) :=
    (posToFlat_eq_ravelZ v _ (Mahotas.unravelI_length _ _).symm).trans (C10.ravelZ_unravelI v.shape k hk)
  have h2 := flatToPos_unravel v k hk
  exact ⟨h1, h2, by rw [h1, h2]⟩

/-- **positional access and the row idiom.** `at(pos)`/`data(pos)` (`PyArray_GetPtr`) is the address of
`pos` by definition, and `data(y) + x*stride(1)` is the address of `(y, x)` in a 2-D view. -/
theorem C08_at_and_rowPtr (v : View) (pos : List Nat) (s0 s1 : Int) (y x : Nat) :
    v.at pos = v.addr pos ∧
    ({ v with strides := [s0, s1] } : View).rowPtr y x = ({ v with strides := [s0, s1] } : View).addr [y, x] := by
  constructor
  · rfl
  · simp only [View.rowPtr, View.addr, dot]
    ring

/-- **Consequence: reads through the accessors are layout-free.** If two views of two memories present
the same logical array (e.g. a C-contiguous copy and a Fortran / strided / reversed / offset /
transposed view of the same data), then the `k`-th value delivered by the iterator, the value at flat
index `k` through `at_flat`, and the value at position `unravel k` through `at(pos)` coincide. -/
theorem C08_accessor_reads_layout_free {α} (m₁ m₂ : Int → α) (v₁ v₂ : View) (wf₁ : v₁.WF) (wf₂ : v₂.WF)
    (h : SameLogical m₁ v₁ m₂ v₂) (k : Nat) (hk : k < shapeSize v₁.shape) :
    readIter m₁ v₁ k = readIter m₂ v₂ k ∧
    readAtFlat m₁ v₁ k = readAtFlat m₂ v₂ k ∧
    readAt m₁ v₁ (unravel v₁.shape k) = readAt m₂ v₂ (unravel v₂.shape k) := by
  have hk2 : k < shapeSize v₂.shape := h.1 ▸ hk
  rw [readIter_eq m₁ v₁ wf₁.len k hk, readIter_eq m₂ v₂ wf₂.len k hk2, readAtFlat_eq m₁ v₁ wf₁ k hk,
    readAtFlat_eq m₂ v₂ wf₂ k hk2]
  exact ⟨h.2 k hk, h.2 k hk, h.2 k hk⟩

/-- **The iterator sequence *is* the logical content.** Reading a whole array through the iterator, or
through `at_flat` at `0 … size-1`, yields exactly the C-order list of its logical elements — for every
well-formed view. (`iterAddrs`, printed by the driver and compared with numpy and with the compiled
`iterator_base`, is the address version of the same statement.) -/
theorem C08_iterator_sequence_is_logical {α} (m : Int → α) (v : View) (wf : v.WF) :
    (List.range (shapeSize v.shape)).map (readIter m v) = logical m v ∧
    (List.range (shapeSize v.shape)).map (readAtFlat m v) = logical m v ∧
    iterAddrs v = (List.range (shapeSize v.shape)).map (fun k => v.addr (unravel v.shape k)) :=
  ⟨List.map_congr_left fun k hk => readIter_eq m v wf.len k (List.mem_range.1 hk),
   List.map_congr_left fun k hk => readAtFlat_eq m v wf k (List.mem_range.1 hk),
   List.map_congr_left fun k hk => incrN_data v wf.len k (List.mem_range.1 hk)⟩

/-- **T2 instance: the labeled folds (`labeled_sum`, `labeled_max`, `labeled_min`) are layout-free.**
The model of `labeled_foldl`, which reads `array` and `labeled` step by step through their iterators,
equals the fold over the *logical* contents, for every fold function, start value, number of labels and
every pair of well-formed views of the same shape — so any two layouts of the same data give the same
result. -/
theorem C08_labeled_fold_layout_free {α} (f : α → α → α) (start : α) (maxlabel : Nat)
    (mA : Int → α) (vA : View) (mL : Int → Int) (vL : View) (wfA : vA.WF) (wfL : vL.WF)
    (hs : vL.shape = vA.shape) :
    labeledFoldView f start maxlabel mA vA mL vL =
      labeledFoldList f start maxlabel (logical mA vA) (logical mL vL) := by
  unfold labeledFoldView
  simp only []
  rw [(C08_iterator_sequence_is_logical mA vA wfA).1, ← hs, (C08_iterator_sequence_is_logical mL vL wfL).1]

/-- **Kernel form.** Any kernel `K` that consumes an array only as the sequence of values the iterator
(or `at_flat`) delivers returns the same result for every memory layout of the same logical array. -/
theorem C08_kernel_layout_free {α β} (m₁ m₂ : Int → α) (v₁ v₂ : View) (wf₁ : v₁.WF) (wf₂ : v₂.WF)
    (h : SameLogical m₁ v₁ m₂ v₂) (K : (Fin (shapeSize v₁.shape) → α) → β) :
    K (fun i => readIter m₁ v₁ i) = K (fun i => readIter m₂ v₂ i) ∧
    K (fun i => readAtFlat m₁ v₁ i) = K (fun i => readAtFlat m₂ v₂ i) := by
  constructor
  · congr 1; funext i
    exact (C08_accessor_reads_layout_free m₁ m₂ v₁ v₂ wf₁ wf₂ h i i.2).1
  · congr 1; funext i
    exact (C08_accessor_reads_layout_free m₁ m₂ v₁ v₂ wf₁ wf₂ h i i.2).2.1

/-- **Machine-level detail of `stride()`.** The C++ divides the byte stride by `sizeof(T)` in *unsigned*
64-bit arithmetic (a negative stride first becomes `2^64 - |s|`). Whenever the item size divides both
`2^64` (1, 2, 4, 8, 16 bytes) and the stride, stepping `c` elements in wrapping pointer arithmetic moves by
exactly `c * stride` bytes modulo `2^64` — the signed element stride of the model. -/
theorem C08_unsigned_stride_division (sb : Int) (sz c : Nat) (h64 : sz ∣ two64) (hdiv : (sz : Int) ∣ sb) :
    ((unsignedStepBytes sb sz c : Nat) : Int) = ((c : Int) * sb) % (two64 : Int) := by
  unfold unsignedStepBytes
  have hnn : 0 ≤ sb % (two64 : Int) := Int.emod_nonneg _ (by decide)
  have hu : (((sb % (two64 : Int)).toNat : Nat) : Int) = sb % (two64 : Int) := Int.toNat_of_nonneg hnn
  have hdvd : (sz : Int) ∣ sb % (two64 : Int) := by
    rw [Int.emod_def]
    exact Int.dvd_sub hdiv (Dvd.dvd.mul_right (by exact_mod_cast h64) _)
  have hdn : sz ∣ (sb % (two64 : Int)).toNat := by
    have : (sz : Int) ∣ (((sb % (two64 : Int)).toNat : Nat) : Int) := by rw [hu]; exact hdvd
    exact_mod_cast this
  rw [Nat.mul_assoc, Nat.div_mul_cancel hdn]
  push_cast
  rw [hu, Int.mul_emod, Int.emod_emod_of_dvd _ (dvd_refl _), ← Int.mul_emod]

/-- **T4 (wrapper accepts all layouts), decision logic.** `np.require(a, requirements='CAW')` and
`np.array(a, order='C')` hand a behaved C array to the native `ISCARRAY` guard whatever the flags of the
user's array; `requirements='CW'` does so for every aligned array (all seven layouts are aligned). -/
theorem C08_normalisation_accepts_all_layouts (f : Flags) :
    wrapperAccepts .requireCAW f = true ∧ wrapperAccepts .arrayC f = true ∧
    (f.aligned = true → wrapperAccepts .requireCW f = true) := by
  obtain ⟨c, a, w, o⟩ := f
  cases c <;> cases a <;> cases w <;> cases o <;> decide

/-- **The normalisations of mahotas before 6cb3b89, 5330b5d, 39cddae reject valid data.** `np.ascontiguousarray` returns a
read-only C-contiguous array unchanged (so `fullhistogram`/`otsu`/`rc`/`pftas`/`convexhull` raised for
read-only images), and `np.array(a)` with the default `order='K'` keeps Fortran order (so `relabel` /
`remove_regions` raised for Fortran-ordered labels): in both cases valid data turned into an exception. -/
theorem C08_pinned_normalisations_reject :
    wrapperAccepts .ascontiguousarray { ccontig := true, aligned := true, writeable := false, fOrder := false } = false ∧
    wrapperAccepts .arrayK { ccontig := false, aligned := true, writeable := true, fOrder := true } = false := by
  decide

/-- **Tie to the source.** Every normalisation the translator finds in front of the
native guards of `_labeled` (`_as_labeled`, `_convert_labeled`), `_histogram` (`fullhistogram`) and
`_convex` (`convexhull`) is one of the accepting ones: for all eight flag combinations of an aligned
array the wrapper reaches the native code with a behaved C array. A wrapper that goes back to a rejecting
normalisation (drops `order='C'` or `requirements='CAW'`) changes `Generated.normSites` and breaks this theorem. -/
theorem C08_wrappers_accept_all_layouts_source_tie :
    (Generated.normSites.all fun site =>
      match Norm.ofString site.2 with
      | none => false
      | some n =>
        [true, false].all fun c => [true, false].all fun w => [true, false].all fun o =>
          wrapperAccepts n { ccontig := c, aligned := true, writeable := w, fOrder := o }) = true := by
  decide +kernel

/-- **T5 (purity, decision logic tied to the source).** The three wrappers
around in-place native kernels — `convolve._wavelet_array` (haar, ihaar, daubechies, idaubechies),
`labeled._as_labeled` (relabel, remove_regions, remove_regions_where) and `features.surf.integral` —
hand the kernel a fresh array (`copy()`, `astype`, `np.array`) on every path taken when their
`inline` / `inplace` / `in_place` flag is false: the caller's array is only reachable when asked for.
(That `copy`/`astype`/`np.array` really copy, and that no other function writes to an argument, is
validated by the sweep's before/after hashes.) -/
theorem C08_inplace_kernels_only_when_asked :
    Generated.copyGuards.map (fun g => (g.1, g.2.1)) =
      [("convolve._wavelet_array", "inline"), ("labeled._as_labeled", "inplace"),
       ("features.surf.integral", "in_place")] ∧
    (Generated.copyGuards.all fun g => inplaceTarget false g.2.2 == .copy) = true ∧
    (∀ calls, inplaceTarget true calls = .user) := by
  refine ⟨by decide +kernel, by decide +kernel, fun calls => by simp [inplaceTarget]⟩

/-! non-vacuity: a reversed, transposed, gapped 3×2×2 view (negative and non-monotone strides, offset
    base) is well-formed; the iterator, `at_flat` and the address map agree on all 12 elements, and it
    presents the same logical array as a C-contiguous view of a permuted memory. -/
example :
    let v : View := { base := 10, shape := [3, 2, 2], strides := [-2, 12, -6] }
    v.strides.length = v.shape.length ∧
    (List.range 12).map (fun k => ((Iter.begin v).incrN k).data) = [10, 4, 22, 16, 8, 2, 20, 14, 6, 0, 18, 12] ∧
    (List.range 12).map v.atFlat = [10, 4, 22, 16, 8, 2, 20, 14, 6, 0, 18, 12] ∧
    (List.range 12).map (fun k => v.addr (unravel v.shape k)) = [10, 4, 22, 16, 8, 2, 20, 14, 6, 0, 18, 12] := by
  decide +kernel


/-! ## The neighbourhood kernels over views

The view-level kernels of `Model/C08Base.lean` (`erodeView`, `dilateView`, `locView`, `convolveView`, `rankView`,
`meanView`, `tmView`, `bordersView`, `hitmissView`, `cwatershedView`, `bboxView`, `comView`, `lineVals`) read their
array arguments only through the transliterated accessors: the array iterator, `at_flat`, and the offset table of a
`filter_iterator` multiplied with the strides of the array it is applied to. -/

/-- **T1, filter iterator over a view (F6 with `astrides` + F7).** For every well-formed view `vA` with at least
one element per axis, every filter view `vF` of the same rank with at least one element per axis (any layout when
`compress`, C-contiguous when the raw data pointer is indexed), every border mode, and every loop iteration
`i < size`: the pairs `(retrieve(iter, j, ·), filter[j])` the inner loop of a neighbourhood kernel sees are exactly
the *logical* neighbours: footprint elements in C order, each with the logical element at
`fix(mode, unravel i + k − ⌊fshape/2⌋)` (`none` when flagged) and the logical filter value — whatever the
strides of either array. -/
theorem C08_filter_reads_logical_neighbours {α : Type} (isNZ : α → Bool) (mA : Int → α) (vA : View) (mF : Int → α)
    (vF : View) (m : Mode) (compress : Bool) (h : FilterArgs vA vF compress) (d : α) (i : Nat)
    (hi : i < shapeSize vA.shape) :
    (mkFiltV isNZ vA mF vF m compress).neigh d mA (iterPtr vA i) i =
      logicalNeigh m (toImg mA vA) vF.shape (logical mF vF) (if compress then isNZ else fun _ => true) d
        (unravelI vA.shape i) :=
  neigh_logical isNZ mA mF m h d i hi


/-! ### every view kernel *is* the owning property's logical model (value-level ties), and therefore returns the
property's specification for ANY memory layout of its arguments (`C08_<kernel>_view_correct`)

`toImg mem v` / `logical mem v` are the logical array (C order) a (memory, view) pair presents; `FilterArgs` is what the
wrappers and native guards establish (well-formed views, at least one element per axis, equal rank, and a
C-contiguous filter where the kernel indexes its raw data pointer). Unwritten cells are `none`: an equation with
`….map some` on the right also says that every cell is written (F15). -/

/-- **erode over views = `C01.erodeModel`.** For every dtype, every (memory, view) pair of the image (any strides:
negative, zero, non-monotone, offset) and of the structuring element: the output of the view-level `erode<T>` is, cell
by cell, `some` of the array `C01.erodeModel` computes from the *logical* image and the support of the *logical*
element — the very definition C01's theorems are about. -/
theorem C08_erodeView_eq_C01 (dt : DT) (mA : Int → Int) (vA : View) (mB : Int → Int) (vB : View)
    (h : FilterArgs vA vB dt.isBool) :
    erodeView dt mA vA mB vB =
      (C01.erodeModel dt (toImg mA vA) (C01.support vB.shape (logical mB vB).toArray dt.isBool)).map some := by
  -- the fill for an empty element is what the loop writes when there is nothing to minimise over
  have h1 : erodeView dt mA vA mB vB = pixelLoop (shapeSize vA.shape) fun i =>
      erodeInner dt ((mkFiltV (fun x => x != 0) vA mB vB .nearest dt.isBool).neigh 0 mA (iterPtr vA i) i) dt.hi := by
    unfold erodeView
    simp only
    split
    · rename_i hz
      apply pixelLoop_congr
      intro i _
      unfold FiltV.neigh
      rw [hz]
      rfl
    · rfl
  rw [h1]
  unfold C01.erodeModel
  apply pixelLoop_eq_allPos vA.shape _ (C01.erodeAtExit dt (toImg mA vA) _)
  intro i hi
  rw [neigh_logical _ mA mB .nearest h 0 i hi, logicalNeigh_eq, C01_support_eq]
  unfold C01.erodeAtExit
  apply erodeInner_eq
  intro kk _
  exact ⟨nbAt_getD_nearest _ _ _ _, rfl⟩

/-- **erode is correct for any memory layout.** For every integer dtype and bool, every view of an in-range image and
every view of an admissible structuring element, the view-level kernel writes at every pixel the lattice definition
`min_{k ∈ Bc} saturate(A[clamp(p+k)] − Bc[k])` of the logical arrays (`C01_erode_model_eq_spec` composed with the tie). -/
theorem C08_erode_view_correct (dt : DT) (hdt : dt.WF ∨ dt = dtBool) (mA : Int → Int) (vA : View) (mB : Int → Int)
    (vB : View) (h : FilterArgs vA vB dt.isBool) (hA : C01.ImageInRange dt (toImg mA vA))
    (hB : C01.AdmissibleElem dt (C01.support vB.shape (logical mB vB).toArray dt.isBool)) :
    erodeView dt mA vA mB vB =
      (((allPos vA.shape).map (C01.erodeSpecAt dt (toImg mA vA)
        (C01.support vB.shape (logical mB vB).toArray dt.isBool))).toArray).map some := by
  rw [C08_erodeView_eq_C01 dt mA vA mB vB h,
    (C01_erode_model_eq_spec dt hdt (toImg mA vA) _ h.posA.pos hA hB).2]
  rfl

/-- **dilate over views = `C01.dilateModel`.** The scatter kernel reads the input through its iterator and writes
through a filter iterator built on the C-contiguous output: `i + Σ cstride·(q − p)` is the flat index of the clamped
target `q`, and the `Option` cells of the view model are `some` of the cells of C01's scatter model throughout. -/
theorem C08_dilateView_eq_C01 (dt : DT) (mA : Int → Int) (vA : View) (mB : Int → Int) (vB : View)
    (wfA : vA.WF) (h : FilterArgs (outView vA.shape) vB dt.isBool) :
    dilateView dt mA vA mB vB =
      (C01.dilateModel dt (toImg mA vA) (C01.support vB.shape (logical mB vB).toArray dt.isBool)).map some := by
  rw [dilateView_loops]
  unfold C01.dilateModel
  rw [show allPos (toImg mA vA).shape = (List.range (shapeSize vA.shape)).map (unravelI vA.shape) from rfl,
    List.foldl_map]
  refine (foldl_rel_mem (DilRel (shapeSize vA.shape)) _ _ _ (fun res out i hi hR => ?_) _ _
    ⟨?_, by simp [Img.size, toImg]⟩).1
  · -- one iteration of the outer loop: the scatter of pixel `i` over the element
    have hi' := List.mem_range.1 hi
    dsimp only
    rw [readIter_logical mA vA wfA i hi' dt.lo]
    split
    · exact hR
    · rw [dilateInner_eq, ← iterPtr_outView vA.shape i hi', neigh_logical _ _ mB .nearest h 0 i hi', logicalNeigh_eq,
        C01_support_eq, List.foldl_map, List.foldl_map]
      exact foldl_rel_mem (DilRel (shapeSize vA.shape)) _ _ _
        (fun res' out' kk _ hR' => scatter1_sim dt vA.shape vB.shape h.posA h.rank _ i kk ((logical mB vB).getD kk 0)
          res' out' hR') _ _ hR
  · rw [pixelLoop_eq, Array.map_replicate, replicate_eq_map]
    rfl

/-- **F15, dilate.** `std::fill` writes every cell before the scatter, and the scatter only overwrites. -/
theorem C08_defined_everywhere_dilate (dt : DT) (mA : Int → Int) (vA : View) (mB : Int → Int) (vB : View) :
    (dilateView dt mA vA mB vB).size = shapeSize vA.shape ∧ AllSome (dilateView dt mA vA mB vB) := by
  rw [dilateView_loops]
  refine foldl_inv (fun (r : Array (Option Int)) => r.size = shapeSize vA.shape ∧ AllSome r) _ (fun a i ha => ?_) _ _
    (pixelLoop_defined _ _)
  dsimp only
  split
  · exact ha
  · exact foldl_inv (fun (r : Array (Option Int)) => r.size = shapeSize vA.shape ∧ AllSome r) _
      (fun a' j ha' => dilateStep_inv dt _ _ i a' j _ ha') _ _ ha

/-- **dilate is correct for any memory layout** at every pixel C01 proves the scatter kernel correct at (regular —
star-shaped, flat — elements: everywhere; any admissible element: where the element box fits): the written cell is the
lattice definition `max_{k ∈ Bc} saturate(A[clamp(q−k)] + Bc[k])` of the logical arrays. -/
theorem C08_dilate_view_correct (dt : DT) (hdt : C01.DTypeOK dt) (mA : Int → Int) (vA : View) (mB : Int → Int)
    (vB : View) (wfA : vA.WF) (h : FilterArgs (outView vA.shape) vB dt.isBool)
    (hA : C01.ImageInRange dt (toImg mA vA))
    (hB : C01.AdmissibleElem dt (C01.support vB.shape (logical mB vB).toArray dt.isBool))
    (q : List Int) (hq : inside vA.shape q = true)
    (hobs : (C01.starShaped vB.shape (((C01.support vB.shape (logical mB vB).toArray dt.isBool).filter
                (C01.isMember dt)).map (·.1)) &&
             C01.flatHeights (((C01.support vB.shape (logical mB vB).toArray dt.isBool).filter
                (C01.isMember dt)).map (·.2)) ||
             C01.boxInterior vA.shape vB.shape q) = true) :
    (dilateView dt mA vA mB vB).getD (ravelI vA.shape q) none =
      some (C01.dilateSpecAt dt (toImg mA vA) (C01.support vB.shape (logical mB vB).toArray dt.isBool) q) := by
  have hsz := (C08_defined_everywhere_dilate dt mA vA mB vB).1
  have hspec := C01_dilate_eq_spec_where_observed dt hdt (toImg mA vA) vB.shape
    (C01.support vB.shape (logical mB vB).toArray dt.isBool) q h.posA.pos h.rank.symm
    (C01_support_offsets_in_box vB.shape _ dt.isBool).1 hA hB hq hobs
  rw [C08_dilateView_eq_C01 dt mA vA mB vB wfA h] at hsz ⊢
  rw [map_some_getD _ _ dt.lo (by rw [Array.size_map] at hsz; rw [hsz]; exact C01.ravelI_lt _ _ hq)]
  exact congrArg some hspec

/-- **convolve over views = `C06.convAcc` tabulated** (then the cast `T(cur)`), in any arithmetic — the driver runs
the polymorphic kernel at exact integers, C06 at `Float`. -/
theorem C08_convolveView_eq_C06 {α : Type} [Add α] [Mul α] [Zero α] (isZero : α → Bool) (cast : α → α) (m : Mode)
    (mA : Int → α) (vA : View) (mW : Int → α) (vW : View) (h : FilterArgs vA vW true) :
    convolveView 0 isZero cast m mA vA mW vW =
      (((allPos vA.shape).map fun p =>
        cast (C06.convAcc m (toImg mA vA) (C06.support isZero vW.shape (logical mW vW).toArray) p)).toArray).map
        some := by
  unfold convolveView
  simp only
  apply pixelLoop_eq_allPos vA.shape
  intro i hi
  rw [neigh_logical _ mA mW m h 0 i hi, logicalNeigh_eq, C06_support_eq]
  unfold convInner C06.convAcc
  simp only [if_true, List.foldl_map, nbAt_eq_sample]
  rfl

/-- **convolve is correct for any memory layout.** Over every commutative semiring, every border mode, every view of
the image and of the weights: each output cell is the cast of the defining sum `Σ_j w[j]·f[border(p + j − c)]` of the
logical arrays (`C06_convolve_eq_spec`). -/
theorem C08_convolve_view_correct {R : Type} [CommSemiring R] (isZero : R → Bool)
    (hz : ∀ x, isZero x = true → x = 0) (cast : R → R) (m : Mode)
    (mA : Int → R) (vA : View) (mW : Int → R) (vW : View) (h : FilterArgs vA vW true) :
    convolveView 0 isZero cast m mA vA mW vW =
      (((allPos vA.shape).map fun p =>
        cast (C06.convSpec m (toImg mA vA) vW.shape (logical mW vW).toArray p)).toArray).map some := by
  rw [C08_convolveView_eq_C06 isZero cast m mA vA mW vW h,
    List.map_congr_left fun p _ => congrArg cast (C06_convolve_eq_spec isZero hz m (toImg mA vA) h.posA.pos _ _ p)]

/-- **rank_filter over views = `C07.rankAt`** at every pixel (`none` where the native kernel writes nothing defined). -/
theorem C08_rankView_eq_C07 (m : Mode) (rank : Int) (mA : Int → Int) (vA : View) (mB : Int → Int) (vB : View)
    (h : FilterArgs vA vB true) :
    rankView m rank mA vA mB vB =
      ((allPos vA.shape).map
        (C07.rankAt m (toImg mA vA) (C07.footprint vB.shape (logical mB vB).toArray) rank)).toArray := by
  have hfl : (C07.footprint vB.shape (logical mB vB).toArray).length =
      (mkFiltV (fun x => x != 0) vA mB vB m true).fi.size := by
    rw [mkFiltV_size _ mB m h 0, C07_footprint_eq, List.length_map]
    rfl
  unfold rankView
  simp only
  by_cases hr : rank < 0 ∨ rank ≥ ((mkFiltV (fun x => x != 0) vA mB vB m true).fi.size : Int)
  · rw [if_pos hr, replicate_eq_map]
    simp only [allPos, List.map_map]
    congr 1
    apply List.map_congr_left
    intro i _
    simp only [Function.comp, C07.rankAt]
    rw [hfl, if_pos hr]
  · rw [if_neg hr, pixelLoop_eq]
    simp only [allPos, List.map_toArray, List.map_map]
    congr 1
    apply List.map_congr_left
    intro i hi
    simp only [Function.comp, C07.rankAt, Option.bind_some, id]
    rw [hfl, if_neg hr, neigh_logical _ mA mB m h 0 i (List.mem_range.1 hi), logicalNeigh_eq, C07_footprint_eq]
    simp only [if_true, gatherInner_eq]

/-- **rank_filter (median_filter) is correct for any memory layout**: every cell is the specification
`C07.rankSpecAt` — the `k`-th smallest of the samples the mathematical border rule selects — of the logical arrays. -/
theorem C08_rank_filter_view_correct (m : Mode) (rank : Int) (mA : Int → Int) (vA : View) (mB : Int → Int)
    (vB : View) (h : FilterArgs vA vB true) :
    rankView m rank mA vA mB vB =
      ((allPos vA.shape).map
        (C07.rankSpecAt m (toImg mA vA) (C07.footprint vB.shape (logical mB vB).toArray) rank)).toArray := by
  rw [C08_rankView_eq_C07 m rank mA vA mB vB h,
    List.map_congr_left fun p _ => C07_rank_eq_spec m (toImg mA vA) h.posA.pos _ rank p]

/-- **mean_filter over views = `C07.meanParts`** (`(sum, n)` per pixel). -/
theorem C08_meanView_eq_C07 (m : Mode) (mA : Int → Int) (vA : View) (mB : Int → Int) (vB : View)
    (h : FilterArgs vA vB true) :
    meanView m mA vA mB vB =
      (((allPos vA.shape).map
        (C07.meanParts m (toImg mA vA) (C07.footprint vB.shape (logical mB vB).toArray))).toArray).map some := by
  unfold meanView
  simp only
  apply pixelLoop_eq_allPos vA.shape
  intro i hi
  rw [neigh_logical _ mA mB m h 0 i hi, logicalNeigh_eq, C07_footprint_eq]
  simp only [if_true, gatherInner_eq]
  rfl

/-- **mean_filter is correct for any memory layout**: exact sum and number of the samples the border rule selects. -/
theorem C08_mean_filter_view_correct (m : Mode) (mA : Int → Int) (vA : View) (mB : Int → Int) (vB : View)
    (h : FilterArgs vA vB true) :
    meanView m mA vA mB vB =
      (((allPos vA.shape).map
        (C07.meanSpecParts m (toImg mA vA) (C07.footprint vB.shape (logical mB vB).toArray))).toArray).map some := by
  rw [C08_meanView_eq_C07 m mA vA mB vB h,
    List.map_congr_left fun p _ => C07_mean_exact m (toImg mA vA) h.posA.pos _ p]

/-- **template_match over views = `C07.tmAt`** (template C-contiguous, as the wrapper passes it). -/
theorem C08_tmView_eq_C07 (m : Mode) (mA : Int → Int) (vA : View) (mT : Int → Int) (vT : View)
    (h : FilterArgs vA vT false) :
    tmView m mA vA mT vT =
      (((allPos vA.shape).map
        (C07.tmAt m (toImg mA vA) vT.shape (logical mT vT).toArray)).toArray).map some := by
  unfold tmView
  simp only
  apply pixelLoop_eq_allPos vA.shape
  intro i hi
  rw [neigh_logical _ mA mT m h 0 i hi, logicalNeigh_eq]
  simp only [Bool.false_eq_true, if_false, keptIdx_all]
  unfold tmInner C07.tmAt
  rw [List.foldl_map]
  congr 1
  funext diff2 j
  simp only [nbAt, getD_toArray, C07.offsetOf, offAt]
  cases fixPos m (toImg mA vA).shape
    (addPos (unravelI vA.shape i) (subPos (unravelI vT.shape j) (centreOf vT.shape))) <;> rfl

/-- **template_match is correct for any memory layout of the image**: the sum of squared differences `C07.tmSpecAt`. -/
theorem C08_template_match_view_correct (m : Mode) (mA : Int → Int) (vA : View) (mT : Int → Int) (vT : View)
    (h : FilterArgs vA vT false) :
    tmView m mA vA mT vT =
      (((allPos vA.shape).map
        (C07.tmSpecAt m (toImg mA vA) vT.shape (logical mT vT).toArray)).toArray).map some := by
  rw [C08_tmView_eq_C07 m mA vA mT vT h,
    List.map_congr_left fun p _ => C07_template_match_ssd m (toImg mA vA) h.posA.pos _ _ p]

/-- **locmin_max over views = `C14.locModel`** with the neighbourhood `C14.neighbours` (centre removed; a centre entry
left in `Bc` never beats the pixel itself, so it changes nothing). -/
theorem C08_locView_eq_C14 (isMin : Bool) (mA : Int → Int) (vA : View) (mB : Int → Int) (vB : View)
    (h : FilterArgs vA vB true) :
    locView isMin mA vA mB vB =
      (C14.locModel isMin (toImg mA vA) (C14.neighbours vB.shape (logical mB vB).toArray)).map some := by
  unfold locView C14.locModel
  simp only
  rw [markLoop_eq_pixelLoop]
  apply pixelLoop_eq_allPos vA.shape _ (C14.locAt isMin (toImg mA vA) _)
  intro i hi
  have hin : inside (toImg mA vA).shape (unravelI vA.shape i) = true := C01.inside_unravelI _ _ hi
  rw [neigh_logical _ mA mB .nearest h 0 i hi, logicalNeigh_eq, locInner_eq_all, C14_neighbours_eq,
    readIter_logical mA vA h.wfA i hi 0]
  unfold C14.locAt
  simp only [if_true, List.all_map]
  rw [all_filter_of]
  · apply List.all_congr rfl
    intro kk
    simp only [Function.comp, nbAt_getD_nearest]
  · -- a centre entry left in `Bc` reads the pixel itself, which does not beat itself
    intro kk _ hz
    have hz' : C14.isZeroPos (offAt vB.shape kk) = true := by simpa using hz
    have hl : (offAt vB.shape kk).length = (unravelI vA.shape i).length := by
      rw [offAt_length, Mahotas.unravelI_length]; exact h.rank.symm
    simp only [Function.comp]
    rw [C01.addPos_zero _ _ hz' hl, C01.readNearest_eq _ _ h.posA.pos, C01.clampPos_of_inside _ _ hin, beats_self]
    rfl

/-- **locmax/locmin are correct for any memory layout**: with a star-shaped neighbourhood (cross, box, disk) a pixel is
marked exactly when no neighbour *inside the image* beats it (`C14_locmax_eq_spec`). -/
theorem C08_locminmax_view_correct (isMin : Bool) (mA : Int → Int) (vA : View) (mB : Int → Int) (vB : View)
    (h : FilterArgs vA vB true)
    (hstar : C14.StarShaped (C14.neighbours vB.shape (logical mB vB).toArray)) :
    locView isMin mA vA mB vB =
      (((allPos vA.shape).map
        (C14.locSpecAt isMin (toImg mA vA) (C14.neighbours vB.shape (logical mB vB).toArray))).toArray).map some := by
  rw [C08_locView_eq_C14 isMin mA vA mB vB h]
  unfold C14.locModel
  congr 2
  apply List.map_congr_left
  intro p hp
  have hin := (C01.mem_allPos _ _).mp hp
  have hpl := C01.inside_length hin
  apply C14_locmax_eq_spec isMin (toImg mA vA) _ p hin _ hstar
  intro k hk
  rw [C14_neighbours_eq] at hk
  simp only [List.mem_map] at hk
  obtain ⟨kk, _, rfl⟩ := hk
  rw [offAt_length, hpl]
  exact h.rank.symm

/-- **labeled.borders over views = `C13.bordersModel`.** -/
theorem C08_bordersView_eq_C13 (m : Mode) (mA : Int → Int) (vA : View) (mB : Int → Int) (vB : View)
    (h : FilterArgs vA vB true) :
    bordersView m mA vA mB vB =
      ((C13.bordersModel m vA.shape (logical mA vA) (C03.offsets vB.shape (logical mB vB).toArray)).map
        some).toArray := by
  unfold bordersView C13.bordersModel
  simp only
  rw [markLoop_eq, logical_length, List.map_map]
  congr 1
  apply List.map_congr_left
  intro i hi
  have hi' : i < shapeSize vA.shape := List.mem_range.1 hi
  simp only [Function.comp]
  rw [neigh_logical _ mA mB m h 0 i hi', logicalNeigh_eq, C03_offsets_eq, readIter_eq mA vA h.wfA.len i hi',
    logical_getD mA vA i hi' 0]
  simp only [if_true, List.any_map]
  congr 1
  apply List.any_congr rfl
  intro kk
  simp only [Function.comp, nbAt]
  cases hq : fixPos m (toImg mA vA).shape (addPos (unravelI vA.shape i) (offAt vB.shape kk)) with
  | none =>
    have hq' : fixPos m vA.shape (addPos (unravelI vA.shape i) (offAt vB.shape kk)) = none := hq
    simp [hq']
  | some q =>
    have hq' : fixPos m vA.shape (addPos (unravelI vA.shape i) (offAt vB.shape kk)) = some q := hq
    have hin := inside_fixPos m vA.shape _ q h.posA.pos (addPos_offAt_length vA.shape vB.shape h.rank i kk) hq'
    simp only [hq', Option.map_some]
    rw [toImg_getD_ravel mA vA q 0 hin]

/-- **labeled.borders is correct for any memory layout**: a pixel is marked exactly when one of the neighbours the
element and the mathematical border rule of the mode define carries a different label (`C13_borders_spec`). -/
theorem C08_borders_view_correct (m : Mode) (mA : Int → Int) (vA : View) (mB : Int → Int) (vB : View)
    (h : FilterArgs vA vB true) :
    bordersView m mA vA mB vB =
      ((C13.bordersSpec m vA.shape (logical mA vA) (C03.offsets vB.shape (logical mB vB).toArray)).map
        some).toArray := by
  rw [C08_bordersView_eq_C13 m mA vA mB vB h, C13_borders_spec m vA.shape _ _ h.posA.pos]

/-- **hitmiss over views = `C14.hitmissAt`, no bound assumed.** Wherever the loop control lets the template be
evaluated the template fits, so every `i + delta` is the flat index of the inside position `p + k − centre` (the
argument of `C10_hitmiss_in_bounds` for the pointwise loop control `C14.hmEvaluated`: `C10.hmEvaluated_fits`,
`C10.Fits_neighbour`; odd and even template sizes); `at_flat` (F8) then reads that logical element, whatever the strides. -/
theorem C08_hitmissView_eq_C14 (mA : Int → Int) (vA : View) (mB : Int → Int) (vB : View) (wfA : vA.WF) (wfB : vB.WF)
    (hl : vB.shape.length = vA.shape.length) :
    hitmissView mA vA mB vB =
      (((allPos vA.shape).map
        (C14.hitmissAt (toImg mA vA) vB.shape (C14.hmEntries vB.shape (logical mB vB).toArray))).toArray).map
        some := by
  unfold hitmissView
  simp only
  apply pixelLoop_eq_allPos vA.shape
  intro i hi
  unfold C14.hitmissAt
  rw [flatToPos_unravel vA i hi, show (toImg mA vA).shape = vA.shape from rfl]
  by_cases hev : C14.hmEvaluated vA.shape vB.shape (unravelI vA.shape i) = true
  · rw [if_pos hev, if_pos hev, hmTable_eq vA mB vB wfB, C14_hmEntries_eq, List.all_map, List.all_map]
    congr 2
    apply all_congr_mem
    intro j hj
    have hj' : j < shapeSize vB.shape := List.mem_range.1 (List.mem_filter.1 hj).1
    simp only [Function.comp]
    rw [(hm_read mA vA wfA vB.shape hl i hi hev j hj').2]
  · rw [if_neg hev, if_neg hev]

/-- **hitmiss is layout-free**: no in-bounds hypothesis. -/
theorem C08_hitmiss_layout_free (mA₁ mA₂ mB₁ mB₂ : Int → Int) (vA₁ vA₂ vB₁ vB₂ : View)
    (wA₁ : vA₁.WF) (wA₂ : vA₂.WF) (wB₁ : vB₁.WF) (wB₂ : vB₂.WF) (hl : vB₁.shape.length = vA₁.shape.length)
    (hA : SameLogical mA₁ vA₁ mA₂ vA₂) (hB : SameLogical mB₁ vB₁ mB₂ vB₂) :
    hitmissView mA₁ vA₁ mB₁ vB₁ = hitmissView mA₂ vA₂ mB₂ vB₂ := by
  rw [C08_hitmissView_eq_C14 mA₁ vA₁ mB₁ vB₁ wA₁ wB₁ hl,
    C08_hitmissView_eq_C14 mA₂ vA₂ mB₂ vB₂ wA₂ wB₂ (by rw [← hA.1, ← hB.1]; exact hl),
    hA.toImg_eq, hB.logical_eq, hA.1, hB.1]

/-- **hitmiss is correct for any memory layout**: for templates with odd sides the output is 1 exactly where the
whole template lies inside the image and every 0/1 entry equals the pixel under it (`C14_hitmiss_eq_spec`). -/
theorem C08_hitmiss_view_correct (mA : Int → Int) (vA : View) (mB : Int → Int) (vB : View) (wfA : vA.WF)
    (wfB : vB.WF) (hl : vB.shape.length = vA.shape.length) (hne : vA.shape ≠ [])
    (hodd : ∀ b ∈ vB.shape, b % 2 = 1) :
    hitmissView mA vA mB vB =
      (((allPos vA.shape).map
        (C14.hitmissSpecAt (toImg mA vA) vB.shape (logical mB vB).toArray)).toArray).map some := by
  rw [C08_hitmissView_eq_C14 mA vA mB vB wfA wfB hl, List.map_congr_left (l := allPos vA.shape) fun p hp =>
    C14_hitmiss_eq_spec (toImg mA vA) vB.shape (logical mB vB).toArray p hodd hne hl (C01.inside_length ((C01.mem_allPos _ _).mp hp))]

/-- **bbox is layout-free, both paths.** The generic `bbox<T>` (value *and* `position()` of the array iterator) and
the raw-pointer walk `carray2_bbox` taken for 2-D C-arrays both compute `C13.bboxGeneric` of the logical array. -/
theorem C08_bbox_layout_free (mA : Int → Int) (vA : View) (wf : vA.WF) :
    bboxView mA vA = C13.bboxGeneric vA.shape (logical mA vA) ∧
    ∀ (mA₂ : Int → Int) (vA₂ : View), vA₂.WF → SameLogical mA vA mA₂ vA₂ → bboxView mA vA = bboxView mA₂ vA₂ := by
  have gen : ∀ (m : Int → Int) (v : View), v.WF → bboxGenericView m v = C13.bboxGeneric v.shape (logical m v) := by
    intro m v w
    unfold bboxGenericView C13.bboxGeneric
    rw [logical_length]
    congr 1
    apply List.foldl_ext
    intro ext i hi
    have hi' : i < shapeSize v.shape := List.mem_range.1 hi
    rw [position_eq v w.len i hi', logical_getD m v i hi' 0, readIter_eq m v w.len i hi']
  have all : ∀ (m : Int → Int) (v : View), v.WF → bboxView m v = C13.bboxGeneric v.shape (logical m v) := by
    intro m v w
    unfold bboxView
    split
    · rename_i N0 N1 hc hs
      have hsz : shapeSize v.shape = N0 * N1 := by rw [hs]; simp [shapeSize]
      rw [← hsz, raw_eq_logical m v (w.carray hc), hs]
      exact C13.bboxFast_eq_generic N0 N1 _ (by rw [logical_length, hsz])
    · exact gen m v w
  refine ⟨all mA vA wf, fun mA₂ vA₂ wf₂ h => ?_⟩
  rw [all mA vA wf, all mA₂ vA₂ wf₂, h.logical_eq, h.1]

/-- **bbox is correct for any memory layout** (both code paths): all zeros for an image without non-zero pixel,
otherwise the box left by the scan of the logical array, which `C13_bbox_generic_tight` shows tight on every axis. -/
theorem C08_bbox_view_correct (mA : Int → Int) (vA : View) (wf : vA.WF) (hnd : 0 < vA.shape.length) :
    let data := logical mA vA
    let ps := ((List.range data.length).filter fun i => data.getD i 0 ≠ 0).map (unravelI vA.shape)
    let ext := (List.range data.length).foldl (fun ext i =>
      if data.getD i 0 ≠ 0 then C13.bboxUpdate ext (unravelI vA.shape i) else ext) (C13.bboxInit vA.shape)
    (ps = [] → bboxView mA vA = (C13.bboxInit vA.shape).map (fun _ => 0)) ∧
    (ps ≠ [] → bboxView mA vA = ext) := by
  intro data ps ext
  rw [(C08_bbox_layout_free mA vA wf).1]
  exact C13_bbox_result vA.shape (logical mA vA) (logical_length mA vA) hnd

/-- **center_of_mass is layout-free**: the image is read as `*pos` of its iterator. -/
theorem C08_center_of_mass_layout_free {α : Type} (ops : C13.NumOps α) (mA₁ mA₂ : Int → α) (vA₁ vA₂ : View)
    (w₁ : vA₁.WF) (w₂ : vA₂.WF) (labels : List Int) (h : SameLogical mA₁ vA₁ mA₂ vA₂) :
    comView ops mA₁ vA₁ labels = C13.comModelG ops vA₁.shape (logical mA₁ vA₁) labels ∧
    comView ops mA₁ vA₁ labels = comView ops mA₂ vA₂ labels := by
  unfold comView
  rw [← filtVals, ← filtVals, filtVals_eq mA₁ vA₁ w₁, filtVals_eq mA₂ vA₂ w₂, h.logical_eq, h.1]
  exact ⟨rfl, rfl⟩

/-- **center_of_mass is correct for any memory layout**: over any field, `Σ v·coord_j / Σ v` per label and axis of the
logical image (`C13_com_eq`). -/
theorem C08_center_of_mass_view_correct {α : Type} [Field α] (mA : Int → α) (vA : View) (wf : vA.WF)
    (labels : List Int) :
    comView (C13.fieldOps α) mA vA labels =
      (List.range ((C13.maxOf labels).toNat + 1)).flatMap fun l =>
        (List.range vA.shape.length).map fun j =>
          (((List.range (logical mA vA).length).filter fun i => (labels.getD i 0).toNat = l).map fun i =>
              (logical mA vA).getD i 0 * (((unravel vA.shape i).getD j 0 : Nat) : α)).sum /
          (((List.range (logical mA vA).length).filter fun i => (labels.getD i 0).toNat = l).map fun i =>
              (logical mA vA).getD i 0).sum := by
  rw [(C08_center_of_mass_layout_free (C13.fieldOps α) mA mA vA vA wf wf labels (SameLogical.refl mA vA)).1]
  exact C13_com_eq vA.shape (logical mA vA) labels

/-- **cwatershed is layout-free.** The surface and the markers are only ever read as `at_flat(i)`, `i < N` (F8), the
structuring element through its iterator (F7); everything else is flat-index arithmetic on the C-contiguous outputs.
The view-level kernel *is* the C04 model run on the logical arrays. -/
theorem C08_cwatershed_layout_free (mS₁ mS₂ mM₁ mM₂ mB₁ mB₂ : Int → Int) (vS₁ vS₂ vM₁ vM₂ vB₁ vB₂ : View)
    (wS₁ : vS₁.WF) (wS₂ : vS₂.WF) (wM₁ : vM₁.WF) (wM₂ : vM₂.WF) (wB₁ : vB₁.WF) (wB₂ : vB₂.WF)
    (hS : SameLogical mS₁ vS₁ mS₂ vS₂) (hM : SameLogical mM₁ vM₁ mM₂ vM₂) (hB : SameLogical mB₁ vB₁ mB₂ vB₂) :
    cwatershedView mS₁ vS₁ mM₁ vM₁ mB₁ vB₁ =
      C04.cwatershedModel (toImg mS₁ vS₁) (toImg mM₁ vM₁) vB₁.shape (logical mB₁ vB₁).toArray ∧
    cwatershedView mS₁ vS₁ mM₁ vM₁ mB₁ vB₁ = cwatershedView mS₂ vS₂ mM₂ vM₂ mB₂ vB₂ := by
  unfold cwatershedView
  rw [flatImg_eq _ _ wS₁, flatImg_eq _ _ wM₁, flatImg_eq _ _ wS₂, flatImg_eq _ _ wM₂,
    filtVals_eq _ _ wB₁, filtVals_eq _ _ wB₂, hS.toImg_eq, hM.toImg_eq, hB.logical_eq, hB.1]
  exact ⟨rfl, rfl⟩


/-- **cwatershed is correct for any memory layout** (composition of `C08_cwatershed_layout_free` with C04-T4/T5): for
every view of the surface, of the markers and of the structuring element, in the label output of the view kernel
(i) every marker pixel keeps its label, (ii) every labelled pixel is joined to a marker of its own label by
neighbourhood steps inside the image along which the label is constant, (iii) a pixel no marker can reach is 0 —
all stated on the logical arrays. -/
theorem C08_cwatershed_view_correct (mS mM mB : Int → Int) (vS vM vB : View) (wS : vS.WF) (wM : vM.WF) (wB : vB.WF)
    (hm : vM.shape = vS.shape) (hb : vB.shape.length = vS.shape.length) (p : List Int)
    (hp : inside vS.shape p = true) :
    let labels : Img Int := ⟨vS.shape, (cwatershedView mS vS mM vM mB vB).res⟩
    let offs := C04.offsets vB.shape (logical mB vB).toArray
    ((toImg mM vM).getD p 0 ≠ 0 → labels.getD p 0 = (toImg mM vM).getD p 0) ∧
    (labels.getD p 0 ≠ 0 → C04.Joined vS.shape offs (toImg mM vM) (fun r => labels.getD r 0) p) ∧
    (¬ C04.Reach vS.shape offs (toImg mM vM) p → labels.getD p 0 = 0) := by
  intro labels offs
  have e := (C08_cwatershed_layout_free mS mS mM mM mB mB vS vS vM vM vB vB wS wS wM wM wB wB
    (SameLogical.refl mS vS) (SameLogical.refl mM vM) (SameLogical.refl mB vB)).1
  have hl : labels = C04.modelLabels (toImg mS vS) (toImg mM vM) vB.shape (logical mB vB).toArray := by
    show (⟨vS.shape, (cwatershedView mS vS mM vM mB vB).res⟩ : Img Int) = _
    rw [e]; rfl
  rw [hl]
  exact ⟨fun hk => C04_markers_keep_labels _ _ _ _ hm hb p hp hk,
    fun h => C04_regions_connected _ _ _ _ hm hb p hp h,
    fun h => C04_unreached_zero _ _ _ _ hm hb p hp h⟩

/-- **F15 and value-level tie of the binary fast path.** `fast_binary_dilate_erode_2d` (taken by `py_erode` /
`py_dilate` for 2-D bool C-arrays) only ever *updates* its output in the row loops (`&=`, `|=`). Started on an output
nobody has written (`none` everywhere; an update of an unwritten cell leaves it unwritten), for every image shape
`Ny × Nx`, every 2-D structuring element in any memory layout (read through `Bc.at(y, x)`) and both branches: the
`std::copy` / `std::fill_n` in front of the loops assigns every cell, no cell is unwritten at the end, and the output is
cell by cell `some` of C01's row-loop model (`fastErodeLoops` / `fastDilateLoops`) run on the logical arrays. -/
theorem C08_defined_everywhere_fast_binary (isErosion : Bool) (mA : Int → Int) (vA : View) (mB : Int → Int)
    (vB : View) (Ny Nx By Bx : Nat) (hA : vA.shape = [Ny, Nx]) (hB : vB.shape = [By, Bx]) (wfA : vA.WF)
    (hc : vA.carray = true) :
    fastBinaryView isErosion mA vA mB vB =
      (if isErosion then C01.fastErodeLoops (toImg mA vA) vB.shape (logical mB vB).toArray
       else C01.fastDilateLoops (toImg mA vA) vB.shape (logical mB vB).toArray).map some ∧
    AllSome (fastBinaryView isErosion mA vA mB vB) := by
  have h := fastBinaryView_eq isErosion mA vA mB vB Ny Nx By Bx hA hB wfA hc
  refine ⟨h, ?_⟩
  rw [h]
  intro o ho
  simp only [Array.toList_map, List.mem_map] at ho
  obtain ⟨x, _, rfl⟩ := ho
  rfl

/-- **the binary fast path of erode is correct** (composition with `C01_fast_erode_loops_eq_pointwise`): for a 0/1
image the cell the fast path leaves at every pixel `(y, x)` is the lattice definition `C01.erodeSpecAt` over the
compressed support of the logical element — the same value the generic kernel writes (`C08_erode_view_correct`), so
the dispatch of `py_erode` on `ISCARRAY` (a property of the memory layout) is unobservable. -/
theorem C08_fast_erode_view_correct (mA : Int → Int) (vA : View) (mB : Int → Int) (vB : View) (Ny Nx By Bx : Nat)
    (hA : vA.shape = [Ny, Nx]) (hB : vB.shape = [By, Bx]) (wfA : vA.WF) (hc : vA.carray = true)
    (h01 : ∀ q, (toImg mA vA).getD q 0 = 0 ∨ (toImg mA vA).getD q 0 = 1)
    (y x : Int) (hp : inside vA.shape [y, x] = true) :
    pyErodeView dtBool mA vA mB vB = fastBinaryView true mA vA mB vB ∧
    (fastBinaryView true mA vA mB vB).getD (ravelI vA.shape [y, x]) none =
      some (C01.erodeSpecAt dtBool (toImg mA vA) (C01.support vB.shape (logical mB vB).toArray true) [y, x]) := by
  constructor
  · unfold pyErodeView
    rw [if_pos (by simp [dtBool, hA, hc])]
  · obtain ⟨hsz, _, hspec⟩ := C01_fast_erode_loops_eq_pointwise (toImg mA vA) Ny Nx vB.shape (logical mB vB).toArray
      y x hA (toImg_data_size mA vA) h01 hp
    rw [(C08_defined_everywhere_fast_binary true mA vA mB vB Ny Nx By Bx hA hB wfA hc).1]
    simp only [if_true]
    rw [map_some_getD _ _ 0 (by rw [hsz]; exact C01.ravelI_lt _ _ hp)]
    congr 1
    exact hspec By Bx hB (by simp [logical_length, hB, shapeSize])


/-- **the binary fast path of dilate equals the generic kernel, for any layout of `Bc`** (composition with
`C01_fast_dilate_loops_eq_pointwise` and `C01_fast_dilate_eq_generic`): on a 0/1 image the fast path taken by
`py_dilate` for 2-D bool C-arrays writes exactly the array the generic view kernel `dilateView` writes — the
`ISCARRAY` dispatch, a property of the memory layout, is unobservable, and `C08_dilate_view_correct` applies to both. -/
theorem C08_fast_dilate_view_eq_generic (mA : Int → Int) (vA : View) (mB : Int → Int) (vB : View) (Ny Nx By Bx : Nat)
    (hA : vA.shape = [Ny, Nx]) (hB : vB.shape = [By, Bx]) (wfA : vA.WF) (hc : vA.carray = true)
    (h : FilterArgs (outView vA.shape) vB true)
    (h01 : ∀ q, (toImg mA vA).getD q 0 = 0 ∨ (toImg mA vA).getD q 0 = 1) :
    pyDilateView dtBool mA vA mB vB = fastBinaryView false mA vA mB vB ∧
    fastBinaryView false mA vA mB vB = dilateView dtBool mA vA mB vB := by
  constructor
  · unfold pyDilateView
    rw [if_pos (by simp [dtBool, hA, hc])]
  · have hb : dtBool.isBool = true := rfl
    rw [(C08_defined_everywhere_fast_binary false mA vA mB vB Ny Nx By Bx hA hB wfA hc).1,
      C08_dilateView_eq_C01 dtBool mA vA mB vB wfA (hb ▸ h)]
    simp only [Bool.false_eq_true, if_false, hb]
    rw [C01_fast_dilate_loops_eq_pointwise (toImg mA vA) Ny Nx vB.shape _ hA (toImg_data_size mA vA) h01, hB,
      C01_fast_dilate_eq_generic (toImg mA vA) Ny Nx By Bx _ hA (toImg_data_size mA vA) h01
        (by simp [logical_length, hB, shapeSize])]


/-- **erode is layout-free.** `erode<T>` (iterator over the input, filter offsets built from the *input's* strides,
empty element filled with the maximum) returns the same output for any two layouts of the same logical image and
the same logical structuring element (for non-bool dtypes `Bc` reaches the kernel C-contiguous:
`get_structuring_elem` copies a non-contiguous one). -/
theorem C08_erode_layout_free (dt : DT) (mA₁ mA₂ mB₁ mB₂ : Int → Int) (vA₁ vA₂ vB₁ vB₂ : View)
    (h₁ : FilterArgs vA₁ vB₁ dt.isBool) (h₂ : FilterArgs vA₂ vB₂ dt.isBool)
    (hA : SameLogical mA₁ vA₁ mA₂ vA₂) (hB : SameLogical mB₁ vB₁ mB₂ vB₂) :
    erodeView dt mA₁ vA₁ mB₁ vB₁ = erodeView dt mA₂ vA₂ mB₂ vB₂ := by
  rw [C08_erodeView_eq_C01 dt mA₁ vA₁ mB₁ vB₁ h₁, C08_erodeView_eq_C01 dt mA₂ vA₂ mB₂ vB₂ h₂, hA.toImg_eq,
    hB.logical_eq, hB.1]

/-- **locmin_max (filter iterator built from the input array) is layout-free.** -/
theorem C08_locminmax_layout_free (isMin : Bool) (mA₁ mA₂ mB₁ mB₂ : Int → Int) (vA₁ vA₂ vB₁ vB₂ : View)
    (h₁ : FilterArgs vA₁ vB₁ true) (h₂ : FilterArgs vA₂ vB₂ true)
    (hA : SameLogical mA₁ vA₁ mA₂ vA₂) (hB : SameLogical mB₁ vB₁ mB₂ vB₂) :
    locView isMin mA₁ vA₁ mB₁ vB₁ = locView isMin mA₂ vA₂ mB₂ vB₂ := by
  rw [C08_locView_eq_C14 isMin mA₁ vA₁ mB₁ vB₁ h₁, C08_locView_eq_C14 isMin mA₂ vA₂ mB₂ vB₂ h₂, hA.toImg_eq,
    hB.logical_eq, hB.1]

/-- **convolve is layout-free** (any arithmetic: the driver instantiates it at exact integers, C06 at `Float`). -/
theorem C08_convolve_layout_free {α : Type} [Add α] [Mul α] (zero : α) (isZero : α → Bool) (cast : α → α) (m : Mode)
    (mA₁ mA₂ mW₁ mW₂ : Int → α) (vA₁ vA₂ vW₁ vW₂ : View)
    (h₁ : FilterArgs vA₁ vW₁ true) (h₂ : FilterArgs vA₂ vW₂ true)
    (hA : SameLogical mA₁ vA₁ mA₂ vA₂) (hW : SameLogical mW₁ vW₁ mW₂ vW₂) :
    convolveView zero isZero cast m mA₁ vA₁ mW₁ vW₁ = convolveView zero isZero cast m mA₂ vA₂ mW₂ vW₂ := by
  unfold convolveView
  simp only
  rw [← hA.1]
  apply pixelLoop_congr
  intro i hi
  rw [neigh_logical _ mA₁ mW₁ m h₁ zero i hi, neigh_logical _ mA₂ mW₂ m h₂ zero i (hA.1 ▸ hi), hA.toImg_eq,
    hW.logical_eq, hW.1, hA.1]

/-- **rank_filter (hence median_filter) is layout-free.** -/
theorem C08_rank_filter_layout_free (m : Mode) (rank : Int) (mA₁ mA₂ mB₁ mB₂ : Int → Int) (vA₁ vA₂ vB₁ vB₂ : View)
    (h₁ : FilterArgs vA₁ vB₁ true) (h₂ : FilterArgs vA₂ vB₂ true)
    (hA : SameLogical mA₁ vA₁ mA₂ vA₂) (hB : SameLogical mB₁ vB₁ mB₂ vB₂) :
    rankView m rank mA₁ vA₁ mB₁ vB₁ = rankView m rank mA₂ vA₂ mB₂ vB₂ := by
  rw [C08_rankView_eq_C07 m rank mA₁ vA₁ mB₁ vB₁ h₁, C08_rankView_eq_C07 m rank mA₂ vA₂ mB₂ vB₂ h₂, hA.toImg_eq,
    hB.logical_eq, hA.1, hB.1]

/-- **mean_filter is layout-free.** -/
theorem C08_mean_filter_layout_free (m : Mode) (mA₁ mA₂ mB₁ mB₂ : Int → Int) (vA₁ vA₂ vB₁ vB₂ : View)
    (h₁ : FilterArgs vA₁ vB₁ true) (h₂ : FilterArgs vA₂ vB₂ true)
    (hA : SameLogical mA₁ vA₁ mA₂ vA₂) (hB : SameLogical mB₁ vB₁ mB₂ vB₂) :
    meanView m mA₁ vA₁ mB₁ vB₁ = meanView m mA₂ vA₂ mB₂ vB₂ := by
  rw [C08_meanView_eq_C07 m mA₁ vA₁ mB₁ vB₁ h₁, C08_meanView_eq_C07 m mA₂ vA₂ mB₂ vB₂ h₂, hA.toImg_eq,
    hB.logical_eq, hA.1, hB.1]

/-- **template_match is layout-free in the image**, and in the template once the wrapper has made it C-contiguous
(`compress = false`: the kernel indexes the template's raw data pointer; the wrapper copies it to C order since 6f6fc49). -/
theorem C08_template_match_layout_free (m : Mode) (mA₁ mA₂ mT₁ mT₂ : Int → Int) (vA₁ vA₂ vT₁ vT₂ : View)
    (h₁ : FilterArgs vA₁ vT₁ false) (h₂ : FilterArgs vA₂ vT₂ false)
    (hA : SameLogical mA₁ vA₁ mA₂ vA₂) (hT : SameLogical mT₁ vT₁ mT₂ vT₂) :
    tmView m mA₁ vA₁ mT₁ vT₁ = tmView m mA₂ vA₂ mT₂ vT₂ := by
  rw [C08_tmView_eq_C07 m mA₁ vA₁ mT₁ vT₁ h₁, C08_tmView_eq_C07 m mA₂ vA₂ mT₂ vT₂ h₂, hA.toImg_eq,
    hT.logical_eq, hA.1, hT.1]

/-- **labeled.borders is layout-free.** -/
theorem C08_borders_layout_free (m : Mode) (mA₁ mA₂ mB₁ mB₂ : Int → Int) (vA₁ vA₂ vB₁ vB₂ : View)
    (h₁ : FilterArgs vA₁ vB₁ true) (h₂ : FilterArgs vA₂ vB₂ true)
    (hA : SameLogical mA₁ vA₁ mA₂ vA₂) (hB : SameLogical mB₁ vB₁ mB₂ vB₂) :
    bordersView m mA₁ vA₁ mB₁ vB₁ = bordersView m mA₂ vA₂ mB₂ vB₂ := by
  rw [C08_bordersView_eq_C13 m mA₁ vA₁ mB₁ vB₁ h₁, C08_bordersView_eq_C13 m mA₂ vA₂ mB₂ vB₂ h₂, hA.logical_eq,
    hB.logical_eq, hA.1, hB.1]

/-- **dilate is layout-free.** `dilate<T>` reads the input only as `*iter` (F7); its filter iterator is built on the
output, which `_get_output` makes C-contiguous, and the structuring element is read through its own iterator (bool)
or arrives C-contiguous (other dtypes). -/
theorem C08_dilate_layout_free (dt : DT) (mA₁ mA₂ mB₁ mB₂ : Int → Int) (vA₁ vA₂ vB₁ vB₂ : View)
    (wA₁ : vA₁.WF) (wA₂ : vA₂.WF) (wB₁ : vB₁.WF) (wB₂ : vB₂.WF)
    (raw₁ : dt.isBool = false → vB₁.strides = cStrides vB₁.shape)
    (raw₂ : dt.isBool = false → vB₂.strides = cStrides vB₂.shape)
    (hA : SameLogical mA₁ vA₁ mA₂ vA₂) (hB : SameLogical mB₁ vB₁ mB₂ vB₂) :
    dilateView dt mA₁ vA₁ mB₁ vB₁ = dilateView dt mA₂ vA₂ mB₂ vB₂ := by
  unfold dilateView
  simp only
  rw [← hA.1, mkFiltV_eq _ _ mB₁ vB₁ wB₁ _ _ raw₁, mkFiltV_eq _ _ mB₂ vB₂ wB₂ _ _ raw₂, hB.logical_eq, hB.1]
  congr 1
  apply List.foldl_ext
  intro res i hi
  have hi' := List.mem_range.1 hi
  rw [readIter_eq mA₁ vA₁ wA₁.len i hi', readIter_eq mA₂ vA₂ wA₂.len i (hA.1 ▸ hi'), hA.2 i hi']

/-- **distance: every line is addressed by its own stride.** `distance.py` runs the exact 1-D pass on
`(1, n)` views `lines[idx][None, :]` of the work array: the `t`-th element `_distance.dt` reads from the line
through `p` along `axis` (`f[t*stride]`) is the logical element at `p` with coordinate `axis` replaced by `t`, for all
strides of the array. -/
theorem C08_distance_lines_layout_free {α : Type} (mem : Int → α) (v : View) (wf : v.WF) (axis : Nat)
    (p : List Nat) (hp : inside v.shape (p.map Int.ofNat) = true) (ha : axis < v.shape.length) (d : α) :
    lineVals mem v axis p =
      (List.range (v.shape.getD axis 0)).map fun (t : Nat) =>
        (toImg mem v).getD ((p.map Int.ofNat).set axis (t : Int)) d := by
  have hpl : p.length = v.shape.length := by simpa using C01.inside_length hp
  unfold lineVals
  apply List.map_congr_left
  intro t ht
  have ht' : t < v.shape.getD axis 0 := List.mem_range.1 ht
  rw [lineView_addr v axis p t (by rw [hpl, wf.len]) (by rw [hpl]; exact ha)]
  have hin := C01.inside_set v.shape (p.map Int.ofNat) axis (t : Int) hp (by omega) (by exact_mod_cast ht')
  rw [toImg_getD mem v _ d hin]
  unfold View.addr
  rw [← elemOffset_ofNat, List.map_set]
  rfl


/-- **F15, erode.** Started on an output nobody has written (`none` everywhere), `erode<T>` leaves no
cell unwritten — also for an empty structuring element, where it fills the output with the dtype maximum. -/
theorem C08_defined_everywhere_erode (dt : DT) (mA : Int → Int) (vA : View) (mB : Int → Int) (vB : View) :
    (erodeView dt mA vA mB vB).size = shapeSize vA.shape ∧ AllSome (erodeView dt mA vA mB vB) := by
  unfold erodeView
  simp only
  split <;> exact pixelLoop_defined _ _

/-- **F15, the one-write-per-pixel kernels**: locmin_max and borders (on the zero-filled output they are handed),
convolve, mean_filter, template_match, hitmiss write every cell of their output. -/
theorem C08_defined_everywhere_pixel_kernels (m : Mode) (isMin : Bool) (mA : Int → Int) (vA : View) (mB : Int → Int)
    (vB : View) :
    AllSome (locView isMin mA vA mB vB) ∧ AllSome (bordersView m mA vA mB vB) ∧
    AllSome (convolveView 0 (fun x => x == 0) id m mA vA mB vB) ∧ AllSome (meanView m mA vA mB vB) ∧
    AllSome (tmView m mA vA mB vB) ∧ AllSome (hitmissView mA vA mB vB) :=
  ⟨(markLoop_defined _ _).2, (markLoop_defined _ _).2, (pixelLoop_defined _ _).2, (pixelLoop_defined _ _).2,
   (pixelLoop_defined _ _).2, (pixelLoop_defined _ _).2⟩

/-- **F15, cwatershed.** The label and the lines output keep the size of the zero-filled arrays the kernel starts from
(`C04.MSt` holds plain arrays that are overwritten in place, so no cell can be unwritten; that a pixel no marker reaches
keeps the zero of the fill is not part of this statement). -/
theorem C08_defined_everywhere_cwatershed (mS : Int → Int) (vS : View) (mM : Int → Int) (vM : View)
    (mB : Int → Int) (vB : View) :
    (cwatershedView mS vS mM vM mB vB).res.size = shapeSize vS.shape ∧
    (cwatershedView mS vS mM vM mB vB).lines.size = shapeSize vS.shape :=
  cwatershed_sized _ _ _ _

/-- **F15, rank_filter.** With `rank` outside `[0, N2)` the native kernel returns at once and *no* cell is written
(the wrapper guards against it since b48a666). Inside the guard, for every border mode that delivers or
replaces every sample (nearest, wrap, reflect, mirror, constant) and — in `ignore` mode — for every neighbourhood
that contains its centre, every cell of the output is written with a defined value (the `nth_element` answer
`C07.rankAt` of `C08_rankView_eq_C07`): the gathered sample list is never empty, so `currank < n`.
The hypothesis on `ignore` mode is necessary: see `C08_rank_filter_ignore_stale_witness`. -/
theorem C08_defined_everywhere_rank_filter (m : Mode) (rank : Int) (mA : Int → Int) (vA : View)
    (mB : Int → Int) (vB : View) (h : FilterArgs vA vB true) :
    let fv := mkFiltV (fun x => x != 0) vA mB vB m true
    ((rank < 0 ∨ rank ≥ (fv.fi.size : Int)) →
      rankView m rank mA vA mB vB = Array.replicate (shapeSize vA.shape) none) ∧
    (0 ≤ rank ∧ rank < (fv.fi.size : Int) →
      (m ≠ .ignore ∨ (logical mB vB).getD (ravelI vB.shape (centreOf vB.shape)) 0 ≠ 0) →
      (rankView m rank mA vA mB vB).size = shapeSize vA.shape ∧ AllSome (rankView m rank mA vA mB vB)) := by
  intro fv
  refine ⟨fun hr => ?_, fun hr hc => ?_⟩
  · unfold rankView
    simp only
    rw [if_pos hr]
  · have hN2 : fv.fi.size = (keptIdx vB.shape (logical mB vB) (fun x => x != 0) 0).length :=
      mkFiltV_size _ mB m h 0
    rw [C08_rankView_eq_C07 m rank mA vA mB vB h]
    refine ⟨by simp [allPos], ?_⟩
    intro o ho
    simp only [List.mem_map] at ho
    obtain ⟨p, hp, rfl⟩ := ho
    simp only [allPos, List.mem_map, List.mem_range] at hp
    obtain ⟨i, hi, rfl⟩ := hp
    -- the guard `0 ≤ rank < N2` makes the footprint non-empty, hence the gathered sample list
    have hK : keptIdx vB.shape (logical mB vB) (fun x => x != 0) 0 ≠ [] :=
      List.ne_nil_of_length_pos (by rw [← hN2]; omega)
    have hne := gather_nonempty m (toImg mA vA) vB.shape h.posF h.rank
      (logical mB vB) (unravelI vA.shape i) (C01.inside_unravelI _ _ hi) hK hc
    rw [Option.isSome_iff_ne_none, Ne, C07.rankAt_none_iff_gather m _ _ rank _ hr.1
      (by rw [C07_footprint_eq, List.length_map, ← hN2]; exact hr.2), C07_footprint_eq]
    exact hne

/-- **the `ignore`-mode hypothesis of `C08_defined_everywhere_rank_filter` cannot be dropped.** A 1×2 image, the
neighbourhood `[[1, 0, 0]]` (only the left neighbour, centre not a member), `mode = ignore`, `rank = 0` (inside the
wrapper's guard `0 ≤ rank < 1`): at pixel 0 every sample is outside the image and dropped, `nth_element` has no
element to deliver — the model's cell is `none` (the native kernel stores the stale slot `neighbours[0]` of its
scratch vector there). -/
theorem C08_rank_filter_ignore_stale_witness :
    let mA : Int → Int := fun a => [5, 7].getD a.toNat 0
    let mB : Int → Int := fun a => [1, 0, 0].getD a.toNat 0
    let vA : View := { base := 0, shape := [1, 2], strides := [2, 1], carray := true }
    let vB : View := { base := 0, shape := [1, 3], strides := [3, 1], carray := true }
    (mkFiltV (fun x => x != 0) vA mB vB .ignore true).fi.size = 1 ∧
    (rankView .ignore 0 mA vA mB vB).toList = [none, some 5] := by
  decide +kernel

/-! non-vacuity: a Fortran-ordered and a C-contiguous 2×2 view of the same logical image `[[5,9],[3,1]]`, a 1×2
    structuring element: the hypotheses of `C08_erode_layout_free` hold (compress = false), and the two runs of the
    view-level `erode<uint8>` agree cell by cell and leave no cell unwritten. -/
namespace Mahotas.C08.Example
def memF : Int → Int := fun a => [5, 3, 9, 1].getD a.toNat 0
def memC : Int → Int := fun a => [5, 9, 3, 1].getD a.toNat 0
def memB : Int → Int := fun a => [1, 1].getD a.toNat 0
def vF : View := { base := 0, shape := [2, 2], strides := [1, 2] }
def vC : View := { base := 0, shape := [2, 2], strides := [2, 1], carray := true }
def vB : View := { base := 0, shape := [1, 2], strides := [2, 1], carray := true }

theorem fa : FilterArgs vF vB false :=
  ⟨⟨rfl, by decide⟩, ⟨rfl, by decide⟩, by (unfold View.Pos; decide), by (unfold View.Pos; decide), rfl, fun _ => rfl⟩

example : FilterArgs vF vB false ∧ FilterArgs vC vB false ∧ SameLogical memF vF memC vC ∧
    erodeView (dtU 8) memF vF memB vB = erodeView (dtU 8) memC vC memB vB ∧
    (erodeView (dtU 8) memF vF memB vB).toList = [some 4, some 4, some 2, some 0] := by
  exact ⟨fa, ⟨⟨rfl, by decide⟩, ⟨rfl, by decide⟩, by (unfold View.Pos; decide), by (unfold View.Pos; decide), rfl, fun _ => rfl⟩,
    ⟨rfl, by decide⟩, by decide +kernel, by decide +kernel⟩

/-! non-vacuity of the ties. (i) The Fortran-ordered 2×2 view of `[[5,9],[3,1]]` and the 1×2 element above
    meet the hypotheses of `C08_erodeView_eq_C01`; the right-hand side is the non-trivial array `[4,4,2,0]` of
    `C01.erodeModel` on the logical arrays. (ii) hitmiss on a 3×3 Fortran-ordered view with a 3×3 template in a
    *reversed* layout: the centre pixel is evaluated (so the in-bounds argument is exercised: eight `i + delta ≠ i`) and
    matches. (iii) the binary fast path on a 2×3 C-array with the element `[[1,1]]` (centre set: `std::copy`) and `[[1,0]]`
    read through negative strides (centre not set: `std::fill_n`): every cell defined, values as C01's row loops. -/
example : erodeView (dtU 8) memF vF memB vB =
      (C01.erodeModel (dtU 8) (toImg memF vF) (C01.support vB.shape (logical memB vB).toArray false)).map some ∧
    (C01.erodeModel (dtU 8) (toImg memF vF) (C01.support vB.shape (logical memB vB).toArray false)).toList
      = [4, 4, 2, 0] :=
  ⟨C08_erodeView_eq_C01 (dtU 8) memF vF memB vB fa, by decide +kernel⟩

def memH : Int → Int := fun a => [1, 0, 1, 0, 1, 0, 1, 1, 0].getD a.toNat 0      -- Fortran order of [[1,0,1],[0,1,1],[1,0,0]]
def vH : View := { base := 0, shape := [3, 3], strides := [1, 3] }
def memT : Int → Int := fun a => [0, 0, 1, 1, 1, 0, 1, 0, 1].getD a.toNat 0      -- the template, stored reversed
def vT : View := { base := 8, shape := [3, 3], strides := [-3, -1] }

example : vH.WF ∧ vT.WF ∧ logical memH vH = [1, 0, 1, 0, 1, 1, 1, 0, 0] ∧ logical memT vT = [1, 0, 1, 0, 1, 1, 1, 0, 0] ∧
    C14.hmEvaluated vH.shape vT.shape (unravelI vH.shape 4) = true ∧
    (hitmissView memH vH memT vT).toList = [some 0, some 0, some 0, some 0, some 1, some 0, some 0, some 0, some 0] := by
  refine ⟨⟨rfl, by decide⟩, ⟨rfl, by decide⟩, by decide +kernel, by decide +kernel, by decide +kernel, by decide +kernel⟩

def memI : Int → Int := fun a => [1, 1, 0, 1, 1, 1].getD a.toNat 0
def vI : View := { base := 0, shape := [2, 3], strides := [3, 1], carray := true }
def memE : Int → Int := fun a => [0, 1].getD a.toNat 0                           -- `[[1,0]]` stored reversed
def vE : View := { base := 1, shape := [1, 2], strides := [-2, -1] }

example : pyErodeView dtBool memI vI memB vB = fastBinaryView true memI vI memB vB ∧
    (fastBinaryView true memI vI memB vB).toList = [some 1, some 1, some 0, some 1, some 1, some 1] ∧
    (fastBinaryView false memI vI memB vB).toList = [some 1, some 1, some 0, some 1, some 1, some 1] ∧
    logical memE vE = [1, 0] ∧
    (fastBinaryView true memI vI memE vE).toList = [some 1, some 1, some 1, some 1, some 1, some 1] ∧
    (fastBinaryView false memI vI memE vE).toList = [some 1, some 0, some 0, some 1, some 1, some 0] := by
  decide +kernel
end Mahotas.C08.Example


/-! ## The `at(pos)` kernels of `_morph.cpp` (`regmax`/`regmin`, `close_holes`, `majority_filter`) = the owners' logical
models -/

/-- **regmax / regmin over views = `C14.regModel`.** `py_regminmax` (zero fill, `locmin_max`, then
`remove_fake_regmin_max`, which reads the image as `f.at(pos)` and `Bc` through `neighbours(Bc)`) on ANY views of the
image and the structuring element (strides of any sign and order, offsets) returns, in every cell, the value of the
owner's model on the logical arrays — the model `c14 kind=reg` runs. `….map some`: no cell is left unwritten (F15). -/
theorem C08_regView_eq_C14 (isMin : Bool) (mA : Int → Int) (vA : View) (mB : Int → Int) (vB : View)
    (h : FilterArgs vA vB true) :
    regView isMin mA vA mB vB =
      (C14.regModel isMin (toImg mA vA) (C14.neighbours vB.shape (logical mB vB).toArray)).map some := by
  unfold regView
  simp only [C08_locView_eq_C14 isMin mA vA mB vB h, map_some_all_isSome, if_true, map_some_map_getD,
    atImg_eq_toImg, nbView_eq mB vB h.wfF]
  rfl

/-- **regmax / regmin are layout-free**: two (image, `Bc`) pairs of views with the same logical content give the same
output array. -/
theorem C08_regmin_max_layout_free (isMin : Bool) (mA₁ mA₂ mB₁ mB₂ : Int → Int) (vA₁ vA₂ vB₁ vB₂ : View)
    (h₁ : FilterArgs vA₁ vB₁ true) (h₂ : FilterArgs vA₂ vB₂ true)
    (hA : SameLogical mA₁ vA₁ mA₂ vA₂) (hB : SameLogical mB₁ vB₁ mB₂ vB₂) :
    regView isMin mA₁ vA₁ mB₁ vB₁ = regView isMin mA₂ vA₂ mB₂ vB₂ := by
  rw [C08_regView_eq_C14 isMin mA₁ vA₁ mB₁ vB₁ h₁, C08_regView_eq_C14 isMin mA₂ vA₂ mB₂ vB₂ h₂, hA.toImg_eq,
    hB.logical_eq, hB.1]

/-- **regmax / regmin are correct for any memory layout** (composition with `C14_regional_eq_spec`): with a symmetric,
star-shaped neighbourhood (cross, box) the cell of a pixel `q` inside the image is `some true` exactly when every pixel
of the plateau of `q` has no strictly better neighbour inside the image — whatever the strides of image and `Bc`. -/
theorem C08_regmin_max_view_correct (isMin : Bool) (mA : Int → Int) (vA : View) (mB : Int → Int) (vB : View)
    (h : FilterArgs vA vB true)
    (hn : C14.SymNb (toImg mA vA) (C14.neighbours vB.shape (logical mB vB).toArray))
    (hstar : C14.StarShaped (C14.neighbours vB.shape (logical mB vB).toArray))
    (q : List Int) (hq : inside vA.shape q = true) :
    (regView isMin mA vA mB vB).getD (ravelI vA.shape q) none = some true ↔
      C14.Regional isMin (toImg mA vA) (C14.neighbours vB.shape (logical mB vB).toArray) q := by
  rw [C08_regView_eq_C14 isMin mA vA mB vB h, map_some_getD_true]
  exact C14_regional_eq_spec isMin (toImg mA vA) _ hn hstar q hq

/-- **close_holes over views = `C14.closeHoles`**: the reference image is read as `ref.at(pos)` only, so for ANY strides
the kernel returns the owner's model of the logical image (the model `c14 kind=holes` runs); every cell is written
(`std::fill_n` on the fresh output, then the negation loop). -/
theorem C08_closeHolesView_eq_C14 (mR : Int → Int) (vR : View) (mB : Int → Int) (vB : View) (wfB : vB.WF) :
    closeHolesView mR vR mB vB =
      (C14.closeHoles (toImg mR vR) (C14.neighbours vB.shape (logical mB vB).toArray)).map some := by
  unfold closeHolesView
  rw [atImg_eq_toImg, nbView_eq mB vB wfB]

/-- **close_holes is layout-free.** -/
theorem C08_close_holes_layout_free (mR₁ mR₂ mB₁ mB₂ : Int → Int) (vR₁ vR₂ vB₁ vB₂ : View)
    (wf₁ : vB₁.WF) (wf₂ : vB₂.WF)
    (hR : SameLogical mR₁ vR₁ mR₂ vR₂) (hB : SameLogical mB₁ vB₁ mB₂ vB₂) :
    closeHolesView mR₁ vR₁ mB₁ vB₁ = closeHolesView mR₂ vR₂ mB₂ vB₂ := by
  rw [C08_closeHolesView_eq_C14 mR₁ vR₁ mB₁ vB₁ wf₁, C08_closeHolesView_eq_C14 mR₂ vR₂ mB₂ vB₂ wf₂, hR.toImg_eq,
    hB.logical_eq, hB.1]

/-- **close_holes is correct for any memory layout** (composition with `C14_close_holes_eq_spec`): the cell of a pixel
`q` inside the image is `some true` exactly when `q` is not connected to the border through background pixels. -/
theorem C08_close_holes_view_correct (mR : Int → Int) (vR : View) (mB : Int → Int) (vB : View) (wfB : vB.WF)
    (q : List Int) (hq : inside vR.shape q = true) :
    (closeHolesView mR vR mB vB).getD (ravelI vR.shape q) none = some true ↔
      ¬ C14.BorderConn (toImg mR vR) (C14.neighbours vB.shape (logical mB vB).toArray) q := by
  rw [C08_closeHolesView_eq_C14 mR vR mB vB wfB, map_some_getD_true]
  exact C14_close_holes_eq_spec (toImg mR vR) (C14.neighbours vB.shape (logical mB vB).toArray)
    (toImg_data_size mR vR) q hq

/-- **majority_filter over views = the same loops on the logical image**, for ANY strides of the input
(`input.at(y+dy, x+dx)` = `PyArray_GETPTR2`); window size, the `!= rows-N` loop bounds and the threshold `N*N/2` as in the
C++. -/
theorem C08_majorityView_eq_logical (n : Nat) (mA : Int → Int) (vA : View) :
    majorityView n mA vA = majorityLogical n (toImg mA vA) := by
  unfold majorityView majorityLogical
  rw [show (toImg mA vA).shape = vA.shape from rfl]
  split
  · rename_i rows cols hshape
    apply majorityLoops_congr
    intro y x hy hx
    have hin : inside vA.shape ([y, x].map Int.ofNat) = true := by
      rw [hshape]; exact C01.inside2_mk rows cols y x hy hx
    rw [readAt_eq_toImg_getD mA vA [y, x] 0 hin]
    rfl
  · rfl

/-- **majority_filter is layout-free.** -/
theorem C08_majority_filter_layout_free (n : Nat) (mA₁ mA₂ : Int → Int) (vA₁ vA₂ : View)
    (hA : SameLogical mA₁ vA₁ mA₂ vA₂) :
    majorityView n mA₁ vA₁ = majorityView n mA₂ vA₂ := by
  rw [C08_majorityView_eq_logical, C08_majorityView_eq_logical, hA.toImg_eq]

/-- **majority_filter, pointwise, for any memory layout.** For a `rows × cols` view of ANY strides and a window `N ≤ rows, cols`:
cell `i` of the output is `some true` exactly when some window the loops visit (`y < rows−N`, `x < cols−N` — the last window row and
column are not visited, as in the C++) whose output position `(y+N/2)*cols + N/2 + x` is `i` contains at least `N*N/2` set pixels of
the LOGICAL image; every other cell is `some false`. -/
theorem C08_majority_filter_view_spec (n : Nat) (mA : Int → Int) (vA : View) (rows cols : Nat) (hs : vA.shape = [rows, cols])
    (hr : n ≤ rows) (hc : n ≤ cols) (i : Nat) (hi : i < rows * cols) :
    (majorityView n mA vA).getD i none =
      some ((List.range (rows - n)).any fun y => (List.range (cols - n)).any fun x =>
        decide (majorityCount n (fun y x => (toImg mA vA).getD [(y : Int), (x : Int)] 0 != 0) y x ≥ n * n / 2) &&
          ((y + n / 2) * cols + n / 2 + x == i)) := by
  rw [C08_majorityView_eq_logical]
  unfold majorityLogical
  rw [show (toImg mA vA).shape = [rows, cols] from hs]
  exact (congrArg (fun r => r.getD i none) (majorityLoops_eq rows cols n _)).trans (pixelLoop_getD _ _ i hi)

/-- **F15 for regmax/regmin, close_holes, majority_filter**: every cell of their outputs is written, for every layout:
the first two are `….map some` of a total model, the third starts from the zero fill and only ever stores `true`. -/
theorem C08_defined_everywhere_morph_at_kernels (isMin : Bool) (n : Nat) (mA : Int → Int) (vA : View)
    (mB : Int → Int) (vB : View) (h : FilterArgs vA vB true) (rows cols : Nat) (hs : vA.shape = [rows, cols]) :
    (∀ i, i < (regView isMin mA vA mB vB).size → ((regView isMin mA vA mB vB).getD i none).isSome = true) ∧
    (∀ i, i < (closeHolesView mA vA mB vB).size → ((closeHolesView mA vA mB vB).getD i none).isSome = true) ∧
    (majorityView n mA vA).size = rows * cols ∧
    (∀ i, i < rows * cols → ((majorityView n mA vA).getD i none).isSome = true) := by
  rw [C08_regView_eq_C14 isMin mA vA mB vB h, C08_closeHolesView_eq_C14 mA vA mB vB h.wfF]
  unfold majorityView
  rw [hs]
  show _ ∧ _ ∧ (majorityLoops rows cols n _).size = _ ∧ ∀ i, i < rows * cols → ((majorityLoops rows cols n _).getD i none).isSome = true
  rw [majorityLoops_eq]
  exact ⟨map_some_isSome _, map_some_isSome _, (pixelLoop_defined _ _).1,
    fun i hi => by rw [pixelLoop_getD _ _ i hi]; rfl⟩

namespace Mahotas.C08.Example4
open Mahotas.C08.Example
/-- a 3×3 image with one interior plateau maximum, stored in Fortran order and (second copy) reversed with a gap -/
def memR : Int → Int := fun a => [1, 1, 1, 1, 5, 1, 1, 1, 2].getD a.toNat 0
def vRF : View := { base := 0, shape := [3, 3], strides := [1, 3] }
def memR2 : Int → Int := fun a => [2, 0, 1, 0, 1, 0, 1, 0, 5, 0, 1, 0, 1, 0, 1, 0, 1].getD a.toNat 0
def vRN : View := { base := 16, shape := [3, 3], strides := [-6, -2] }
def memX : Int → Int := fun a => [0, 1, 0, 1, 0, 1, 0, 1, 0].getD a.toNat 0     -- the cross without its centre
def vX : View := { base := 0, shape := [3, 3], strides := [3, 1], carray := true }

theorem faR : FilterArgs vRF vX true :=
  ⟨⟨rfl, by decide⟩, ⟨rfl, by decide⟩, by (unfold View.Pos; decide), by (unfold View.Pos; decide), rfl, fun h => by cases h⟩
theorem faR2 : FilterArgs vRN vX true :=
  ⟨⟨rfl, by decide⟩, ⟨rfl, by decide⟩, by (unfold View.Pos; decide), by (unfold View.Pos; decide), rfl, fun h => by cases h⟩

example : SameLogical memR vRF memR2 vRN ∧ logical memR vRF = [1, 1, 1, 1, 5, 1, 1, 1, 2] ∧
    regView false memR vRF memX vX = regView false memR2 vRN memX vX ∧
    (regView false memR vRF memX vX).toList =
      [some false, some false, some false, some false, some true, some false, some false, some false, some true] ∧
    (locView false memR vRF memX vX).toList =
      [some true, some false, some true, some false, some true, some false, some true, some false, some true] := by
  refine ⟨⟨rfl, by decide⟩, by decide +kernel, ?_, by decide +kernel, by decide +kernel⟩
  exact C08_regmin_max_layout_free false memR memR2 memX memX vRF vRN vX vX faR faR2 ⟨rfl, by decide⟩ (SameLogical.refl _ _)

/-- a ring with a hole, Fortran order: the hole is closed; majority filter of a 4×4 view with negative strides -/
def memO : Int → Int := fun a => [0, 0, 0, 0, 0, 0, 1, 1, 1, 0, 0, 1, 0, 1, 0, 0, 1, 1, 1, 0, 0, 0, 0, 0, 0].getD a.toNat 0
def vO : View := { base := 0, shape := [5, 5], strides := [1, 5] }
example : (closeHolesView memO vO memX vX).toList.map (fun o => o.getD false) =
    [false, false, false, false, false, false, true, true, true, false, false, true, true, true, false,
     false, true, true, true, false, false, false, false, false, false] := by decide +kernel

def memJ : Int → Int := fun a => [1, 1, 1, 0, 1, 1, 0, 0, 1, 0, 0, 0, 0, 0, 0, 0].getD a.toNat 0
def vJ : View := { base := 0, shape := [4, 4], strides := [1, 4] }                -- Fortran order
def vJn : View := { base := 15, shape := [4, 4], strides := [-4, -1] }             -- both axes reversed
example : logical memJ vJ = [1, 1, 1, 0, 1, 1, 0, 0, 1, 0, 0, 0, 0, 0, 0, 0] ∧
    logical memJ vJn = [0, 0, 0, 0, 0, 0, 0, 1, 0, 0, 1, 1, 0, 1, 1, 1] ∧
    (majorityView 2 memJ vJ).toList.map (fun o => o.getD false) =
      [false, false, false, false, false, true, true, false, false, true, false, false, false, false, false, false] ∧
    (majorityView 3 memJ vJ).toList.map (fun o => o.getD false) =
      [false, false, false, false, false, true, false, false, false, false, false, false, false, false, false, false] ∧
    (majorityView 3 memJ vJn).toList.map (fun o => o.getD false) = List.replicate 16 false := by
  decide +kernel
end Mahotas.C08.Example4


/-- **cooccurence over views = `C19.coocModel`.** `cooccurence<T>` (image through its iterator, the one-hot direction array
as a compressed `ExtendIgnore` filter iterator built from the image's strides, `++res.at(val, val2)`) on ANY views of the
image and of the direction array yields the matrix of the owner's model on the logical image, with the direction
`d = position of the first non-zero entry of Bc − centre` — the definition `c19 kind=cooc` runs. -/
theorem C08_coocView_eq_C19 (mm : Nat) (mA : Int → Int) (vA : View) (mB : Int → Int) (vB : View)
    (h : FilterArgs vA vB true) (kk0 : Nat) (rest : List Nat)
    (hfp : (List.range (shapeSize vB.shape)).filter (fun kk => (logical mB vB).getD kk 0 != 0) = kk0 :: rest) :
    coocView mm mA vA mB vB =
      C19.coocModel mm (toImg mA vA) (subPos (unravelI vB.shape kk0) (centreOf vB.shape)) := by
  unfold coocView C19.coocModel
  have hsh : (toImg mA vA).shape = vA.shape := rfl
  rw [C19.boxPos_eq_allPos, hsh]
  unfold allPos
  rw [List.foldl_map]
  apply List.foldl_ext
  intro acc i hi
  have hi' : i < shapeSize vA.shape := List.mem_range.mp hi
  rw [neigh_logical (fun x => x != 0) mA mB .ignore h 0 i hi', logicalNeigh_eq,
    show subPos (unravelI vB.shape kk0) (centreOf vB.shape) = offAt vB.shape kk0 from rfl]
  unfold keptIdx nbAt
  simp only [if_true, hfp, List.map_cons, List.head?_cons, hsh,
    fixPos_ignore_eq _ _ (addPos_offAt_length vA.shape vB.shape h.rank i kk0)]
  by_cases hin : inside vA.shape (addPos (unravelI vA.shape i) (offAt vB.shape kk0)) = true
  · simp only [hin, if_true, Option.map_some]
    rw [readIter_logical mA vA h.wfA i hi' 0]
  · simp only [hin, Bool.false_eq_true, if_false, Option.map_none]

/-- **cooccurence is layout-free**: two (image, direction array) pairs of views with the same logical content give the same
matrix. -/
theorem C08_cooccurence_layout_free (mm : Nat) (mA₁ mA₂ mB₁ mB₂ : Int → Int) (vA₁ vA₂ vB₁ vB₂ : View)
    (h₁ : FilterArgs vA₁ vB₁ true) (h₂ : FilterArgs vA₂ vB₂ true)
    (hA : SameLogical mA₁ vA₁ mA₂ vA₂) (hB : SameLogical mB₁ vB₁ mB₂ vB₂) (kk0 : Nat) (rest : List Nat)
    (hfp : (List.range (shapeSize vB₁.shape)).filter (fun kk => (logical mB₁ vB₁).getD kk 0 != 0) = kk0 :: rest) :
    coocView mm mA₁ vA₁ mB₁ vB₁ = coocView mm mA₂ vA₂ mB₂ vB₂ := by
  rw [C08_coocView_eq_C19 mm mA₁ vA₁ mB₁ vB₁ h₁ kk0 rest hfp,
    C08_coocView_eq_C19 mm mA₂ vA₂ mB₂ vB₂ h₂ kk0 rest (by rw [← hB.logical_eq, ← hB.1]; exact hfp), hA.toImg_eq, hB.1]

/-- **cooccurence is correct for any memory layout** (composition with `C19_cooc_counts`): with all values in `[0, mm)`,
cell `(a, b)` of the matrix computed from ANY views is the number of positions `p` with `p` and `p + d` inside the image,
`f p = a` and `f (p + d) = b`. -/
theorem C08_cooccurence_view_correct (mm : Nat) (mA : Int → Int) (vA : View) (mB : Int → Int) (vB : View)
    (h : FilterArgs vA vB true) (kk0 : Nat) (rest : List Nat)
    (hfp : (List.range (shapeSize vB.shape)).filter (fun kk => (logical mB vB).getD kk 0 != 0) = kk0 :: rest)
    (hv : ∀ p, 0 ≤ (toImg mA vA).getD p 0 ∧ (toImg mA vA).getD p 0 < (mm : Int))
    (a b : Nat) (ha : a < mm) (hb : b < mm) :
    (coocView mm mA vA mB vB).getD (a * mm + b) 0 =
      C19.coocCount vA.shape (fun p => (toImg mA vA).getD p 0)
        (subPos (unravelI vB.shape kk0) (centreOf vB.shape)) a b := by
  rw [C08_coocView_eq_C19 mm mA vA mB vB h kk0 rest hfp]
  exact ((C19_cooc_counts mm (toImg mA vA) _ hv).2.2 a b ha hb).1

example : (coocView 6 Mahotas.C08.Example4.memR Mahotas.C08.Example4.vRF Mahotas.C08.Example4.memX Mahotas.C08.Example4.vX).getD (1 * 6 + 5) 0 = 1 ∧
    (coocView 6 Mahotas.C08.Example4.memR Mahotas.C08.Example4.vRF Mahotas.C08.Example4.memX Mahotas.C08.Example4.vX).getD (1 * 6 + 1) 0 = 3 ∧
    coocView 6 Mahotas.C08.Example4.memR2 Mahotas.C08.Example4.vRN Mahotas.C08.Example4.memX Mahotas.C08.Example4.vX =
      coocView 6 Mahotas.C08.Example4.memR Mahotas.C08.Example4.vRF Mahotas.C08.Example4.memX Mahotas.C08.Example4.vX := by
  decide +kernel

/-- **`iterate_both` reads the position from the array iterator** (the filter model of `Model/FilterIter.lean` carries its own copy of the
odometer). The loop as the C++ runs it — `iterate_both` takes `index_rev(d)` and
`dimension_rev(d)` from the ARRAY iterator (the transliterated `Iter` over a view of any strides), moves the table pointer,
then `++iterator` — reaches after `i < size` iterations exactly the array iterator `begin().incrN i` and the table pointer
of `FilterIter.stateAfter` (the state F6 `filterIter_refines` is about), so `retrieve` through the joint state is the
`FiltV.retrieve` every view kernel of `Model/C08Base.lean` uses. -/
theorem C08_iterate_both_reads_iterator_position {α : Type} (isNZ : α → Bool) (vA : View) (mF : Int → α) (vF : View)
    (m : Mode) (compress : Bool) (h : FilterArgs vA vF compress) (mem : Int → α) (i : Nat)
    (hi : i < shapeSize vA.shape) (j : Nat) :
    (bothAfter (mkFiltV isNZ vA mF vF m compress).fi vA i).it = (Iter.begin vA).incrN i ∧
    (bothAfter (mkFiltV isNZ vA mF vF m compress).fi vA i).cur =
      (FilterIter.stateAfter (mkFiltV isNZ vA mF vF m compress).fi vA.shape i).cur ∧
    retrieveBoth (mkFiltV isNZ vA mF vF m compress) mem vA i j =
      (mkFiltV isNZ vA mF vF m compress).retrieve mem (iterPtr vA i) i j := by
  have hc := bothAfter_cur m vA h.wfA vF.shape
    (if compress then ((filtVals mF vF).map isNZ).toArray else Array.replicate (shapeSize vF.shape) true)
    h.rank h.posA h.posF i (Nat.le_of_lt hi)
  refine ⟨bothAfter_it _ vA i, hc, ?_⟩
  unfold retrieveBoth FiltV.retrieve FilterIter.retrieve
  simp only [bothAfter_it]
  have hc' : (bothAfter (mkFiltV isNZ vA mF vF m compress).fi vA i).cur =
      (FilterIter.stateAfter (mkFiltV isNZ vA mF vF m compress).fi (mkFiltV isNZ vA mF vF m compress).ashape i).cur := hc
  rw [hc']
  rfl

example : (bothAfter (mkFiltV (fun x => x != 0) Mahotas.C08.Example4.vRF Mahotas.C08.Example4.memX Mahotas.C08.Example4.vX .nearest true).fi
      Mahotas.C08.Example4.vRF 4).it.data = 4 ∧
    retrieveBoth (mkFiltV (fun x => x != 0) Mahotas.C08.Example4.vRF Mahotas.C08.Example4.memX Mahotas.C08.Example4.vX .nearest true)
      Mahotas.C08.Example4.memR Mahotas.C08.Example4.vRF 8 0 = some 1 := by decide +kernel

/-- **T5, whole API (purity: arguments unchanged unless asked).** The translator scans ALL Python sources for calls of the 15
native kernels that overwrite one of their array arguments (`_morph.subm`, `_labeled.label/relabel/remove_regions/slic`,
`_distance.dt`, `_interpolate.spline_filter1d`, `_surf.integral`, `_thin.thin`, the six wavelet kernels) and records where
the buffer handed over comes from (`Generated.inplaceSites`, regenerated on every run; a new call site appears by itself).
At EVERY site found (16 sites in 15 public functions; the
statement does not pin the number, so that a new wrapper that copies does not alarm) the kernel receives —
when the caller did not ask for in-place operation — a fresh array: allocated or copied in the wrapper (`distance`,
`gvoronoi`, `slic`, `thin` ×2), the result of `_get_output` without `out` (`label`, `subm`, `spline_filter`,
`spline_filter1d`), or the copy made by a guard of `copyGuards` (`haar`, `ihaar`, `daubechies`, `idaubechies`, `relabel`,
`remove_regions`, `surf.integral`). So no native kernel can overwrite a caller's argument unless `out`, `inline`,
`inplace` or `in_place` was passed. (That the listed numpy calls copy, and that kernels NOT in the list leave their inputs
alone, is validated by the sweep's before/after digests of every argument and its root buffer.) -/
theorem C08_inplace_kernels_receive_fresh_buffers :
    10 ≤ Generated.inplaceSites.length ∧
    (Generated.inplaceSites.all fun s => siteTarget Generated.copyGuards s == .copy) = true ∧
    siteTarget Generated.copyGuards ("x.f", "_morph.subm", "param", "a") = .user := by
  refine ⟨by decide +kernel, by decide +kernel, by decide +kernel⟩

/-! ## The in-place wavelet kernels on strided rows (`haar`, `ihaar`, `daubechies`, `idaubechies`, `inline=True`
included): `Model/C08ViewsB.lean`

`toIm m v` is the image a 2-D view presents as the total function the C17 model works on; `Inj2` says that distinct
positions of the view have distinct addresses (any signs/sizes of strides otherwise); `Local T` that a row transform reads
its row only inside `[0, N)` (proved for the four transforms of `Model/C17.lean`). -/

/-- **one native wavelet call on a strided view = the owner's row pass.** For ANY row transform `T` that is local (all four
of `_convolve.cpp` are: `C17.haarRow_local`, `C17.ihaarRow_local`, `C17.waveletRow_local`, `C17.iwaveletRow_local`), any
memory and any 2-D
view whose positions have distinct addresses (C, Fortran, sliced with steps, reversed, offset — `step = stride(1)` of any
sign): after `kernel(array)` — per row `data = array.data(y)`, reads `data[p*step]`, buffer, `data[step*x] = buffer[x]` —
the view presents `C17.rowsPass T N1` of what it presented before, and every address that is not an element of the view
keeps its content (padding between strided elements, neighbouring data of a slice: purity of `inline=True`). -/
theorem C08_wavelet_rows_view_eq_C17 {α : Type} (T : Nat → (Nat → α) → Nat → α) (hT : Local T) (m : Mem α) (v : View)
    (N0 N1 : Nat) (s0 s1 : Int) (hsh : v.shape = [N0, N1]) (hst : v.strides = [s0, s1])
    (hinj : Inj2 v.base s0 s1 N0 N1) :
    (∀ y x, y < N0 → x < N1 → toIm (rowsInPlaceView T m v) v y x = C17.rowsPass T N1 (toIm m v) y x) ∧
    (∀ a, (∀ y x : Nat, y < N0 → x < N1 → a ≠ v.base + (y : Int) * s0 + (x : Int) * s1) →
      (rowsInPlaceView T m v).rd a = m.rd a) :=
  rowsInPlaceView_spec T hT m v N0 N1 s0 s1 hsh hst hinj

/-- **haar / ihaar / daubechies / idaubechies on a strided view = the C17 models** (`convolve.py`: the kernel on `f`, then on
`f.T`; `idaubechies` the other way round; the `/= 2`, `*= 2` of `preserve_energy` are numpy operations outside the
kernels): for every injective 2-D view of any strides the view presents afterwards exactly `C17.haar2 false`,
`C17.ihaar2 false`, `C17.daubechies2 cs`, `C17.idaubechies2 cs` of what it presented before — the definitions
`c17 kind=t` runs —, and nothing outside the view is written. -/
theorem C08_wavelets_view_eq_C17 {α : Type} [Add α] [Sub α] [Mul α] [Div α] [Neg α] [NatCast α] [IntCast α]
    (cs : List α) (m : Mem α) (v : View)
    (N0 N1 : Nat) (s0 s1 : Int) (hsh : v.shape = [N0, N1]) (hst : v.strides = [s0, s1])
    (hinj : Inj2 v.base s0 s1 N0 N1) :
    (∀ y x, y < N0 → x < N1 →
      toIm (rowsThenCols C17.haarRow m v) v y x = C17.haar2 false N0 N1 (toIm m v) y x ∧
      toIm (rowsThenCols C17.ihaarRow m v) v y x = C17.ihaar2 false N0 N1 (toIm m v) y x ∧
      toIm (rowsThenCols (C17.waveletRow cs) m v) v y x = C17.daubechies2 cs N0 N1 (toIm m v) y x ∧
      toIm (colsThenRows (C17.iwaveletRow cs) m v) v y x = C17.idaubechies2 cs N0 N1 (toIm m v) y x) ∧
    (∀ a, (∀ y x : Nat, y < N0 → x < N1 → a ≠ v.base + (y : Int) * s0 + (x : Int) * s1) →
      (rowsThenCols C17.haarRow m v).rd a = m.rd a ∧ (rowsThenCols C17.ihaarRow m v).rd a = m.rd a ∧
      (rowsThenCols (C17.waveletRow cs) m v).rd a = m.rd a ∧ (colsThenRows (C17.iwaveletRow cs) m v).rd a = m.rd a) := by
  have h1 := rowsThenCols_spec C17.haarRow C17.haarRow_local m v N0 N1 s0 s1 hsh hst hinj
  have h2 := rowsThenCols_spec C17.ihaarRow C17.ihaarRow_local m v N0 N1 s0 s1 hsh hst hinj
  have h3 := rowsThenCols_spec (C17.waveletRow cs) (C17.waveletRow_local cs) m v N0 N1 s0 s1 hsh hst hinj
  have h4 := colsThenRows_spec (C17.iwaveletRow cs) (C17.iwaveletRow_local cs) m v N0 N1 s0 s1 hsh hst hinj
  exact ⟨fun y x hy hx => ⟨h1.1 y x hy hx, h2.1 y x hy hx, h3.1 y x hy hx, h4.1 y x hy hx⟩,
         fun a ha => ⟨h1.2 a ha, h2.2 a ha, h3.2 a ha, h4.2 a ha⟩⟩

/-- **the wavelet kernels are layout-free**: two (memory, view) pairs — each injective, any strides — that present the same
image present the same image after `K(f); K(f.T)`, for every local row transform `K`. The order `K(f.T); K(f)` of
`idaubechies` (`colsThenRows`) is not stated. -/
theorem C08_wavelets_layout_free {α : Type} (T : Nat → (Nat → α) → Nat → α) (hT : Local T)
    (m₁ m₂ : Mem α) (v₁ v₂ : View) (N0 N1 : Nat) (s0 s1 t0 t1 : Int)
    (hsh₁ : v₁.shape = [N0, N1]) (hst₁ : v₁.strides = [s0, s1]) (hinj₁ : Inj2 v₁.base s0 s1 N0 N1)
    (hsh₂ : v₂.shape = [N0, N1]) (hst₂ : v₂.strides = [t0, t1]) (hinj₂ : Inj2 v₂.base t0 t1 N0 N1)
    (hsame : ∀ y x, y < N0 → x < N1 → toIm m₁ v₁ y x = toIm m₂ v₂ y x)
    (y x : Nat) (hy : y < N0) (hx : x < N1) :
    toIm (rowsThenCols T m₁ v₁) v₁ y x = toIm (rowsThenCols T m₂ v₂) v₂ y x := by
  rw [(rowsThenCols_spec T hT m₁ v₁ N0 N1 s0 s1 hsh₁ hst₁ hinj₁).1 y x hy hx,
    (rowsThenCols_spec T hT m₂ v₂ N0 N1 t0 t1 hsh₂ hst₂ hinj₂).1 y x hy hx]
  exact passes_congr T hT N0 N1 _ _ hsame y x

/-- **`ihaar(haar(f, inline=True), inline=True)` restores `f` for any memory layout** (composition with `C17_ihaar_haar`): over
any field with `2 ≠ 0`, for every injective 2-D view with even sides, running the two native `haar` passes and then the two
native `ihaar` passes in place leaves exactly `f` at every element of the view (`preserve_energy` off in both
calls; with it on, numpy divides and multiplies by 2 outside the kernels). -/
theorem C08_ihaar_haar_view_correct {K : Type} [Field K] (h2 : (2 : K) ≠ 0) (m : Mem K) (v : View)
    (N0 N1 : Nat) (s0 s1 : Int) (hsh : v.shape = [N0, N1]) (hst : v.strides = [s0, s1])
    (hinj : Inj2 v.base s0 s1 N0 N1) (h0 : N0 % 2 = 0) (h1 : N1 % 2 = 0)
    (y x : Nat) (hy : y < N0) (hx : x < N1) :
    toIm (rowsThenCols C17.ihaarRow (rowsThenCols C17.haarRow m v) v) v y x = toIm m v y x := by
  rw [(rowsThenCols_spec C17.ihaarRow C17.ihaarRow_local _ v N0 N1 s0 s1 hsh hst hinj).1 y x hy hx]
  rw [passes_congr C17.ihaarRow C17.ihaarRow_local N0 N1 _ (C17.colsPass C17.haarRow N0 (C17.rowsPass C17.haarRow N1 (toIm m v)))
    (fun y x hy hx => (rowsThenCols_spec C17.haarRow C17.haarRow_local m v N0 N1 s0 s1 hsh hst hinj).1 y x hy hx) y x]
  exact C17_ihaar_haar h2 false N0 N1 h0 h1 (toIm m v) y x hy hx

/-- **the defect of `ihaar<T>` in mahotas before 67fd67c, as a theorem**: `ihaarRowPinned` computes the start of the high-pass
half as `data + step*N1/2` = `(step*N1)/2`. For a row of odd length 3 walked with step 2 (a column of a 3×2 C-array) it reads
address `data + 3`, which is not an element of the row (those are `data + 0, 2, 4`): two memories that agree on the whole row
give different results, i.e. the value depends on memory outside the logical content; `C17.ihaarRow` on `data[p*step]`
(`step*(N1/2)` in the source) reads element 1 = address `data + 2`. -/
theorem C08_ihaar_pinned_wrong :
    let m₁ : Int → Int := fun a => if a = 3 then 2 else 0
    let m₂ : Int → Int := fun _ => 0
    (∀ p : Nat, p < 3 → m₁ (0 + (p : Int) * 2) = m₂ (0 + (p : Int) * 2)) ∧
    ihaarRowPinned 3 2 0 m₁ 0 ≠ ihaarRowPinned 3 2 0 m₂ 0 ∧
    (∀ k, C17.ihaarRow 3 (fun p => m₁ (0 + (p : Int) * 2)) k = C17.ihaarRow 3 (fun p => m₂ (0 + (p : Int) * 2)) k) := by
  refine ⟨?_, by decide, ?_⟩
  · intro p hp
    have : p = 0 ∨ p = 1 ∨ p = 2 := by omega
    rcases this with rfl | rfl | rfl <;> decide
  · intro k
    apply C17.ihaarRow_local
    intro p hp
    have : p = 0 ∨ p = 1 ∨ p = 2 := by omega
    rcases this with rfl | rfl | rfl <;> decide

namespace Mahotas.C08.Example4
/-- a 2×4 image stored reversed along both axes with gaps (element strides −10 and −2, base 16); `haar` in place -/
def memW : Mem Int := ⟨fun a => [0, 0, 8, 0, 7, 0, 6, 0, 5, 0, 0, 0, 4, 0, 3, 0, 2, 0, 1, 0].getD a.toNat 0⟩
def vW : View := { base := 18, shape := [2, 4], strides := [-10, -2] }

theorem injW : Inj2 vW.base (-10) (-2) 2 4 := by
  intro y y' x x' hy hy' hx hx' h
  simp only [vW] at h
  omega

example : (List.range 2).map (fun y => (List.range 4).map (toIm memW vW y)) = [[1, 2, 3, 4], [5, 6, 7, 8]] ∧
    (List.range 2).map (fun y => (List.range 4).map (toIm (rowsThenCols C17.haarRow memW vW) vW y)) =
      [[14, 22, 2, 2], [8, 8, 0, 0]] ∧
    (List.range 2).map (fun y => (List.range 4).map (C17.haar2 false 2 4 (toIm memW vW) y)) =
      [[14, 22, 2, 2], [8, 8, 0, 0]] ∧
    (List.range 20).filter (fun (k : Nat) => (rowsThenCols C17.haarRow memW vW).rd (k : Int) ≠ memW.rd (k : Int)) =
      [2, 4, 6, 8, 12, 14, 16, 18] := by decide +kernel

/-- the injectivity hypothesis is needed: with a zero column stride both columns are the same cell, the second store wins and
the view does not present the row transform -/
def vZ : View := { base := 0, shape := [1, 2], strides := [0, 0] }
example : toIm (rowsInPlaceView C17.haarRow ⟨fun _ => (1 : Int)⟩ vZ) vZ 0 0 = 0 ∧
    C17.rowsPass C17.haarRow 2 (toIm ⟨fun _ => (1 : Int)⟩ vZ) 0 0 = 2 := by decide +kernel
end Mahotas.C08.Example4
