/-
C04 — property theorems about `cwatershedModel`, the executable model of `mahotas.cwatershed`.
-/
import Mahotas.Proofs.C04Flood
import Mahotas.Proofs.C04Term
import Mahotas.Proofs.C04Lines
import Mahotas.Proofs.C04Order
import Mahotas.Proofs.C04LinesExact
import Mahotas.Proofs.C04View
open Mahotas Mahotas.C04

/-- **C04-T3 (the kernel is the specified flooding).** For every surface (any rank, shape, values),
every marker image of the same shape and every neighbourhood of the same rank, the transliteration of
`cwatershed<T>` — neighbour table with flat deltas (zero deltas skipped), `margin_of` lower bounds
with the shortcut `margin − step ≥ 0` and recomputation, statuses white/grey/black, flat-index
access — returns exactly the labels and exactly the lines of the specification flooding over
coordinates (queue ordered by (cost, insertion index), markers queued in scan order, label handed to
every still-unlabelled neighbour inside the image, a queued pixel visited from another label is a
line pixel), and the two queues are drained together. -/
theorem C04_model_refines_flood (surf markers : Img Int) (bshape : List Nat) (bc : Array Int)
    (hm : markers.shape = surf.shape) (hb : bshape.length = surf.shape.length) :
    (cwatershedModel surf markers bshape bc).res = (cwatershedSpec surf markers bshape bc).label.data ∧
    (cwatershedModel surf markers bshape bc).lines = (cwatershedSpec surf markers bshape bc).lines.data ∧
    ((cwatershedModel surf markers bshape bc).queue = [] ↔ (cwatershedSpec surf markers bshape bc).queue = []) := by
  have h := cwatershed_rel surf markers bshape bc hm hb
  refine ⟨h.ldata.symm, h.ndata.symm, ?_⟩
  rw [h.queue]
  simp

/-- **C04-T3a (the flooding runs to the end).** The `size + 1` iterations granted to both runs always
drain the queue (potential = number of white pixels + queue length: kept at `size` by the marker scan,
lowered by exactly one per iteration), so the outputs compared in `C04_model_refines_flood` are the
*final* labels and lines of the kernel and of the specified flooding. -/
theorem C04_flood_drained (surf markers : Img Int) (bshape : List Nat) (bc : Array Int)
    (hm : markers.shape = surf.shape) (hb : bshape.length = surf.shape.length) :
    (cwatershedModel surf markers bshape bc).queue = [] ∧
    (cwatershedSpec surf markers bshape bc).queue = [] := by
  have h := cwatershed_drained surf markers bshape bc hm hb
  exact ⟨h, (C04_model_refines_flood surf markers bshape bc hm hb).2.2.1 h⟩

/-- **C04-T1 (margins).** If the margin stored with a queued pixel is a lower bound of its true
distance to the border, the bounds decision of the inner loop (`nmargin = margin − step`; recompute
`margin_of` only when negative) skips a neighbour exactly when it lies outside the image; the margin
pushed with an accepted neighbour is again a lower bound of that neighbour's true margin, and the
updated running margin is still a lower bound for the centre pixel. Any rank, any shape, any offset. -/
theorem C04_margin_check_sound (s : List Nat) (i : Nat) (m : Int) (o : List Int) (delta : Int)
    (hi : i < shapeSize s) (ho : o.length = s.length) (hm : m ≤ marginOf s (unravelI s i)) :
    match nbCheck s i m ⟨delta, chebStep o, o⟩ with
    | none => inside s (addPos (unravelI s i) o) = false
    | some (nm, m') => inside s (addPos (unravelI s i) o) = true ∧
        nm ≤ marginOf s (addPos (unravelI s i) o) ∧ m ≤ m' ∧ m' ≤ marginOf s (unravelI s i) :=
  nbCheck_sound s i m o delta ho hm

/-- **C04-T1a.** A position of the right rank is inside the image exactly when `margin_of` is
non-negative, and `margin_of` is 1-Lipschitz for the Chebyshev length of an offset. -/
theorem C04_margin_of (s : List Nat) (p o : List Int) (hp : p.length = s.length) (ho : o.length = s.length) :
    (inside s p = true ↔ 0 ≤ marginOf s p) ∧ marginOf s p - chebStep o ≤ marginOf s (addPos p o) :=
  ⟨inside_iff_margin s p hp, margin_lipschitz' s p o hp ho⟩

/-- **C04-T2 (flat deltas).** Whenever a pixel and its neighbour `p + off` are both inside the image,
`pos_to_flat(p) + pos_to_flat(off)` is the flat index of the neighbour; and an offset whose flat
delta is zero (those are dropped from the neighbour table) can only join a pixel to itself. -/
theorem C04_delta_sound (s : List Nat) (p o : List Int) (hp : inside s p = true)
    (hq : inside s (addPos p o) = true) :
    ((ravelI s (addPos p o) : Nat) : Int) = (ravelI s p : Int) + posToFlat s o ∧
    (posToFlat s o = 0 → addPos p o = p) :=
  ⟨ravelI_addPos s p o hp hq, zero_delta_same s p o hp hq⟩

/-- **C04-T4 (every region is connected to one of its own markers).** In the output of the kernel
model every pixel with a non-zero label is joined to a marker pixel carrying that same label by a
path of neighbourhood steps inside the image along which the label never changes. -/
theorem C04_regions_connected (surf markers : Img Int) (bshape : List Nat) (bc : Array Int)
    (hm : markers.shape = surf.shape) (hb : bshape.length = surf.shape.length) (p : List Int)
    (hp : inside surf.shape p = true) (hl : (modelLabels surf markers bshape bc).getD p 0 ≠ 0) :
    Joined surf.shape (offsets bshape bc) markers
      (fun r => (modelLabels surf markers bshape bc).getD r 0) p := by
  rw [modelLabels_eq surf markers bshape bc hm hb] at hl ⊢
  exact (cwatershedSpec_inv surf markers bshape bc).joined p hp hl

/-- **C04-T5a (markers keep their labels).** A marker pixel carries its marker value in the output of the kernel model
(for `cwatershedPy` that is the value after the int64 cast: `C04_marker_cast`). -/
theorem C04_markers_keep_labels (surf markers : Img Int) (bshape : List Nat) (bc : Array Int)
    (hm : markers.shape = surf.shape) (hb : bshape.length = surf.shape.length) (p : List Int)
    (hp : inside surf.shape p = true) (hk : markers.getD p 0 ≠ 0) :
    (modelLabels surf markers bshape bc).getD p 0 = markers.getD p 0 := by
  rw [modelLabels_eq surf markers bshape bc hm hb]
  exact (cwatershedSpec_inv surf markers bshape bc).keep p hp hk

/-- **C04-T5b (pixels no marker can reach are 0).** A pixel that cannot be reached from any marker
by neighbourhood steps inside the image has label 0 in the output of the kernel model (the output
buffers start zero-filled, `PyArray_ZEROS` in `py_cwatershed`, and the flooding never writes such a pixel). -/
theorem C04_unreached_zero (surf markers : Img Int) (bshape : List Nat) (bc : Array Int)
    (hm : markers.shape = surf.shape) (hb : bshape.length = surf.shape.length) (p : List Int)
    (hp : inside surf.shape p = true)
    (hun : ¬ Reach surf.shape (offsets bshape bc) markers p) :
    (modelLabels surf markers bshape bc).getD p 0 = 0 := by
  by_contra hl
  exact hun (C04_regions_connected surf markers bshape bc hm hb p hp hl).reach

/-- **C04-T5c (lines lie on region boundaries).** Every pixel that is True in the lines output of the
kernel model has, one offset of the neighbourhood away, a labelled pixel of the image whose final label differs from
its own final label (`Boundary`; the visit that marked the pixel supplies the neighbour, and labels never change once set);
in particular a line pixel is labelled. That the neighbour was popped while the pixel was queued is
`C04_lines_exact_queued`. -/
theorem C04_lines_on_boundaries (surf markers : Img Int) (bshape : List Nat) (bc : Array Int)
    (hm : markers.shape = surf.shape) (hb : bshape.length = surf.shape.length) (r : List Int)
    (hr : inside surf.shape r = true)
    (hl : (⟨surf.shape, (cwatershedModel surf markers bshape bc).lines⟩ : Img Bool).getD r false = true) :
    Boundary surf.shape (offsets bshape bc) (fun x => (modelLabels surf markers bshape bc).getD x 0) r := by
  exact cwatershed_lines_boundary surf markers bshape bc hm hb r hr hl

/-- non-vacuity: a 2×3 surface with two markers and the cross; both runs drain their queues -/
example :
    let surf : Img Int := ⟨[2, 3], #[0, 1, 2, 1, 0, 1]⟩
    let mk : Img Int := ⟨[2, 3], #[1, 0, 0, 0, 0, 2]⟩
    let bc : Array Int := #[0, 1, 0, 1, 1, 1, 0, 1, 0]
    (cwatershedModel surf mk [3, 3] bc).res = #[1, 1, 2, 1, 2, 2] ∧
    (cwatershedSpec surf mk [3, 3] bc).lines.data = #[false, true, true, true, false, false] ∧
    (cwatershedSpec surf mk [3, 3] bc).queue = [] := by decide +kernel

/-- **C04-T7a (the specified flooding only looks at the order of the costs).** Let `surf` and `surf'` be
two surfaces of one shape whose values compare alike at every pair of pixels (`surf[i] < surf[j]` exactly
when `surf'[i] < surf'[j]`; equal values are then equal on both sides as well). Then, for every marker
image and every neighbourhood — no further hypothesis — the specification flooding returns the same label
image and the same lines image for both surfaces (the two runs pop the same pixel with the same insertion
index at every iteration: the queue is only ever *compared*, by (cost, insertion index), and ties are
broken by the insertion counter, which does not depend on the costs). -/
theorem C04_spec_order_invariant (surf surf' markers : Img Int) (bshape : List Nat) (bc : Array Int)
    (hs : surf'.shape = surf.shape)
    (hord : ∀ i j, i < shapeSize surf.shape → j < shapeSize surf.shape →
      (surf.data.getD i 0 < surf.data.getD j 0 ↔ surf'.data.getD i 0 < surf'.data.getD j 0)) :
    (cwatershedSpec surf' markers bshape bc).label = (cwatershedSpec surf markers bshape bc).label ∧
    (cwatershedSpec surf' markers bshape bc).lines = (cwatershedSpec surf markers bshape bc).lines := by
  have h := cwatershedSpec_orel (surf := surf) (surf' := surf') ⟨hs, hord⟩ markers bshape bc
  exact ⟨h.label, h.lines⟩

/-- **C04-T7 (order-isomorphism invariance of the flooding — labels and lines, specification and kernel
model).** If two surfaces of one shape compare alike at every pair of pixels (as in
`C04_spec_order_invariant`: `surf[i] < surf[j] ↔ surf'[i] < surf'[j]` for all flat indices inside the
image), then for markers of the surface's shape and a neighbourhood of the surface's rank both the
specification flooding and the transliterated kernel `cwatershed<T>` return the same labels and the same
lines for `surf'` as for `surf`. In particular the result is unchanged by any cost map that is strictly
increasing on the values that occur (`C04_strict_mono_invariant`), e.g. by the reduction of a surface to
its dense ranks (`C04_dense_rank_invariant`), which is what the harness sends for floating surfaces. -/
theorem C04_order_isomorphism_invariant (surf surf' markers : Img Int) (bshape : List Nat) (bc : Array Int)
    (hm : markers.shape = surf.shape) (hb : bshape.length = surf.shape.length)
    (hs : surf'.shape = surf.shape)
    (hord : ∀ i j, i < shapeSize surf.shape → j < shapeSize surf.shape →
      (surf.data.getD i 0 < surf.data.getD j 0 ↔ surf'.data.getD i 0 < surf'.data.getD j 0)) :
    (cwatershedSpec surf' markers bshape bc).label = (cwatershedSpec surf markers bshape bc).label ∧
    (cwatershedSpec surf' markers bshape bc).lines = (cwatershedSpec surf markers bshape bc).lines ∧
    (cwatershedModel surf' markers bshape bc).res = (cwatershedModel surf markers bshape bc).res ∧
    (cwatershedModel surf' markers bshape bc).lines = (cwatershedModel surf markers bshape bc).lines := by
  obtain ⟨h1, h2⟩ := C04_spec_order_invariant surf surf' markers bshape bc hs hord
  have r := C04_model_refines_flood surf markers bshape bc hm hb
  have r' := C04_model_refines_flood surf' markers bshape bc (by rw [hm, hs]) (by rw [hb, hs])
  exact ⟨h1, h2, by rw [r.1, r'.1, h1], by rw [r.2.1, r'.2.1, h2]⟩

/-- **C04-T7b (strictly increasing cost maps).** Let `phi : ℤ → ℤ` be strictly increasing *on the values
that occur in the surface* (`a < b → phi a < phi b` for `a, b` among the surface's values; nothing is
asked elsewhere), the surface holding at least as many values as its shape has pixels. Then flooding
`phi ∘ surf` gives the same labels and the same lines as flooding `surf` — for the specification and for
the kernel model. -/
theorem C04_strict_mono_invariant (phi : Int → Int) (surf markers : Img Int) (bshape : List Nat)
    (bc : Array Int) (hm : markers.shape = surf.shape) (hb : bshape.length = surf.shape.length)
    (hsz : shapeSize surf.shape ≤ surf.data.size)
    (hphi : ∀ a ∈ surf.data.toList, ∀ b ∈ surf.data.toList, a < b → phi a < phi b) :
    (cwatershedSpec (mapSurf phi surf) markers bshape bc).label = (cwatershedSpec surf markers bshape bc).label ∧
    (cwatershedSpec (mapSurf phi surf) markers bshape bc).lines = (cwatershedSpec surf markers bshape bc).lines ∧
    (cwatershedModel (mapSurf phi surf) markers bshape bc).res = (cwatershedModel surf markers bshape bc).res ∧
    (cwatershedModel (mapSurf phi surf) markers bshape bc).lines = (cwatershedModel surf markers bshape bc).lines :=
  have h := mapSurf_ordEquiv phi surf hsz hphi
  C04_order_isomorphism_invariant surf (mapSurf phi surf) markers bshape bc hm hb h.shape h.lt

/-- **C04-T7c (the rank reduction of the harness is sound).** Replacing every cost by its *dense rank*
(the number of distinct values of the surface below it — `numpy.unique(surf, return_inverse=True)[1]`)
changes neither the labels nor the lines, for the specification and for the kernel model: the dense rank
is strictly increasing on the values that occur. So a surface may be sent to the Lean driver as its dense
ranks; for a floating surface without NaN the ranks are an integer surface with the very order pattern
of the floats (`-0.0 = 0.0` on both sides). -/
theorem C04_dense_rank_invariant (surf markers : Img Int) (bshape : List Nat) (bc : Array Int)
    (hm : markers.shape = surf.shape) (hb : bshape.length = surf.shape.length)
    (hsz : shapeSize surf.shape ≤ surf.data.size) :
    (cwatershedSpec (mapSurf (denseRank surf.data) surf) markers bshape bc).label
      = (cwatershedSpec surf markers bshape bc).label ∧
    (cwatershedSpec (mapSurf (denseRank surf.data) surf) markers bshape bc).lines
      = (cwatershedSpec surf markers bshape bc).lines ∧
    (cwatershedModel (mapSurf (denseRank surf.data) surf) markers bshape bc).res
      = (cwatershedModel surf markers bshape bc).res ∧
    (cwatershedModel (mapSurf (denseRank surf.data) surf) markers bshape bc).lines
      = (cwatershedModel surf markers bshape bc).lines :=
  C04_strict_mono_invariant (denseRank surf.data) surf markers bshape bc hm hb hsz
    (denseRank_strictMonoOn surf.data)

/-- non-vacuity of T7b: every affine map with positive slope qualifies, for every surface -/
example (surf markers : Img Int) (bshape : List Nat) (bc : Array Int)
    (hm : markers.shape = surf.shape) (hb : bshape.length = surf.shape.length)
    (hsz : shapeSize surf.shape ≤ surf.data.size) :
    (cwatershedModel (mapSurf (fun x => 3 * x - 7) surf) markers bshape bc).res
      = (cwatershedModel surf markers bshape bc).res :=
  (C04_strict_mono_invariant (fun x => 3 * x - 7) surf markers bshape bc hm hb hsz
    (by intro a _ b _ h; show 3 * a - 7 < 3 * b - 7; omega)).2.2.1

/-- non-vacuity of T7c: the dense ranks of a concrete surface (they differ from the surface, and not by an affine map) -/
example :
    (mapSurf (denseRank #[5, -7, 100, 5, 0, 3]) ⟨[2, 3], #[5, -7, 100, 5, 0, 3]⟩ : Img Int).data
      = #[3, 0, 4, 3, 1, 2] := by decide +kernel

/-- **C04-T8 (lines, exactly).** `cwatershedTrace` is the list of neighbour visits the kernel model
performs, in order (defined in step with `modelRun`: same `extractMin`, same `modelVisit` fold): one
event for every popped queue entry `next` and every entry of the neighbour table that passes the bounds
decision, recording `next.position` (`pos`), `npos`, and what the kernel reads there at that moment:
`status[npos]`, whether `npos` is in the queue, `rdata[next.position]` (`lab`) and `rdata[npos]` (`nlab`).
For every surface, marker image, neighbourhood and flat index `i` — no hypothesis —
(1) `lines[i]` is True in the output of the kernel model **iff** some visit of the trace looked at `i`
while `status[i]` was grey and read two different labels — literally the C++
`case grey: if (lines && rdata[next.position] != rdata[npos]) lines->at_flat(npos) = true`; and
(2) the same with the *final* labels of the two pixels in place of the labels read at the visit (labels
of non-white pixels are never written again; the popped pixel is black). -/
theorem C04_lines_exact (surf markers : Img Int) (bshape : List Nat) (bc : Array Int) (i : Nat) :
    ((cwatershedModel surf markers bshape bc).lines.getD i false = true ↔
      ∃ ev ∈ cwatershedTrace surf markers bshape bc, ev.npos = i ∧ ev.status = 1 ∧ ev.lab ≠ ev.nlab) ∧
    ((cwatershedModel surf markers bshape bc).lines.getD i false = true ↔
      ∃ ev ∈ cwatershedTrace surf markers bshape bc, ev.npos = i ∧ ev.status = 1 ∧
        (cwatershedModel surf markers bshape bc).res.getD ev.pos 0
          ≠ (cwatershedModel surf markers bshape bc).res.getD i 0) :=
  ⟨cwatershed_lines_exact surf markers bshape bc i, cwatershed_lines_exact_final surf markers bshape bc i⟩

/-- **C04-T8a (the visits of the trace are what the words say).** For markers of the surface's shape and
a neighbourhood of the surface's rank, every visit of the trace: pops a pixel of the image that is
labelled; looks at a pixel of the image that is the popped pixel plus an offset of the neighbourhood;
finds it grey exactly when it is in the queue at that moment (already labelled, not yet popped) and white
exactly when it is still unlabelled; and the labels it reads are the final labels of the popped pixel
and (unless white) of the neighbour. -/
theorem C04_trace_visits (surf markers : Img Int) (bshape : List Nat) (bc : Array Int)
    (hm : markers.shape = surf.shape) (hb : bshape.length = surf.shape.length) :
    ∀ ev ∈ cwatershedTrace surf markers bshape bc,
      ev.pos < shapeSize surf.shape ∧ ev.npos < shapeSize surf.shape ∧
      (∃ o ∈ offsets bshape bc, unravelI surf.shape ev.npos = addPos (unravelI surf.shape ev.pos) o) ∧
      (ev.status = 1 ↔ ev.queued = true) ∧ (ev.status = 0 ↔ ev.nlab = 0) ∧ ev.lab ≠ 0 ∧
      ev.lab = (cwatershedModel surf markers bshape bc).res.getD ev.pos 0 ∧
      (ev.status ≠ 0 → ev.nlab = (cwatershedModel surf markers bshape bc).res.getD ev.npos 0) := by
  intro ev hev
  have g := cwatershedTrace_good surf markers bshape bc hm hb ev hev
  have f := modelTrace_final surf (neighbours surf.shape (offsets bshape bc)) (fuelOf surf.shape)
    (modelInit surf markers) (modelInit_sized surf markers) ev hev
  exact ⟨g.pos_lt, g.npos_lt, g.nb, g.grey, g.white, g.lab, f.1, f.2⟩

/-- **C04-T8b (lines = queued pixels visited from another label).** For markers of the surface's shape
and a neighbourhood of the surface's rank: a pixel `i` is True in the lines output — of the kernel model
and of the specification flooding alike — **iff** at some visit of the trace `i` was looked at from a
popped pixel while `i` was in the queue (labelled, not yet popped) and the final label of the popped
pixel differs from the final label of `i`. (By `C04_trace_visits` that visit goes from a labelled pixel
of the image through an offset of the neighbourhood, so this sharpens `C04_lines_on_boundaries` to an
equivalence.) -/
theorem C04_lines_exact_queued (surf markers : Img Int) (bshape : List Nat) (bc : Array Int)
    (hm : markers.shape = surf.shape) (hb : bshape.length = surf.shape.length) (i : Nat) :
    ((cwatershedModel surf markers bshape bc).lines.getD i false = true ↔
      ∃ ev ∈ cwatershedTrace surf markers bshape bc, ev.npos = i ∧ ev.queued = true ∧
        (cwatershedModel surf markers bshape bc).res.getD ev.pos 0
          ≠ (cwatershedModel surf markers bshape bc).res.getD i 0) ∧
    ((cwatershedSpec surf markers bshape bc).lines.data.getD i false = true ↔
      ∃ ev ∈ cwatershedTrace surf markers bshape bc, ev.npos = i ∧ ev.queued = true ∧
        (cwatershedSpec surf markers bshape bc).label.data.getD ev.pos 0
          ≠ (cwatershedSpec surf markers bshape bc).label.data.getD i 0) := by
  have key : (cwatershedModel surf markers bshape bc).lines.getD i false = true ↔
      ∃ ev ∈ cwatershedTrace surf markers bshape bc, ev.npos = i ∧ ev.queued = true ∧
        (cwatershedModel surf markers bshape bc).res.getD ev.pos 0
          ≠ (cwatershedModel surf markers bshape bc).res.getD i 0 := by
    rw [cwatershed_lines_exact_final]
    exact exists_congr fun ev => and_congr_right fun hev => and_congr_right fun _ =>
      and_congr_left' (cwatershedTrace_good surf markers bshape bc hm hb ev hev).grey
  have r := C04_model_refines_flood surf markers bshape bc hm hb
  refine ⟨key, ?_⟩
  rw [← r.1, ← r.2.1]
  exact key

/-- non-vacuity of T8: on the 2×3 example the trace has 14 visits; exactly three of them satisfy the
C++ condition, at the pixels 1, 3 and 2 (each queued at that moment), and these are the True pixels -/
example :
    let surf : Img Int := ⟨[2, 3], #[0, 1, 2, 1, 0, 1]⟩
    let mk : Img Int := ⟨[2, 3], #[1, 0, 0, 0, 0, 2]⟩
    let bc : Array Int := #[0, 1, 0, 1, 1, 1, 0, 1, 0]
    (cwatershedTrace surf mk [3, 3] bc).length = 14 ∧
    ((cwatershedTrace surf mk [3, 3] bc).filter (fun ev => ev.status == 1 && ev.lab != ev.nlab)).map
        (fun ev => (ev.pos, ev.npos, ev.queued, ev.lab, ev.nlab))
      = [(4, 1, true, 2, 1), (4, 3, true, 2, 1), (1, 2, true, 1, 2)] ∧
    (cwatershedModel surf mk [3, 3] bc).lines = #[false, true, true, true, false, false] := by
  decide +kernel

/-- **C04-T8c (lines of the specification flooding, exactly, over its own trace).** `cwatershedSpecTrace`
is the list of neighbour visits of the specification flooding, in order (defined in step with `specRun`:
same `extractMin`, same `specVisit` fold): one event for every popped pixel `p` and every offset with
`q = p + off` inside the image, recording `p`, `q`, whether `q` is in the queue, and the labels of `p` and
`q` at that moment. For every surface, marker image, neighbourhood and position `r` — no hypothesis —
`lines[r]` is True in the specification's output **iff** some visit of its trace looked at `r` while `r`
was labelled and in the queue (assigned a label, not yet popped) from a popped pixel carrying a different
label. -/
theorem C04_spec_lines_exact (surf markers : Img Int) (bshape : List Nat) (bc : Array Int) (r : List Int) :
    (cwatershedSpec surf markers bshape bc).lines.getD r false = true ↔
      ∃ ev ∈ cwatershedSpecTrace surf markers bshape bc,
        ev.q = r ∧ ev.lq ≠ 0 ∧ ev.queued = true ∧ ev.lp ≠ ev.lq :=
  cwatershedSpec_lines_exact surf markers bshape bc r

/-- non-vacuity of T8c: on the 2×3 example the specification makes 20 visits (the 14 of the kernel plus the
6 centre visits whose zero delta the kernel skips); the same three make a line pixel -/
example :
    let surf : Img Int := ⟨[2, 3], #[0, 1, 2, 1, 0, 1]⟩
    let mk : Img Int := ⟨[2, 3], #[1, 0, 0, 0, 0, 2]⟩
    let bc : Array Int := #[0, 1, 0, 1, 1, 1, 0, 1, 0]
    (cwatershedSpecTrace surf mk [3, 3] bc).length = 20 ∧
    ((cwatershedSpecTrace surf mk [3, 3] bc).filter
        (fun ev => ev.lq != 0 && ev.queued && ev.lp != ev.lq)).map (fun ev => (ev.p, ev.q, ev.lp, ev.lq))
      = [([1, 1], [0, 1], 2, 1), ([1, 1], [1, 0], 2, 1), ([0, 1], [0, 2], 1, 2)] := by
  decide +kernel

open Mahotas.C08 in
/-- **C04-T6a (the kernel on views = the specified flooding of the logical arrays, any memory layout).**
`C08.cwatershedView` is `cwatershed<T>` as it reads its arguments: the surface and the markers only through
`aligned_array::at_flat(i)`, `i < N` (the loop `c = p % dim(d); p /= dim(d)` for a strided array, `data()[p]`
for a C-array), the structuring element through its own iterator. For EVERY base address and EVERY element strides
(negative, zero, transposed, sliced — `View.WF` only asks for one stride per axis, and that an array flagged as a C-array
has C strides) of the three arrays and every memory content: labels and lines of the view kernel are exactly the labels
and lines of the SPECIFICATION flooding (`cwatershedSpec`: priority queue on (cost, insertion index) over coordinates)
run on the logical contents `logicalImg mem view` (element `k` = memory at the address of the `k`-th position in C order;
`logicalImg` is `C08.toImg`, by `rfl`).
Hence the result depends on the three arguments only through their logical contents. Hypotheses: the markers have
the surface's shape and the element its rank (both enforced by `morph.py`). -/
theorem C04_view_eq_spec (mS mM mB : Int → Int) (vS vM vB : View) (wS : vS.WF) (wM : vM.WF) (wB : vB.WF)
    (hm : vM.shape = vS.shape) (hb : vB.shape.length = vS.shape.length) :
    (cwatershedView mS vS mM vM mB vB).res =
      (cwatershedSpec (logicalImg mS vS) (logicalImg mM vM) vB.shape (logical mB vB).toArray).label.data ∧
    (cwatershedView mS vS mM vM mB vB).lines =
      (cwatershedSpec (logicalImg mS vS) (logicalImg mM vM) vB.shape (logical mB vB).toArray).lines.data ∧
    cwatershedView mS vS mM vM mB vB =
      cwatershedModel (logicalImg mS vS) (logicalImg mM vM) vB.shape (logical mB vB).toArray := by
  have e : cwatershedView mS vS mM vM mB vB =
      cwatershedModel (logicalImg mS vS) (logicalImg mM vM) vB.shape (logical mB vB).toArray := by
    unfold cwatershedView
    rw [flatImg_eq_logicalImg _ _ wS, flatImg_eq_logicalImg _ _ wM, filtVals_eq _ _ wB]
  have r := C04_model_refines_flood (logicalImg mS vS) (logicalImg mM vM) vB.shape (logical mB vB).toArray hm hb
  exact ⟨by rw [e, r.1], by rw [e, r.2.1], e⟩

open Mahotas.C08 in
/-- **C04-T6 (layout AND dtype independence).** Two calls whose marker arrays and structuring elements have the same
logical content (any two layouts each) and whose surfaces — of one shape, in any two layouts, holding values of any two
cost types — are ORDER-ISOMORPHIC (`surf₁[i] < surf₁[j] ↔ surf₂[i] < surf₂[j]` for all pixels: e.g. an integer surface
and the same numbers stored as float64, a float surface and its dense ranks, a uint8 surface and its int64 copy) give
the same label image and the same lines image. Composition of `C04_view_eq_spec` with `C04_spec_order_invariant`. What
is assumed about the C++: `MarkerInfo<T>::operator<` on the non-NaN values of `T` is the numeric order. -/
theorem C04_view_layout_dtype_independent (mS₁ mS₂ mM₁ mM₂ mB₁ mB₂ : Int → Int) (vS₁ vS₂ vM₁ vM₂ vB₁ vB₂ : View)
    (wS₁ : vS₁.WF) (wS₂ : vS₂.WF) (wM₁ : vM₁.WF) (wM₂ : vM₂.WF) (wB₁ : vB₁.WF) (wB₂ : vB₂.WF)
    (hm : vM₁.shape = vS₁.shape) (hb : vB₁.shape.length = vS₁.shape.length) (hs : vS₂.shape = vS₁.shape)
    (hM : logicalImg mM₂ vM₂ = logicalImg mM₁ vM₁) (hB : vB₂.shape = vB₁.shape ∧ logical mB₂ vB₂ = logical mB₁ vB₁)
    (hord : ∀ i j, i < shapeSize vS₁.shape → j < shapeSize vS₁.shape →
      ((logicalImg mS₁ vS₁).data.getD i 0 < (logicalImg mS₁ vS₁).data.getD j 0 ↔
        (logicalImg mS₂ vS₂).data.getD i 0 < (logicalImg mS₂ vS₂).data.getD j 0)) :
    (cwatershedView mS₂ vS₂ mM₂ vM₂ mB₂ vB₂).res = (cwatershedView mS₁ vS₁ mM₁ vM₁ mB₁ vB₁).res ∧
    (cwatershedView mS₂ vS₂ mM₂ vM₂ mB₂ vB₂).lines = (cwatershedView mS₁ vS₁ mM₁ vM₁ mB₁ vB₁).lines := by
  have hm₂ : vM₂.shape = vS₂.shape := by
    have : (logicalImg mM₂ vM₂).shape = (logicalImg mM₁ vM₁).shape := by rw [hM]
    rw [hs, ← hm]; exact this
  have hb₂ : vB₂.shape.length = vS₂.shape.length := by rw [hB.1, hs]; exact hb
  obtain ⟨a1, a2, _⟩ := C04_view_eq_spec mS₁ mM₁ mB₁ vS₁ vM₁ vB₁ wS₁ wM₁ wB₁ hm hb
  obtain ⟨b1, b2, _⟩ := C04_view_eq_spec mS₂ mM₂ mB₂ vS₂ vM₂ vB₂ wS₂ wM₂ wB₂ hm₂ hb₂
  obtain ⟨o1, o2⟩ := C04_spec_order_invariant (logicalImg mS₁ vS₁) (logicalImg mS₂ vS₂) (logicalImg mM₁ vM₁) vB₁.shape
    (logical mB₁ vB₁).toArray hs hord
  rw [a1, a2, b1, b2, hM, hB.1, hB.2, o1, o2]
  exact ⟨rfl, rfl⟩

/-- **C04 (the marker cast, `morph.py:314`).** `castMarker` — `np.asanyarray(markers, np.int64)` on one value — is the
identity on `[−2⁶³, 2⁶³)` (every value of bool, int8…int64, uint8…uint32 marker images), maps a `uint64` value
`v ≥ 2⁶³` to the negative label `v − 2⁶⁴`, always lands in the int64 range, and is zero exactly when the caller's value
is zero (for every value of every integer dtype): the SET of marker pixels is the caller's, the labels are the cast
values. So for every marker dtype but `uint64` `cwatershedPy = cwatershedModel` on the caller's markers, and all C04
theorems apply to `cwatershedPy` with `castMarkers markers` for `markers` — "markers keep their labels" is about the cast
values (a `uint64` label `2⁶⁴ − 1` comes back as `−1`). -/
theorem C04_marker_cast (v : Int) :
    (-9223372036854775808 ≤ v → v < 9223372036854775808 → castMarker v = v) ∧
    (9223372036854775808 ≤ v → v < 18446744073709551616 → castMarker v = v - 18446744073709551616) ∧
    (-9223372036854775808 ≤ castMarker v ∧ castMarker v < 9223372036854775808) ∧
    (-9223372036854775808 ≤ v → v < 18446744073709551616 → (castMarker v = 0 ↔ v = 0)) := by
  unfold castMarker
  simp only []
  refine ⟨fun h1 h2 => ?_, fun h1 h2 => ?_, ?_, fun h1 h2 => ?_⟩ <;> split <;> omega

/-- `cwatershedPy` on markers that fit int64 is the kernel on the caller's markers. -/
theorem C04_py_eq_model_of_int64 (surf markers : Img Int) (bshape : List Nat) (bc : Array Int)
    (h : ∀ v ∈ markers.data.toList, -9223372036854775808 ≤ v ∧ v < 9223372036854775808) :
    cwatershedPy surf markers bshape bc = cwatershedModel surf markers bshape bc := by
  unfold cwatershedPy castMarkers
  have : markers.data.map castMarker = markers.data := by
    apply Array.ext (by simp)
    intro i h1 h2
    rw [Array.getElem_map]
    exact (C04_marker_cast _).1 (h _ (by simp)).1 (h _ (by simp)).2
  rw [this]

/-- non-vacuity of T6a: the 2×3 surface `[[0,1,2],[1,0,1]]` stored in FORTRAN order (element strides `(1, 2)`, memory
`0,1,1,0,2,1`) with the markers stored reversed (base 5, strides `(-3, -1)`): the view kernel returns the labels and
lines of the C-contiguous example above; both views are well-formed, neither is a C-array. -/
example :
    let mS : Int → Int := fun a => (#[0, 1, 1, 0, 2, 1] : Array Int).getD a.toNat 0
    let mM : Int → Int := fun a => (#[2, 0, 0, 0, 0, 1] : Array Int).getD a.toNat 0
    let mB : Int → Int := fun a => (#[0, 1, 0, 1, 1, 1, 0, 1, 0] : Array Int).getD a.toNat 0
    let vS : C08.View := { base := 0, shape := [2, 3], strides := [1, 2] }
    let vM : C08.View := { base := 5, shape := [2, 3], strides := [-3, -1] }
    let vB : C08.View := { base := 0, shape := [3, 3], strides := [3, 1], carray := true }
    (logicalImg mS vS).data = #[0, 1, 2, 1, 0, 1] ∧ (logicalImg mM vM).data = #[1, 0, 0, 0, 0, 2] ∧
    (C08.cwatershedView mS vS mM vM mB vB).res = #[1, 1, 2, 1, 2, 2] ∧
    (C08.cwatershedView mS vS mM vM mB vB).lines = #[false, true, true, true, false, false] := by
  decide +kernel
example (mS mM mB : Int → Int) :
    let vS : C08.View := { base := 0, shape := [2, 3], strides := [1, 2] }
    let vM : C08.View := { base := 5, shape := [2, 3], strides := [-3, -1] }
    let vB : C08.View := { base := 0, shape := [3, 3], strides := [3, 1], carray := true }
    (C08.cwatershedView mS vS mM vM mB vB).res =
      (cwatershedSpec (logicalImg mS vS) (logicalImg mM vM) vB.shape (C08.logical mB vB).toArray).label.data := by
  intro vS vM vB
  have wS : vS.WF := ⟨rfl, by intro h; cases h⟩
  have wM : vM.WF := ⟨rfl, by intro h; cases h⟩
  have wB : vB.WF := ⟨rfl, fun _ => by decide⟩
  exact (C04_view_eq_spec mS mM mB vS vM vB wS wM wB rfl rfl).1

/-- non-vacuity of the marker cast: `uint64` labels at and above `2⁶³`, and a surface flooded from such a marker -/
example : castMarker 18446744073709551615 = -1 ∧ castMarker 9223372036854775808 = -9223372036854775808 ∧
    castMarker 255 = 255 ∧ castMarker (-128) = -128 ∧
    (cwatershedPy ⟨[1, 3], #[0, 0, 0]⟩ ⟨[1, 3], #[18446744073709551615, 0, 0]⟩ [1, 3] #[1, 1, 1]).res = #[-1, -1, -1] := by
  decide +kernel

/-- non-vacuity of T3 for a neighbourhood LARGER than the image: a 7×5 all-ones element on a 2×3 surface, an
even-sided 2×4 element, and the empty (all-zero) element — model = specification, queues drained; with the large
element every pixel is a neighbour of every pixel, so the two markers race for the whole image by cost and index. -/
example :
    let surf : Img Int := ⟨[2, 3], #[3, 1, 2, 1, 0, 1]⟩
    let mk : Img Int := ⟨[2, 3], #[1, 0, 0, 0, 0, 2]⟩
    (cwatershedModel surf mk [7, 5] (Array.replicate 35 1)).res = #[1, 2, 2, 2, 2, 2] ∧
    (cwatershedSpec surf mk [7, 5] (Array.replicate 35 1)).label.data = #[1, 2, 2, 2, 2, 2] ∧
    (cwatershedModel surf mk [7, 5] (Array.replicate 35 1)).lines
      = (cwatershedSpec surf mk [7, 5] (Array.replicate 35 1)).lines.data ∧
    (cwatershedModel surf mk [2, 4] (Array.replicate 8 1)).res
      = (cwatershedSpec surf mk [2, 4] (Array.replicate 8 1)).label.data ∧
    (cwatershedModel surf mk [3, 3] (Array.replicate 9 0)).res = #[1, 0, 0, 0, 0, 2] := by
  intro surf mk
  have r := C04_model_refines_flood surf mk [7, 5] (Array.replicate 35 1) rfl rfl
  have e : (cwatershedModel surf mk [7, 5] (Array.replicate 35 1)).res = #[1, 2, 2, 2, 2, 2] := by decide +kernel
  exact ⟨e, r.1 ▸ e, r.2.1, (C04_model_refines_flood surf mk [2, 4] (Array.replicate 8 1) rfl rfl).1,
    by decide +kernel⟩
