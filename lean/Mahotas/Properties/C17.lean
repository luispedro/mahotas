/-
C17 — the property theorems of the wavelet transforms: Haar and Daubechies round trips (exact, with the error of
approximately quadrature-mirror tables, and in rounded arithmetic), energy, linearity, `wavelet_center`, the wrappers'
`inline` handling and the C kernels on strided memory. All of them are about the definitions of `Model/C17Core.lean`
and `Model/C17Mem.lean` that the native driver runs at `Float`, here instantiated at an arbitrary field `K` (of
characteristic ≠ 2 where a halving is undone), and about the coefficient tables the translator regenerates from
`_convolve.cpp` on every run.
-/
import Mahotas.Proofs.C17
import Mahotas.Proofs.C17General
import Mahotas.Proofs.C17PR
import Mahotas.Proofs.C17Resid
import Mahotas.Proofs.C17Energy
import Mahotas.Proofs.C17Mem
import Mahotas.Proofs.C17Center
import Mahotas.Proofs.C17Round
import Mahotas.Proofs.C17Cast
import Mahotas.Proofs.C17RoundTrip
import Mathlib.Algebra.Order.Ring.Rat
namespace Mahotas.C17
open Mahotas

/-- the sum of squares of an `N0 × N1` image -/
def energy {K : Type} [Field K] (N0 N1 : Nat) (g : Im K) : K :=
  sumTo N0 (fun y => sumTo N1 (fun x => g y x ^ 2))

/-- a table entry as a rational number -/
def toRat (mk : Int × Nat) : Rat := (mk.1 : Rat) / ((2 ^ mk.2 : Nat) : Rat)
def dot (t : List Rat) (s : Nat) : Rat := ((t.zip (t.drop (2 * s))).map fun ab => ab.1 * ab.2).sum
def altSum (t : List Rat) : Rat := (t.zipIdx.map fun ci => if ci.2 % 2 = 0 then ci.1 else -ci.1).sum
def absR (x : Rat) : Rat := if x < 0 then -x else x
/-- the quadrature-mirror identities of a scaling filter normalised to `Σ c = 2`, within `eps`:
    `Σ c_k = 2`, `Σ (−1)^k c_k = 0`, `Σ_k c_k c_{k+2s} = 2·δ_{s,0}` for every even lag `2s`. -/
def qmfWithin (eps : Rat) (t : List (Int × Nat)) : Bool :=
  let c := t.map toRat
  decide (absR (c.sum - 2) ≤ eps) && decide (absR (altSum c) ≤ eps) &&
  (List.range (c.length / 2)).all fun s => decide (absR (dot c s - (if s = 0 then 2 else 0)) ≤ eps)

/-- proved reconstruction tolerances of the ten generated tables `D2 … D20` (relative to `max|f|`, exact
    arithmetic), see `C17_tables_error_bound`: each entry is `2d + d²` rounded up, `d = errConst` of the table
    (`tables_consts`), not a measured tolerance -/
def tableTol : List Rat :=
  [0, 13 / 100000000, 19 / 100000000, 250 / 100000000, 17 / 100000000, 7 / 100000000, 81 / 100000000,
   15 / 100000000, 7 / 100000000, 11 / 100000000]

/-- the inner product of two `N0 × N1` images -/
def inner2 {K : Type} [Field K] (N0 N1 : Nat) (u v : Im K) : K :=
  sumTo N0 (fun y => sumTo N1 (fun x => u y x * v y x))

theorem inner2_eq_sum {K : Type} [Field K] (N0 N1 : Nat) (u v : Im K) :
    inner2 N0 N1 u v = ∑ y ∈ Finset.range N0, ∑ x ∈ Finset.range N1, u y x * v y x := by
  unfold inner2
  rw [sumTo_eq_sum]
  exact Finset.sum_congr rfl fun y _ => sumTo_eq_sum _ _

theorem energy_eq_inner2 {K : Type} [Field K] (N0 N1 : Nat) (u : Im K) : energy N0 N1 u = inner2 N0 N1 u u := by
  unfold energy inner2
  simp only [sq]

end Mahotas.C17

open Mahotas Mahotas.C17

open Mahotas.C17.Mem in
/-- **C17 (Haar round trip, every length).** On a row of ANY length `N` (odd included) `ihaar(haar(row))` returns the
first `2⌊N/2⌋` samples unchanged and `0` in every later slot: for odd `N` the last sample is lost (the C loops run to
`N/2`, the last slot of the scratch buffer keeps `T()`). Over any field with `2 ≠ 0`. -/
theorem C17_ihaar_haar_row_any {K : Type} [Field K] (h2 : (2 : K) ≠ 0) (N : Nat) (f : Nat → K) (k : Nat) :
    ihaarRow N (haarRow N f) k = if k < 2 * (N / 2) then f k else 0 := by
  unfold ihaarRow
  by_cases h1 : k < 2 * (N / 2)
  · have h3 : k / 2 < N / 2 := Nat.div_lt_of_lt_mul h1
    simp only [h1, if_true]
    rw [haarRow_low N f _ h3, haarRow_high N f _ h3, two_eq]
    rcases Nat.mod_two_eq_zero_or_one k with hk | hk
    · have e : 2 * (k / 2) = k := Nat.mul_div_cancel' (Nat.dvd_of_mod_eq_zero hk)
      rw [if_pos hk, e, div_eq_iff h2]
      ring
    · have e : 2 * (k / 2) + 1 = k := by rw [← hk]; exact Nat.div_add_mod k 2
      rw [if_neg (by omega), e, div_eq_iff h2]
      ring
  · simp only [h1, if_false, zero_eq]

/-- **C17 (Haar round trip, every shape, core model).** For every shape, `preserve_energy` on or off, the core model of
`ihaar(haar(f))` returns `f` on `[0, 2⌊N0/2⌋) × [0, 2⌊N1/2⌋)` and `0` elsewhere — the last row and the last column of
an odd side are lost, everything else is reconstructed. (That the C kernels follow the core model on every layout:
`C17_mem_is_core_every_shape`.) -/
theorem C17_ihaar_haar_any {K : Type} [Field K] (h2 : (2 : K) ≠ 0) (pe : Bool) (N0 N1 : Nat) (f : Im K)
    (y x : Nat) :
    ihaar2 pe N0 N1 (haar2 pe N0 N1 f) y x = if y < 2 * (N0 / 2) ∧ x < 2 * (N1 / 2) then f y x else 0 := by
  -- without the scalings: the row pass of `ihaar` moves inside the column pass of `haar`, then two row round trips
  have core : colsPass ihaarRow N0 (rowsPass ihaarRow N1 (colsPass haarRow N0 (rowsPass haarRow N1 f))) y x
      = if y < 2 * (N0 / 2) ∧ x < 2 * (N1 / 2) then f y x else 0 := by
    rw [rows_cols_comm_haar ihaarRow ihaarRow_linear]
    simp only [colsPass, rowsPass, C17_ihaar_haar_row_any h2, ← ite_and]
  cases pe with
  | false => exact core
  | true =>
    have scale : ∀ g : Im K, colsPass ihaarRow N0 (rowsPass ihaarRow N1 (fun y x => g y x / 2)) y x
        = colsPass ihaarRow N0 (rowsPass ihaarRow N1 g) y x / 2 := by
      intro g
      simp only [colsPass, rowsPass, scale_of_linear ihaarRow ihaarRow_linear]
    simp only [ihaar2, haar2, if_true, two_eq]
    rw [scale, core]
    exact div_mul_cancel₀ _ h2

/-- **C17-T1 (row).** On every row of even length `ihaar` undoes `haar`, over any field in which `2 ≠ 0`. -/
theorem C17_ihaar_haar_row {K : Type} [Field K] (h2 : (2 : K) ≠ 0) (N : Nat) (hN : N % 2 = 0)
    (f : Nat → K) (k : Nat) (hk : k < N) : ihaarRow N (haarRow N f) k = f k :=
  by rw [C17_ihaar_haar_row_any h2 N f k, if_pos (by omega)]

/-- **C17-T1.** For every 2-D image with even sides `ihaar(haar(f)) = f`, with `preserve_energy` on or
off (the same flag in both calls): the model of `convolve.ihaar` (rows, columns through the transposed
view, `*2`) applied to the model of `convolve.haar` (rows, columns, `/2`) returns `f` at every pixel. -/
theorem C17_ihaar_haar {K : Type} [Field K] (h2 : (2 : K) ≠ 0) (pe : Bool) (N0 N1 : Nat)
    (h0 : N0 % 2 = 0) (h1 : N1 % 2 = 0) (f : Im K) (y x : Nat) (hy : y < N0) (hx : x < N1) :
    ihaar2 pe N0 N1 (haar2 pe N0 N1 f) y x = f y x := by
  rw [C17_ihaar_haar_any h2 pe N0 N1 f y x, if_pos ⟨by omega, by omega⟩]

/-- **C17-T2 (`haar_is_orthogonal`).** The energy-preserving Haar transform preserves the inner product of any two
images with even sides: `⟨haar f, haar g⟩ = ⟨f, g⟩` (`inner2`, the sum of the pixelwise products) — its matrix `T`
satisfies `TᵀT = I`, it is an orthogonal matrix. (Each row pass and each column pass doubles the inner
product, `haarRow_inner`; the final halving divides it by four. `C17_haar_energy` is the case `g = f`.) -/
theorem C17_haar_is_orthogonal {K : Type} [Field K] (h2 : (2 : K) ≠ 0) (N0 N1 : Nat)
    (h0 : N0 % 2 = 0) (h1 : N1 % 2 = 0) (f g : Im K) :
    inner2 N0 N1 (haar2 true N0 N1 f) (haar2 true N0 N1 g) = inner2 N0 N1 f g := by
  have rows : ∀ u v : Im K, inner2 N0 N1 (rowsPass haarRow N1 u) (rowsPass haarRow N1 v) = 2 * inner2 N0 N1 u v := by
    intro u v
    simp only [inner2_eq_sum, Finset.mul_sum (Finset.range N0)]
    exact Finset.sum_congr rfl fun y _ => haarRow_inner N1 h1 (u y) (v y)
  have cols : ∀ u v : Im K, inner2 N0 N1 (colsPass haarRow N0 u) (colsPass haarRow N0 v) = 2 * inner2 N0 N1 u v := by
    intro u v
    simp only [inner2_eq_sum]
    rw [Finset.sum_comm, Finset.sum_comm (f := fun y x => u y x * v y x), Finset.mul_sum]
    exact Finset.sum_congr rfl fun x _ => haarRow_inner N0 h0 (fun k => u k x) (fun k => v k x)
  have half : ∀ u v : Im K, inner2 N0 N1 (fun y x => u y x / 2) (fun y x => v y x / 2)
      = (1 / 2) ^ 2 * inner2 N0 N1 u v := by
    intro u v
    simp only [inner2_eq_sum, Finset.mul_sum]
    exact Finset.sum_congr rfl fun y _ => Finset.sum_congr rfl fun x _ => by ring
  simp only [haar2, if_true, two_eq]
  rw [half, cols, rows]
  field_simp

/-- non-vacuity: two concrete 2×2 images over ℚ with a non-zero inner product, before and after the transform -/
example : inner2 2 2 (fun y x => ((3 * y + x + 1 : Nat) : Rat)) (fun y x => ((y + 2 * x : Nat) : Rat)) = 23 ∧
    inner2 2 2 (haar2 true 2 2 (fun y x => ((3 * y + x + 1 : Nat) : Rat)))
      (haar2 true 2 2 (fun y x => ((y + 2 * x : Nat) : Rat))) = 23 := by
  decide +kernel

/-- **C17-T2.** The energy-preserving Haar transform conserves the sum of squares of every image with
even sides. -/
theorem C17_haar_energy {K : Type} [Field K] (h2 : (2 : K) ≠ 0) (N0 N1 : Nat)
    (h0 : N0 % 2 = 0) (h1 : N1 % 2 = 0) (f : Im K) :
    energy N0 N1 (haar2 true N0 N1 f) = energy N0 N1 f := by
  rw [energy_eq_inner2, energy_eq_inner2, C17_haar_is_orthogonal h2 N0 N1 h0 h1]

/-- **C17-T3.** `D2` coincides with the unnormalised Haar transform: the Daubechies model run with the
table the translator extracted for code 0 (`D2 = {1, 1}`) is, as a function, the Haar model with
`preserve_energy=False` — for every shape (even or odd) and every image. -/
theorem C17_d2_is_haar {K : Type} [Field K] (N0 N1 : Nat) (f : Im K) :
    daubechies2 (coeffsOf 0 : List K) N0 N1 f = haar2 false N0 N1 f := by
  have cs : (coeffsOf 0 : List K) = [1, 1] := by
    simp [coeffsOf, Generated.dcoeffs, Generated.D2, coef]
  simp only [daubechies2, haar2, cs, waveletRow_one_one]
  rfl

/-- **C17-T4 (Haar).** `haar` is linear in the image, with either normalisation. -/
theorem C17_linear_haar {K : Type} [Field K] (pe : Bool) (N0 N1 : Nat) (a b : K) (f g : Im K) (y x : Nat) :
    haar2 pe N0 N1 (fun y x => a * f y x + b * g y x) y x
      = a * haar2 pe N0 N1 f y x + b * haar2 pe N0 N1 g y x := by
  unfold haar2
  rw [rowsPass_linear haarRow haarRow_linear, colsPass_linear haarRow haarRow_linear]
  cases pe
  · simp
  · simp; ring

/-- **C17-T4 (inverse Haar).** `ihaar` is linear in the image. -/
theorem C17_linear_ihaar {K : Type} [Field K] (pe : Bool) (N0 N1 : Nat) (a b : K) (f g : Im K) (y x : Nat) :
    ihaar2 pe N0 N1 (fun y x => a * f y x + b * g y x) y x
      = a * ihaar2 pe N0 N1 f y x + b * ihaar2 pe N0 N1 g y x := by
  unfold ihaar2
  rw [rowsPass_linear ihaarRow ihaarRow_linear, colsPass_linear ihaarRow ihaarRow_linear]
  cases pe
  · simp
  · simp; ring

/-- **C17-T4 (Daubechies).** `daubechies` is linear in the image, for every coefficient list
(in particular for each of the ten generated tables). -/
theorem C17_linear_daubechies {K : Type} [Field K] (cs : List K) (N0 N1 : Nat) (a b : K) (f g : Im K)
    (y x : Nat) :
    daubechies2 cs N0 N1 (fun y x => a * f y x + b * g y x) y x
      = a * daubechies2 cs N0 N1 f y x + b * daubechies2 cs N0 N1 g y x := by
  unfold daubechies2
  rw [rowsPass_linear (waveletRow cs) (waveletRow_linear cs),
    colsPass_linear (waveletRow cs) (waveletRow_linear cs)]

/-- **C17-T4 (inverse Daubechies).** `idaubechies` is linear in the image. -/
theorem C17_linear_idaubechies {K : Type} [Field K] (cs : List K) (N0 N1 : Nat) (a b : K) (f g : Im K)
    (y x : Nat) :
    idaubechies2 cs N0 N1 (fun y x => a * f y x + b * g y x) y x
      = a * idaubechies2 cs N0 N1 f y x + b * idaubechies2 cs N0 N1 g y x := by
  unfold idaubechies2
  rw [colsPass_linear (iwaveletRow cs) (iwaveletRow_linear cs),
    rowsPass_linear (iwaveletRow cs) (iwaveletRow_linear cs)]

/-- **C17-T5.** `wavelet_decenter` undoes `wavelet_center` exactly: slicing the embedded image at the
offsets at which it was embedded returns every pixel of `f`, whatever the border value. -/
theorem C17_decenter_center {α : Type} (N0 N1 d0 d1 : Nat) (cval : α) (f : Im α) (y x : Nat)
    (hy : y < N0) (hx : x < N1) : decenter d0 d1 (center N0 N1 d0 d1 cval f) y x = f y x := by
  have c : d0 ≤ y + d0 ∧ y + d0 < d0 + N0 ∧ d1 ≤ x + d1 ∧ x + d1 < d1 + N1 := by omega
  simp [decenter, center, c]

/-- **C17-T6 (`pr_exact`: rows, EVERY even number of coefficients).** For every coefficient list with an even number
`n ≥ 2` of entries that satisfies the quadrature-mirror identities `Σ_k c_k c_{k+2s} = 2·δ_s` (`s < n/2`) exactly, over every field with
`2 ≠ 0`, the model of `iwavelet` applied to the model of `wavelet` returns every sample of every even-length row at
the positions `x ≥ n − 2` — for every row content. (Proof: `rowIdentity_general`, `Proofs/C17General.lean`: closed
forms of the two kernels as finite sums, `2·iw(w f)[x] = Σ_{a ≡ b (2)} c_a c_b f[x + a − b]` — the mixed-parity
products cancel termwise —, regrouped by the lag `a − b`.) -/
theorem C17_pr_exact_row_general {K : Type} [Field K] (h2 : (2 : K) ≠ 0) (cs : List K)
    (heven : cs.length % 2 = 0) (hpos : 2 ≤ cs.length) (hq : qmfExact cs) (N : Nat) (hN : N % 2 = 0)
    (f : Nat → K) (x : Nat) (hx : cs.length ≤ x + 2) (hxN : x < N) :
    iwaveletRow cs N (waveletRow cs N f) x = f x := by
  rw [rowIdentity_general h2 cs heven hpos N hN f x hx hxN, errRow_eq_zero cs heven hpos hq, add_zero]

/-- **C17-T6 (`pr_exact`, images, every even number of coefficients).** With exactly quadrature-mirror
coefficients of any even length `n ≥ 2`, `idaubechies(daubechies(f))` returns `f` at every pixel `(y, x)` with
`y, x ≥ n − 2` of every image with even sides. -/
theorem C17_pr_exact_general {K : Type} [Field K] (h2 : (2 : K) ≠ 0) (cs : List K)
    (heven : cs.length % 2 = 0) (hpos : 2 ≤ cs.length) (hq : qmfExact cs) (N0 N1 : Nat)
    (h0 : N0 % 2 = 0) (h1 : N1 % 2 = 0) (f : Im K) (y x : Nat)
    (hy : cs.length ≤ y + 2) (hyN : y < N0) (hx : cs.length ≤ x + 2) (hxN : x < N1) :
    idaubechies2 cs N0 N1 (daubechies2 cs N0 N1 f) y x = f y x := by
  rw [round_trip_2d cs (rowIdentity_general h2 cs heven hpos) N0 N1 h0 h1 f y x hy hyN hx hxN]
  simp only [errRow_eq_zero cs heven hpos hq, add_zero]

/-- **C17-T6 (reconstruction after `wavelet_center`, every even number of coefficients).** If the image is embedded at
offsets `d0, d1 ≥ n − 2` into an even-sided image, `wavelet_decenter(idaubechies(daubechies(wavelet_center(f))))` is `f`
at every pixel, for exactly quadrature-mirror coefficients of any even length `n ≥ 2`, whatever the fill value. -/
theorem C17_reconstruction_centered_general {K : Type} [Field K] (h2 : (2 : K) ≠ 0) (cs : List K)
    (heven : cs.length % 2 = 0) (hpos : 2 ≤ cs.length) (hq : qmfExact cs) (N0 N1 d0 d1 M0 M1 : Nat) (cval : K)
    (hM0 : M0 % 2 = 0) (hM1 : M1 % 2 = 0) (hd0 : cs.length ≤ d0 + 2) (hd1 : cs.length ≤ d1 + 2)
    (hf0 : d0 + N0 ≤ M0) (hf1 : d1 + N1 ≤ M1) (f : Im K) (y x : Nat) (hy : y < N0) (hx : x < N1) :
    decenter d0 d1 (idaubechies2 cs M0 M1 (daubechies2 cs M0 M1 (center N0 N1 d0 d1 cval f))) y x = f y x := by
  show idaubechies2 cs M0 M1 (daubechies2 cs M0 M1 (center N0 N1 d0 d1 cval f)) (y + d0) (x + d1) = f y x
  rw [C17_pr_exact_general h2 cs heven hpos hq M0 M1 hM0 hM1 _ (y + d0) (x + d1)
    (by omega) (by omega) (by omega) (by omega)]
  exact C17_decenter_center N0 N1 d0 d1 cval f y x hy hx

/-- **C17-T6 (reconstruction error, rows, every even number of coefficients).** For **every** coefficient list
with an even number `n ≥ 2` of entries and no other hypothesis, `iwavelet(wavelet f)[x] = f[x] + errRow cs N f x` at
every `x ≥ n − 2`, `errRow` linear in the residuals of the quadrature-mirror identities; hence
`|iwavelet(wavelet f)[x] − f[x]| ≤ errConst cs · M`, and `≤ (n − 1)/2 · ε · M` when the identities hold within `ε`. -/
theorem C17_reconstruction_error_bound_row_general {K : Type} [Field K] [LinearOrder K] [IsStrictOrderedRing K]
    (cs : List K) (heven : cs.length % 2 = 0) (hpos : 2 ≤ cs.length) (N : Nat) (hN : N % 2 = 0)
    (f : Nat → K) (M : K) (hM : 0 ≤ M) (hf : ∀ p, p < N → |f p| ≤ M) (x : Nat) (hx : cs.length ≤ x + 2)
    (hxN : x < N) :
    iwaveletRow cs N (waveletRow cs N f) x = f x + errRow cs N f x ∧
    |iwaveletRow cs N (waveletRow cs N f) x - f x| ≤ errConst cs * M ∧
    (∀ eps : K, (∀ s, s < cs.length / 2 → |resid cs s| ≤ eps) →
      |iwaveletRow cs N (waveletRow cs N f) x - f x| ≤ ((cs.length - 1 : Nat) : K) / 2 * eps * M) := by
  have hid := rowIdentity_general (two_ne_zero) cs heven hpos N hN f x hx hxN
  have hb : |iwaveletRow cs N (waveletRow cs N f) x - f x| ≤ errConst cs * M := by
    rw [hid, add_sub_cancel_left]
    exact abs_errRow_le cs N f M hM hf x
  refine ⟨hid, hb, ?_⟩
  intro eps heps
  exact le_trans hb (mul_le_mul_of_nonneg_right (errConst_le cs heven eps heps) hM)

/-- **C17-T6 (`reconstruction_error_bound`, images, every even number of coefficients).** For every coefficient list
with an even number `n ≥ 2` of entries:
`|idaubechies(daubechies f) y x − f y x| ≤ (2d + d²)·M` with `d = errConst cs`, and with `d = (n − 1)/2·ε` when the
quadrature-mirror identities hold within `ε`, at every pixel with `y, x ≥ n − 2` of every even-sided image with
`|f| ≤ M`, over every ordered field. -/
theorem C17_reconstruction_error_bound_general {K : Type} [Field K] [LinearOrder K] [IsStrictOrderedRing K]
    (cs : List K) (heven : cs.length % 2 = 0) (hpos : 2 ≤ cs.length) (N0 N1 : Nat) (h0 : N0 % 2 = 0)
    (h1 : N1 % 2 = 0) (f : Im K) (M : K) (hM : 0 ≤ M) (hf : ∀ y x, y < N0 → x < N1 → |f y x| ≤ M)
    (y x : Nat) (hy : cs.length ≤ y + 2) (hyN : y < N0) (hx : cs.length ≤ x + 2) (hxN : x < N1) :
    |idaubechies2 cs N0 N1 (daubechies2 cs N0 N1 f) y x - f y x|
        ≤ (2 * errConst cs + errConst cs ^ 2) * M ∧
    (∀ eps : K, (∀ s, s < cs.length / 2 → |resid cs s| ≤ eps) →
      |idaubechies2 cs N0 N1 (daubechies2 cs N0 N1 f) y x - f y x|
        ≤ (2 * (((cs.length - 1 : Nat) : K) / 2 * eps) + (((cs.length - 1 : Nat) : K) / 2 * eps) ^ 2) * M) := by
  have hb := abs_round_trip_2d_le cs (rowIdentity_general (two_ne_zero) cs heven hpos) N0 N1 h0 h1 f M hM hf
    y x hy hyN hx hxN
  exact ⟨hb, fun eps heps => le_trans hb (mul_le_mul_of_nonneg_right
    (two_mul_add_sq_le (errConst_nonneg cs) (errConst_le cs heven eps heps)) hM)⟩

/-- **C17-T6 (`pr_exact`, rows).** For every filter length 4, 6, …, 20 (the lengths of `D4 … D20`) and every
coefficient list satisfying the quadrature-mirror identities `Σ_k c_k c_{k+2s} = 2·δ_s` *exactly*, the model of
`iwavelet` applied to the model of `wavelet` returns every sample of an even-length row at the positions
`x ≥ ncoeffs − 2` — for **every** row content (no support hypothesis). The bound is forced by the code: it reads
zeros outside `[0,N)`, so analysis coefficients of negative index do not exist, and its truncating `xmap2/2`
adds a spurious tap below `ncoeffs − 2`. -/
theorem C17_pr_exact_row {K : Type} [Field K] (h2 : (2 : K) ≠ 0) (cs : List K) (hl : cs.length ∈ prLengths)
    (hq : qmfExact cs) (N : Nat) (hN : N % 2 = 0) (f : Nat → K) (x : Nat) (hx : cs.length ≤ x + 2)
    (hxN : x < N) : iwaveletRow cs N (waveletRow cs N f) x = f x :=
  pr_list h2 cs hl hq N hN f x hx hxN

/-- **C17-T6 (`pr_exact`, images).** With exactly quadrature-mirror coefficients of length 4 … 20,
`idaubechies(daubechies(f))` (rows then columns; columns then rows) returns `f` at every pixel `(y, x)` with
`y, x ≥ ncoeffs − 2` of every image with even sides. -/
theorem C17_pr_exact {K : Type} [Field K] (h2 : (2 : K) ≠ 0) (cs : List K) (hl : cs.length ∈ prLengths)
    (hq : qmfExact cs) (N0 N1 : Nat) (h0 : N0 % 2 = 0) (h1 : N1 % 2 = 0) (f : Im K) (y x : Nat)
    (hy : cs.length ≤ y + 2) (hyN : y < N0) (hx : cs.length ≤ x + 2) (hxN : x < N1) :
    idaubechies2 cs N0 N1 (daubechies2 cs N0 N1 f) y x = f y x :=
  C17_pr_exact_general h2 cs (even_of_mem_prLengths hl).1 (even_of_mem_prLengths hl).2 hq N0 N1 h0 h1 f y x
    hy hyN hx hxN

/-- **C17-T6 (reconstruction after `wavelet_center`).** If the image is embedded at offsets
`d0, d1 ≥ ncoeffs − 2` (what `wavelet_center(border ≥ ncoeffs − 3)` guarantees by `C17_center_margin`) into an
even-sided image, then `wavelet_decenter(idaubechies(daubechies(wavelet_center(f))))` is `f` at every pixel,
for exactly quadrature-mirror coefficients, whatever the fill value. The float32 tables satisfy the identities only
approximately (`C17_tables_qmf_eps`); for them "equal up to rounding" is `C17_tables_rounded_bound`, the bound
`(tableTol[code] + tableRoundTol[code])·max|f|` at which the correspondence run checks. -/
theorem C17_reconstruction_centered {K : Type} [Field K] (h2 : (2 : K) ≠ 0) (cs : List K)
    (hl : cs.length ∈ prLengths) (hq : qmfExact cs) (N0 N1 d0 d1 M0 M1 : Nat) (cval : K)
    (hM0 : M0 % 2 = 0) (hM1 : M1 % 2 = 0) (hd0 : cs.length ≤ d0 + 2) (hd1 : cs.length ≤ d1 + 2)
    (hf0 : d0 + N0 ≤ M0) (hf1 : d1 + N1 ≤ M1) (f : Im K) (y x : Nat) (hy : y < N0) (hx : x < N1) :
    decenter d0 d1 (idaubechies2 cs M0 M1 (daubechies2 cs M0 M1 (center N0 N1 d0 d1 cval f))) y x = f y x :=
  C17_reconstruction_centered_general h2 cs (even_of_mem_prLengths hl).1 (even_of_mem_prLengths hl).2 hq
    N0 N1 d0 d1 M0 M1 cval hM0 hM1 hd0 hd1 hf0 hf1 f y x hy hx

/-- **C17-T5 (the embedding leaves the requested margin).** Whatever `_wavelet_center_compute` returns (`border ≥ 0`),
the new side lengths are powers of two `2^(⌊log₂ o⌋ + c)` with one common `c ≥ 1`, the offsets are
`(new − old)/2`, and every offset exceeds the requested `border` — so at least `border + 1` samples of
`cval` precede the data on every axis (the margin the Daubechies reconstruction needs is `ncoeffs − 2`). -/
theorem C17_center_margin (oshape : List Nat) (border : Nat) (ns d : List Nat)
    (h : centerCompute oshape border = some (ns, d)) :
    (∀ x ∈ d, border < x) ∧
    ∃ c, 1 ≤ c ∧ ns = oshape.map (fun o => 2 ^ (Nat.log2 o + c)) ∧
      d = (ns.zip oshape).map (fun no => (no.1 - no.2) / 2) := by
  unfold centerCompute at h
  obtain ⟨a, ha, hf⟩ := List.exists_of_findSome?_eq_some h
  simp only [List.mem_map, List.mem_range] at ha
  obtain ⟨i, _, rfl⟩ := ha
  simp only at hf
  split at hf
  · rename_i hall
    simp only [Option.some.injEq, Prod.mk.injEq] at hf
    obtain ⟨rfl, rfl⟩ := hf
    refine ⟨?_, i + 1, by omega, rfl, rfl⟩
    intro x hx
    have := List.all_eq_true.mp hall x hx
    simpa using this
  · cases hf

/-- **C17-T3/T6 (tables).** The table extracted for `D2` is exactly `(1, 1)`. -/
theorem C17_D2_exact : Generated.D2.map toRat = [1, 1] := by decide +kernel

/-- **C17-T6 (tables).** Every generated table `D2 … D20` (the float32 values the compiler stores)
satisfies the quadrature-mirror identities `Σ c = 2`, `Σ (−1)^k c_k = 0`, `Σ_k c_k c_{k+2s} = 2 δ_s`
within `3·10⁻⁶`, by exact rational arithmetic; there are ten tables and table `i` has `2(i+1)` entries
(`ncoeffs = 2*(code+1)`). -/
theorem C17_tables_qmf_eps :
    Generated.dcoeffs.all (qmfWithin (3 / 1000000)) = true ∧
    Generated.dcoeffs.map List.length = (List.range 10).map (fun i => 2 * (i + 1)) := by
  constructor <;> decide +kernel

/-- non-vacuity: a concrete 2×2 image over ℚ, transformed and recovered -/
example : haar2 true 2 2 (fun y x => ((3 * y + x + 1 : Nat) : Rat)) 0 0 = 6 ∧
    ihaar2 true 2 2 (haar2 true 2 2 (fun y x => ((3 * y + x + 1 : Nat) : Rat))) 1 0 = 4 := by
  decide +kernel

/-- non-vacuity of `C17_pr_exact`: a rational four-tap filter with the identities exactly
(`cos t = 3/5`, `sin t = 4/5` in the D4 family) -/
example : qmfExact ([3 / 5, 6 / 5, 2 / 5, -1 / 5] : List Rat) ∧
    ([3 / 5, 6 / 5, 2 / 5, -1 / 5] : List Rat).length ∈ prLengths := by
  constructor
  · unfold qmfExact
    decide +kernel
  · decide

/-- **C17-T6 (reconstruction error, rows).** For every filter length 2, 4, …, 20 and **every** coefficient list
of that length (no hypothesis on the coefficients), over every ordered field: at every position
`x ≥ ncoeffs − 2` of an even-length row the model of `iwavelet` applied to the model of `wavelet` returns
`f x + errRow cs N f x`, where `errRow = ½ Σ_{j<n−1} resid(|j − (n/2−1)|) · f[x − (n−2) + 2j]` (zero outside the
row) is *linear in the residuals* `resid cs s = Σ_k c_k c_{k+2s} − 2δ_s` of the quadrature-mirror identities.
Over an ordered field, if `|f| ≤ M` on the row then `|iwavelet(wavelet f) x − f x| ≤ errConst cs · M` with
`errConst cs = ½ Σ_{j<n−1} |resid(|j − (n/2−1)|)|`, and if every identity holds within `ε` then
`errConst cs ≤ (n − 1)/2 · ε`. (`C17_pr_exact_row` is the case `ε = 0`.) -/
theorem C17_reconstruction_error_bound_row {K : Type} [Field K] [LinearOrder K] [IsStrictOrderedRing K]
    (cs : List K) (hl : cs.length ∈ errLengths) (N : Nat) (hN : N % 2 = 0) (f : Nat → K) (M : K) (hM : 0 ≤ M)
    (hf : ∀ p, p < N → |f p| ≤ M) (x : Nat) (hx : cs.length ≤ x + 2) (hxN : x < N) :
    iwaveletRow cs N (waveletRow cs N f) x = f x + errRow cs N f x ∧
    |iwaveletRow cs N (waveletRow cs N f) x - f x| ≤ errConst cs * M ∧
    (∀ eps : K, (∀ s, s < cs.length / 2 → |resid cs s| ≤ eps) →
      |iwaveletRow cs N (waveletRow cs N f) x - f x| ≤ ((cs.length - 1 : Nat) : K) / 2 * eps * M) :=
  C17_reconstruction_error_bound_row_general cs (even_of_mem_errLengths hl).1 (even_of_mem_errLengths hl).2
    N hN f M hM hf x hx hxN

/-- **C17-T6 (`reconstruction_error_bound`, images).** For every filter length 2, 4, …, 20, every coefficient
list `cs` of that length whose quadrature-mirror identities `Σ_k c_k c_{k+2s} = 2δ_s` hold within `ε`
(`|resid cs s| ≤ ε` for `s < n/2`; for the generated float32 tables `C17_tables_error_bound` evaluates `errConst`
itself, `tables_consts`), every image with even sides and `|f| ≤ M`, over every ordered field: at every pixel `(y, x)`
with `y, x ≥ ncoeffs − 2`

`|idaubechies(daubechies f) y x − f y x| ≤ (2d + d²)·M`, `d = (n − 1)/2 · ε`,

i.e. `C(n)·ε·M` with the explicit constant `C(n) = (n − 1)·(1 + (n − 1)ε/4)` (rows then columns: the column
error `≤ dM`, then the row error of a row bounded by `(1 + d)M`). The sharper `d = errConst cs` (the actual
residuals instead of `ε`) is the first conjunct. -/
theorem C17_reconstruction_error_bound {K : Type} [Field K] [LinearOrder K] [IsStrictOrderedRing K]
    (cs : List K) (hl : cs.length ∈ errLengths) (N0 N1 : Nat) (h0 : N0 % 2 = 0) (h1 : N1 % 2 = 0)
    (f : Im K) (M : K) (hM : 0 ≤ M) (hf : ∀ y x, y < N0 → x < N1 → |f y x| ≤ M)
    (y x : Nat) (hy : cs.length ≤ y + 2) (hyN : y < N0) (hx : cs.length ≤ x + 2) (hxN : x < N1) :
    |idaubechies2 cs N0 N1 (daubechies2 cs N0 N1 f) y x - f y x|
        ≤ (2 * errConst cs + errConst cs ^ 2) * M ∧
    (∀ eps : K, (∀ s, s < cs.length / 2 → |resid cs s| ≤ eps) →
      |idaubechies2 cs N0 N1 (daubechies2 cs N0 N1 f) y x - f y x|
        ≤ (2 * (((cs.length - 1 : Nat) : K) / 2 * eps) + (((cs.length - 1 : Nat) : K) / 2 * eps) ^ 2) * M) :=
  C17_reconstruction_error_bound_general cs (even_of_mem_errLengths hl).1 (even_of_mem_errLengths hl).2
    N0 N1 h0 h1 f M hM hf y x hy hyN hx hxN

/-- the constants of the generated tables, by exact rational arithmetic: table `code` has `2(code+1)` entries and
    `2d + d² ≤ tableTol[code]` for its row constant `d = errConst` -/
theorem Mahotas.C17.tables_consts :
    (List.range 10).all (fun code =>
      decide ((coeffsOf code : List ℚ).length = 2 * (code + 1)) &&
      decide (2 * errConst (coeffsOf code : List ℚ) + errConst (coeffsOf code : List ℚ) ^ 2
        ≤ tableTol.getD code 0)) = true := by decide +kernel

/-- the same over any ordered field: the table is the cast of the rational table, and so is its error constant
    (`Proofs/C17Cast.lean`) -/
theorem Mahotas.C17.tables_consts_field {K : Type} [Field K] [LinearOrder K] [IsStrictOrderedRing K] (code : Nat)
    (hc : code < 10) :
    (coeffsOf code : List K).length = 2 * (code + 1) ∧
    2 * errConst (coeffsOf code : List K) + errConst (coeffsOf code : List K) ^ 2
      ≤ ((tableTol.getD code 0 : ℚ) : K) := by
  have h := List.all_eq_true.mp tables_consts code (List.mem_range.mpr hc)
  simp only [Bool.and_eq_true, decide_eq_true_eq] at h
  rw [coeffsOf_cast, List.length_map, errConst_cast]
  exact ⟨h.1, by exact_mod_cast (Rat.cast_le (K := K)).mpr h.2⟩

/-- **C17-T6 (proved tolerance of the ten generated tables, any ordered field).** Over EVERY linearly ordered field `K`
(ℝ included), not only ℚ: the table `coeffsOf code : List K` is the cast of the
rational table, its residuals and error constant are the casts of the rational ones (`Proofs/C17Cast.lean`), so the
constants decided over ℚ carry over: `|idaubechies(daubechies f) y x − f y x| ≤ tableTol[code]·M` at every pixel with
`y, x ≥ ncoeffs − 2` of every even-sided image with `|f| ≤ M`. -/
theorem C17_tables_error_bound_field {K : Type} [Field K] [LinearOrder K] [IsStrictOrderedRing K]
    (code : Nat) (hc : code < 10) (N0 N1 : Nat) (h0 : N0 % 2 = 0) (h1 : N1 % 2 = 0)
    (f : Im K) (M : K) (hM : 0 ≤ M) (hf : ∀ y x, y < N0 → x < N1 → |f y x| ≤ M)
    (y x : Nat) (hy : 2 * (code + 1) ≤ y + 2) (hyN : y < N0) (hx : 2 * (code + 1) ≤ x + 2) (hxN : x < N1) :
    |idaubechies2 (coeffsOf code) N0 N1 (daubechies2 (coeffsOf code) N0 N1 f) y x - f y x|
      ≤ ((tableTol.getD code 0 : ℚ) : K) * M := by
  obtain ⟨hlen, htol⟩ := tables_consts_field (K := K) code hc
  rw [← hlen] at hy hx
  exact le_trans (C17_reconstruction_error_bound_general (coeffsOf code : List K) (by omega) (by omega)
    N0 N1 h0 h1 f M hM hf y x hy hyN hx hxN).1 (mul_le_mul_of_nonneg_right htol hM)

/-- **C17-T6 (proved tolerance of the ten generated tables).** For each of the ten tables `D2 … D20` the
translator extracts (the float32 values the compiler stores, as exact rationals), in exact (rational) arithmetic:
for every image with even sides and `|f| ≤ M`, at every pixel `(y, x)` with `y, x ≥ ncoeffs − 2`,
`|idaubechies(daubechies f) y x − f y x| ≤ tableTol[code]·M` with
`tableTol = (0, 1.3e-7, 1.9e-7, 2.5e-6, 1.7e-7, 7e-8, 8.1e-7, 1.5e-7, 7e-8, 1.1e-7)` — the instance of
`C17_reconstruction_error_bound_general` at the tables' actual residuals (`decide +kernel` over ℚ). Every floating-point
image is a rational image, so this covers every input of the correspondence run; what it does not cover is the
rounding of the floating-point evaluation itself (`C17_tables_rounded_bound`; the run adds `tableRoundTol[code]`). -/
theorem C17_tables_error_bound (code : Nat) (hc : code < 10) (N0 N1 : Nat) (h0 : N0 % 2 = 0) (h1 : N1 % 2 = 0)
    (f : Im ℚ) (M : ℚ) (hM : 0 ≤ M) (hf : ∀ y x, y < N0 → x < N1 → |f y x| ≤ M)
    (y x : Nat) (hy : 2 * (code + 1) ≤ y + 2) (hyN : y < N0) (hx : 2 * (code + 1) ≤ x + 2) (hxN : x < N1) :
    |idaubechies2 (coeffsOf code) N0 N1 (daubechies2 (coeffsOf code) N0 N1 f) y x - f y x|
      ≤ tableTol.getD code 0 * M := by
  have := C17_tables_error_bound_field (K := ℚ) code hc N0 N1 h0 h1 f M hM hf y x hy hyN hx hxN
  rwa [Rat.cast_id] at this

/-- **C17-T7 (`inline_only`).** In the wrapper model (`wrapCall`: `_as_floating_point_array`, then
`_wavelet_array`'s `if not inline: return f.copy()`, then the in-place kernels) every wrapper returns the
transform of its input, and the caller's array is written only when `inline=True` **and** the array is
floating point — then it holds the result (it *is* the returned array); in every other case it is unchanged
(integer input is always converted and copied, `inline=False` always copies). -/
theorem C17_inline_only {α : Type} (T : Im α → Im α) (isFloat inline : Bool) (f : Im α) :
    (wrapCall T isFloat inline f).2 = T f ∧
    (wrapTarget isFloat inline = .input ↔ (inline = true ∧ isFloat = true)) ∧
    (¬ (inline = true ∧ isFloat = true) → (wrapCall T isFloat inline f).1 = f) ∧
    (inline = true ∧ isFloat = true → (wrapCall T isFloat inline f).1 = T f) := by
  cases isFloat <;> cases inline <;> simp [wrapCall, wrapTarget]

/-- non-vacuity of the error bound: the rational four-tap list `(3/5, 6/5, 2/5, −1/5 + 1/100)` violates the
identities by a known amount (`resid 0 = −39/10000`, `resid 1 = 3/250`) and its row constant is `279/20000` -/
example : ([3 / 5, 6 / 5, 2 / 5, -1 / 5 + 1 / 100] : List ℚ).length ∈ errLengths ∧
    errConst ([3 / 5, 6 / 5, 2 / 5, -1 / 5 + 1 / 100] : List ℚ) ≤ 279 / 20000 ∧
    279 / 20000 ≤ errConst ([3 / 5, 6 / 5, 2 / 5, -1 / 5 + 1 / 100] : List ℚ) := by
  refine ⟨?_, ?_, ?_⟩ <;> decide +kernel

/-- non-vacuity of the general theorems beyond the generated lengths: a 22-tap list (longer than `D20`) made of
the exact four-tap filter `(3/5, 6/5, 2/5, −1/5)` shifted by 8 satisfies the identities, has even length, and is
not covered by `prLengths` -/
example : qmfExact ((List.replicate 8 0 ++ [3 / 5, 6 / 5, 2 / 5, -1 / 5] ++ List.replicate 10 0 : List Rat)) ∧
    ((List.replicate 8 0 ++ [3 / 5, 6 / 5, 2 / 5, -1 / 5] ++ List.replicate 10 0 : List Rat)).length = 22 ∧
    22 ∉ prLengths := by
  refine ⟨?_, by decide, by decide⟩
  unfold qmfExact
  decide +kernel

/-- `energy` (the `sumTo` form used by `C17_haar_energy`) is the `Finset` double sum `energy2` of `Proofs/C17Energy.lean` -/
theorem Mahotas.C17.energy_eq_energy2 {K : Type} [Field K] (N0 N1 : Nat) (g : Im K) :
    energy N0 N1 g = energy2 N0 N1 g :=
  (energy2_eq_sumTo N0 N1 g).symm

theorem Mahotas.C17.energy_nonneg {K : Type} [Field K] [LinearOrder K] [IsStrictOrderedRing K] (N0 N1 : Nat) (g : Im K) :
    0 ≤ energy N0 N1 g := by
  rw [energy_eq_energy2]
  exact Finset.sum_nonneg fun y _ => Finset.sum_nonneg fun x _ => sq_nonneg _

/-- **C17 (`daubechies_energy_bound`).** Energy of the Daubechies analysis transform for coefficient lists that
satisfy the quadrature-mirror identities only approximately — every even number `n ≥ 2` of coefficients, no other
hypothesis on them, every ordered field. For every even-sided image that vanishes in its first `n − 2` rows and
columns (what embedding with `wavelet_center`, fill value 0, at offsets `≥ n − 2` provides; without a margin the code
drops the analysis samples of negative index and the energy is *not* conserved even by an exact filter):

`|Σ (daubechies f)² − 4·Σ f²| ≤ (8d + 4d²)·Σ f²`, `d = errConst cs = ½ Σ_{j<n−1} |resid cs |j − (n/2−1)||`

(the factor 4 is the normalisation `Σ c_k² = 2` per axis, as for the unnormalised Haar transform `D2`); if every
identity holds within `ε` the same with `d = (n − 1)/2·ε`; and for exactly quadrature-mirror coefficients
`Σ (daubechies f)² = 4·Σ f²`. (Proof, `Proofs/C17Energy.lean`: the synthesis kernel is half the transpose of the analysis
kernel on such rows — `wavelet_adjoint_of_lt` — so `Σ (Wf)² = 2 Σ f·iW(Wf) = 2Σf² + 2Σ f·errRow f` by the row identity;
`|Σ_x f[x] f[x+2s]| ≤ Σ f²`.) -/
theorem C17_daubechies_energy_bound {K : Type} [Field K] [LinearOrder K] [IsStrictOrderedRing K]
    (cs : List K) (heven : cs.length % 2 = 0) (hpos : 2 ≤ cs.length) (N0 N1 : Nat) (h0 : N0 % 2 = 0)
    (h1 : N1 % 2 = 0) (f : Im K)
    (hy0 : ∀ y x, y < N0 → x < N1 → y + 2 < cs.length → f y x = 0)
    (hx0 : ∀ y x, y < N0 → x < N1 → x + 2 < cs.length → f y x = 0) :
    |energy N0 N1 (daubechies2 cs N0 N1 f) - 4 * energy N0 N1 f|
        ≤ (8 * errConst cs + 4 * errConst cs ^ 2) * energy N0 N1 f ∧
    (∀ eps : K, (∀ s, s < cs.length / 2 → |resid cs s| ≤ eps) →
      |energy N0 N1 (daubechies2 cs N0 N1 f) - 4 * energy N0 N1 f|
        ≤ (8 * (((cs.length - 1 : Nat) : K) / 2 * eps) + 4 * (((cs.length - 1 : Nat) : K) / 2 * eps) ^ 2)
            * energy N0 N1 f) ∧
    (qmfExact cs → energy N0 N1 (daubechies2 cs N0 N1 f) = 4 * energy N0 N1 f) := by
  have hb := abs_daubechies2_energy_le_of_lt cs heven (rowIdentity_general two_ne_zero cs heven hpos)
    N0 N1 h0 h1 f hy0 hx0
  rw [← energy_eq_energy2, ← energy_eq_energy2] at hb
  have key : ∀ D : K, errConst cs ≤ D →
      |energy N0 N1 (daubechies2 cs N0 N1 f) - 4 * energy N0 N1 f| ≤ (8 * D + 4 * D ^ 2) * energy N0 N1 f :=
    fun D hD => le_trans hb (mul_le_mul_of_nonneg_right
      (by linarith [two_mul_add_sq_le (errConst_nonneg cs) hD]) (energy_nonneg N0 N1 f))
  refine ⟨hb, fun eps heps => key _ (errConst_le cs heven eps heps), fun hq => ?_⟩
  have h := key 0 ((errConst_le cs heven 0 fun s hs => by
    rw [(qmfExact_iff_resid cs).mp hq s hs, abs_zero]).trans_eq (mul_zero _))
  have e : (8 * 0 + 4 * 0 ^ 2 : K) * energy N0 N1 f = 0 := by ring
  exact sub_eq_zero.mp (abs_nonpos_iff.mp (h.trans_eq e))

/-- **C17 (`daubechies_energy_bound` after `wavelet_center`).** For an image embedded by `wavelet_center` with fill
value 0 at offsets `d0, d1 ≥ n − 2` into an even-sided image (`C17_center_margin`), the bound of
`C17_daubechies_energy_bound` holds for the embedded image, whatever `f` is. -/
theorem C17_daubechies_energy_centered {K : Type} [Field K] [LinearOrder K] [IsStrictOrderedRing K]
    (cs : List K) (heven : cs.length % 2 = 0) (hpos : 2 ≤ cs.length) (N0 N1 d0 d1 M0 M1 : Nat)
    (hM0 : M0 % 2 = 0) (hM1 : M1 % 2 = 0) (hd0 : cs.length ≤ d0 + 2) (hd1 : cs.length ≤ d1 + 2) (f : Im K) :
    |energy M0 M1 (daubechies2 cs M0 M1 (center N0 N1 d0 d1 0 f)) - 4 * energy M0 M1 (center N0 N1 d0 d1 0 f)|
      ≤ (8 * errConst cs + 4 * errConst cs ^ 2) * energy M0 M1 (center N0 N1 d0 d1 0 f) := by
  refine (C17_daubechies_energy_bound cs heven hpos M0 M1 hM0 hM1 (center N0 N1 d0 d1 0 f) ?_ ?_).1
  · intro y x _ _ hy
    have : ¬ (d0 ≤ y ∧ y < d0 + N0 ∧ d1 ≤ x ∧ x < d1 + N1) := by omega
    simp only [center, this, if_false]
  · intro y x _ _ hx
    have : ¬ (d0 ≤ y ∧ y < d0 + N0 ∧ d1 ≤ x ∧ x < d1 + N1) := by omega
    simp only [center, this, if_false]

/-- **C17 (energy of the ten generated tables, any ordered field).** `C17_tables_energy_bound` over every linearly
ordered field: relative energy defect of `daubechies` at most `4·tableTol[code]` on even-sided images vanishing in their
first `ncoeffs − 2` rows and columns. -/
theorem C17_tables_energy_bound_field {K : Type} [Field K] [LinearOrder K] [IsStrictOrderedRing K]
    (code : Nat) (hc : code < 10) (N0 N1 : Nat) (h0 : N0 % 2 = 0) (h1 : N1 % 2 = 0) (f : Im K)
    (hy0 : ∀ y x, y < N0 → x < N1 → y + 2 < 2 * (code + 1) → f y x = 0)
    (hx0 : ∀ y x, y < N0 → x < N1 → x + 2 < 2 * (code + 1) → f y x = 0) :
    |energy N0 N1 (daubechies2 (coeffsOf code) N0 N1 f) - 4 * energy N0 N1 f|
      ≤ 4 * ((tableTol.getD code 0 : ℚ) : K) * energy N0 N1 f := by
  obtain ⟨hlen, htol⟩ := tables_consts_field (K := K) code hc
  rw [← hlen] at hy0 hx0
  refine le_trans (C17_daubechies_energy_bound (coeffsOf code : List K) (by omega) (by omega)
    N0 N1 h0 h1 f hy0 hx0).1 (mul_le_mul_of_nonneg_right ?_ (energy_nonneg N0 N1 f))
  linarith

/-- **C17 (energy of the ten generated tables).** For each table `D2 … D20` the translator extracts (the float32
values the compiler stores, as exact rationals) and every even-sided rational image vanishing in its first
`ncoeffs − 2` rows and columns: `|Σ (daubechies f)² − 4·Σ f²| ≤ 4·tableTol[code]·Σ f²` — relative energy defect at most
`tableTol = (0, 1.3e-7, 1.9e-7, 2.5e-6, 1.7e-7, 7e-8, 8.1e-7, 1.5e-7, 7e-8, 1.1e-7)`, the same constants as the
reconstruction tolerance (`C17_tables_error_bound`). Exact arithmetic; the floating-point rounding of the kernels is
not covered. -/
theorem C17_tables_energy_bound (code : Nat) (hc : code < 10) (N0 N1 : Nat) (h0 : N0 % 2 = 0) (h1 : N1 % 2 = 0)
    (f : Im ℚ)
    (hy0 : ∀ y x, y < N0 → x < N1 → y + 2 < 2 * (code + 1) → f y x = 0)
    (hx0 : ∀ y x, y < N0 → x < N1 → x + 2 < 2 * (code + 1) → f y x = 0) :
    |energy N0 N1 (daubechies2 (coeffsOf code) N0 N1 f) - 4 * energy N0 N1 f|
      ≤ 4 * tableTol.getD code 0 * energy N0 N1 f := by
  have := C17_tables_energy_bound_field (K := ℚ) code hc N0 N1 h0 h1 f hy0 hx0
  rwa [Rat.cast_id] at this

/-- non-vacuity of the support hypothesis and of the energy identity: the exact four-tap filter
`(3/5, 6/5, 2/5, −1/5)` on the 4×4 image that is 1 at `(2, 2)` and 0 elsewhere (it vanishes in its first two rows
and columns): the transform has energy `4 = 4·1` -/
example : energy 4 4 (daubechies2 ([3 / 5, 6 / 5, 2 / 5, -1 / 5] : List ℚ) 4 4
      (fun y x => if y = 2 ∧ x = 2 then 1 else 0)) = 4 ∧
    energy 4 4 (fun y x => if y = 2 ∧ x = 2 then (1 : ℚ) else 0) = 1 := by
  constructor <;> decide +kernel

namespace Mahotas.C17
/-- proved allowance for the rounding of the **double** evaluation of `idaubechies(daubechies f)` with the ten generated
    tables (relative to `max|f|`): `C⁴·((1+u)^(8n+4) − 1)` at `u = 2⁻⁵³`, `C = Σ|c_k|`, see `C17_tables_rounded_bound` -/
def tableRoundTol : List Rat :=
  [4 / 100000000000000, 13 / 100000000000000, 28 / 100000000000000, 37 / 100000000000000, 60 / 100000000000000,
   103 / 100000000000000, 136 / 100000000000000, 125 / 100000000000000, 200 / 100000000000000, 299 / 100000000000000]
end Mahotas.C17

/-- **C17-T6 (one row, rounded arithmetic).** `RT.RV K fl` is the ordered field `K` in which every `+ − × ÷` is followed
by the rounding function `fl` (negation and the literals `0`, `2` are exact) — the polymorphic row kernels `waveletRow`,
`iwaveletRow` instantiated there perform the operations of the C loops in the C loops' order (`acc += c·d` per tap,
`(l + h)/2`), each one rounded. Under the standard model of floating-point arithmetic `|fl x − x| ≤ u·|x|` (IEEE
round-to-nearest without under/overflow: `u = 2⁻⁵³` for double, `2⁻²⁴` for float), for **every** coefficient list with an
even number `n ≥ 2` of entries (exactly representable values), every even `N`, every row with `|f| ≤ M`:
(i) each analysis sample is within `((1+u)^(2n) − 1)·C·M` of the exact one, (ii) each synthesis sample within
`((1+u)^(2n+2) − 1)·C·G` (`|g| ≤ G`), (iii) the rounded round trip satisfies
`|ĩw(w̃ f)[x] − f[x]| ≤ (errConst cs + C²·((1+u)^(4n+2) − 1))·M` at every `n − 2 ≤ x < N`, `C = Σ|c_k|`. -/
theorem C17_rounded_round_trip_row {K : Type} [Field K] [LinearOrder K] [IsStrictOrderedRing K] (fl : K → K) (u : K)
    (hu : 0 ≤ u) (hfl : ∀ x, |fl x - x| ≤ u * |x|) (cs : List K) (N : Nat) (f : Nat → K) (M : K) (hM : 0 ≤ M)
    (hf : ∀ p, p < N → |f p| ≤ M) :
    (∀ k, |(waveletRow (cs.map (RT.ex (fl := fl))) N (fun q => RT.ex (f q)) k).v - waveletRow cs N f k|
      ≤ RT.gam u cs.length * (RT.absSum cs * M)) ∧
    (∀ x, |(iwaveletRow (cs.map (RT.ex (fl := fl))) N (fun q => RT.ex (f q)) x).v - iwaveletRow cs N f x|
      ≤ RT.gam u (cs.length + 1) * (RT.absSum cs * M)) ∧
    (cs.length % 2 = 0 → 2 ≤ cs.length → N % 2 = 0 → ∀ x, cs.length ≤ x + 2 → x < N →
      |(iwaveletRow (cs.map (RT.ex (fl := fl))) N
          (waveletRow (cs.map (RT.ex (fl := fl))) N (fun q => RT.ex (f q))) x).v - f x|
        ≤ (errConst cs + RT.absSum cs ^ 2 * RT.gam u (2 * cs.length + 1)) * M) :=
  ⟨fun k => (RT.wavelet_round hu hfl cs N f M hM hf k).1,
   fun x => (RT.iwavelet_round hu hfl cs N f M hM hf x).1,
   fun heven hpos hN x hx hxN => by
    have hA := (RT.pass_synthesis hu hfl cs N (waveletRow (cs.map (RT.ex (fl := fl))) N (fun q => RT.ex (f q)))
      (waveletRow cs N f) (RT.absSum cs * M) cs.length (mul_nonneg (RT.absSum_nonneg cs) hM)
      (fun p _ => (RT.wavelet_round hu hfl cs N f M hM hf p).1) (fun p _ => (RT.wavelet_round hu hfl cs N f M hM hf p).2) x).1
    rw [show cs.length + 1 + cs.length = 2 * cs.length + 1 by omega] at hA
    have hC : |iwaveletRow cs N (waveletRow cs N f) x - f x| ≤ errConst cs * M := by
      rw [rowIdentity_general two_ne_zero cs heven hpos N hN f x hx hxN, add_sub_cancel_left]
      exact abs_errRow_le cs N f M hM hf x
    exact (abs_sub_le _ (iwaveletRow cs N (waveletRow cs N f) x) _).trans ((add_le_add hA hC).trans_eq (by ring))⟩

/-- **C17-T6 (`idaubechies(daubechies f)` in rounded arithmetic).** The whole 2-D pipeline (`daubechies2`: rows, columns;
`idaubechies2`: columns, rows) evaluated in `RT.RV K fl` — every operation of the four passes rounded, in the order the
code performs them. For every coefficient list with an even number `n ≥ 2` of entries and **no** other hypothesis, every
even-sided image with `|f| ≤ M`: the rounded result is within `C⁴·((1+u)^(8n+4) − 1)·M` of the exact pipeline at **every**
pixel, hence within `((2d + d²) + C⁴·((1+u)^(8n+4) − 1))·M` of `f` at every pixel with `y, x ≥ n − 2`
(`d = errConst cs`: the quadrature-mirror residuals; the second term: the rounding). `RT.gam u k = (1+u)^(2k) − 1`. -/
theorem C17_rounded_reconstruction_bound {K : Type} [Field K] [LinearOrder K] [IsStrictOrderedRing K] (fl : K → K)
    (u : K) (hu : 0 ≤ u) (hfl : ∀ x, |fl x - x| ≤ u * |x|) (cs : List K) (heven : cs.length % 2 = 0)
    (hpos : 2 ≤ cs.length) (N0 N1 : Nat) (h0 : N0 % 2 = 0) (h1 : N1 % 2 = 0) (f : Im K) (M : K) (hM : 0 ≤ M)
    (hf : ∀ y x, y < N0 → x < N1 → |f y x| ≤ M) :
    (∀ y x, |(idaubechies2 (cs.map (RT.ex (fl := fl))) N0 N1
          (daubechies2 (cs.map (RT.ex (fl := fl))) N0 N1 (fun y x => RT.ex (f y x))) y x).v
        - idaubechies2 cs N0 N1 (daubechies2 cs N0 N1 f) y x|
        ≤ RT.gam u (4 * cs.length + 2) * (RT.absSum cs ^ 4 * M)) ∧
    (∀ y x, cs.length ≤ y + 2 → y < N0 → cs.length ≤ x + 2 → x < N1 →
      |(idaubechies2 (cs.map (RT.ex (fl := fl))) N0 N1
          (daubechies2 (cs.map (RT.ex (fl := fl))) N0 N1 (fun y x => RT.ex (f y x))) y x).v - f y x|
        ≤ ((2 * errConst cs + errConst cs ^ 2) + RT.absSum cs ^ 4 * RT.gam u (4 * cs.length + 2)) * M) := by
  have hfw := fun y x => RT.forward_2d hu hfl cs N0 N1 f M hM hf y x
  refine ⟨hfw, ?_⟩
  intro y x hy hyN hx hxN
  have hex := (C17_reconstruction_error_bound_general cs heven hpos N0 N1 h0 h1 f M hM hf y x hy hyN hx hxN).1
  exact (abs_sub_le _ (idaubechies2 cs N0 N1 (daubechies2 cs N0 N1 f) y x) _).trans
    ((add_le_add (hfw y x) hex).trans_eq (by ring))

/-- the rounding constants of the generated tables at `u = 2⁻⁵³`, exact rational arithmetic -/
theorem Mahotas.C17.tables_round_consts :
    (List.range 10).all (fun code =>
      decide (RT.absSum (coeffsOf code : List ℚ) ^ 4 *
        RT.gam (1 / 9007199254740992 : ℚ) (4 * (coeffsOf code : List ℚ).length + 2)
        ≤ tableRoundTol.getD code 0)) = true := by decide +kernel

/-- **C17-T6 (the ten generated tables, double arithmetic).** For each table `D2 … D20` (the float32 values the compiler
stores, exactly representable in double), any rounding function on ℚ with `|fl x − x| ≤ 2⁻⁵³·|x|`, every even-sided
rational image (every double image is one) with `|f| ≤ M`, at every pixel with `y, x ≥ ncoeffs − 2`: the result of
`idaubechies(daubechies f)` computed with every operation rounded is within
`(tableTol[code] + tableRoundTol[code])·M` of `f`, `tableRoundTol = (4, 13, 28, 37, 60, 103, 136, 125, 200, 299)·10⁻¹⁴` —
the rounding allowance the correspondence run adds to `tableTol[code]`. Underflow is outside the model. -/
theorem C17_tables_rounded_bound (fl : ℚ → ℚ) (hfl : ∀ x, |fl x - x| ≤ (1 / 9007199254740992 : ℚ) * |x|)
    (code : Nat) (hc : code < 10) (N0 N1 : Nat) (h0 : N0 % 2 = 0) (h1 : N1 % 2 = 0)
    (f : Im ℚ) (M : ℚ) (hM : 0 ≤ M) (hf : ∀ y x, y < N0 → x < N1 → |f y x| ≤ M)
    (y x : Nat) (hy : 2 * (code + 1) ≤ y + 2) (hyN : y < N0) (hx : 2 * (code + 1) ≤ x + 2) (hxN : x < N1) :
    |(idaubechies2 ((coeffsOf code : List ℚ).map (RT.ex (fl := fl))) N0 N1
        (daubechies2 ((coeffsOf code : List ℚ).map (RT.ex (fl := fl))) N0 N1 (fun y x => RT.ex (f y x))) y x).v - f y x|
      ≤ (tableTol.getD code 0 + tableRoundTol.getD code 0) * M := by
  obtain ⟨hlen, htol⟩ := tables_consts_field (K := ℚ) code hc
  rw [Rat.cast_id] at htol
  have hr := List.all_eq_true.mp tables_round_consts code (List.mem_range.mpr hc)
  simp only [decide_eq_true_eq] at hr
  rw [← hlen] at hy hx
  refine le_trans ((C17_rounded_reconstruction_bound fl (1 / 9007199254740992 : ℚ) (by norm_num) hfl
    (coeffsOf code : List ℚ) (by omega) (by omega) N0 N1 h0 h1 f M hM hf).2 y x hy hyN hx hxN)
    (mul_le_mul_of_nonneg_right ?_ hM)
  linarith

namespace Mahotas.C17
/-- a rounding function that is not the identity: `x ↦ x·(1 + 2⁻⁵³)` meets the model with equality -/
def exampleFl : ℚ → ℚ := fun x => x * (1 + 1 / 9007199254740992)
end Mahotas.C17

/-- non-vacuity: under `exampleFl` the rounded low-pass sample of the row `(1, 2, 3, 4)` with the exact four-tap filter
differs from the exact sample `−1/5·1 + 2/5·2 + 6/5·3 + 3/5·4 = 33/5` and stays inside the proved band -/
example :
    (∀ x : ℚ, |exampleFl x - x| ≤ (1 / 9007199254740992 : ℚ) * |x|) ∧
    waveletRow ([3 / 5, 6 / 5, 2 / 5, -1 / 5] : List ℚ) 4 (fun p => ([1, 2, 3, 4] : List ℚ).getD p 0) 0 = 33 / 5 ∧
    (waveletRow (([3 / 5, 6 / 5, 2 / 5, -1 / 5] : List ℚ).map (RT.ex (fl := exampleFl))) 4
      (fun q => RT.ex (([1, 2, 3, 4] : List ℚ).getD q 0)) 0).v ≠ 33 / 5 ∧
    |(waveletRow (([3 / 5, 6 / 5, 2 / 5, -1 / 5] : List ℚ).map (RT.ex (fl := exampleFl))) 4
      (fun q => RT.ex (([1, 2, 3, 4] : List ℚ).getD q 0)) 0).v - 33 / 5|
      ≤ RT.gam (1 / 9007199254740992 : ℚ) 4 * (RT.absSum ([3 / 5, 6 / 5, 2 / 5, -1 / 5] : List ℚ) * 4) := by
  refine ⟨?_, by decide +kernel, by decide +kernel, by decide +kernel⟩
  intro x
  have : exampleFl x - x = (1 / 9007199254740992 : ℚ) * x := by unfold exampleFl; ring
  rw [this, abs_mul]
  norm_num

/-- non-vacuity: a row of five samples: the first four come back, the fifth is lost -/
example : (List.range 5).map (ihaarRow 5 (haarRow 5 (fun i => ((i : ℚ) + 1) ^ 2))) = [1, 4, 9, 16, 0] := by
  decide +kernel

/-- **C17 (the pointer `high`).** `ihaar` and `iwavelet` compute the address of the second half of a row as
`data + step·(N/2)` (`_convolve.cpp`: `T* high = data + step*(N1/2)`): the address of sample `N/2` for every stride and
every length. -/
theorem C17_high_pointer (step : Int) (N : Nat) : Mem.highOff step N = step * ((N / 2 : Nat) : Int) := rfl

/-- **C17 (history: the pointer of the pinned tree).** The pinned code computed `data + (step·N)/2` with C's truncating
division. That is the address of sample `N/2` whenever `N` is even or `step = ±1`; for odd `N` it is off by exactly
`step/2` (truncated) elements — zero only for `|step| ≤ 1` (the defect found by the layout sweep of C08). -/
theorem C17_high_pointer_pinned (step : Int) (N : Nat) :
    ((N % 2 = 0 ∨ step = 1 ∨ step = -1) → Mem.highOffPinned step N = step * ((N / 2 : Nat) : Int)) ∧
    (N % 2 = 1 → Mem.highOffPinned step N = step * ((N / 2 : Nat) : Int) + step.tdiv 2) :=
  ⟨fun h => by
      rcases h with h | h
      · exact Mem.highOffPinned_even step N h
      · exact Mem.highOffPinned_unit step N h,
   fun h => Mem.highOffPinned_odd step N h⟩

/-- non-vacuity: the transposed pass over a C-contiguous `3 × 2` array (`step = 2`, `N = 3`): the pinned `high` was one
element too far; over a `3 × 3` array (`step = 3`) likewise; with `step = 1` it was right; `highOff` is right -/
example : Mem.highOffPinned 2 3 = 3 ∧ Mem.highOff 2 3 = 2 ∧ Mem.highOffPinned 3 3 = 4 ∧ Mem.highOff 3 3 = 3 ∧
    Mem.highOffPinned 1 3 = 1 := by
  decide

/-- **C17 (the C kernels on strided memory are the core model, every shape).** For every injective view, odd sides
included, the memory-level wrapper (`Mem.wrapperBody`) leaves the core 2-D model in the view and touches nothing else. -/
theorem C17_mem_is_core_every_shape {K : Type} [Field K] (w : Mem.Wrapper) (pe : Bool) (cs : List K) (v : Mem.View)
    (hinj : v.Inj) (m : Mem.Memory K) :
    (∀ y x, y < v.N0 → x < v.N1 →
      Mem.wrapperBody w pe cs v m (v.addr y x) = Mem.core2 w pe cs v.N0 v.N1 (v.read m) y x) ∧
    (∀ a, (∀ y x, y < v.N0 → x < v.N1 → a ≠ v.addr y x) → Mem.wrapperBody w pe cs v m a = m a) :=
  (Mem.Shows.refl v m).wrapperBody w pe cs hinj

/-- **C17 (the C kernels on strided memory are the core model).** For each of the four wrappers (`haar`, `ihaar`,
`daubechies`, `idaubechies`), every coefficient list, `preserve_energy` on or off, every strided view `v` of a memory
`m` whose elements have distinct addresses (`View.Inj`: C, Fortran, sliced, negative strides, …): the in-place passes
over `f` and over the transposed view `f.T` followed by the in-place scaling — rows processed one after the other, each
through its scratch buffer (`Mem.wrapperBody`, what the driver runs) — leave in the view exactly the core 2-D model
applied to the image the view showed, and change no address outside the view. In particular the result does not depend
on the memory layout. (`h1`, `h0` are not used: this is `C17_mem_is_core_every_shape`.) -/
theorem C17_mem_is_core {K : Type} [Field K] (w : Mem.Wrapper) (pe : Bool) (cs : List K) (v : Mem.View)
    (hinj : v.Inj) (h1 : v.N1 % 2 = 0 ∨ v.s1 = 1 ∨ v.s1 = -1) (h0 : v.N0 % 2 = 0 ∨ v.s0 = 1 ∨ v.s0 = -1)
    (m : Mem.Memory K) :
    (∀ y x, y < v.N0 → x < v.N1 →
      Mem.wrapperBody w pe cs v m (v.addr y x) = Mem.core2 w pe cs v.N0 v.N1 (v.read m) y x) ∧
    (∀ a, (∀ y x, y < v.N0 → x < v.N1 → a ≠ v.addr y x) → Mem.wrapperBody w pe cs v m a = m a) :=
  C17_mem_is_core_every_shape w pe cs v hinj m

/-- non-vacuity of `C17_mem_is_core` (a C-contiguous `2 × 4` view is injective with both sides even) and the case the
pinned tree got wrong: on the C-contiguous `3 × 2` array with rows `(1,4), (9,16), (25,36)` the pinned code returned
`(−7, 5/4), (11/2, 5/4), (0, 0)`; the memory-level `ihaar` (= the real code) and the core model both give
`(1, −5), (−5/2, 15/2), (0, 0)` -/
example : (Mem.View.contig 2 4).Inj ∧
    (List.range 6).map (fun (a : Nat) => Mem.wrapperBody .ihaar false ([] : List ℚ) (Mem.View.contig 3 2)
      (fun p => ([1, 4, 9, 16, 25, 36] : List ℚ).getD p.toNat 0) (a : Int)) = [1, -5, -5 / 2, 15 / 2, 0, 0] ∧
    (List.range 6).map (fun (a : Nat) => ihaar2 false 3 2
      (fun y x => ([1, 4, 9, 16, 25, 36] : List ℚ).getD (2 * y + x) 0) (a / 2) (a % 2)) = [1, -5, -5 / 2, 15 / 2, 0, 0] := by
  refine ⟨Mem.contig_inj 2 4, ?_, ?_⟩ <;> decide +kernel

/-- **C17 (`inline`, at the level of memory).** A wrapper call on a view `v` of the caller's memory `m`
(`Mem.wrapMem`: `_wavelet_array`, then the kernels): unless `inline=True` AND the array is floating point, the caller's
memory is returned unchanged — every address, inside and outside the view — and the result is computed in a fresh
contiguous array from the image the view shows; with `inline=True` on a floating-point array the passes run on the
caller's view itself, whatever its strides, and the returned image is that view. -/
theorem C17_inline_memory {K : Type} [Field K] (w : Mem.Wrapper) (pe : Bool) (cs : List K) (isFloat inline : Bool)
    (v : Mem.View) (m : Mem.Memory K) :
    (¬ (inline = true ∧ isFloat = true) →
      (Mem.wrapMem w pe cs isFloat inline v m).1 = m ∧
      (Mem.wrapMem w pe cs isFloat inline v m).2
        = (Mem.freshView isFloat inline v).read (Mem.wrapperBody w pe cs (Mem.freshView isFloat inline v)
            (Mem.freshMem (Mem.freshView isFloat inline v) (v.read m)))) ∧
    (inline = true ∧ isFloat = true →
      (Mem.wrapMem w pe cs isFloat inline v m).1 = Mem.wrapperBody w pe cs v m ∧
      (Mem.wrapMem w pe cs isFloat inline v m).2 = v.read (Mem.wrapperBody w pe cs v m)) := by
  cases isFloat <;> cases inline <;> simp [Mem.wrapMem, Mem.wrapMemG, wrapTarget, Mem.wrapperBody]

/-- non-vacuity: `haar(f, inline=True)` on the float view `A[:, ::2]` of a `2 × 4` buffer writes the transform into
the even columns and leaves the odd columns alone; with `inline=False` the buffer is unchanged -/
example :
    (List.range 8).map (fun (a : Nat) => (Mem.wrapMem .haar false ([] : List ℚ) true true ⟨0, 2, 2, 4, 2⟩
      (fun p => ([1, 7, 2, 7, 3, 7, 5, 7] : List ℚ).getD p.toNat 0)).1 (a : Int)) = [11, 7, 3, 7, 5, 7, 1, 7] ∧
    (List.range 8).map (fun (a : Nat) => (Mem.wrapMem .haar false ([] : List ℚ) true false ⟨0, 2, 2, 4, 2⟩
      (fun p => ([1, 7, 2, 7, 3, 7, 5, 7] : List ℚ).getD p.toNat 0)).1 (a : Int)) = [1, 7, 2, 7, 3, 7, 5, 7] := by
  constructor <;> decide +kernel

/-- **C17 (`wavelet_center` for every border).** Whatever `_wavelet_center_compute(oshape, border)` returns for an
INTEGER border (negative, zero, huge): the border is below `2^40`, the shape non-empty with positive sides, and there is
one step `1 ≤ c ≤ 63` such that every new side is the power of two `2^(⌊log₂ o⌋ + c)`, every offset is `(new − old)/2` and
exceeds the border, and `c` is the FIRST such step (for every smaller `c' ≥ 1` some offset is `≤ border`): the sides
are the minimal admissible powers of two. A negative border gives `c = 1` (the result of `border = −1`… is that of no
border requirement at all). -/
theorem C17_center_every_border (oshape : List Int) (border : Int) (ns d : List Nat)
    (h : Mem.centerComputeI oshape border = some (ns, d)) :
    border < 2 ^ 40 ∧ oshape ≠ [] ∧ (∀ o ∈ oshape, 0 < o) ∧
    ∃ c, 1 ≤ c ∧ c ≤ 63 ∧
      ns = (oshape.map Int.toNat).map (fun t => 2 ^ (Nat.log2 t + c)) ∧
      d = (oshape.map Int.toNat).map (fun t => (2 ^ (Nat.log2 t + c) - t) / 2) ∧
      (∀ x ∈ d, border < (x : Int)) ∧
      (∀ c', 1 ≤ c' → c' < c →
        ∃ t ∈ oshape.map Int.toNat, (((2 ^ (Nat.log2 t + c') - t) / 2 : Nat) : Int) ≤ border) ∧
      (border < 0 → c = 1) := by
  unfold Mem.centerComputeI at h
  by_cases h1 : border ≥ 2 ^ 40
  · rw [if_pos h1] at h; cases h
  rw [if_neg h1] at h
  by_cases h2 : oshape.isEmpty ∨ oshape.any (· ≤ 0)
  · rw [if_pos h2] at h; cases h
  rw [if_neg h2, Option.map_eq_some_iff] at h
  obtain ⟨c, hs, hc⟩ := h
  obtain ⟨g1, g2, g3, g4⟩ := Mem.searchC_some _ _ _ _ hs
  have hns : ns = (Mem.centerCand (oshape.map Int.toNat) c).1 := by rw [hc]
  have hd : d = (Mem.centerCand (oshape.map Int.toNat) c).2 := by rw [hc]
  -- a step the search passed over failed the test: one of its offsets is `≤ border`
  have hmin : ∀ c', 1 ≤ c' → c' < c →
      ∃ t ∈ oshape.map Int.toNat, (((2 ^ (Nat.log2 t + c') - t) / 2 : Nat) : Int) ≤ border := by
    intro c' l1 l2
    have hf : (Mem.centerCand (oshape.map Int.toNat) c').2.all (fun d => decide (border < (d : Int))) = false :=
      g4 c' l1 l2
    rw [Mem.centerCand_snd, List.all_eq_false] at hf
    obtain ⟨x, hx, hlt⟩ := hf
    obtain ⟨t, ht, rfl⟩ := List.mem_map.mp hx
    exact ⟨t, ht, not_lt.mp fun hb => hlt (decide_eq_true hb)⟩
  refine ⟨by omega, ?_, ?_, c, g1, by omega, hns, hd.trans (Mem.centerCand_snd _ c), ?_, hmin, ?_⟩
  · intro e
    subst e
    exact h2 (Or.inl rfl)
  · intro o ho
    by_contra hle
    exact h2 (Or.inr (List.any_eq_true.mpr ⟨o, ho, decide_eq_true (not_lt.mp hle)⟩))
  · intro x hx
    exact of_decide_eq_true (List.all_eq_true.mp g3 x (hd ▸ hx))
  · intro hneg
    by_contra hc1
    obtain ⟨t, _, ht⟩ := hmin 1 (le_refl _) (by omega)
    omega

/-- **C17 (`wavelet_center` never fails on an admissible input).** For every non-empty shape with positive sides and
every integer border below `2^40` the loop `for c in range(1, 64)` of `_wavelet_center_compute` finds a step (`c = 42`
always qualifies): a result exists. -/
theorem C17_center_total (oshape : List Int) (border : Int) (hb : border < 2 ^ 40) (hne : oshape ≠ [])
    (hpos : ∀ o ∈ oshape, 0 < o) : (Mem.centerComputeI oshape border).isSome = true := by
  unfold Mem.centerComputeI
  have h2 : ¬ (oshape.isEmpty ∨ oshape.any (· ≤ 0)) := by
    rintro (h | h)
    · exact hne (List.isEmpty_iff.mp h)
    · obtain ⟨o, ho, hle⟩ := List.any_eq_true.mp h
      exact absurd (hpos o ho) (not_lt.mpr (of_decide_eq_true hle))
  rw [if_neg (not_le.mpr hb), if_neg h2, Option.isSome_map]
  apply Mem.searchC_isSome _ 63 1 42 (by omega) (by omega)
  rw [Mem.centerCand_snd, List.all_eq_true]
  intro x hx
  obtain ⟨t, _, rfl⟩ := List.mem_map.mp hx
  exact decide_eq_true (Mem.cand42 t border hb)

/-- **C17 (`wavelet_decenter ∘ wavelet_center = id` for every border).** For every 2-D shape and every integer border
for which `_wavelet_center_compute` returns new sides `(M0, M1)` and offsets `(d0, d1)`: the image fits behind its
offsets (`d0 + N0 ≤ M0`, `d1 + N1 ≤ M1`), and slicing the embedded image at the same offsets gives `f` back at every
pixel, for any fill value and any scalar type. -/
theorem C17_decenter_center_every_border {α : Type} (N0 N1 : Nat) (border : Int) (M0 M1 d0 d1 : Nat)
    (h : Mem.centerComputeI [(N0 : Int), (N1 : Int)] border = some ([M0, M1], [d0, d1]))
    (cval : α) (f : Im α) :
    d0 + N0 ≤ M0 ∧ d1 + N1 ≤ M1 ∧
    ∀ y x, y < N0 → x < N1 → decenter d0 d1 (center N0 N1 d0 d1 cval f) y x = f y x := by
  obtain ⟨_, _, _, c, hc, _, hns, hd, _, _, _⟩ := C17_center_every_border _ _ _ _ h
  simp only [List.map_cons, List.map_nil, Int.toNat_natCast, List.cons.injEq, and_true] at hns hd
  obtain ⟨rfl, rfl⟩ := hns
  obtain ⟨rfl, rfl⟩ := hd
  exact ⟨Mem.cand_fits N0 c hc, Mem.cand_fits N1 c hc, fun y x hy hx => C17_decenter_center N0 N1 _ _ cval f y x hy hx⟩

/-- non-vacuity: a negative border, the default, one that needs the second step, the largest admissible one, one beyond it, a zero side -/
example : Mem.centerComputeI [5, 12] (-3) = some ([8, 16], [1, 2]) ∧
    Mem.centerComputeI [5, 12] 0 = some ([8, 16], [1, 2]) ∧
    Mem.centerComputeI [5, 12] 1 = some ([16, 32], [5, 10]) ∧
    Mem.centerComputeI [4] (2 ^ 40 - 1) = some ([2 ^ 42], [2 ^ 41 - 2]) ∧
    Mem.centerComputeI [4] (2 ^ 40) = none ∧ Mem.centerComputeI [4, 0] 0 = none := by
  decide +kernel

/-- **C17 (the `f.T` call).** (1) In the core model the column pass is the row pass between two transpositions:
`colsPass T N0 f = (rowsPass T N0 fᵀ)ᵀ`. (2) At the level of memory: one call of a C kernel on the TRANSPOSED view
`v.T` (strides swapped, same memory) of an injective view stores into the view the core row kernel applied to every
COLUMN of the image the view showed, and changes nothing outside the view — `_convolve.daubechies(f.T, code)` is the
column pass whatever the layout of `f`. (`h0` is not used.) -/
theorem C17_transposed_pass {K : Type} [Field K] (k : Mem.Kern) (cs : List K) (v : Mem.View) (hinj : v.Inj)
    (h0 : v.N0 % 2 = 0 ∨ v.s0 = 1 ∨ v.s0 = -1) (m : Mem.Memory K) :
    (∀ (T : Nat → (Nat → K) → Nat → K) (N0 : Nat) (f : Im K),
      colsPass T N0 f = fun y x => rowsPass T N0 (fun a b => f b a) x y) ∧
    (∀ y x, y < v.N0 → x < v.N1 →
      Mem.pass k cs v.T m (v.addr y x) = colsPass (Mem.coreKernel k cs) v.N0 (v.read m) y x) ∧
    (∀ a, (∀ y x, y < v.N0 → x < v.N1 → a ≠ v.addr y x) → Mem.pass k cs v.T m a = m a) :=
  ⟨fun _ _ _ => rfl, (Mem.Shows.refl v m).pass_T k cs hinj⟩

/-- **C17 (`ihaar(haar(f))` in memory, odd sides included).** `haar` and then `ihaar`, both in place on the same
injective view, `preserve_energy` the same in both calls: afterwards the view holds the original value at every `(y, x)`
with `y < 2⌊N0/2⌋`, `x < 2⌊N1/2⌋` and `0` in the last row / column of an odd side. Over any field with `2 ≠ 0`.
(`h1`, `h0` are not used.) -/
theorem C17_ihaar_haar_memory {K : Type} [Field K] (h2 : (2 : K) ≠ 0) (pe : Bool) (cs cs' : List K) (v : Mem.View)
    (hinj : v.Inj) (h1 : v.N1 % 2 = 0 ∨ v.s1 = 1 ∨ v.s1 = -1) (h0 : v.N0 % 2 = 0 ∨ v.s0 = 1 ∨ v.s0 = -1)
    (m : Mem.Memory K) (y x : Nat) (hy : y < v.N0) (hx : x < v.N1) :
    Mem.wrapperBody .ihaar pe cs' v (Mem.wrapperBody .haar pe cs v m) (v.addr y x)
      = if y < 2 * (v.N0 / 2) ∧ x < 2 * (v.N1 / 2) then m (v.addr y x) else 0 := by
  rw [(((Mem.Shows.refl v m).wrapperBody .haar pe cs hinj).wrapperBody .ihaar pe cs' hinj).1 y x hy hx]
  exact C17_ihaar_haar_any h2 pe v.N0 v.N1 (v.read m) y x

/-- non-vacuity: the C-contiguous `2 × 3` array `(1,4,9), (16,25,36)` (even number of rows, odd number of columns):
`ihaar(haar(f))` in place gives `(1,4,0), (16,25,0)` — what the real code returns -/
example : (List.range 6).map (fun (a : Nat) => Mem.wrapperBody .ihaar true ([] : List ℚ) (Mem.View.contig 2 3)
      (Mem.wrapperBody .haar true [] (Mem.View.contig 2 3)
        (fun p => ([1, 4, 9, 16, 25, 36] : List ℚ).getD p.toNat 0)) (a : Int)) = [1, 4, 0, 16, 25, 0] := by
  decide +kernel

/-- **C17 (rounding of the analysis kernel, standard model of floating-point arithmetic).** Let `fl` be ANY rounding
function on an ordered field with `|fl t − t| ≤ u·|t|` for every `t` (IEEE double: `u = 2⁻⁵³`, barring overflow and
underflow — that is the hypothesis, Lean's `Float` itself is opaque). Run the model's own loop `waveletRow` — same
taps, same order of accumulation, starting from `T()` — in the arithmetic `Rnd K fl` in which every `+` and `×` is
followed by `fl` (coefficients and samples enter exactly: float32 coefficients and double samples are doubles). Then
every sample of one row of `daubechies`, low-pass and high-pass alike, every coefficient list, every length:
`|rounded − exact| ≤ ((1+u)^(n+1) − 1) · Σ_ci |c_ci · f(2x+ci)|`, `n = ncoeffs` — about `(n+1)·u` times the sum of
the absolute products, the classical dot-product bound, for THIS order of operations. (The synthesis kernel and the
2-D composition: `C17_rounded_round_trip_row`, `C17_rounded_reconstruction_bound`.) -/
theorem C17_wavelet_row_rounding {K : Type} [Field K] [LinearOrder K] [IsStrictOrderedRing K] (fl : K → K) (u : K)
    (hu : 0 ≤ u) (hfl : ∀ t, |fl t - t| ≤ u * |t|) (cs : List K) (N : Nat) (f : Nat → K) (x : Nat) :
    |(waveletRow (cs.map (fun c => (⟨c⟩ : Rnd K fl))) N (fun i => (⟨f i⟩ : Rnd K fl)) x).val - waveletRow cs N f x|
      ≤ ((1 + u) ^ (cs.length + 1) - 1) * rowAbs cs N f x := by
  have h := fun a b => (fold_round fl u hu hfl a b (List.range cs.length)).1
  rw [List.length_range] at h
  unfold waveletRow rowAbs
  simp only [List.length_map, foldl_val, Rnd.mul_val, apply_ite Rnd.val, Rnd.neg_val, getD_val, access_val,
    Rnd.zero_val, zero_eq]
  split
  · exact h _ _
  · split
    · exact h _ _
    · rw [sub_zero, abs_zero, mul_zero]

/-- non-vacuity: a rounding function that is not the identity (`fl t = 9t/8`, `u = 1/8`) satisfies the hypothesis; the
exact four-tap filter on a row of four samples -/
example : |(waveletRow (([3 / 5, 6 / 5, 2 / 5, -1 / 5] : List ℚ).map (fun c => (⟨c⟩ : Rnd ℚ (fun t => t * (9 / 8)))))
      4 (fun i => (⟨(i : ℚ) + 1⟩ : Rnd ℚ (fun t => t * (9 / 8)))) 0).val
      - waveletRow ([3 / 5, 6 / 5, 2 / 5, -1 / 5] : List ℚ) 4 (fun i => (i : ℚ) + 1) 0|
    ≤ ((1 + 1 / 8) ^ (4 + 1) - 1) * rowAbs ([3 / 5, 6 / 5, 2 / 5, -1 / 5] : List ℚ) 4 (fun i => (i : ℚ) + 1) 0 :=
  C17_wavelet_row_rounding (fun t => t * (9 / 8)) (1 / 8) (by norm_num) (by
    intro t
    rw [show t * (9 / 8) - t = 1 / 8 * t by ring, abs_mul]
    norm_num) _ 4 _ 0

/-- **C17 (what a call that does not work in place returns).** `w(f, inline=False)` for any layout of `f`, and
`w(f, inline=True)` on an integer array whose axes are in C order (`|s1| ≤ |s0|`): the caller's memory is untouched
(`C17_inline_memory`) and the returned image is the core 2-D model of the image the view shows, at every pixel —
whatever the strides, offset or sign of the caller's view (the fresh copy is an injective view,
`C17_mem_is_core_every_shape`; `h0` is not used). -/
theorem C17_not_inline_result {K : Type} [Field K] (w : Mem.Wrapper) (pe : Bool) (cs : List K) (isFloat inline : Bool)
    (v : Mem.View) (hfresh : ¬ (inline = true ∧ isFloat = true))
    (hC : isFloat = true ∨ inline = false ∨ v.s1.natAbs ≤ v.s0.natAbs)
    (h0 : v.N0 % 2 = 0) (m : Mem.Memory K) (y x : Nat) (hy : y < v.N0) (hx : x < v.N1) :
    (Mem.wrapMem w pe cs isFloat inline v m).2 y x = Mem.core2 w pe cs v.N0 v.N1 (v.read m) y x := by
  have hC : Mem.freshView isFloat inline v = Mem.View.contig v.N0 v.N1 := by
    unfold Mem.freshView
    rw [if_neg]
    rintro ⟨a, b, c⟩
    rcases hC with h | h | h
    · simp [h] at a
    · simp [h] at b
    · omega
  rw [((C17_inline_memory w pe cs isFloat inline v m).1 hfresh).2, hC]
  -- the fresh copy shows the image the caller's view showed
  have hs : Mem.Shows (Mem.View.contig v.N0 v.N1) (Mem.freshMem (Mem.View.contig v.N0 v.N1) (v.read m))
      (Mem.freshMem (Mem.View.contig v.N0 v.N1) (v.read m)) (v.read m) :=
    ⟨fun y' x' _ hx' => Mem.fresh_read_contig v.N0 v.N1 (v.read m) y' x' hx', fun _ _ => rfl⟩
  exact (hs.wrapperBody w pe cs (Mem.contig_inj v.N0 v.N1)).1 y x hy hx

/-- non-vacuity: `haar(f, inline=False)` on the reversed-rows view of a `2 × 3` buffer (negative row stride, odd number
of columns): the result is the core model of the viewed image `(10,20,30), (1,2,3)` -/
example : (List.range 6).map (fun (a : Nat) => (Mem.wrapMem .haar false ([] : List ℚ) true false ⟨3, 2, 3, -3, 1⟩
      (fun p => ([1, 2, 3, 10, 20, 30] : List ℚ).getD p.toNat 0)).2 (a / 3) (a % 3))
    = (List.range 6).map (fun (a : Nat) => haar2 false 2 3
      (fun y x => ([10, 20, 30, 1, 2, 3] : List ℚ).getD (3 * y + x) 0) (a / 3) (a % 3)) := by
  decide +kernel

/-- non-vacuity: the field of `C17_tables_error_bound_field` can be ℚ itself (the cast is then the identity), where the
hypotheses are met by the `4 × 4` delta image of the energy example (table of `D4`) -/
example : |idaubechies2 (coeffsOf 1) 4 4 (daubechies2 (coeffsOf 1) 4 4 (fun y x => if y = 2 ∧ x = 2 then (1 : ℚ) else 0)) 2 2
      - 1| ≤ ((tableTol.getD 1 0 : ℚ) : ℚ) * 1 := by
  have := C17_tables_error_bound_field (K := ℚ) 1 (by omega) 4 4 rfl rfl
    (fun y x => if y = 2 ∧ x = 2 then (1 : ℚ) else 0) 1 (by norm_num)
    (by intro y x _ _; by_cases h : y = 2 ∧ x = 2 <;> simp [h]) 2 2 (by omega) (by omega) (by omega) (by omega)
  simpa using this

/-- **C17 (the `high` reads stay in the row).** For every stride (positive, negative, zero), every length `N` (odd
included) and every sample index `i < N/2` that `ihaar` (`high[i·step]`) and `iwavelet`
(`_access(high, N1/2, i, step)`) use: the address offset `highOff step N + step·i` relative to `data` lies in
`[0, step·(N−1)]` (in `[step·(N−1), 0]` for a negative stride) — between the first and the last element of the row the
kernel was given. -/
theorem C17_high_reads_in_row (step : Int) (N i : Nat) (hi : i < N / 2) :
    (0 ≤ step → 0 ≤ Mem.highOff step N + step * (i : Int) ∧
      Mem.highOff step N + step * (i : Int) ≤ step * ((N - 1 : Nat) : Int)) ∧
    (step ≤ 0 → step * ((N - 1 : Nat) : Int) ≤ Mem.highOff step N + step * (i : Int) ∧
      Mem.highOff step N + step * (i : Int) ≤ 0) := by
  have e : Mem.highOff step N + step * (i : Int) = step * ((N / 2 + i : Nat) : Int) := by
    unfold Mem.highOff; push_cast; ring
  rw [e]
  exact Mem.mul_in_row step (by omega) (by omega)

/-- **C17 (history: the truncated pointer of the pinned tree never left the row).** The misplaced reads of the pinned
code on odd sides were reads of other elements of the same array, never out-of-bounds accesses. -/
theorem C17_high_reads_in_row_pinned (step : Int) (N i : Nat) (hi : i < N / 2) :
    (0 ≤ step → 0 ≤ Mem.highOffPinned step N + step * (i : Int) ∧
      Mem.highOffPinned step N + step * (i : Int) ≤ step * ((N - 1 : Nat) : Int)) ∧
    (step ≤ 0 → step * ((N - 1 : Nat) : Int) ≤ Mem.highOffPinned step N + step * (i : Int) ∧
      Mem.highOffPinned step N + step * (i : Int) ≤ 0) := by
  rcases Nat.mod_two_eq_zero_or_one N with hN | hN
  · rw [Mem.highOffPinned_even step N hN]
    exact C17_high_reads_in_row step N i hi
  · -- the offset is `step·q + step/2` (truncated) with `q = N/2 + i ≤ N − 2`
    have e : Mem.highOffPinned step N + step * (i : Int)
        = step * ((N / 2 + i : Nat) : Int) + step.tdiv 2 := by
      rw [Mem.highOffPinned_odd step N hN]; push_cast; ring
    rw [e]
    exact Mem.mul_add_in_row step _ (by omega) (by omega) (Mem.tdiv_two_bounds step)

/-- non-vacuity: the transposed pass over a C-contiguous `5 × 5` array (`step = 5`, `N = 5`): with the pinned pointer the two
high samples are read at offsets 12 and 17, inside `[0, 20]`, where samples 2 and 3 of the column are at 10 and 15 -/
example : Mem.highOffPinned 5 5 + 5 * 0 = 12 ∧ Mem.highOffPinned 5 5 + 5 * 1 = 17 ∧ Mem.highOff 5 5 + 5 * 0 = 10 ∧
    Mem.highOff 5 5 + 5 * 1 = 15 ∧ (5 : Int) * ((5 - 1 : Nat) : Int) = 20 := by
  decide
