/-
C15 — property theorems (the lemmas they rest on live in `Proofs/C15*.lean`).

What is proved here is about the executable model `Mahotas.C15` that the native driver runs and
that the correspondence check compares with the real `mahotas.thin` / `mahotas.euler`, and about
the tables the translator extracts from `_thin.cpp` and `euler.py` on every run.
Not proved in general (validated by the check only): that Gray's bit-quad sum equals components −
holes (exhaustive small scope + random); proved for pixels, rectangles, rings and far-apart unions
of them, with the invariances of the sum (`C15_euler_*`), and for every image of height or width 1.
-/
import Mahotas.Proofs.C15
import Mahotas.Proofs.C15Thin
import Mahotas.Proofs.C15Model
import Mahotas.Proofs.C15Idem
import Mahotas.Proofs.C15Hull
import Mahotas.Proofs.C15Graham
import Mahotas.Proofs.C15Euler
import Mahotas.Proofs.C15Cell
import Mahotas.Proofs.C15Count
import Mahotas.Proofs.C15Flood
import Mahotas.Proofs.C15Row
import Mahotas.Proofs.C15FloodPx
open Mahotas Mahotas.C15

/-- **One pass keeps the 8-connected components** — for each of the eight hit-or-miss elements that
the translator extracts from `_thin.cpp` and for every image: the surviving pixel set `B` of a pass
(all matching pixels cleared in parallel) is a subset of the pixel set `A` before the pass, two
surviving pixels are 8-connected inside `A` iff they are 8-connected inside `B`, and every pixel of
`A` is 8-connected inside `A` to a surviving pixel. Hence inclusion induces a bijection between the
8-components of `B` and those of `A`: the number of components is unchanged. -/
theorem C15_thin_pass_preserves_components (e : Elem) (he : e ∈ Generated.thinElems) (b : Bin) :
    SameComps (bset b) (bset (pass b e)) := by
  rw [bset_pass]
  exact pass_sameComps e he (bset b)

/-- **The thinning loop keeps the 8-connected components**: the same three facts relate the image
handed to `_thin.thin` (the zero-framed crop) and the image it returns, for every image and every
`max_iter`. -/
theorem C15_thin_loop_preserves_components (b : Bin) (maxIter : Int) :
    SameComps (bset b) (bset (thinCore b maxIter)) :=
  thinCore_sameComps b maxIter

/-- **Termination / fixed point.** Every iteration that changes the image clears at least one
pixel, so with `max_iter < 0` the loop of the model (fuel = number of set pixels + 1), run on a well-formed image (`b.WF`), ends in an
image that none of the eight passes changes. -/
theorem C15_thin_reaches_fixpoint (b : Bin) (hb : b.WF) (maxIter : Int) (hm : maxIter < 0) :
    Stable (thinCore b maxIter) :=
  thinCore_stable b hb maxIter hm

/-- **thin keeps the 8-connected components** — the whole model of `mahotas.thin` (bounding-box
crop, zero frame, loop with any `max_iter`, paste back), every image: with `A` the input pixel set
and `B` the output pixel set, `B ⊆ A`, two pixels of `B` are 8-connected inside `A` iff they are
inside `B`, and every pixel of `A` is 8-connected inside `A` to a pixel of `B`; i.e. inclusion is a
bijection between the 8-components of the output and of the input (same number of components). -/
theorem C15_thin_preserves_components (b : Bin) (maxIter : Int) :
    SameComps (bset b) (bset (thinModel b maxIter)) := by
  rw [thinModel_eq]
  have hcore := thinCore_sameComps (frameOf b) maxIter
  have hsh := sameComps_shift (1 - ((bbox b).1 : Int)) (1 - ((bbox b).2.2.1 : Int)) hcore
  have hA := bset_frameOf b
  have hB := bset_pasteOf b (thinCore (frameOf b) maxIter) hcore.1
  unfold toFrame at hA hB
  rw [hA, hB] at hsh
  exact hsh

/-- **thin ⊆ input.** Every pixel set in the model of `mahotas.thin` (crop to the bounding box, zero
frame, the eight-pass loop with any `max_iter`, paste back) is set in the input, for every image. -/
theorem C15_thin_subset (b : Bin) (maxIter : Int) (y x : Int)
    (h : (thinModel b maxIter).get y x = true) : b.get y x = true :=
  (C15_thin_preserves_components b maxIter).1 (show (y, x) ∈ bset (thinModel b maxIter) from h)

/-- **Thinning the result again changes nothing**: `thin(thin(x), ·) = thin(x)` for the whole model
(full skeletonisation `max_iter < 0` in the first call, any `max_iter` in the second) and every
image. (The loop's result is a fixed point; cropping it to its possibly smaller bounding box and
re-framing is a translation; passes commute with translations.) -/
theorem C15_thin_idempotent (b : Bin) (maxIter maxIter' : Int) (hm : maxIter < 0) :
    thinModel (thinModel b maxIter) maxIter' = thinModel b maxIter :=
  thinModel_idem b maxIter maxIter' hm

/-- **The eight templates are two templates and their rotations.** Each generated element has the
same members as a rotation by a multiple of 90° of generated element 0 (north edge:
`000 / ·1· / 111`) or of generated element 1 (north-east corner: `·00 / 110 / 11·`). -/
theorem C15_thin_templates_rotations :
    Generated.thinElems.all (fun e =>
      (List.range 4).any fun k =>
        [Generated.thinElems.getD 0 [], Generated.thinElems.getD 1 []].any fun base =>
          let r := (rotE^[k]) base
          e.all (fun t => r.contains t) && r.all (fun t => e.contains t)) = true := by
  decide +kernel

/-- **The Euler look-up tables are Gray's bit-quad weights.** With the generated weights
`_powers = [[1,2],[4,8]]` and denominator 4, entry `code` of `_euler_lookup8` (`_euler_lookup4`) is
`(+1, −1, ∓2, 0)/4` according to whether the quad has one pixel, three pixels, a diagonal pair, or
anything else — for all 16 codes. -/
theorem C15_euler_tables_gray :
    Generated.eulerPowers = [[1, 2], [4, 8]] ∧ Generated.eulerDen = 4 ∧
    (∀ code : Fin 16, Generated.eulerLookup8.getD code.val 0 =
      grayQuad true (quadBit code 1) (quadBit code 2) (quadBit code 4) (quadBit code 8)) ∧
    (∀ code : Fin 16, Generated.eulerLookup4.getD code.val 0 =
      grayQuad false (quadBit code 1) (quadBit code 2) (quadBit code 4) (quadBit code 8)) :=
  ⟨euler_powers, by decide, by decide, by decide⟩

/-- **The Euler model is Gray's bit-quad count.** For every image, `4·euler(f, n)` of the model
(convolution with `_powers` over the image padded by one background row and column, table look-up,
sum) equals the sum over *every* 2×2 window that meets the image — top-left corner from `(-1,-1)`
to `(rows-1, cols-1)`, background outside — of Gray's weight of that window:
`n(Q1) − n(Q3) − 2·n(QD)` for 8-connectivity and `… + 2·n(QD)` for 4-connectivity.
(That this count equals components − holes is Gray's theorem: validated, not proved.) -/
theorem C15_euler_model_is_gray_sum (b : Bin) (conn8 : Bool) : eulerModel4 b conn8 = graySum b conn8 :=
  eulerModel4_eq_graySum b conn8

/-- **Hull corners are distinct foreground pixels.** Every corner returned by the model of
`_convex.convexhull` (sort, two in-place monotone-chain scans) is a set pixel of the image, and no
corner is returned twice — for every image. -/
theorem C15_hull_corners_distinct_foreground (b : Bin) :
    (∀ p ∈ hullModel b, b.get p.1 p.2 = true) ∧ (hullModel b).Nodup :=
  ⟨fun p hp => foreground_get b p (grahamModel_subset _ p hp), grahamModel_nodup _ (foreground_nodup b)⟩

/-- **The hull model satisfies the statement's predicate** — the very predicate `hullOK` that the
check evaluates on the corners returned by the real `convexhull` — for every image: the corners of
the model (`std::sort`, forward monotone-chain scan, rotation, reverse scan on the rest) are
foreground pixels, pairwise distinct, returned iff there is a foreground pixel; every foreground
pixel (hence every corner: weak convex position) lies on one and the same side of, or on, every
directed edge of the closed corner polygon (containment); and the lexicographically smallest and
largest foreground pixels are corners. Proved from the scan's loop invariant (`ScanInv`: the stack
is strictly monotone, turns strictly one way, and every processed point lies on the inner side of
every stack edge) and one geometric lemma (`halfplane_trans`). -/
theorem C15_hull_correct (b : Bin) : hullOK (foreground b) (hullModel b) = true :=
  grahamModel_hullOK (foreground b) (foreground_nodup b)

/-- the same for an arbitrary list of distinct points handed to `inPlaceGraham` -/
theorem C15_graham_scan_correct (pts : List Pt) (hnd : pts.Nodup) : hullOK pts (grahamModel pts) = true :=
  grahamModel_hullOK pts hnd

/-- **fill_convexhull ⊇ input** for the model of `polygon.fill_convexhull` on boolean images (hull
corners, scan-line `fill_polygon` in the float arithmetic of the Python code, then
`canvas[bwimg] = 1`): every set pixel of the input is set in the result, for every image. -/
theorem C15_fill_convexhull_superset (b : Bin) (y x : Int) (h : b.get y x = true) :
    (fillHullModel b).get y x = true := by
  obtain ⟨h0, h1, h2, h3⟩ := get_inrange b y x h
  unfold fillHullModel
  simp only
  rw [Bin.get_tabulate]
  simp [h, h0, h1, h2, h3]

/-- a pass really deletes pixels: the top row of a 2×3 block matches the north-edge template -/
example : ∃ x : Px, delT e0 {p | (p.1 = 0 ∨ p.1 = 1) ∧ -1 ≤ p.2 ∧ p.2 ≤ 1} x :=
  ⟨(0, 0), (delT_e0_iff _ _).2 (by simp)⟩

example : grayQuad true true false false true = -2 ∧ grayQuad false true false false true = 2 := by decide

/-! Gray's identity (bit-quad sum = components − holes) is not proved in general. What supports it is
proved about `eulerModel4` itself (generated tables, every image size): the value
on the basic shapes (one pixel, filled rectangle: one component, no hole → 4·1; rectangular ring:
one component, one hole → 4·0), the invariances, and additivity over far-apart parts — so that
the identity holds for every image that is a far-apart union of translated/transposed rectangles
and rings. -/

/-- **A filled rectangle has Euler number 1.** An image of any size whose set pixels are exactly
the `a × b` rectangle `[y0, y0+a) × [x0, x0+b)` with `a, b ≥ 1` (necessarily inside the image) has
`eulerModel4 = 4` for both connectivities: only the four corner windows have non-zero weight. -/
theorem C15_euler_rectangle (bi : Bin) (conn8 : Bool) (y0 x0 a b : Int) (ha : 1 ≤ a) (hb : 1 ≤ b)
    (h : ∀ y x, bi.get y x = true ↔ (y0 ≤ y ∧ y < y0 + a ∧ x0 ≤ x ∧ x < x0 + b)) :
    eulerModel4 bi conn8 = 4 := by
  apply euler_rect bi conn8 y0 a x0 b ha hb
  intro y x
  rw [Bool.eq_iff_iff, h]
  simp only [rectFn, ivl, Bool.and_eq_true, decide_eq_true_eq]
  omega

/-- **A single pixel has Euler number 1.** An image of any size whose only set pixel is `(y0, x0)`
(necessarily inside the image: reads outside are `false`) has `eulerModel4 = 4` (= 4 · 1) for
8- and for 4-connectivity. -/
theorem C15_euler_single_pixel (b : Bin) (conn8 : Bool) (y0 x0 : Int)
    (h : ∀ y x, b.get y x = true ↔ (y = y0 ∧ x = x0)) : eulerModel4 b conn8 = 4 :=
  C15_euler_rectangle b conn8 y0 x0 1 1 (by omega) (by omega) fun y x => (h y x).trans (by omega)

/-- **A rectangular ring has Euler number 0.** An image of any size whose set pixels are exactly
the boundary pixels of the rectangle `[y0, y0+a) × [x0, x0+b)` with `a, b ≥ 3` (a ring of thickness
one around a hole of `(a−2) × (b−2)` pixels) has `eulerModel4 = 0` for both connectivities (one
component, one hole): four outer corner windows of weight +1, four inner corner windows with three
pixels of weight −1. -/
theorem C15_euler_frame (bi : Bin) (conn8 : Bool) (y0 x0 a b : Int) (ha : 3 ≤ a) (hb : 3 ≤ b)
    (h : ∀ y x, bi.get y x = true ↔ (y0 ≤ y ∧ y < y0 + a ∧ x0 ≤ x ∧ x < x0 + b ∧
      (y = y0 ∨ y = y0 + a - 1 ∨ x = x0 ∨ x = x0 + b - 1))) :
    eulerModel4 bi conn8 = 0 := by
  apply euler_frame bi conn8 y0 a x0 b ha hb
  intro y x
  rw [Bool.eq_iff_iff, h]
  simp only [frameFn, rectFn, ivl, Bool.and_eq_true, Bool.not_eq_true', decide_eq_true_eq,
    Bool.and_eq_false_iff, decide_eq_false_iff_not]
  omega

/-- **Translation invariance.** If `b'` is `b` translated by `(dy, dx)` — possibly onto a canvas
of another size; since reads outside a canvas are `false`, the hypothesis says that no set pixel is
lost — then the bit-quad sums agree, for both connectivities. -/
theorem C15_euler_translation_invariant (b b' : Bin) (conn8 : Bool) (dy dx : Int)
    (h : ∀ y x, b'.get (y + dy) (x + dx) = b.get y x) : eulerModel4 b' conn8 = eulerModel4 b conn8 :=
  euler_reindex b b' conn8 (fun p => (p.1 + dy, p.2 + dx)) (fun p => (p.1 - dy, p.2 - dx))
    (fun p => Prod.ext (by simp) (by simp)) (fun p => Prod.ext (by simp) (by simp)) fun p => by
      show qw conn8 b'.get (p.1 + dy) (p.2 + dx) = _
      unfold qw
      rw [show p.1 + dy + 1 = p.1 + 1 + dy by omega, show p.2 + dx + 1 = p.2 + 1 + dx by omega, h, h, h, h]

/-- **Transposition invariance.** If `b'` is the transpose of `b` then the bit-quad sums agree, for
both connectivities (Gray's weights are symmetric under swapping the two off-diagonal pixels). -/
theorem C15_euler_transpose_invariant (b b' : Bin) (conn8 : Bool)
    (h : ∀ y x, b'.get y x = b.get x y) : eulerModel4 b' conn8 = eulerModel4 b conn8 :=
  euler_transpose b b' conn8 h

/-- **Additivity over far-apart parts.** If `u` is the pixelwise union of `b1` and `b2` (canvases
of any sizes) and every set pixel of `b1` is at Chebyshev distance ≥ 2 from every set pixel of `b2`
(they are neither equal nor 8-neighbours, so no 2×2 window meets both), then the bit-quad sum of
the union is the sum of the two bit-quad sums, for both connectivities. -/
theorem C15_euler_additive_far_apart (b1 b2 u : Bin) (conn8 : Bool)
    (hu : ∀ y x, u.get y x = (b1.get y x || b2.get y x))
    (hfar : ∀ y1 x1 y2 x2, b1.get y1 x1 = true → b2.get y2 x2 = true →
      (y1 + 1 < y2 ∨ y2 + 1 < y1 ∨ x1 + 1 < x2 ∨ x2 + 1 < x1)) :
    eulerModel4 u conn8 = eulerModel4 b1 conn8 + eulerModel4 b2 conn8 :=
  euler_additive b1 b2 u conn8 hu (sep_of_far _ _ hfar)

/-- **Additivity over parts separated by an empty row or column.** If `u` is the pixelwise union
of `b1` and `b2` (canvases of any sizes) and some row `k` separates them (every set pixel of `b1`
has row `< k`, every set pixel of `b2` has row `> k`) or some column `k` does, then
`eulerModel4 u = eulerModel4 b1 + eulerModel4 b2`, for both connectivities. -/
theorem C15_euler_additive_disjoint (b1 b2 u : Bin) (conn8 : Bool)
    (hu : ∀ y x, u.get y x = (b1.get y x || b2.get y x))
    (hsep : (∃ k : Int, (∀ y x, b1.get y x = true → y < k) ∧ (∀ y x, b2.get y x = true → k < y)) ∨
      (∃ k : Int, (∀ y x, b1.get y x = true → x < k) ∧ (∀ y x, b2.get y x = true → k < x))) :
    eulerModel4 u conn8 = eulerModel4 b1 conn8 + eulerModel4 b2 conn8 :=
  euler_additive b1 b2 u conn8 hu <| hsep.elim (fun ⟨k, h1, h2⟩ => sep_of_rows _ _ k h1 h2)
    fun ⟨k, h1, h2⟩ => sep_of_cols _ _ k h1 h2

example : eulerModel4 (Bin.ofInts 1 1 [1]) true = 4 ∧ eulerModel4 (Bin.ofInts 1 1 [1]) false = 4 := by decide
example : eulerModel4 (Bin.ofInts 2 2 [1, 1, 1, 1]) true = 4 ∧ eulerModel4 (Bin.ofInts 2 2 [1, 1, 1, 1]) false = 4 := by
  decide
example : eulerModel4 (Bin.ofInts 3 3 [1, 1, 1, 1, 0, 1, 1, 1, 1]) true = 0 ∧
    eulerModel4 (Bin.ofInts 3 3 [1, 1, 1, 1, 0, 1, 1, 1, 1]) false = 0 := by decide +kernel
example : eulerModel4 (Bin.ofInts 1 3 [1, 0, 1]) true = 8 ∧ eulerModel4 (Bin.ofInts 1 3 [1, 0, 1]) false = 8 := by
  decide
/-- the far-apart hypothesis is needed: two diagonal neighbours are one 8-component (4) but two
    4-components (8) -/
example : eulerModel4 (Bin.ofInts 2 2 [1, 0, 0, 1]) true = 4 ∧ eulerModel4 (Bin.ofInts 2 2 [1, 0, 0, 1]) false = 8 := by
  decide

/-- the hypotheses are satisfiable: a 3×4 rectangle at (1, 2) inside a 5×7 canvas -/
example (c : Bool) : eulerModel4 (Bin.tabulate 5 7 fun y x => decide (1 ≤ y ∧ y < 4 ∧ 2 ≤ x ∧ x < 6)) c = 4 :=
  C15_euler_rectangle _ c 1 2 3 4 (by omega) (by omega) fun y x =>
    (Bin.get_tabulate_decide _ _ _ y x).trans (by omega)

/-- a 4×5 ring at (1, 1) inside a 6×7 canvas -/
example (c : Bool) : eulerModel4 (Bin.tabulate 6 7 fun y x =>
    decide (1 ≤ y ∧ y < 5 ∧ 1 ≤ x ∧ x < 6 ∧ (y = 1 ∨ y = 4 ∨ x = 1 ∨ x = 5))) c = 0 :=
  C15_euler_frame _ c 1 1 4 5 (by omega) (by omega) fun y x =>
    (Bin.get_tabulate_decide _ _ _ y x).trans (by omega)

/-- one pixel at (2, 3) of a 4×5 canvas -/
example (c : Bool) : eulerModel4 (Bin.tabulate 4 5 fun y x => decide (y = 2 ∧ x = 3)) c = 4 :=
  C15_euler_single_pixel _ c 2 3 fun y x =>
    (Bin.get_tabulate_decide _ _ _ y x).trans (by omega)

/-- translation onto a canvas of another size, transposition, and a union across an empty column:
    a rectangle and a ring side by side have bit-quad sum 4 + 0 -/
example (c : Bool) (f : Int → Int → Bool) :
    eulerModel4 (Bin.tabulate 9 8 fun y x => f (y - 2) (x - 1) && decide (2 ≤ y ∧ y < 5 ∧ 1 ≤ x ∧ x < 5)) c =
      eulerModel4 (Bin.tabulate 3 4 f) c :=
  C15_euler_translation_invariant _ _ c 2 1 (by
    intro y x
    rw [Bin.get_tabulate, Bin.get_tabulate]
    have e1 : y + 2 - 2 = y := by omega
    have e2 : x + 1 - 1 = x := by omega
    rw [e1, e2]
    cases f y x
    · simp
    · rw [Bool.eq_iff_iff]
      simp only [Bool.and_eq_true, decide_eq_true_eq, true_and, and_true]
      omega)

example (c : Bool) (f : Int → Int → Bool) :
    eulerModel4 (Bin.tabulate 4 3 fun y x => f x y) c = eulerModel4 (Bin.tabulate 3 4 f) c :=
  C15_euler_transpose_invariant _ _ c (by
    intro y x
    rw [Bin.get_tabulate, Bin.get_tabulate]
    cases f x y
    · simp
    · rw [Bool.eq_iff_iff]
      simp only [Bool.and_eq_true, decide_eq_true_eq, and_true]
      omega)

example (c : Bool) :
    eulerModel4 (Bin.tabulate 3 6 fun y x =>
      decide (x < 2) || decide (3 ≤ x ∧ (y = 0 ∨ y = 2 ∨ x = 3 ∨ x = 5))) c = 4 + 0 := by
  rw [C15_euler_additive_disjoint (Bin.tabulate 3 2 fun _ _ => true)
    (Bin.tabulate 3 6 fun y x => decide (3 ≤ x ∧ (y = 0 ∨ y = 2 ∨ x = 3 ∨ x = 5))) _ c ?_ (Or.inr ⟨2, ?_, ?_⟩)]
  · congr 1
    · exact C15_euler_rectangle _ c 0 0 3 2 (by omega) (by omega) (by
        intro y x
        rw [Bin.get_tabulate]
        simp only [Bool.and_eq_true, decide_eq_true_eq, and_true]
        omega)
    · exact C15_euler_frame _ c 0 3 3 3 (by omega) (by omega) fun y x =>
        (Bin.get_tabulate_decide _ _ _ y x).trans (by omega)
  · intro y x
    rw [Bool.eq_iff_iff]
    simp only [Bin.get_tabulate, Bool.and_eq_true, Bool.or_eq_true, decide_eq_true_eq, and_true]
    omega
  · intro y x
    simp only [Bin.get_tabulate, Bool.and_eq_true, decide_eq_true_eq, and_true]
    omega
  · intro y x
    simp only [Bin.get_tabulate, Bool.and_eq_true, decide_eq_true_eq]
    omega

/-- **The bit-quad sum is four times the Euler characteristic `V − E + F` of a cell complex** — for every image
and both conventions, about `eulerModel4` itself. `F = pixelsN` counts the set pixels; for 8-connectivity
(`conn8 = true`, closed unit squares) `E = edgesN` counts the unit edges and `V = verticesN` the lattice vertices
adjacent to *some* set pixel; for 4-connectivity an edge (vertex) counts iff *both* (all four) adjacent pixels are set
(`cop`), all read with background outside the image. The identity is local double counting (every pixel lies in four
2×2 windows, every edge in two, every vertex in one; `grayQuad_cells` checks Gray's weights against
`4·[vertex] − 2·[edges] + [pixels]` for all 32 cases). Gray's identity `euler = components − holes` is thereby
reduced to the Euler–Poincaré formula `V − E + F = b₀ − b₁` for this planar complex, which is **not** proved
(validated exhaustively on small images and randomly). -/
theorem C15_euler_cell_complex (b : Bin) (conn8 : Bool) :
    eulerModel4 b conn8 = 4 * (verticesN conn8 b - edgesN conn8 b + pixelsN b) := by
  rw [eulerModel4_eq_E_box]
  unfold E
  simp only [qw_cells]
  simp only [Finset.sum_add_distrib, Finset.sum_sub_distrib, ← Finset.mul_sum]
  rw [sum_eh_shift, sum_ev_shift, sum_pix_shift b (0, 1) (by simp), sum_pix_shift b (1, 0) (by simp),
    sum_pix_shift b (1, 1) (by simp)]
  unfold verticesN edgesN pixelsN
  rw [Finset.sum_add_distrib]
  ring

/-- one pixel: 4 vertices, 4 edges, 1 face (8-conn.) / 0 vertices, 0 edges, 1 pixel (4-conn.);
    a diagonal pair: 7 − 8 + 2 = 1 (8-conn.) and 0 − 0 + 2 = 2 (4-conn.) -/
example : verticesN true (Bin.ofInts 1 1 [1]) = 4 ∧ edgesN true (Bin.ofInts 1 1 [1]) = 4 ∧
    pixelsN (Bin.ofInts 1 1 [1]) = 1 ∧ verticesN false (Bin.ofInts 1 1 [1]) = 0 ∧
    verticesN true (Bin.ofInts 2 2 [1, 0, 0, 1]) = 7 ∧ edgesN true (Bin.ofInts 2 2 [1, 0, 0, 1]) = 8 ∧
    edgesN false (Bin.ofInts 2 2 [1, 0, 0, 1]) = 0 := by
  decide +kernel

/-- **thin keeps the NUMBER of 8-connected components** — literally: `Comps A` is the set of 8-connected components of
the pixel set `A` (the quotient of `A` by 8-connectivity inside `A`); for every image and every `max_iter` the component
sets of the input and of the model of `mahotas.thin` have the same (finite) cardinality, and so have the pixel sets
before and after every single pass and before and after the loop. (`SameComps A B` gives the bijection
`Comps B → Comps A` induced by the inclusion: `compMap_bijective`.) -/
theorem C15_thin_same_number_of_components (b : Bin) (maxIter : Int) :
    Nat.card (Comps (bset (thinModel b maxIter))) = Nat.card (Comps (bset b)) ∧
    Finite (Comps (bset b)) ∧ Finite (Comps (bset (thinModel b maxIter))) ∧
    Nat.card (Comps (bset (thinCore b maxIter))) = Nat.card (Comps (bset b)) ∧
    (∀ e ∈ Generated.thinElems, Nat.card (Comps (bset (pass b e))) = Nat.card (Comps (bset b))) :=
  ⟨(C15_thin_preserves_components b maxIter).card_eq, comps_finite b, comps_finite _,
   (thinCore_sameComps b maxIter).card_eq,
   fun e he => (C15_thin_pass_preserves_components e he b).card_eq⟩

/-- **The flood-fill oracle counts the connected components** — for every `rows`, `cols`, every mask array (reads
outside the array are `false`; no size hypothesis is needed) and both connectivities. The graph: a vertex
(`IsV rows cols mask i`) is a flat index `i < rows * cols` with `mask[i] = true`; `adjIdx rows cols conn8 i j` says
that `j`'s (row, column) is `i`'s (row `i / cols`, column `i % cols`) plus one of the offsets of `neigh conn8`
(the 8 or the 4 neighbours), inside the box `[0, rows) × [0, cols)` (`tgt`, the model's own index arithmetic);
`IConn` is the reflexive-transitive closure of "adjacent vertices" (it is symmetric: `IConn.symm`). Claim: there is a
duplicate-free list `seeds` whose **length is the first component of `countComps`**, whose members are exactly the
set pixels that are the smallest index of their connected component (one canonical representative per component), and
every set pixel is connected to exactly one member. Hence `(countComps rows cols mask conn8).1` is the number of
connected components (`Proofs/C15Flood.lean`). -/
theorem C15_components_count (rows cols : Nat) (mask : Array Bool) (conn8 : Bool) :
    ∃ seeds : List Nat, seeds.Nodup ∧ seeds.length = (countComps rows cols mask conn8).1 ∧
      (∀ i, i ∈ seeds ↔ (IsV rows cols mask i ∧ ∀ j, IConn rows cols mask conn8 i j → i ≤ j)) ∧
      (∀ k, IsV rows cols mask k → ∃! s, s ∈ seeds ∧ IConn rows cols mask conn8 s k) := by
  obtain ⟨seeds, _, h1, h2, h3, h4, _⟩ := countComps_spec rows cols mask conn8
  exact ⟨seeds, h1, h2, h3, h4⟩

/-- **`components b conn8` is the number of `conn8`-connected components of the foreground of `b`** (the oracle used by
the correspondence check for the thinning outputs and for `eulerSpec`): the statement of `C15_components_count` for
the image's own `rows`, `cols`, `data`. -/
theorem C15_components_count_bin (b : Bin) (conn8 : Bool) :
    ∃ seeds : List Nat, seeds.Nodup ∧ seeds.length = components b conn8 ∧
      (∀ i, i ∈ seeds ↔ (IsV b.rows b.cols b.data i ∧ ∀ j, IConn b.rows b.cols b.data conn8 i j → i ≤ j)) ∧
      (∀ k, IsV b.rows b.cols b.data k → ∃! s, s ∈ seeds ∧ IConn b.rows b.cols b.data conn8 s k) :=
  C15_components_count b.rows b.cols b.data conn8

/-- **The second counter counts the components that meet the image border**: there is a duplicate-free list whose
length is `(countComps rows cols mask conn8).2` and whose members are exactly the canonical representatives (smallest
index of the component) of those components that contain a pixel `k` in row 0, column 0, the last row or the last
column (`bdr rows cols k`). -/
theorem C15_components_border_count (rows cols : Nat) (mask : Array Bool) (conn8 : Bool) :
    ∃ touching : List Nat, touching.Nodup ∧ touching.length = (countComps rows cols mask conn8).2 ∧
      (∀ s, s ∈ touching ↔ ((IsV rows cols mask s ∧ ∀ j, IConn rows cols mask conn8 s j → s ≤ j) ∧
        ∃ k, IConn rows cols mask conn8 s k ∧ bdr rows cols k = true)) := by
  obtain ⟨_, seeds2, _, _, _, _, h5, h6, h7⟩ := countComps_spec rows cols mask conn8
  exact ⟨seeds2, h5, h6, h7⟩

/-- **`holes b conn8` is the number of `conn8`-connected components of the background that do not meet the image
border**: the background mask is `b.data.map (!·)` (for a well-formed image, `b.data.size = b.rows * b.cols`, its
vertices are exactly the unset pixels of the box); there is a duplicate-free list of length `holes b conn8` whose members
are exactly the canonical representatives of the background components containing no border pixel. -/
theorem C15_holes_count (b : Bin) (conn8 : Bool) :
    ∃ inner : List Nat, inner.Nodup ∧ inner.length = holes b conn8 ∧
      (∀ s, s ∈ inner ↔ ((IsV b.rows b.cols (b.data.map (!·)) s ∧
          ∀ j, IConn b.rows b.cols (b.data.map (!·)) conn8 s j → s ≤ j) ∧
        ¬ ∃ k, IConn b.rows b.cols (b.data.map (!·)) conn8 s k ∧ bdr b.rows b.cols k = true)) :=
  countComps_inner b.rows b.cols (b.data.map (!·)) conn8

/-- the background mask of a well-formed image: inside the box a pixel is a background vertex iff it is not set -/
theorem C15_background_vertex (b : Bin) (hwf : b.data.size = b.rows * b.cols) (k : Nat) :
    IsV b.rows b.cols (b.data.map (!·)) k ↔ (k < b.rows * b.cols ∧ b.data.getD k false = false) := by
  unfold IsV mk
  refine and_congr_right fun h1 => ?_
  have : k < b.data.size := by omega
  simp [Array.getD_eq_getD_getElem?, this]

/-- **`eulerSpec` is (number of foreground components) − (number of background components in the dual connectivity
that do not meet the border)**, with both numbers given as lengths of duplicate-free lists of canonical
representatives. -/
theorem C15_eulerSpec_count (b : Bin) (conn8 : Bool) :
    ∃ comps inner : List Nat, comps.Nodup ∧ inner.Nodup ∧
      eulerSpec b conn8 = (comps.length : Int) - (inner.length : Int) ∧
      (∀ i, i ∈ comps ↔ (IsV b.rows b.cols b.data i ∧ ∀ j, IConn b.rows b.cols b.data conn8 i j → i ≤ j)) ∧
      (∀ s, s ∈ inner ↔ ((IsV b.rows b.cols (b.data.map (!·)) s ∧
          ∀ j, IConn b.rows b.cols (b.data.map (!·)) (!conn8) s j → s ≤ j) ∧
        ¬ ∃ k, IConn b.rows b.cols (b.data.map (!·)) (!conn8) s k ∧ bdr b.rows b.cols k = true)) := by
  obtain ⟨comps, h1, h2, h3, _⟩ := C15_components_count_bin b conn8
  obtain ⟨inner, g1, g2, g3⟩ := C15_holes_count b (!conn8)
  exact ⟨comps, inner, h1, g1, by unfold eulerSpec; rw [h2, g2], h3, g3⟩

/-- non-vacuity: the diagonal pair `[[1,0],[0,1]]` is one 8-component and two 4-components, all touching the border;
    its pixels 0 and 3 are joined by an edge for 8-connectivity (`IConn`) and are not adjacent for 4-connectivity;
    the 3×3 ring has one component and one hole (4-connected background); with the corner pixel `(0,0)` removed the
    centre is still a hole for the 4-connected background (the gap is diagonal) but not for the 8-connected one. -/
example : countComps 2 2 #[true, false, false, true] true = (1, 1) ∧
    countComps 2 2 #[true, false, false, true] false = (2, 2) ∧
    components (Bin.ofInts 3 3 [1, 1, 1, 1, 0, 1, 1, 1, 1]) true = 1 ∧
    holes (Bin.ofInts 3 3 [1, 1, 1, 1, 0, 1, 1, 1, 1]) false = 1 ∧
    eulerSpec (Bin.ofInts 3 3 [1, 1, 1, 1, 0, 1, 1, 1, 1]) true = 0 ∧
    holes (Bin.ofInts 3 3 [0, 1, 1, 1, 0, 1, 1, 1, 1]) false = 1 ∧
    holes (Bin.ofInts 3 3 [0, 1, 1, 1, 0, 1, 1, 1, 1]) true = 0 := by
  decide +kernel

example : IConn 2 2 #[true, false, false, true] true 0 3 ∧ ¬ adjIdx 2 2 false 0 3 := by
  refine ⟨Relation.ReflTransGen.single ⟨⟨by decide, by decide⟩, ⟨by decide, by decide⟩, (1, 1), by decide, by decide⟩, ?_⟩
  rintro ⟨d, hd, ht⟩
  revert ht
  revert d
  decide

/-- **The edges of the counted graph in pixel coordinates** (both connectivities): for a flat index `j` inside the box,
`adjIdx rows cols conn8 i j` holds iff (row of `j` − row of `i`, column of `j` − column of `i`) is one of the offsets
of `neigh conn8`, with row `= index / cols` and column `= index % cols`. So the graph of `C15_components_count` is the
usual 8- (4-) neighbourhood graph on the set pixels of the `rows × cols` box. -/
theorem C15_flood_graph_coordinates (rows cols : Nat) (conn8 : Bool) (i j : Nat) (hj : j < rows * cols) :
    adjIdx rows cols conn8 i j ↔
      (((j / cols : Nat) : Int) - ((i / cols : Nat) : Int), ((j % cols : Nat) : Int) - ((i % cols : Nat) : Int))
        ∈ neigh conn8 :=
  adjIdx_iff hj

/-- **For 8-connectivity the oracle counts the classes of `Conn (bset b)`** — the very connectivity relation
(`adj8` on pixels `(row, column) : ℤ × ℤ`, chains inside the pixel set `bset b` of the image) that the thinning theorems
`C15_thin_pass_preserves_components` … speak about: there is a duplicate-free list of `components b true` flat indices of
set pixels such that every pixel of `bset b` is `Conn (bset b)`-connected to the pixel (`pxOf`: row `s / cols`, column
`s % cols`) of exactly one member. Hence `components b true` is the number of 8-connected components of `bset b`, and
the `nin = nout` comparison of the check compares exactly the quantity that `SameComps` preserves. -/
theorem C15_components_count_pixels (b : Bin) :
    ∃ seeds : List Nat, seeds.Nodup ∧ seeds.length = components b true ∧
      (∀ s ∈ seeds, s < b.rows * b.cols ∧ pxOf b.cols s ∈ bset b) ∧
      (∀ p ∈ bset b, ∃! s, s ∈ seeds ∧ Conn (bset b) (pxOf b.cols s) p) := by
  obtain ⟨seeds, h1, h2, h3, h4⟩ := C15_components_count_bin b true
  refine ⟨seeds, h1, h2, fun s hs => (isV_iff b s).mp ((h3 s).mp hs).1, ?_⟩
  intro p hp
  obtain ⟨hV, e⟩ := isV_idxOf b hp
  obtain ⟨s, ⟨hs1, hs2⟩, huniq⟩ := h4 _ hV
  refine ⟨s, ⟨hs1, ?_⟩, ?_⟩
  · have := ((IConn_iff_Conn b ((h3 s).mp hs1).1).mp hs2).2
    rwa [e] at this
  · rintro s' ⟨hs1', hs2'⟩
    apply huniq
    refine ⟨hs1', (IConn_iff_Conn b ((h3 s').mp hs1').1).mpr ⟨hV.1, ?_⟩⟩
    rw [e]; exact hs2'

/-- non-vacuity: in the 2×2 diagonal pair the pixels `(0,0)` and `(1,1)` form one class of `Conn (bset b)`, and the
    oracle says 1 -/
example : components (Bin.ofInts 2 2 [1, 0, 0, 1]) true = 1 ∧
    Conn (bset (Bin.ofInts 2 2 [1, 0, 0, 1])) (0, 0) (1, 1) := by
  refine ⟨by decide +kernel, Relation.ReflTransGen.single
    ⟨show (Bin.ofInts 2 2 [1, 0, 0, 1]).get 0 0 = true by decide,
     show (Bin.ofInts 2 2 [1, 0, 0, 1]).get 1 1 = true by decide, ?_⟩⟩
  rw [adj8_iff]
  decide

/-- **Images with the same 8-components get the same count from the oracle**: if `SameComps (bset a) (bset b)` (the
pixel set of `b` lies in that of `a`, connectivity between pixels of `b` is the same in both, every pixel of `a` is
connected to one of `b` — the relation the thinning theorems establish) then `components a true = components b true`.
(Each of the two systems of representatives of `C15_components_count_pixels` has as many members as its image has
components, `IsSDR.length_eq_card`, and `SameComps` gives a bijection of the components.) -/
theorem C15_components_eq_of_sameComps (a b : Bin) (h : SameComps (bset a) (bset b)) :
    components a true = components b true := by
  obtain ⟨la, a1, a2, a3, a4⟩ := C15_components_count_pixels a
  obtain ⟨lb, b1, b2, b3, b4⟩ := C15_components_count_pixels b
  rw [← a2, ← b2]
  exact sdr_length_eq h ⟨a1, fun s hs => (a3 s hs).2, a4⟩ ⟨b1, fun s hs => (b3 s hs).2, b4⟩

/-- **`thin` keeps the number of 8-connected components as counted by the oracle** — the `nin = nout` comparison of the
correspondence check, proved for the model and every image and every `max_iter`:
`components (thinModel b maxIter) true = components b true`
(from `C15_thin_preserves_components` and `C15_components_eq_of_sameComps`). -/
theorem C15_thin_components_count (b : Bin) (maxIter : Int) :
    components (thinModel b maxIter) true = components b true :=
  (C15_components_eq_of_sameComps b (thinModel b maxIter) (C15_thin_preserves_components b maxIter)).symm

/-- non-vacuity: a filled 3×3 square thins to fewer pixels and keeps its single component -/
example : components (Bin.ofInts 3 3 [1, 1, 1, 1, 1, 1, 1, 1, 1]) true = 1 ∧
    (thinModel (Bin.ofInts 3 3 [1, 1, 1, 1, 1, 1, 1, 1, 1])).count < 9 ∧
    components (thinModel (Bin.ofInts 3 3 [1, 1, 1, 1, 1, 1, 1, 1, 1])) true = 1 := by
  have h : components (Bin.ofInts 3 3 [1, 1, 1, 1, 1, 1, 1, 1, 1]) true = 1 := by decide +kernel
  exact ⟨h, by decide +kernel, (C15_thin_components_count _ _).trans h⟩

/-- **The oracle's count is the cardinality of the set of components**: `components b true` (the flood-fill counter the
check evaluates on inputs and real outputs) equals `Nat.card (Comps (bset b))`, the number of classes of 8-connectivity
on the pixel set — for every image. (From the system of distinct representatives of `C15_components_count_pixels`: the
map `s ↦ ⟦pxOf s⟧` from the seeds to the components is a bijection.) With `C15_thin_same_number_of_components` this is
`components (thin b) = components b` once more, through the quotient. -/
theorem C15_components_eq_card (b : Bin) : components b true = Nat.card (Comps (bset b)) := by
  obtain ⟨seeds, hnd, hlen, hmem, huniq⟩ := C15_components_count_pixels b
  rw [← hlen]
  exact IsSDR.length_eq_card ⟨hnd, fun s hs => (hmem s hs).2, huniq⟩

/-- non-vacuity: the one-pixel image has exactly one component -/
example : Nat.card (Comps (bset (Bin.ofInts 1 1 [1]))) = 1 :=
  (C15_components_eq_card _).symm.trans (by decide +kernel)

/-- reading through `ignore` (an out-of-image element is skipped = contributes weight 0) is reading background outside -/
theorem C15_getMode_ignore (b : C15.Bin) (y x : Int) : C15.getMode b .ignore y x = b.get y x := by
  unfold C15.getMode fixOffset
  by_cases hy : y < 0 ∨ y ≥ (b.rows : Int)
  · simp [hy, get_false_outside b y x (by omega)]
  · by_cases hx : x < 0 ∨ x ≥ (b.cols : Int)
    · simp [hy, hx, get_false_outside b y x (by omega)]
    · simp [hy, hx]

/-- every mode reads the pixel itself inside the image -/
theorem C15_getMode_inside (b : C15.Bin) (m : Mode) (y x : Int)
    (hy : 0 ≤ y ∧ y < (b.rows : Int)) (hx : 0 ≤ x ∧ x < (b.cols : Int)) : C15.getMode b m y x = b.get y x := by
  have h1 : ¬ y < 0 := by omega
  have h2 : ¬ y ≥ (b.rows : Int) := by omega
  have h3 : ¬ x < 0 := by omega
  have h4 : ¬ x ≥ (b.cols : Int) := by omega
  cases m <;> simp [C15.getMode, fixOffset, h1, h2, h3, h4]

/-- **C15 (`euler`, the `mode` argument).** `eulerMode4` is the model of `euler(f, n, mode)` for all six border modes (compared
with the real call for every mode by the check). The default `constant` is the padded sum `eulerModel4` the statement is about;
`ignore` is the *unpadded* sum `eulerPinned4` (only the windows ending inside the image, background outside; the real code
pads a background row and column in the `constant` mode only), and for every mode the value only depends on reads of row /
column `-1` through `fixOffset`: inside the image all modes read the pixel itself. -/
theorem C15_euler_mode (b : C15.Bin) (conn8 : Bool) :
    C15.eulerMode4 b conn8 .constant = C15.eulerModel4 b conn8 ∧
    C15.eulerMode4 b conn8 .ignore = C15.eulerPinned4 b conn8 := by
  refine ⟨rfl, ?_⟩
  have hq : ∀ y x, C15.quadCodeMode b .ignore y x = C15.quadCode b y x := by
    intro y x
    unfold C15.quadCodeMode C15.quadCode
    simp only [C15_getMode_ignore]
  simp only [C15.eulerMode4, C15.eulerPinned4, hq]

/-! non-vacuity: the 2×2 block is 1 component (4/4) in the default mode; unpadded (`ignore`) only the top-left window counts
    (1/4, what the real code returns); `wrap` sees a torus entirely covered (0); `nearest` a quarter plane entirely set (0) -/
example :
    let b := C15.Bin.ofInts 2 2 [1, 1, 1, 1]
    C15.eulerMode4 b true .constant = 4 ∧ C15.eulerMode4 b true .ignore = 1 ∧
    C15.eulerMode4 b true .wrap = 0 ∧ C15.eulerMode4 b true .nearest = 0 ∧
    C15.getMode b .mirror (-1) 0 = true ∧ C15.getMode (C15.Bin.ofInts 2 1 [0, 1]) .mirror (-1) 0 = true ∧
    C15.getMode (C15.Bin.ofInts 2 1 [0, 1]) .reflect (-1) 0 = false := by decide

/-- the loop composes: `n + k` rounds are `k` rounds after `n` rounds (an early exit leaves a stable image) -/
theorem C15_thinLoop_add (n k : Nat) (b : C15.Bin) (hb : b.WF) :
    C15.thinLoop (n + k) b = C15.thinLoop k (C15.thinLoop n b) := by
  induction n generalizing b with
  | zero => rw [Nat.zero_add]; rfl
  | succ n ih =>
    rw [show n + 1 + k = (n + k) + 1 by omega]
    by_cases hs : C15.Stable b
    · rw [C15.thinLoop_succ_of_stable _ hs, C15.thinLoop_succ_of_stable _ hs, C15.iter_eq_of_stable b hb hs]
      exact (C15.thinLoop_eq_of_stable k b hb hs).symm
    · rw [C15.thinLoop_succ_of_not_stable _ hs, C15.thinLoop_succ_of_not_stable _ hs]
      exact ih (C15.iter b) (C15.iter_shape b hb).2.2

/-- **C15 (`thin`, the `max_iter` argument).** `while (any_change && (max_iter < 0 || n++ < max_iter))`: for
`max_iter ≥ 0` and a well-formed image (`b.WF`) the model runs exactly the loop with fuel `max_iter` — at most `max_iter` rounds of the eight passes, stopping
early at a fixed point; the internal cap `count + 1` never binds (more fuel than pixels changes nothing). Consequences:
`max_iter = 0` returns the image unchanged; every `max_iter > count` (and every negative one) gives the full thinning; and
the result for `max_iter + k` is the result of `k` more rounds on the result for `max_iter`. -/
theorem C15_thin_max_iter (b : C15.Bin) (hb : b.WF) (m : Nat) :
    C15.thinCore b (m : Int) = C15.thinLoop m b ∧
    C15.thinCore b 0 = b ∧
    (b.count < m → C15.thinCore b (m : Int) = C15.thinCore b (-1)) ∧
    (∀ k : Nat, C15.thinCore b ((m + k : Nat) : Int) = C15.thinLoop k (C15.thinCore b (m : Int))) := by
  have full : ∀ n : Nat, b.count + 1 ≤ n → C15.thinLoop n b = C15.thinLoop (b.count + 1) b := by
    intro n hn
    obtain ⟨k, rfl⟩ : ∃ k, n = (b.count + 1) + k := ⟨n - (b.count + 1), by omega⟩
    rw [C15_thinLoop_add _ _ _ hb]
    exact C15.thinLoop_eq_of_stable k _ (C15.thinLoop_wf _ b hb) (C15.thinLoop_stable _ b hb (by omega))
  have core : ∀ n : Nat, C15.thinCore b (n : Int) = C15.thinLoop n b := by
    intro n
    unfold C15.thinCore
    have : ¬ ((n : Int) < 0) := by omega
    simp only [this, if_false, Int.toNat_natCast]
    rcases Nat.le_total (b.count + 1) n with h | h
    · rw [Nat.min_eq_left h]; exact (full n h).symm
    · rw [Nat.min_eq_right h]
  refine ⟨core m, ?_, ?_, ?_⟩
  · have := core 0
    simpa [C15.thinLoop] using this
  · intro h
    rw [core m, full m (by omega)]
    unfold C15.thinCore
    simp
  · intro k
    rw [core (m + k), core m, C15_thinLoop_add _ _ _ hb]

/-- **C15 (`thin`: control structure tied to the source).** What `thinModel` / `thinCore` / `thinLoop` transliterate,
re-extracted on every run: `thin.py` — result `zeros_like`, `bbox`, a `(r+2, c+2)` zero frame with the crop pasted at
`[1:r+1, 1:c+1]`, the native call with `int(max_iter)`, the paste back into `[min0:max0, min1:max1]`; `_thin.cpp: py_thin` —
`any_change = true; n = 0; while (any_change && ((max_iter < 0) || n++ < max_iter))`, `any_change = false` at the head of a round,
the `for` over all `Nr_Elements` elements in order with `fast_hitmiss(array, elems[i], buffer)` followed by the clearing loop over
all `N = PyArray_SIZE(array)` cells (`if (*pb && *pa)`), and the eight `fill_data` calls (`C15_thin_templates_rotations`).
A changed frame width, slice, loop bound or stop condition breaks this proof. -/
theorem C15_thin_structure_source_tie :
    Generated.thinPyParams = ["binimg", "max_iter", "=-1"] ∧
    Generated.thinPyBody =
      ["res = np.zeros_like(binimg)", "min0, max0, min1, max1 = bbox(binimg)", "r, c = (max0 - min0, max1 - min1)",
       "image_exp = np.zeros((r + 2, c + 2), bool)", "image_exp[1:r + 1, 1:c + 1] = binimg[min0:max0, min1:max1]",
       "imagebuf = np.empty((r + 2, c + 2), bool)", "_thin(image_exp, imagebuf, int(max_iter))",
       "res[min0:max0, min1:max1] = image_exp[1:r + 1, 1:c + 1]", "return res"] ∧
    Generated.thinLoopInit = ["N = PyArray_SIZE(array)", "any_change = true", "n = 0"] ∧
    Generated.thinLoopCond = "any_change && ((max_iter < 0) || n++ < max_iter)" ∧
    Generated.thinLoopSkeleton =
      ["any_change = false", "for i in [0, Nr_Elements)", "fast_hitmiss(array, elems[i], buffer)", "for j in [0, N)", "if (*pb && *pa)"] ∧
    Generated.thinElems.length = 8 :=
  ⟨rfl, rfl, rfl, rfl, rfl, rfl⟩

/-! non-vacuity: on a filled 3×3 block in its frame one round changes the image, `max_iter = 0` does not, and two rounds are
    one round after one round -/
set_option maxRecDepth 8000 in
example :
    let b := C15.Bin.ofInts 5 5 [0,0,0,0,0, 0,1,1,1,0, 0,1,1,1,0, 0,1,1,1,0, 0,0,0,0,0]
    (C15.thinCore b 0).data = b.data ∧ (C15.thinCore b 1).data ≠ b.data ∧
    (C15.thinCore b 2).data = (C15.thinLoop 1 (C15.thinCore b 1)).data := by
  intro b
  obtain ⟨_, h0, _, hk⟩ := C15_thin_max_iter b (show _ = _ from rfl) 1
  exact ⟨congrArg _ h0, by decide +kernel, congrArg _ (hk 1)⟩

/-- **C15 (`euler`: Gray's identity, every image of height 1).** For every image with one row — any width, any
number of runs, runs touching either end — and both connectivity conventions, the bit-quad sum of the model (generated
look-up tables, padded windows) is four times `components − holes` as counted by the flood-fill oracle:
`eulerModel4 b c = 4 · eulerSpec b c`. Bit-quad side: a one-row image is a product image, its window weight factors into
(row transition) × (column transition) (`E_prod`), the row indicator has two transitions and the number of value changes along
the row is twice the number of runs (telescoping sum). Graph side (`countComps_spec`): in one row the edges join horizontal
neighbours only, the smallest pixel of a component is exactly a run start (`minimal_iff_line`), and every background pixel
is a border pixel, so there are no holes. (An instance of the identity for a family with arbitrarily many components;
images with both sides ≥ 2 are validated only — there holes appear and the argument needs the Euler–Poincaré step.) -/
theorem C15_euler_gray_one_row (b : C15.Bin) (c : Bool) (h1 : b.rows = 1) :
    C15.eulerModel4 b c = 4 * C15.eulerSpec b c :=
  C15.euler_gray_line b c (Or.inl h1)

/-! non-vacuity: `1 0 1 1 0 1` has three runs: sum 12, three components, no hole — and the theorem applies to it -/
example :
    let b := C15.Bin.ofInts 1 6 [1, 0, 1, 1, 0, 1]
    C15.eulerModel4 b true = 12 ∧ C15.eulerSpec b true = 3 ∧ C15.eulerModel4 b false = 4 * C15.eulerSpec b false := by
  intro b
  exact ⟨by decide +kernel, by decide +kernel, C15_euler_gray_one_row b false rfl⟩

/-- **C15 (`euler`: Gray's identity, every image of width 1).** The same for one-column images (any height, any number of
runs, both connectivities): `eulerModel4 b c = 4 · eulerSpec b c` for `b.cols = 1`. The pixel graph of a one-column box is again
a path (`adjIdx_line`), every pixel is a border pixel, and the image is the transpose of a one-row image on the same data array
(`euler_transpose`). Together with `C15_euler_gray_one_row`: Gray's identity holds for every image with `min(rows, cols) = 1`. -/
theorem C15_euler_gray_one_col (b : C15.Bin) (c : Bool) (h1 : b.cols = 1) :
    C15.eulerModel4 b c = 4 * C15.eulerSpec b c :=
  C15.euler_gray_line b c (Or.inr h1)

/-! non-vacuity: the column `1 1 0 1` has two runs -/
example :
    let b := C15.Bin.ofInts 4 1 [1, 1, 0, 1]
    C15.eulerModel4 b true = 8 ∧ C15.eulerSpec b false = 2 ∧ C15.eulerModel4 b false = 4 * C15.eulerSpec b false := by
  intro b
  exact ⟨by decide +kernel, by decide +kernel, C15_euler_gray_one_col b false rfl⟩
