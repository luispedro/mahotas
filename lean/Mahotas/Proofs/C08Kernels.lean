/-
C08 — what a kernel over views reads is the logical array `toImg mem v`.

So for the raw pointer of a C-array (`raw_eq_logical`), and for the reads of a `filter_iterator` built from the strides of
the array it is used on, which are the logical neighbours whatever the strides (`retrieve_logical`, `neigh_logical`: F6 + F7).
The iterator depends on its filter argument only through the logical content (`logicalFiltV`, `mkFiltV_eq`). `SameLogical`:
two (memory, view) pairs present the same `toImg`. The loop skeletons `pixelLoop` / `markLoop` write every cell
(`foldl_store`).
-/
import Mahotas.Proofs.C08
import Mahotas.Proofs.FilterIter
import Mahotas.Proofs.ListLemmas
namespace Mahotas.C08
open Mahotas

/-- no empty axis, in the `1 ≤ a` form of `filterIter_refines`; `.pos` is the `0 < a` form the owners' lemmas ask for -/
def View.Pos (v : View) : Prop := ∀ a ∈ v.shape, 1 ≤ a

theorem View.Pos.pos {v : View} (h : v.Pos) : ∀ d ∈ v.shape, 0 < d := h

theorem elemOffset_ofNat (s : List Int) (l : List Nat) :
    FilterIter.elemOffset s (l.map Int.ofNat) = dot s l := by
  induction s generalizing l with
  | nil => cases l <;> rfl
  | cons x xs ih =>
    cases l with
    | nil => rfl
    | cons y ys => exact congrArg (x * (y : Int) + ·) (ih ys)

theorem elemOffset_sub (s p q : List Int) (h : q.length = p.length) :
    FilterIter.elemOffset s p + FilterIter.elemOffset s (subPos q p) = FilterIter.elemOffset s q := by
  induction s generalizing p q with
  | nil => cases p <;> cases q <;> rfl
  | cons x xs ih =>
    cases p with
    | nil =>
      cases q with
      | nil => rfl
      | cons _ _ => cases h
    | cons a as =>
      cases q with
      | nil => cases h
      | cons b bs =>
        simp only [FilterIter.elemOffset, subPos]
        rw [← ih as bs (Nat.succ.inj h)]
        ring

theorem addr_unravel (v : View) (i : Nat) :
    v.addr (unravel v.shape i) = v.base + FilterIter.elemOffset v.strides (unravelI v.shape i) := by
  unfold View.addr unravelI
  rw [elemOffset_ofNat]

theorem elemOffset_cStrides (shape : List Nat) (q : List Int) (hq : inside shape q = true) :
    FilterIter.elemOffset (cStrides shape) q = (ravelI shape q : Int) := by
  have h := dot_cStrides shape _ (C01.ravelI_lt shape q hq)
  rwa [← elemOffset_ofNat, show (unravel shape (ravelI shape q)).map Int.ofNat = q from C01.unravelI_ravelI shape q hq] at h

theorem logical_getD {α : Type} (mem : Int → α) (v : View) (i : Nat) (hi : i < shapeSize v.shape) (d : α) :
    (logical mem v).getD i d = mem (v.addr (unravel v.shape i)) := by
  simp [logical, List.getD_eq_getElem?_getD, List.getElem?_map, List.getElem?_range hi]

theorem toImg_getD_ravel {α : Type} (mem : Int → α) (v : View) (q : List Int) (d : α)
    (hq : inside v.shape q = true) :
    (toImg mem v).getD q d = (logical mem v).getD (ravelI v.shape q) d := by
  rw [Img.getD_inside (toImg mem v) q d hq]
  simp only [toImg, getD_toArray]

theorem toImg_getD {α : Type} (mem : Int → α) (v : View) (q : List Int) (d : α)
    (hq : inside v.shape q = true) :
    (toImg mem v).getD q d = mem (v.base + FilterIter.elemOffset v.strides q) := by
  rw [toImg_getD_ravel mem v q d hq, logical_getD mem v _ (C01.ravelI_lt v.shape q hq) d, addr_unravel,
    C01.unravelI_ravelI _ _ hq]

theorem toImg_getD_unravel {α : Type} (mem : Int → α) (v : View) (i : Nat) (d : α)
    (hi : i < shapeSize v.shape) :
    (toImg mem v).getD (unravelI v.shape i) d = mem (v.addr (unravel v.shape i)) := by
  rw [toImg_getD mem v _ d (C01.inside_unravelI _ _ hi), addr_unravel]

theorem logical_length {α : Type} (mem : Int → α) (v : View) : (logical mem v).length = shapeSize v.shape := by
  simp [logical]

theorem toImg_data_size {α : Type} (mem : Int → α) (v : View) : (toImg mem v).data.size = (toImg mem v).size :=
  List.size_toArray.trans (logical_length mem v)

theorem readIter_logical {α : Type} (mem : Int → α) (v : View) (wf : v.WF) (i : Nat) (hi : i < shapeSize v.shape)
    (d : α) : readIter mem v i = (toImg mem v).getD (unravelI v.shape i) d := by
  rw [toImg_getD_unravel mem v i d hi, readIter_eq mem v wf.len i hi]

theorem readAtFlat_logical {α : Type} (mem : Int → α) (v : View) (wf : v.WF) (i : Nat) (hi : i < shapeSize v.shape)
    (d : α) : readAtFlat mem v i = (toImg mem v).getD (unravelI v.shape i) d := by
  rw [toImg_getD_unravel mem v i d hi, readAtFlat_eq mem v wf i hi]

/-- raw-pointer reads `data()[k]` of a C-contiguous array are its logical content -/
theorem raw_eq_logical {α : Type} (mem : Int → α) (v : View) (hs : v.strides = cStrides v.shape) :
    ((List.range (shapeSize v.shape)).map fun (k : Nat) => mem (v.base + (k : Int))) = logical mem v :=
  List.map_congr_left fun k hk => congrArg mem (addr_cStrides v hs k (List.mem_range.1 hk)).symm

theorem position_eq (v : View) (h : v.strides.length = v.shape.length) (i : Nat) (hi : i < shapeSize v.shape) :
    ((Iter.begin v).incrN i).position.map Int.ofNat = unravelI v.shape i :=
  congrArg (List.map Int.ofNat) (incrN_position v h i hi)

/-- offset `k − c` of the filter entry with flat index `kk` -/
def offAt (fshape : List Nat) (kk : Nat) : List Int := subPos (unravelI fshape kk) (centreOf fshape)

/-- the logical neighbour the border rule selects for filter entry `kk` at pixel `p` -/
def nbAt {α : Type} (m : Mode) (A : Img α) (fshape : List Nat) (d : α) (p : List Int) (kk : Nat) : Option α :=
  (fixPos m A.shape (addPos p (offAt fshape kk))).map fun q => A.getD q d

theorem offAt_length (fshape : List Nat) (kk : Nat) : (offAt fshape kk).length = fshape.length := by
  unfold offAt
  rw [C01.subPos_length_of_eq _ _ (by simp [centreOf, unravelI, unravel_length])]
  simp [unravelI, unravel_length]

theorem addPos_offAt_length (shape fshape : List Nat) (hl : shape.length = fshape.length) (i kk : Nat) :
    (addPos (unravelI shape i) (offAt fshape kk)).length = shape.length := by
  have hp : (unravelI shape i).length = shape.length := by simp [unravelI, unravel_length]
  rw [C01.addPos_length_of_eq _ _ (by rw [offAt_length, hp, hl]), hp]

/-- **the filter read is the logical neighbour.** A `filter_iterator` whose offsets were multiplied with the
strides of the very array it is applied to retrieves, at loop iteration `i` and for the `j`-th footprint
element (filter entry `kk`, coordinate `k`), the logical element at `fix(mode, p + k − ⌊fshape/2⌋)`, `p = unravel i` —
for all strides (F6 for the table, F7 for the pointer). -/
theorem retrieve_logical {α : Type} (mem : Int → α) (v : View) (wf : v.WF) (hpos : v.Pos)
    (m : Mode) (fshape : List Nat) (fp : Array Bool) (fdata : Array α)
    (hlen : v.shape.length = fshape.length) (hf : ∀ f ∈ fshape, 1 ≤ f)
    (i : Nat) (hi : i < shapeSize v.shape) (j : Nat) (hj : j < (FilterIter.fpIdx fshape fp).length) (d : α) :
    (FiltV.mk (FilterIter.mkFIter m v.shape fshape fp) v.shape v.strides fdata).retrieve mem (iterPtr v i) i j =
      nbAt m (toImg mem v) fshape d (unravelI v.shape i) ((FilterIter.fpIdx fshape fp)[j]) := by
  have hal := addPos_offAt_length v.shape fshape hlen i ((FilterIter.fpIdx fshape fp)[j])
  unfold FiltV.retrieve nbAt
  simp only
  rw [filterIter_refines m v.shape fshape fp hlen hpos hf i hi j
    (by rw [FilterIter.footprintCoords_eq, List.length_map]; exact hj)]
  simp only [FilterIter.closedForm, FilterIter.footprintCoords_eq, List.getElem_map]
  rw [show (toImg mem v).shape = v.shape from rfl]
  unfold offAt at hal ⊢
  cases hq : fixPos m v.shape (addPos (unravelI v.shape i)
      (subPos (unravelI fshape ((FilterIter.fpIdx fshape fp)[j])) (centreOf fshape))) with
  | none => rfl
  | some q =>
    have hql := fixPos_length m v.shape _ q hal hq
    have hin := inside_fixPos m v.shape _ q hpos.pos hal hq
    simp only [Option.map_some]
    rw [toImg_getD mem v q d hin]
    congr 2
    unfold iterPtr
    rw [incrN_data v wf.len i hi, addr_unravel, Int.add_assoc,
      elemOffset_sub v.strides (unravelI v.shape i) q (by rw [hql, Mahotas.unravelI_length])]

theorem filter_via_range {α : Type} (l : List α) (d : α) (P : α → Bool) :
    ((List.range l.length).filter fun k => P (l.getD k d)).map (fun k => l.getD k d) = l.filter P := by
  have := List.filter_map (f := fun k => l.getD k d) (p := P) (l := List.range l.length)
  rw [range_map_getD] at this
  rw [this]
  rfl

/-- the footprint indices (C order) the filter iterator keeps -/
def keptIdx {α : Type} (fshape : List Nat) (w : List α) (keep : α → Bool) (d : α) : List Nat :=
  (List.range (shapeSize fshape)).filter fun kk => keep (w.getD kk d)

/-- the logical neighbour list at position `p`: the footprint elements in C order (those `keep` selects), each
with the element the border rule selects (`none`: flagged) and its filter value -/
def logicalNeigh {α : Type} (m : Mode) (A : Img α) (fshape : List Nat) (w : List α) (keep : α → Bool) (d : α)
    (p : List Int) : List (Option α × α) :=
  ((List.range (shapeSize fshape)).filter fun kk => keep (w.getD kk d)).map fun kk =>
    ((fixPos m A.shape (addPos p (subPos (unravelI fshape kk) (centreOf fshape)))).map (fun q => A.getD q d),
     w.getD kk d)

theorem fpIdx_eq {α : Type} (fshape : List Nat) (w : List α) (hw : w.length = shapeSize fshape) (P : α → Bool) (d : α) :
    FilterIter.fpIdx fshape (w.map P).toArray = keptIdx fshape w P d := by
  unfold FilterIter.fpIdx keptIdx
  apply List.filter_congr
  intro k hk
  have hk' : k < w.length := by rw [hw]; exact List.mem_range.1 hk
  simp [Array.getD_eq_getD_getElem?, List.getD_eq_getElem?_getD, List.getElem?_eq_getElem hk']

/-- the `filter_iterator` of a filter given by its logical content `w`: the entries `keep` selects make up the
footprint and the compressed data -/
def logicalFiltV {α : Type} (m : Mode) (vA : View) (fshape : List Nat) (w : List α) (keep : α → Bool) : FiltV α :=
  { fi := FilterIter.mkFIter m vA.shape fshape (w.map keep).toArray
    ashape := vA.shape
    astrides := vA.strides
    fdata := (w.filter keep).toArray }

/-- what the wrappers and native guards establish about an (array, filter) pair before a neighbourhood kernel runs -/
structure FilterArgs (vA vF : View) (compress : Bool) : Prop where
  wfA : vA.WF
  wfF : vF.WF
  posA : vA.Pos
  posF : vF.Pos
  rank : vA.shape.length = vF.shape.length
  /-- with `compress = false` the raw data pointer of the filter is indexed: the wrapper makes it C-contiguous -/
  raw : compress = false → vF.strides = cStrides vF.shape

/-- the constructor depends on the filter argument only through its logical content: without compression every
entry is kept and the raw data of the (C-contiguous) filter is that content -/
theorem mkFiltV_eq {α : Type} (isNZ : α → Bool) (vA : View) (mF : Int → α) (vF : View) (wfF : vF.WF) (m : Mode)
    (compress : Bool) (raw : compress = false → vF.strides = cStrides vF.shape) :
    mkFiltV isNZ vA mF vF m compress =
      logicalFiltV m vA vF.shape (logical mF vF) (if compress then isNZ else fun _ => true) := by
  unfold mkFiltV logicalFiltV
  rw [filtVals_eq mF vF wfF]
  cases compress with
  | true => rfl
  | false =>
    have hfp : ((logical mF vF).map fun _ => true).toArray = Array.replicate (shapeSize vF.shape) true := by
      rw [List.map_const', logical_length, List.toArray_replicate]
    simp only [Bool.false_eq_true, if_false]
    rw [raw_eq_logical mF vF (raw rfl), hfp, List.filter_eq_self.2 fun _ _ => rfl]

theorem logicalFiltV_size {α : Type} (m : Mode) (vA : View) (fshape : List Nat) (w : List α)
    (hw : w.length = shapeSize fshape) (keep : α → Bool) (d : α) :
    (logicalFiltV m vA fshape w keep).fi.size = (keptIdx fshape w keep d).length := by
  unfold logicalFiltV
  rw [FilterIter.mkFIter_size, FilterIter.footprintCoords_eq, List.length_map, fpIdx_eq fshape w hw keep d]

theorem mkFiltV_size {α : Type} (isNZ : α → Bool) (mF : Int → α) (m : Mode) {vA vF : View} {compress : Bool}
    (h : FilterArgs vA vF compress) (d : α) :
    (mkFiltV isNZ vA mF vF m compress).fi.size =
      (keptIdx vF.shape (logical mF vF) (if compress then isNZ else fun _ => true) d).length := by
  rw [mkFiltV_eq isNZ vA mF vF h.wfF m compress h.raw]
  exact logicalFiltV_size m vA vF.shape _ (logical_length mF vF) _ d

theorem logicalNeigh_eq {α : Type} (m : Mode) (A : Img α) (fshape : List Nat) (w : List α) (keep : α → Bool) (d : α)
    (p : List Int) :
    logicalNeigh m A fshape w keep d p =
      (keptIdx fshape w keep d).map fun kk => (nbAt m A fshape d p kk, w.getD kk d) := rfl

theorem logicalFiltV_neigh {α : Type} (mA : Int → α) (vA : View) (wfA : vA.WF) (hA : vA.Pos) (m : Mode)
    (fshape : List Nat) (hlen : vA.shape.length = fshape.length) (hF : ∀ f ∈ fshape, 1 ≤ f) (w : List α)
    (hw : w.length = shapeSize fshape) (keep : α → Bool) (d : α) (i : Nat) (hi : i < shapeSize vA.shape) :
    (logicalFiltV m vA fshape w keep).neigh d mA (iterPtr vA i) i =
      logicalNeigh m (toImg mA vA) fshape w keep d (unravelI vA.shape i) := by
  have hidx := fpIdx_eq fshape w hw keep d
  have hsz := logicalFiltV_size m vA fshape w hw keep d
  rw [logicalNeigh_eq]
  unfold FiltV.neigh
  apply List.ext_getElem
  · rw [List.length_map, List.length_map, List.length_range, hsz]
  · intro j h1 h2
    have hj : j < (keptIdx fshape w keep d).length := by simpa using h2
    simp only [List.getElem_map, List.getElem_range]
    rw [show logicalFiltV m vA fshape w keep = FiltV.mk _ vA.shape vA.strides (w.filter keep).toArray from rfl,
      retrieve_logical mA vA wfA hA m fshape _ _ hlen hF i hi j (hidx ▸ hj) d]
    congr 1
    · simp only [hidx]
    · have hfl := filter_via_range w d keep
      rw [hw] at hfl
      unfold keptIdx at hj ⊢
      simp only [← hfl, Array.getD_eq_getD_getElem?, List.getElem?_toArray, List.getElem?_map,
        List.getElem?_eq_getElem hj, Option.map_some, Option.getD_some]

/-- **the inner loop sees the logical neighbourhood.** For every well-formed view of an array with at least one
element per axis, any filter view of the same rank (C-contiguous when `compress = false`, where the raw data pointer
is indexed), any border mode and any loop iteration `i`: the list of `(retrieve(iter, j, ·), filter[j])` pairs is the
logical neighbour list of the *logical* arrays at `unravel i`. -/
theorem neigh_logical {α : Type} (isNZ : α → Bool) (mA : Int → α) (mF : Int → α) (m : Mode) {vA vF : View}
    {compress : Bool} (h : FilterArgs vA vF compress) (d : α) (i : Nat) (hi : i < shapeSize vA.shape) :
    (mkFiltV isNZ vA mF vF m compress).neigh d mA (iterPtr vA i) i =
      logicalNeigh m (toImg mA vA) vF.shape (logical mF vF) (if compress then isNZ else fun _ => true) d
        (unravelI vA.shape i) := by
  rw [mkFiltV_eq isNZ vA mF vF h.wfF m compress h.raw]
  exact logicalFiltV_neigh mA vA h.wfA h.posA m vF.shape h.rank h.posF _ (logical_length mF vF) _ d i hi

/-- two (memory, view) pairs present the same logical array: same shape, same element at every
C-order position -/
def SameLogical {α} (m₁ : Int → α) (v₁ : View) (m₂ : Int → α) (v₂ : View) : Prop :=
  v₁.shape = v₂.shape ∧
  ∀ k, k < shapeSize v₁.shape → m₁ (v₁.addr (unravel v₁.shape k)) = m₂ (v₂.addr (unravel v₂.shape k))

theorem SameLogical.refl {α : Type} (m : Int → α) (v : View) : SameLogical m v m v := ⟨rfl, fun _ _ => rfl⟩

theorem SameLogical.toImg_eq {α : Type} {m₁ m₂ : Int → α} {v₁ v₂ : View} (h : SameLogical m₁ v₁ m₂ v₂) :
    toImg m₁ v₁ = toImg m₂ v₂ := by
  obtain ⟨hs, he⟩ := h
  unfold toImg logical
  rw [← hs]
  congr 2
  apply List.map_congr_left
  intro k hk
  have := he k (List.mem_range.1 hk)
  rw [← hs] at this
  exact this

theorem SameLogical.logical_eq {α : Type} {m₁ m₂ : Int → α} {v₁ v₂ : View} (h : SameLogical m₁ v₁ m₂ v₂) :
    logical m₁ v₁ = logical m₂ v₂ := congrArg (fun A => A.data.toList) h.toImg_eq

theorem replicate_eq_map {γ : Type} (N : Nat) (c : γ) :
    Array.replicate N c = ((List.range N).map fun _ => c).toArray := by
  apply Array.ext
  · simp
  · intro i h1 h2
    simp

/-- a loop of guarded stores in which the value stored into a cell depends on the cell only: afterwards cell `i`
holds that value if some iteration with a true guard stored there, and what it held before otherwise -/
theorem foldl_store {ι β : Type} (idx : ι → Nat) (cond : ι → Prop) [DecidablePred cond] (F : Nat → β)
    (l : List ι) (init : Array β) (i : Nat) :
    (l.foldl (fun res a => if cond a then res.setIfInBounds (idx a) (F (idx a)) else res) init)[i]? =
      if l.any (fun a => decide (cond a) && idx a == i) = true then init[i]?.map (fun _ => F i) else init[i]? := by
  induction l generalizing init with
  | nil => rfl
  | cons a t ih =>
    rw [List.foldl_cons, ih, List.any_cons]
    by_cases hc : cond a
    · rw [if_pos hc, decide_eq_true hc, Bool.true_and, Array.getElem?_setIfInBounds]
      by_cases he : idx a = i
      · subst he
        rw [if_pos rfl, beq_self_eq_true, Bool.true_or, if_pos rfl]
        by_cases hi : idx a < init.size
        · rw [if_pos hi, Array.getElem?_eq_getElem hi]; split <;> rfl
        · rw [if_neg hi, Array.getElem?_eq_none (Nat.le_of_not_lt hi)]; split <;> rfl
      · rw [if_neg he, beq_false_of_ne he, Bool.false_or]
    · rw [if_neg hc, decide_eq_false hc, Bool.false_and, Bool.false_or]

theorem any_range_eq (N i : Nat) (p : Nat → Bool) :
    (List.range N).any (fun a => p a && a == i) = (decide (i < N) && p i) := by
  apply Bool.eq_iff_iff.2
  simp only [List.any_eq_true, List.mem_range, Bool.and_eq_true, beq_iff_eq, decide_eq_true_eq]
  constructor
  · rintro ⟨a, ha, hp, rfl⟩; exact ⟨ha, hp⟩
  · rintro ⟨hi, hp⟩; exact ⟨i, hi, hp, rfl⟩

/-- F15 for the one-write-per-pixel loop: no cell stays `none` -/
theorem pixelLoop_eq {β : Type} (N : Nat) (g : Nat → β) :
    pixelLoop N g = ((List.range N).map fun i => some (g i)).toArray := by
  apply Array.ext_getElem?
  intro i
  refine (foldl_store (fun a => a) (fun _ => True) (fun i => some (g i)) _ _ i).trans ?_
  rw [any_range_eq N i fun _ => decide True, getElem?_map_range, Array.getElem?_replicate]
  by_cases hi : i < N
  · simp only [hi, decide_true, Bool.and_self, if_true, Option.map_some]
  · simp only [hi, decide_false, Bool.false_and, Bool.false_eq_true, if_false]

theorem pixelLoop_getD {β : Type} (N : Nat) (g : Nat → β) (i : Nat) (hi : i < N) :
    (pixelLoop N g).getD i none = some (g i) := by
  rw [pixelLoop_eq, Array.getD_eq_getD_getElem?, getElem?_map_range, if_pos hi]
  rfl

theorem foldl_mark {ι : Type} (idx : ι → Nat) (cond : ι → Prop) [DecidablePred cond] (l : List ι) (N : Nat) :
    l.foldl (fun res a => if cond a then res.setIfInBounds (idx a) (some true) else res)
        (Array.replicate N (some false)) =
      pixelLoop N fun i => l.any fun a => decide (cond a) && idx a == i := by
  rw [pixelLoop_eq]
  apply Array.ext_getElem?
  intro i
  rw [foldl_store idx cond (fun _ => some true), getElem?_map_range, Array.getElem?_replicate]
  by_cases hi : i < N
  · simp only [hi, if_true, Option.map_some]
    cases l.any fun a => decide (cond a) && idx a == i <;> rfl
  · simp only [hi, if_false, Option.map_none, ite_self]

theorem pixelLoop_congr {β : Type} (N : Nat) (g h : Nat → β) (e : ∀ i, i < N → g i = h i) :
    pixelLoop N g = pixelLoop N h := by
  rw [pixelLoop_eq, pixelLoop_eq]
  congr 1
  apply List.map_congr_left
  intro i hi
  rw [e i (List.mem_range.1 hi)]

theorem markLoop_eq_pixelLoop (N : Nat) (g : Nat → Bool) : markLoop N g = pixelLoop N g :=
  (foldl_mark (fun a => a) (fun a => g a = true) (List.range N) N).trans
    (pixelLoop_congr N _ _ fun i hi => by rw [any_range_eq N i fun a => decide (g a = true)]; simp [hi])

theorem markLoop_eq (N : Nat) (g : Nat → Bool) :
    markLoop N g = ((List.range N).map fun i => some (g i)).toArray := by
  rw [markLoop_eq_pixelLoop, pixelLoop_eq]

theorem filtVals_layout_free {α : Type} (m₁ m₂ : Int → α) (v₁ v₂ : View) (wf₁ : v₁.WF) (wf₂ : v₂.WF)
    (h : toImg m₁ v₁ = toImg m₂ v₂) : filtVals m₁ v₁ = filtVals m₂ v₂ := by
  rw [filtVals_eq m₁ v₁ wf₁, filtVals_eq m₂ v₂ wf₂]
  exact congrArg (fun A => A.data.toList) h

end Mahotas.C08
