/-
C15 — from the loop to `mahotas.thin`: cropping to the bounding box, framing and pasting back is a
translation of the pixel set (`bset_frameOf`, `bset_pasteOf`, `sameComps_shift`).
-/
import Mahotas.Proofs.C15
import Mahotas.Proofs.C15Thin
namespace Mahotas.C15
open Mahotas

theorem sorted_bounds : ∀ (l : List Nat), l.Pairwise (· < ·) → ∀ a ∈ l, ∀ d, l.headD d ≤ a ∧ a ≤ l.getLastD d
  | [], _, a, ha, _ => by simp at ha
  | [x], _, a, ha, d => by simp at ha; subst ha; simp
  | x :: y :: rest, h, a, ha, d => by
    rw [List.pairwise_cons] at h
    obtain ⟨hx, ht⟩ := h
    have hlast : (x :: y :: rest).getLastD d = (y :: rest).getLastD d := by simp [List.getLastD]
    rw [hlast]
    simp only [List.headD_cons]
    rcases List.mem_cons.mp ha with rfl | ha'
    · have hy := sorted_bounds (y :: rest) ht y (by simp) d
      simp only [List.headD_cons] at hy
      have := hx y (by simp)
      exact ⟨Nat.le_refl _, by omega⟩
    · have hb := sorted_bounds (y :: rest) ht a ha' d
      have := hx a ha'
      exact ⟨by omega, hb.2⟩

theorem filter_range_bounds (P : Nat → Bool) (n : Nat) {t : Nat} (ht : t < n) (hP : P t = true) :
    ∃ x0 r, (List.range n).filter P = x0 :: r ∧ x0 ≤ t ∧ t ≤ (x0 :: r).getLastD x0 := by
  have hm : t ∈ (List.range n).filter P := List.mem_filter.2 ⟨List.mem_range.2 ht, hP⟩
  have hs : ((List.range n).filter P).Pairwise (· < ·) := List.Pairwise.filter _ List.pairwise_lt_range
  cases hl : (List.range n).filter P with
  | nil => rw [hl] at hm; cases hm
  | cons x0 r =>
    rw [hl] at hm hs
    exact ⟨x0, r, rfl, sorted_bounds _ hs _ hm x0⟩

theorem bbox_spec (b : Bin) (y x : Int) (h : b.get y x = true) :
    ((bbox b).1 : Int) ≤ y ∧ y < ((bbox b).2.1 : Int) ∧ ((bbox b).2.2.1 : Int) ≤ x ∧ x < ((bbox b).2.2.2 : Int) := by
  obtain ⟨h0, h1, h2, h3⟩ := get_inrange b y x h
  have hg : b.get (y.toNat : Int) (x.toNat : Int) = true := by
    rw [Int.toNat_of_nonneg h0, Int.toNat_of_nonneg h2]; exact h
  obtain ⟨y0, yr, hys, hy1, hy2⟩ := filter_range_bounds
    (fun (y : Nat) => (List.range b.cols).any fun (x : Nat) => b.get (y : Int) (x : Int)) b.rows
    (t := y.toNat) (by omega) (List.any_eq_true.2 ⟨x.toNat, List.mem_range.2 (by omega), hg⟩)
  obtain ⟨x0, xr, hxs, hx1, hx2⟩ := filter_range_bounds
    (fun (x : Nat) => (List.range b.rows).any fun (y : Nat) => b.get (y : Int) (x : Int)) b.cols
    (t := x.toNat) (by omega) (List.any_eq_true.2 ⟨y.toNat, List.mem_range.2 (by omega), hg⟩)
  unfold bbox
  simp only [hys, hxs]
  omega

def shift (dy dx : Int) (p : Px) : Px := (p.1 + dy, p.2 + dx)

theorem adj8_shift (dy dx : Int) (x y : Px) (h : adj8 x y) : adj8 (shift dy dx x) (shift dy dx y) := by
  obtain ⟨h1, h2, h3⟩ := h
  refine ⟨fun e => h1 ?_, ?_, ?_⟩
  · have e1 := congrArg Prod.fst e
    have e2 := congrArg Prod.snd e
    simp only [shift] at e1 e2
    exact Prod.ext (by omega) (by omega)
  · simpa [shift] using h2
  · simpa [shift] using h3

theorem sameComps_shift (dy dx : Int) {A B : Set Px} (h : SameComps A B) :
    SameComps {u | shift dy dx u ∈ A} {u | shift dy dx u ∈ B} :=
  SameComps.preimage (shift dy dx) (shift (-dy) (-dx))
    (fun x => by simp [shift]) (fun x => by simp [shift])
    (adj8_shift dy dx) (adj8_shift (-dy) (-dx)) h

/-- the zero-framed crop handed to `_thin.thin` -/
def frameOf (b : Bin) : Bin :=
  Bin.tabulate ((bbox b).2.1 - (bbox b).1 + 2) ((bbox b).2.2.2 - (bbox b).2.2.1 + 2) fun y x =>
    decide (1 ≤ y) && decide (y ≤ (((bbox b).2.1 - (bbox b).1 : Nat) : Int)) && decide (1 ≤ x) &&
      decide (x ≤ (((bbox b).2.2.2 - (bbox b).2.2.1 : Nat) : Int)) &&
      b.get (y - 1 + ((bbox b).1 : Int)) (x - 1 + ((bbox b).2.2.1 : Int))

/-- the thinned crop `t` pasted back into an image of the input's shape -/
def pasteOf (b t : Bin) : Bin :=
  Bin.tabulate b.rows b.cols fun y x =>
    decide (((bbox b).1 : Int) ≤ y) && decide (y < ((bbox b).2.1 : Int)) &&
      decide (((bbox b).2.2.1 : Int) ≤ x) && decide (x < ((bbox b).2.2.2 : Int)) &&
      t.get (y - ((bbox b).1 : Int) + 1) (x - ((bbox b).2.2.1 : Int) + 1)

theorem thinModel_eq (b : Bin) (m : Int) : thinModel b m = pasteOf b (thinCore (frameOf b) m) := rfl

/-- shift from image coordinates to frame coordinates -/
def toFrame (b : Bin) (p : Px) : Px := shift (1 - ((bbox b).1 : Int)) (1 - ((bbox b).2.2.1 : Int)) p

theorem bset_frameOf (b : Bin) : {u | toFrame b u ∈ bset (frameOf b)} = bset b := by
  have hbb := bbox_spec b
  ext p
  obtain ⟨y, x⟩ := p
  simp only [Set.mem_ofPred_eq, bset, toFrame, shift, frameOf]
  rw [Bin.get_tabulate]
  simp only [Bool.and_eq_true, decide_eq_true_eq]
  have e1 : y + (1 - ((bbox b).1 : Int)) - 1 + ((bbox b).1 : Int) = y := by ring
  have e2 : x + (1 - ((bbox b).2.2.1 : Int)) - 1 + ((bbox b).2.2.1 : Int) = x := by ring
  rw [e1, e2]
  constructor
  · intro h; exact h.2.2
  · intro h
    obtain ⟨b1, b2, b3, b4⟩ := hbb y x h
    refine ⟨⟨?_, ?_, ?_, ?_⟩, ⟨⟨⟨?_, ?_⟩, ?_⟩, ?_⟩, h⟩ <;> push_cast <;> omega

theorem bset_pasteOf (b t : Bin) (ht : bset t ⊆ bset (frameOf b)) :
    {u | toFrame b u ∈ bset t} = bset (pasteOf b t) := by
  have hbb := bbox_spec b
  ext p
  obtain ⟨y, x⟩ := p
  simp only [Set.mem_ofPred_eq, bset, toFrame, shift, pasteOf]
  rw [Bin.get_tabulate]
  simp only [Bool.and_eq_true, decide_eq_true_eq]
  have e1 : y + (1 - ((bbox b).1 : Int)) = y - ((bbox b).1 : Int) + 1 := by ring
  have e2 : x + (1 - ((bbox b).2.2.1 : Int)) = x - ((bbox b).2.2.1 : Int) + 1 := by ring
  rw [e1, e2]
  constructor
  · intro h
    have hin : (y, x) ∈ bset b := by
      rw [← bset_frameOf b]
      simp only [Set.mem_ofPred_eq, toFrame, shift]
      rw [e1, e2]
      exact ht h
    have hg : b.get y x = true := hin
    obtain ⟨b1, b2, b3, b4⟩ := hbb y x hg
    obtain ⟨r1, r2, r3, r4⟩ := get_inrange b y x hg
    exact ⟨⟨r1, r2, r3, r4⟩, ⟨⟨⟨b1, b2⟩, b3⟩, b4⟩, h⟩
  · intro h; exact h.2.2

end Mahotas.C15
