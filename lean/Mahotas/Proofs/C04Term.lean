/-
C04 — the flooding is drained within `size + 1` iterations.
Potential: number of white pixels + queue length. The marker scan keeps it at `size`; every
iteration of the main loop lowers it by exactly one (a push turns one white pixel grey).
-/
import Mahotas.Proofs.C04Sim

namespace Mahotas.C04
open Mahotas

def cntWhite (N : Nat) (a : Array Nat) : Nat := (List.range N).countP (fun i => a.getD i 0 == 0)

def phi (N : Nat) (ms : MSt) : Nat := cntWhite N ms.status + ms.queue.length

theorem cntWhite_set_white (N : Nat) (a : Array Nat) (j v : Nat) (hj : j < N) (hsz : a.size = N)
    (h0 : a.getD j 0 = 0) (hv : v ≠ 0) : cntWhite N (a.setIfInBounds j v) + 1 = cntWhite N a := by
  unfold cntWhite
  apply countP_range_update N j _ _ hj
  · simp [h0]
  · rw [getD_setIfInBounds_self _ _ _ _ (by rw [hsz]; exact hj)]; simpa using hv
  · intro i hi
    rw [getD_setIfInBounds_ne _ _ _ _ _ (fun h => hi h.symm)]

theorem cntWhite_set_other (N : Nat) (a : Array Nat) (j v : Nat)
    (h0 : a.getD j 0 ≠ 0) (hv : v ≠ 0) : cntWhite N (a.setIfInBounds j v) = cntWhite N a := by
  unfold cntWhite
  apply List.countP_congr
  intro i _
  by_cases hij : j = i
  · subst hij
    by_cases hlt : j < a.size
    · rw [getD_setIfInBounds_self _ _ _ _ hlt]
      have : (a.getD j 0 == 0) = false := by simpa using h0
      rw [this]; simpa using hv
    · simp [Array.getD_eq_getD_getElem?, Array.setIfInBounds, hlt]
  · rw [getD_setIfInBounds_ne _ _ _ _ _ hij]

/-- popping removes exactly one entry: insertion indices are unique -/
theorem filter_idx_length (l : List QE) (e : QE) (he : e ∈ l) (hn : (l.map QE.idx).Nodup) :
    (l.filter (fun m => (QE.key m).2 != (QE.key e).2)).length + 1 = l.length := by
  have h := List.length_erase_of_mem (List.mem_map_of_mem (f := QE.idx) he)
  rw [hn.erase_eq_filter, List.filter_map, List.length_map, List.length_map] at h
  have := List.length_pos_of_mem he
  show (l.filter ((fun x => x != e.idx) ∘ QE.idx)).length + 1 = l.length
  omega

/-- a neighbour visit keeps the potential: a push turns one white pixel grey -/
theorem visit_phi (surf : Img Int) (e : QE) (offs : List (List Int))
    (hoffs : ∀ o ∈ offs, o.length = surf.shape.length) {acc : MSt × Int} {nb : Nb}
    (hnb : nb ∈ neighbours surf.shape offs) (h : VInv surf.shape e acc) :
    phi (shapeSize surf.shape) (modelVisit surf e acc nb).1 = phi (shapeSize surf.shape) acc.1 := by
  obtain ⟨o, ho, rfl⟩ := mem_neighbours hnb
  have he := h.pos_lt
  obtain ⟨ms, margin⟩ := acc
  obtain ⟨⟨ss, hrel⟩, hmar, _⟩ := h
  have hsound := nbCheck_sound surf.shape e.pos margin o (posToFlat surf.shape o) (hoffs o ho) hmar
  cases hc : nbCheck surf.shape e.pos margin ⟨posToFlat surf.shape o, chebStep o, o⟩ with
  | none => rw [modelVisit_none surf e ms margin _ hc]
  | some r =>
    rw [hc] at hsound
    refine modelVisit_cases surf e ms margin _ r.1 r.2 hc
      (fun x => phi (shapeSize surf.shape) x.1 = phi (shapeSize surf.shape) ms) ?_ (fun _ _ => rfl) (fun _ _ => rfl)
    intro h0
    have hnpN : nposOf e ⟨posToFlat surf.shape o, chebStep o, o⟩ < shapeSize surf.shape := by
      rw [show nposOf e _ = _ from npos_eq surf.shape e.pos o he hsound.1]; exact C01.ravelI_lt _ _ hsound.1
    have := cntWhite_set_white (shapeSize surf.shape) ms.status _ 1 hnpN hrel.ssize h0 Nat.one_ne_zero
    unfold phi
    dsimp only
    rw [List.length_append, List.length_singleton]
    omega

theorem fold_phi (surf : Img Int) (e : QE) (offs : List (List Int))
    (hoffs : ∀ o ∈ offs, o.length = surf.shape.length) :
    ∀ nbs : List Nb, (∀ nb ∈ nbs, nb ∈ neighbours surf.shape offs) → ∀ acc, VInv surf.shape e acc →
      phi (shapeSize surf.shape) (nbs.foldl (modelVisit surf e) acc).1 = phi (shapeSize surf.shape) acc.1
  | [], _, _, _ => rfl
  | nb :: nbs, hnbs, _, h =>
    (fold_phi surf e offs hoffs nbs (fun x hx => hnbs x (List.mem_cons_of_mem _ hx)) _
      (visit_vinv surf e offs hoffs (hnbs nb List.mem_cons_self) h)).trans
      (visit_phi surf e offs hoffs (hnbs nb List.mem_cons_self) h)

theorem step_phi (surf : Img Int) (offs : List (List Int)) (ms ms' : MSt) (ss : SSt)
    (hoffs : ∀ o ∈ offs, o.length = surf.shape.length) (hrel : Rel surf.shape ms ss)
    (hstep : modelStep surf (neighbours surf.shape offs) ms = some ms') :
    phi (shapeSize surf.shape) ms' + 1 = phi (shapeSize surf.shape) ms := by
  obtain ⟨e, hmem, rfl⟩ := modelStep_some hstep
  have heN := (hrel.qpos e hmem).1
  rw [fold_phi surf e offs hoffs _ (fun _ h => h) _ (pop_vinv hrel hmem)]
  unfold phi
  dsimp only
  have hgrey : ms.status.getD e.pos 0 = 1 := (hrel.grey _ heN).2 ⟨e, hmem, rfl⟩
  rw [cntWhite_set_other _ _ _ _ (by omega) (by omega)]
  have := filter_idx_length ms.queue e hmem hrel.qidx
  omega

theorem modelStep_none (surf : Img Int) (nbs : List Nb) (ms : MSt) (h : modelStep surf nbs ms = none) :
    ms.queue = [] := by
  unfold modelStep at h
  cases hq : ms.queue with
  | nil => rfl
  | cons x xs => rw [hq] at h; simp [extractMin] at h

theorem run_drained (surf : Img Int) (offs : List (List Int))
    (hoffs : ∀ o ∈ offs, o.length = surf.shape.length) (n : Nat) :
    ∀ (ms : MSt) (ss : SSt), Rel surf.shape ms ss → phi (shapeSize surf.shape) ms < n →
      (modelRun surf (neighbours surf.shape offs) n ms).queue = [] := by
  induction n with
  | zero => intro ms ss _ h; omega
  | succ n ih =>
    intro ms ss hrel hphi
    rw [modelRun]
    rcases step_rel surf offs ms ss hoffs hrel with ⟨h1, _⟩ | ⟨ms', ss', h1, _, h3⟩
    · rw [h1]; exact modelStep_none surf _ ms h1
    · rw [h1]
      have := step_phi surf offs ms ms' ss hoffs hrel h1
      exact ih ms' ss' h3 (by omega)

theorem init_phi (surf markers : Img Int) (hm : markers.shape = surf.shape) :
    phi (shapeSize surf.shape) (modelInit surf markers) = shapeSize surf.shape := by
  rw [modelInit_eq]
  refine (foldl_range_rel (stepM surf markers) (fun st i => stepS surf markers st (unravelI surf.shape i)) _
    (fun k ms ss => ScanRel surf k ms ss ∧ phi (shapeSize surf.shape) ms = shapeSize surf.shape)
    ⟨scan_base surf, ?_⟩ ?_).2
  · show (List.range _).countP (fun i => (Array.replicate _ 0).getD i 0 == 0) + 0 = _
    rw [List.countP_eq_length.2 fun i _ => beq_iff_eq.mpr (replicate_getD _ i 0), List.length_range]; rfl
  · rintro k ms ss hk ⟨hscan, hphi⟩
    refine ⟨scan_step surf markers hm k ms ss hk hscan, ?_⟩
    unfold stepM
    dsimp only
    by_cases h0 : markers.data.getD k 0 = 0
    · rw [if_pos (beq_iff_eq.mpr h0)]; exact hphi
    · -- a marker turns its white pixel grey and is queued
      rw [if_neg (mt beq_iff_eq.mp h0)]
      have := cntWhite_set_white (shapeSize surf.shape) ms.status k 1 hk hscan.1.ssize
        (hscan.2 k (le_refl _) hk) Nat.one_ne_zero
      unfold phi at hphi ⊢
      dsimp only
      rw [List.length_append, List.length_singleton]
      omega

/-- the kernel's queue (hence, by the simulation, the specification's) is empty after `size + 1` iterations -/
theorem cwatershed_drained (surf markers : Img Int) (bshape : List Nat) (bc : Array Int)
    (hm : markers.shape = surf.shape) (hb : bshape.length = surf.shape.length) :
    (cwatershedModel surf markers bshape bc).queue = [] := by
  unfold cwatershedModel
  apply run_drained surf _ (fun o ho => by rw [offsets_length bshape bc o ho, hb]) _ _ _
    (init_rel surf markers hm)
  rw [init_phi surf markers hm]
  unfold fuelOf
  omega

end Mahotas.C04
