/-
Iterating a round until nothing is left to do, with a bound on the number of rounds: the executable specifications that
compute a closure by rounds (`C03.fixRep`, `C14.iter` in `regSpec` and `closeHolesSpec`) rest on `iterate_measure`.
-/
import Mathlib.Logic.Function.Iterate
namespace Mahotas

/-- A round `f` keeps `P`, keeps `Q` once it holds, and strictly lowers the measure `μ` as long as `Q` does not hold:
    then `Q` holds after any number of rounds that is at least the measure at the start. -/
theorem iterate_measure {α : Type} (f : α → α) (P Q : α → Prop) (μ : α → Nat)
    (hP : ∀ a, P a → P (f a)) (hQ : ∀ a, P a → Q a → Q (f a)) (hμ : ∀ a, P a → ¬ Q a → μ (f a) < μ a) :
    ∀ (n : Nat) (a : α), P a → Q a ∨ μ a ≤ n → P (f^[n] a) ∧ Q (f^[n] a)
  | 0, a, ha, h => ⟨ha, h.elim id fun h0 => Classical.not_not.mp fun hq =>
      Nat.not_lt_zero _ (Nat.lt_of_lt_of_le (hμ a ha hq) h0)⟩
  | n + 1, a, ha, h => iterate_measure f P Q μ hP hQ hμ n (f a) (hP a ha) <|
      (Classical.em (Q a)).imp (hQ a ha) fun hq =>
        Nat.le_of_lt_succ (Nat.lt_of_lt_of_le (hμ a ha hq) (h.resolve_left hq))

end Mahotas
