/-
F6, per axis: regions of an axis of length `a` under a filter of length `f` (origin `o = f / 2`),
their representative positions, and the key lemma: the offsets stored for the region of `p`
are the offsets the closed form gives at `p`, in all six border modes.
-/
import Mahotas.Model.FilterIter
import Mahotas.Proofs.Border
namespace Mahotas
namespace FilterIter

/-- number of regions along an axis (`step` in `init_filter_iterator`) -/
def nRegions (a f : Nat) : Nat := if a < f then a else f

/-- the position `init_filter_offsets` uses to compute the offsets of region `r`
    (the `r`-th iterate of the jump rule from 0) -/
def rep (a f r : Nat) : Nat :=
  if f ≤ a then (if r ≤ f / 2 then r else a - f + r) else r

/-- the region of position `p` = the number of `q < p` with `q < o ∨ q ≥ a - f + o` (for `f ≤ a`; `p` itself otherwise) -/
def regionIdx (a f p : Nat) : Nat :=
  if f ≤ a then (if p ≤ f / 2 then p else if p ≤ a - f + f / 2 then f / 2 else p - (a - f)) else p

/-! The three definitions are piecewise linear; everything below about them is linear arithmetic
    once the piece is known, so each gets one lemma that names the pieces. -/

theorem nRegions_cases (a f : Nat) : (a < f ∧ nRegions a f = a) ∨ (f ≤ a ∧ nRegions a f = f) := by
  unfold nRegions
  by_cases h : a < f
  · rw [if_pos h]; exact Or.inl ⟨h, rfl⟩
  · rw [if_neg h]; exact Or.inr ⟨by omega, rfl⟩

theorem rep_cases (a f r : Nat) :
    ((a < f ∨ r ≤ f / 2) ∧ rep a f r = r) ∨ (f ≤ a ∧ f / 2 < r ∧ rep a f r = a - f + r) := by
  unfold rep
  by_cases h0 : f ≤ a
  · rw [if_pos h0]
    by_cases h1 : r ≤ f / 2
    · rw [if_pos h1]; exact Or.inl ⟨Or.inr h1, rfl⟩
    · rw [if_neg h1]; exact Or.inr ⟨h0, by omega, rfl⟩
  · rw [if_neg h0]; exact Or.inl ⟨Or.inl (by omega), rfl⟩

theorem regionIdx_cases (a f p : Nat) :
    ((a < f ∨ p ≤ f / 2) ∧ regionIdx a f p = p) ∨
    (f ≤ a ∧ f / 2 < p ∧ p ≤ a - f + f / 2 ∧ regionIdx a f p = f / 2) ∨
    (f ≤ a ∧ a - f + f / 2 < p ∧ regionIdx a f p + (a - f) = p) := by
  unfold regionIdx
  by_cases h0 : f ≤ a
  · rw [if_pos h0]
    by_cases h1 : p ≤ f / 2
    · rw [if_pos h1]; exact Or.inl ⟨Or.inr h1, rfl⟩
    · rw [if_neg h1]
      by_cases h2 : p ≤ a - f + f / 2
      · rw [if_pos h2]; exact Or.inr (Or.inl ⟨h0, by omega, h2, rfl⟩)
      · rw [if_neg h2]; exact Or.inr (Or.inr ⟨h0, by omega, by omega⟩)
  · rw [if_neg h0]; exact Or.inl ⟨Or.inl (by omega), rfl⟩

theorem nRegions_pos {a f : Nat} (ha : 0 < a) (hf : 0 < f) : 0 < nRegions a f := by
  have := nRegions_cases a f; omega

theorem rep_zero (a f : Nat) : rep a f 0 = 0 := by
  have := rep_cases a f 0; omega

/-- the incremented (or jumped) position is the next representative -/
theorem posSucc_val (a f r : Nat) :
    (if ((rep a f r : Nat) : Int) = (f : Int) / 2 then
      (if ((rep a f r : Nat) : Int) + ((a : Int) - (f : Int) + 1) ≤ (f : Int) / 2 then (f : Int) / 2 + 1
        else ((rep a f r : Nat) : Int) + ((a : Int) - (f : Int) + 1))
      else ((rep a f r : Nat) : Int) + 1) = ((rep a f (r + 1) : Nat) : Int) := by
  have h1 := rep_cases a f r
  have h2 := rep_cases a f (r + 1)
  by_cases hp : ((rep a f r : Nat) : Int) = (f : Int) / 2
  · rw [if_pos hp]
    by_cases hq : ((rep a f r : Nat) : Int) + ((a : Int) - (f : Int) + 1) ≤ (f : Int) / 2
    · rw [if_pos hq]; omega
    · rw [if_neg hq]; omega
  · rw [if_neg hp]; omega

/-- the next representative is on the axis iff a further region exists -/
theorem rep_succ_lt {a f r : Nat} :
    r + 1 < nRegions a f ↔ ((rep a f (r + 1) : Nat) : Int) < a := by
  have hn := nRegions_cases a f
  have h2 := rep_cases a f (r + 1)
  omega

/-- the jump rule walks through the representatives and leaves the axis after the last one -/
theorem posSucc_rep {a f r : Nat} :
    posSucc (a, f) ((rep a f r : Nat) : Int) =
      if r + 1 < nRegions a f then some ((rep a f (r + 1) : Nat) : Int) else none := by
  unfold posSucc
  simp only
  rw [posSucc_val a f r]
  by_cases hlt : r + 1 < nRegions a f
  · rw [if_pos hlt, if_pos (rep_succ_lt.mp hlt)]
  · rw [if_neg hlt, if_neg (mt rep_succ_lt.mpr hlt)]

theorem regionIdx_zero (a f : Nat) : regionIdx a f 0 = 0 := by
  have := regionIdx_cases a f 0; omega

theorem regionIdx_lt {a f p : Nat} (hf : 0 < f) (hp : p < a) : regionIdx a f p < nRegions a f := by
  have := nRegions_cases a f
  have := regionIdx_cases a f p
  omega

theorem regionIdx_last (a f : Nat) : regionIdx a f (a - 1) = nRegions a f - 1 := by
  have := nRegions_cases a f
  have := regionIdx_cases a f (a - 1)
  omega

/-- the table pointer advances when leaving `p` iff `p < minbound ∨ p ≥ maxbound` -/
theorem regionIdx_succ {a f p : Nat} :
    regionIdx a f (p + 1) = regionIdx a f p +
      (if (p : Int) < (f : Int) / 2 ∨ (p : Int) ≥ (a : Int) - (f : Int) + (f : Int) / 2 then 1 else 0) := by
  have h1 := regionIdx_cases a f p
  have h2 := regionIdx_cases a f (p + 1)
  by_cases c : (p : Int) < (f : Int) / 2 ∨ (p : Int) ≥ (a : Int) - (f : Int) + (f : Int) / 2
  · rw [if_pos c]; omega
  · rw [if_neg c]; omega

/-- one axis of a table entry / of the closed form: `fix(k - o + q) - q` -/
def axisOffset (m : Mode) (a f : Nat) (k q : Int) : Option Int :=
  (fixOffset m (k - ((f : Int) / 2) + q) a).map fun cc => cc - q

/-- the representative of the region of `p` is `p` itself, except in the interior, where it is the origin -/
theorem rep_regionIdx (a f p : Nat) :
    rep a f (regionIdx a f p) = p ∨
      (f ≤ a ∧ f / 2 < p ∧ p ≤ a - f + f / 2 ∧ rep a f (regionIdx a f p) = f / 2) := by
  rcases regionIdx_cases a f p with ⟨h, e⟩ | ⟨h0, h1, h2, e⟩ | ⟨h0, h1, e⟩
  · rw [e]; have := rep_cases a f p; omega
  · rw [e]; have := rep_cases a f (f / 2); omega
  · have := rep_cases a f (regionIdx a f p); omega

/-- **Key lemma** (per axis, all modes): the offset stored for the region of `p`, computed at the
    representative position of that region, is the offset of the closed form at `p` itself:
    either the representative *is* `p`, or both are interior, where `fix` is the identity. -/
theorem axisOffset_rep (m : Mode) {a f p : Nat} {k : Int} (hk0 : 0 ≤ k) (hk1 : k < f) :
    axisOffset m a f k ((rep a f (regionIdx a f p) : Nat) : Int) = axisOffset m a f k (p : Int) := by
  rcases rep_regionIdx a f p with hrep | ⟨hfa, h1, h2, h3⟩
  · rw [hrep]
  · unfold axisOffset
    rw [h3, fixOffset_inside m _ _ (by omega) (by omega), fixOffset_inside m _ _ (by omega) (by omega)]
    simp only [Option.map_some]
    apply congrArg some; omega

end FilterIter
end Mahotas
