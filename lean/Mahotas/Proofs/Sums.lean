/-
Sums of lists over a monoid or a division ring: division by a constant, `flatMap` and `filterMap` under a sum,
the exchange of two sums, a sum over a row-major product as a double sum.
-/
import Mahotas.Proofs.ListLemmas
import Mathlib.Algebra.BigOperators.Group.List.Basic
import Mathlib.Algebra.BigOperators.Ring.List
import Mathlib.Algebra.Field.Defs
namespace Mahotas

theorem sum_map_div {β : Type} [DivisionRing β] (l : List β) (t : β) : (l.map (· / t)).sum = l.sum / t := by
  simp only [div_eq_mul_inv]
  rw [List.sum_map_mul_right, List.map_id']

theorem sum_flatMap' {β γ : Type} [AddMonoid β] (l : List γ) (g : γ → List β) :
    (l.flatMap g).sum = (l.map fun a => (g a).sum).sum := by
  induction l with
  | nil => rfl
  | cons a t ih => rw [List.flatMap_cons, List.sum_append, ih, List.map_cons, List.sum_cons]

theorem sum_map_filterMap {β γ δ : Type} [AddMonoid β] (l : List δ) (g : δ → Option γ) (φ : γ → β) :
    ((l.filterMap g).map φ).sum = (l.map fun x => (g x).elim 0 φ).sum := by
  induction l with
  | nil => simp
  | cons a t ih =>
    cases h : g a <;> simp [h, ih]

theorem sum_filterMap_ite {β : Type} [AddMonoid β] (l : List ℕ) (c : ℕ → Bool) (f : ℕ → β) :
    (l.filterMap fun j => if c j then some (f j) else none).sum = (l.map fun j => if c j then f j else 0).sum := by
  rw [← List.map_id (l.filterMap _), sum_map_filterMap]
  exact congrArg List.sum (List.map_congr_left fun j _ => by split <;> rfl)

theorem sum_sum_comm {R : Type} [AddCommMonoid R] (l1 l2 : List Nat) (g : Nat → Nat → R) :
    (l1.map fun a => (l2.map fun b => g a b).sum).sum = (l2.map fun b => (l1.map fun a => g a b).sum).sum := by
  induction l1 with
  | nil => simp
  | cons a t ih => simp only [List.map_cons, List.sum_cons, ih, List.sum_map_add]

theorem sum_range_mul {R : Type} [AddMonoid R] (a b : Nat) (g : Nat → Nat → R) :
    ((List.range (a * b)).map fun i => g (i / b) (i % b)).sum =
      ((List.range a).map fun j => ((List.range b).map fun i => g j i).sum).sum := by
  rw [range_mul_map, sum_flatMap']
  refine congrArg List.sum (List.map_congr_left fun j _ => congrArg List.sum (List.map_congr_left fun i hi => ?_))
  rw [rowMajor_div j (List.mem_range.1 hi), rowMajor_mod j (List.mem_range.1 hi)]

end Mahotas
