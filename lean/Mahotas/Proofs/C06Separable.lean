/-
C06 — separability: `gaussian_filter` (one `convolve1d` pass per axis, exact arithmetic, no
rounding between the passes) is ONE n-D convolution with the outer-product kernel.

The border rule acts coordinate-wise (`specPos`), so the composition of the per-axis passes reads `f`
at `(border(p₀ + j₀ − c₀), …, border(p_{d−1} + j_{d−1} − c_{d−1}))` — exactly what the n-D defining sum
with the kernel `W[j] = Π_a w_a[j_a]` reads; a sample that falls outside on some axis in the
`constant` (cval = 0) / `ignore` modes contributes nothing in either form. The proof is a Fubini
exchange of finite sums, by structural induction over the axes. The same pointwise form of the passes gives
the response to a constant image (`gaussianFold_const`).
-/
import Mahotas.Proofs.C06Const
namespace Mahotas.C06
open Mahotas

section defs
variable {α : Type} [Mul α] [One α] [Zero α]

/-- kernel shape `(len w_0, …, len w_{n−1})` -/
def outerShape (n : Nat) (ws : Nat → Array α) : List Nat := (List.range n).map fun a => (ws a).size

/-- weight of the outer-product kernel at the flat (C-order) index `i`: `Π_a w_a[j_a]`, `j = unravel i` -/
def outerWeight (n : Nat) (ws : Nat → Array α) (i : Nat) : α :=
  ((List.range n).map fun a => (ws a).getD ((unravel (outerShape n ws) i).getD a 0) 0).prod

/-- the outer-product kernel `w_0 ⊗ … ⊗ w_{n−1}` as a C-order array -/
def outerKernel (n : Nat) (ws : Nat → Array α) : Array α :=
  ((List.range (shapeSize (outerShape n ws))).map (outerWeight n ws)).toArray

end defs

section semiring
variable {R : Type} [CommSemiring R]

/-- value of `G` at an optional position (a dropped sample contributes 0) -/
def pick (G : List Int → R) : Option (List Int) → R
  | some q => G q
  | none => 0

/-- one pass along axis `a` on functions of positions: the sum along the line through `p`,
    `p ↦ Σ_j w[j] · G(p[a := border(p[a] + j − c)])` -/
def axisOp (m : Mode) (s : List Nat) (a : Nat) (w : Array R) (G : List Int → R) (p : List Int) : R :=
  axisSum m (s.getD a 1) w (fun o => G (setAxis p a o)) (p.getD a 0)

/-- the passes along the axes `l`, first element first -/
def passes (m : Mode) (s : List Nat) (ws : Nat → Array R) (l : List Nat) (G : List Int → R) :
    List Int → R :=
  l.foldl (fun G a => axisOp m s a (ws a) G) G

/-- the n-D defining sum on functions of positions -/
def convG (m : Mode) (s K : List Nat) (Wf : Nat → R) (G : List Int → R) (p : List Int) : R :=
  ((List.range (shapeSize K)).map fun i => Wf i * pick G (specPos m s (addPos p (offsetOf K i)))).sum

theorem specSample_eq_pick (m : Mode) (f : Img R) (p : List Int) :
    specSample m f p = pick (fun q => f.getD q 0) (specPos m f.shape p) := by
  unfold specSample
  cases specPos m f.shape p <;> rfl

theorem convSpec_eq_convG (m : Mode) (f : Img R) (K : List Nat) (w : Array R) (p : List Int) :
    convSpec m f K w p = convG m f.shape K (fun i => w.getD i 0) (fun q => f.getD q 0) p := by
  unfold convSpec convG
  simp only [specSample_eq_pick]

theorem pick_specPos_cons (m : Mode) (G : List Int → R) (d : Nat) (ds : List Nat) (y : Int) (ys : List Int) :
    pick G (specPos m (d :: ds) (y :: ys)) =
      read1 m d (fun o => pick (fun q => G (o :: q)) (specPos m ds ys)) y := by
  simp only [specPos]
  unfold read1
  cases borderSpec m y d <;> cases specPos m ds ys <;> rfl

theorem pick_read1 (m : Mode) (N : Nat) (G : List Int → R) (cc : Int) (sp : Option (List Int)) :
    pick (fun q' => read1 m N (fun o => G (o :: q')) cc) sp =
      read1 m N (fun o => pick (fun q => G (o :: q)) sp) cc := by
  unfold read1
  cases borderSpec m cc N <;> cases sp <;> rfl

theorem pick_sum (c : Nat → R) (H : Nat → List Int → R) (l : List Nat) (o : Option (List Int)) :
    pick (fun q => (l.map fun j => c j * H j q).sum) o = (l.map fun j => c j * pick (H j) o).sum := by
  cases o with
  | some q => rfl
  | none => simp [pick]

/-- passes along axes `≥ 1` leave coordinate 0 alone: `axisOp m (d :: ds) (a + 1) w G (x :: q)` is
    `axisOp m ds a w (fun q' => G (x :: q')) q` by definition -/
theorem passes_succ (m : Mode) (d : Nat) (ds : List Nat) (ws : Nat → Array R) (l : List Nat)
    (G : List Int → R) (x : Int) (q : List Int) :
    passes m (d :: ds) ws (l.map Nat.succ) G (x :: q) =
      passes m ds (fun a => ws (a + 1)) l (fun q' => G (x :: q')) q := by
  induction l generalizing G with
  | nil => rfl
  | cons a t ih => exact ih _

omit [CommSemiring R] in
theorem outerShape_succ (n : Nat) (ws : Nat → Array R) :
    outerShape (n + 1) ws = (ws 0).size :: outerShape n (fun a => ws (a + 1)) := by
  unfold outerShape
  rw [List.range_succ_eq_map, List.map_cons, List.map_map]
  rfl

theorem outerWeight_succ (n : Nat) (ws : Nat → Array R) (i : Nat) :
    outerWeight (n + 1) ws i =
      (ws 0).getD (i / shapeSize (outerShape n fun a => ws (a + 1))) 0 *
        outerWeight n (fun a => ws (a + 1)) (i % shapeSize (outerShape n fun a => ws (a + 1))) := by
  unfold outerWeight
  rw [outerShape_succ, List.range_succ_eq_map, List.map_cons, List.prod_cons, List.map_map]
  rfl

theorem passes_eq_convG (m : Mode) (s : List Nat) (ws : Nat → Array R) (G : List Int → R) (p : List Int)
    (hp : p.length = s.length) :
    passes m s ws (List.range s.length) G p =
      convG m s (outerShape s.length ws) (outerWeight s.length ws) G p := by
  induction s generalizing ws G p with
  | nil =>
    cases p with
    | nil => simp [passes, convG, outerShape, outerWeight, shapeSize, unravel, specPos, pick]
    | cons x xs => simp at hp
  | cons d ds ih =>
    cases p with
    | nil => simp at hp
    | cons x xs =>
      have hxs : xs.length = ds.length := by simpa using hp
      rw [List.length_cons, List.range_succ_eq_map]
      have h1 : passes m (d :: ds) ws (0 :: (List.range ds.length).map Nat.succ) G (x :: xs) =
          passes m (d :: ds) ws ((List.range ds.length).map Nat.succ) (axisOp m (d :: ds) 0 (ws 0) G) (x :: xs) := rfl
      rw [h1, passes_succ, ih _ _ xs hxs]
      -- the pass along axis 0 at `x :: q'`, written out
      have h2 : (fun q' => axisOp m (d :: ds) 0 (ws 0) G (x :: q')) =
          fun q' => ((List.range (ws 0).size).map fun (j : Nat) => (ws 0).getD j 0 *
            read1 m d (fun o => G (o :: q')) (x + (j : Int) - (((ws 0).size / 2 : Nat) : Int))).sum := rfl
      rw [h2]
      unfold convG
      rw [outerShape_succ]
      simp only [shapeSize, outerWeight_succ, offsetOf_cons, addPos, pick_specPos_cons, pick_sum, pick_read1]
      rw [sum_range_mul (ws 0).size (shapeSize (outerShape ds.length fun a => ws (a + 1)))
        (fun j i => (ws 0).getD j 0 * outerWeight ds.length (fun a => ws (a + 1)) i *
          read1 m d (fun o => pick (fun q => G (o :: q))
            (specPos m ds (addPos xs (offsetOf (outerShape ds.length fun a => ws (a + 1)) i))))
            (x + (Int.ofNat j - (((ws 0).size / 2 : Nat) : Int))))]
      rw [sum_sum_comm]
      refine congrArg List.sum (List.map_congr_left fun i _ => ?_)
      rw [← List.sum_map_mul_left]
      refine congrArg List.sum (List.map_congr_left fun j _ => ?_)
      rw [Int.add_sub_assoc]
      simp only [Int.ofNat_eq_natCast]
      ring

theorem axisOp_congr (m : Mode) (s : List Nat) (a : Nat) (w : Array R) (G G' : List Int → R)
    (h : ∀ q, inside s q = true → G q = G' q) (p : List Int) (hp : inside s p = true) :
    axisOp m s a w G p = axisOp m s a w G' p :=
  axisSum_congr m _ (Int.natCast_pos.1 ((C01.getD_lt_of_inside s p hp a).elim Int.lt_of_le_of_lt)) w _ _
    (fun o h0 h1 => h _ (inside_setAxis s p a o hp h0 h1)) _

theorem passes_congr (m : Mode) (s : List Nat) (ws : Nat → Array R) (l : List Nat)
    (G G' : List Int → R) (h : ∀ q, inside s q = true → G q = G' q) :
    ∀ p, inside s p = true → passes m s ws l G p = passes m s ws l G' p := by
  induction l generalizing G G' with
  | nil => exact h
  | cons a t ih => exact ih _ _ (fun q hq => axisOp_congr m s a (ws a) G G' h q hq)

theorem gaussianFold_eq_passes (isZero : R → Bool) (hz : ∀ x, isZero x = true → x = 0) (m : Mode)
    (ws : Nat → Array R) (s : List Nat) (l : List Nat) (hl : ∀ a ∈ l, a < s.length) (cur : Img R)
    (hs : cur.shape = s) :
    (l.foldl (fun cur ax => gaussianPass id isZero m cur ax (ws ax)) cur).shape = s ∧
    ∀ p, inside s p = true →
      (l.foldl (fun cur ax => gaussianPass id isZero m cur ax (ws ax)) cur).getD p 0 =
        passes m s ws l (fun q => cur.getD q 0) p := by
  induction l generalizing cur with
  | nil => exact ⟨hs, fun p _ => rfl⟩
  | cons a t ih =>
    have ha : a < cur.shape.length := by rw [hs]; exact hl a (by simp)
    obtain ⟨h1, h2⟩ := ih (fun b hb => hl b (List.mem_cons_of_mem _ hb)) (gaussianPass id isZero m cur a (ws a))
      (by rw [gaussianPass_shape, hs])
    refine ⟨h1, fun p hp => (h2 p hp).trans (passes_congr m s ws t _ _ (fun q hq => ?_) p hp)⟩
    have hq' : inside cur.shape q = true := by rw [hs]; exact hq
    rw [gaussianPass_eq_tabulate id isZero hz m cur a (ws a) ha, tabulate_getD _ _ q 0 hq',
      convSpec_embed m cur a (ws a) q hq' ha, hs]
    rfl

theorem passes_const (m : Mode) (hm : Extending m) (s : List Nat) (ws : Nat → Array R) (l : List Nat) (c : R) :
    passes m s ws l (fun _ => c) = fun _ => (l.map fun ax => (ws ax).toList.sum).prod * c := by
  induction l generalizing c with
  | nil => exact funext fun _ => (one_mul c).symm
  | cons a t ih =>
    have h : axisOp m s a (ws a) (fun _ => c) = fun _ => (ws a).toList.sum * c :=
      funext fun p => axisSum_const m hm _ _ c _
    unfold passes at ih ⊢
    rw [List.foldl_cons, h, ih, List.map_cons, List.prod_cons]
    exact funext fun _ => by rw [mul_left_comm, mul_assoc]

theorem gaussianFold_const (isZero : R → Bool) (hz : ∀ x, isZero x = true → x = 0) (m : Mode)
    (hm : Extending m) (ws : Nat → Array R) (shape : List Nat) (l : List Nat) (hl : ∀ a ∈ l, a < shape.length)
    (cur : Img R) (c : R) (hsh : cur.shape = shape) (hc : ∀ q, inside shape q = true → cur.getD q 0 = c) :
    (l.foldl (fun cur ax => gaussianPass id isZero m cur ax (ws ax)) cur).shape = shape ∧
    ∀ q, inside shape q = true →
      (l.foldl (fun cur ax => gaussianPass id isZero m cur ax (ws ax)) cur).getD q 0 =
        (l.map fun ax => (ws ax).toList.sum).prod * c := by
  obtain ⟨h1, h2⟩ := gaussianFold_eq_passes isZero hz m ws shape l hl cur hsh
  refine ⟨h1, fun q hq => ?_⟩
  rw [h2 q hq, passes_congr m shape ws l _ (fun _ => c) hc q hq]
  exact congrFun (passes_const m hm shape ws l c) q

theorem outerKernel_getD (n : Nat) (ws : Nat → Array R) (i : Nat) (hi : i < shapeSize (outerShape n ws)) :
    (outerKernel n ws).getD i 0 = outerWeight n ws i := by
  unfold outerKernel
  rw [Array.getD_eq_getD_getElem?]
  simp [hi]

theorem gaussianFilterG_separable (isZero : R → Bool) (hz : ∀ x, isZero x = true → x = 0) (m : Mode)
    (f : Img R) (ws : Nat → Array R) :
    (gaussianFilterG id isZero m f ws).shape = f.shape ∧
    ∀ p, inside f.shape p = true →
      (gaussianFilterG id isZero m f ws).getD p 0 =
        convSpec m f (outerShape f.shape.length ws) (outerKernel f.shape.length ws) p := by
  obtain ⟨h1, h2⟩ := gaussianFold_eq_passes isZero hz m ws f.shape (List.range f.shape.length)
    (fun a ha => List.mem_range.1 ha) f rfl
  refine ⟨h1, fun p hp => ?_⟩
  unfold gaussianFilterG
  rw [h2 p hp, passes_eq_convG m f.shape ws _ p (C01.inside_length hp), convSpec_eq_convG]
  unfold convG
  apply congrArg
  apply List.map_congr_left
  intro i hi
  beta_reduce
  rw [outerKernel_getD _ _ i (List.mem_range.1 hi)]

/-- `hn`: for rank 0 there is no pass and the input buffer is returned, whatever its size -/
theorem gaussianFilterG_separable_list (isZero : R → Bool) (hz : ∀ x, isZero x = true → x = 0) (m : Mode)
    (f : Img R) (ws : Nat → Array R) (hn : 0 < f.shape.length) :
    (gaussianFilterG id isZero m f ws).data.toList =
      (allPos f.shape).map (convSpec m f (outerShape f.shape.length ws) (outerKernel f.shape.length ws)) := by
  obtain ⟨hsh, hpt⟩ := gaussianFilterG_separable isZero hz m f ws
  obtain ⟨k, hk⟩ : ∃ k, f.shape.length = k + 1 := ⟨f.shape.length - 1, (Nat.sub_add_cancel hn).symm⟩
  have htab : ∃ S g, gaussianFilterG id isZero m f ws = Img.tabulate S g := by
    unfold gaussianFilterG
    rw [hk, List.range_succ, List.foldl_append]
    simp only [List.foldl_cons, List.foldl_nil]
    have hcur := (gaussianFold_eq_passes isZero hz m ws f.shape (List.range k)
      (fun a ha => by have := List.mem_range.1 ha; omega) f rfl).1
    exact ⟨_, _, gaussianPass_eq_tabulate id isZero hz m _ k (ws k) (by rw [hcur]; omega)⟩
  obtain ⟨S, g, hSg⟩ := htab
  exact toList_eq_map_getD _ 0 _ _ hsh (hsh ▸ hSg ▸ Img.tabulate_data_size S g) hpt

end semiring
end Mahotas.C06
