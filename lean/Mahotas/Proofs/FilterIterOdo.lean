/-
F6, odometers: the loop skeleton `odoRev` counts in a mixed radix (last axis first), whatever
the per-axis successor does, as long as it walks through `rad` "digits" and then carries.
Plus the mixed-radix facts that connect the last-axis-first digits with `unravel` (C order), and the same loop on lists in
axis order (`odoFwd`, `odoFwd_state`), whose states are `unravel` itself.
-/
import Mahotas.Model.FilterIter
import Mahotas.Proofs.Index
import Mahotas.Proofs.ListLemmas
namespace Mahotas
namespace FilterIter

/-- the state of an odometer after `i` steps: per axis the `(i / (product of faster radices)) % rad`-th digit -/
def digits {α : Type} (rad : α → Nat) (dig : α → Nat → Int) : List α → Nat → List Int
  | [], _ => []
  | a :: as, i => dig a (i % rad a) :: digits rad dig as (i / rad a)

def radProd {α : Type} (rad : α → Nat) : List α → Nat
  | [] => 1
  | a :: as => rad a * radProd rad as

theorem succ_divmod (i n : Nat) (hn : 0 < n) :
    (i % n + 1 < n → (i + 1) % n = i % n + 1 ∧ (i + 1) / n = i / n) ∧
    (¬ i % n + 1 < n → (i + 1) % n = 0 ∧ (i + 1) / n = i / n + 1) := by
  have hm := Nat.mod_add_div i n
  have hlt := Nat.mod_lt i hn
  constructor
  · intro h
    have := (Nat.div_mod_unique (a := i + 1) (d := i / n) (c := i % n + 1) hn).2 ⟨by omega, h⟩
    exact ⟨this.2, this.1⟩
  · intro h
    have := (Nat.div_mod_unique (a := i + 1) (d := i / n + 1) (c := 0) hn).2
      ⟨by rw [Nat.mul_add, Nat.mul_one]; omega, hn⟩
    exact ⟨this.2, this.1⟩

/-- **Odometer lemma**: one step of the loop skeleton takes the `i`-th state to the `(i+1)`-th
    (and the last state back to the first). -/
theorem odoRev_digits {α : Type} (succ : α → Int → Option Int) (rad : α → Nat) (dig : α → Nat → Int)
    (axes : List α)
    (h0 : ∀ a ∈ axes, dig a 0 = 0) (hrad : ∀ a ∈ axes, 0 < rad a)
    (hs : ∀ a ∈ axes, ∀ r, r < rad a →
      succ a (dig a r) = if r + 1 < rad a then some (dig a (r + 1)) else none) (i : Nat) :
    odoRev succ axes (digits rad dig axes i) = digits rad dig axes (i + 1) := by
  induction axes generalizing i with
  | nil => simp [digits, odoRev]
  | cons a as ih =>
    have hn : 0 < rad a := hrad a (by simp)
    have hlt := Nat.mod_lt i hn
    have hsd := succ_divmod i (rad a) hn
    simp only [digits, odoRev]
    rw [hs a (by simp) (i % rad a) hlt]
    by_cases h : i % rad a + 1 < rad a
    · obtain ⟨e1, e2⟩ := hsd.1 h
      simp only [h, if_true, e1, e2]
    · obtain ⟨e1, e2⟩ := hsd.2 h
      simp only [h, if_false, e1, e2]
      rw [h0 a (by simp)]
      congr 1
      exact ih (fun b hb => h0 b (by simp [hb])) (fun b hb => hrad b (by simp [hb]))
        (fun b hb => hs b (by simp [hb])) (i / rad a)

theorem digits_zero {α : Type} (rad : α → Nat) (dig : α → Nat → Int) (axes : List α)
    (h0 : ∀ a ∈ axes, dig a 0 = 0) : digits rad dig axes 0 = axes.map fun _ => 0 := by
  induction axes with
  | nil => rfl
  | cons a as ih =>
    simp only [digits, Nat.zero_mod, Nat.zero_div, List.map_cons]
    rw [h0 a (by simp), ih (fun b hb => h0 b (by simp [hb]))]

theorem digits_radProd {α : Type} (rad : α → Nat) (dig : α → Nat → Int) (axes : List α)
    (hrad : ∀ a ∈ axes, 0 < rad a) :
    digits rad dig axes (radProd rad axes) = digits rad dig axes 0 := by
  induction axes with
  | nil => rfl
  | cons a as ih =>
    have hn : 0 < rad a := hrad a (by simp)
    simp only [digits, radProd, Nat.mul_mod_right, Nat.mul_div_cancel_left _ hn, Nat.zero_mod,
      Nat.zero_div]
    rw [ih (fun b hb => hrad b (by simp [hb]))]

theorem digits_length {α : Type} (rad : α → Nat) (dig : α → Nat → Int) (axes : List α) (i : Nat) :
    (digits rad dig axes i).length = axes.length := by
  induction axes generalizing i with
  | nil => rfl
  | cons a as ih => simp [digits, ih]

theorem radProd_eq {α : Type} (rad : α → Nat) (xs : List α) : radProd rad xs = shapeSize (xs.map rad) := by
  induction xs with
  | nil => rfl
  | cons a as ih => rw [radProd, ih]; rfl

theorem radProd_reverse {α : Type} (rad : α → Nat) (xs : List α) :
    radProd rad xs.reverse = radProd rad xs := by
  rw [radProd_eq, List.map_reverse, shapeSize_reverse, radProd_eq]

theorem radProd_id (s : List Nat) : radProd id s = shapeSize s := by
  rw [radProd_eq, List.map_id]

/-! ### last-axis-first digits versus `unravel` -/

/-- mixed-radix digits of `i`, fastest axis first -/
def unravelLE : List Nat → Nat → List Nat
  | [], _ => []
  | n :: ns, i => (i % n) :: unravelLE ns (i / n)

theorem unravelLE_length (s : List Nat) (i : Nat) : (unravelLE s i).length = s.length := by
  induction s generalizing i with
  | nil => rfl
  | cons a as ih => simp [unravelLE, ih]

/-- digits that are just the counter values (filter coordinates, array iterator position) -/
def natDig (_ : Nat) (r : Nat) : Int := (r : Int)

/-- the hypothesis `hs` of `odoRev_digits` and `odoFwd_state` for `coordSucc` over the digits `natDig` -/
theorem coordSucc_natCast (n r : Nat) :
    coordSucc n (r : Int) = if r + 1 < n then some ((r : Int) + 1) else none := by
  unfold coordSucc
  by_cases h : r + 1 < n
  · rw [if_pos h, if_pos (by omega)]
  · rw [if_neg h, if_neg (by omega)]

theorem digits_eq_map (s : List Nat) (i : Nat) :
    digits id natDig s i = (unravelLE s i).map Int.ofNat := by
  induction s generalizing i with
  | nil => rfl
  | cons a as ih => simp only [digits, unravelLE, List.map_cons, id, ih, natDig]; rfl

theorem unravelLE_snoc (xs : List Nat) (d i : Nat) :
    unravelLE (xs ++ [d]) i = unravelLE xs (i % shapeSize xs) ++ [(i / shapeSize xs) % d] := by
  induction xs generalizing i with
  | nil => simp [unravelLE, shapeSize]
  | cons n ns ih =>
    simp only [List.cons_append, unravelLE, shapeSize, ih]
    rw [Nat.mod_mul_right_mod, Nat.mod_mul_right_div_self, Nat.div_div_eq_div_mul]

theorem shapeSize_pos (s : List Nat) (h : ∀ d ∈ s, 0 < d) : 0 < shapeSize s :=
  Mahotas.shapeSize_pos s h

/-- the reversed last-axis-first digits are the C-order coordinates -/
theorem unravelLE_reverse (s : List Nat) (i : Nat) (hi : i < shapeSize s) :
    (unravelLE s.reverse i).reverse = unravel s i := by
  induction s generalizing i with
  | nil => rfl
  | cons d ds ih =>
    simp only [List.reverse_cons, unravelLE_snoc, List.reverse_append, List.reverse_cons,
      List.reverse_nil, List.nil_append, List.cons_append, unravel, shapeSize_reverse]
    simp only [shapeSize] at hi
    by_cases hz : shapeSize ds = 0
    · rw [hz] at hi; omega
    · have hpos : 0 < shapeSize ds := by omega
      rw [ih (i % shapeSize ds) (Nat.mod_lt _ hpos)]
      rw [Nat.mod_eq_of_lt (Nat.div_lt_of_lt_mul (by rw [Nat.mul_comm]; exact hi))]

/-! ### the same loop on lists in axis order -/

/-- the carry loop of `odoRev` on lists in axis order: the last axis that can advance does, the axes behind
    it return to 0; `none` = every axis wrapped -/
def odoFwd {α : Type} (succ : α → Int → Option Int) : List α → List Int → Option (List Int)
  | a :: as, x :: xs =>
    match odoFwd succ as xs with
    | some xs' => some (x :: xs')
    | none => (succ a x).map fun y => y :: xs.map fun _ => 0
  | _, _ => none

/-- the state with flat index `i`: digit `r` of axis `a` shown as `dig a r` -/
def odoState {α : Type} (rad : α → Nat) (dig : α → Nat → Int) (X : List α) (i : Nat) : List Int :=
  List.zipWith dig X (unravel (X.map rad) i)

theorem odoState_zero_eq {α : Type} (rad : α → Nat) (dig : α → Nat → Int) (X : List α) (h0 : ∀ a ∈ X, dig a 0 = 0) :
    odoState rad dig X 0 = X.map fun _ => 0 := by
  induction X with
  | nil => rfl
  | cons a as ih =>
    simp only [odoState, List.map_cons, unravel, List.zipWith_cons_cons, Nat.zero_div, Nat.zero_mod, h0 a (by simp)]
    exact congrArg _ (ih fun b hb => h0 b (by simp [hb]))

theorem odoState_zero {α : Type} (rad : α → Nat) (dig : α → Nat → Int) (X : List α) (h0 : ∀ a ∈ X, dig a 0 = 0)
    (i : Nat) : odoState rad dig X 0 = (odoState rad dig X i).map fun _ => 0 := by
  rw [odoState_zero_eq rad dig X h0, List.map_const', List.map_const', odoState, List.length_zipWith, unravel_length,
    List.length_map, Nat.min_self]

/-- one step of the forward odometer takes the state with flat index `i` to the one with index `i + 1`, and there is
    none after the last (as `odoRev_digits`, same hypotheses) -/
theorem odoFwd_state {α : Type} (succ : α → Int → Option Int) (rad : α → Nat) (dig : α → Nat → Int) (X : List α)
    (h0 : ∀ a ∈ X, dig a 0 = 0) (hrad : ∀ a ∈ X, 0 < rad a)
    (hs : ∀ a ∈ X, ∀ r, r < rad a → succ a (dig a r) = if r + 1 < rad a then some (dig a (r + 1)) else none)
    (i : Nat) (hi : i < shapeSize (X.map rad)) :
    odoFwd succ X (odoState rad dig X i) =
      if i + 1 < shapeSize (X.map rad) then some (odoState rad dig X (i + 1)) else none := by
  induction X generalizing i with
  | nil =>
    have : i = 0 := by simpa [shapeSize] using hi
    subst this
    rfl
  | cons a as ih =>
    have hS : 0 < shapeSize (as.map rad) := shapeSize_pos _ fun d hd => by
      obtain ⟨b, hb, rfl⟩ := List.mem_map.1 hd
      exact hrad b (by simp [hb])
    simp only [List.map_cons, shapeSize] at hi ⊢
    have hq : i / shapeSize (as.map rad) < rad a := (Nat.div_lt_iff_lt_mul hS).2 hi
    have hsd := succ_divmod i _ hS
    have hcond : i + 1 < rad a * shapeSize (as.map rad) ↔ (i + 1) / shapeSize (as.map rad) < rad a :=
      (Nat.div_lt_iff_lt_mul hS).symm
    have ih' := ih (fun b hb => h0 b (by simp [hb])) (fun b hb => hrad b (by simp [hb]))
      (fun b hb => hs b (by simp [hb])) (i % shapeSize (as.map rad)) (Nat.mod_lt _ hS)
    simp only [odoState, List.map_cons, unravel, List.zipWith_cons_cons] at ih' ⊢
    rw [odoFwd, ih']
    by_cases h : i % shapeSize (as.map rad) + 1 < shapeSize (as.map rad)
    · obtain ⟨e1, e2⟩ := hsd.1 h
      rw [if_pos h, if_pos (hcond.2 (e2 ▸ hq)), e1, e2]
    · obtain ⟨e1, e2⟩ := hsd.2 h
      rw [if_neg h, hs a (by simp) _ hq, e1, e2]
      by_cases h2 : i / shapeSize (as.map rad) + 1 < rad a
      · rw [if_pos h2, if_pos (hcond.2 (e2 ▸ h2)), Option.map_some]
        exact congrArg (fun l => some (_ :: l)) (odoState_zero rad dig as (fun b hb => h0 b (by simp [hb])) _).symm
      · rw [if_neg h2, if_neg fun hc => h2 (e2 ▸ hcond.1 hc)]
        rfl

end FilterIter
end Mahotas
