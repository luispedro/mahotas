/-
Ties between the bodies of `resize.py: resize_to` and `resize.py: imresize` (regenerated on every run into
`Generated/PyBodiesC18.lean`) and `C18.resizeTo`, `C18.imresizeInt` / `C18.imresizeFactor`, the definitions the driver runs
for the kinds `rs` (`name=resize_to`, `imresize`, `imresize_factor`) and `rsi`.
-/
import Mahotas.Generated.PyBodiesC18
import Mahotas.Model.C18

namespace Mahotas
open Mahotas.Generated.Py Mahotas.C18

section resize
variable {α : Type} [Add α] [Sub α] [Mul α] [Div α] [Neg α] [NatCast α] [IntCast α] [LT α] [DecidableLT α]

/-- the primitives of `resize_to` on the model's images: a destination array is its shape (and the dtype of the image it
    was made for), and `zoom(array, factors, order=order, out=out)` — defaults `mode='constant'`, `cval=0.0`,
    `prefilter=True` — is the model's `zoomGlue` of the prefiltered image onto the shape of `out`: with `out` given, `zoom`
    recomputes the factors from the two shapes and does not use the ones it is handed (`interpolate.py: zoom`;
    reviewed — the body of `zoom` itself is not translated). -/
abbrev c18Prims (fl : α → Int) (pre : Img α → Img α) : ResizePrims α (Img α) Unit (List Nat) where
  ndim := fun im => im.shape.length
  dtype := fun _ => ()
  shape := fun im => im.shape
  empty := fun sh _ => sh
  zoom_out := fun im _ order out => zoomGlue fl order .constant ((0 : Nat) : α) (pre im) out

/-- **`resize.resize_to` = `C18.resizeTo`**, for every image, requested size and order: the length guard
    (`none` = `ValueError`), the destination array of shape `nsize` that fixes the output shape, the order handed on, and
    the image handed on unchanged. -/
theorem pybody_resize_resize_to_eq_model (ofNat : Nat → α) (ofInt : Int → α) (flit : Nat → Nat → α) (fl : α → Int)
    (pre : Img α → Img α) (im : Img α) (nsize : List Nat) (order : Nat) :
    resize_resize_to ofNat ofInt flit (c18Prims fl pre) im nsize order = resizeTo fl pre order im nsize := by
  unfold resize_resize_to resizeTo
  by_cases h : nsize.length ≠ im.shape.length
  · simp [h]
  · simp [h]

/-- the `nsize` argument of `imresize` as Python sees it: a tuple / list whose first entry is an `int` (a requested shape), or a
    zoom factor (a float, or a sequence of floats) -/
inductive PySize (α : Type) where
  | ints (l : List Nat)
  | factor (scalar : Bool) (zs : List α)

/-- the primitives of `imresize`: `zoom(img, factors, order=order, out=out)` (defaults `mode='constant'`, `cval=0.0`) raises
    when `out` has another rank than the image and is the model's `zoomGlue` onto `out.shape` otherwise (the factors handed
    are not used once `out` is given); `zoom(img, nsize, order=order)` is `C18.zoomByFactor` (`zoomOutShape` + `zoomGlue`);
    an integer sequence handed to the factor path is read as float factors. -/
abbrev c18ImresizePrims (fl : α → Int) (pre : Img α → Img α) : ImresizePrims α (Img α) (PySize α) (List Nat) Unit where
  is_tuple := fun s => match s with | .ints _ => true | .factor sc _ => !sc
  is_list := fun _ => false
  first_is_int := fun s => match s with | .ints _ => true | .factor _ _ => false
  float64 := ()
  empty := fun s _ => match s with | .ints l => l | .factor _ _ => []
  as_floats := fun s => match s with | .ints l => l.map fun (n : Nat) => (n : α) | .factor _ zs => zs
  shape := fun im => im.shape
  zoom_out := fun im _ order out =>
    if out.length ≠ im.shape.length then none else some (zoomGlue fl order .constant ((0 : Nat) : α) (pre im) out)
  zoom_factor := fun im s order => match s with
    | .factor sc zs => zoomByFactor fl pre order .constant ((0 : Nat) : α) im sc zs
    | .ints l => zoomByFactor fl pre order .constant ((0 : Nat) : α) im false (l.map fun (n : Nat) => (n : α))

/-- **`resize.imresize`**: a tuple / list whose first entry is an `int` takes the shape path —
    `C18.imresizeInt` (the requested shape is passed as `out`) —, everything else the factor path — `C18.imresizeFactor` -/
theorem pybody_resize_imresize_eq_model (ofNat : Nat → α) (ofInt : Int → α) (flit : Nat → Nat → α) (fl : α → Int)
    (pre : Img α → Img α) (img : Img α) (order : Nat) :
    (∀ l : List Nat, resize_imresize ofNat ofInt flit (c18ImresizePrims fl pre) img (.ints l) order = imresizeInt fl pre order img l) ∧
    (∀ (sc : Bool) (zs : List α),
      resize_imresize ofNat ofInt flit (c18ImresizePrims fl pre) img (.factor sc zs) order = imresizeFactor fl pre order img sc zs) := by
  constructor
  · intro l
    simp only [resize_imresize, imresizeInt]
    rfl
  · intro sc zs
    cases sc <;> simp [resize_imresize, imresizeFactor]

end resize

/-- non-vacuity: a size of the wrong length raises; a size of the right length gives an image of exactly that shape -/
example : resize_resize_to (fun n => (n : Int)) id (fun m _ => m) (c18Prims (fun z => z) id) ⟨[2, 2], #[1, 2, 3, 4]⟩ [3] 1 = none ∧
    (resize_resize_to (fun n => (n : Int)) id (fun m _ => m) (c18Prims (fun z => z) id) ⟨[2, 2], #[1, 2, 3, 4]⟩ [3, 5] 1).map (·.shape)
      = some [3, 5] := by
  constructor
  · decide
  · rw [pybody_resize_resize_to_eq_model]; rfl

end Mahotas
