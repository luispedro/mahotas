/-
C13 — bounding boxes. The generic loop of `bbox` folds `bboxUpdate` over the positions of the non-zero pixels, so slot pair
`j` holds the running minimum / maximum of coordinate `j` (`bboxFold_axis`): the box is tight on every axis. The C-contiguous
2-D skip-ahead path (`carray2_bbox`) computes the same box because the pixels it skips are no-ops (`bboxRow_eq`);
`bbox_labeled` is `bbox` of the indicator image of each label.
-/
import Mahotas.Proofs.C13
import Mahotas.Proofs.C13Regions
namespace Mahotas.C13
open Mahotas

theorem bboxUpdate_length (ext p : List Int) : (bboxUpdate ext p).length = ext.length := by
  fun_induction bboxUpdate ext p with
  | case1 lo hi rest q qs ih => rw [List.length_cons, List.length_cons, ih]; rfl
  | case2 => rfl

theorem foldl_bboxUpdate_length (ps : List (List Int)) (ext : List Int) :
    (ps.foldl bboxUpdate ext).length = ext.length :=
  foldl_inv (·.length = ext.length) _ (fun e p h => (bboxUpdate_length e p).trans h) ps ext rfl

theorem bboxInit_cons (d : Nat) (ds : List Nat) : bboxInit (d :: ds) = (d : Int) :: 0 :: bboxInit ds := rfl

theorem bboxInit_length : ∀ shape : List Nat, (bboxInit shape).length = 2 * shape.length
  | [] => rfl
  | d :: ds => by
    rw [bboxInit_cons, List.length_cons, List.length_cons, bboxInit_length ds, List.length_cons]; omega

theorem bboxInit_getD : ∀ (shape : List Nat) (j : Nat), j < shape.length →
    (bboxInit shape).getD (2 * j) 0 = ((shape.getD j 0 : Nat) : Int) ∧ (bboxInit shape).getD (2 * j + 1) 0 = 0
  | _ :: _, 0, _ => ⟨rfl, rfl⟩
  | _ :: ds, j + 1, hj => bboxInit_getD ds j (Nat.lt_of_succ_lt_succ hj)
  | [], _, hj => absurd hj (Nat.not_lt_zero _)

theorem bboxUpdate_getD : ∀ (j : Nat) (ext p : List Int), j < p.length → 2 * j + 1 < ext.length →
    (bboxUpdate ext p).getD (2 * j) 0 = min (ext.getD (2 * j) 0) (p.getD j 0) ∧
    (bboxUpdate ext p).getD (2 * j + 1) 0 = max (ext.getD (2 * j + 1) 0) (p.getD j 0 + 1)
  | 0, _ :: _ :: _, _ :: _, _, _ => ⟨rfl, rfl⟩
  | j + 1, _ :: _ :: rest, _ :: qs, hp, he =>
    bboxUpdate_getD j rest qs (Nat.lt_of_succ_lt_succ hp) (by simp only [List.length_cons] at he; omega)
  | _, _, [], hp, _ => absurd hp (Nat.not_lt_zero _)
  | _, [], _, _, he => absurd he (Nat.not_lt_zero _)
  | _, [_], _, _, he => absurd he (by simp)

theorem bboxFold_getD (j : Nat) : ∀ (ps : List (List Int)) (ext : List Int), (∀ p ∈ ps, j < p.length) →
    2 * j + 1 < ext.length →
    (ps.foldl bboxUpdate ext).getD (2 * j) 0 = ps.foldl (fun m p => min m (p.getD j 0)) (ext.getD (2 * j) 0) ∧
    (ps.foldl bboxUpdate ext).getD (2 * j + 1) 0 =
      ps.foldl (fun m p => max m (p.getD j 0 + 1)) (ext.getD (2 * j + 1) 0)
  | [], _, _, _ => ⟨rfl, rfl⟩
  | p :: ps, ext, hp, he => by
    obtain ⟨a1, a2⟩ := bboxUpdate_getD j ext p (hp p List.mem_cons_self) he
    obtain ⟨b1, b2⟩ := bboxFold_getD j ps (bboxUpdate ext p) (fun q hq => hp q (List.mem_cons_of_mem _ hq))
      (by rw [bboxUpdate_length]; exact he)
    rw [List.foldl_cons, List.foldl_cons, List.foldl_cons, b1, b2, a1, a2]
    exact ⟨rfl, rfl⟩

/-- on axis `j` the fold leaves the least of the axis length and the coordinates, and the greatest of 0 and
    the coordinates + 1 -/
theorem bboxFold_axis (shape : List Nat) (j : Nat) (hj : j < shape.length) (ps : List (List Int))
    (hp : ∀ p ∈ ps, j < p.length) :
    IsLeast (insert ((shape.getD j 0 : Nat) : Int) {v | v ∈ ps.map (·.getD j 0)})
      ((ps.foldl bboxUpdate (bboxInit shape)).getD (2 * j) 0) ∧
    IsGreatest (insert 0 {v | v ∈ ps.map (·.getD j 0 + 1)})
      ((ps.foldl bboxUpdate (bboxInit shape)).getD (2 * j + 1) 0) := by
  obtain ⟨i0, i1⟩ := bboxInit_getD shape j hj
  obtain ⟨f1, f2⟩ := bboxFold_getD j ps (bboxInit shape) hp (by rw [bboxInit_length]; omega)
  have hlo := isLeast_foldl_min (ps.map (·.getD j 0)) ((shape.getD j 0 : Nat) : Int)
  have hhi := isGreatest_foldl_max (ps.map (·.getD j 0 + 1)) 0
  rw [List.foldl_map] at hlo hhi
  rw [f1, f2, i0, i1]
  exact ⟨hlo, hhi⟩

theorem bboxLoop_eq (shape : List Nat) (data : List Int) :
    (List.range data.length).foldl (fun ext i =>
      if data.getD i 0 ≠ 0 then bboxUpdate ext (unravelI shape i) else ext) (bboxInit shape) =
    (((List.range data.length).filter fun i => data.getD i 0 ≠ 0).map (unravelI shape)).foldl bboxUpdate
      (bboxInit shape) := by
  rw [foldl_filter (fun i => data.getD i 0 ≠ 0) (fun ext i => bboxUpdate ext (unravelI shape i)), List.foldl_map]

theorem bboxGeneric_length (shape : List Nat) (data : List Int) :
    (bboxGeneric shape data).length = 2 * shape.length := by
  rw [bboxGeneric, bboxLoop_eq, bboxFinish]
  split
  · rw [List.length_map, foldl_bboxUpdate_length, bboxInit_length]
  · rw [foldl_bboxUpdate_length, bboxInit_length]

theorem nzPos_bound {shape : List Nat} {data : List Int} (hlen : data.length = shapeSize shape) {p : List Int}
    (hp : p ∈ ((List.range data.length).filter fun i => data.getD i 0 ≠ 0).map (unravelI shape)) {j : Nat}
    (hj : j < shape.length) :
    j < p.length ∧ 0 ≤ p.getD j 0 ∧ p.getD j 0 < ((shape.getD j 0 : Nat) : Int) := by
  obtain ⟨i, hi, rfl⟩ := List.mem_map.mp hp
  have hi' : i < data.length := List.mem_range.mp (List.mem_filter.mp hi).1
  have := unravel_lt shape i (by omega) j hj
  rw [unravelI_getD, unravelI_length]
  omega

/-- the box contains every non-zero pixel and both bounds are attained -/
theorem bbox_tight (shape : List Nat) (data : List Int) (hlen : data.length = shapeSize shape) (j : Nat)
    (hj : j < shape.length) :
    let ps := ((List.range data.length).filter fun i => data.getD i 0 ≠ 0).map (unravelI shape)
    let ext := (List.range data.length).foldl (fun ext i =>
      if data.getD i 0 ≠ 0 then bboxUpdate ext (unravelI shape i) else ext) (bboxInit shape)
    (∀ p ∈ ps, ext.getD (2 * j) 0 ≤ p.getD j 0 ∧ p.getD j 0 + 1 ≤ ext.getD (2 * j + 1) 0) ∧
    (ps ≠ [] → (∃ p ∈ ps, p.getD j 0 = ext.getD (2 * j) 0) ∧ (∃ p ∈ ps, p.getD j 0 + 1 = ext.getD (2 * j + 1) 0)) := by
  intro ps ext
  obtain ⟨⟨lo_mem, lo_le⟩, ⟨hi_mem, hi_ge⟩⟩ := bboxFold_axis shape j hj ps fun p hp => (nzPos_bound hlen hp hj).1
  rw [← bboxLoop_eq] at lo_mem lo_le hi_mem hi_ge
  have hin : ∀ p ∈ ps, ext.getD (2 * j) 0 ≤ p.getD j 0 ∧ p.getD j 0 + 1 ≤ ext.getD (2 * j + 1) 0 := fun p hp =>
    ⟨lo_le (Or.inr (List.mem_map_of_mem (f := (·.getD j 0)) hp)),
      hi_ge (Or.inr (List.mem_map_of_mem (f := (·.getD j 0 + 1)) hp))⟩
  refine ⟨hin, fun hne => ?_⟩
  -- a pixel inside the image beats the initial bounds, so each bound is a coordinate
  obtain ⟨p0, hp0⟩ := List.exists_mem_of_ne_nil _ hne
  have h0 := hin p0 hp0
  have hb := nzPos_bound hlen hp0 hj
  constructor
  · rcases lo_mem with h | h
    · exact absurd h (by show ext.getD (2 * j) 0 ≠ _; omega)
    · exact List.mem_map.mp h
  · rcases hi_mem with h | h
    · exact absurd h (by show ext.getD (2 * j + 1) 0 ≠ _; omega)
    · exact List.mem_map.mp h

theorem bboxGeneric_of_nil (shape : List Nat) (data : List Int) (hnd : 0 < shape.length)
    (hps : ((List.range data.length).filter fun i => data.getD i 0 ≠ 0).map (unravelI shape) = []) :
    bboxGeneric shape data = (bboxInit shape).map fun _ => 0 := by
  rw [bboxGeneric, bboxLoop_eq, hps, List.foldl_nil, bboxFinish, if_pos (by rw [(bboxInit_getD shape 0 hnd).2]; rfl)]

/-- a non-zero pixel has pushed the upper bound of axis 0 above 0, so `py_bbox`'s final test keeps the box -/
theorem bboxGeneric_of_ne_nil (shape : List Nat) (data : List Int) (hlen : data.length = shapeSize shape)
    (hnd : 0 < shape.length)
    (hps : ((List.range data.length).filter fun i => data.getD i 0 ≠ 0).map (unravelI shape) ≠ []) :
    bboxGeneric shape data = (List.range data.length).foldl (fun ext i =>
      if data.getD i 0 ≠ 0 then bboxUpdate ext (unravelI shape i) else ext) (bboxInit shape) := by
  obtain ⟨p0, hp0⟩ := List.exists_mem_of_ne_nil _ hps
  have h1 := ((bbox_tight shape data hlen 0 hnd).1 p0 hp0).2
  have h0 := (nzPos_bound hlen hp0 hnd).2.1
  rw [Nat.mul_zero, Nat.zero_add] at h1
  rw [bboxGeneric, bboxFinish, if_neg]
  rw [beq_iff_eq]
  omega

abbrev E4 := Int × Int × Int × Int

/-- the pixel `(y, x)` enters the box -/
def bboxAdd (e : E4) (y x : Int) : E4 := (min e.1 y, max e.2.1 (y + 1), min e.2.2.1 x, max e.2.2.2 (x + 1))

theorem bboxAdd_eq_self {e : E4} {y x : Int} (h0 : e.1 ≤ y) (h1 : y + 1 ≤ e.2.1) (h2 : e.2.2.1 ≤ x)
    (h3 : x + 1 ≤ e.2.2.2) : bboxAdd e y x = e := by
  rw [bboxAdd, min_eq_left h0, max_eq_left h1, min_eq_left h2, max_eq_left h3]

/-- a prefix of steps that leave the state alone can be skipped -/
theorem foldl_range'_skip {α : Type} (g : α → Nat → α) (e : α) : ∀ (n a b : Nat), a ≤ b →
    (∀ x, a ≤ x → x < b → g e x = e) →
    (List.range' a n).foldl g e = (List.range' b (n - (b - a))).foldl g e
  | 0, _, _, _, _ => by rw [Nat.zero_sub]; rfl
  | n + 1, a, b, hab, h => by
    rcases Nat.eq_or_lt_of_le hab with rfl | hlt
    · rw [Nat.sub_self, Nat.sub_zero]
    · rw [List.range'_succ, List.foldl_cons, h a (Nat.le_refl a) hlt,
        foldl_range'_skip g e n (a + 1) b hlt (fun x hx => h x (by omega))]
      congr 2; omega

/-- the row loop with its skip-ahead visits, in effect, every pixel from `x` on: the skipped pixels lie in the box
    already, whatever their values -/
theorem bboxRow_eq (N1 : Nat) (row : Nat → Int) (y : Int) : ∀ (fuel x : Nat) (e : E4), N1 ≤ x + fuel →
    bboxRow N1 row y fuel x e =
      (List.range' x (N1 - x)).foldl (fun e x' => if row x' ≠ 0 then bboxAdd e y x' else e) e
  | 0, x, e, h => by rw [Nat.sub_eq_zero_of_le (by omega)]; rfl
  | fuel + 1, x, e, h => by
    by_cases hge : x ≥ N1
    · rw [Nat.sub_eq_zero_of_le hge, bboxRow, if_pos hge]; rfl
    · rw [show N1 - x = (N1 - (x + 1)) + 1 by omega, List.range'_succ, List.foldl_cons, bboxRow, if_neg hge]
      by_cases hz : row x ≠ 0
      · rw [if_pos hz, if_pos hz]
        by_cases hskip : ((x : Int) + 1) < e.2.2.2
        · have he : bboxAdd e y x = (min e.1 y, max e.2.1 (y + 1), min e.2.2.1 x, e.2.2.2) := by
            rw [bboxAdd, max_eq_left hskip.le]
          -- the loop jumps to the known right edge `x'`
          have hx' : (((e.2.2.2 - (x : Int) - 1).toNat + x + 1 : Nat) : Int) = e.2.2.2 := by omega
          generalize (e.2.2.2 - (x : Int) - 1).toNat + x + 1 = x' at hx'
          have hlt : x + 1 ≤ x' := by omega
          rw [if_pos hskip, bboxRow_eq N1 row y fuel x' _ (by omega), he, foldl_range'_skip _ _ _ (x + 1) x' hlt]
          · congr 2; omega
          · intro x'' h1 h2
            split
            · exact bboxAdd_eq_self (min_le_right _ _) (le_max_right _ _)
                ((min_le_right _ _).trans (Int.ofNat_le.mpr (Nat.le_of_succ_le h1)))
                (hx' ▸ Int.ofNat_le.mpr h2)
            · rfl
        · rw [if_neg hskip, bboxRow_eq N1 row y fuel _ _ (by omega), bboxAdd, max_eq_right (not_lt.mp hskip)]
      · rw [if_neg hz, if_neg hz, bboxRow_eq N1 row y fuel _ _ (by omega)]

theorem unravelI_2d (N0 N1 i : Nat) : unravelI [N0, N1] i = [((i / N1 : Nat) : Int), ((i % N1 : Nat) : Int)] := by
  simp [unravelI, unravel, shapeSize]

/-- the rows of `carray2_bbox`, one after the other, visit the flat indices in order (`range_mul_map`) -/
theorem bboxFast_rows (N1 : Nat) (data : List Int) (i : E4) (N0 : Nat) :
    (List.range N0).foldl (fun e y => bboxRow N1 (fun x => data.getD (y * N1 + x) 0) y (N1 + 1) 0 e) i =
      (List.range (N0 * N1)).foldl (fun e k =>
        if data.getD k 0 ≠ 0 then bboxAdd e ((k / N1 : Nat) : Int) ((k % N1 : Nat) : Int) else e) i := by
  rw [← List.map_id (List.range (N0 * N1)), range_mul_map, List.foldl_flatMap]
  refine List.foldl_ext _ _ _ fun e y _ => ?_
  rw [bboxRow_eq _ _ _ _ _ _ (by omega), List.foldl_map, Nat.sub_zero, ← List.range_eq_range']
  refine List.foldl_ext _ _ _ fun e x hx => ?_
  rw [id, rowMajor_div y (List.mem_range.mp hx), rowMajor_mod y (List.mem_range.mp hx)]

theorem bboxFast_eq_generic (N0 N1 : Nat) (data : List Int) (hlen : data.length = N0 * N1) :
    bboxFast N0 N1 data = bboxGeneric [N0, N1] data := by
  unfold bboxFast bboxGeneric
  rw [bboxFast_rows, hlen]
  refine congrArg bboxFinish (List.foldl_hom (fun e : E4 => [e.1, e.2.1, e.2.2.1, e.2.2.2])
    (g₁ := fun e k => if data.getD k 0 ≠ 0 then bboxAdd e ((k / N1 : Nat) : Int) ((k % N1 : Nat) : Int) else e)
    (g₂ := fun ext k => if data.getD k 0 ≠ 0 then bboxUpdate ext (unravelI [N0, N1] k) else ext)
    (fun e k => ?_)).symm
  split
  · rw [unravelI_2d]; rfl
  · rfl

/-- the indicator image of label `l` -/
def indicator (labels : List Int) (l : Nat) : List Int := labels.map fun v => if v.toNat = l then 1 else 0

theorem indicator_getD_ne (labels : List Int) (l i : Nat) (hi : i < labels.length) :
    (indicator labels l).getD i 0 ≠ 0 ↔ (labels.getD i 0).toNat = l := by
  rw [indicator, List.getD_eq_getElem?_getD, List.getD_eq_getElem?_getD, List.getElem?_map,
    List.getElem?_eq_getElem hi, Option.map_some, Option.getD_some, Option.getD_some]
  split <;> simp [*]

/-- `bbox_labeled` returns, for every label, what `bbox` returns on the indicator image of that label: row `l` has seen
    exactly the pixels labelled `l`, the non-zero pixels of the indicator image -/
theorem bboxLabeled_eq (shape : List Nat) (labels : List Int) (n : Nat) :
    bboxLabeled shape labels n =
      (List.range (n + 1)).flatMap fun l => bboxGeneric shape (indicator labels l) := by
  unfold bboxLabeled
  apply List.flatMap_congr
  intro l hl
  rw [Array.getD_eq_getD_getElem?, replicate_fold_slot _ _ _ _ _ l (List.mem_range.mp hl), Option.getD_some, bboxGeneric,
    bboxLoop_eq, List.foldl_map,
    show (indicator labels l).length = labels.length from List.length_map _]
  congr 2
  apply List.filter_congr
  intro i hi
  rw [Bool.eq_iff_iff, decide_eq_true_iff, decide_eq_true_iff, indicator_getD_ne labels l i (List.mem_range.mp hi)]

/-- a list of `2 n` entries is the concatenation of its `n` pairs -/
theorem pairs_flatMap : ∀ (n : Nat) (l : List Int), l.length = 2 * n →
    l = (List.range n).flatMap fun j => [l.getD (2 * j) 0, l.getD (2 * j + 1) 0]
  | 0, [], _ => rfl
  | n + 1, a :: b :: rest, hl => by
    rw [List.range_succ_eq_map, List.flatMap_cons, List.flatMap_map]
    exact congrArg (a :: b :: ·) (pairs_flatMap n rest (by simp only [List.length_cons] at hl; omega))

/-- every entry of the box the model of `bbox` returns is non-negative: a coordinate, a coordinate + 1, an axis
    length or 0 -/
theorem bboxGeneric_nonneg (shape : List Nat) (data : List Int) (k : Nat) : 0 ≤ (bboxGeneric shape data).getD k 0 := by
  have hall : ∀ x ∈ bboxGeneric shape data, 0 ≤ x := by
    rw [bboxGeneric, bboxLoop_eq, bboxFinish]
    split
    · intro x hx
      obtain ⟨_, _, rfl⟩ := List.mem_map.mp hx
      exact Int.le_refl 0
    · intro x hx
      have hps : ∀ v ∈ ((List.range data.length).filter fun i => data.getD i 0 ≠ 0).map (unravelI shape),
          ∀ j, j < shape.length → j < v.length ∧ 0 ≤ v.getD j 0 := by
        intro v hv j hj
        obtain ⟨i, _, rfl⟩ := List.mem_map.mp hv
        rw [unravelI_getD, unravelI_length]
        exact ⟨hj, Int.natCast_nonneg _⟩
      generalize ((List.range data.length).filter fun i => data.getD i 0 ≠ 0).map (unravelI shape) = ps at hx hps
      rw [pairs_flatMap shape.length (ps.foldl bboxUpdate (bboxInit shape))
        (by rw [foldl_bboxUpdate_length, bboxInit_length])] at hx
      obtain ⟨j, hj, hx⟩ := List.mem_flatMap.mp hx
      have hnn := fun v hv => hps v hv j (List.mem_range.mp hj)
      obtain ⟨⟨lo_mem, _⟩, ⟨hi_mem, _⟩⟩ := bboxFold_axis shape j (List.mem_range.mp hj) ps fun p hp => (hnn p hp).1
      simp only [List.mem_cons, List.not_mem_nil, or_false] at hx
      rcases hx with rfl | rfl
      · rcases lo_mem with h | h
        · rw [h]; exact Int.natCast_nonneg _
        · obtain ⟨v, hv, e⟩ := List.mem_map.mp h
          rw [← e]; exact (hnn v hv).2
      · rcases hi_mem with h | h
        · rw [h]
        · obtain ⟨v, hv, e⟩ := List.mem_map.mp h
          rw [← e]; exact Int.add_nonneg (hnn v hv).2 Int.one_nonneg
  rw [List.getD_eq_getElem?_getD]
  cases h : (bboxGeneric shape data)[k]? with
  | none => exact Int.le_refl 0
  | some x => exact hall x (List.mem_of_getElem? h)

end Mahotas.C13
