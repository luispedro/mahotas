/-
C10 — facts shared by the index models: counting loops, row-major offsets, lockstep induction, the postcondition `Run`.

The counting loop `(List.range n.toNat).map Int.ofNat` is what every model file uses for `for (i = 0; i < n; ++i)`.
-/
import Mahotas.Proofs.C10Simp
namespace Mahotas

attribute [acc_forall] List.forall_mem_flatMap List.forall_mem_append List.forall_mem_cons List.forall_mem_map
  List.not_mem_nil false_imp_iff implies_true and_true true_and

@[acc_forall] theorem mem_natRange (n v : Int) : v ∈ (List.range n.toNat).map Int.ofNat ↔ 0 ≤ v ∧ v < n := by
  simp only [List.mem_map, List.mem_range, Int.ofNat_eq_natCast]
  exact ⟨fun ⟨a, ha, e⟩ => by omega, fun ⟨h0, h1⟩ => ⟨v.toNat, by omega, by omega⟩⟩

theorem mem_zipIdx_lt {α : Type} (l : List α) (x : α) (i : Nat) (h : (x, i) ∈ l.zipIdx) :
    i < l.length ∧ x ∈ l := by
  obtain ⟨hi, e⟩ := List.getElem?_eq_some_iff.mp (List.mem_zipIdx_iff_getElem?.mp h)
  exact ⟨hi, List.mem_of_getElem e⟩

theorem flat2_range (r c R C : Int) (hr0 : 0 ≤ r) (hr1 : r < R) (hc0 : 0 ≤ c) (hc1 : c < C) :
    0 ≤ r * C + c ∧ r * C + c < R * C := by
  have h0 : 0 ≤ r * C := Int.mul_nonneg hr0 (by omega)
  have h1 : (r + 1) * C ≤ R * C := Int.mul_le_mul_of_nonneg_right (by omega) (by omega)
  rw [Int.add_mul] at h1
  omega

/-! ### lists walked in lockstep

The index models recurse over the shape, the strides, the filter shape, a position … at once and return a default when
one of the lists ends early. `induction` on a proof of `Zip₃ as bs cs` (from the length hypotheses, `Zip₃.of_length`)
gives the empty case and the all-`cons` case only. -/

inductive Zip₃ {α β γ : Type} : List α → List β → List γ → Prop
  | nil : Zip₃ [] [] []
  | cons {a as b bs c cs} : Zip₃ as bs cs → Zip₃ (a :: as) (b :: bs) (c :: cs)

inductive Zip₄ {α β γ δ : Type} : List α → List β → List γ → List δ → Prop
  | nil : Zip₄ [] [] [] []
  | cons {a as b bs c cs d ds} : Zip₄ as bs cs ds → Zip₄ (a :: as) (b :: bs) (c :: cs) (d :: ds)

inductive Zip₅ {α β γ δ ε : Type} : List α → List β → List γ → List δ → List ε → Prop
  | nil : Zip₅ [] [] [] [] []
  | cons {a as b bs c cs d ds e es} : Zip₅ as bs cs ds es → Zip₅ (a :: as) (b :: bs) (c :: cs) (d :: ds) (e :: es)

theorem Zip₃.of_length {α β γ : Type} : ∀ {as : List α} {bs : List β} {cs : List γ},
    bs.length = as.length → cs.length = as.length → Zip₃ as bs cs
  | [], [], [], _, _ => .nil
  | _ :: _, _ :: _, _ :: _, hb, hc => .cons (of_length (Nat.succ.inj hb) (Nat.succ.inj hc))

theorem Zip₄.of_length {α β γ δ : Type} : ∀ {as : List α} {bs : List β} {cs : List γ} {ds : List δ},
    bs.length = as.length → cs.length = as.length → ds.length = as.length → Zip₄ as bs cs ds
  | [], [], [], [], _, _, _ => .nil
  | _ :: _, _ :: _, _ :: _, _ :: _, hb, hc, hd =>
    .cons (of_length (Nat.succ.inj hb) (Nat.succ.inj hc) (Nat.succ.inj hd))

theorem Zip₅.of_length {α β γ δ ε : Type} :
    ∀ {as : List α} {bs : List β} {cs : List γ} {ds : List δ} {es : List ε},
    bs.length = as.length → cs.length = as.length → ds.length = as.length → es.length = as.length → Zip₅ as bs cs ds es
  | [], [], [], [], [], _, _, _, _ => .nil
  | _ :: _, _ :: _, _ :: _, _ :: _, _ :: _, hb, hc, hd, he =>
    .cons (of_length (Nat.succ.inj hb) (Nat.succ.inj hc) (Nat.succ.inj hd) (Nat.succ.inj he))

/-- The result `(accesses, outcome)` of a loop model: every access passes `ok` and the outcome satisfies `Q`. The models
with fuel state what one loop delivers as an instance of this (`RowPost`, `LbPost`, `ScanOk`, and `RunOk` below). -/
def Run {α β : Type} (ok : α → Prop) (Q : β → Prop) (r : List α × β) : Prop := (∀ a ∈ r.1, ok a) ∧ Q r.2

/-- what a loop model with a budget has to deliver: every access passes `ok`, and the loop left through its test -/
def RunOk {α : Type} (ok : α → Prop) : List α × Bool → Prop := Run ok (· = true)

theorem Run.prepend {α β : Type} {ok : α → Prop} {Q : β → Prop} {l : List α} {r : List α × β} (h : Run ok Q r)
    (hl : ∀ a ∈ l, ok a) : Run ok Q (l ++ r.1, r.2) :=
  ⟨List.forall_mem_append.2 ⟨hl, h.1⟩, h.2⟩

end Mahotas
