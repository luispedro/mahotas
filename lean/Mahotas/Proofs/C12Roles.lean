/-
C12 (T4) — well-formedness of the role-level programs: every role a step mentions lies inside the kernel's arity, so `Call.arrOf` never uses its fall-back.
For a footprint of (at least) that arity the destination is *the named* owned array and every source *the named*
argument / owned array; this is stated through a strict resolution `Call.arrOf?` / `mkStep?` that fails instead of
falling back to the first owned array (`mkStep?_of_rolesOk`). The programs are lists built by `map`, `flatMap`, `logFold`
and the like: the `allOf_*` closure rules reduce `rolesOk` of a program to its written-out steps, which are checked by
evaluation (`rfl`; sources generated by `map` are all of one role). Here for the five kernels of `Model/C12Kernels.lean`.
-/
import Mahotas.Proofs.C12Kernels
namespace Mahotas.C12
open Mahotas

def Call.arrOf? (c : Call) : Role → Option Nat
  | .own i => c.outputs[i]?
  | .inp i => c.inputs[i]?

def resolveSrcs (c : Call) : List RLoc → Option (List KLoc)
  | [] => some []
  | l :: ls =>
    match c.arrOf? l.role, resolveSrcs c ls with
    | some a, some r => some (⟨a, l.off⟩ :: r)
    | _, _ => none

/-- `mkStep` without the fall-back: `none` when some role of the step does not exist in the call -/
def mkStep? (c : Call) (r : RStep) : Option KStep :=
  match c.outputs[r.dst]?, resolveSrcs c r.srcs with
  | some d, some ss => some ⟨⟨d, r.doff⟩, ss, r.op⟩
  | _, _ => none

def Call.HasArity (c : Call) (ar : Nat × Nat) : Prop := ar.1 ≤ c.inputs.length ∧ ar.2 ≤ c.outputs.length

/-- the role exists in a call of arity `ar`: the test `RStep.rolesOk` applies to every source -/
def Role.okB (ar : Nat × Nat) : Role → Bool
  | .inp i => decide (i < ar.1)
  | .own i => decide (i < ar.2)

theorem rolesOk_eq (ar : Nat × Nat) (r : RStep) :
    r.rolesOk ar = (decide (r.dst < ar.2) && r.srcs.all fun l => l.role.okB ar) := by
  rfl

theorem rolesOk_of {ar : Nat × Nat} {r : RStep} (hd : decide (r.dst < ar.2) = true)
    (hs : ∀ l ∈ r.srcs, l.role.okB ar = true) : r.rolesOk ar = true := by
  rw [rolesOk_eq, hd, Bool.true_and]
  exact List.all_eq_true.2 hs

theorem rolesOk_dst {ar : Nat × Nat} {r : RStep} (h : r.rolesOk ar = true) : r.dst < ar.2 := by
  rw [rolesOk_eq, Bool.and_eq_true] at h
  exact of_decide_eq_true h.1

theorem rolesOk_srcs {ar : Nat × Nat} {r : RStep} (h : r.rolesOk ar = true) :
    ∀ l ∈ r.srcs, l.role.okB ar = true := by
  rw [rolesOk_eq, Bool.and_eq_true] at h
  exact List.all_eq_true.1 h.2

theorem arrOf?_of_ok (c : Call) (ar : Nat × Nat) (hc : c.HasArity ar) (ro : Role) (h : ro.okB ar = true) :
    c.arrOf? ro = some (c.arrOf ro) := by
  cases ro with
  | inp i =>
    have hi : i < c.inputs.length := Nat.lt_of_lt_of_le (of_decide_eq_true h) hc.1
    simp only [Call.arrOf?, Call.arrOf, List.getD_eq_getElem?_getD, List.getElem?_eq_getElem hi, Option.getD_some]
  | own i =>
    have hi : i < c.outputs.length := Nat.lt_of_lt_of_le (of_decide_eq_true h) hc.2
    simp only [Call.arrOf?, Call.arrOf, List.getD_eq_getElem?_getD, List.getElem?_eq_getElem hi, Option.getD_some]

theorem resolveSrcs_of_ok (c : Call) (ar : Nat × Nat) (hc : c.HasArity ar) (ls : List RLoc)
    (h : ∀ l ∈ ls, l.role.okB ar = true) :
    resolveSrcs c ls = some (ls.map fun l => ⟨c.arrOf l.role, l.off⟩) := by
  induction ls with
  | nil => rfl
  | cons l ls ih =>
    rw [List.forall_mem_cons] at h
    simp only [resolveSrcs, arrOf?_of_ok c ar hc l.role h.1, ih h.2, List.map_cons]

theorem mkStep?_of_rolesOk (c : Call) (ar : Nat × Nat) (hc : c.HasArity ar) (r : RStep)
    (h : r.rolesOk ar = true) : mkStep? c r = some (mkStep c r) := by
  have h1 : c.outputs[r.dst]? = some (c.arrOf (.own r.dst)) :=
    arrOf?_of_ok c ar hc (.own r.dst) (decide_eq_true (rolesOk_dst h))
  simp only [mkStep?, h1, resolveSrcs_of_ok c ar hc r.srcs (rolesOk_srcs h), mkStep]

theorem mkStep_dst_of_rolesOk (c : Call) (ar : Nat × Nat) (hc : c.HasArity ar) (r : RStep)
    (h : r.rolesOk ar = true) : c.outputs[r.dst]? = some (mkStep c r).dst.arr :=
  arrOf?_of_ok c ar hc (.own r.dst) (decide_eq_true (rolesOk_dst h))

theorem mkStep_resolved (c : Call) (ar : Nat × Nat) (r : RStep) (hr : r.rolesOk ar = true)
    (hi : c.inputs.length = ar.1) (ho : c.outputs.length = ar.2) :
    (∃ h : r.dst < c.outputs.length, (mkStep c r).dst.arr = c.outputs[r.dst]) ∧
    (∀ l ∈ r.srcs, match l.role with
      | .inp i => ∃ h : i < c.inputs.length, c.arrOf l.role = c.inputs[i]
      | .own i => ∃ h : i < c.outputs.length, c.arrOf l.role = c.outputs[i]) := by
  refine ⟨⟨ho ▸ rolesOk_dst hr, arrOf_own c r.dst (ho ▸ rolesOk_dst hr)⟩, fun l hl => ?_⟩
  have := rolesOk_srcs hr l hl
  cases hrole : l.role with
  | inp i =>
    rw [hrole] at this
    exact ⟨hi ▸ of_decide_eq_true this, arrOf_inp c i (hi ▸ of_decide_eq_true this)⟩
  | own i =>
    rw [hrole] at this
    exact ⟨ho ▸ of_decide_eq_true this, arrOf_own c i (ho ▸ of_decide_eq_true this)⟩

section closure
variable {α ι : Type} {P : α → Prop}

theorem allOf_nil : ∀ x ∈ ([] : List α), P x := fun _ h => nomatch h

theorem allOf_cons {a : α} {l : List α} (h : P a) (hl : ∀ x ∈ l, P x) : ∀ x ∈ a :: l, P x :=
  List.forall_mem_cons.2 ⟨h, hl⟩

theorem allOf_append {a b : List α} (ha : ∀ x ∈ a, P x) (hb : ∀ x ∈ b, P x) : ∀ x ∈ a ++ b, P x :=
  List.forall_mem_append.2 ⟨ha, hb⟩

theorem allOf_map {l : List ι} {f : ι → α} (h : ∀ i, P (f i)) : ∀ x ∈ l.map f, P x :=
  List.forall_mem_map.2 fun i _ => h i

theorem allOf_flatMap {l : List ι} {f : ι → List α} (h : ∀ i, ∀ x ∈ f i, P x) : ∀ x ∈ l.flatMap f, P x := by
  intro x hx
  obtain ⟨i, _, hi⟩ := List.mem_flatMap.1 hx
  exact h i x hi

theorem allOf_filterMap {l : List ι} {f : ι → Option α} (h : ∀ i x, f i = some x → P x) :
    ∀ x ∈ l.filterMap f, P x := by
  intro x hx
  obtain ⟨i, _, hi⟩ := List.mem_filterMap.1 hx
  exact h i x hi

theorem allOf_ite {c : Prop} [Decidable c] {a b : List α} (ha : ∀ x ∈ a, P x) (hb : ∀ x ∈ b, P x) :
    ∀ x ∈ (if c then a else b), P x := by
  split
  · exact ha
  · exact hb

theorem allOf_logFold {σ : Type} {P : RStep → Prop} {f : σ → ι → σ} {lg : σ → ι → List RStep}
    (h : ∀ s i, ∀ r ∈ lg s i, P r) : ∀ (xs : List ι) (s : σ), ∀ r ∈ logFold f lg s xs, P r := by
  intro xs
  induction xs with
  | nil => intro s; exact allOf_nil
  | cons x xs ih => intro s; exact allOf_append (h s x) (ih _)

end closure

theorem filterCopy_rolesOk (fi : Nat) (vF : C08.View) {ar : Nat × Nat} (h1 : 1 < ar.2) (h2 : fi < ar.1) :
    ∀ r ∈ filterCopyRaw fi vF, r.rolesOk ar = true :=
  allOf_map fun _ => rolesOk_of (decide_eq_true h1) (allOf_cons (decide_eq_true h2) allOf_nil)

theorem erode_rolesOk (dt : DT) (vA vOut vBc : C08.View) (bc : Array Int) :
    ∀ r ∈ erodeRaw dt vA vOut vBc bc, r.rolesOk (2, 2) = true :=
  allOf_append (filterCopy_rolesOk 1 vBc (by decide) (by decide))
    (allOf_map fun _ => rolesOk_of rfl (allOf_append (allOf_map fun _ => rfl) (allOf_map fun _ => rfl)))

theorem convolve_rolesOk (m : Mode) (vA vOut vW : C08.View) (w : Array Int) :
    ∀ r ∈ convolveRaw m vA vOut vW w, r.rolesOk (2, 2) = true :=
  allOf_append (filterCopy_rolesOk 1 vW (by decide) (by decide))
    (allOf_map fun _ => rolesOk_of rfl (allOf_append (allOf_map fun _ => rfl) (allOf_map fun _ => rfl)))

theorem fold_rolesOk (f : Val → Val → Val) (start : Val) (maxlabel : Nat) (vA vL : C08.View)
    (mL : Int → Int) : ∀ r ∈ foldRaw f start maxlabel vA vL mL, r.rolesOk (2, 2) = true := by
  refine allOf_append (allOf_map fun _ => rfl) (allOf_map fun k => ?_)
  unfold foldStep
  dsimp only
  split <;> rfl

theorem findLog_ok : ∀ (fuel : Nat) (par : Array Int) (i : Nat),
    ∀ r ∈ findLog fuel par i, r.rolesOk (1, 4) = true := by
  intro fuel
  induction fuel with
  | zero => intro par i; exact allOf_cons rfl allOf_nil
  | succ fuel ih =>
    intro par i
    unfold findLog
    exact allOf_ite (allOf_cons rfl allOf_nil)
      (allOf_cons rfl (allOf_append (ih _ _) (allOf_cons rfl allOf_nil)))

theorem joinLog_ok (fuel : Nat) (par : Array Int) (i j : Nat) :
    ∀ r ∈ joinLog fuel par i j, r.rolesOk (1, 4) = true :=
  allOf_append (allOf_append (findLog_ok _ _ _) (findLog_ok _ _ _)) (allOf_cons rfl allOf_nil)

theorem renumLog_ok : ∀ (vs : List Int) (seen : List (Int × Int)) (next : Int) (i : Nat),
    ∀ r ∈ renumLog seen next i vs, r.rolesOk (1, 4) = true := by
  intro vs
  induction vs with
  | nil => intro seen next i; exact allOf_nil
  | cons v vs ih =>
    intro seen next i
    unfold renumLog
    refine allOf_cons rfl ?_
    split
    · exact allOf_cons rfl (ih _ _ _)
    · exact allOf_append (allOf_cons rfl (allOf_cons rfl (allOf_cons rfl allOf_nil))) (ih _ _ _)

theorem scanPixelLog_ok (m : Mode) (shape : List Nat) (offs : List (List Int)) (fuel : Nat)
    (par : Array Int) (i : Nat) : ∀ r ∈ scanPixelLog m shape offs fuel par i, r.rolesOk (1, 4) = true := by
  refine allOf_cons rfl (allOf_ite allOf_nil (allOf_logFold (fun par nb => ?_) _ _))
  exact allOf_cons rfl (allOf_ite allOf_nil (joinLog_ok _ _ _ _))

theorem label_rolesOk (m : Mode) (shape : List Nat) (data : List Int) (vBc : C08.View) (bc : Array Int) :
    ∀ r ∈ labelRaw m shape data vBc bc, r.rolesOk (1, 4) = true := by
  refine allOf_append (allOf_append (allOf_append (allOf_append (allOf_append
    (allOf_map fun _ => rfl)
    (filterCopy_rolesOk 0 vBc (by decide) (by decide)))
    (allOf_logFold (fun _ _ => scanPixelLog_ok _ _ _ _ _ _) _ _))
    (allOf_logFold (fun par i => ?_) _ _))
    (allOf_cons rfl (allOf_cons rfl allOf_nil)))
    (renumLog_ok _ _ _ _)
  exact allOf_cons rfl (allOf_ite allOf_nil (findLog_ok _ _ _))

theorem wsInitLog_ok (vS vM : C08.View) (markers : Img Int) (st : C04.MSt) (i : Nat) :
    ∀ r ∈ wsInitLog vS vM markers st i, r.rolesOk (3, 6) = true :=
  allOf_cons rfl (allOf_ite allOf_nil (allOf_cons rfl (allOf_cons rfl (allOf_cons rfl allOf_nil))))

theorem wsVisitLog_ok (vS : C08.View) (surf : Img Int) (next : C04.QE) (acc : C04.MSt × Int) (nb : C04.Nb) :
    ∀ r ∈ wsVisitLog vS surf next acc nb, r.rolesOk (3, 6) = true := by
  obtain ⟨st, margin⟩ := acc
  unfold wsVisitLog
  dsimp only
  split
  · exact allOf_nil
  · exact allOf_cons rfl (allOf_ite (allOf_cons rfl (allOf_cons rfl (allOf_cons rfl allOf_nil)))
      (allOf_ite (allOf_ite (allOf_cons rfl allOf_nil) (allOf_cons rfl allOf_nil)) allOf_nil))

theorem wsRunLog_ok (vS : C08.View) (surf : Img Int) (nbs : List C04.Nb) :
    ∀ (n : Nat) (st : C04.MSt), ∀ r ∈ wsRunLog vS surf nbs n st, r.rolesOk (3, 6) = true := by
  intro n
  induction n with
  | zero => intro st; exact allOf_nil
  | succ n ih =>
    intro st
    unfold wsRunLog
    split
    · exact allOf_nil
    · refine allOf_append (allOf_append (allOf_append (allOf_append (allOf_map fun _ => rfl)
        (allOf_cons rfl (allOf_cons rfl allOf_nil))) (allOf_map fun _ => rfl))
        (allOf_logFold (fun _ _ => wsVisitLog_ok _ _ _ _ _) _ _)) ?_
      split
      · exact allOf_nil
      · exact ih _

theorem cwatershed_rolesOk (vS vM vBc : C08.View) (surf markers : Img Int) (bc : Array Int) :
    ∀ r ∈ cwatershedRaw vS vM vBc surf markers bc, r.rolesOk (3, 6) = true :=
  allOf_append (allOf_append (allOf_append (allOf_map fun _ => rfl) (allOf_map fun _ => rfl))
    (allOf_logFold (fun _ _ => wsInitLog_ok _ _ _ _ _) _ _)) (wsRunLog_ok _ _ _ _ _)

theorem kernel_rolesOk (k : Kernel) : ∀ r ∈ k.raw, r.rolesOk k.arity = true := by
  cases k with
  | erode dt vA vOut vBc bc => exact erode_rolesOk dt vA vOut vBc bc
  | convolve m vA vOut vW w => exact convolve_rolesOk m vA vOut vW w
  | label m shape data vBc bc => exact label_rolesOk m shape data vBc bc
  | cwatershed vS vM vBc surf markers bc => exact cwatershed_rolesOk vS vM vBc surf markers bc
  | fold f start maxlabel vA vL mL => exact fold_rolesOk f start maxlabel vA vL mL

end Mahotas.C12
