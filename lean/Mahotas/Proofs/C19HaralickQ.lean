/-
C19 — Haralick's matrix `Q` (feature 14, `Model/C19.lean: qMatG`) over any ordered field, for every matrix with
non-negative entries: entries `≥ 0`; every non-empty row sums to 1 (so `Q·1 = 1` on the occupied levels: 1 is an
eigenvalue, and — `Q` being non-negative and row-stochastic — the largest one); `Q` is reversible with respect to the
row marginal, `p_x(i) Q(i,j) = p_x(j) Q(j,i)` (so `Q` is similar to a symmetric matrix and its eigenvalues are real);
the quadratic form weighted by `p_x` is a sum of squares and at most `Σ p_x(i) x_i²`, so every eigenvalue lies in
`[0, 1]`. Everything rests on `qMat_eq` (the guards are redundant in a field) and `qMat_weighted`. Also `stripZeros`
(`ignore_zeros`).
-/
import Mahotas.Proofs.C19HaralickFeat
import Mahotas.Proofs.C19CoocModel
namespace Mahotas.C19
open Mahotas
open Finset (range)

section field
variable {α : Type} [Field α] [LinearOrder α] [IsStrictOrderedRing α]

omit [IsStrictOrderedRing α] in
/-- in a field the guard of `qEntryG` is redundant: the term of an empty row or column is `x / 0 = 0` -/
theorem qMat_eq (m : ℕ) (P : ℕ → ℕ → α) (i j : ℕ) (hi : i < m) :
    qMatG (0 : α) m P i j =
      ∑ k ∈ range m, P i k * P j k / ((∑ l ∈ range m, P i l) * (∑ l ∈ range m, P l k)) := by
  unfold qMatG qEntryG
  rw [gsum_map_range]
  refine Finset.sum_congr rfl fun k hk => ?_
  rw [rowSum_getD m P i hi, colSum_getD m P k (Finset.mem_range.1 hk)]
  simp only [Bool.or_eq_true, beq_iff_eq]
  split
  · rename_i h0
    rw [(mul_eq_zero (M₀ := α)).2 h0, div_zero]
  · rfl

omit [IsStrictOrderedRing α] in
/-- the same remark for a guard spelt `if c = 0` (the form in which `C19_haralick_Q_psd` states the sum of squares) -/
theorem ite_zero_div (a c : α) : (if c = 0 then 0 else a / c) = a / c := by
  split
  · rw [‹c = 0›, div_zero]
  · rfl

theorem entry_zero_of_sum_zero (m : ℕ) (g : ℕ → α) (hg : ∀ l < m, 0 ≤ g l) (h : ∑ l ∈ range m, g l = 0)
    (k : ℕ) (hk : k < m) : g k = 0 :=
  (Finset.sum_eq_zero_iff_of_nonneg (fun l hl => hg l (Finset.mem_range.1 hl))).1 h k (Finset.mem_range.2 hk)

variable (m : ℕ) (P : ℕ → ℕ → α) (hP : ∀ i < m, ∀ j < m, 0 ≤ P i j)
include hP

theorem qMat_nonneg (i j : ℕ) (hi : i < m) (hj : j < m) : 0 ≤ qMatG (0 : α) m P i j := by
  rw [qMat_eq m P i j hi]
  refine Finset.sum_nonneg fun k hk => ?_
  have hk' := Finset.mem_range.1 hk
  exact div_nonneg (mul_nonneg (hP i hi k hk') (hP j hj k hk'))
    (mul_nonneg (Finset.sum_nonneg fun l hl => hP i hi l (Finset.mem_range.1 hl))
      (Finset.sum_nonneg fun l hl => hP l (Finset.mem_range.1 hl) k hk'))

/-- `p_x(i) Q(i,j) = Σ_k p(i,k) p(j,k) / p_y(k)`: symmetric in `i`, `j` -/
theorem qMat_weighted (i j : ℕ) (hi : i < m) :
    (∑ l ∈ range m, P i l) * qMatG (0 : α) m P i j = ∑ k ∈ range m, P i k * P j k / (∑ l ∈ range m, P l k) := by
  rw [qMat_eq m P i j hi, Finset.mul_sum]
  refine Finset.sum_congr rfl fun k hk => ?_
  by_cases hri : (∑ l ∈ range m, P i l) = 0
  · rw [hri, zero_mul, entry_zero_of_sum_zero m (P i) (hP i hi) hri k (Finset.mem_range.1 hk), zero_mul, zero_div]
  · rw [← mul_div_assoc, mul_div_mul_left _ _ hri]

theorem qMat_reversible (i j : ℕ) (hi : i < m) (hj : j < m) :
    (∑ l ∈ range m, P i l) * qMatG (0 : α) m P i j = (∑ l ∈ range m, P j l) * qMatG (0 : α) m P j i := by
  rw [qMat_weighted m P hP i j hi, qMat_weighted m P hP j i hj]
  exact Finset.sum_congr rfl fun k _ => by rw [mul_comm (P i k)]

theorem qMat_row_sum (i : ℕ) (hi : i < m) (hr : (∑ l ∈ range m, P i l) ≠ 0) :
    ∑ j ∈ range m, qMatG (0 : α) m P i j = 1 := by
  rw [← mul_right_inj' hr, Finset.mul_sum, mul_one,
    Finset.sum_congr rfl fun j _ => qMat_weighted m P hP i j hi, Finset.sum_comm]
  refine Finset.sum_congr rfl fun k hk => ?_
  have hk' := Finset.mem_range.1 hk
  rw [← Finset.sum_div, ← Finset.mul_sum]
  by_cases hc : (∑ l ∈ range m, P l k) = 0
  · rw [hc, div_zero, entry_zero_of_sum_zero m (fun l => P l k) (fun l hl => hP l hl k hk') hc i hi]
  · rw [mul_div_assoc, div_self hc, mul_one]

/-- the quadratic form of `Q` weighted by the row marginal is a sum of squares (an empty column contributes `x / 0 = 0`) -/
theorem qMat_form (x : ℕ → α) :
    ∑ i ∈ range m, ∑ j ∈ range m, (∑ l ∈ range m, P i l) * qMatG (0 : α) m P i j * (x i * x j)
      = ∑ k ∈ range m, (∑ i ∈ range m, P i k * x i) ^ 2 / (∑ l ∈ range m, P l k) := by
  have h1 : ∀ i ∈ range m, ∀ j ∈ range m,
      (∑ l ∈ range m, P i l) * qMatG (0 : α) m P i j * (x i * x j)
        = ∑ k ∈ range m, (P i k * x i) * (P j k * x j) / (∑ l ∈ range m, P l k) := by
    intro i hi j _
    rw [qMat_weighted m P hP i j (Finset.mem_range.1 hi), Finset.sum_mul]
    exact Finset.sum_congr rfl fun k _ => by ring
  rw [Finset.sum_congr rfl fun i hi => Finset.sum_congr rfl fun j hj => h1 i hi j hj,
    Finset.sum_congr rfl fun i _ => Finset.sum_comm, Finset.sum_comm]
  refine Finset.sum_congr rfl fun k _ => ?_
  rw [pow_two, Finset.sum_mul_sum, Finset.sum_div]
  exact Finset.sum_congr rfl fun i _ => by rw [Finset.sum_div]

/-- this is what excludes negative eigenvalues in `qMat_eigenvalue_bounds` -/
theorem qMat_form_nonneg (x : ℕ → α) :
    0 ≤ ∑ i ∈ range m, ∑ j ∈ range m, (∑ l ∈ range m, P i l) * qMatG (0 : α) m P i j * (x i * x j) := by
  rw [qMat_form m P hP x]
  exact Finset.sum_nonneg fun k hk => div_nonneg (sq_nonneg _)
    (Finset.sum_nonneg fun l hl => hP l (Finset.mem_range.1 hl) k (Finset.mem_range.1 hk))

/-- Rayleigh quotient of `Q` is at most 1: `Σ_ij p_x(i) Q(i,j) x_i x_j ≤ Σ_i p_x(i) x_i²` -/
theorem qMat_le_one (x : ℕ → α) :
    ∑ i ∈ range m, ∑ j ∈ range m, (∑ l ∈ range m, P i l) * qMatG (0 : α) m P i j * (x i * x j)
      ≤ ∑ i ∈ range m, (∑ l ∈ range m, P i l) * x i ^ 2 := by
  have hR : ∑ i ∈ range m, (∑ l ∈ range m, P i l) * x i ^ 2 = ∑ k ∈ range m, ∑ i ∈ range m, P i k * x i ^ 2 := by
    rw [Finset.sum_comm]
    exact Finset.sum_congr rfl fun i _ => Finset.sum_mul _ _ _
  rw [qMat_form m P hP x, hR]
  refine Finset.sum_le_sum fun k hk => ?_
  have hnn : ∀ i ∈ range m, 0 ≤ P i k := fun i hi => hP i (Finset.mem_range.1 hi) k (Finset.mem_range.1 hk)
  rcases (Finset.sum_nonneg hnn).eq_or_lt' with hc | hpos
  · rw [hc, div_zero]
    exact Finset.sum_nonneg fun i hi => mul_nonneg (hnn i hi) (sq_nonneg _)
  · -- Cauchy–Schwarz in column `k` with weights `P i k`
    rw [div_le_iff₀ hpos, mul_comm]
    exact Finset.sum_sq_le_sum_mul_sum_of_sq_le_mul (range m) hnn
      (fun i hi => mul_nonneg (hnn i hi) (sq_nonneg _)) (fun i _ => le_of_eq (by ring))

/-- every eigenvalue of `Q` (with an eigenvector that is not supported on empty rows only) lies in `[0, 1]` -/
theorem qMat_eigenvalue_bounds (x : ℕ → α) (lam : α)
    (hx : ∀ i < m, ∑ j ∈ range m, qMatG (0 : α) m P i j * x j = lam * x i)
    (hS : 0 < ∑ i ∈ range m, (∑ l ∈ range m, P i l) * x i ^ 2) : 0 ≤ lam ∧ lam ≤ 1 := by
  have hform : ∑ i ∈ range m, ∑ j ∈ range m, (∑ l ∈ range m, P i l) * qMatG (0 : α) m P i j * (x i * x j)
      = lam * ∑ i ∈ range m, (∑ l ∈ range m, P i l) * x i ^ 2 := by
    rw [Finset.mul_sum]
    refine Finset.sum_congr rfl fun i hi => ?_
    have : ∑ j ∈ range m, (∑ l ∈ range m, P i l) * qMatG (0 : α) m P i j * (x i * x j)
        = (∑ l ∈ range m, P i l) * x i * ∑ j ∈ range m, qMatG (0 : α) m P i j * x j := by
      rw [Finset.mul_sum]
      exact Finset.sum_congr rfl fun j _ => by ring
    rw [this, hx i (Finset.mem_range.1 hi)]
    ring
  have h0 := qMat_form_nonneg m P hP x
  have h1 := qMat_le_one m P hP x
  rw [hform] at h0 h1
  exact ⟨nonneg_of_mul_nonneg_left h0 hS, (mul_le_iff_le_one_left hS).1 h1⟩

end field

theorem stripZeros_getD (m : ℕ) (c : List ℕ) (a b : ℕ) (ha : a < m) (hb : b < m) :
    (stripZeros m c).getD (a * m + b) 0 = if a = 0 ∨ b = 0 then 0 else c.getD (a * m + b) 0 := by
  rw [stripZeros, getD_map_range _ _ _ _ (rowMajor_lt ha hb), rowMajor_div a hb, rowMajor_mod a hb]
  simp only [Bool.or_eq_true, beq_iff_eq]

end Mahotas.C19
