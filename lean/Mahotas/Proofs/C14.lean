/-
Base facts of C14. The offset lists of an element (`neighbours`, `rawOffsets`) are a filter followed by a map, so every offset
has the rank of the element; the flood fill only ever clears flags (`flood_preserves`); and on a star-shaped neighbourhood
`locmin_max` is its definition (`locAt_eq_spec`): a clamped neighbour of an inside pixel is the pixel plus an offset between
0 and the neighbour's (`C01.clamp_between`), hence the pixel itself or a genuine neighbour.
-/
import Mahotas.Model.C14
import Mahotas.Proofs.C01
import Mahotas.Proofs.C01Index
import Mahotas.Proofs.ListLemmas
namespace Mahotas.C14
open Mahotas

/-! ### the offset lists of an element: filter, then map -/

theorem rawOffsets_eq_map (S : List Nat) (bc : Array Int) :
    rawOffsets S bc = ((List.range (shapeSize S)).filter fun i => !(bc.getD i 0 == 0)).map
      fun i => subPos (unravelI S i) (centreOf S) := filterMap_ite _ _ _

theorem neighbours_eq_map (S : List Nat) (bc : Array Int) :
    neighbours S bc = ((List.range (shapeSize S)).filter fun i =>
      !(bc.getD i 0 == 0 || isZeroPos (subPos (unravelI S i) (centreOf S)))).map
      fun i => subPos (unravelI S i) (centreOf S) := filterMap_ite _ _ _

/-- the C++ `neighbours(Bc)` is the compressed footprint without the zero offset -/
theorem neighbours_eq_filter (S : List Nat) (bc : Array Int) :
    neighbours S bc = (rawOffsets S bc).filter fun k => !isZeroPos k := by
  rw [neighbours_eq_map, rawOffsets_eq_map, List.filter_map, List.filter_filter]
  congr 2
  funext i
  simp only [Function.comp_apply, Bool.not_or, Bool.and_comm]

theorem rawOffsets_length (S : List Nat) (bc : Array Int) : ∀ k ∈ rawOffsets S bc, k.length = S.length := by
  intro k hk
  rw [rawOffsets_eq_map] at hk
  obtain ⟨i, _, rfl⟩ := List.mem_map.mp hk
  rw [C01.subPos_length, unravelI_length, centreOf, List.length_map, Nat.min_self]

theorem neighbours_length (S : List Nat) (bc : Array Int) : ∀ k ∈ neighbours S bc, k.length = S.length :=
  fun k hk => rawOffsets_length S bc k (by rw [neighbours_eq_filter] at hk; exact (List.mem_filter.mp hk).1)

def Sub (a b : Array Bool) : Prop := ∀ i, a.getD i false = true → b.getD i false = true

theorem Sub.refl (a : Array Bool) : Sub a a := fun _ h => h
theorem Sub.trans {a b c : Array Bool} (h1 : Sub a b) (h2 : Sub b c) : Sub a c := fun i h => h2 i (h1 i h)

theorem sub_set (a : Array Bool) (i : Nat) : Sub (a.setIfInBounds i false) a := by
  intro j h
  rw [getD_setIfInBounds_default] at h
  by_cases hij : i = j
  · simp [hij] at h
  · simpa [hij] using h

section
variable (P : Array Bool → Prop) (hP : ∀ a i, P a → P (a.setIfInBounds i false))
include hP

/-- the flood only ever clears flags: what clearing a flag preserves, it preserves -/
theorem floodVisit_preserves (shape : List Nat) (nb : List (List Int)) (p : List Int)
    (st : Array Bool × List (List Int)) (h : P st.1) : P (floodVisit shape nb p st).1 :=
  foldl_inv (fun acc => P acc.1) _ (fun acc k hacc => by
    dsimp only
    split
    · exact hP _ _ hacc
    · exact hacc) nb st h

theorem flood_preserves (shape : List Nat) (nb : List (List Int)) (fuel : Nat) (avail : Array Bool)
    (stack : List (List Int)) (h : P avail) : P (flood shape nb fuel avail stack) := by
  induction fuel generalizing avail stack with
  | zero => exact h
  | succ n ih =>
    cases stack with
    | nil => exact h
    | cons p s => exact ih _ _ (floodVisit_preserves P hP shape nb p (avail, s) h)

end

theorem flood_sub (shape : List Nat) (nb : List (List Int)) (fuel : Nat) (avail : Array Bool)
    (stack : List (List Int)) : Sub (flood shape nb fuel avail stack) avail :=
  flood_preserves (Sub · avail) (fun a i h => Sub.trans (sub_set a i) h) shape nb fuel avail stack (Sub.refl _)

theorem flood_size (shape : List Nat) (nb : List (List Int)) (fuel : Nat) (av : Array Bool)
    (st : List (List Int)) : (flood shape nb fuel av st).size = av.size :=
  flood_preserves (·.size = av.size) (fun a i h => by rw [Array.size_setIfInBounds]; exact h) shape nb fuel av st rfl

theorem removeFake_sub (isMin : Bool) (A : Img Int) (nb : List (List Int)) (marks : Array Bool) :
    Sub (removeFake isMin A nb marks) marks :=
  foldl_inv (Sub · marks) _ (fun m p hm => by
    dsimp only
    split
    · exact hm
    · split
      · exact Sub.trans (flood_sub _ _ _ _ _) (Sub.trans (sub_set _ _) hm)
      · exact hm) _ marks (Sub.refl _)

/-! ### clamped reads of star-shaped neighbourhoods -/

/-- the neighbourhood (centre removed) is coordinate-wise star-shaped: every offset between `0`
    and a member is `0` or a member — true of the centred cross and of every centred box. -/
def StarShaped (nb : List (List Int)) : Prop :=
  ∀ k ∈ nb, ∀ k', C01.between k' k = true → isZeroPos k' = true ∨ k' ∈ nb

theorem beats_irrefl (isMin : Bool) (a : Int) : beats isMin a a = false := by
  unfold beats; cases isMin <;> simp

theorem locAt_eq_spec (isMin : Bool) (A : Img Int) (nb : List (List Int)) (p : List Int)
    (hp : inside A.shape p = true) (hlen : ∀ k ∈ nb, k.length = A.shape.length) (hstar : StarShaped nb) :
    locAt isMin A nb p = locSpecAt isMin A nb p := by
  have hs := C01.inside_dims_pos A.shape p hp
  have hlen' : ∀ k ∈ nb, k.length = p.length := fun k hk => by rw [hlen k hk, C01.inside_length hp]
  unfold locAt locSpecAt
  rw [Bool.eq_iff_iff, List.all_eq_true, List.all_eq_true]
  constructor
  · intro h k hk
    have := h k hk
    cases hin : inside A.shape (addPos p k)
    · rfl
    · rwa [C01.readNearest_eq A _ hs, C01.clampPos_of_inside _ _ hin] at this
  · intro h k hk
    obtain ⟨k', hb, hc, hi⟩ := C01.clamp_between A.shape p k hp (hlen' k hk)
    rw [C01.readNearest_eq A _ hs, hc]
    rcases hstar k hk k' hb with hz | hm
    · rw [C01.addPos_zero p k' hz (by rw [C01.between_length k' k hb, hlen' k hk]), beats_irrefl]; rfl
    · have := h k' hm
      simpa [hi] using this

theorem locModel_eq_spec (isMin : Bool) (A : Img Int) (nb : List (List Int))
    (hlen : ∀ k ∈ nb, k.length = A.shape.length) (hstar : StarShaped nb) :
    (locModel isMin A nb).toList = (allPos A.shape).map (locSpecAt isMin A nb) :=
  List.map_congr_left fun p hp => locAt_eq_spec isMin A nb p ((C01.mem_allPos A.shape p).mp hp) hlen hstar

end Mahotas.C14
