/-
Helper lemmas for C01 (dilate): where clamping is unobservable.
* box-interior pixels: no clamped scatter lands on `q`, no gather from `q` is clamped;
* coordinate-wise star-shaped supports (F12; the geometric fact is `clamp_between` of `Proofs/C01Index.lean`: clamping
  `p + k` gives `p + k'` with `k'` between 0 and `k`): offsets between 0 and a box offset, the executable tests spelled out.
-/
import Mahotas.Proofs.C01Scatter
namespace Mahotas.C01
open Mahotas

theorem mem_boxOffsets (bshape : List Nat) (k : List Int) :
    k ∈ boxOffsets bshape ↔ ∃ i, inside bshape i = true ∧ k = subPos i (centreOf bshape) := by
  unfold boxOffsets
  simp only [List.mem_map, mem_allPos]
  constructor
  · rintro ⟨i, hi, rfl⟩; exact ⟨i, hi, rfl⟩
  · rintro ⟨i, hi, rfl⟩; exact ⟨i, hi, rfl⟩

theorem boxOffsets_length (bshape : List Nat) (k : List Int) (h : k ∈ boxOffsets bshape) :
    k.length = bshape.length := by
  obtain ⟨i, hi, rfl⟩ := (mem_boxOffsets bshape k).mp h
  rw [subPos_length, inside_length hi, centreOf_length]; omega

theorem mem_boxOffsets_nil (k : List Int) : k ∈ boxOffsets [] ↔ k = [] := by
  rw [mem_boxOffsets]
  constructor
  · rintro ⟨i, _, rfl⟩; cases i <;> rfl
  · rintro rfl; exact ⟨[], rfl, rfl⟩

/-- the box one axis at a time: a side `b` contributes the offsets `-(b/2), …, b - 1 - b/2` -/
theorem mem_boxOffsets_cons (b : Nat) (bs : List Nat) (k : List Int) :
    k ∈ boxOffsets (b :: bs) ↔ ∃ a as, k = a :: as ∧
      (-((b / 2 : Nat) : Int) ≤ a ∧ a + ((b / 2 : Nat) : Int) < b) ∧ as ∈ boxOffsets bs := by
  simp only [mem_boxOffsets]
  constructor
  · rintro ⟨i, hi, rfl⟩
    obtain _ | ⟨i0, is⟩ := i
    · cases hi
    rw [inside_cons] at hi
    exact ⟨i0 - ((b / 2 : Nat) : Int), subPos is (centreOf bs), rfl, by omega, is, hi.2, rfl⟩
  · rintro ⟨a, as, rfl, ha, is, his, rfl⟩
    refine ⟨(a + ((b / 2 : Nat) : Int)) :: is, (inside_cons _ _ _ _).mpr ⟨by omega, his⟩, ?_⟩
    simp only [centreOf, List.map_cons, subPos, List.cons.injEq, and_true]; omega

theorem support_mem_boxOffsets (bshape : List Nat) (bc : Array Int) (compress : Bool)
    (kh : List Int × Int) (h : kh ∈ support bshape bc compress) : kh.1 ∈ boxOffsets bshape := by
  obtain ⟨i, hi, _, rfl⟩ := (mem_support bshape bc compress kh).mp h
  exact (mem_boxOffsets bshape _).mpr ⟨unravelI bshape i, inside_unravelI bshape i hi, rfl⟩

/-- without compression every cell of the box has its entry -/
theorem mem_support_false_fst (S : List Nat) (bc : Array Int) (k : List Int) :
    (∃ kh ∈ support S bc false, kh.1 = k) ↔ k ∈ boxOffsets S := by
  constructor
  · rintro ⟨kh, hkh, rfl⟩; exact support_mem_boxOffsets S bc false kh hkh
  · intro h
    obtain ⟨p, hp, rfl⟩ := (mem_boxOffsets S k).mp h
    exact ⟨(_, bc.getD (ravelI S p) 0), (mem_support S bc false _).mpr
      ⟨ravelI S p, ravelI_lt S p hp, (fun h => by cases h), by rw [unravelI_ravelI S p hp]⟩, rfl⟩

/-- one axis of `boxInterior`: the element `[-c, b-1-c]` placed at `q` and its reflection lie in `[0, n)` -/
def axisInterior (n b : Nat) (q : Int) : Prop :=
  (0 ≤ q - ((b / 2 : Nat) : Int) ∧ q - ((b / 2 : Nat) : Int) < n) ∧
  (0 ≤ q + (((b : Int) - 1) - ((b / 2 : Nat) : Int)) ∧ q + (((b : Int) - 1) - ((b / 2 : Nat) : Int)) < n) ∧
  (0 ≤ q - (((b : Int) - 1) - ((b / 2 : Nat) : Int)) ∧ q - (((b : Int) - 1) - ((b / 2 : Nat) : Int)) < n) ∧
  (0 ≤ q + ((b / 2 : Nat) : Int) ∧ q + ((b / 2 : Nat) : Int) < n)

theorem boxInterior_cons (n : Nat) (ns : List Nat) (b : Nat) (bs : List Nat) (q : Int) (qs : List Int) :
    boxInterior (n :: ns) (b :: bs) (q :: qs) = true ↔ axisInterior n b q ∧ boxInterior ns bs qs = true := by
  simp only [boxInterior, axisInterior, centreOf, List.map_cons, subPos, addPos, inside_cons, Bool.and_eq_true]
  constructor
  · rintro ⟨⟨⟨⟨h1, h1'⟩, h2, h2'⟩, h3, h3'⟩, h4, h4'⟩
    exact ⟨⟨h1, h2, h3, h4⟩, ⟨⟨h1', h2'⟩, h3'⟩, h4'⟩
  · rintro ⟨⟨h1, h2, h3, h4⟩, ⟨⟨h1', h2'⟩, h3'⟩, h4'⟩
    exact ⟨⟨⟨⟨h1, h1'⟩, h2, h2'⟩, h3, h3'⟩, h4, h4'⟩

theorem boxInterior_scatter1 {n b : Nat} {q p a : Int} (hb : axisInterior n b q)
    (hp : 0 ≤ p ∧ p < n) (ha : -((b / 2 : Nat) : Int) ≤ a ∧ a + ((b / 2 : Nat) : Int) < b)
    (h : clampSpec (p + a) n = q) : clampSpec (q - a) n = p := by
  unfold axisInterior at hb
  have e : q - a = p := by
    rcases clampSpec_cases (p + a) n (by omega) with ⟨_, e⟩ | ⟨_, _, e⟩ | ⟨_, e⟩ <;> rw [e] at h <;> omega
  rw [e]; exact clampSpec_of_inside hp.1 hp.2

theorem boxInterior_gather1 {n b : Nat} {q a : Int} (hb : axisInterior n b q)
    (hq : 0 ≤ q ∧ q < n) (ha : -((b / 2 : Nat) : Int) ≤ a ∧ a + ((b / 2 : Nat) : Int) < b) :
    clampSpec (clampSpec (q - a) n + a) n = q := by
  unfold axisInterior at hb
  rw [clampSpec_of_inside (x := q - a) (by omega) (by omega), Int.sub_add_cancel]
  exact clampSpec_of_inside hq.1 hq.2

/-- at a box-interior pixel a clamped scatter through a box offset that lands on `q` was not clamped,
    and the gather from `q` through the same offset reads the source pixel -/
theorem boxInterior_scatter (shape bshape : List Nat) (q p k : List Int)
    (hl : bshape.length = shape.length)
    (hb : boxInterior shape bshape q = true) (hp : inside shape p = true) (hq : inside shape q = true)
    (hk : k ∈ boxOffsets bshape) (h : clampPos shape (addPos p k) = q) :
    clampPos shape (subPos q k) = p := by
  induction shape generalizing bshape q p k with
  | nil =>
    cases p with
    | nil => cases q <;> simp_all [clampPos, inside]
    | cons _ _ => simp [inside] at hp
  | cons n ns ih =>
    obtain _ | ⟨b, bs⟩ := bshape
    · simp at hl
    obtain _ | ⟨p0, ps⟩ := p
    · simp [inside] at hp
    obtain _ | ⟨q0, qs⟩ := q
    · simp [inside] at hq
    obtain ⟨a, as, rfl, ha, has⟩ := (mem_boxOffsets_cons b bs k).mp hk
    rw [boxInterior_cons] at hb
    rw [inside_cons] at hp hq
    simp only [subPos, addPos, clampPos, List.cons.injEq] at h ⊢
    exact ⟨boxInterior_scatter1 hb.1 hp.1 ha h.1, ih bs qs ps as (by simpa using hl) hb.2 hp.2 hq.2 has h.2⟩

/-- at a box-interior pixel a gather through a box offset is not clamped, and scattering back
    through the same offset lands on `q` -/
theorem boxInterior_gather (shape bshape : List Nat) (q k : List Int)
    (hl : bshape.length = shape.length)
    (hb : boxInterior shape bshape q = true) (hq : inside shape q = true) (hk : k ∈ boxOffsets bshape) :
    clampPos shape (addPos (clampPos shape (subPos q k)) k) = q := by
  induction shape generalizing bshape q k with
  | nil => cases q <;> simp_all [clampPos, inside]
  | cons n ns ih =>
    obtain _ | ⟨b, bs⟩ := bshape
    · simp at hl
    obtain _ | ⟨q0, qs⟩ := q
    · simp [inside] at hq
    obtain ⟨a, as, rfl, ha, has⟩ := (mem_boxOffsets_cons b bs k).mp hk
    rw [boxInterior_cons] at hb
    rw [inside_cons] at hq
    simp only [subPos, addPos, clampPos, List.cons.injEq]
    exact ⟨boxInterior_gather1 hb.1 hq.1 ha, ih bs qs as (by simpa using hl) hb.2 hq.2 has⟩

/-- an offset between `0` and an offset of the element box is an offset of the element box (every axis of the box
    contains 0) -/
theorem between_mem_boxOffsets (bshape : List Nat) (k' k : List Int) (hk : k ∈ boxOffsets bshape)
    (hb : between k' k = true) : k' ∈ boxOffsets bshape := by
  induction bshape generalizing k' k with
  | nil =>
    obtain rfl := (mem_boxOffsets_nil k).mp hk
    cases k' with
    | nil => exact hk
    | cons _ _ => cases hb
  | cons b bs ih =>
    obtain ⟨a, as, rfl, ha, has⟩ := (mem_boxOffsets_cons b bs k).mp hk
    obtain _ | ⟨a', as'⟩ := k'
    · cases hb
    rw [between_cons] at hb
    exact (mem_boxOffsets_cons b bs _).mpr ⟨a', as', rfl, by omega, ih as' as has hb.2⟩

/-- the executable test `starShaped`, spelled out -/
theorem starShaped_iff (bshape : List Nat) (members : List (List Int)) :
    starShaped bshape members = true ↔
      ∀ k ∈ members, ∀ k' ∈ boxOffsets bshape, between k' k = true → k' ∈ members := by
  unfold starShaped
  simp only [List.all_eq_true, Bool.or_eq_true, Bool.not_eq_true', List.contains_iff_mem]
  refine forall₂_congr fun k _ => forall₂_congr fun k' _ => ?_
  cases between k' k <;> simp

/-- the same test read on a list of entries that lie in the box: between `0` and an entry there is an entry (the form
    in which `HeightMonotoneStar`, `C02.SymStar` and `C14.StarShaped` consume it) -/
theorem starShaped_entry (bshape : List Nat) (sup : List (List Int × Int))
    (hbox : ∀ kh ∈ sup, kh.1 ∈ boxOffsets bshape) (hstar : starShaped bshape (sup.map (·.1)) = true)
    (kh : List Int × Int) (hkh : kh ∈ sup) (k' : List Int) (hb : between k' kh.1 = true) :
    ∃ kh' ∈ sup, kh'.1 = k' :=
  List.mem_map.mp ((starShaped_iff bshape _).mp hstar kh.1 (List.mem_map.mpr ⟨kh, hkh, rfl⟩) k'
    (between_mem_boxOffsets bshape k' kh.1 (hbox kh hkh) hb) hb)

theorem flatHeights_eq (hs : List Int) (h : flatHeights hs = true) :
    ∀ x ∈ hs, ∀ y ∈ hs, x = y := by
  cases hs with
  | nil => intro x hx; cases hx
  | cons a t =>
    simp only [flatHeights, List.all_eq_true, beq_iff_eq] at h
    have key : ∀ x ∈ a :: t, x = a := by
      intro x hx
      rcases List.mem_cons.mp hx with rfl | hx
      · rfl
      · exact h x hx
    intro x hx y hy
    rw [key x hx, key y hy]

end Mahotas.C01
