/-
C19 — the running maximum / minimum of the model (`Model/C19.lean: maxG`, `minG`) folded over a list: the result is one of
the entries and bounds all of them (an instance of `Proofs/FoldOrder.lean`: `maxG` is `max`). Used for `np.ptp` (`colPtpG`)
and for the loop of `_lbp.cpp: map` (`mapStep`).
-/
import Mahotas.Model.C19
import Mahotas.Proofs.FoldOrder
import Mathlib.Order.Nat
namespace Mahotas.C19

theorem maxG_eq_max {β : Type} [LinearOrder β] (a b : β) : maxG a b = max a b :=
  ite_lt_max a b

theorem foldl_maxG {β : Type} [LinearOrder β] (xs : List β) (a : β) :
    xs.foldl maxG a ∈ a :: xs ∧ ∀ x ∈ a :: xs, x ≤ xs.foldl maxG a := by
  rw [show (maxG : β → β → β) = max from funext fun a => funext fun b => maxG_eq_max a b]
  obtain ⟨h1, h2⟩ := isGreatest_foldl_max xs a
  exact ⟨h1.elim (fun e => by rw [e]; exact List.mem_cons_self) (List.mem_cons_of_mem _),
    fun x hx => h2 (List.mem_cons.1 hx)⟩

/-- `minG` is `maxG` of the opposite order -/
theorem foldl_minG {β : Type} [LinearOrder β] (xs : List β) (a : β) :
    xs.foldl minG a ∈ a :: xs ∧ ∀ x ∈ a :: xs, xs.foldl minG a ≤ x :=
  foldl_maxG (β := βᵒᵈ) xs a

end Mahotas.C19
