/-
C18 — the array loop of the prefilter (`filterLineP`, `filterAxisP`, `splineFilterP` of `Model/C18.lean`, what the
driver runs at `Float`) computes, position by position, the separable prefilter `prefilterNd (lineFilterL …)` the
interpolation theorems speak about. The code's initialisation rule `iniCode` reads only the line
(`iniCode_local`) and is the exact mirror-symmetric value where the closed form is used (`iniCode_mirrorInit`).
-/
import Mahotas.Proofs.C18Interp
import Mahotas.Proofs.C01Index
set_option linter.unusedSectionVars false
namespace Mahotas.C18
open Mahotas

variable {K : Type} [Field K] [LinearOrder K] [IsStrictOrderedRing K]

/-- the initialisation rule reads the line only at its `len` samples (asked of lines of at least two samples) -/
def IniLocal (ini : K → Nat → (Nat → K) → K) : Prop :=
  ∀ (z : K) (len : Nat) (s s' : Nat → K), 2 ≤ len → (∀ k, k < len → s k = s' k) → ini z len s = ini z len s'

theorem anticausalRev_congr (z : K) (n : Nat) (hn : 2 ≤ n) (cp cp' : Nat → K) (h : ∀ i, i < n → cp i = cp' i) :
    ∀ j, anticausalRev z n cp j = anticausalRev z n cp' j := by
  intro j
  induction j with
  | zero => rw [anticausalRev, anticausalRev, h (n - 1) (by omega), h (n - 2) (by omega)]
  | succ j ih => rw [anticausalRev, anticausalRev, ih, h (n - 2 - j) (by omega)]

theorem onePole_congr (z c0 : K) (n : Nat) (hn : 2 ≤ n) (s s' : Nat → K) (h : ∀ i, i < n → s i = s' i) (k : Nat) :
    onePole z c0 n s k = onePole z c0 n s' k := by
  unfold onePole
  apply anticausalRev_congr z n hn
  intro i hi
  exact causal_congr z c0 s s' i (fun j _ hj => h j (by omega))

theorem foldPoles_congr (ini : K → Nat → (Nat → K) → K) (hini : IniLocal ini) (len : Nat) (hlen : 2 ≤ len) :
    ∀ (ps : List K) (u u' : Nat → K), (∀ i, i < len → u i = u' i) → ∀ i, i < len →
      ps.foldl (fun u z => onePole z (ini z len u) len u) u i
        = ps.foldl (fun u z => onePole z (ini z len u) len u) u' i := by
  intro ps
  induction ps with
  | nil => intro u u' h i hi; exact h i hi
  | cons z ps ih =>
    intro u u' h i hi
    simp only [List.foldl_cons]
    apply ih _ _ _ i hi
    intro j hj
    rw [hini z len u u' hlen h]
    exact onePole_congr z _ len hlen u u' h j

theorem lineFilterL_congr (w : K) (ps : List K) (ini : K → Nat → (Nat → K) → K) (hini : IniLocal ini) (len : Nat)
    (s s' : Nat → K) (h : ∀ i, i < len → s i = s' i) (k : Nat) (hk : k < len) :
    lineFilterL w ps ini len s k = lineFilterL w ps ini len s' k := by
  unfold lineFilterL
  by_cases hl : len ≤ 1
  · rw [if_pos hl, if_pos hl]; exact h k hk
  · rw [if_neg hl, if_neg hl]
    apply foldPoles_congr ini hini len (by omega) ps _ _ _ k hk
    intro i hi
    rw [h i hi]

theorem getD_map_arrayRange (len : Nat) (g : Nat → K) (i : Nat) (hi : i < len) :
    ((Array.range len).map g).getD i 0 = g i := by
  simp [Array.getD_eq_getD_getElem?, hi]

/-- pole by pole, the Array fold of `filterLineP` and the function fold of `lineFilterL` hold the same samples -/
theorem foldLine (ini : K → Nat → (Nat → K) → K) (hini : IniLocal ini) (len : Nat) (hlen : 2 ≤ len) :
    ∀ (ps : List K) (line : Array K) (u : Nat → K), line.size = len → (∀ i, i < len → line.getD i 0 = u i) →
      (ps.foldl (fun (line : Array K) p => (Array.range len).map
          (onePole p (ini p len (fun k => line.getD k ((0 : Nat) : K))) len (fun k => line.getD k ((0 : Nat) : K))))
        line).size = len ∧
      ∀ i, i < len →
        (ps.foldl (fun (line : Array K) p => (Array.range len).map
          (onePole p (ini p len (fun k => line.getD k ((0 : Nat) : K))) len (fun k => line.getD k ((0 : Nat) : K))))
        line).getD i 0 = ps.foldl (fun u z => onePole z (ini z len u) len u) u i := by
  intro ps
  induction ps with
  | nil => intro line u hs h; exact ⟨hs, h⟩
  | cons p ps ih =>
    intro line u hs h
    simp only [List.foldl_cons]
    apply ih
    · simp
    · intro i hi
      rw [getD_map_arrayRange len _ i hi]
      have hl : ∀ k, k < len → (fun k => line.getD k ((0 : Nat) : K)) k = u k := by
        intro k hk; simp only [Nat.cast_zero]; exact h k hk
      rw [hini p len _ u hlen hl]
      exact onePole_congr p _ len hlen _ u hl i

theorem filterLineP_spec (w : K) (ps : List K) (ini : K → Nat → (Nat → K) → K) (hini : IniLocal ini)
    (line0 : Array K) :
    (filterLineP w ps ini line0).size = line0.size ∧
    ∀ k, k < line0.size →
      (filterLineP w ps ini line0).getD k 0 = lineFilterL w ps ini line0.size (fun i => line0.getD i 0) k := by
  unfold filterLineP lineFilterL
  by_cases hl : line0.size ≤ 1
  · simp only [hl, if_true]
    exact ⟨trivial, fun _ _ => trivial⟩
  · simp only [hl, if_false]
    apply foldLine ini hini line0.size (by omega) ps (line0.map (· * w)) (fun i => line0.getD i 0 * w) (by simp)
    intro i hi
    simp [Array.getD_eq_getD_getElem?, hi]

theorem set_getD_toNat (shape : List Nat) (p : List Int) (hin : inside shape p = true) (axis : Nat) :
    p.set axis (((p.getD axis 0).toNat : Nat) : Int) = p := by
  rw [Int.toNat_of_nonneg (C01.getD_lt_of_inside shape p hin axis).1]
  exact set_getD_self p axis

theorem getD_set_zero (p : List Int) (axis : Nat) : (p.set axis 0).getD axis 0 = 0 := by
  rw [List.getD_eq_getElem?_getD, List.getElem?_set_self']
  cases p[axis]? <;> rfl

theorem filterAxisP_shape (F : Array K → Array K) (im : Img K) (axis : Nat) :
    (filterAxisP F im axis).shape = im.shape := by
  unfold filterAxisP
  by_cases hl : im.shape.getD axis 1 ≤ 1
  · simp only [hl, if_true]
  · simp only [hl, if_false]; rfl

/-- the line filter `F` as a function of the line, with the rule "an axis of length ≤ 1 is left alone" -/
def lineFn (F : Array K → Array K) (len : Nat) (s : Nat → K) (k : Nat) : K :=
  if len ≤ 1 then s k else (F ((Array.range len).map s)).getD k 0

/-- the filter along one axis, on functions of the position -/
def axisFn (Fl : Nat → (Nat → K) → Nat → K) (shape : List Nat) (axis : Nat) (g : List Int → K) (p : List Int) : K :=
  Fl (shape.getD axis 1) (fun i => g (p.set axis ((i : Nat) : Int))) (p.getD axis 0).toNat

/-- the filters along the axes `axes`, one after the other, on functions of the position -/
def applyAxes (Fl : Nat → (Nat → K) → Nat → K) (shape : List Nat) : List Nat → (List Int → K) → List Int → K
  | [], g => g
  | a :: axes, g => applyAxes Fl shape axes (axisFn Fl shape a g)

theorem filterAxisP_getD_line (F : Array K → Array K) (im : Img K) (axis : Nat) (p : List Int)
    (hin : inside im.shape p = true) :
    (filterAxisP F im axis).getD p 0
      = if im.shape.getD axis 1 ≤ 1 then im.getD p 0
        else (F (lineOf im axis p (im.shape.getD axis 1))).getD (p.getD axis 0).toNat 0 := by
  unfold filterAxisP
  by_cases hl : im.shape.getD axis 1 ≤ 1
  · simp only [hl, if_true]
  · simp only [hl, if_false]
    rw [tabulate_getD _ _ _ _ hin]
    have hq : inside im.shape (p.set axis 0) = true :=
      C01.inside_set_one im.shape p axis 0 hin (le_refl _) (by omega)
    rw [getD_map_allPos im.shape _ _ _ (C01.ravelI_lt im.shape _ hq), C01.unravelI_ravelI im.shape _ hq,
      if_pos (getD_set_zero p axis)]
    have e : lineOf im axis (p.set axis 0) (im.shape.getD axis 1) = lineOf im axis p (im.shape.getD axis 1) := by
      unfold lineOf; simp only [List.set_set]
    rw [e, Nat.cast_zero]

theorem filterAxisP_getD (F : Array K → Array K) (im : Img K) (axis : Nat) (p : List Int)
    (hin : inside im.shape p = true) :
    (filterAxisP F im axis).getD p 0 = axisFn (lineFn F) im.shape axis (fun q => im.getD q 0) p := by
  rw [filterAxisP_getD_line F im axis p hin]
  unfold axisFn lineFn
  by_cases hl : im.shape.getD axis 1 ≤ 1
  · simp only [hl, if_true]; rw [set_getD_toNat im.shape p hin axis]
  · simp only [hl, if_false, lineOf, Nat.cast_zero]

theorem lineFn_congr (F : Array K → Array K) (len : Nat) (s s' : Nat → K) (h : ∀ i, i < len → s i = s' i)
    (k : Nat) (hk : k < len) : lineFn F len s k = lineFn F len s' k := by
  unfold lineFn
  by_cases hl : len ≤ 1
  · simp only [hl, if_true]; exact h k hk
  · simp only [hl, if_false]
    have : (Array.range len).map s = (Array.range len).map s' := by
      apply Array.map_congr_left
      intro i hi
      exact h i (by simpa using hi)
    rw [this]

theorem axisFn_congr (F : Array K → Array K) (shape : List Nat) (axis : Nat) (g g' : List Int → K)
    (h : ∀ q, inside shape q = true → g q = g' q) (p : List Int) (hin : inside shape p = true) :
    axisFn (lineFn F) shape axis g p = axisFn (lineFn F) shape axis g' p := by
  unfold axisFn
  have hb := C01.getD_lt_of_inside shape p hin axis
  apply lineFn_congr F _ _ _ _ _ (by omega)
  intro i hi
  exact h _ (C01.inside_set_one shape p axis _ hin (by omega) (by omega))

theorem applyAxes_congr (F : Array K → Array K) (shape : List Nat) : ∀ (axes : List Nat) (g g' : List Int → K),
    (∀ q, inside shape q = true → g q = g' q) → ∀ p, inside shape p = true →
      applyAxes (lineFn F) shape axes g p = applyAxes (lineFn F) shape axes g' p
  | [], _, _, h, p, hin => h p hin
  | a :: axes, g, g', h, p, hin =>
    applyAxes_congr F shape axes _ _ (fun q hq => axisFn_congr F shape a g g' h q hq) p hin

theorem foldl_filterAxisP_getD (F : Array K → Array K) : ∀ (axes : List Nat) (im : Img K),
    (axes.foldl (filterAxisP F) im).shape = im.shape ∧
    ∀ p, inside im.shape p = true →
      (axes.foldl (filterAxisP F) im).getD p 0 = applyAxes (lineFn F) im.shape axes (fun q => im.getD q 0) p
  | [], im => ⟨rfl, fun p _ => rfl⟩
  | a :: axes, im => by
    obtain ⟨hs, hg⟩ := foldl_filterAxisP_getD F axes (filterAxisP F im a)
    rw [filterAxisP_shape] at hs hg
    refine ⟨hs, fun p hin => ?_⟩
    rw [List.foldl_cons, hg p hin]
    exact applyAxes_congr F im.shape axes _ _ (fun q hq => filterAxisP_getD F im a q hq) p hin

theorem applyAxes_tail (Fl : Nat → (Nat → K) → Nat → K) (len : Nat) (ls : List Nat) (i : Int) :
    ∀ (axes : List Nat) (g : List Int → K) (q : List Int),
      applyAxes Fl (len :: ls) (axes.map (· + 1)) g (i :: q) = applyAxes Fl ls axes (fun q' => g (i :: q')) q
  | [], _, _ => rfl
  | a :: axes, g, q => by
    rw [List.map_cons, applyAxes, applyAxes_tail Fl len ls i axes]
    rfl

theorem applyAxes_eq_prefilterNd (Fl : Nat → (Nat → K) → Nat → K) : ∀ (shape : List Nat) (g : List Int → K)
    (p : List Int), p.length = shape.length →
      applyAxes Fl shape (List.range shape.length) g p = prefilterNd Fl shape g p
  | [], _, _, _ => rfl
  | len :: ls, g, [], hl => by simp at hl
  | len :: ls, g, i :: q, hl => by
    have hr : List.range (len :: ls).length = 0 :: (List.range ls.length).map (· + 1) := by
      simp [List.range_succ_eq_map]
    rw [hr, applyAxes, applyAxes_tail Fl len ls i, applyAxes_eq_prefilterNd Fl ls _ q (by simpa using hl)]
    rfl

theorem prefilterNd_congr (F F' : Nat → (Nat → K) → Nat → K) : ∀ (shape : List Nat) (p : List Int),
    inside shape p = true → (∀ len ∈ shape, ∀ (s : Nat → K) (k : Nat), k < len → F len s k = F' len s k) →
    ∀ g : List Int → K, prefilterNd F shape g p = prefilterNd F' shape g p :=
  C01.inside_induction (fun _ _ => rfl) fun len ls i q h0 h1 _ ih h g => by
    rw [prefilterNd, prefilterNd, ih fun l hl => h l (List.mem_cons_of_mem _ hl)]
    congr 1
    funext p'
    exact h len List.mem_cons_self _ _ (by omega)

/-- **the driver's prefilter is the separable prefilter of the theorems**: for a local initialisation rule, at every
    position inside the array `splineFilterP (filterLineP w ps ini)` holds `prefilterNd (lineFilterL w ps ini)` of the
    input samples, and the shape is kept -/
theorem splineFilterP_eq_prefilterNd (w : K) (ps : List K) (ini : K → Nat → (Nat → K) → K) (hini : IniLocal ini)
    (im : Img K) :
    (splineFilterP (filterLineP w ps ini) im).shape = im.shape ∧
    ∀ p, inside im.shape p = true →
      (splineFilterP (filterLineP w ps ini) im).getD p 0
        = prefilterNd (lineFilterL w ps ini) im.shape (fun q => im.getD q 0) p := by
  unfold splineFilterP
  obtain ⟨hs, hg⟩ := foldl_filterAxisP_getD (filterLineP w ps ini) (List.range im.shape.length) im
  refine ⟨hs, ?_⟩
  intro p hin
  rw [hg p hin, applyAxes_eq_prefilterNd _ im.shape _ p (C01.inside_length hin)]
  refine prefilterNd_congr _ _ im.shape p hin (fun len _ s k hk => ?_) _
  unfold lineFn
  by_cases hl : len ≤ 1
  · simp only [hl, if_true, lineFilterL]
  · simp only [hl, if_false]
    obtain ⟨hsz, hv⟩ := filterLineP_spec w ps ini hini ((Array.range len).map s)
    have hsz' : ((Array.range len).map s).size = len := by simp
    rw [hv k (by omega), hsz']
    apply lineFilterL_congr w ps ini hini len _ _ _ k hk
    intro i hi
    exact getD_map_arrayRange len s i hi

theorem initTrunc_congr (z : K) (mx len : Nat) (hlen : 2 ≤ len) (hmx : mx ≤ len) (s s' : Nat → K)
    (h : ∀ k, k < len → s k = s' k) : initTrunc z mx s = initTrunc z mx s' := by
  unfold initTrunc
  rw [h 0 (by omega)]
  congr 1
  apply foldl_congr_mem
  intro b i hi
  rw [h (i + 1) (by have := List.mem_range.mp hi; omega)]

theorem initFull_congr (z zp : K) (len : Nat) (hlen : 2 ≤ len) (s s' : Nat → K)
    (h : ∀ k, k < len → s k = s' k) : initFull z zp len s = initFull z zp len s' := by
  unfold initFull
  simp only []
  rw [h 0 (by omega), h (len - 1) (by omega)]
  have : (List.range (len - 2)).foldl (stepFull z (1 / z) s) (s' 0 + zp * s' (len - 1), z, zp * (zp * (1 / z)))
      = (List.range (len - 2)).foldl (stepFull z (1 / z) s') (s' 0 + zp * s' (len - 1), z, zp * (zp * (1 / z))) := by
    apply foldl_congr_mem
    intro b i hi
    unfold stepFull
    rw [h (i + 1) (by have := List.mem_range.mp hi; omega)]
  simp only [Nat.cast_one] at this ⊢
  rw [this]

theorem iniCode_local (cut : K → Int) (pw : K → Nat → K) : IniLocal (iniCode cut pw) := by
  intro z len s s' hlen h
  unfold iniCode
  by_cases hc : cut z < (len : Int)
  · rw [if_pos hc, if_pos hc]
    exact initTrunc_congr z _ len hlen (by omega) s s' h
  · rw [if_neg hc, if_neg hc]
    exact initFull_congr z _ len hlen s s' h

theorem iniCode_mirrorInit (cut : K → Int) (pw : K → Nat → K) (z : K) (hz : z ≠ 0) (len : Nat) (hlen : 2 ≤ len)
    (hcut : ¬ cut z < (len : Int)) (hpw : pw z (len - 1) = z ^ (len - 1))
    (hP : 1 - z ^ (len - 1) * z ^ (len - 1) ≠ 0) (s : Nat → K) :
    MirrorInit z len s (iniCode cut pw z len s) := by
  unfold iniCode
  rw [if_neg hcut, hpw]
  exact initFull_mirrorInit z hz len hlen hP s

end Mahotas.C18
