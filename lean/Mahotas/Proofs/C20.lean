/-
C20 — exact facts about the extracted colour tables (white and black point; a matrix with non-negative entries is
monotone) and the order facts about `stretch`: the cap behind any non-decreasing map (`capHi_comp_spec`, which the exact and
the rounded pipeline both instantiate) and `RangeMap`, what every statement about `stretch` says of its result.
-/
import Mahotas.Model.C20
import Mahotas.Proofs.FoldOrder
import Mathlib.Tactic.NormNum
import Mathlib.Tactic.Linarith
import Mathlib.Algebra.Order.Field.Basic
import Mathlib.Tactic.FieldSimp
import Mathlib.Tactic.Ring
import Mathlib.Order.Monotone.Basic
namespace Mahotas.C20
open Mahotas Mahotas.Generated

theorem matVec_three {α : Type} [Add α] [Mul α] [OfNat α 0] (a b c d e f g h i x y z : α) :
    matVec [[a, b, c], [d, e, f], [g, h, i]] [x, y, z] =
      [a * x + (b * y + (c * z + 0)), d * x + (e * y + (f * z + 0)), g * x + (h * y + (i * z + 0))] := rfl

theorem matVec_rgb2xyz (r g b : Rat) :
    matVec rgb2xyzMQ [r, g, b] =
      [(1031 : Rat) / 2500 * r + ((447 : Rat) / 1250 * g + ((361 : Rat) / 2000 * b + 0)),
       (1063 : Rat) / 5000 * r + ((447 : Rat) / 625 * g + ((361 : Rat) / 5000 * b + 0)),
       (193 : Rat) / 10000 * r + ((149 : Rat) / 1250 * g + ((1901 : Rat) / 2000 * b + 0))] := rfl

theorem white_point : matVec rgb2xyzMQ [1, 1, 1] = [(9505 : Rat) / 10000, 1, (1089 : Rat) / 1000] := by
  rw [matVec_rgb2xyz]; norm_num

theorem black_point : matVec rgb2xyzMQ [0, 0, 0] = [0, 0, 0] := by
  rw [matVec_rgb2xyz]; norm_num

theorem dot_mono {α : Type} [Semiring α] [PartialOrder α] [IsOrderedRing α] :
    ∀ {w v v' : List α}, (∀ a ∈ w, 0 ≤ a) → List.Forall₂ (· ≤ ·) v v' → dot w v ≤ dot w v'
  | [], _, _, _, _ => le_of_eq (by simp [dot])
  | _ :: _, _, _, _, .nil => le_rfl
  | a :: _, _ :: _, _ :: _, hw, .cons hx h =>
    add_le_add (mul_le_mul_of_nonneg_left hx (hw a List.mem_cons_self))
      (dot_mono (fun b hb => hw b (List.mem_cons_of_mem _ hb)) h)

theorem matVec_mono {α : Type} [Semiring α] [PartialOrder α] [IsOrderedRing α] {m : List (List α)}
    (hm : ∀ row ∈ m, ∀ a ∈ row, 0 ≤ a) {v v' : List α} (h : List.Forall₂ (· ≤ ·) v v') :
    List.Forall₂ (· ≤ ·) (matVec m v) (matVec m v') := by
  induction m with
  | nil => exact .nil
  | cons row m ih =>
    exact .cons (dot_mono (hm row List.mem_cons_self) h) (ih fun r hr => hm r (List.mem_cons_of_mem _ hr))

theorem rgb2xyzMQ_nonneg : ∀ row ∈ rgb2xyzMQ, ∀ a ∈ row, 0 ≤ a := by
  simp only [rgb2xyzMQ, List.forall_mem_cons, List.not_mem_nil, false_imp_iff, implies_true, and_true]
  norm_num

theorem stretchCore_mono (mn ptp lo hi x y : Rat) (hp : 0 < ptp) (h : lo ≤ hi) (hxy : x ≤ y) :
    stretchCore mn ptp lo hi x ≤ stretchCore mn ptp lo hi y := by
  unfold stretchCore
  have hs : 0 ≤ (hi - lo) / ptp := div_nonneg (by linarith) (le_of_lt hp)
  have : (x - mn) * ((hi - lo) / ptp) ≤ (y - mn) * ((hi - lo) / ptp) :=
    mul_le_mul_of_nonneg_right (by linarith) hs
  linarith

theorem stretchCore_min (mn ptp lo hi : Rat) : stretchCore mn ptp lo hi mn = lo := by
  unfold stretchCore; simp

theorem stretchCore_max (mn ptp lo hi : Rat) (hp : 0 < ptp) : stretchCore mn ptp lo hi (mn + ptp) = hi := by
  unfold stretchCore
  have : ptp ≠ 0 := ne_of_gt hp
  field_simp
  ring

theorem capHi_mono (lo hi x y : Rat) (hxy : x ≤ y) : capHi lo hi x ≤ capHi lo hi y := by
  unfold capHi
  by_cases h : hi < lo
  · simp only [h, if_true]; exact hxy
  · simp only [h, if_false]
    by_cases hx : hi < x <;> by_cases hy : hi < y <;> simp only [hx, hy, if_true, if_false] <;> linarith

theorem capHi_range (lo hi y : Rat) (h : lo ≤ hi) (hy : lo ≤ y) : lo ≤ capHi lo hi y ∧ capHi lo hi y ≤ hi := by
  unfold capHi
  have hnl : ¬ hi < lo := not_lt.mpr h
  simp only [hnl, if_false]
  by_cases hy' : hi < y <;> simp only [hy', if_true, if_false]
  · exact ⟨h, le_refl _⟩
  · exact ⟨hy, not_lt.mp hy'⟩

/-! `minL` / `maxL` over any linear order (the ties to the Python body use them over an ordered field) -/

theorem minL_eq_foldl {α : Type} [LinearOrder α] (m : α) (xs : List α) : minL m xs = xs.foldl min m := by
  induction xs generalizing m with
  | nil => rfl
  | cons a t ih => rw [minL, ih, List.foldl_cons, ite_lt_min]

theorem maxL_eq_foldl {α : Type} [LinearOrder α] (m : α) (xs : List α) : maxL m xs = xs.foldl max m := by
  induction xs generalizing m with
  | nil => rfl
  | cons a t ih => rw [maxL, ih, List.foldl_cons, ite_lt_max]

theorem minL_le {α : Type} [LinearOrder α] (m : α) (xs : List α) : minL m xs ≤ m ∧ ∀ x ∈ xs, minL m xs ≤ x := by
  rw [minL_eq_foldl]
  exact ⟨(isLeast_foldl_min xs m).2 (Or.inl rfl), fun x hx => (isLeast_foldl_min xs m).2 (Or.inr hx)⟩

theorem le_maxL_of_linearOrder {α : Type} [LinearOrder α] (m : α) (xs : List α) :
    m ≤ maxL m xs ∧ ∀ x ∈ xs, x ≤ maxL m xs := by
  rw [maxL_eq_foldl]
  exact ⟨(isGreatest_foldl_max xs m).2 (Or.inl rfl), fun x hx => (isGreatest_foldl_max xs m).2 (Or.inr hx)⟩

theorem le_maxL (m : Rat) (xs : List Rat) : m ≤ maxL m xs ∧ ∀ x ∈ xs, x ≤ maxL m xs :=
  le_maxL_of_linearOrder m xs

theorem minL_mem {α : Type} [LinearOrder α] (m : α) (xs : List α) : minL m xs ∈ m :: xs := by
  rw [minL_eq_foldl]
  exact (isLeast_foldl_min xs m).1.elim (fun e => by rw [e]; exact List.mem_cons_self) (List.mem_cons_of_mem _)

/-- what `stretch` does to the pixels of a non-constant image, for any non-decreasing `f` in place of the affine map
    (exact arithmetic and every rounded one supply their own `f`) -/
theorem capHi_comp_spec {lo hi mn : Rat} {xs : List Rat} {f : Rat → Rat} (h : lo ≤ hi)
    (hf : ∀ x y, x ≤ y → f x ≤ f y) (hmn : f mn = lo) (hmem : mn ∈ xs) (hle : ∀ x ∈ xs, mn ≤ x) :
    (∀ x y, x ≤ y → capHi lo hi (f x) ≤ capHi lo hi (f y)) ∧
      (∀ x ∈ xs, lo ≤ capHi lo hi (f x) ∧ capHi lo hi (f x) ≤ hi) ∧
      (∀ m ∈ xs, (∀ x ∈ xs, m ≤ x) → capHi lo hi (f m) = lo) := by
  refine ⟨fun x y hxy => capHi_mono lo hi _ _ (hf x y hxy),
    fun x hx => capHi_range lo hi _ h (hmn ▸ hf mn x (hle x hx)), fun m hm hmin => ?_⟩
  rw [le_antisymm (hmin mn hmem) (hle m hm), hmn]
  simp [capHi, not_lt.2 h]

/-- what every statement about `stretch` says of the list `L` it returns for the pixels `xs`: `L` is `xs.map g` for a
    non-decreasing `g` that sends every pixel into `[lo, hi]` and every least pixel to `lo` -/
def RangeMap {β : Type} [LE β] (xs : List Rat) (lo hi : β) (L : List β) : Prop :=
  ∃ g : Rat → β, (∀ x y, x ≤ y → g x ≤ g y) ∧ L = xs.map g ∧
    (∀ x ∈ xs, lo ≤ g x ∧ g x ≤ hi) ∧ (∀ m ∈ xs, (∀ x ∈ xs, m ≤ x) → g m = lo)

theorem RangeMap.map {β γ : Type} [Preorder β] [Preorder γ] {xs : List Rat} {lo hi : β} {L : List β}
    (H : RangeMap xs lo hi L) {f : β → γ} (hf : Monotone f) : RangeMap xs (f lo) (f hi) (L.map f) := by
  obtain ⟨g, gm, ge, gr, gmin⟩ := H
  exact ⟨fun x => f (g x), fun x y hxy => hf (gm x y hxy), by rw [ge, List.map_map]; rfl,
    fun x hx => ⟨hf (gr x hx).1, hf (gr x hx).2⟩, fun m hm hmin => congrArg f (gmin m hm hmin)⟩

/-- clamping `g` to `[lo, hi]` changes nothing on the pixels and makes the range clause hold at every `x` -/
theorem RangeMap.everywhere {β : Type} [LinearOrder β] {xs : List Rat} {lo hi : β} {L : List β}
    (H : RangeMap xs lo hi L) (h : lo ≤ hi) :
    ∃ G : Rat → β, (∀ x y, x ≤ y → G x ≤ G y) ∧ L = xs.map G ∧ (∀ x, lo ≤ G x ∧ G x ≤ hi) ∧
      (∀ m ∈ xs, (∀ x ∈ xs, m ≤ x) → G m = lo) := by
  obtain ⟨g, gm, ge, gr, gmin⟩ := H
  refine ⟨fun x => max lo (min (g x) hi), fun x y hxy => max_le_max le_rfl (min_le_min (gm x y hxy) le_rfl), ?_,
    fun x => ⟨le_max_left _ _, max_le h (min_le_right _ _)⟩, fun m hm hmin => ?_⟩
  · rw [ge]; apply List.map_congr_left; intro x hx
    show g x = max lo (min (g x) hi)
    rw [min_eq_left (gr x hx).2, max_eq_right (gr x hx).1]
  · show max lo (min (g m) hi) = lo
    rw [gmin m hm hmin, min_eq_left h, max_self]

end Mahotas.C20
