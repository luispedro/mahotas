/-
C12 (T4) — value tie of the `cwatershed` access program: the run `runR` of the compiled program (by `solo_compile`
the solo run) leaves the `res`, `status` and `lines` arrays of `C04.cwatershedModel` in the call's own arrays
(`cwatershed_runR`).

Every value the program stores into these three arrays is a constant the C++ stores as a constant (`status[..] = grey /
black`, `lines[..] = true`) or a copy of a value read (`rdata[npos] = rdata[next.position]`, `res.at(mpos) = *miter`);
the addresses are generated along the run of the model (they depend on the order in which the priority queue delivers
the pixels). The proof is a simulation with the memory presenting the model state (`CInv`); that the popped position is
inside the buffers comes from C04's invariant of the neighbour loop (`C04.VInv`: the relation `C04.Rel` between model and
specification; `C04.pop_vinv`, `C04.visit_vinv`, `C04.VInv.pos_lt`); a neighbour position needs no bound here
(`Shows.exec_set` asks nothing of the cell index).
-/
import Mahotas.Proofs.C12Label
import Mahotas.Proofs.C04Sim
namespace Mahotas.C12
open Mahotas

section cw
variable (calls : List Call) (aS aM aBc aRes aSt aQ aLn aT aR : Nat)

/-- the footprint of a `cwatershed` call: arguments surface, markers, Bc; owned `res`, `status`, queue,
`lines`, neighbour table, register -/
abbrev ccall : Call := ⟨[aS, aM, aBc], [aRes, aSt, aQ, aLn, aT, aR]⟩

/-- the array ids the tie needs distinct: `res`, `status`, `lines` from each other and from the queue, the table and the
    register; the markers only from the owned arrays written before the markers are read (all but `lines`) -/
structure CDist : Prop where
  rs : aRes ≠ aSt
  rl : aRes ≠ aLn
  sl : aSt ≠ aLn
  q : aQ ≠ aRes ∧ aQ ≠ aSt ∧ aQ ≠ aLn
  t : aT ≠ aRes ∧ aT ≠ aSt ∧ aT ≠ aLn
  r : aR ≠ aRes ∧ aR ≠ aSt ∧ aR ≠ aLn
  m : aM ≠ aRes ∧ aM ≠ aSt ∧ aM ≠ aQ ∧ aM ≠ aT ∧ aM ≠ aR

/-- the memory presents `res`, `status` (0 white, 1 grey, 2 black) and `lines` (0 / 1) of the model state -/
structure CInv (n : Nat) (M : Mem) (st : C04.MSt) : Prop where
  res : ∀ j, j < n → M (L calls aRes (j : Int)) = st.res.getD j 0
  status : ∀ j, j < n → M (L calls aSt (j : Int)) = ((st.status.getD j 0 : Nat) : Int)
  lines : ∀ j, j < n → M (L calls aLn (j : Int)) = if st.lines.getD j false = true then 1 else 0
  rsize : st.res.size = n
  ssize : st.status.size = n
  lsize : st.lines.size = n

variable {calls aS aM aBc aRes aSt aQ aLn aT aR}

theorem CInv.congr {n : Nat} {M : Mem} {st st' : C04.MSt} (h : CInv calls aRes aSt aLn n M st)
    (h1 : st'.res = st.res) (h2 : st'.status = st.status) (h3 : st'.lines = st.lines) :
    CInv calls aRes aSt aLn n M st' :=
  ⟨by rw [h1]; exact h.res, by rw [h2]; exact h.status, by rw [h3]; exact h.lines,
   by rw [h1]; exact h.rsize, by rw [h2]; exact h.ssize, by rw [h3]; exact h.lsize⟩

theorem CInv.exec {n : Nat} {M : Mem} {st : C04.MSt} (hd : CDist aM aRes aSt aQ aLn aT aR)
    (h : CInv calls aRes aSt aLn n M st) (c : Call) (r : RStep) :
    (c.arrOf (.own r.dst) ≠ aRes → c.arrOf (.own r.dst) ≠ aSt → c.arrOf (.own r.dst) ≠ aLn →
      CInv calls aRes aSt aLn n (((mkStep c r).compile calls).exec M) st) ∧
    (∀ (i : Nat) (v : Int), c.arrOf (.own r.dst) = aRes → r.doff = (i : Int) → r.op (reads calls c r M) = v →
      CInv calls aRes aSt aLn n (((mkStep c r).compile calls).exec M) { st with res := st.res.setIfInBounds i v }) ∧
    (∀ (i v : Nat), c.arrOf (.own r.dst) = aSt → r.doff = (i : Int) → r.op (reads calls c r M) = (v : Int) →
      CInv calls aRes aSt aLn n (((mkStep c r).compile calls).exec M)
        { st with status := st.status.setIfInBounds i v }) ∧
    (∀ (i : Nat), c.arrOf (.own r.dst) = aLn → r.doff = (i : Int) → r.op (reads calls c r M) = 1 →
      CInv calls aRes aSt aLn n (((mkStep c r).compile calls).exec M)
        { st with lines := st.lines.setIfInBounds i true }) := by
  have h1 : Shows calls aRes (fun j => (j : Int)) n id 0 M st.res := h.res
  have h2 : Shows calls aSt (fun j => (j : Int)) n (fun s : Nat => (s : Int)) 0 M st.status := h.status
  have h3 : Shows calls aLn (fun j => (j : Int)) n (fun b : Bool => if b = true then 1 else 0) false M st.lines := h.lines
  have inj : ∀ i j : Nat, j < n → (j : Int) = (i : Int) → j = i := fun _ _ _ e => Int.ofNat.inj e
  exact ⟨fun e1 e2 e3 => ⟨h1.exec_other c r fun e => absurd e e1, h2.exec_other c r fun e => absurd e e2,
      h3.exec_other c r fun e => absurd e e3, h.rsize, h.ssize, h.lsize⟩,
    fun i v e eo ev => ⟨h1.exec_set h.rsize c r i v e eo (inj i) ev,
      h2.exec_other c r fun e' => absurd (e.symm.trans e') hd.rs, h3.exec_other c r fun e' => absurd (e.symm.trans e') hd.rl,
      by simp [h.rsize], h.ssize, h.lsize⟩,
    fun i v e eo ev => ⟨h1.exec_other c r fun e' => absurd (e'.symm.trans e) hd.rs,
      h2.exec_set h.ssize c r i v e eo (inj i) ev, h3.exec_other c r fun e' => absurd (e.symm.trans e') hd.sl,
      h.rsize, by simp [h.ssize], h.lsize⟩,
    fun i e eo ev => ⟨h1.exec_other c r fun e' => absurd (e'.symm.trans e) hd.rl,
      h2.exec_other c r fun e' => absurd (e'.symm.trans e) hd.sl,
      h3.exec_set h.lsize c r i true e eo (inj i) ev, h.rsize, h.ssize, by simp [h.lsize]⟩⟩

theorem CInv.exec_aux {n : Nat} {M : Mem} {st : C04.MSt} (h : CInv calls aRes aSt aLn n M st) (c : Call)
    (ho : c.outputs = [aRes, aSt, aQ, aLn, aT, aR]) (hd : CDist aM aRes aSt aQ aLn aT aR) (r : RStep)
    (hr : r.dst = 2 ∨ r.dst = 4 ∨ r.dst = 5) :
    CInv calls aRes aSt aLn n (((mkStep c r).compile calls).exec M) st := by
  have hq : c.arrOf (.own r.dst) = aQ ∨ c.arrOf (.own r.dst) = aT ∨ c.arrOf (.own r.dst) = aR := by
    rcases hr with e | e | e <;> simp [Call.arrOf, ho, e]
  rcases hq with e | e | e <;> rw [← e] at hd
  · exact (h.exec hd c r).1 hd.q.1 hd.q.2.1 hd.q.2.2
  · exact (h.exec hd c r).1 hd.t.1 hd.t.2.1 hd.t.2.2
  · exact (h.exec hd c r).1 hd.r.1 hd.r.2.1 hd.r.2.2

theorem CInv.runR_aux {n : Nat} {st : C04.MSt} (c : Call) (ho : c.outputs = [aRes, aSt, aQ, aLn, aT, aR])
    (hd : CDist aM aRes aSt aQ aLn aT aR) (steps : List RStep) (hs : ∀ r ∈ steps, r.dst = 2 ∨ r.dst = 4 ∨ r.dst = 5) :
    ∀ M : Mem, CInv calls aRes aSt aLn n M st → CInv calls aRes aSt aLn n (runR calls c steps M) st := by
  induction steps with
  | nil => intro M h; exact h
  | cons r rs ih =>
    intro M h
    exact ih (fun r' hr' => hs r' (List.mem_cons_of_mem _ hr')) _ (h.exec_aux c ho hd r (hs r (List.mem_cons_self ..)))

/-- the markers are still where the program will read them -/
def MInv (calls : List Call) (aM n : Nat) (vM : C08.View) (markers : Img Int) (M : Mem) : Prop :=
  Shows calls aM (iterAddr vM) n id 0 M markers.data

theorem init_step_sim (hd : CDist aM aRes aSt aQ aLn aT aR) (n : Nat) (vS vM : C08.View) (surf markers : Img Int)
    (M : Mem) (st : C04.MSt) (i : Nat) (hi : i < n)
    (h : CInv calls aRes aSt aLn n M st ∧ MInv calls aM n vM markers M) :
    CInv calls aRes aSt aLn n
        (runR calls (ccall aS aM aBc aRes aSt aQ aLn aT aR) (wsInitLog vS vM markers st i) M)
        (wsInitStep surf markers st i) ∧
      MInv calls aM n vM markers
        (runR calls (ccall aS aM aBc aRes aSt aQ aLn aT aR) (wsInitLog vS vM markers st i) M) := by
  obtain ⟨hc, hm⟩ := h
  let c := ccall aS aM aBc aRes aSt aQ aLn aT aR
  unfold wsInitLog wsInitStep
  rw [runR_cons]
  have hc1 := hc.exec_aux c rfl hd
    ⟨5, 0, [⟨.inp 1, iterAddr vM i⟩], fun vs => vs.headD 0⟩ (.inr (.inr rfl))
  have hm1 := hm.exec_other c ⟨5, 0, [⟨.inp 1, iterAddr vM i⟩], fun vs => vs.headD 0⟩
    fun e => absurd e.symm hd.m.2.2.2.2
  by_cases hz : (markers.data.getD i 0 == 0) = true
  · simp only [hz, if_true, runR_nil]
    exact ⟨hc1, hm1⟩
  · simp only [hz, Bool.false_eq_true, if_false, runR_cons, runR_nil]
    -- the marker is queued, copied into `res`, and the pixel turns grey
    have hc2 := hc1.exec_aux c rfl hd
      ⟨2, (st.idx : Int), [⟨.inp 0, vS.addr (unravel vS.shape i)⟩], fun vs => vs.headD 0⟩ (.inl rfl)
    have hm2 := hm1.exec_other c ⟨2, (st.idx : Int), [⟨.inp 0, vS.addr (unravel vS.shape i)⟩], fun vs => vs.headD 0⟩
      fun e => absurd e.symm hd.m.2.2.1
    have hc3 := (hc2.exec hd c
      ⟨0, (i : Int), [⟨.inp 1, iterAddr vM i⟩], fun vs => vs.headD 0⟩).2.1 i _ rfl rfl (hm2 i hi)
    have hm3 := hm2.exec_other c ⟨0, (i : Int), [⟨.inp 1, iterAddr vM i⟩], fun vs => vs.headD 0⟩
      fun e => absurd e.symm hd.m.1
    exact ⟨((hc3.exec hd c (wrS 1 (i : Int) 1 [])).2.2.1 i 1 rfl rfl rfl).congr rfl rfl rfl,
      hm3.exec_other c (wrS 1 (i : Int) 1 []) fun e => absurd e.symm hd.m.2.1⟩

/-- the inner loop over the neighbour table while pixel `e` is being finalised: `CInv`, and C04's invariant of that loop -/
def VInv (calls : List Call) (aRes aSt aLn n : Nat) (shape : List Nat) (e : C04.QE) (M : Mem) (acc : C04.MSt × Int) : Prop :=
  CInv calls aRes aSt aLn n M acc.1 ∧ C04.VInv shape e acc

theorem visit_sim (hd : CDist aM aRes aSt aQ aLn aT aR) (vS : C08.View) (surf : Img Int) (offs : List (List Int))
    (hoffs : ∀ o ∈ offs, o.length = surf.shape.length) (e : C04.QE) (M : Mem) (acc : C04.MSt × Int) (nb : C04.Nb)
    (hnb : nb ∈ C04.neighbours surf.shape offs)
    (h : VInv calls aRes aSt aLn (shapeSize surf.shape) surf.shape e M acc) :
    VInv calls aRes aSt aLn (shapeSize surf.shape) surf.shape e
      (runR calls (ccall aS aM aBc aRes aSt aQ aLn aT aR) (wsVisitLog vS surf e acc nb) M)
      (C04.modelVisit surf e acc nb) := by
  refine ⟨?_, C04.visit_vinv surf e offs hoffs hnb h.2⟩
  have he := h.2.pos_lt
  obtain ⟨ms, margin⟩ := acc
  have hc := h.1
  let c := ccall aS aM aBc aRes aSt aQ aLn aT aR
  unfold wsVisitLog C04.modelVisit
  simp only
  cases C04.nbCheck surf.shape e.pos margin nb with
  | none => exact hc
  | some pr =>
    simp only [runR_cons]
    generalize ((e.pos : Int) + nb.delta).toNat = npos
    have hc1 := hc.exec_aux c rfl hd (rdS 5 1 (npos : Int)) (.inr (.inr rfl))
    generalize ((mkStep c (rdS 5 1 (npos : Int))).compile calls).exec M = M1 at hc1 ⊢
    by_cases h0 : (ms.status.getD npos 0 == 0) = true
    · -- white: queued, labelled like the popped pixel, grey
      simp only [h0, if_true, runR_cons, runR_nil]
      have hc2 := hc1.exec_aux c rfl hd
        ⟨2, (ms.idx : Int), [⟨.inp 0, vS.atFlat npos⟩], fun vs => vs.headD 0⟩ (.inl rfl)
      have hc3 := (hc2.exec hd c
        ⟨0, (npos : Int), [⟨.own 0, (e.pos : Int)⟩], fun vs => vs.headD 0⟩).2.1 npos _ rfl rfl (hc2.res e.pos he)
      exact ((hc3.exec hd c (wrS 1 (npos : Int) 1 [])).2.2.1 npos 1 rfl rfl rfl).congr rfl rfl rfl
    · simp only [h0, Bool.false_eq_true, if_false]
      by_cases h1 : (ms.status.getD npos 0 == 1) = true
      · simp only [h1, if_true]
        by_cases h2 : (ms.res.getD e.pos 0 != ms.res.getD npos 0) = true
        · -- grey with another label: a line
          simp only [h2, if_true, runR_cons, runR_nil]
          exact (hc1.exec hd c _).2.2.2 npos rfl rfl rfl
        · simp only [h2, Bool.false_eq_true, if_false, runR_cons, runR_nil]
          exact hc1.exec_aux c rfl hd _ (.inr (.inr rfl))
      · simp only [h1, Bool.false_eq_true, if_false, runR_nil]
        exact hc1

theorem run_sim (hd : CDist aM aRes aSt aQ aLn aT aR) (vS : C08.View) (surf : Img Int) (offs : List (List Int))
    (hoffs : ∀ o ∈ offs, o.length = surf.shape.length) :
    ∀ (fuel : Nat) (st : C04.MSt) (M : Mem),
      CInv calls aRes aSt aLn (shapeSize surf.shape) M st → (∃ ss, C04.Rel surf.shape st ss) →
      CInv calls aRes aSt aLn (shapeSize surf.shape)
        (runR calls (ccall aS aM aBc aRes aSt aQ aLn aT aR)
          (wsRunLog vS surf (C04.neighbours surf.shape offs) fuel st) M)
        (C04.modelRun surf (C04.neighbours surf.shape offs) fuel st) := by
  intro fuel
  induction fuel with
  | zero => intro st M hc _; exact hc
  | succ fuel ih =>
    intro st M hc hrel
    obtain ⟨ss, hrel⟩ := hrel
    -- with `modelStep` unfolded, log and model branch on the same `extractMin`
    rw [wsRunLog, C04.modelRun, C04.modelStep]
    cases hx : C04.extractMin C04.QE.key st.queue with
    | none => exact hc
    | some er =>
      obtain ⟨e, rest⟩ := er
      obtain ⟨hmem, rfl⟩ := C04.extractMin_some C04.QE.key st.queue e rest hx
      dsimp only
      simp only [runR_append]
      -- the pop: queue cells and the table are touched, `status[next.position] = black`
      let c := ccall aS aM aBc aRes aSt aQ aLn aT aR
      have hB : CInv calls aRes aSt aLn (shapeSize surf.shape) _
          { st with queue := st.queue.filter fun x => (C04.QE.key x).2 != (C04.QE.key e).2,
                    status := st.status.setIfInBounds e.pos 2 } :=
        ((((CInv.runR_aux c rfl hd (st.queue.map fun q => rdS 5 2 q.idx)
          (allOf_map fun _ => .inr (.inr rfl)) M hc).exec_aux c rfl hd (wrS 2 (e.idx : Int) 0 [])
          (.inl rfl)).exec hd c (wrS 1 (e.pos : Int) 2 [])).2.2.1 e.pos 2 rfl rfl rfl).congr rfl rfl rfl
      have hC := CInv.runR_aux c rfl hd ((List.range (C04.neighbours surf.shape offs).length).map fun (j : Nat) =>
        rdS 5 4 (j : Int)) (allOf_map fun _ => .inr (.inr rfl)) _ hB
      obtain ⟨hD, hrelD, -⟩ := logFold_sim calls c (VInv calls aRes aSt aLn (shapeSize surf.shape) surf.shape e)
        (C04.modelVisit surf e) (wsVisitLog vS surf e) (· ∈ C04.neighbours surf.shape offs)
        (fun M' acc nb hnb hinv => visit_sim hd vS surf offs hoffs e M' acc nb hnb hinv)
        (C04.neighbours surf.shape offs) _ _ (fun _ h => h) ⟨hC, C04.pop_vinv hrel hmem⟩
      exact ih _ _ hD hrelD

theorem cwatershed_runR (hd : CDist aM aRes aSt aQ aLn aT aR) (vS vM vBc : C08.View) (surf markers : Img Int)
    (bc : Array Int) (hms : markers.shape = surf.shape) (hb : vBc.shape.length = surf.shape.length) (M : Mem)
    (hres : ∀ j, j < shapeSize surf.shape → M (L calls aRes (j : Int)) = 0)
    (hln : ∀ j, j < shapeSize surf.shape → M (L calls aLn (j : Int)) = 0)
    (hmk : ∀ i, i < shapeSize surf.shape → M (L calls aM (iterAddr vM i)) = markers.data.getD i 0) :
    CInv calls aRes aSt aLn (shapeSize surf.shape)
      (runR calls (ccall aS aM aBc aRes aSt aQ aLn aT aR) (cwatershedRaw vS vM vBc surf markers bc) M)
      (C04.cwatershedModel surf markers vBc.shape bc) := by
  let c := ccall aS aM aBc aRes aSt aQ aLn aT aR
  let n := shapeSize surf.shape
  let offs := C04.offsets vBc.shape bc
  let st0 : C04.MSt := { queue := [], idx := 0, status := Array.replicate n 0,
                          res := Array.replicate n 0, lines := Array.replicate n false }
  let tbl : List RStep := (List.range (shapeSize vBc.shape)).map (fun (j : Nat) =>
    (⟨4, (j : Int), [⟨.inp 2, iterAddr vBc j⟩], fun vs => vs.headD 0⟩ : RStep))
  let fill : List RStep := (List.range n).map fun (i : Nat) => wrS 1 (i : Int) 0 []
  let M2 := runR calls c fill (runR calls c tbl M)
  have hframe : ∀ (a : Nat) (off : Int), a ≠ aT → a ≠ aSt → M2 (L calls a off) = M (L calls a off) := fun a off h1 h2 =>
    (runR_frame calls c fill _ a off (allOf_map fun _ => h2.symm)).trans
      (runR_frame calls c tbl M a off (allOf_map fun _ => h1.symm))
  have h2 : CInv calls aRes aSt aLn n M2 st0 ∧ MInv calls aM n vM markers M2 := by
    refine ⟨⟨?_, ?_, ?_, by simp [st0], by simp [st0], by simp [st0]⟩, ?_⟩
    · intro j hj
      rw [hframe aRes _ (Ne.symm hd.t.1) hd.rs, hres j hj]
      simp [st0, Array.getD_eq_getD_getElem?, hj]
    · intro j hj
      rw [show st0.status.getD j 0 = 0 by simp [st0, Array.getD_eq_getD_getElem?, hj]]
      exact runR_gather calls c [] (fun (i : Nat) => wrS 1 (i : Int) 0 []) n 1 (fun _ => rfl)
        (fun _ _ _ _ e => Int.ofNat.inj e) _ j hj
    · intro j hj
      rw [hframe aLn _ (Ne.symm hd.t.2.2) (Ne.symm hd.sl), hln j hj]
      simp [st0, Array.getD_eq_getD_getElem?, hj]
    · intro i hi
      rw [hframe aM _ hd.m.2.2.2.1 hd.m.2.1]
      exact hmk i hi
  have h3 := logFold_sim calls c
    (fun M st => CInv calls aRes aSt aLn n M st ∧ MInv calls aM n vM markers M)
    (wsInitStep surf markers) (wsInitLog vS vM markers) (fun i => i < n)
    (fun M' st i hi hinv => init_step_sim hd n vS vM surf markers M' st i hi hinv)
    (List.range n) M2 st0 (fun x hx => List.mem_range.1 hx) h2
  -- `wsInitStep` is C04's `stepM`, `st0` its `initM`
  have hinit : (List.range n).foldl (wsInitStep surf markers) st0 = C04.modelInit surf markers :=
    (C04.modelInit_eq surf markers).symm
  rw [hinit] at h3
  have hoffs : ∀ o ∈ offs, o.length = surf.shape.length := by
    intro o ho
    rw [C04.offsets_length vBc.shape bc o ho, hb]
  have h4 := run_sim (aS := aS) (aBc := aBc) hd vS surf offs hoffs (C04.fuelOf surf.shape)
    (C04.modelInit surf markers) _ h3.1 ⟨_, C04.init_rel surf markers hms⟩
  have hprog : runR calls c (cwatershedRaw vS vM vBc surf markers bc) M =
      runR calls c (wsRunLog vS surf (C04.neighbours surf.shape offs) (C04.fuelOf surf.shape)
        (C04.modelInit surf markers))
        (runR calls c (logFold (wsInitStep surf markers) (wsInitLog vS vM markers) st0 (List.range n)) M2) := by
    simp only [cwatershedRaw, runR_append]
    rfl
  rw [hprog]
  exact h4

end cw

end Mahotas.C12
