/-
C12 (T2, T4) — exception paths: the control skeletons of `Model/C12.lean` composed with the confinement of the access programs (`Proofs/C12Kernels.lean`).
A call whose kernel is left after `k` steps (a C++ exception in idioms (a)/(c), an in-place error in idiom (b)) has
executed the first `k` steps of its access program, `KCall.truncate`; the skeleton of that path has exactly that many
`kernelStep` events, all between the `release` and the exit sequence (`skeleton_shape`). The truncated program is again
a role-level program of the same call, so what is proved for arbitrary role-level programs applies to it, and by
`run_indep_of_call` exchanging one call's program (here: for a prefix) changes nothing outside the arrays it owns.
-/
import Mahotas.Proofs.C12Kernels
namespace Mahotas.C12
open Mahotas

/-- the part of the access program that has run when the kernel is left with outcome `o` -/
def KCall.truncate (kc : KCall) : Outcome → KCall
  | .finish => kc
  | .throwAt k => ⟨kc.call, kc.raw.take k⟩
  | .errorAt k => ⟨kc.call, kc.raw.take k⟩

/-- number of steps executed under outcome `o` by a kernel of `n` steps -/
def Outcome.ran (n : Nat) : Outcome → Nat
  | .finish => n
  | .throwAt k => min k n
  | .errorAt k => min k n

theorem truncate_call (kc : KCall) (o : Outcome) : (kc.truncate o).call = kc.call := by
  cases o <;> rfl

theorem truncate_length (kc : KCall) (o : Outcome) :
    (kc.truncate o).raw.length = o.ran kc.raw.length := by
  cases o <;> simp [KCall.truncate, Outcome.ran]

theorem truncate_raw (kc : KCall) (o : Outcome) :
    (kc.truncate o).raw = kc.raw.take (o.ran kc.raw.length) := by
  cases o with
  | finish => simp [KCall.truncate, Outcome.ran]
  | throwAt k =>
    simp only [KCall.truncate, Outcome.ran]
    rw [List.take_eq_take_min]
  | errorAt k =>
    simp only [KCall.truncate, Outcome.ran]
    rw [List.take_eq_take_min]

/-- the events after the last kernel step: (a)/(c) exception: `throw`, destructor re-acquires, handler sets
the error, `return NULL`; (b) in-place error: `restore()`, `PyErr_*`, `return NULL`; normal completion:
destructor re-acquires, the result is built, `return` -/
def exitSeq : Outcome → List Ev
  | .finish => [.acquire, .interpAccess, .ret]
  | .throwAt _ => [.throw, .acquire, .interpAccess, .ret]
  | .errorAt _ => [.acquire, .interpAccess, .ret]

theorem skeleton_shape (i : Idiom) (n : Nat) (o : Outcome) (hp : Outcome.possible i o = true) :
    skeleton i n false o = [.validate, .release] ++ steps (o.ran n) ++ exitSeq o := by
  cases i <;> cases o <;> simp [Outcome.possible] at hp <;>
    simp [skeleton, gilScope, kernelBody, tryCatchRegion, andThen, Outcome.ran, exitSeq, List.append_assoc]

theorem exitSeq_no_kernelStep (o : Outcome) : Ev.kernelStep ∉ exitSeq o ∧ Ev.release ∉ exitSeq o := by
  cases o <;> simp [exitSeq]

theorem count_steps (k : Nat) : (steps k).count .kernelStep = k := by
  simp [steps]

theorem skeleton_kernelSteps (i : Idiom) (n : Nat) (o : Outcome) (hp : Outcome.possible i o = true) :
    (skeleton i n false o).count .kernelStep = o.ran n := by
  rw [skeleton_shape i n o hp]
  simp only [List.count_append, count_steps]
  cases o <;> simp [exitSeq]

theorem skeleton_kernelStep_pos (i : Idiom) (n : Nat) (o : Outcome) (hp : Outcome.possible i o = true)
    (j : Nat) (h : (skeleton i n false o)[j]? = some .kernelStep) : 2 ≤ j ∧ j < 2 + o.ran n := by
  rw [skeleton_shape i n o hp] at h
  by_cases h2 : j < 2
  · have : j = 0 ∨ j = 1 := by omega
    rcases this with rfl | rfl <;> simp at h
  · refine ⟨by omega, ?_⟩
    by_cases h3 : j < 2 + o.ran n
    · exact h3
    · exfalso
      rw [List.append_assoc] at h
      rw [List.getElem?_append_right (by simp; omega)] at h
      rw [List.getElem?_append_right (by simp [steps]; omega)] at h
      have hm := List.mem_of_getElem? h
      exact (exitSeq_no_kernelStep o).1 hm

theorem set_map_call (kcs : List KCall) (t : Nat) (kc x : KCall) (ht : kcs[t]? = some kc)
    (hx : x.call = kc.call) : (kcs.set t x).map (·.call) = kcs.map (·.call) := by
  apply List.ext_getElem?
  intro i
  simp only [List.getElem?_map, List.getElem?_set]
  by_cases hi : t = i
  · subst hi
    obtain ⟨hlt, hget⟩ := List.getElem?_eq_some_iff.1 ht
    simp [hlt, hx, hget]
  · simp [hi]

theorem compile_set_other (kcs : List KCall) (t u : Nat) (kc x : KCall) (ht : kcs[t]? = some kc)
    (hx : x.call = kc.call) (hu : u ≠ t) : compile (kcs.set t x) u = compile kcs u := by
  unfold compile
  rw [set_map_call kcs t kc x ht hx]
  rw [List.getElem?_set_ne (Ne.symm hu)]

theorem compile_set_self (kcs : List KCall) (t : Nat) (kc x : KCall) (ht : kcs[t]? = some kc)
    (hx : x.call = kc.call) :
    compile (kcs.set t x) t = x.prog.map (KStep.compile (kcs.map (·.call))) := by
  unfold compile
  rw [set_map_call kcs t kc x ht hx]
  have hlt : t < kcs.length := (List.getElem?_eq_some_iff.1 ht).1
  simp [hlt]

theorem compile_truncate (kcs : List KCall) (t : Nat) (kc : KCall) (ht : kcs[t]? = some kc) (o : Outcome) :
    compile (kcs.set t (kc.truncate o)) t = (compile kcs t).take (o.ran kc.raw.length) := by
  rw [compile_set_self kcs t kc _ ht (truncate_call kc o)]
  have h2 : compile kcs t = kc.prog.map (KStep.compile (kcs.map (·.call))) := by
    unfold compile; rw [ht]
  rw [h2]
  simp only [KCall.prog, truncate_call, truncate_raw, List.map_take]

theorem solo_frame (kcs : List KCall) (t : Nat) (kc : KCall) (ht : kcs[t]? = some kc)
    (hne : kc.call.outputs ≠ []) (m : Mem) (l : KLoc) (hl : l.arr ∉ kc.call.outputs) :
    solo (compile kcs) t m (l.toLoc (kcs.map (·.call))) = m (l.toLoc (kcs.map (·.call))) := by
  rw [solo_compile kcs t kc ht]
  exact runR_unowned _ kc.call hne kc.raw m l.arr l.off hl

theorem run_indep_of_call (kcs : List KCall) (hne : ∀ kc ∈ kcs, kc.call.outputs ≠ [])
    (hd : DisjointOutputs (kcs.map (·.call))) (t : Nat) (kc : KCall) (ht : kcs[t]? = some kc) (x x' : KCall)
    (hx : x.call = kc.call) (hx' : x'.call = kc.call) (sched : List Nat) (m : Mem) (l : KLoc)
    (hl : l.arr ∉ kc.call.outputs) :
    (run (compile (kcs.set t x)) sched (init m)).mem (l.toLoc (kcs.map (·.call))) =
      (run (compile (kcs.set t x')) sched (init m)).mem (l.toLoc (kcs.map (·.call))) := by
  have hconf : ∀ y : KCall, y.call = kc.call → Confined (compile (kcs.set t y)) := fun y hy =>
    compile_confined _ (fun z hz => by
      rcases List.mem_or_eq_of_mem_set hz with h | h
      · exact hne z h
      · rw [h, hy]; exact hne kc (List.mem_of_getElem? ht)) (by rw [set_map_call kcs t kc y ht hy]; exact hd)
  refine run_indep_of_thread _ _ (hconf x hx) (hconf x' hx') t (fun u hu =>
    (compile_set_other kcs t u kc x ht hx hu).trans (compile_set_other kcs t u kc x' ht hx' hu).symm) sched m _ fun hr => ?_
  obtain ⟨c, h1, h2⟩ := mem_outputs_of_region _ _ _ hr
  rw [List.getElem?_map, ht] at h1
  cases Option.some.inj h1
  exact hl h2

end Mahotas.C12
