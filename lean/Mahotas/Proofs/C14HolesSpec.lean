/-
The executable fixed-point specification `closeHolesSpec` that the driver prints for `holes` is the complement of
`BorderConn` (symmetric neighbourhoods): every round is sound, `size` rounds reach the fixed point
(`iter_mono_fixed`), and the fixed point is complete.
-/
import Mahotas.Proofs.C14Holes
import Mahotas.Proofs.C14Reg
import Mahotas.Proofs.C14Iter
namespace Mahotas.C14
open Mahotas

section
variable {ref : Img Int} {nb : List (List Int)}

/-- the start of the iteration: background pixels of the border -/
def reach0 (ref : Img Int) : Array Bool :=
  ((allPos ref.shape).map fun p => onBorder ref.shape p && ref.getD p 1 == 0).toArray

/-- what a round flags: what was flagged, and every background pixel with a flagged neighbour -/
theorem flg_reachStep (hn : SymNb ref nb) (a : Array Bool) (q : List Int) (hq : inside ref.shape q = true) :
    flg ref (reachStep ref nb a) q = true ↔ flg ref a q = true ∨ (ref.getD q 1 = 0 ∧
      ∃ k ∈ nb, inside ref.shape (addPos q k) = true ∧ flg ref a (addPos q k) = true) := by
  rw [reachStep, flg_map_allPos ref _ q hq, Bool.or_eq_true, Bool.and_eq_true, beq_iff_eq,
    any_either hn q fun r => a.getD (ravelI ref.shape r) false]
  rfl

theorem flg_reach0 (q : List Int) (hq : inside ref.shape q = true) :
    flg ref (reach0 ref) q = (onBorder ref.shape q && ref.getD q 1 == 0) :=
  flg_map_allPos ref _ q hq

theorem reachStep_size (a : Array Bool) : (reachStep ref nb a).size = shapeSize ref.shape := by
  unfold reachStep; exact size_map_allPos _ _

theorem reachStep_getD (a : Array Bool) (i : Nat) (hi : i < shapeSize ref.shape)
    (h : a.getD i false = true) : (reachStep ref nb a).getD i false = true := by
  unfold reachStep
  rw [getD_map_allPos ref.shape _ _ false hi, C01.ravelI_unravelI ref.shape i hi, h]; rfl

/-- primed: under the name `BorderConn.inside` it would capture `inside` (meant: `Mahotas.inside`) in the statement of
    every later `BorderConn.*` declaration -/
theorem BorderConn.inside' {q : List Int} (h : BorderConn ref nb q) : inside ref.shape q = true := by
  cases h with
  | seed _ hin _ _ => exact hin
  | step _ _ _ _ _ _ hin _ => exact hin

theorem reachStep_sound (hn : SymNb ref nb) (a : Array Bool)
    (h : ∀ q, inside ref.shape q = true → flg ref a q = true → BorderConn ref nb q)
    (q : List Int) (hq : inside ref.shape q = true) (hb : flg ref (reachStep ref nb a) q = true) :
    BorderConn ref nb q := by
  rcases (flg_reachStep hn a q hq).mp hb with hb | ⟨hbg, k, hk, hin, hf⟩
  · exact h q hq hb
  · exact BorderConn.step (addPos q k) q (negPos k) (h _ hin hf) (hn.neg k hk)
      (C01.addPos_negPos q k (hn.len_eq hk hq)).symm hq hbg

def reachFinal (ref : Img Int) (nb : List (List Int)) : Array Bool :=
  iter (reachStep ref nb) ref.size (reach0 ref)

theorem reachFinal_fixed : reachStep ref nb (reachFinal ref nb) = reachFinal ref nb :=
  iter_mono_fixed (reachStep ref nb) (shapeSize ref.shape) reachStep_size reachStep_getD _ (size_map_allPos _ _)

theorem reachFinal_iff (hn : SymNb ref nb) (q : List Int) (hq : inside ref.shape q = true) :
    flg ref (reachFinal ref nb) q = true ↔ BorderConn ref nb q := by
  constructor
  · intro hb
    refine iter_inv _ (fun a => ∀ q, inside ref.shape q = true → flg ref a q = true → BorderConn ref nb q)
      (reachStep_sound hn) _ _ ?_ q hq hb
    intro q' hq' hb'
    rw [flg_reach0 q' hq', Bool.and_eq_true, beq_iff_eq] at hb'
    exact BorderConn.seed q' hq' hb'.1 hb'.2
  · intro hc
    induction hc with
    | seed q hin hbd hbg =>
      refine iter_inv _ (flg ref · q = true) (fun a ha => reachStep_getD a _ (C01.ravelI_lt _ _ hin) ha) _ _ ?_
      rw [flg_reach0 q hin, hbd, hbg]; rfl
    | step p q k hp hk hqe hin hbg ih =>
      have hpin := hp.inside'
      rw [← reachFinal_fixed]
      refine (flg_reachStep hn _ q hin).mpr (Or.inr ⟨hbg, negPos k, hn.neg k hk, ?_⟩)
      rw [hqe, C01.addPos_negPos p k (hn.len_eq hk hpin)]
      exact ⟨hpin, ih hpin⟩

theorem closeHolesSpec_eq (ref : Img Int) (nb : List (List Int)) :
    closeHolesSpec ref nb = (reachFinal ref nb).map (!·) := rfl

theorem closeHolesSpec_iff (hn : SymNb ref nb) (q : List Int) (hq : inside ref.shape q = true) :
    (closeHolesSpec ref nb).getD (ravelI ref.shape q) false = true ↔ ¬ BorderConn ref nb q := by
  have hsz : (reachFinal ref nb).size = shapeSize ref.shape :=
    iter_inv _ (·.size = shapeSize ref.shape) (fun a _ => reachStep_size a) _ _ (size_map_allPos _ _)
  rw [closeHolesSpec_eq]
  show flg ref _ q = true ↔ _
  rw [flg_map_not ref _ hsz q hq, Bool.not_eq_true', ← reachFinal_iff hn q hq, Bool.not_eq_true]

end

end Mahotas.C14
