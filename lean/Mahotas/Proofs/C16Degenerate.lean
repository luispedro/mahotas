/-
C16 — degenerate inputs (one occupied level, all zeros, `ignore_zeros` with no non-zero pixel) for
EVERY arithmetic instance of the kernels.
-/
import Mahotas.Proofs.C16Zeros
namespace Mahotas.C16
open Mahotas

section generic
variable {α : Type} [Add α] [Sub α] [Mul α] [Div α] [LT α] [DecidableLT α]

omit [LT α] [DecidableLT α] in
/-- one occupied level: `lo = hi`, the loop visits no level -/
theorem otsuTrace_single_level (cast : Nat → α) (hist : List Nat) (hne : ∃ v ∈ hist, v ≠ 0)
    (hs : ∀ i j, hOf hist i ≠ 0 → hOf hist j ≠ 0 → i = j) (muB muO : α) :
    otsuTrace cast (hOf hist) (nBOf hist) (nOOf hist) (List.range' 1 (hist.length - 1)) muB muO = [] := by
  have hn := hi_lt_length hist hne
  have e := hs _ _ (loOf_spec hist hne).1 (lastNonzero_spec hist hne).1
  have := otsuTrace_levels cast hist hne 1 muB muO
  rw [show lastNonzero hist - max 1 (loOf hist) = 0 by omega] at this
  exact List.map_eq_nil_iff.1 this

theorem otsuGen_single_level (cast : Nat → α) (hist : List Nat)
    (hs : ∀ i j, hOf hist i ≠ 0 → hOf hist j ≠ 0 → i = j) : otsuGen cast hist = 0 := by
  rw [otsuGen_eq]
  split_ifs with hn hH
  · rfl
  · rfl
  · rw [otsuLoop_eq_pick, otsuTrace_single_level cast hist (hne_of_sumL_drop hH) hs]
    rfl

theorem single_level_hist {img : List Nat} {iz : Bool} {v : Nat}
    (hall : ∀ p ∈ img, p = v ∨ (iz = true ∧ p = 0)) :
    ∀ i j, hOf (histOf img iz) i ≠ 0 → hOf (histOf img iz) j ≠ 0 → i = j := by
  intro i j hi hj
  obtain ⟨mi, ni⟩ := hOf_histOf_ne_zero.1 hi
  obtain ⟨mj, nj⟩ := hOf_histOf_ne_zero.1 hj
  rw [(hall i mi).resolve_right ni, (hall j mj).resolve_right nj]

omit [Sub α] [Mul α] in
theorem rcLoop_const (cast : Nat → α) (cum rcum fm rfm : Nat → Nat) (maxt : Nat)
    (hc : ∀ t, t < maxt → cum t = 0) :
    ∀ (l : List Nat) (res : α), rcLoop cast cum rcum fm rfm maxt l res = res := by
  intro l
  induction l with
  | nil => intro res; simp only [rcLoop]
  | cons t rest ih =>
    intro res
    by_cases hcond : t < maxt ∧ cast t < res
    · have h0 : ¬ (cum t ≠ 0 ∧ rcum (t + 1) ≠ 0) := fun h => h.1 (hc t hcond.1)
      simp only [rcLoop, if_pos hcond, if_neg h0]
      exact ih res
    · simp only [rcLoop, if_neg hcond]

omit [Sub α] [Mul α] in
/-- **rc with one occupied level returns that level**, whatever the arithmetic (in particular whatever
    its `<` says about `cast t < cast v`) -/
theorem rcGen_single_level (cast : Nat → α) (hist : List Nat) (hne : ∃ v ∈ hist, v ≠ 0)
    (hs : ∀ i j, hOf hist i ≠ 0 → hOf hist j ≠ 0 → i = j) :
    rcGen cast hist = cast (lastNonzero hist) := by
  have hhi := (lastNonzero_spec hist hne).1
  have hn := hi_lt_length hist hne
  have hc : ∀ t, t < lastNonzero hist → nBOf hist t = 0 := fun t ht =>
    nB_eq_zero hist (by omega) (fun i hi => by
      by_contra h0
      have := hs _ _ h0 hhi
      omega)
  unfold rcGen
  exact rcLoop_const cast _ _ _ _ _ hc _ _

end generic

end Mahotas.C16
