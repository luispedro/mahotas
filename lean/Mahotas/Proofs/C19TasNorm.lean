/-
C19 — Threshold Adjacency Statistics: the normalisation step `values / float(values.sum())` of `_ctas`
(`Model/C19Tas.lean: normalise`) over any ordered field: entries in `[0,1]`, sum 1, or all zero when nothing is counted.
-/
import Mahotas.Model.C19Tas
import Mahotas.Proofs.C19Haralick
namespace Mahotas.C19Tas

variable {α : Type} [Field α] [LinearOrder α] [IsStrictOrderedRing α]

omit [LinearOrder α] [IsStrictOrderedRing α] in
/-- in a field the guard of `normalise` is redundant (when the total is 0 every count is 0, and `0 / 0 = 0`):
    `normalise` is the list of `C19.normMat` -/
theorem normalise_eq (vals : List ℕ) :
    normalise (Nat.cast : ℕ → α) vals = vals.map fun (v : ℕ) => (v : α) / ((vals.sum : ℕ) : α) := by
  unfold normalise
  split
  · rfl
  · refine List.map_congr_left fun v hv => ?_
    have : v = 0 :=
      Nat.le_zero.1 ((List.single_le_sum (fun _ _ => Nat.zero_le _) v hv).trans (Nat.le_of_not_lt ‹_›))
    rw [this, Nat.cast_zero, zero_div]

omit [LinearOrder α] [IsStrictOrderedRing α] in
theorem normalise_zero (vals : List ℕ) (h : vals.sum = 0) (x : α)
    (hx : x ∈ normalise (Nat.cast : ℕ → α) vals) : x = 0 := by
  rw [normalise_eq, h] at hx
  obtain ⟨v, _, rfl⟩ := List.mem_map.1 hx
  rw [Nat.cast_zero, div_zero]

theorem normalise_mem (vals : List ℕ) (x : α) (hx : x ∈ normalise (Nat.cast : ℕ → α) vals) :
    0 ≤ x ∧ x ≤ 1 := by
  rw [normalise_eq] at hx
  obtain ⟨v, hv, rfl⟩ := List.mem_map.1 hx
  exact C19.count_div_sum_mem vals hv

theorem normalise_sum (vals : List ℕ) (h : 0 < vals.sum) :
    (normalise (Nat.cast : ℕ → α) vals).sum = 1 := by
  rw [normalise_eq]
  exact C19.sum_count_div_sum vals (Nat.pos_iff_ne_zero.1 h)

end Mahotas.C19Tas
