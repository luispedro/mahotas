/-
The kernels only compare pixel values: the models of `locmax`/`locmin`/`regmax`/`regmin`
are invariant under every strictly increasing re-labelling of the values. This is what makes the
harness's embedding of float images into the integer model (`x ↦ sign(x)·bits(|x|)`) sound.
-/
import Mahotas.Proofs.C14Reg
namespace Mahotas.C14
open Mahotas

def mapImg (f : Int → Int) (A : Img Int) : Img Int := { shape := A.shape, data := A.data.map f }

section
variable (f : Int → Int) (hf : ∀ a b : Int, a < b → f a < f b)
include hf

theorem mono_lt_iff (a b : Int) : f a < f b ↔ a < b := by
  constructor
  · intro h
    rcases Int.lt_trichotomy a b with h1 | h1 | h1
    · exact h1
    · subst h1; omega
    · have := hf b a h1; omega
  · exact hf a b

theorem beats_map (isMin : Bool) (a b : Int) : beats isMin (f a) (f b) = beats isMin a b := by
  unfold beats
  simp only [gt_iff_lt, mono_lt_iff f hf]

theorem weakBeats_map (isMin : Bool) (a b : Int) : weakBeats isMin (f a) (f b) = weakBeats isMin a b := by
  rw [weakBeats_eq, weakBeats_eq, beats_map f hf]

end

theorem getD_mapImg (f : Int → Int) (A : Img Int) (hwf : A.data.size = shapeSize A.shape) (p : List Int)
    (hp : inside A.shape p = true) : (mapImg f A).getD p 0 = f (A.getD p 0) := by
  have hlt : ravelI A.shape p < A.data.size := by rw [hwf]; exact C01.ravelI_lt _ _ hp
  unfold Img.getD mapImg
  simp only [hp, if_true]
  simp [Array.getD_eq_getD_getElem?, hlt]

section
variable (f : Int → Int) (hf : ∀ a b : Int, a < b → f a < f b) (isMin : Bool) (A : Img Int)
  (hwf : A.data.size = shapeSize A.shape) (nb : List (List Int))
include hf hwf

theorem locAt_mapImg (hlen : ∀ k ∈ nb, k.length = A.shape.length) (p : List Int)
    (hp : inside A.shape p = true) : locAt isMin (mapImg f A) nb p = locAt isMin A nb p := by
  have hs := C01.inside_dims_pos A.shape p hp
  unfold locAt
  apply all_congr_mem
  intro k hk
  obtain ⟨k', _, hc, hi⟩ := C01.clamp_between A.shape p k hp (by rw [hlen k hk, C01.inside_length hp])
  rw [C01.readNearest_eq (mapImg f A) _ hs, C01.readNearest_eq A _ hs]
  show (!beats isMin ((mapImg f A).getD (clampPos A.shape (addPos p k)) 0) ((mapImg f A).getD p 0)) = _
  rw [hc, getD_mapImg f A hwf _ hi, getD_mapImg f A hwf _ hp, beats_map f hf]

theorem locModel_mapImg (hlen : ∀ k ∈ nb, k.length = A.shape.length) :
    locModel isMin (mapImg f A) nb = locModel isMin A nb :=
  congrArg List.toArray (List.map_congr_left fun p hp =>
    locAt_mapImg f hf isMin A hwf nb hlen p ((C01.mem_allPos A.shape p).mp hp))

theorem hasFakeWitness_mapImg (m : Array Bool) (p : List Int) (hp : inside A.shape p = true) :
    hasFakeWitness isMin (mapImg f A) nb m p = hasFakeWitness isMin A nb m p := by
  unfold hasFakeWitness
  apply List.any_congr rfl
  intro k
  show (inside A.shape (addPos p k) && !m.getD (ravelI A.shape (addPos p k)) false &&
      weakBeats isMin ((mapImg f A).getD (addPos p k) 0) ((mapImg f A).getD p 0)) = _
  by_cases hin : inside A.shape (addPos p k) = true
  · rw [getD_mapImg f A hwf _ hin, getD_mapImg f A hwf _ hp, weakBeats_map f hf]
  · have : inside A.shape (addPos p k) = false := by simpa using hin
    simp [this]

theorem removeFake_mapImg (marks : Array Bool) :
    removeFake isMin (mapImg f A) nb marks = removeFake isMin A nb marks := by
  refine foldl_congr_mem (allPos A.shape) (regBody isMin (mapImg f A) nb) (regBody isMin A nb) (fun m p hp => ?_) marks
  unfold regBody
  rw [hasFakeWitness_mapImg f hf isMin A hwf nb m p ((C01.mem_allPos A.shape p).mp hp)]
  rfl

theorem regModel_mapImg (hlen : ∀ k ∈ nb, k.length = A.shape.length) :
    regModel isMin (mapImg f A) nb = regModel isMin A nb := by
  unfold regModel
  rw [locModel_mapImg f hf isMin A hwf nb hlen, removeFake_mapImg f hf isMin A hwf nb]

end

end Mahotas.C14
