/-
C16 — Otsu in rounded arithmetic.

`otsuLoop`/`otsuGen` are generic in the arithmetic.  Here they are instantiated with the
rounded-rational arithmetic `Rd rnd` of `Proofs/C16Rd.lean` (`a ⊕ b = rnd (a + b)` …, any `rnd`
satisfying the `Rounding` interface, binary64 round-to-nearest `rne53` in particular), and the values
`σ̂(T)` computed by the loop are compared with the exact between-class variance `σ(T)`: every entry of
the trace (`otsuTrace` of `Proofs/C16Otsu.lean`) is within an explicit bound of `σ(T)`, hence by the
decision lemma `otsuPick_near_optimal` the returned `T` has `σ(T) ≥ max σ − 2·bound`.
-/
import Mahotas.Proofs.C16Otsu
import Mahotas.Proofs.C16Rd
namespace Mahotas.C16
open Mahotas Mahotas.C05

section numeric
variable {rnd : ℚ → ℚ} (hr : Rounding rnd)
include hr

/-- **one update of a running mean**, as the loop body computes it: `m' = ((m ⊗ a) ⊕ w) ⊘ b` with counts `a`, `b` that
    are converted exactly, where the class sums are `s' = s + w`, both at most `F`: if `m·a` is within `E` of `s` then
    `m'·b` is within `g(g(g(E)))` of `s'`. -/
theorem chain_step (m w E : ℚ) (a b s s' F : ℕ) (ha : a ≤ 2 ^ 53) (hb : b ≤ 2 ^ 53) (hb0 : b ≠ 0) (hsF : s ≤ F)
    (hs'F : s' ≤ F) (hss : (s' : ℚ) = s + w) (hE : |m * (a : ℚ) - (s : ℚ)| ≤ E) :
    |rnd (rnd (rnd (m * rnd (a : ℚ)) + w) / rnd (b : ℚ)) * (b : ℚ) - (s' : ℚ)| ≤
      gstep F (gstep F (gstep F E)) := by
  have e1 := rnd_gstep hr _ _ F E (Nat.cast_nonneg s) (Nat.cast_le.2 hsF) hE
  rw [← add_sub_add_right_eq_sub _ _ w, ← hss] at e1
  rw [rnd_nat hr a ha, rnd_nat hr b hb]
  exact rnd_div_mul hr _ _ _ F _ (Nat.cast_pos.2 (Nat.pos_of_ne_zero hb0)) (Nat.cast_nonneg s') (Nat.cast_le.2 hs'F)
    (rnd_gstep hr _ _ F _ (Nat.cast_nonneg s') (Nat.cast_le.2 hs'F) e1)

/-- a weighted square computed from an approximate base: if `d̂` is within `η ≤ H` of `d`, `|d| ≤ Δ`,
    `0 ≤ A ≤ W` and `A·η ≤ G`, then `(A ⊗ d̂) ⊗ d̂` is within `G(2Δ + H)` (the base) plus
    `(2u + u²)·W(Δ + H)²` (the two products) of `A·d²`. -/
theorem sq_err (A W dh d η H Δ G : ℚ) (hA : 0 ≤ A) (hAW : A ≤ W) (hη : |dh - d| ≤ η) (hH : η ≤ H)
    (hd : |d| ≤ Δ) (hG : A * η ≤ G) :
    |rnd (rnd (A * dh) * dh) - A * d * d| ≤
      G * (2 * Δ + H) + (2 * u53 + u53 * u53) * (W * ((Δ + H) * (Δ + H))) := by
  have hu := u53_pos
  have hdh : |dh| ≤ Δ + H := by
    have := abs_sub_abs_le_abs_sub dh d
    linarith
  have hsum : |dh + d| ≤ 2 * Δ + H := by
    have := abs_add_le dh d
    linarith
  have p1 : |A * dh * dh - A * d * d| ≤ G * (2 * Δ + H) := by
    have e : A * dh * dh - A * d * d = A * (dh - d) * (dh + d) := by ring
    rw [e, abs_mul, abs_mul, abs_of_nonneg hA]
    exact mul_le_mul ((mul_le_mul_of_nonneg_left hη hA).trans hG) hsum (abs_nonneg _)
      ((mul_nonneg hA ((abs_nonneg _).trans hη)).trans hG)
  have p2 : |rnd (rnd (A * dh) * dh) - A * dh * dh| ≤
      (2 * u53 + u53 * u53) * (W * ((Δ + H) * (Δ + H))) := by
    refine (rnd_mul_rnd hr _ _).trans (mul_le_mul_of_nonneg_left ?_ (by positivity))
    rw [mul_assoc, abs_mul, abs_of_nonneg hA, abs_mul]
    exact mul_le_mul hAW (mul_le_mul hdh hdh (abs_nonneg _) ((abs_nonneg _).trans hdh))
      (by positivity) (hA.trans hAW)
  have := abs_sub_le (rnd (rnd (A * dh) * dh)) (A * dh * dh) (A * d * d)
  linarith

/-- **the rounded `sigma_between`**: with the two means known through `|mB·a − sB| ≤ E`,
    `|mO·b − sO| ≤ E` (`a, b ≥ 1` the class counts, `a + b = N`, `a·b ≤ W`, the product `a·b` exact),
    and the exact means at most `Δ` apart, the value `((a·b) ⊗ d̂) ⊗ d̂`, `d̂ = mB ⊖ mO`, is within
    an explicit bound of `a·b·(sB/a − sO/b)²`. -/
theorem sigma_err (mB mO a b sB sO N W Δ E : ℚ) (ha : 1 ≤ a) (hb : 1 ≤ b) (hN : a + b = N)
    (hW : a * b ≤ W)
    (hB : |mB * a - sB| ≤ E) (hO : |mO * b - sO| ≤ E) (hΔ : |sB / a - sO / b| ≤ Δ) :
    |rnd (rnd (a * b * rnd (mB - mO)) * rnd (mB - mO)) - a * b * (sB / a - sO / b) * (sB / a - sO / b)|
      ≤ sigBound N W Δ E := by
  have hu := u53_pos
  have hE0 : 0 ≤ E := (abs_nonneg _).trans hB
  have ha0 : 0 < a := by linarith
  have hb0 : 0 < b := by linarith
  have mean : ∀ m c s : ℚ, 0 < c → |m * c - s| ≤ E → |m - s / c| ≤ E / c := fun m c s hc h => by
    rw [← mul_div_cancel_right₀ m hc.ne', ← sub_div, abs_div, abs_of_pos hc]
    exact div_le_div_of_nonneg_right h hc.le
  have xe : |(mB - mO) - (sB / a - sO / b)| ≤ E / a + E / b := by
    rw [sub_sub_sub_comm]
    exact (abs_sub _ _).trans (add_le_add (mean _ _ _ ha0 hB) (mean _ _ _ hb0 hO))
  -- `η`, the accuracy of `d̂ = rnd (mB − mO)` given by `rnd_err`, against `etaMax` and weighted by `a·b`
  have hη : (1 + u53) * (E / a + E / b) + u53 * |sB / a - sO / b| ≤ etaMax Δ E := by
    unfold etaMax
    have := div_le_self hE0 ha
    have := div_le_self hE0 hb
    gcongr
    linarith
  have hG : a * b * ((1 + u53) * (E / a + E / b) + u53 * |sB / a - sO / b|) ≤
      (1 + u53) * (E * N) + u53 * (W * Δ) := by
    have e : a * b * (E / a + E / b) = E * N := by rw [← hN]; field_simp; ring
    rw [mul_add, mul_left_comm, e, mul_left_comm (a * b)]
    have := mul_le_mul hW hΔ (abs_nonneg _) ((mul_pos ha0 hb0).le.trans hW)
    gcongr
  exact sq_err hr _ _ _ _ _ _ _ _ (mul_pos ha0 hb0).le hW (rnd_err hr _ _ _ xe) hη hΔ hG

end numeric

/-- `sigma_err` at level `T` of a histogram with both classes occupied, for the value as the loop body computes it
    from the two means: `N` pixels, `W = N²`, and `N² ≤ 2^53` makes the two counts and their product exact -/
theorem sigma_err_at {rnd : ℚ → ℚ} (hr : Rounding rnd) (hist : List Nat) {T : Nat} (hT : T < hist.length)
    (hNN : nBOf hist (hist.length - 1) * nBOf hist (hist.length - 1) ≤ 2 ^ 53)
    (h1 : nBOf hist T ≠ 0) (h2 : nOOf hist T ≠ 0) (mB mO Δ E : ℚ)
    (hB : |mB * (nBOf hist T : ℚ) - (sBOf hist T : ℚ)| ≤ E)
    (hO : |mO * (nOOf hist T : ℚ) - (sOOf hist T : ℚ)| ≤ E) (hΔ : |muBOf hist T - muOOf hist T| ≤ Δ) :
    |rnd (rnd (rnd (rnd (nBOf hist T : ℚ) * rnd (nOOf hist T : ℚ)) * rnd (mB - mO)) * rnd (mB - mO)) -
        otsuSigma hist T| ≤
      sigBound (nBOf hist (hist.length - 1) : ℚ)
        ((nBOf hist (hist.length - 1) : ℚ) * (nBOf hist (hist.length - 1) : ℚ)) Δ E := by
  have hN53 := (Nat.le_mul_self _).trans hNN
  have hWn := Nat.mul_le_mul (nB_le_total hist hT) (nO_le_total hist T)
  have pB : (1 : ℚ) ≤ (nBOf hist T : ℚ) := by exact_mod_cast Nat.pos_of_ne_zero h1
  have pO : (1 : ℚ) ≤ (nOOf hist T : ℚ) := by exact_mod_cast Nat.pos_of_ne_zero h2
  have hab : (nBOf hist T : ℚ) + (nOOf hist T : ℚ) = (nBOf hist (hist.length - 1) : ℚ) := by
    exact_mod_cast nB_add_nO hist hT
  have hW : (nBOf hist T : ℚ) * (nOOf hist T : ℚ) ≤
      (nBOf hist (hist.length - 1) : ℚ) * (nBOf hist (hist.length - 1) : ℚ) := by
    exact_mod_cast hWn
  rw [otsuSigma_eq h1 h2, rnd_nat hr _ ((nB_le_total hist hT).trans hN53),
    rnd_nat hr _ ((nO_le_total hist T).trans hN53), ← Nat.cast_mul, rnd_nat hr _ (hWn.trans hNN), Nat.cast_mul]
  exact sigma_err hr _ _ _ _ _ _ _ _ Δ E pB pO hab hW hB hO hΔ

/-- three roundings per update of a running mean -/
def g3 (F E : ℚ) : ℚ := gstep F (gstep F (gstep F E))

section loop
variable {rnd : ℚ → ℚ}

/-- **Loop invariant in rounded arithmetic.** `E t` bounds `|m̂_B·n_B − s_B|` and `|m̂_O·n_O − s_O|`
    after level `t`; each proper step costs three roundings (`g3`).  Every value `σ̂(T)` in the trace is
    within `sigBound N N² Δ Emax` of the exact `σ(T)`, `N` the number of pixels. -/
theorem otsuTrace_rd (hr : Rounding rnd) (hist : List Nat)
    (hNN : nBOf hist (hist.length - 1) * nBOf hist (hist.length - 1) ≤ 2 ^ 53)
    (hFF : sBOf hist (hist.length - 1) ≤ 2 ^ 53) (Δ Emax : ℚ) (E : ℕ → ℚ)
    (hEmono : ∀ t, E t ≤ E (t + 1)) (hEmax : ∀ t, t < hist.length → E t ≤ Emax)
    (hEstep : ∀ T, 1 ≤ T → T < hist.length → nBOf hist T ≠ 0 → nOOf hist T ≠ 0 →
      g3 (sBOf hist (hist.length - 1) : ℚ) (E (T - 1)) ≤ E T)
    (hΔ : ∀ T, T < hist.length → nBOf hist T ≠ 0 → nOOf hist T ≠ 0 → |muBOf hist T - muOOf hist T| ≤ Δ)
    (muB muO : ℚ) (hB : |muB * (nBOf hist 0 : ℚ) - (sBOf hist 0 : ℚ)| ≤ E 0)
    (hO : |muO * (nOOf hist 0 : ℚ) - (sOOf hist 0 : ℚ)| ≤ E 0) :
    ∀ p ∈ otsuTrace (α := Rd rnd) (rdCast rnd) (hOf hist) (nBOf hist) (nOOf hist)
        (List.range' 1 (hist.length - 1)) muB muO,
      |Rd.val rnd p.2 - otsuSigma hist p.1| ≤ sigBound (nBOf hist (hist.length - 1) : ℚ)
        ((nBOf hist (hist.length - 1) : ℚ) * (nBOf hist (hist.length - 1) : ℚ)) Δ Emax := by
  refine otsuTrace_induction (α := Rd rnd) (rdCast rnd) hist
    (fun t muB muO => |Rd.val rnd muB * (nBOf hist t : ℚ) - (sBOf hist t : ℚ)| ≤ E t ∧
      |Rd.val rnd muO * (nOOf hist t : ℚ) - (sOOf hist t : ℚ)| ≤ E t) _ ?_ ?_ 0 muB muO ⟨hB, hO⟩
  · -- continue: no pixel up to this level, the sums stay as they are
    intro t muB muO hTn h1 ⟨hmuB, hmuO⟩
    obtain ⟨h0, hs0, hs1, hO0, hS⟩ := empty_lower hist hTn h1
    rw [h0, hs0] at hmuB
    rw [h1, hs1, hO0, hS]
    exact ⟨hmuB.trans (hEmono t), hmuO.trans (hEmono t)⟩
  · -- a proper step; every count converted is exact
    intro t muB muO rest hTn h1 h2 ⟨hmuB, hmuO⟩
    have hN53 := (Nat.le_mul_self _).trans hNN
    have hsF := sB_le_total hist hTn
    have rs := sB_succ hist t hTn
    have cw := rnd_nat hr ((t + 1) * hOf hist (t + 1)) (by omega)
    have hstep := hEstep (t + 1) (Nat.le_add_left 1 t) hTn h1 h2
    rw [Nat.add_sub_cancel] at hstep
    have hB := (chain_step hr muB (rnd (((t + 1) * hOf hist (t + 1) : ℕ) : ℚ)) _ (nBOf hist t) _ _ _ _
      ((nB_le_total hist (Nat.lt_of_succ_lt hTn)).trans hN53) ((nB_le_total hist hTn).trans hN53) h1
      (sB_le_total hist (Nat.lt_of_succ_lt hTn)) hsF (by rw [cw, rs, Nat.cast_add]) hmuB).trans hstep
    have hsub : (sOOf hist (t + 1) : ℚ) = (sOOf hist t : ℚ) + -rnd (((t + 1) * hOf hist (t + 1) : ℕ) : ℚ) := by
      rw [cw, sO_succ hist t hTn, Nat.cast_add, add_neg_cancel_comm]
    have hO := (chain_step hr muO _ _ (nOOf hist t) _ _ _ (sBOf hist (hist.length - 1))
      ((nO_le_total hist t).trans hN53) ((nO_le_total hist (t + 1)).trans hN53) h2
      (sO_le_total hist t) (sO_le_total hist (t + 1)) hsub hmuO).trans hstep
    rw [← sub_eq_add_neg] at hO
    have hle := hEmax _ hTn
    -- `hB`, `hO` speak of the terms the loop body computes at `Rd rnd` (its instances unfolded): they fix the new entry
    exact ⟨_, _, _, by simp only [otsuTrace, if_neg h1, if_neg h2]; rfl,
      sigma_err_at hr hist hTn hNN h1 h2 _ _ Δ Emax (hB.trans hle) (hO.trans hle) (hΔ _ hTn h1 h2), hB, hO⟩

end loop

/-- in units of `u·F` one rounding turns `c` into `(1+u)c + 1` -/
theorem gstep_scale (F c : ℚ) : gstep F (u53 * F * c) = u53 * F * ((1 + u53) * c + 1) := by
  unfold gstep; ring

/-- three roundings turn `u·F·c` into at most `u·F·(c+4)` as long as `c·u ≤ 1/8` -/
theorem g3_step (F c : ℚ) (hF : 0 ≤ F) (hcu : c * u53 ≤ 1 / 8) :
    g3 F (u53 * F * c) ≤ u53 * F * (c + 4) := by
  unfold g3
  rw [gstep_scale, gstep_scale, gstep_scale]
  refine mul_le_mul_of_nonneg_left ?_ (mul_nonneg u53_pos.le hF)
  unfold u53 at hcu ⊢
  linarith

theorem sigBound_nonneg {N W Δ E : ℚ} (hN : 0 ≤ N) (hW : 0 ≤ W) (hΔ : 0 ≤ Δ) (hE : 0 ≤ E) :
    0 ≤ sigBound N W Δ E := by
  have := u53_pos
  unfold sigBound etaMax; positivity

theorem otsuErrBound_nonneg (N Fn lo hi : ℕ) : 0 ≤ otsuErrBound N Fn lo hi := by
  have := u53_pos
  unfold otsuErrBound
  exact sigBound_nonneg (by positivity) (by positivity) (by positivity) (by positivity)

/-- the accuracy `u·F·(1 + 4c)` of the two running means after `c` proper steps: one rounding for the
    initial upper mean, three per step (`g3_step`) -/
def otsuBudget (F : ℚ) (c : ℕ) : ℚ := u53 * F * (1 + 4 * (c : ℚ))

theorem otsuBudget_mono {F : ℚ} (hF : 0 ≤ F) {c c' : ℕ} (h : c ≤ c') :
    otsuBudget F c ≤ otsuBudget F c' := by
  have := u53_pos
  have : (c : ℚ) ≤ (c' : ℚ) := Nat.cast_le.2 h
  unfold otsuBudget
  gcongr

/-- one more proper step, as long as `g3_step` applies: `(1 + 4c)·u ≤ 1/8` -/
theorem otsuBudget_succ {F : ℚ} (hF : 0 ≤ F) {c : ℕ} (hc : 8 * (1 + 4 * c) ≤ 2 ^ 53) :
    g3 F (otsuBudget F c) ≤ otsuBudget F (c + 1) := by
  have hcu : (1 + 4 * (c : ℚ)) * u53 ≤ 1 / 8 := by
    have : (8 * (1 + 4 * (c : ℚ))) ≤ 2 ^ 53 := by exact_mod_cast hc
    unfold u53
    rw [mul_one_div, div_le_iff₀ (by positivity)]
    linarith
  refine (g3_step F _ hF hcu).trans (le_of_eq ?_)
  unfold otsuBudget
  push_cast
  ring

/-- **Otsu in rounded arithmetic is nearly optimal.**  For every `Rounding` (binary64
    round-to-nearest in particular) the threshold returned by the model run in rounded arithmetic has an
    exact between-class variance within `2·otsuErrBound` of the exact maximum.  Size assumptions:
    at most `2^32` levels (`otsuBudget_succ` asks `8·(1 + 4c) ≤ 2^53` of the number `c` of steps taken),
    `N² ≤ 2^53` pixels squared (`N < 2^26.5`), first moment `≤ 2^53`. -/
theorem otsuGen_rd_near_optimal {rnd : ℚ → ℚ} (hr : Rounding rnd) (hist : List Nat)
    (hlen : hist.length ≤ 2 ^ 32)
    (hNN : nBOf hist (hist.length - 1) * nBOf hist (hist.length - 1) ≤ 2 ^ 53)
    (hFF : sBOf hist (hist.length - 1) ≤ 2 ^ 53) :
    ∀ T, T < hist.length →
      otsuSigma hist T - 2 * otsuErrBound (nBOf hist (hist.length - 1)) (sBOf hist (hist.length - 1))
        (loOf hist) (lastNonzero hist) ≤ otsuSigma hist (otsuGen (α := Rd rnd) (rdCast rnd) hist) := by
  intro T hT
  have hBnn := otsuErrBound_nonneg (nBOf hist (hist.length - 1)) (sBOf hist (hist.length - 1))
    (loOf hist) (lastNonzero hist)
  by_cases hd : hist.length ≤ 1 ∨ sumL (hist.drop 1) = 0
  · have := (otsuGen_first_argmax hist).2.1 T hT
    rw [otsuGen_of_degenerate _ hd] at this ⊢
    linarith
  · obtain ⟨hn, hH⟩ := not_or.1 hd
    have hn2 : 2 ≤ hist.length := Nat.lt_of_not_le hn
    have hn0 : 0 < hist.length := Nat.zero_lt_of_lt hn2
    have hne := hne_of_sumL_drop hH
    rw [otsuGen_eq, if_neg hn, if_neg hH, sumL_drop hist hn2, sumL_weighted, otsuLoop_eq_pick]
    rw [sumL_drop hist hn2] at hH
    have hF0 : (0 : ℚ) ≤ (sBOf hist (hist.length - 1) : ℚ) := Nat.cast_nonneg _
    -- the error budget: the steps taken up to level `t` are those of `[lo, hi)`
    let E : ℕ → ℚ := fun t => otsuBudget (sBOf hist (hist.length - 1))
      (min (t + 1) (lastNonzero hist) - loOf hist)
    have hEmax : ∀ t, t < hist.length →
        E t ≤ otsuBudget (sBOf hist (hist.length - 1)) (lastNonzero hist - loOf hist) :=
      fun t _ => otsuBudget_mono hF0 (Nat.sub_le_sub_right (Nat.min_le_right _ _) _)
    have hEstep : ∀ T, 1 ≤ T → T < hist.length → nBOf hist T ≠ 0 → nOOf hist T ≠ 0 →
        g3 (sBOf hist (hist.length - 1) : ℚ) (E (T - 1)) ≤ E T := by
      intro T h1T hTn h1 h2
      obtain ⟨r1, r2⟩ := (occupied_iff hist hne hTn).1 ⟨h1, h2⟩
      show g3 _ (otsuBudget _ (min (T - 1 + 1) _ - _)) ≤ otsuBudget _ (min (T + 1) _ - _)
      rw [Nat.sub_add_cancel h1T, Nat.min_eq_left r2.le, Nat.min_eq_left r2, Nat.succ_sub r1]
      exact otsuBudget_succ hF0 (by omega)
    -- the two initial means, as the function computes them: `double(0)` and `double(Fn) ⊘ double(n_O(0))`
    have z : rnd (0 : ℚ) = 0 := by simpa using rnd_nat hr 0 (Nat.zero_le _)
    have hE0 : 0 ≤ E 0 := mul_nonneg (mul_nonneg u53_pos.le hF0) (by positivity)
    have hmuB : |rnd ((0 : ℕ) : ℚ) * (nBOf hist 0 : ℚ) - (sBOf hist 0 : ℚ)| ≤ E 0 := by
      rw [sB_zero, Nat.cast_zero, z, zero_mul, sub_zero, abs_zero]; exact hE0
    have hmuO : |rnd (rnd (sBOf hist (hist.length - 1) : ℚ) / rnd (nOOf hist 0 : ℚ)) * (nOOf hist 0 : ℚ) -
        (sOOf hist 0 : ℚ)| ≤ E 0 := by
      rw [sO_zero, rnd_nat hr _ hFF,
        rnd_nat hr _ ((nO_le_total hist 0).trans ((Nat.le_mul_self _).trans hNN))]
      refine (rnd_div_mul hr _ _ _ _ 0 (Nat.cast_pos.2 (Nat.pos_of_ne_zero hH)) hF0 le_rfl
        (by rw [sub_self, abs_zero])).trans ((le_of_eq ?_).trans (otsuBudget_mono hF0 (Nat.zero_le _)))
      unfold gstep otsuBudget
      push_cast
      ring
    have hle := hEmax 0 hn0
    have htrace := otsuTrace_rd hr hist hNN hFF _ _ E
      (fun t => otsuBudget_mono hF0 (Nat.sub_le_sub_right (min_le_min_right _ (Nat.le_succ _)) _))
      hEmax hEstep (fun _ => means_apart hist hne) _ _ hmuB hmuO
    -- the bound of `htrace`, `sigBound N N² (hi − lo) (otsuBudget Fn (hi − lo))`, is `otsuErrBound N Fn lo hi` unfolded
    refine otsuPick_near_optimal (α := Rd rnd) (Rd.val rnd) (Rd.lt_iff rnd) (otsuSigma hist) _ hist.length _ _
      (List.forall_mem_cons.2 ⟨?_, htrace⟩) (otsuSigma_nonneg hist) (otsuTrace_cover _ hist _ _ _) T hT
    simp only [Rd.val_mul, Rd.val_sub, Rd.val_div, Rd.val_cast]
    by_cases h1 : nBOf hist 0 = 0
    · rw [otsuSigma_of_empty (Or.inl h1), h1, Nat.cast_zero, z, zero_mul, z, zero_mul, z, zero_mul, z, sub_zero,
        abs_zero]
      exact hBnn
    · exact sigma_err_at hr hist hn0 hNN h1 hH _ _ _ _ (hmuB.trans hle) (hmuO.trans hle) (means_apart hist hne hn0 h1 hH)

theorem otsuMargin_eq (hist : List Nat) : otsuMargin hist =
    2 * otsuErrBound (nBOf hist (hist.length - 1)) (sBOf hist (hist.length - 1))
      (loOf hist) (lastNonzero hist) := rfl

/-- **The guarded comparison of the check is sound.**  `smax − sgot ∈ [0, otsuMargin hist]` whenever
    `got` is the threshold computed in rounded arithmetic. -/
theorem otsu_margin_sound {rnd : ℚ → ℚ} (hr : Rounding rnd) (hist : List Nat)
    (hn : 0 < hist.length) (hlen : hist.length ≤ 2 ^ 32)
    (hNN : nBOf hist (hist.length - 1) * nBOf hist (hist.length - 1) ≤ 2 ^ 53)
    (hFF : sBOf hist (hist.length - 1) ≤ 2 ^ 53) :
    otsuGen (α := Rd rnd) (rdCast rnd) hist < hist.length ∧
    0 ≤ listMax (sigmaAll hist) - (sigmaAll hist).getD (otsuGen (α := Rd rnd) (rdCast rnd) hist) (-1) ∧
    listMax (sigmaAll hist) - (sigmaAll hist).getD (otsuGen (α := Rd rnd) (rdCast rnd) hist) (-1) ≤
      otsuMargin hist := by
  have hlt := otsuGen_lt_length (α := Rd rnd) (rdCast rnd) hist hn
  rw [sigmaAll_getD hist hlt, listMax_sigmaAll hist hn, otsuMargin_eq]
  refine ⟨hlt, ?_, ?_⟩
  · have := (otsuGen_first_argmax hist).2.1 _ hlt
    linarith
  · have := otsuGen_rd_near_optimal hr hist hlen hNN hFF _ (otsuGen_lt_length ratCast hist hn)
    linarith

end Mahotas.C16
