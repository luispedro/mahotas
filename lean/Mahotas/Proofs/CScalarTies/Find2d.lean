/- Tie of the generated `find2d_marks` (the whole kernel `find2d` of `_convolve.cpp`: four nested loops, the compound loop
conditions `y < N0 && y + Nt0 <= N0`, `goto next_pos`, the store) to `C07.findMarks`. -/
import Mahotas.Generated.CScalar
import Mahotas.Model.C07
import Mahotas.Proofs.CScalarTies.Loops
namespace Mahotas
open Generated.C

/-- the generated kernel in terms of the loop forms of `Loops.lean` (definitional: structure eta for the state tuples, `Int.toNat ↑n = n`) -/
theorem find2d_marks_nf (ne : Int → Int → Int → Int → Bool) (N0 N1 Nt0 Nt1 : Nat) :
    find2d_marks ne [(N0 : Int), (N1 : Int)] [(Nt0 : Int), (Nt1 : Int)] =
      loopAlive N0 (fun y => (y : Int) + (Nt0 : Int) ≤ (N0 : Int)) (fun acc y =>
        loopAlive N1 (fun x => (x : Int) + (Nt1 : Int) ≤ (N1 : Int)) (fun acc x =>
          if ¬ ((List.range Nt0).foldl (fun b (sy : Nat) => if ¬ (b = true) then
                  (List.range Nt1).foldl (fun b (sx : Nat) =>
                    if ¬ (b = true) then (if ne ((y : Int) + (sy : Int)) ((x : Int) + (sx : Int)) (sy : Int) (sx : Int) = true then true else b) else b) b
                else b) false = true)
          then acc ++ [((y : Int), (x : Int))] else acc) acc) [] := by
  rfl

/-- `find2d` marks, in loop order, the corners `(y, x)` of the longest prefixes `y + Nt0 ≤ N0`, `x + Nt1 ≤ N1` at which no
    element comparison fails -/
theorem find2d_marks_eq (ne : Int → Int → Int → Int → Bool) (N0 N1 Nt0 Nt1 : Nat) :
    find2d_marks ne [(N0 : Int), (N1 : Int)] [(Nt0 : Int), (Nt1 : Int)] =
      ((List.range N0).takeWhile fun y => decide (y + Nt0 ≤ N0)).flatMap fun (y : Nat) =>
        ((((List.range N1).takeWhile fun x => decide (x + Nt1 ≤ N1)).filter fun (x : Nat) =>
          !((List.range Nt0).any fun sy => (List.range Nt1).any fun sx =>
              ne ((y : Int) + (sy : Int)) ((x : Int) + (sx : Int)) sy sx)).map fun (x : Nat) => ((y : Int), (x : Int))) := by
  rw [find2d_marks_nf]
  have hin : ∀ (y x : Nat),
      (List.range Nt0).foldl (fun b (sy : Nat) => if ¬ (b = true) then
          (List.range Nt1).foldl (fun b (sx : Nat) =>
            if ¬ (b = true) then (if ne ((y : Int) + (sy : Int)) ((x : Int) + (sx : Int)) (sy : Int) (sx : Int) = true then true else b) else b) b
        else b) false
      = (List.range Nt0).any fun sy => (List.range Nt1).any fun sx => ne ((y : Int) + (sy : Int)) ((x : Int) + (sx : Int)) sy sx := by
    intro y x
    rw [foldl_sticky _ (fun (sy : Nat) => (List.range Nt1).any fun (sx : Nat) => ne ((y : Int) + (sy : Int)) ((x : Int) + (sx : Int)) sy sx)
      (fun _ => rfl)]
    · rfl
    · intro sy
      rw [if_pos Bool.false_ne_true, foldl_sticky _ (fun (sx : Nat) => ne ((y : Int) + (sy : Int)) ((x : Int) + (sx : Int)) sy sx) (fun _ => rfl)]
      · rfl
      · intro sx; cases ne ((y : Int) + (sy : Int)) ((x : Int) + (sx : Int)) sy sx <;> rfl
  have hxy : ∀ (a b c : Nat), ((a : Int) + (b : Int) ≤ (c : Int)) ↔ a + b ≤ c := fun a b c => by rw [← Int.natCast_add, Int.ofNat_le]
  simp only [loopAlive_eq, hin, foldl_guarded_append, hxy, foldl_append_flatMap, List.nil_append]

theorem matchesAt_eq (f t : Img Int) (Nt0 Nt1 : Nat) (ht : t.shape = [Nt0, Nt1]) (y x : Nat) :
    C07.matchesAt f t y x = !((List.range Nt0).any fun sy => (List.range Nt1).any fun sx =>
      f.getD [(y : Int) + (sy : Int), (x : Int) + (sx : Int)] 0 != t.getD [(sy : Int), (sx : Int)] 0) := by
  unfold C07.matchesAt
  simp only [ht, Int.natCast_add]
  simp [List.all_eq_not_any_not]
  rfl

/-- **`find2d` (C++ text: loop headers, comparison loops, `goto next_pos`, the store) = `C07.findMarks`**: for every 2-D image and
    2-D template, the positions the kernel marks — with `array.at(i, j) != target.at(k, l)` read as the comparison of the model's
    elements — are exactly the list the model computes, in the same order. -/
theorem cscalar_find2d_marks_eq_model (f t : Img Int) (N0 N1 Nt0 Nt1 : Nat) (hf : f.shape = [N0, N1]) (ht : t.shape = [Nt0, Nt1]) :
    find2d_marks (fun i j k l => f.getD [i, j] 0 != t.getD [k, l] 0) (f.shape.map Int.ofNat) (t.shape.map Int.ofNat)
      = (C07.findMarks f t).map fun p => ((p.1 : Int), (p.2 : Int)) := by
  rw [hf, ht]
  simp only [List.map_cons, List.map_nil, Int.ofNat_eq_natCast]
  rw [find2d_marks_eq]
  unfold C07.findMarks
  simp only [hf, ht, List.map_flatMap, List.map_map]
  congr 1
  funext y
  simp only [matchesAt_eq f t Nt0 Nt1 ht]
  rfl

example : find2d_marks (fun i j k l => decide (i + j ≠ k + l + 1)) [3, 4] [2, 2] = [(0, 1), (1, 0)]
    ∧ find2d_marks (fun _ _ _ _ => false) [2, 2] [3, 1] = [] := by decide +kernel

end Mahotas
