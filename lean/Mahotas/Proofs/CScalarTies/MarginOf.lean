/- Tie of the generated `margin_of` of `_morph.cpp`, a loop over the axes (see `Proofs/CScalarTies.lean` for the scheme). -/
import Mahotas.Generated.CScalar
import Mahotas.Model.C04
import Mahotas.Proofs.CScalarTies.Loops
namespace Mahotas
open Generated.C

/-- the update `if (x < margin) margin = x;` -/
theorem ite_lt_eq_min (x m : Int) : (if x < m then x else m) = min m x := by
  simp only [Int.min_def, ← Int.not_le, ite_not]

/-- the generated loop of `margin_of`, with the two updates read as `min` -/
theorem margin_of_fold (dims pos : List Int) :
    margin_of dims pos = (List.range dims.length).foldl
      (fun m (k : Nat) => min (min m (pos.getD k 0)) (dims.getD k 0 - pos.getD k 0 - 1)) C04.idxMax := by
  simp only [margin_of, Int.toNat_natCast, ite_lt_eq_min, C04.idxMax]

theorem marginOf_le : ∀ (shape : List Nat) (pos : List Int), C04.marginOf shape pos ≤ C04.idxMax
  | [], _ => Int.le_refl _
  | _ :: _, [] => Int.le_refl _
  | _ :: ds, _ :: ps => Int.le_trans (Int.min_le_right ..) (marginOf_le ds ps)

/-- the loop started below `idxMax` takes the minimum with the margin of the remaining axes -/
theorem marginOf_zip : ∀ (ds : List Nat) (ps : List Int) (m : Int), m ≤ C04.idxMax →
    (List.zip (ds.map Int.ofNat) ps).foldl (fun m xy => min (min m xy.2) (xy.1 - xy.2 - 1)) m = min m (C04.marginOf ds ps)
  | [], _, _, hm => (Int.min_eq_left hm).symm
  | _ :: _, [], _, hm => (Int.min_eq_left hm).symm
  | d :: ds, p :: ps, m, hm => by
      have ih := marginOf_zip ds ps (min (min m p) ((d : Int) - p - 1))
        (Int.le_trans (Int.min_le_left ..) (Int.le_trans (Int.min_le_left ..) hm))
      simp only [List.map_cons, List.zip_cons_cons, List.foldl_cons, C04.marginOf, C04.axisMargin, Int.ofNat_eq_natCast, ih]
      simp only [Int.min_assoc]

/-- **`margin_of` (C++ text) = `C04.marginOf`** for every shape and every position with as many coordinates as the
    array has axes (`numpy::position` objects handed to `margin_of` are positions of `markers`: `nd_ = ndims()`). -/
theorem cscalar_margin_of_eq_model (shape : List Nat) (pos : List Int) (h : pos.length = shape.length) :
    margin_of (shape.map Int.ofNat) pos = C04.marginOf shape pos := by
  rw [margin_of_fold, foldl_range_getD2 (fun (m : Int) x y => min (min m y) (x - y - 1)) _ _ _ (by simpa using h),
    marginOf_zip shape pos _ (Int.le_refl _), Int.min_eq_right (marginOf_le shape pos)]

example : margin_of [5, 7] [1, 3] = 1 ∧ margin_of [5, 7] [2, 6] = 0 ∧ margin_of [] [] = 9223372036854775807 := by decide +kernel

end Mahotas
