/- Tie of the generated `rank_currank` (the `currank` statements of `rank_filter`, `_convolve.cpp`) to `C07.curRankG`. -/
import Mahotas.Generated.CScalar
import Mahotas.Model.C07
namespace Mahotas
open Generated.C

/-- **`rank_filter`: `npy_intp currank = rank; if (n != N2) currank = npy_intp(n * rank/double(N2));` (C++ text) =
    `C07.curRankG`**, for every number of retrieved samples `n`, footprint size `N2`, rank, and every arithmetic `o` (conversion,
    division, truncation): the product `n * rank` is formed in the integers, converted, divided by the converted `N2`, truncated —
    in this order. `C07_currank_double_eq_floor` is about `curRankG`, hence about the text. -/
theorem cscalar_rank_currank_eq_model {α : Type} (o : C07.RankOps α) (n N2 rank : Nat) :
    rank_currank o.ofNat o.div o.trunc (n : Int) (N2 : Int) (rank : Int) = ((C07.curRankG o n N2 rank : Nat) : Int) := by
  unfold rank_currank C07.curRankG
  have h1 : Int.toNat ((n : Int) * (rank : Int)) = n * rank := by
    rw [← Int.natCast_mul]; exact Int.toNat_natCast _
  simp only [h1, Int.toNat_natCast]
  by_cases h : n = N2
  · subst h; simp
  · have : (n : Int) ≠ (N2 : Int) := by omega
    simp [h, this]

example : rank_currank (α := Nat) id (· / ·) id 3 9 4 = 1 ∧ rank_currank (α := Nat) id (· / ·) id 9 9 4 = 4 := by decide +kernel

end Mahotas
