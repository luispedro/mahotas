/- Tie of the generated `flat_to_pos` of `numpypp/array.hpp` (see `Proofs/CScalarTies.lean` for the scheme). -/
import Mahotas.Generated.CScalar
import Mahotas.Model.C08
import Mahotas.Proofs.CScalarTies.Loops
namespace Mahotas
open Generated.C C08

theorem flatToPosGo_snoc : ∀ (l : List Nat) (x : Nat) (p : Int),
    flatToPosGo (l ++ [x]) p = ((flatToPosGo l p).1 ++ [Int.tmod (flatToPosGo l p).2 (x : Int)], Int.tdiv (flatToPosGo l p).2 (x : Int))
  | [], x, p => by simp [flatToPosGo]
  | d :: l, x, p => by
      simp only [List.cons_append, flatToPosGo, flatToPosGo_snoc l x]

/-- one iteration of the loop of `flat_to_pos` at index `k` (axis `n - 1 - k`) -/
def ftpStep (n : Nat) (dims : List Int) (s : List Int × Int) (k : Nat) : List Int × Int :=
  (s.1.set (Int.toNat ((n : Int) - 1 - k)) (Int.tmod s.2 (dims.getD (Int.toNat ((n : Int) - 1 - k)) 0)),
    Int.tdiv s.2 (dims.getD (Int.toNat ((n : Int) - 1 - k)) 0))

/-- the generated definition in normal form: the loop as `ftpStep`, then the carry into axis 0 -/
theorem flat_to_pos_fold (p : Int) (dims : List Int) :
    flat_to_pos p dims =
      (let r := (List.range dims.length).foldl (ftpStep dims.length dims) (List.replicate dims.length (0 : Int), p)
       if r.2 ≠ 0 then r.1.set 0 (r.1.getD 0 0 + r.2 * dims.getD 0 0) else r.1) := by
  unfold flat_to_pos
  rw [toNat_len]
  rfl

theorem ftp_loop : ∀ (tl hd : List Nat) (p : Int),
    (List.range tl.length).foldl (ftpStep (hd.length + tl.length) ((hd ++ tl).map Int.ofNat))
        (List.replicate (hd.length + tl.length) (0 : Int), p)
      = (List.replicate hd.length (0 : Int) ++ (flatToPosGo tl.reverse p).1.reverse, (flatToPosGo tl.reverse p).2)
  | [], hd, p => by simp [flatToPosGo]
  | x :: tl, hd, p => by
      have ih := ftp_loop tl (hd ++ [x]) p
      have e1 : (hd ++ [x]).length + tl.length = hd.length + (tl.length + 1) := by
        rw [List.length_append, List.length_singleton, Nat.add_assoc, Nat.add_comm 1]
      rw [e1, List.append_assoc, List.singleton_append] at ih
      have e3 : Int.toNat (((hd.length + (tl.length + 1) : Nat) : Int) - 1 - (tl.length : Nat)) = hd.length := by omega
      have e4 : (List.map Int.ofNat (hd ++ x :: tl)).getD hd.length 0 = (x : Int) := by
        rw [List.getD_eq_getElem?_getD, List.getElem?_map, List.getElem?_append_right (Nat.le_refl _), Nat.sub_self]
        rfl
      -- the axes of `tl` first (`ih`); the last iteration then writes `p % x` at index `hd.length`, in front of them
      rw [List.length_cons, List.range_succ, List.foldl_append, ih, List.foldl_cons, List.foldl_nil, ftpStep, e3, e4,
        List.reverse_cons, flatToPosGo_snoc, List.reverse_append, List.reverse_singleton, List.singleton_append,
        List.length_append, List.length_singleton, List.replicate_succ', List.append_assoc, List.singleton_append,
        List.set_append_right _ _ (by rw [List.length_replicate]; exact Nat.le_refl _), List.length_replicate, Nat.sub_self,
        List.set_cons_zero]

theorem flatToPosGo_length : ∀ (l : List Nat) (p : Int), (flatToPosGo l p).1.length = l.length
  | [], p => by simp [flatToPosGo]
  | d :: l, p => by simp [flatToPosGo, flatToPosGo_length l]

/-- **`aligned_array::flat_to_pos` (C++ text) = `C08.View.flatToPos`** for every shape and every flat index (negative ones
    included: C `%` and `/` truncate, and what is left of `p` is carried into axis 0, on both sides) -/
theorem cscalar_flat_to_pos_eq_model (v : View) (p : Int) :
    flat_to_pos p (v.shape.map Int.ofNat) = v.flatToPos p := by
  rw [flat_to_pos_fold]
  have h := ftp_loop v.shape [] p
  simp only [List.length_nil, Nat.zero_add, List.nil_append, List.replicate_zero] at h
  simp only [List.length_map, h]
  unfold View.flatToPos
  have hl := flatToPosGo_length v.shape.reverse p
  generalize flatToPosGo v.shape.reverse p = r at hl ⊢
  cases hs : v.shape with
  | nil =>
    have : r.1 = [] := by simpa [hs] using hl
    simp [this]
  | cons d0 ds =>
    have hr : r.1.reverse.length = ds.length + 1 := by simp [hl, hs]
    cases hrr : r.1.reverse with
    | nil => simp [hrr] at hr
    | cons x xs => by_cases hp : r.2 = 0 <;> simp [hp, hrr]

example : flat_to_pos 17 [4, 5] = [3, 2] ∧ flat_to_pos 23 [4, 5] = [4 + 0, 3] ∧ flat_to_pos 0 [] = [] := by decide +kernel

end Mahotas
