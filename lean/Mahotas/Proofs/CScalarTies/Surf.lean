/- Ties of the generated (trace-translated) `sum_rect`, `csum_rect`, `haar_x`, `haar_y` of `features/_surf.cpp`
   (see `Proofs/CScalarTies.lean` for the scheme). The trace translation keeps the index arithmetic and records every
   `integral.at(r, c)` read in source order; element values are opaque. -/
import Mahotas.Generated.CScalar
import Mahotas.Model.C10Surf
namespace Mahotas
open Generated.C C10Surf

/-- the reads `integral.at(r, c)` of a trace as bounds obligations on an `n0 x n1` integral image -/
def surfTrace (n0 n1 : Int) (l : List (Int × Int)) : List SAcc := l.flatMap fun p => at2 n0 n1 p.1 p.2

/-- **`sum_rect` (C++ text, trace translation) = `C10Surf.sumRectAccesses`**: the same four reads, each index paired with the
    length of its axis, for every image size and every window (the clamps are what the safety theorems of C10 rest on) -/
theorem cscalar_sum_rect_eq_model (n0 n1 y0 x0 y1 x1 : Int) :
    surfTrace n0 n1 (sum_rect [n0, n1] y0 x0 y1 x1) = sumRectAccesses n0 n1 y0 x0 y1 x1 := by
  unfold sum_rect sumRectAccesses surfTrace
  simp only [List.getD_cons_zero, List.getD_cons_succ, Int.toNat_zero, Int.toNat_one]
  split <;> simp [at2]

theorem cscalar_csum_rect_eq_model (n0 n1 y x dy dx h w : Int) :
    surfTrace n0 n1 (csum_rect [n0, n1] y x dy dx h w) = csumRectAccesses n0 n1 y x dy dx h w := by
  unfold csum_rect csumRectAccesses
  simp only [List.nil_append]
  exact cscalar_sum_rect_eq_model ..

theorem surfTrace_append (n0 n1 : Int) (a b : List (Int × Int)) :
    surfTrace n0 n1 (a ++ b) = surfTrace n0 n1 a ++ surfTrace n0 n1 b := by
  simp [surfTrace]

theorem cscalar_haar_x_eq_model (n0 n1 y x w : Int) :
    surfTrace n0 n1 (haar_x [n0, n1] y x w) = haarXAccesses n0 n1 y x w := by
  unfold haar_x haarXAccesses
  simp only [List.nil_append, surfTrace_append, cscalar_sum_rect_eq_model]

theorem cscalar_haar_y_eq_model (n0 n1 y x w : Int) :
    surfTrace n0 n1 (haar_y [n0, n1] y x w) = haarYAccesses n0 n1 y x w := by
  unfold haar_y haarYAccesses
  simp only [List.nil_append, surfTrace_append, cscalar_sum_rect_eq_model]

example : sum_rect [4, 5] 0 0 9 9 = [(0, 0), (0, 4), (3, 0), (3, 4)] ∧ sum_rect [0, 5] 1 1 2 2 = [] := by decide +kernel

end Mahotas
