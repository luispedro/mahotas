/- Tie of the generated `fast_positions` (the statements of `fast_binary_dilate_erode_2d`, `_morph.cpp`, that build the offset list)
to `C01.fastPositions`. -/
import Mahotas.Generated.CScalar
import Mahotas.Model.C01
import Mahotas.Proofs.CScalarTies.Loops
namespace Mahotas
open Generated.C

theorem range_mul_eq_flatMap (a b : Nat) :
    List.range (a * b) = (List.range a).flatMap fun y => (List.range b).map fun x => y * b + x :=
  (List.map_id _).symm.trans (range_mul_map a b id)

/-- what one structuring-element entry contributes to `positions` (clamp first, then the test `dy || dx`, as the C++ does) -/
def fastEntry (Nx Cy Cx : Int) (y x : Nat) : List Int :=
  let dy : Int := (y : Int) - Cy
  let dx : Int := (x : Int) - Cx
  let dx : Int := if dx > Nx then Nx else dx
  let dx : Int := if dx < -Nx then -Nx else dx
  if dy ≠ 0 ∨ dx ≠ 0 then [dy, dx] else []

theorem fast_positions_nf (bc : Int → Int → Bool) (Nx : Int) (By Bx : Nat) :
    fast_positions bc Nx [(By : Int), (Bx : Int)] =
      (List.range By).flatMap fun (y : Nat) => (List.range Bx).flatMap fun (x : Nat) =>
        if bc y x = true then fastEntry Nx (Int.tdiv By 2) (Int.tdiv Bx 2) y x else [] := by
  simp only [fast_positions, fastEntry, List.getD_cons_zero, List.getD_cons_succ, Int.toNat_natCast, Int.toNat_zero, Int.toNat_one,
    List.append_assoc, List.cons_append, List.nil_append, ite_append, continue_flag, foldl_append_flatMap]

/-- with at least one column the clamp leaves a non-zero `dx` non-zero, so the test `dy || dx` may come before the clamp (model)
    or after it (C++), and the two clamps in sequence are the nested one -/
theorem fastEntry_eq (Nx Cy Cx : Int) (hN : 1 ≤ Nx) (y x : Nat) :
    fastEntry Nx Cy Cx y x =
      if ((y : Int) - Cy == 0 && (x : Int) - Cx == 0) = true then [] else
        [(y : Int) - Cy, if (x : Int) - Cx > Nx then Nx else if (x : Int) - Cx < -Nx then -Nx else (x : Int) - Cx] := by
  unfold fastEntry
  generalize (y : Int) - Cy = dy
  generalize (x : Int) - Cx = dx
  grind

theorem filterMap_flatMap_list {α β γ : Type} (F : α → Option β) (g : β → List γ) : ∀ (l : List α),
    (l.filterMap F).flatMap g = l.flatMap fun a => (F a).elim [] g
  | [] => rfl
  | a :: l => by
      simp only [List.filterMap_cons, List.flatMap_cons]
      cases h : F a <;> simp [filterMap_flatMap_list F g l]

/-- the contribution of one entry on both sides, with the tests and values as variables -/
theorem entry_match (b : Int) (c : Prop) {_ : Decidable c} (dy dx : Int) (q : Int × Int) :
    (if (b != 0) = true then (if c then [] else [dy, dx]) else []) =
      (if (b == 0) = true then none else if c then none else some (if True then (dy, dx) else q)).elim []
        fun p => [p.1, p.2] := by
  by_cases hb : b = 0
  · simp only [hb, bne_self_eq_false, BEq.rfl, Bool.false_eq_true, if_false, if_true, Option.elim_none]
  · simp only [bne_iff_ne, ne_eq, beq_iff_eq, hb, not_false_eq_true, if_true, if_false]
    split <;> rfl

/-- **the offset list of `fast_binary_dilate_erode_2d` (C++ text: `By`, `Bx`, `Cy`, `Cx`, the two loops with `continue`, the clamps
    `dx > Nx`, `dx < -Nx`, the test `dy || dx`, the two `push_back`) = `C01.fastPositions … true`**, flattened to `dy, dx, dy, dx, …`,
    for every structuring element `By × Bx` and every image with at least one column (`Nx ≥ 1`: the C++ tests `dy || dx` after the
    clamp, the model before it — for `Nx = 0`, an image without pixels, a clamped `dx = 0` would differ). `Bc.at(y, x)` is read
    as `bc[y * Bx + x] != 0`. -/
theorem cscalar_fast_positions_eq_model (Nx : Int) (hN : 1 ≤ Nx) (By Bx : Nat) (bc : Array Int) :
    fast_positions (fun y x => bc.getD (Int.toNat (y * (Bx : Int) + x)) 0 != 0) Nx [(By : Int), (Bx : Int)]
      = (C01.fastPositions Nx [By, Bx] bc true).flatMap fun p => [p.1, p.2] := by
  rw [fast_positions_nf]
  unfold C01.fastPositions
  simp only [range_mul_eq_flatMap, filterMap_flatMap_list, List.flatMap_assoc, List.flatMap_map]
  apply flatMap_congr_mem
  intro y _
  apply flatMap_congr_mem
  intro x hx
  have hx' : x < Bx := List.mem_range.mp hx
  have e3 : Int.toNat ((y : Int) * (Bx : Int) + (x : Int)) = y * Bx + x := Int.toNat_natCast _
  have c (B : Nat) : Int.tdiv (B : Int) 2 = ((B / 2 : Nat) : Int) := Int.tdiv_eq_ediv_of_nonneg (Int.natCast_nonneg B)
  simp only [rowMajor_div y hx', rowMajor_mod y hx', e3, c, fastEntry_eq _ _ _ hN]
  exact entry_match ..

example : fast_positions (fun _ _ => true) 5 [3, 3] = [-1, -1, -1, 0, -1, 1, 0, -1, 0, 1, 1, -1, 1, 0, 1, 1]
    ∧ fast_positions (fun _ _ => true) 1 [1, 7] = [0, -1, 0, -1, 0, -1, 0, 1, 0, 1, 0, 1] := by decide +kernel

end Mahotas
