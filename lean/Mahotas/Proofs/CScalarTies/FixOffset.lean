/- Tie of the generated `fix_offset` of `_filters.h` (see `Proofs/CScalarTies.lean` for the scheme). -/
import Mahotas.Generated.CScalar
import Mahotas.Model.Border
namespace Mahotas
open Generated.C

/-- **`fix_offset` (C++ text) = `fixOffset` (model)** for every mode, coordinate and length; the generated function
    takes the numeric value of the `ExtendMode` enumerator (`Mode.code`, itself checked against the enum by
    `Proofs/Modes.lean`), and `border_flag_value` is `none`. -/
theorem cscalar_fix_offset_eq_model (m : Mode) (cc len : Int) :
    fix_offset (m.code : Int) cc len = fixOffset m cc len := by
  unfold fix_offset fixOffset
  -- per mode the two texts coincide once the mode test is evaluated and `some` is moved inside the model's `if`s
  cases m <;> simp only [Mode.code, Int.cast_ofNat_Int, Int.reduceEq, reduceIte, or_false, or_true, apply_ite some]

example : fix_offset 3 (-4) 3 = some 0 ∧ fix_offset 2 7 3 = some 1 ∧ fix_offset 1 (-1) 5 = some 4
    ∧ fix_offset 0 9 4 = some 3 ∧ fix_offset 4 (-1) 4 = none ∧ fix_offset 5 2 4 = some 2 := by decide +kernel

end Mahotas
