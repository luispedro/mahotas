/- Tie of the generated `fast_row_dy` / `fast_row_n` (the per-row statements of `fast_binary_dilate_erode_2d`, `_morph.cpp`: the clamp
of the row offset and the length of the main loop) to `C01.fastRow` and the `n` of `C01.fastErodeRow`. -/
import Mahotas.Generated.CScalar
import Mahotas.Model.C01
namespace Mahotas
open Generated.C

/-- **`if ((y + dy) < 0) dy = -y; if ((y + dy) >= Ny) dy = -y+(Ny-1);` (C++ text) = `C01.fastRow`**: the row the pass reads
    (erosion) or writes (dilation), for every row `y`, height `Ny` and offset entry `dy` (the `dx` entry plays no role). -/
theorem cscalar_fast_row_dy_eq_model (Ny y : Nat) (dy dx : Int) :
    Int.toNat ((y : Int) + fast_row_dy (y : Int) (Ny : Int) dy dx) = C01.fastRow Ny y dy := by
  unfold fast_row_dy C01.fastRow
  grind

/-- **`n = Nx - t_abs(dx)` (C++ text) = the `n` of `C01.fastErodeRow`** (`Nx - dx.natAbs`, truncated at 0), for every `dx` -/
theorem cscalar_fast_row_n_eq_model (Nx : Nat) (y Ny dy dx : Int) :
    Int.toNat (fast_row_n y Ny (Nx : Int) dy dx) = Nx - dx.natAbs := by
  unfold fast_row_n t_abs
  grind

example : fast_row_dy 0 5 (-2) 1 = 0 ∧ fast_row_dy 4 5 3 0 = 0 ∧ fast_row_dy 2 5 1 0 = 1 ∧ fast_row_n 0 5 7 0 (-3) = 4 := by decide +kernel

end Mahotas
