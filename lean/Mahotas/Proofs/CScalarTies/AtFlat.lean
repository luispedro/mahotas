/- Tie of the generated `at_flat` of `numpypp/array.hpp` (see `Proofs/CScalarTies.lean` for the scheme). -/
import Mahotas.Generated.CScalar
import Mahotas.Model.C08
import Mahotas.Proofs.CScalarTies.Loops
namespace Mahotas
open Generated.C

/-- the generated loop of `at_flat` in normal form: state `(p, base)`, one step per axis from the last to the first -/
theorem at_flat_fold (p : Int) (c : Bool) (data : Int) (dims strides : List Int) :
    at_flat p c data dims strides = if c = true then data + p else
      ((List.range dims.length).foldl (fun (s : Int × Int) (k : Nat) =>
          (fun (s : Int × Int) (x y : Int) => (Int.tdiv s.1 x, s.2 + Int.tmod s.1 x * y)) s
            (dims.getD (Int.toNat (((dims.length : Int) - 1) - (k : Int))) 0)
            (strides.getD (Int.toNat (((dims.length : Int) - 1) - (k : Int))) 0)) (p, data)).2 := by
  unfold at_flat
  rw [toNat_len]

theorem atFlatGo_zip : ∀ (ds : List Nat) (ss : List Int) (p : Nat) (b : Int),
    ((List.zip (ds.map Int.ofNat) ss).foldl (fun (s : Int × Int) xy => (Int.tdiv s.1 xy.1, s.2 + Int.tmod s.1 xy.1 * xy.2)) ((p : Int), b)).2
      = C08.atFlatGo ds ss p b
  | [], _, _, _ => rfl
  | _ :: _, [], _, _ => rfl
  | d :: ds, s :: ss, p, b => by
      rw [C08.atFlatGo, ← atFlatGo_zip ds ss (p / d) (b + ((p % d : Nat) : Int) * s), Int.natCast_ediv, Int.natCast_emod,
        ← Int.tdiv_eq_ediv_of_nonneg (Int.natCast_nonneg p), ← Int.tmod_eq_emod_of_nonneg (Int.natCast_nonneg p)]
      rfl

/-- **`aligned_array::at_flat` (C++ text, the non-const overload with the loop) = `C08.View.atFlat`** for every view
    with one stride per axis and every flat index `p ≥ 0`: the element offset the returned reference designates. The
    model computes on `Nat` (`/`, `%`), the C++ on `npy_intp`/`int` (`Int.tdiv`, `Int.tmod`): equal for `p ≥ 0`. -/
theorem cscalar_at_flat_eq_model (v : C08.View) (p : Nat) (h : v.strides.length = v.shape.length) :
    at_flat (p : Int) v.carray v.base (v.shape.map Int.ofNat) v.strides = v.atFlat p := by
  rw [at_flat_fold]
  unfold C08.View.atFlat
  split
  · rfl
  · have := foldl_range_desc_getD2 (fun (s : Int × Int) (x y : Int) => (Int.tdiv s.1 x, s.2 + Int.tmod s.1 x * y))
      (v.shape.map Int.ofNat) v.strides ((p : Int), v.base) (by simpa using h)
    rw [this, ← List.map_reverse]
    exact atFlatGo_zip v.shape.reverse v.strides.reverse p v.base

example : at_flat 5 false 10 [2, 3] [100, 7] = 10 + 1 * 100 + 2 * 7 ∧ at_flat 5 true 10 [2, 3] [100, 7] = 15 := by decide +kernel

end Mahotas
