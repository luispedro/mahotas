/- Tie of the generated `dt_intersect` (the assignment to `s` in `dist_transform`, `_distance.cpp`) to `C05.sInt`, at the exact
rationals the model of C05 computes in. -/
import Mahotas.Generated.CScalar
import Mahotas.Model.C05
import Mathlib.Tactic.Ring
import Mathlib.Data.Rat.Cast.Order
namespace Mahotas
open Generated.C

/-- **`dist_transform`: `s = ((f[q] + q²) − (f[v[k]] + v[k]²)) / 2 / (q − v[k])` (C++ text) = `C05.sInt`** over the rationals
    (where the model of C05 evaluates it), for every sampled function `g`, every root `u = v[k]` and every `q`: the same
    numerator, the same two divisions. -/
theorem cscalar_dt_intersect_eq_model (g : Nat → Rat) (u v : Nat) (s0 : Rat) :
    dt_intersect (α := Rat) (g v) (v : Int) (g u) (u : Int) s0 = C05.sInt g u v := by
  unfold dt_intersect C05.sInt
  push_cast
  simp only [div_div]
  ring

example : dt_intersect (α := Int) 0 2 4 0 0 = 0 ∧ dt_intersect (α := Int) 5 3 0 1 0 = 3 := by decide +kernel

end Mahotas
