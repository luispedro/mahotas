/- Tie of the generated `pos_to_flat` of `numpypp/array.hpp` (see `Proofs/CScalarTies.lean` for the scheme). -/
import Mahotas.Generated.CScalar
import Mahotas.Model.C08
import Mahotas.Proofs.CScalarTies.Loops
namespace Mahotas
open Generated.C

/-- the generated loop of `pos_to_flat` in normal form: state `(res, cummul)` -/
theorem pos_to_flat_fold (dims pos : List Int) :
    pos_to_flat dims pos =
      ((List.range dims.length).foldl (fun (s : Int × Int) (k : Nat) =>
          (fun (s : Int × Int) (x y : Int) => (s.1 + y * s.2, s.2 * x)) s
            (dims.getD (Int.toNat (((dims.length : Int) - 1) - (k : Int))) 0)
            (pos.getD (Int.toNat (((dims.length : Int) - 1) - (k : Int))) 0)) (0, 1)).1 := by
  unfold pos_to_flat
  rw [toNat_len]

theorem posToFlatGo_zip : ∀ (ds : List Nat) (ps : List Int) (r c : Int),
    ((List.zip (ds.map Int.ofNat) ps).foldl (fun (s : Int × Int) xy => (s.1 + xy.2 * s.2, s.2 * xy.1)) (r, c)).1
      = r + C08.posToFlatGo ds ps c
  | [], _, r, _ => (Int.add_zero r).symm
  | _ :: _, [], r, _ => (Int.add_zero r).symm
  | d :: ds, p :: ps, r, c => by
      rw [C08.posToFlatGo, ← Int.add_assoc, ← posToFlatGo_zip ds ps (r + p * c) (c * (d : Int))]
      rfl

/-- **`aligned_array::pos_to_flat` (C++ text) = `C08.View.posToFlat`** for every shape and every position (entries may be
    negative: offsets) with one coordinate per axis. -/
theorem cscalar_pos_to_flat_eq_model (v : C08.View) (pos : List Int) (h : pos.length = v.shape.length) :
    pos_to_flat (v.shape.map Int.ofNat) pos = v.posToFlat pos := by
  rw [pos_to_flat_fold]
  unfold C08.View.posToFlat
  have := foldl_range_desc_getD2 (fun (s : Int × Int) (x y : Int) => (s.1 + y * s.2, s.2 * x))
      (v.shape.map Int.ofNat) pos ((0 : Int), (1 : Int)) (by simpa using h)
  rw [this, ← List.map_reverse]
  rw [posToFlatGo_zip, Int.zero_add]

example : pos_to_flat [4, 5, 6] [1, 2, 3] = 1 * 30 + 2 * 6 + 3 ∧ pos_to_flat [4, 5] [-1, 1] = -4 := by decide +kernel

end Mahotas
