/- Tie of the generated `erode_sub` of `_morph.cpp` (see `Proofs/CScalarTies.lean` for the scheme). -/
import Mahotas.Generated.CScalar
import Mahotas.Model.DType
namespace Mahotas
open Generated.C

/-- **`erode_sub<T>` and `erode_sub<bool>` (C++ text) = `erodeSub`**: the model dispatches on `dt.isBool` the way the
    compiler selects the `bool` specialisation. All arguments, every dtype. -/
theorem cscalar_erode_sub_eq_model (dt : DT) (a b : Int) :
    erodeSub dt a b = if dt.isBool then erode_sub_bool a b else erode_sub dt a b := by
  unfold erodeSub erode_sub erode_sub_bool
  grind

example : erode_sub (dtI 8) (-100) 100 = -128 ∧ erode_sub (dtU 8) 3 5 = 0 ∧ erode_sub (dtI 8) 5 (-128) = 127
    ∧ erode_sub_bool 1 1 = 1 ∧ erode_sub_bool 1 0 = 0 := by decide +kernel

end Mahotas
