/- Tie of the generated `spline_coeff` (the `switch (order)` of `spline_coefficients`, `_interpolate.cpp`) to `C18.splineCoeff`,
over EVERY scalar type with the bare operator classes the model is written over (no laws: the two are the same sequence of operations). -/
import Mahotas.Generated.CScalar
import Mahotas.Model.C18
namespace Mahotas
open Generated.C

section
variable {α : Type} [Add α] [Sub α] [Mul α] [Div α] [Neg α] [NatCast α] [IntCast α] [LT α] [DecidableLT α]

/-- **`spline_coefficients`, the weight formula of each order (C++ text) = `C18.splineCoeff`**, for the orders 1–5 the `switch`
    has a case for, for every distance `y` and every scalar type (so at `Float`, where the driver runs it, and over the ordered
    fields of the theorems): same operations in the same order, decimal constants as the same quotients of naturals. -/
theorem cscalar_spline_coeff_eq_model (order : Nat) (ho : 1 ≤ order ∧ order ≤ 5) (y r0 : α) :
    spline_coeff (order : Int) y r0 = C18.splineCoeff order y := by
  obtain ⟨h1, h5⟩ := ho
  have : order = 1 ∨ order = 2 ∨ order = 3 ∨ order = 4 ∨ order = 5 := by omega
  rcases this with rfl | rfl | rfl | rfl | rfl <;>
    (unfold spline_coeff C18.splineCoeff C18.q; grind)

end

/- evaluated at `Int` (truncating `/`): order 1 at distance 0 is `1 - 0`; order 3 at distance 1 is `(2 - 1)^3 / 6`; an order
   without a case leaves `result[hh]` as it was -/
example : spline_coeff (α := Int) 1 0 7 = 1 ∧ spline_coeff (α := Int) 3 1 7 = 0 ∧ spline_coeff (α := Int) 2 0 7 = 0
    ∧ spline_coeff (α := Int) 7 1 9 = 9 ∧ C18.splineCoeff (α := Int) 1 0 = 1 := by decide +kernel

end Mahotas
