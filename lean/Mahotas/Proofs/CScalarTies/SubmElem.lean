/- Tie of the generated `subm_elem`, the element body of `subm<T>` of `_morph.cpp` (see `Proofs/CScalarTies.lean` for the scheme). -/
import Mahotas.Generated.CScalar
import Mahotas.Proofs.DType
namespace Mahotas
open Generated.C

/-- **element body of `subm<T>` (C++ text) = `submElem`** for values of the dtype (`a`, `b` in range — they are read
    from arrays of that dtype). In the unsigned branch the C++ stores `*ita -= *itb` (a store: `dt.wrap`), the model
    writes the exact `a - b`; they agree because `b ≤ a` there. The signed branch agrees for all integers. -/
theorem cscalar_subm_elem_eq_model (dt : DT) (wf : dt.WF) (a b : Int) (ha : dt.InRange a) (hb : dt.InRange b) :
    submElem dt a b = subm_elem dt a b := by
  unfold submElem subm_elem
  by_cases hs : dt.signed = true
  · simp only [hs]; grind
  · have hl : dt.lo = 0 := by
      rcases wf.lo_cases with h | h
      · exact h
      · exfalso; apply hs; rw [DT.signed_iff]; have := wf.hi_pos; omega
    unfold DT.InRange at ha hb
    simp only [hs]
    by_cases hba : b > a
    · simp [hba]
    · simp [hba]
      rw [DT.wrap_in dt (a - b) (by omega)]

example : subm_elem (dtI 8) (-100) 100 = -128 ∧ subm_elem (dtU 8) 3 5 = 0 ∧ subm_elem (dtU 8) 9 5 = 4
    ∧ subm_elem (dtI 8) 100 (-100) = 127 := by decide +kernel

end Mahotas
