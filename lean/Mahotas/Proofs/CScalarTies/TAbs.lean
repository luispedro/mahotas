/- Tie of the generated `t_abs` of `_morph.cpp` (see `Proofs/CScalarTies.lean` for the scheme). -/
import Mahotas.Generated.CScalar
namespace Mahotas
open Generated.C

/-- **`t_abs` (C++ text, at the index types) = `Int.natAbs`** (what `C04.chebStep` and the model of `distance` use). -/
theorem cscalar_t_abs_eq_model (x : Int) : t_abs x = (x.natAbs : Int) := by
  unfold t_abs; split <;> omega

example : t_abs (-3) = 3 ∧ t_abs 4 = 4 := by decide +kernel

end Mahotas
