/- Ties of the generated `roll_right` and `map` of `features/_lbp.cpp` (see `Proofs/CScalarTies.lean` for the scheme). -/
import Mahotas.Generated.CScalar
import Mahotas.Model.C10Misc
namespace Mahotas
open Generated.C C10Misc

theorem roll_right_lt (v : Nat) (points : Int) (hv : v < 4294967296) : roll_right v points < 4294967296 := by
  unfold roll_right
  have h1 : v >>> 1 < 2 ^ 32 := by
    have := Nat.shiftRight_le v 1; omega
  have h2 : (v &&& 1) <<< ((points - 1) % 32).toNat % 4294967296 < 2 ^ 32 := Nat.mod_lt _ (by decide)
  have := Nat.or_lt_two_pow h1 h2
  omega

/-- **`roll_right` (C++ text) = `C10Misc.rollRight32`** for every 32-bit value and every `points` (the shift count is taken
    mod 32 on both sides: the x86 behaviour, made explicit by the model and by the translator) -/
theorem cscalar_roll_right_eq_model (v : Nat) (points : Int) (hv : v < 4294967296) :
    roll_right v points = rollRight32 points v := by
  have h := roll_right_lt v points hv
  unfold roll_right at h
  unfold roll_right rollRight32 u32
  exact (Nat.mod_eq_of_lt h).symm

theorem lbpMapLoop_fold (points : Int) : ∀ (n : Nat) (v mn : Nat), v < 4294967296 →
    ((List.range n).foldl (fun (s : Nat × Nat) (_ : Nat) =>
        (roll_right s.1 points, if roll_right s.1 points < s.2 then roll_right s.1 points else s.2)) (v, mn)).2
      = lbpMapLoop points n v mn
  | 0, v, mn, _ => by simp [lbpMapLoop]
  | n + 1, v, mn, hv => by
      simp only [List.range_succ_eq_map, List.foldl_cons, List.foldl_map, lbpMapLoop]
      rw [← cscalar_roll_right_eq_model v points hv]
      exact lbpMapLoop_fold points n _ _ (roll_right_lt v points hv)

/-- **`map` of `_lbp.cpp` (C++ text) = `C10Misc.lbpMap32`** for every 32-bit value and every `points` -/
theorem cscalar_lbp_map_eq_model (v : Nat) (points : Int) (hv : v < 4294967296) :
    lbp_map v points = lbpMap32 points v := by
  unfold lbp_map lbpMap32
  rw [← lbpMapLoop_fold points points.toNat v v hv]

example : roll_right 5 4 = 10 ∧ lbp_map 6 4 = 3 ∧ lbp_map 4294967295 32 = 4294967295 := by decide +kernel

end Mahotas
