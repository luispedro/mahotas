/- Ties of the generated `isLeft`, `forward_cmp`, `reverse_cmp` of `_convex.cpp` (see `Proofs/CScalarTies.lean` for the scheme). -/
import Mahotas.Generated.CScalar
import Mahotas.Model.C15
namespace Mahotas
open Generated.C

/-- **`isLeft` (C++ text) = `C15.isLeft`**, all points (members are `long`: exact integers) -/
theorem cscalar_isLeft_eq_model (p0 p1 p2 : C15.Pt) : isLeft p0.1 p0.2 p1.1 p1.2 p2.1 p2.2 = C15.isLeft p0 p1 p2 := by
  unfold isLeft C15.isLeft; grind

theorem cscalar_forward_cmp_eq_model (a b : C15.Pt) : forward_cmp a.1 a.2 b.1 b.2 = C15.forwardCmp a b := by
  unfold forward_cmp C15.forwardCmp; grind

theorem cscalar_reverse_cmp_eq_model (a b : C15.Pt) : reverse_cmp a.1 a.2 b.1 b.2 = C15.reverseCmp a b := by
  unfold reverse_cmp C15.reverseCmp; grind

example : isLeft 0 0 1 0 0 1 = 1 ∧ isLeft 0 0 0 1 1 0 = -1 ∧ forward_cmp 1 2 1 3 = true ∧ forward_cmp 2 0 1 9 = false
    ∧ reverse_cmp 1 2 1 3 = false ∧ reverse_cmp 2 0 1 9 = true := by decide +kernel

end Mahotas
