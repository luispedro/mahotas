/- Tie of the generated `uf_find` / `uf_compress` / `uf_join` (`_labeled.cpp`: `find` — iterative (7ef3338): root search loop,
then path compression loop — `compress`, `join`) to the recursive `C03.find` / `C03.compress` / `C03.join` of the model. -/
import Mahotas.Generated.CScalar
import Mahotas.Model.C03
import Mahotas.Proofs.ListLemmas
namespace Mahotas
open Generated.C

namespace UF

/-- `Chain a i r k`: following the parent entries from node `i` reaches the root `r` (`a[r] = r`) after exactly `k` steps, every
    parent on the way being a (non-negative) node number different from the node itself -/
def Chain (a : Array Int) : Nat → Nat → Nat → Prop
  | i, r, 0 => i = r ∧ a.getD r (-1) = (r : Int)
  | i, r, k + 1 => a.getD i (-1) ≠ (i : Int) ∧ 0 ≤ a.getD i (-1) ∧ Chain a (a.getD i (-1)).toNat r k

theorem chain_unique (a : Array Int) : ∀ (k k' i r : Nat), Chain a i r k → Chain a i r k' → k = k'
  | 0, 0, _, _, _, _ => rfl
  | 0, k' + 1, i, r, h, h' => by
      obtain ⟨rfl, hr⟩ := h
      exact absurd hr h'.1
  | k + 1, 0, i, r, h, h' => by
      obtain ⟨rfl, hr⟩ := h'
      exact absurd hr h.1
  | k + 1, k' + 1, i, r, h, h' => by
      exact congrArg Nat.succ (chain_unique a k k' _ r h.2.2 h'.2.2)

theorem chain_root (a : Array Int) (r : Nat) : ∀ (k i : Nat), Chain a i r k → a.getD r (-1) = (r : Int)
  | 0, _, c => c.2
  | k + 1, _, c => chain_root a r k _ c.2.2

/-- the nodes `i`, parent of `i`, … : the first `k` nodes of the path -/
def OnPath (a : Array Int) : Nat → Nat → Nat → Prop
  | _, 0, _ => False
  | i, k + 1, n => n = i ∨ OnPath a (a.getD i (-1)).toNat k n

/-- a node on the first `k` nodes of a path of length `k' ≥ k` is at distance more than `k' - k` from the root -/
theorem onPath_chain (a : Array Int) (r : Nat) : ∀ (k k' i n : Nat), Chain a i r k' → k ≤ k' → OnPath a i k n →
    ∃ m, k' - k < m ∧ m ≤ k' ∧ Chain a n r m
  | 0, _, _, _, _, _, h => h.elim
  | k + 1, 0, _, _, _, hk, _ => absurd hk (Nat.not_succ_le_zero k)
  | k + 1, k' + 1, i, n, hc, hk, h => by
      rcases h with rfl | h
      · exact ⟨k' + 1, Nat.sub_lt (Nat.succ_pos _) (Nat.succ_pos _), Nat.le_refl _, hc⟩
      · obtain ⟨m, h1, h2, h3⟩ := onPath_chain a r k k' _ n hc.2.2 (Nat.le_of_succ_le_succ hk) h
        exact ⟨m, Nat.succ_sub_succ k' k ▸ h1, Nat.le_succ_of_le h2, h3⟩

/-- the buffer the recursive `find` leaves: the nodes of the path are set on the way back -/
def setPath (a : Array Int) (r : Int) : Nat → Nat → Array Int
  | _, 0 => a
  | i, k + 1 => (setPath a r (a.getD i (-1)).toNat k).setIfInBounds i r

theorem model_find (a : Array Int) (r : Nat) : ∀ (k f i : Nat), Chain a i r k → k ≤ f →
    C03.find f a i = (setPath a (r : Int) i k, r)
  | 0, 0, i, h, _ => by obtain ⟨rfl, _⟩ := h; rfl
  | 0, f + 1, i, h, _ => by
      obtain ⟨rfl, hr⟩ := h
      simp [C03.find, hr, setPath]
  | k + 1, 0, _, _, hk => by omega
  | k + 1, f + 1, i, h, hk => by
      have ih := model_find a r k f _ h.2.2 (by omega)
      simp only [C03.find, h.1, if_false, ih, setPath]

theorem setPath_size (a : Array Int) (r : Int) : ∀ (k i : Nat), (setPath a r i k).size = a.size
  | 0, _ => rfl
  | k + 1, i => by simp [setPath, setPath_size a r k]

open Classical in
theorem setPath_getD (a : Array Int) (r : Int) : ∀ (k i n : Nat),
    (setPath a r i k).getD n (-1) = if OnPath a i k n ∧ n < a.size then r else a.getD n (-1)
  | 0, _, _ => by simp [setPath, OnPath]
  | k + 1, i, n => by
      simp only [setPath, getD_setIfInBounds, setPath_size, setPath_getD a r k, OnPath]
      by_cases h1 : i = n
      · subst h1; by_cases h2 : i < a.size <;> simp [h2]
      · have : ¬ n = i := fun h => h1 h.symm
        simp [h1, this]

theorem loop_root (a : Array Int) (r : Nat) : ∀ (k f i : Nat), Chain a i r k → k ≤ f →
    whileFuel f (fun (root : Int) => decide (a.getD (Int.toNat root) (-1) ≠ root))
      (fun (root : Int) => a.getD (Int.toNat root) (-1)) (i : Int) = (r : Int)
  | 0, 0, i, h, _ => by obtain ⟨rfl, _⟩ := h; rfl
  | 0, f + 1, i, h, _ => by
      obtain ⟨rfl, hr⟩ := h
      simp [whileFuel, hr]
  | k + 1, 0, _, _, hk => by omega
  | k + 1, f + 1, i, h, hk => by
      have ih := loop_root a r k f _ h.2.2 (by omega)
      have e : ((a.getD i (-1)).toNat : Int) = a.getD i (-1) := Int.toNat_of_nonneg h.2.1
      simp only [whileFuel, Int.toNat_natCast, h.1, ne_eq, not_false_eq_true, decide_true, if_true]
      rw [← e]; exact ih

/-- the buffer the compression loop leaves, started on `d`: the nodes at distance two or more from the root are set, front first -/
def setIter (a : Array Int) (r : Int) : Array Int → Nat → Nat → Array Int
  | d, _, 0 => d
  | d, _, 1 => d
  | d, i, k + 2 => setIter a r (d.setIfInBounds i r) (a.getD i (-1)).toNat (k + 1)

/-- the compression loop walks up `a`'s parent chain although it overwrites as it goes: the third hypothesis is the
    invariant — every node within distance `k` of the root still has in `d` the parent it has in `a` (the loop has only
    overwritten nodes farther away), so the next parent read from `d` is `a`'s. -/
theorem loop_compress (a : Array Int) (r : Nat) : ∀ (k f : Nat) (d : Array Int) (i : Nat), Chain a i r k → k ≤ f →
    (∀ n m, Chain a n r m → m ≤ k → d.getD n (-1) = a.getD n (-1)) →
    (whileFuel f (fun (st : Array Int × Int) => decide (st.1.getD (Int.toNat st.2) (-1) ≠ (r : Int)))
      (fun (st : Array Int × Int) => (st.1.setIfInBounds (Int.toNat st.2) (r : Int), st.1.getD (Int.toNat st.2) (-1))) (d, (i : Int))).1
      = setIter a (r : Int) d i k
  | 0, 0, d, i, _, _, _ => rfl
  | 0, f + 1, d, i, h, _, hd => by
      have hr := h.2
      obtain ⟨rfl, _⟩ := h
      have := hd i 0 ⟨rfl, hr⟩ (by omega)
      simp [whileFuel, this, hr, setIter]
  | k + 1, 0, _, _, _, hk, _ => by omega
  | 1, f + 1, d, i, h, _, hd => by
      have h0 := h.2.2
      have e : ((a.getD i (-1)).toNat : Int) = a.getD i (-1) := Int.toNat_of_nonneg h.2.1
      have := hd i 1 h (by omega)
      have hp : a.getD i (-1) = (r : Int) := by rw [← e, h0.1]
      simp [whileFuel, this, hp, setIter]
  | k + 2, f + 1, d, i, h, hk, hd => by
      have e : ((a.getD i (-1)).toNat : Int) = a.getD i (-1) := Int.toNat_of_nonneg h.2.1
      have hdi := hd i (k + 2) h (by omega)
      -- the parent of `i` is not the root: it is at distance `k + 1 ≥ 1`
      have hne : a.getD i (-1) ≠ (r : Int) := by
        intro hp
        have h1 := h.2.2
        rw [hp, Int.toNat_natCast] at h1
        exact h1.1 (chain_root a r _ _ h1)
      have ih := loop_compress a r (k + 1) f (d.setIfInBounds i (r : Int)) _ h.2.2 (by omega) (by
        intro n m hc hm
        rw [getD_setIfInBounds]
        by_cases hin : i = n
        · subst hin
          have := chain_unique a _ _ _ _ hc h
          omega
        · simp [hin, hd n m hc (by omega)])
      simp only [whileFuel, Int.toNat_natCast, hdi, hne, ne_eq, not_false_eq_true, decide_true, if_true, setIter]
      rw [← e]; exact ih

theorem setIter_size (a : Array Int) (r : Int) : ∀ (k : Nat) (d : Array Int) (i : Nat), (setIter a r d i k).size = d.size
  | 0, _, _ => rfl
  | 1, _, _ => rfl
  | k + 2, d, i => by simp [setIter, setIter_size a r (k + 1)]

open Classical in
theorem setIter_getD (a : Array Int) (r : Int) : ∀ (k : Nat) (d : Array Int) (i n : Nat),
    (setIter a r d i k).getD n (-1) = if OnPath a i (k - 1) n ∧ n < d.size then r else d.getD n (-1)
  | 0, _, _, _ => by simp [setIter, OnPath]
  | 1, _, _, _ => by simp [setIter, OnPath]
  | k + 2, d, i, n => by
      have e : k + 2 - 1 = k + 1 := rfl
      have e' : k + 1 - 1 = k := rfl
      simp only [setIter, setIter_getD a r (k + 1), e, e', OnPath, getD_setIfInBounds, Array.size_setIfInBounds]
      by_cases h1 : i = n
      · subst h1; by_cases h2 : i < d.size <;> simp [h2]
      · have : ¬ n = i := fun h => h1 h.symm
        simp [h1, this]

theorem onPath_mono (a : Array Int) : ∀ (k i n : Nat), OnPath a i k n → OnPath a i (k + 1) n
  | 0, _, _, h => h.elim
  | k + 1, i, n, h => by
      rcases h with h | h
      · exact Or.inl h
      · exact Or.inr (onPath_mono a k _ n h)

/-- the last node of the path already points to the root -/
theorem onPath_last (a : Array Int) (r : Nat) : ∀ (k i n : Nat), Chain a i r k → OnPath a i k n → ¬ OnPath a i (k - 1) n →
    a.getD n (-1) = (r : Int)
  | 0, _, _, _, h, _ => h.elim
  | 1, i, n, hc, h, _ => by
      rcases h with rfl | h
      · have e : ((a.getD n (-1)).toNat : Int) = a.getD n (-1) := Int.toNat_of_nonneg hc.2.1
        rw [← e, hc.2.2.1]
      · exact h.elim
  | k + 2, i, n, hc, h, hn => by
      rcases h with rfl | h
      · exact absurd (Or.inl rfl) hn
      · exact onPath_last a r (k + 1) _ n hc.2.2 h fun h' => hn (Or.inr h')

/-- front-first compression (C++) and compression on the way back (model) leave the same buffer -/
theorem setIter_eq_setPath (a : Array Int) (r : Nat) (k i : Nat) (hc : Chain a i r k) :
    setIter a (r : Int) a i k = setPath a (r : Int) i k := by
  apply array_ext_getD (-1)
  · rw [setIter_size, setPath_size]
  · intro n _
    rw [setIter_getD, setPath_getD]
    by_cases hs : n < a.size
    · by_cases h1 : OnPath a i (k - 1) n
      · have : OnPath a i k n := by
          cases k with
          | zero => exact h1
          | succ k => exact onPath_mono a k i n h1
        simp [h1, this, hs]
      · by_cases h2 : OnPath a i k n
        · simp [h1, h2, hs, onPath_last a r k i n hc h2 h1]
        · simp [h1, h2]
    · simp [hs]

theorem uf_find_unfold (f : Nat) (a : Array Int) (i : Int) :
    uf_find f a i =
      ((whileFuel f (fun (st : Array Int × Int) => decide (st.1.getD (Int.toNat st.2) (-1) ≠
            whileFuel f (fun (root : Int) => decide (a.getD (Int.toNat root) (-1) ≠ root)) (fun (root : Int) => a.getD (Int.toNat root) (-1)) i))
          (fun (st : Array Int × Int) => (st.1.setIfInBounds (Int.toNat st.2)
            (whileFuel f (fun (root : Int) => decide (a.getD (Int.toNat root) (-1) ≠ root)) (fun (root : Int) => a.getD (Int.toNat root) (-1)) i),
            st.1.getD (Int.toNat st.2) (-1))) (a, i)).1,
        whileFuel f (fun (root : Int) => decide (a.getD (Int.toNat root) (-1) ≠ root)) (fun (root : Int) => a.getD (Int.toNat root) (-1)) i) :=
  rfl

end UF

/-- **`find` (C++ text: root search loop, then path compression loop) = `C03.find`** (recursive, compression on the way back)
    on every buffer and node from which the parent entries lead, through non-negative entries, to a root within `fuel` steps
    (`UF.Chain`: the root path `C03.RootN` of the scan invariant, with `0 ≤ a[i]` in place of `i < size`; no theorem connects
    the two): same buffer afterwards, same root. -/
theorem cscalar_uf_find_eq_model (fuel : Nat) (a : Array Int) (i r k : Nat) (hc : UF.Chain a i r k) (hk : k ≤ fuel) :
    uf_find fuel a (i : Int) = ((C03.find fuel a i).1, ((C03.find fuel a i).2 : Int)) := by
  rw [UF.uf_find_unfold, UF.loop_root a r k fuel i hc hk, UF.model_find a r k fuel i hc hk,
    UF.loop_compress a r k fuel a i hc hk (fun _ _ _ _ => rfl), UF.setIter_eq_setPath a r k i hc]

/-- **`compress` (C++ text) = `C03.compress`**, under the hypothesis of `cscalar_uf_find_eq_model` -/
theorem cscalar_uf_compress_eq_model (fuel : Nat) (a : Array Int) (i r k : Nat) (hc : UF.Chain a i r k) (hk : k ≤ fuel) :
    uf_compress fuel a (i : Int) = C03.compress fuel a i := by
  unfold uf_compress C03.compress
  rw [cscalar_uf_find_eq_model fuel a i r k hc hk]

/-- **`join` (C++ text) = `C03.join`** when both `find`s it performs (the second on the buffer the first one leaves) are in the
    situation of `cscalar_uf_find_eq_model` -/
theorem cscalar_uf_join_eq_model (fuel : Nat) (a : Array Int) (i j ri ki rj kj : Nat)
    (hi : UF.Chain a i ri ki) (hki : ki ≤ fuel) (hj : UF.Chain (C03.find fuel a i).1 j rj kj) (hkj : kj ≤ fuel) :
    uf_join fuel a (i : Int) (j : Int) = C03.join fuel a i j := by
  unfold uf_join C03.join
  simp only [cscalar_uf_find_eq_model fuel a i ri ki hi hki, cscalar_uf_find_eq_model fuel _ j rj kj hj hkj, Int.toNat_natCast]

example : uf_find 5 #[0, 0, 1, 2, -1] 3 = (#[0, 0, 0, 0, -1], 0) ∧ C03.find 5 #[0, 0, 1, 2, -1] 3 = (#[0, 0, 0, 0, -1], 0)
    ∧ uf_join 5 #[0, 0, 2, 2] 1 3 = #[2, 0, 2, 2] := by decide +kernel

/-- the hypothesis is satisfiable: node 3 of `[0, 0, 1, 2, -1]` reaches the root 0 in three steps -/
example : UF.Chain #[0, 0, 1, 2, -1] 3 0 3 := by
  refine ⟨by decide, by decide, ?_⟩
  refine ⟨by decide, by decide, ?_⟩
  refine ⟨by decide, by decide, ?_⟩
  exact ⟨by decide, by decide⟩

end Mahotas
