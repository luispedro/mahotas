/- Tie of the generated `find2d_accesses` (every index pair the kernel `find2d` of `_convolve.cpp` can use, in source order) to
`C10.find2dAccesses`, the list `C10_find2d_in_bounds` speaks about. -/
import Mahotas.Generated.CScalar
import Mahotas.Model.C10
import Mahotas.Proofs.CScalarTies.Loops
namespace Mahotas
open Generated.C

theorem find2d_accesses_nf (N0 N1 Nt0 Nt1 : Nat) :
    find2d_accesses [(N0 : Int), (N1 : Int)] [(Nt0 : Int), (Nt1 : Int)] =
      loopAlive N0 (fun y => (y : Int) + (Nt0 : Int) ≤ (N0 : Int)) (fun acc y =>
        loopAlive N1 (fun x => (x : Int) + (Nt1 : Int) ≤ (N1 : Int)) (fun acc x =>
          let st := (List.range Nt0).foldl (fun (st : List (Int × Int × Int) × Bool) (sy : Nat) => if ¬ (st.2 = true) then
                  (List.range Nt1).foldl (fun (st : List (Int × Int × Int) × Bool) (sx : Nat) =>
                    if ¬ (st.2 = true) then
                      (st.1 ++ [(0, (y : Int) + (sy : Int), (x : Int) + (sx : Int))] ++ [(1, (sy : Int), (sx : Int))], st.2)
                    else st) st
                else st) (acc, false)
          if ¬ (st.2 = true) then st.1 ++ [(2, (y : Int), (x : Int))] else st.1) acc) [] := by
  rfl

/-- the accesses one trace event stands for: index pair on `array` / `out` (extents `N0 × N1`) or on `target` (`Nt0 × Nt1`) -/
def find2dAcc (N0 N1 Nt0 Nt1 : Int) (e : Int × Int × Int) : List C10.Acc :=
  if e.1 = 1 then [⟨e.2.1, Nt0⟩, ⟨e.2.2, Nt1⟩] else [⟨e.2.1, N0⟩, ⟨e.2.2, N1⟩]

/-- **`find2d` (C++ text), every index pair it can use = `C10.find2dAccesses … true`** (the list `C10_find2d_in_bounds` speaks
    about), for every image and every template with at least one element per axis: same accesses, same order. -/
theorem cscalar_find2d_accesses_eq_model (N0 N1 Nt0 Nt1 : Nat) (h0 : 1 ≤ Nt0) (h1 : 1 ≤ Nt1) :
    (find2d_accesses [(N0 : Int), (N1 : Int)] [(Nt0 : Int), (Nt1 : Int)]).flatMap (find2dAcc N0 N1 Nt0 Nt1)
      = C10.find2dAccesses N0 N1 Nt0 Nt1 true := by
  rw [find2d_accesses_nf]
  have hin : ∀ (y x : Nat) (acc : List (Int × Int × Int)),
      (List.range Nt0).foldl (fun (st : List (Int × Int × Int) × Bool) (sy : Nat) => if ¬ (st.2 = true) then
            (List.range Nt1).foldl (fun (st : List (Int × Int × Int) × Bool) (sx : Nat) =>
              if ¬ (st.2 = true) then
                (st.1 ++ [(0, (y : Int) + (sy : Int), (x : Int) + (sx : Int))] ++ [(1, (sy : Int), (sx : Int))], st.2)
              else st) st
          else st) (acc, false)
      = (acc ++ (List.range Nt0).flatMap fun (sy : Nat) => (List.range Nt1).flatMap fun (sx : Nat) =>
          [((0 : Int), (y : Int) + (sy : Int), (x : Int) + (sx : Int)), ((1 : Int), (sy : Int), (sx : Int))], false) := by
    intro y x acc
    apply foldl_unflagged
    intro a sy
    apply foldl_unflagged
    intro a sx
    rw [List.append_assoc]; rfl
  simp only [loopAlive_fit _ _ h0, loopAlive_fit _ _ h1, hin, Bool.false_eq_true, not_false_eq_true, if_true]
  simp only [List.append_assoc, foldl_append_flatMap, List.nil_append]
  -- both sides are now `flatMap`s over `y < N0 + 1 − Nt0`, `x < N1 + 1 − Nt1`, `sy < Nt0`, `sx < Nt1`: the generated side lists
  -- the events and maps `find2dAcc` over the whole list, the model maps `Int.ofNat` over each `range` and lists the accesses
  unfold C10.find2dAccesses C10.rangeI
  have e (n t : Nat) : ((n : Int) - (t : Int) + 1).toNat = n + 1 - t := by omega
  simp [e, List.flatMap_assoc, find2dAcc]
  simp only [List.flatMap_map, Int.ofNat_eq_natCast]

example : (find2d_accesses [3, 3] [2, 2]).length = 36 ∧ (find2d_accesses [2, 2] [3, 1]) = [] := by decide +kernel

end Mahotas
