/- The loops of the generated definitions in the form the hand-written models compute them in. A `List.foldl` over `List.range`
with `List.getD` reads at the loop index is a fold over the zipped argument lists; a loop with a second test in its header is the
fold over the longest prefix that passes it (`loopAlive`); the flags the translator introduces for `continue` and `goto` turn into
filters and `any`. Shared by the ties of the loop functions. -/
import Mahotas.Proofs.ListLemmas
namespace Mahotas

/-- a `for (d = 0; d != n; ++d)` loop that reads two arrays at `[d]` only is a fold over the zipped lists -/
theorem foldl_range_getD2 {σ : Type} (f : σ → Int → Int → σ) :
    ∀ (xs ys : List Int) (s : σ), ys.length = xs.length →
      (List.range xs.length).foldl (fun s (k : Nat) => f s (xs.getD k 0) (ys.getD k 0)) s
        = (List.zip xs ys).foldl (fun s xy => f s xy.1 xy.2) s
  | [], ys, s, _ => rfl
  | x :: xs, [], s, h => nomatch h
  | x :: xs, y :: ys, s, h => by
      have ih := foldl_range_getD2 f xs ys (f s x y) (Nat.succ.inj h)
      simp only [List.length_cons, List.range_succ_eq_map, List.foldl_cons, List.foldl_map, List.zip_cons_cons,
        List.getD_cons_zero, List.getD_cons_succ]
      exact ih

/-- the trip count `(n - 1) + 1` of a descending loop `for (d = n - 1; d >= 0; --d)` -/
theorem toNat_len (n : Nat) : Int.toNat (((n : Int) - 1) + 1) = n := by omega

theorem getD_reverse_idx (xs : List Int) {n k : Nat} (h : xs.length = n) (hk : k < n) :
    xs.getD (n - 1 - k) 0 = xs.reverse.getD k 0 := by
  subst h
  simp only [List.getD_eq_getElem?_getD, List.getElem?_reverse hk]

/-- descending loop `for (d = n - 1; d >= 0; --d)` reading two arrays at `[d]` only = fold over the reversed zipped lists -/
theorem foldl_range_desc_getD2 {σ : Type} (f : σ → Int → Int → σ) (xs ys : List Int) (s : σ) (h : ys.length = xs.length) :
    (List.range xs.length).foldl (fun s (k : Nat) =>
        f s (xs.getD (Int.toNat (((xs.length : Int) - 1) - (k : Int))) 0)
            (ys.getD (Int.toNat (((xs.length : Int) - 1) - (k : Int))) 0)) s
      = (List.zip xs.reverse ys.reverse).foldl (fun s xy => f s xy.1 xy.2) s := by
  have := foldl_range_getD2 f xs.reverse ys.reverse s (by rw [List.length_reverse, List.length_reverse, h])
  rw [List.length_reverse] at this
  rw [← this]
  apply foldl_congr_mem
  intro s k hk
  have hk' : k < xs.length := List.mem_range.mp hk
  have e : Int.toNat (((xs.length : Int) - 1) - (k : Int)) = xs.length - 1 - k := by omega
  rw [e, getD_reverse_idx xs rfl hk', getD_reverse_idx ys h hk']

/-- `for (i = 0; i < n && P i; ++i) s = f s i`: a fold with an `alive` flag -/
def loopAlive {σ : Type} (n : Nat) (P : Nat → Prop) [DecidablePred P] (f : σ → Nat → σ) (s : σ) : σ :=
  ((List.range n).foldl (fun (st : Bool × σ) k => if st.1 = true ∧ P k then (true, f st.2 k) else (false, st.2)) (true, s)).2

theorem foldl_alive {σ : Type} (P : Nat → Prop) [DecidablePred P] (f : σ → Nat → σ) :
    ∀ (l : List Nat) (s : σ),
      (l.foldl (fun (st : Bool × σ) k => if st.1 = true ∧ P k then (true, f st.2 k) else (false, st.2)) (true, s)).2
        = (l.takeWhile (fun k => decide (P k))).foldl f s
  | [], _ => rfl
  | k :: l, s => by
      simp only [List.foldl_cons, List.takeWhile_cons, true_and]
      by_cases h : P k
      · simp only [h, if_true, decide_true, List.foldl_cons]
        exact foldl_alive P f l (f s k)
      · simp only [h, if_false, decide_false]
        rw [foldl_fixed _ (false, s) (fun k => if_neg fun h => Bool.false_ne_true h.1) l]; simp

/-- the loop stops at the first index where the extra test fails: it is the fold over the longest prefix satisfying it -/
theorem loopAlive_eq {σ : Type} (n : Nat) (P : Nat → Prop) [DecidablePred P] (f : σ → Nat → σ) (s : σ) :
    loopAlive n P f s = ((List.range n).takeWhile (fun k => decide (P k))).foldl f s :=
  foldl_alive P f _ s

theorem takeWhile_range_lt (m : Nat) : ∀ n, (List.range n).takeWhile (fun y => decide (y < m)) = List.range (min n m)
  | 0 => rfl
  | n + 1 => by
    rw [List.range_succ, List.takeWhile_append, takeWhile_range_lt m n, List.length_range, List.length_range]
    by_cases h : n < m
    · rw [Nat.min_eq_left (Nat.le_of_lt h), if_pos rfl, List.takeWhile_cons_of_pos (by exact decide_eq_true h),
        List.takeWhile_nil, Nat.min_eq_left h, List.range_succ]
    · have hm : m ≤ n := Nat.le_of_not_lt h
      rw [List.takeWhile_cons_of_neg (by simpa using h), List.append_nil, Nat.min_eq_right hm,
        Nat.min_eq_right (Nat.le_succ_of_le hm)]
      split
      next e => rw [e]
      next => rfl

/-- `for (y = 0; y < n && y + t <= n; ++y)` with `t ≥ 1` visits the `n + 1 - t` positions at which a window of length `t` fits -/
theorem loopAlive_fit {σ : Type} (n t : Nat) (ht : 1 ≤ t) (f : σ → Nat → σ) (s : σ) :
    loopAlive n (fun y => (y : Int) + (t : Int) ≤ (n : Int)) f s = (List.range (n + 1 - t)).foldl f s := by
  have hp : (fun (y : Nat) => decide ((y : Int) + (t : Int) ≤ (n : Int))) = fun y => decide (y < n + 1 - t) :=
    funext fun y => decide_eq_decide.mpr (by omega)
  rw [loopAlive_eq, hp, takeWhile_range_lt, Nat.min_eq_right (by omega)]

/-- `if (!b) continue;`: the flag the translator introduces stays clear exactly when `b` holds -/
theorem continue_flag (b : Bool) : (¬(if ¬b = true then decide True else decide False) = true) ↔ b = true := by
  cases b <;> simp

/-- a guarded `push_back` -/
theorem ite_append {α : Type} (c : Prop) [Decidable c] (acc l : List α) :
    (if c then acc ++ l else acc) = acc ++ if c then l else [] := by
  split <;> simp

theorem foldl_append_flatMap {α β : Type} (g : α → List β) : ∀ (l : List α) (a : List β),
    l.foldl (fun acc k => acc ++ g k) a = a ++ l.flatMap g
  | [], a => by simp
  | k :: l, a => by simp [foldl_append_flatMap g l (a ++ g k)]

/-- a flag that, once set, stays set and disables the body (`goto` out of the loops): `b || any` -/
theorem foldl_sticky {α : Type} (F : Bool → α → Bool) (r : α → Bool) (h1 : ∀ k, F true k = true) (h0 : ∀ k, F false k = r k) :
    ∀ (l : List α) (b : Bool), l.foldl F b = (b || l.any r)
  | l, true => foldl_fixed F true h1 l
  | [], false => rfl
  | k :: l, false => by
      rw [List.foldl_cons, h0, foldl_sticky F r h1 h0 l, List.any_cons, Bool.false_or]

/-- a guarded append per index = the filtered list, mapped -/
theorem foldl_guarded_append {α β : Type} (c : α → Bool) (g : α → β) : ∀ (l : List α) (a : List β),
    l.foldl (fun acc k => if ¬ (c k = true) then acc ++ [g k] else acc) a = a ++ (l.filter fun k => !c k).map g
  | [], a => by simp
  | k :: l, a => by
      simp only [List.foldl_cons, List.filter_cons]
      rw [foldl_guarded_append c g l]
      cases h : c k <;> simp

/-- a loop nest whose `goto` flag is never set: every level appends what its body appends with the flag clear -/
theorem foldl_unflagged {α β : Type} (G : List β × Bool → α → List β × Bool) (g : α → List β)
    (h : ∀ a k, G (a, false) k = (a ++ g k, false)) : ∀ (l : List α) (acc : List β),
    l.foldl (fun st k => if ¬ st.2 = true then G st k else st) (acc, false) = (acc ++ l.flatMap g, false)
  | [], acc => by simp
  | k :: l, acc => by
    rw [List.foldl_cons, if_pos Bool.false_ne_true, h, foldl_unflagged G g h l, List.flatMap_cons, List.append_assoc]

end Mahotas
