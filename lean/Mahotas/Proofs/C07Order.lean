/-
C07 — the rank filter through its samples: the rescaled rank is monotone in the rank and hits both ends;
`rankAt` writes `a` exactly when `a` is the sample of the rescaled rank by counting (`rankAt_eq_some_iff`), a value
whenever there is a sample (`rankAt_isSome`), a least sample for rank 0 and a greatest one for the last rank;
the sum of the samples lies between `n·min` and `n·max`; `Bc.sum()` of a 0/1 neighbourhood is the number of
its members; when a pixel has no sample at all (`gather_eq_nil_iff`); the filter commutes with strictly
increasing re-encodings of the values that fix 0 (`gather_mapImg`, `nthElement_map`).
-/
import Mahotas.Proofs.C07
import Mathlib.Order.Monotone.Basic
import Mathlib.Algebra.Order.BigOperators.Group.List
namespace Mahotas.C07
open Mahotas

theorem curRank_mono (n N2 r r' : Nat) (h : r ≤ r') : curRank n N2 r ≤ curRank n N2 r' := by
  unfold curRank
  split
  · exact Nat.div_le_div_right (Nat.mul_le_mul_left n h)
  · exact h

theorem curRank_zero (n N2 : Nat) : curRank n N2 0 = 0 := by
  unfold curRank
  split
  · rw [Nat.mul_zero, Nat.zero_div]
  · rfl

/-- the last rank `N2 − 1` selects the last of the `n ≤ N2` samples present:
    `(n − 1)·N2 ≤ n·(N2 − 1) < n·N2` -/
theorem curRank_last (n N2 : Nat) (hn : 0 < n) (hle : n ≤ N2) : curRank n N2 ((N2 : Int) - 1).toNat = n - 1 := by
  rw [show ((N2 : Int) - 1).toNat = N2 - 1 from Int.toNat_sub N2 1]
  unfold curRank
  split
  · refine Nat.div_eq_of_lt_le ?_ ?_
    · rw [Nat.sub_one_mul, Nat.mul_sub_one]
      exact Nat.sub_le_sub_left hle _
    · rw [Nat.sub_add_cancel hn]
      exact Nat.mul_lt_mul_of_pos_left (Nat.sub_lt (Nat.lt_of_lt_of_le hn hle) Nat.one_pos) hn
  · rename_i h
    rw [Decidable.not_not.1 h]

theorem curRank_lt (n N2 r : Nat) (hn : 0 < n) (hr : r < N2) : curRank n N2 r < n := by
  unfold curRank
  split
  · exact (Nat.div_lt_iff_lt_mul (Nat.zero_lt_of_lt hr)).2 (Nat.mul_lt_mul_of_pos_left hr hn)
  · rename_i h
    rwa [Decidable.not_not.1 h]

theorem rankAt_inRange (m : Mode) (f : Img Int) (fp : List (List Int)) (rank : Int) (p : List Int)
    (h0 : 0 ≤ rank) (h1 : rank < fp.length) :
    rankAt m f fp rank p =
      nthElement (gather m f fp p) (curRank (gather m f fp p).length fp.length rank.toNat) :=
  if_neg (by omega)

theorem rankAt_eq_some_iff (m : Mode) (f : Img Int) (fp : List (List Int)) (rank : Int) (p : List Int) (a : Int) :
    rankAt m f fp rank p = some a ↔ (0 ≤ rank ∧ rank < fp.length) ∧
      IsKthSmallest (gather m f fp p) (curRank (gather m f fp p).length fp.length rank.toNat) a := by
  by_cases h : 0 ≤ rank ∧ rank < fp.length
  · rw [rankAt_inRange m f fp rank p h.1 h.2, nthElement_eq_some_iff, and_iff_right h]
  · have hnone : rankAt m f fp rank p = none := if_pos (by omega)
    exact ⟨fun ha => (nomatch hnone.symm.trans ha), fun ha => absurd ha.1 h⟩

theorem sum_ge_of_le (xs : List Int) (lo : Int) (h : ∀ x ∈ xs, lo ≤ x) : lo * xs.length ≤ xs.sum := by
  rw [mul_comm, ← nsmul_eq_mul]
  exact List.card_nsmul_le_sum xs lo h

theorem sum_le_of_le (xs : List Int) (hi : Int) (h : ∀ x ∈ xs, x ≤ hi) : xs.sum ≤ hi * xs.length := by
  rw [mul_comm, ← nsmul_eq_mul]
  exact List.sum_le_card_nsmul xs hi h

theorem foldl_add_01 (l : List Int) (h : ∀ x ∈ l, x = 0 ∨ x = 1) (acc : Int) :
    l.foldl (· + ·) acc = acc + (l.countP (fun x => !(x == 0)) : Nat) := by
  induction l generalizing acc with
  | nil => exact (Int.add_zero acc).symm
  | cons a t ih =>
    rw [List.foldl_cons, ih (fun x hx => h x (List.mem_cons_of_mem a hx))]
    rcases h a List.mem_cons_self with rfl | rfl
    · rw [Int.add_zero, List.countP_cons_of_neg (by decide)]
    · rw [List.countP_cons_of_pos (by decide), Int.natCast_succ, Int.add_assoc, Int.add_comm 1]

theorem footprint_length (bshape : List Nat) (bc : Array Int) (hsz : bc.size = shapeSize bshape) :
    (footprint bshape bc).length = bc.toList.countP (fun x => !(x == 0)) := by
  unfold footprint
  rw [filterMap_ite _ (fun i => bc.getD i 0 == 0), List.length_map, ← List.countP_eq_length_filter, ← hsz,
    ← range_map_getD_toList bc 0, List.countP_map]
  rfl

/-- the `match` is the function under `filterMap` in `gather`, at the offset position `q` -/
theorem sample_eq_none_iff (m : Mode) (f : Img Int) (q : List Int) (hlen : q.length = f.shape.length) :
    (match fixPos m f.shape q with
      | some q' => some (f.getD q' 0)
      | none => if m = .constant then some 0 else none) = none ↔
    m = .ignore ∧ inside f.shape q = false := by
  by_cases hi : m = .ignore
  · rw [and_iff_right hi, ← Bool.not_eq_true,
      ← (fixPos_isSome_iff m f.shape q hlen).trans (or_iff_right fun h => h.2 hi)]
    cases fixPos m f.shape q with
    | none => simp only [hi, reduceCtorEq, if_false, Option.isSome_none, Bool.false_eq_true, not_false_eq_true]
    | some q' => simp only [reduceCtorEq, Option.isSome_some, not_true_eq_false]
  · refine iff_of_false (fun h => ?_) (fun h => hi h.1)
    by_cases hc : m = .constant
    · subst hc
      cases hq : fixPos Mode.constant f.shape q <;> simp only [hq, ↓reduceIte, reduceCtorEq] at h
    · obtain ⟨q', hq⟩ := Option.isSome_iff_exists.1 (fixPos_isSome_of_extending m hc hi f.shape q)
      simp only [hq, reduceCtorEq] at h

theorem gather_eq_nil_iff (m : Mode) (f : Img Int) (fp : List (List Int)) (p : List Int)
    (hlen : ∀ k ∈ fp, (addPos p k).length = f.shape.length) :
    gather m f fp p = [] ↔ (fp = [] ∨ (m = .ignore ∧ ∀ k ∈ fp, inside f.shape (addPos p k) = false)) := by
  unfold gather
  rw [List.filterMap_eq_nil_iff]
  constructor
  · intro h
    cases fp with
    | nil => exact Or.inl rfl
    | cons k0 t =>
      exact Or.inr ⟨((sample_eq_none_iff m f _ (hlen k0 List.mem_cons_self)).1 (h k0 List.mem_cons_self)).1,
        fun k hk => ((sample_eq_none_iff m f _ (hlen k hk)).1 (h k hk)).2⟩
  · rintro (rfl | ⟨hm, hall⟩) k hk
    · cases hk
    · exact (sample_eq_none_iff m f _ (hlen k hk)).2 ⟨hm, hall k hk⟩

theorem rankAt_isSome (m : Mode) (f : Img Int) (fp : List (List Int)) (rank : Int) (p : List Int)
    (h0 : 0 ≤ rank) (h1 : rank < fp.length) (hne : gather m f fp p ≠ []) : ∃ v, rankAt m f fp rank p = some v := by
  obtain ⟨v, hv, _⟩ := nthElement_isKth _ _
    (curRank_lt _ fp.length rank.toNat (List.length_pos_iff.2 hne) (by omega))
  exact ⟨v, (rankAt_inRange m f fp rank p h0 h1).trans hv⟩

theorem rankAt_none_iff_gather (m : Mode) (f : Img Int) (fp : List (List Int)) (rank : Int) (p : List Int)
    (h0 : 0 ≤ rank) (h1 : rank < fp.length) :
    rankAt m f fp rank p = none ↔ gather m f fp p = [] := by
  refine ⟨fun h => by_contra fun hne => ?_, fun h => ?_⟩
  · obtain ⟨v, hv⟩ := rankAt_isSome m f fp rank p h0 h1 hne
    exact nomatch h.symm.trans hv
  · rw [rankAt_inRange m f fp rank p h0 h1, h]
    exact nthElement_none [] _ (Nat.zero_le _)

theorem rankAt_zero_le (m : Mode) (f : Img Int) (fp : List (List Int)) (p : List Int) (a : Int)
    (h : rankAt m f fp 0 p = some a) : a ∈ gather m f fp p ∧ ∀ x ∈ gather m f fp p, a ≤ x := by
  have h := ((rankAt_eq_some_iff m f fp 0 p a).1 h).2
  rw [Int.toNat_zero, curRank_zero] at h
  exact ⟨h.1, isKth_zero_le _ a h⟩

/-- also when fewer than `N2` samples are present: the last rank rescales to the last of them (`curRank_last`) -/
theorem rankAt_last_ge (m : Mode) (f : Img Int) (fp : List (List Int)) (p : List Int) (a : Int)
    (h : rankAt m f fp ((fp.length : Int) - 1) p = some a) : a ∈ gather m f fp p ∧ ∀ x ∈ gather m f fp p, x ≤ a := by
  have h := ((rankAt_eq_some_iff m f fp _ p a).1 h).2
  rw [curRank_last _ _ (List.length_pos_of_mem h.1) (gather_length_le m f fp p)] at h
  exact ⟨h.1, isKth_last_ge _ a h⟩

/-- re-encode the stored values -/
def mapImg (g : Int → Int) (f : Img Int) : Img Int := { shape := f.shape, data := f.data.map g }

theorem gather_mapImg (g : Int → Int) (h0 : g 0 = 0) (m : Mode) (f : Img Int) (fp : List (List Int)) (p : List Int) :
    gather m (mapImg g f) fp p = (gather m f fp p).map g := by
  have h := gatherG_map g 0 m f fp p
  rwa [h0] at h

theorem isKth_map (g : Int → Int) (hg : StrictMono g) (xs : List Int) (k : Nat) (v : Int)
    (h : IsKthSmallest xs k v) : IsKthSmallest (xs.map g) k (g v) := by
  refine ⟨List.mem_map_of_mem h.1, ?_, ?_⟩
  · rw [List.countP_map, List.countP_congr (q := fun x => decide (x < v)) fun x _ => by
      rw [Function.comp, decide_eq_true_eq, decide_eq_true_eq, hg.lt_iff_lt]]
    exact h.2.1
  · rw [List.countP_map, List.countP_congr (q := fun x => decide (x ≤ v)) fun x _ => by
      rw [Function.comp, decide_eq_true_eq, decide_eq_true_eq, hg.le_iff_le]]
    exact h.2.2

theorem nthElement_map (g : Int → Int) (hg : StrictMono g) (xs : List Int) (k : Nat) :
    nthElement (xs.map g) k = (nthElement xs k).map g := by
  cases h : nthElement xs k with
  | some v => exact (nthElement_eq_some_iff _ k _).2 (isKth_map g hg xs k v ((nthElement_eq_some_iff xs k v).1 h))
  | none =>
    refine nthElement_none _ k ((List.length_map g).trans_le (Nat.le_of_not_lt fun hk => ?_))
    obtain ⟨v, hv, _⟩ := nthElement_isKth xs k hk
    exact nomatch h.symm.trans hv

end Mahotas.C07
