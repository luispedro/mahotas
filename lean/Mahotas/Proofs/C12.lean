/-
C12 (T1, T2) — to a confined thread every interleaved run looks like its solo run (`view_run`), and the lock-discipline checker is sound (`disciplined_sound`).
`View t` relates two states that thread `t` cannot tell apart. A confined step of another thread stays
inside the relation (`view_step_other`), a step of `t` maps related states to related states
(`view_step_self`); induction on the schedule gives `view_run`, and from it `run_indep_of_thread`:
exchanging one thread's program changes nothing outside its private region.
`disciplined_sound` is the declarative meaning of the boolean checker `disciplined` of `Model/C12.lean`.
-/
import Mahotas.Model.C12
namespace Mahotas.C12
open Mahotas

/-- what thread `t` can see and what determines its future: its program counter, its private
memory and the shared read-only memory -/
def View (t : Nat) (s s' : State) : Prop :=
  s.pc t = s'.pc t ∧ ∀ l : Loc, (l.region = .priv t ∨ l.region = .sharedRO) → s.mem l = s'.mem l

theorem View.refl (t : Nat) (s : State) : View t s s := ⟨rfl, fun _ _ => rfl⟩

theorem View.symm {t : Nat} {s s' : State} (h : View t s s') : View t s' s :=
  ⟨h.1.symm, fun l hl => (h.2 l hl).symm⟩

theorem View.trans {t : Nat} {a b c : State} (h1 : View t a b) (h2 : View t b c) : View t a c :=
  ⟨h1.1.trans h2.1, fun l hl => (h1.2 l hl).trans (h2.2 l hl)⟩

theorem set_other (m : Mem) (l x : Loc) (v : Val) (h : x ≠ l) : m.set l v x = m x := by
  simp [Mem.set_apply, h]

theorem set_same (m : Mem) (l : Loc) (v : Val) : m.set l v l = v := by
  simp [Mem.set_apply]

theorem exec_frame (st : Step) (m : Mem) (x : Loc) (h : x ≠ st.dst) : st.exec m x = m x := by
  simp [Step.exec, Mem.set_apply, h]

theorem exec_congr (st : Step) (m m' : Mem) (h : ∀ l ∈ st.srcs, m l = m' l) :
    st.exec m st.dst = st.exec m' st.dst := by
  have : st.srcs.map m.get = st.srcs.map m'.get := List.map_congr_left h
  simp [Step.exec, Mem.set_apply, this]

theorem view_step_other (progs : Progs) (hc : Confined progs) {t u : Nat} (hne : u ≠ t) (s : State) :
    View t (stepThread progs u s) s := by
  unfold stepThread
  cases hg : (progs u)[s.pc u]? with
  | none => exact View.refl t s
  | some st =>
    have hmem : st ∈ progs u := List.mem_of_getElem? hg
    have hconf := hc u st hmem
    refine ⟨?_, ?_⟩
    · simp [Ne.symm hne]
    · intro l hl
      apply exec_frame
      intro heq
      have hd := hconf.1
      rw [← heq] at hd
      rcases hl with h | h
      · rw [h] at hd; injection hd with hd; exact hne hd.symm
      · rw [h] at hd; cases hd

theorem view_step_self (progs : Progs) (hc : Confined progs) {t : Nat} {s s' : State}
    (h : View t s s') : View t (stepThread progs t s) (stepThread progs t s') := by
  unfold stepThread
  rw [← h.1]
  cases hg : (progs t)[s.pc t]? with
  | none => exact h
  | some st =>
    have hconf := hc t st (List.mem_of_getElem? hg)
    refine ⟨by simp [h.1], ?_⟩
    intro l hl
    by_cases hd : l = st.dst
    · subst hd
      exact exec_congr st s.mem s'.mem (fun x hx => h.2 x (hconf.2 x hx))
    · show st.exec s.mem l = st.exec s'.mem l
      rw [exec_frame st _ l hd, exec_frame st _ l hd]
      exact h.2 l hl

theorem view_run_self (progs : Progs) (hc : Confined progs) {t : Nat} (k : Nat) :
    ∀ {s s' : State}, View t s s' →
      View t (run progs (List.replicate k t) s) (run progs (List.replicate k t) s') := by
  induction k with
  | zero => intro s s' h; simpa [run] using h
  | succ k ih =>
    intro s s' h
    simp only [List.replicate_succ, run]
    exact ih (view_step_self progs hc h)

/-- T1 for any start state: to thread `t`, the interleaved run looks like its own run with the same number of turns -/
theorem view_run (progs : Progs) (hc : Confined progs) (t : Nat) :
    ∀ (sched : List Nat) (s : State),
      View t (run progs sched s) (run progs (List.replicate (sched.count t) t) s) := by
  intro sched
  induction sched with
  | nil => intro s; simpa [run] using View.refl t s
  | cons u rest ih =>
    intro s
    by_cases hu : u = t
    · subst hu
      simp only [List.count_cons_self, List.replicate_succ, run]
      exact ih _
    · have hcount : (u :: rest).count t = rest.count t := by
        simp [hu]
      rw [hcount]
      simp only [run]
      exact (ih (stepThread progs u s)).trans
        (view_run_self progs hc _ (view_step_other progs hc hu s))

theorem run_nonpriv (progs : Progs) (hc : Confined progs) :
    ∀ (sched : List Nat) (s : State) (l : Loc), (∀ t, l.region ≠ .priv t) →
      (run progs sched s).mem l = s.mem l := by
  intro sched
  induction sched with
  | nil => intro s l _; rfl
  | cons u rest ih =>
    intro s l hl
    simp only [run]
    rw [ih _ l hl]
    unfold stepThread
    cases hg : (progs u)[s.pc u]? with
    | none => rfl
    | some st =>
      have hconf := hc u st (List.mem_of_getElem? hg)
      apply exec_frame
      intro heq
      apply hl u
      rw [heq]; exact hconf.1

theorem stepThread_done (progs : Progs) (t : Nat) (s : State) (h : (progs t).length ≤ s.pc t) :
    stepThread progs t s = s := by
  unfold stepThread
  have : (progs t)[s.pc t]? = none := List.getElem?_eq_none h
  rw [this]

theorem run_replicate_done (progs : Progs) (t : Nat) (j : Nat) :
    ∀ s : State, (progs t).length ≤ s.pc t → run progs (List.replicate j t) s = s := by
  induction j with
  | zero => intro s _; rfl
  | succ j ih =>
    intro s h
    simp only [List.replicate_succ, run]
    rw [stepThread_done progs t s h]
    exact ih s h

theorem pc_stepThread (progs : Progs) (t : Nat) (s : State) (h : s.pc t < (progs t).length) :
    (stepThread progs t s).pc t = s.pc t + 1 := by
  unfold stepThread
  have : (progs t)[s.pc t]? = some ((progs t)[s.pc t]) := List.getElem?_eq_getElem h
  rw [this]
  simp

theorem pc_run_replicate (progs : Progs) (t : Nat) (k : Nat) :
    ∀ s : State, s.pc t + k ≤ (progs t).length →
      (run progs (List.replicate k t) s).pc t = s.pc t + k := by
  induction k with
  | zero => intro s _; rfl
  | succ k ih =>
    intro s h
    simp only [List.replicate_succ, run]
    have hlt : s.pc t < (progs t).length := by omega
    have hp := pc_stepThread progs t s hlt
    rw [ih _ (by omega), hp]
    omega

theorem run_append (progs : Progs) (a b : List Nat) (s : State) :
    run progs (a ++ b) s = run progs b (run progs a s) := by
  induction a generalizing s with
  | nil => rfl
  | cons x xs ih => simp only [List.cons_append, run]; exact ih _

theorem soloSteps_ge (progs : Progs) (t k : Nat) (m : Mem) (h : (progs t).length ≤ k) :
    soloSteps progs t k m = soloSteps progs t (progs t).length m := by
  unfold soloSteps
  obtain ⟨j, rfl⟩ : ∃ j, k = (progs t).length + j := ⟨k - (progs t).length, by omega⟩
  rw [← List.replicate_append_replicate, run_append]
  apply run_replicate_done
  have := pc_run_replicate progs t (progs t).length (init m) (by simp [init])
  rw [this]; simp [init]

theorem soloSteps_congr (progs progs' : Progs) (t : Nat) (h : progs t = progs' t) (k : Nat) (m : Mem) :
    soloSteps progs t k m = soloSteps progs' t k m := by
  unfold soloSteps
  generalize init m = s
  induction k generalizing s with
  | zero => rfl
  | succ k ih => simp only [List.replicate_succ, run, stepThread, h]; exact ih _

/-- what thread `t` does is invisible outside `priv t`: its program may be exchanged for any confined one, e.g. the same
call cut short by a throw (`run_indep_of_call`) -/
theorem run_indep_of_thread (progs progs' : Progs) (hc : Confined progs) (hc' : Confined progs') (t : Nat)
    (h : ∀ u, u ≠ t → progs u = progs' u) (sched : List Nat) (m : Mem) (l : Loc) (hl : l.region ≠ .priv t) :
    (run progs sched (init m)).mem l = (run progs' sched (init m)).mem l := by
  by_cases hp : ∃ u, l.region = .priv u
  · -- private to some `u ≠ t`: both runs look like `u`'s solo run, and `u` has the same program in both
    obtain ⟨u, hr⟩ := hp
    rw [(view_run progs hc u sched (init m)).2 l (Or.inl hr), (view_run progs' hc' u sched (init m)).2 l (Or.inl hr)]
    exact congrArg (fun s => s.mem l) (soloSteps_congr progs progs' u (h u fun e => hl (e ▸ hr)) _ m)
  · rw [run_nonpriv progs hc sched _ l (fun u e => hp ⟨u, e⟩), run_nonpriv progs' hc' sched _ l (fun u e => hp ⟨u, e⟩)]

theorem confinedB_iff (t : Nat) (s : Step) : s.confinedB t = true ↔ s.Confined t := by
  simp [Step.confinedB, Step.Confined]

theorem heldAfter_append (h : Bool) (a b : List Ev) :
    heldAfter h (a ++ b) = heldAfter (heldAfter h a) b := by
  induction a generalizing h with
  | nil => rfl
  | cons e r ih => cases e <;> simp [heldAfter, ih]

/-- what event `e` asks of the lock state `h` before it -/
def Ev.allowed (h : Bool) : Ev → Bool
  | .release | .validate | .interpAccess | .ret => h
  | .acquire => !h
  | .kernelStep | .throw => true

theorem heldAfter_cons (h : Bool) (e : Ev) (r : List Ev) : heldAfter h (e :: r) = heldAfter (heldAfter h [e]) r := by
  cases e <;> rfl

theorem disciplined_cons (h : Bool) (e : Ev) (r : List Ev) :
    disciplined h (e :: r) =
      (e.allowed h && if e = .ret then r.isEmpty else (!r.isEmpty && disciplined (heldAfter h [e]) r)) := by
  cases e <;> cases r <;> cases h <;> rfl

theorem disciplined_steps (h : Bool) (k : Nat) (rest : List Ev) (hr : rest ≠ []) :
    disciplined h (steps k ++ rest) = disciplined h rest := by
  induction k with
  | zero => rfl
  | succ k ih =>
    have hne : (steps k ++ rest).isEmpty = false := by simp [hr]
    rw [show steps (k + 1) ++ rest = .kernelStep :: (steps k ++ rest) from rfl, disciplined_cons, hne, ← ih]
    rfl

/-- soundness of the checker, the declarative meaning of `disciplined` (T2 `gil_discipline` rests on it): `heldAfter h
(tr.take i)` is the lock state in front of event `i` -/
theorem disciplined_sound : ∀ (tr : List Ev) (h : Bool), disciplined h tr = true →
    (∀ (i : Nat) (e : Ev), tr[i]? = some e →
        ((e = .release ∨ e = .validate ∨ e = .interpAccess ∨ e = .ret) → heldAfter h (tr.take i) = true) ∧
        (e = .acquire → heldAfter h (tr.take i) = false) ∧
        (e = .ret → i + 1 = tr.length)) ∧
    tr.getLast? = some .ret ∧ heldAfter h tr = true := by
  intro tr
  induction tr with
  | nil => intro h hd; cases hd
  | cons e r ih =>
    intro h hd
    rw [disciplined_cons, Bool.and_eq_true] at hd
    obtain ⟨hal, hd⟩ := hd
    have hhead : ((e = .release ∨ e = .validate ∨ e = .interpAccess ∨ e = .ret) → h = true) ∧
        (e = .acquire → h = false) := by
      cases e
      case acquire => exact ⟨fun hx => (by rcases hx with hx | hx | hx | hx <;> cases hx), fun _ => (Bool.not_eq_true' h).mp hal⟩
      case kernelStep | throw =>
        exact ⟨fun hx => (by rcases hx with hx | hx | hx | hx <;> cases hx), fun hx => Ev.noConfusion hx⟩
      all_goals exact ⟨fun _ => hal, fun hx => Ev.noConfusion hx⟩
    by_cases he : e = .ret
    · rw [if_pos he, List.isEmpty_iff] at hd
      subst hd he
      refine ⟨fun i e' hi => ?_, rfl, hal⟩
      cases i with
      | zero => cases Option.some.inj hi; exact ⟨fun _ => hal, fun hx => Ev.noConfusion hx, fun _ => rfl⟩
      | succ i => cases hi
    · rw [if_neg he, Bool.and_eq_true, Bool.not_eq_true', List.isEmpty_eq_false_iff] at hd
      obtain ⟨ih1, ih2, ih3⟩ := ih _ hd.2
      refine ⟨fun i e' hi => ?_, ?_, (heldAfter_cons h e r).trans ih3⟩
      · cases i with
        | zero =>
          cases Option.some.inj hi
          exact ⟨hhead.1, hhead.2, fun hx => absurd hx he⟩
        | succ i =>
          obtain ⟨a1, a2, a3⟩ := ih1 i e' hi
          rw [List.take_succ_cons, heldAfter_cons]
          exact ⟨a1, a2, fun hx => congrArg (· + 1) (a3 hx)⟩
      · obtain ⟨x, xs, rfl⟩ := List.exists_cons_of_ne_nil hd.1
        rw [List.getLast?_cons_cons]; exact ih2

end Mahotas.C12
