/-
C02: the scalar interface `ScalarsG` of `Proofs/C02Laws.lean` holds for **every integer dtype, signed included**,
and every element whose entries are either the marker `dt.lo` or a height in `[0, hi]` (a 0 entry of the structuring
element is a *member of height 0*); the centre-member condition, the top-hats and the `HiClear` criterion for such
dtypes. An unsigned dtype is the case `lo = 0`, where the marker is the entry 0.

Everything rests on the two normal forms `erodeSub_height` / `dilateAdd_height`: for a height `h` that is not the
marker, `erode_sub(·, h)` is subtraction saturating at `lo` and `dilate_add(·, h)` is addition saturating at `hi`
that keeps `lo` absorbing.
-/
import Mahotas.Proofs.C02Laws
namespace Mahotas.C02
open Mahotas Mahotas.C01

/-- an admissible entry of a structuring element: the marker `dt.lo` ("not in the element") or a
    non-negative height that the dtype can represent -/
def AdmissibleEntry (dt : DT) (h : Int) : Prop := h = dt.lo ∨ (0 ≤ h ∧ h ≤ dt.hi)

theorem admissible_of_lo0 {dt : DT} (hlo : dt.lo = 0) {h : Int} (hr : dt.InRange h) : AdmissibleEntry dt h :=
  Or.inr ⟨by rw [← hlo]; exact hr.1, hr.2⟩

theorem AdmissibleEntry.cases {dt : DT} {h : Int} (hadm : AdmissibleEntry dt h) :
    h = dt.lo ∨ (0 ≤ h ∧ h ≤ dt.hi ∧ h ≠ dt.lo) := by
  unfold AdmissibleEntry at hadm
  omega

theorem erodeSub_marker (dt : DT) (hnb : dt.isBool = false) (a : Int) : erodeSub dt a dt.lo = dt.hi := by
  unfold erodeSub; simp [hnb]

theorem dilateAdd_marker (dt : DT) (hnb : dt.isBool = false) (a : Int) : dilateAdd dt a dt.lo = dt.lo := by
  unfold dilateAdd
  simp only [hnb, Bool.false_eq_true, if_false, if_true]
  split
  · assumption
  · rfl

section height
variable (dt : DT) (wf : dt.WF) {a h : Int} (ha : dt.InRange a) (h0 : 0 ≤ h) (h1 : h ≤ dt.hi) (hm : h ≠ dt.lo)
include wf ha h0 h1 hm

theorem erodeSub_height : erodeSub dt a h = max dt.lo (a - h) := by
  rw [erodeSub_spec dt wf a h ha ⟨Int.le_trans wf.lo_nonpos h0, h1⟩ h0, if_neg hm, DT.clamp,
    Int.min_eq_left (by have := ha.2; omega)]

theorem dilateAdd_height : dilateAdd dt a h = if a = dt.lo then dt.lo else min (a + h) dt.hi := by
  rw [dilateAdd_spec dt wf a h ha ⟨Int.le_trans wf.lo_nonpos h0, h1⟩ h0]
  by_cases hal : a = dt.lo
  · rw [if_pos (Or.inl hal), if_pos hal]
  · have hlo := wf.lo_nonpos
    rw [if_neg (not_or.mpr ⟨hal, hm⟩), if_neg hal, DT.clamp,
      Int.max_eq_right (Int.le_min.mpr ⟨by have := ha.1; omega, by omega⟩)]

end height

theorem scalars_int (dt : DT) (wf : dt.WF) (sup : List (List Int × Int))
    (hsup : ∀ kh ∈ sup, AdmissibleEntry dt kh.2) : ScalarsG dt sup := by
  have hnb := wf.notBool
  have hlh : dt.lo < dt.hi := Int.lt_of_le_of_lt wf.lo_nonpos wf.hi_pos
  refine ⟨hlh, ?_, ?_, ?_, ?_, ?_⟩
  · intro kh hkh a ha
    rcases (hsup kh hkh).cases with hm | ⟨h0, h1, hm⟩
    · rw [hm, erodeSub_marker dt hnb]; exact ⟨Int.le_of_lt hlh, Int.le_refl _⟩
    · rw [erodeSub_height dt wf ha h0 h1 hm]
      exact ⟨Int.le_max_left _ _, Int.max_le.mpr ⟨Int.le_of_lt hlh, by have := ha.2; omega⟩⟩
  · intro kh hkh a ha
    rcases (hsup kh hkh).cases with hm | ⟨h0, h1, hm⟩
    · rw [hm, dilateAdd_marker dt hnb]; exact ⟨Int.le_refl _, Int.le_of_lt hlh⟩
    · rw [dilateAdd_height dt wf ha h0 h1 hm]
      split
      · exact ⟨Int.le_refl _, Int.le_of_lt hlh⟩
      · exact ⟨Int.le_min.mpr ⟨by have := ha.1; omega, Int.le_of_lt hlh⟩, Int.min_le_right _ _⟩
  · intro kh hkh a a' ha ha' hle
    rcases (hsup kh hkh).cases with hm | ⟨h0, h1, hm⟩
    · rw [hm, erodeSub_marker dt hnb, erodeSub_marker dt hnb]; exact Int.le_refl _
    · rw [erodeSub_height dt wf ha h0 h1 hm, erodeSub_height dt wf ha' h0 h1 hm]
      exact Int.max_le.mpr ⟨Int.le_max_left _ _, Int.le_trans (Int.sub_le_sub_right hle _) (Int.le_max_right _ _)⟩
  · intro kh hkh a a' ha ha' hle
    rcases (hsup kh hkh).cases with hm | ⟨h0, h1, hm⟩
    · rw [hm, dilateAdd_marker dt hnb, dilateAdd_marker dt hnb]; exact Int.le_refl _
    · rw [dilateAdd_height dt wf ha h0 h1 hm, dilateAdd_height dt wf ha' h0 h1 hm]
      by_cases hal : a = dt.lo
      · rw [if_pos hal]
        split
        · exact Int.le_refl _
        · exact Int.le_min.mpr ⟨by have := ha'.1; omega, Int.le_of_lt hlh⟩
      · rw [if_neg hal, if_neg (by have := ha.1; omega)]
        exact Int.le_min.mpr ⟨Int.le_trans (Int.min_le_left _ _) (Int.add_le_add_right hle _), Int.min_le_right _ _⟩
  · intro kh hkh a b ha hb hne hns
    rcases (hsup kh hkh).cases with hm | ⟨h0, h1, hm⟩
    · rw [hm, dilateAdd_marker dt hnb, erodeSub_marker dt hnb]
      exact ⟨fun _ => ha.2, fun _ => hb.1⟩
    · rw [dilateAdd_height dt wf ha h0 h1 hm, erodeSub_height dt wf hb h0 h1 hm, if_neg hne]
      have hns : b < dt.hi ∨ a + kh.2 ≤ dt.hi := hns.resolve_left (by rw [hnb]; exact Bool.false_ne_true)
      have := ha.1; have := hb.2
      -- `min (a + h) hi ≤ b ↔ a ≤ max lo (b - h)`: the `min` is idle because `b < hi` or `a + h ≤ hi` (`NoSat`),
      -- the `max` because `lo ≤ a`
      omega

/-- the centre of an element is a member for every integer dtype as soon as its entry is a height
    `0 ≤ h ≤ hi` other than the marker (for a signed dtype the height 0 qualifies) -/
theorem centreMember_int (dt : DT) (wf : dt.WF) (sup : List (List Int × Int))
    (kh : List Int × Int) (hkh : kh ∈ sup) (hz : C14.isZeroPos kh.1 = true) (h0 : 0 ≤ kh.2)
    (h1 : kh.2 ≤ dt.hi) (hne : kh.2 ≠ dt.lo) : CentreMember dt sup := by
  refine ⟨kh, hkh, hz, fun a ha => ?_, fun a ha hna => ?_⟩
  · rw [erodeSub_height dt wf ha h0 h1 hne]
    have := ha.1; omega
  · rw [dilateAdd_height dt wf ha h0 h1 hne, if_neg hna]
    have := ha.2; omega

/-- the unsigned case: the marker is the entry 0 -/
theorem centreMember_unsigned (dt : DT) (wf : dt.WF) (hlo : dt.lo = 0) (sup : List (List Int × Int))
    (kh : List Int × Int) (hkh : kh ∈ sup) (hz : C14.isZeroPos kh.1 = true) (hr : dt.InRange kh.2)
    (hne : kh.2 ≠ 0) : CentreMember dt sup :=
  centreMember_int dt wf sup kh hkh hz (hlo ▸ hr.1) hr.2 (hlo ▸ hne)

theorem submElem_of_le_int (dt : DT) (wf : dt.WF) {a b : Int} (ha : dt.InRange a) (hb : dt.InRange b)
    (hle : b ≤ a) : submElem dt a b = min (a - b) dt.hi := by
  rw [submElem_spec dt wf a b ha hb, DT.clamp, Int.max_eq_right]
  have := wf.lo_cases; have := wf.hi_pos
  omega

theorem hiClear_dilate_int (dt : DT) (wf : dt.WF) (sup : List (List Int × Int))
    (hsup : ∀ kh ∈ sup, AdmissibleEntry dt kh.2) (F : Img Int) (wfF : Dflt dt F)
    (hF : RangeImg dt F)
    (hcl : ∀ i, i < shapeSize F.shape → ∀ kh ∈ sup, kh.2 ≠ dt.lo → F.data.getD i 0 + kh.2 < dt.hi) :
    HiClear dt (dilateImg dt F sup) := by
  intro j hj
  have hlc := wf.lo_cases
  have hp := wf.hi_pos
  refine Or.inr (Int.lt_of_le_sub_one ?_)
  rw [dilate_le_iff dt F wfF sup j hj]
  refine ⟨by omega, fun i hi hne kh hkh _ => ?_⟩
  rcases (hsup kh hkh).cases with hm | ⟨h0, h1, hm⟩
  · rw [hm, dilateAdd_marker dt wf.notBool]; omega
  · rw [dilateAdd_height dt wf (hF i hi) h0 h1 hm, if_neg hne]
    have := hcl i hi kh hkh hm
    omega

end Mahotas.C02
