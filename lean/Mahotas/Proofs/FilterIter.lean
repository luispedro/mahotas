/-
F6 — `filterIter_refines`: the offset-table mechanism of `filter_iterator`
(`init_filter_offsets` + `init_filter_iterator` + `iterate_both` + `retrieve`) retrieves, at every
array position in C scan order and for every footprint element, exactly what the closed form says.
All ranks, all shapes with entries ≥ 1 (filter smaller than / equal to / larger than the array,
even and odd), all six border modes, any footprint.
-/
import Mahotas.Proofs.FilterIterAxis
import Mahotas.Proofs.FilterIterOdo
import Mahotas.Proofs.Index
import Mathlib.Tactic.Ring
namespace Mahotas
namespace FilterIter

/-- axes as pairs (array length, filter length), last axis first -/
abbrev Axes := List (Nat × Nat)

def AxPos (X : Axes) : Prop := ∀ x ∈ X, 0 < x.1 ∧ 0 < x.2

theorem AxPos.tail {x : Nat × Nat} {X : Axes} (h : AxPos (x :: X)) : AxPos X :=
  fun y hy => h y (by simp [hy])

theorem AxPos.head {x : Nat × Nat} {X : Axes} (h : AxPos (x :: X)) : 0 < x.1 ∧ 0 < x.2 :=
  h x (by simp)

def nReg (x : Nat × Nat) : Nat := nRegions x.1 x.2
def repDig (x : Nat × Nat) (r : Nat) : Int := ((rep x.1 x.2 r : Nat) : Int)

/-- the region (index of the set of offsets in the table) of the position with flat index `i` -/
def regionOf : Axes → Nat → Nat
  | [], _ => 0
  | (a, f) :: X, i => regionIdx a f (i % a) + nRegions a f * regionOf X (i / a)

/-- the position (one axis) `init_filter_offsets` was at when it stored the offsets later used at
    array coordinate `d` -/
def repAt (x : Nat × Nat) (d : Nat) : Int := ((rep x.1 x.2 (regionIdx x.1 x.2 d) : Nat) : Int)

theorem regionOf_lt (X : Axes) (hX : AxPos X) (i : Nat) : regionOf X i < radProd nReg X := by
  induction X generalizing i with
  | nil => simp [regionOf, radProd]
  | cons x X ih =>
    obtain ⟨a, f⟩ := x
    have ⟨ha, hf⟩ := hX.head
    simp only at ha hf
    simp only [regionOf, radProd, nReg]
    have h1 := regionIdx_lt (a := a) (f := f) (p := i % a) hf (Nat.mod_lt _ ha)
    have h2 := ih hX.tail (i / a)
    have h3 : nRegions a f * (regionOf X (i / a) + 1) ≤ nRegions a f * radProd nReg X :=
      Nat.mul_le_mul_left _ h2
    rw [Nat.mul_add, Nat.mul_one] at h3
    omega

theorem digits_regionOf (X : Axes) (hX : AxPos X) (i : Nat) :
    digits nReg repDig X (regionOf X i) = List.zipWith repAt X (unravelLE (X.map Prod.fst) i) := by
  induction X generalizing i with
  | nil => rfl
  | cons x X ih =>
    obtain ⟨a, f⟩ := x
    have ⟨ha, hf⟩ := hX.head
    simp only at ha hf
    have h1 := regionIdx_lt (a := a) (f := f) (p := i % a) hf (Nat.mod_lt _ ha)
    have hn : 0 < nRegions a f := nRegions_pos ha hf
    simp only [digits, regionOf, nReg, repDig, List.map_cons, unravelLE, List.zipWith_cons_cons, repAt]
    rw [Nat.add_mul_mod_self_left, Nat.mod_eq_of_lt h1, Nat.add_mul_div_left _ _ hn,
      Nat.div_eq_of_lt h1, Nat.zero_add, ih hX.tail]

theorem posOdo (X : Axes) (hX : AxPos X) (l : Nat) :
    odoRev posSucc X (digits nReg repDig X l) = digits nReg repDig X (l + 1) := by
  apply odoRev_digits
  · intro x _; simp [repDig, rep_zero]
  · intro x hx; exact nRegions_pos (hX x hx).1 (hX x hx).2
  · intro x _ r _
    obtain ⟨a, f⟩ := x
    exact posSucc_rep

/-- an odometer whose digits are the counter values themselves: `succ` increments below the radix and carries at it -/
theorem natOdo (succ : Nat → Int → Option Int) (S : List Nat) (hS : ∀ n ∈ S, 0 < n)
    (hsucc : ∀ n r : Nat, r < n → succ n (r : Int) = if r + 1 < n then some ((r : Int) + 1) else none) (i : Nat) :
    odoRev succ S (digits id natDig S i) = digits id natDig S (i + 1) :=
  odoRev_digits succ id natDig S (fun _ _ => rfl) hS (fun n _ r hr => hsucc n r hr) i

theorem coordOdo (F : List Nat) (hF : ∀ f ∈ F, 0 < f) (k : Nat) :
    odoRev coordSucc F (digits id natDig F k) = digits id natDig F (k + 1) :=
  natOdo coordSucc F hF (fun n r _ => coordSucc_natCast n r) k

theorem itOdo (A : List Nat) (hA : ∀ a ∈ A, 0 < a) (i : Nat) :
    odoRev itSucc A (digits id natDig A i) = digits id natDig A (i + 1) := by
  refine natOdo itSucc A hA (fun n r hr => ?_) i
  unfold itSucc
  by_cases h : r + 1 < n
  · rw [if_pos h, if_pos (by omega)]
  · rw [if_neg h, if_neg (by omega)]

/-! ### `init_filter_iterator`: the reversed arrays, last axis first -/

def stepI (a f : Nat) : Int := if a < f then (a : Int) else (f : Int)

theorem stepI_eq (a f : Nat) : stepI a f = ((nRegions a f : Nat) : Int) := by
  unfold stepI nRegions; split <;> rfl

def mkAx (a f : Nat) (stride : Int) : AxisIt :=
  { stride := stride, backstride := (stepI a f - 1) * stride,
    minbound := (f : Int) / 2, maxbound := (a : Int) - (f : Int) + (f : Int) / 2 }

/-- the four arrays of `init_filter_iterator` after the `std::reverse`s, by a running product -/
def axLE (s : Int) : Axes → List AxisIt
  | [] => []
  | (a, f) :: X => mkAx a f s :: axLE (s * stepI a f) X

def stepProd : Axes → Int
  | [] => 1
  | (a, f) :: X => stepI a f * stepProd X

theorem stepProd_append (X Y : Axes) : stepProd (X ++ Y) = stepProd X * stepProd Y := by
  induction X with
  | nil => simp [stepProd]
  | cons x X ih => obtain ⟨a, f⟩ := x; simp only [List.cons_append, stepProd, ih]; ring

theorem stepProd_reverse (X : Axes) : stepProd X.reverse = stepProd X := by
  induction X with
  | nil => rfl
  | cons x X ih =>
    obtain ⟨a, f⟩ := x
    simp only [List.reverse_cons, stepProd_append, ih, stepProd]; ring

theorem axLE_snoc (s : Int) (X : Axes) (a f : Nat) :
    axLE s (X ++ [(a, f)]) = axLE s X ++ [mkAx a f (s * stepProd X)] := by
  induction X generalizing s with
  | nil => simp [axLE, stepProd]
  | cons x X ih =>
    obtain ⟨a1, f1⟩ := x
    simp only [List.cons_append, axLE, ih, stepProd]
    rw [Int.mul_assoc]

theorem initAxes_unfold (fsz : Int) (a f : Nat) (as fs : List Nat) :
    initAxes fsz (a :: as) (f :: fs) =
      mkAx a f (match initAxes fsz as fs, as, fs with
                | r :: _, a1 :: _, f1 :: _ => r.stride * stepI a1 f1
                | _, _, _ => fsz) :: initAxes fsz as fs := rfl

/-- the stride the axis loop gives the next slower axis is `filter_size ×` the steps of all faster axes -/
theorem initAxes_stride (fsz : Int) : ∀ (as fs : List Nat),
    (match initAxes fsz as fs, as, fs with
      | r :: _, a1 :: _, f1 :: _ => r.stride * stepI a1 f1
      | _, _, _ => fsz) = fsz * stepProd (as.zip fs)
  | [], _ => by simp [initAxes, stepProd]
  | _ :: _, [] => by simp [initAxes, stepProd]
  | a :: as, f :: fs => by
    rw [initAxes_unfold]
    simp only [mkAx, List.zip_cons_cons, stepProd]
    rw [initAxes_stride fsz as fs]; ring

theorem initAxes_cons (fsz : Int) (a f : Nat) (as fs : List Nat) :
    initAxes fsz (a :: as) (f :: fs) =
      mkAx a f (fsz * stepProd (as.zip fs)) :: initAxes fsz as fs := by
  rw [initAxes_unfold, initAxes_stride]

theorem initAxes_reverse (fsz : Int) (as fs : List Nat) :
    (initAxes fsz as fs).reverse = axLE fsz (as.zip fs).reverse := by
  induction as generalizing fs with
  | nil => simp [initAxes, axLE]
  | cons a as ih =>
    cases fs with
    | nil => simp [initAxes, axLE]
    | cons f fs =>
      rw [initAxes_cons, List.reverse_cons, ih, List.zip_cons_cons, List.reverse_cons, axLE_snoc,
        stepProd_reverse]

/-! ### `iterate_both`: the table pointer follows the region of the position -/

/-- invariant of the carry loop: if the pointer is at (running stride) × (region of `i`) before
    `iterate_both`, it is at (running stride) × (region of `i+1`) afterwards -/
theorem iterateBoth_regionOf (X : Axes) (hX : AxPos X) (s c0 : Int) (i : Nat) :
    iterateBoth (axLE s X) (digits id natDig (X.map Prod.fst) i) (X.map Prod.fst)
        (c0 + s * ((regionOf X i : Nat) : Int)) = c0 + s * ((regionOf X (i + 1) : Nat) : Int) := by
  induction X generalizing s c0 i with
  | nil => simp [iterateBoth, axLE, regionOf]
  | cons x X ih =>
    obtain ⟨a, f⟩ := x
    have ⟨ha, hf⟩ := hX.head
    simp only at ha hf
    simp only [List.map_cons, digits, axLE, iterateBoth, id, natDig, mkAx, regionOf]
    have hsd := succ_divmod i a ha
    have hlt := Nat.mod_lt i ha
    by_cases h : i % a + 1 < a
    · obtain ⟨e1, e2⟩ := hsd.1 h
      have c : ((i % a : Nat) : Int) < (a : Int) - 1 := by omega
      simp only [c, if_true, e1, e2]
      rw [regionIdx_succ]
      by_cases hc : ((i % a : Nat) : Int) < (f : Int) / 2 ∨
          ((i % a : Nat) : Int) ≥ (a : Int) - (f : Int) + (f : Int) / 2
      · simp only [hc, if_true]; push_cast; ring
      · simp only [hc, if_false]; push_cast; ring
    · obtain ⟨e1, e2⟩ := hsd.2 h
      have c : ¬ ((i % a : Nat) : Int) < (a : Int) - 1 := by omega
      simp only [c, if_false, e1, e2]
      have e3 : i % a = a - 1 := by omega
      rw [e3, regionIdx_last a f, regionIdx_zero]
      have hn := nRegions_pos ha hf
      have e4 : ((nRegions a f - 1 : Nat) : Int) = ((nRegions a f : Nat) : Int) - 1 := by omega
      have e5 : c0 + s * ((nRegions a f - 1 + nRegions a f * regionOf X (i / a) : Nat) : Int)
            - (stepI a f - 1) * s
          = c0 + (s * stepI a f) * ((regionOf X (i / a) : Nat) : Int) := by
        rw [stepI_eq]; push_cast; rw [e4]; ring
      rw [e5, ih hX.tail, stepI_eq]
      push_cast; ring

/-- the axes of a call, last axis first -/
def axesOf (ashape fshape : List Nat) : Axes := (ashape.zip fshape).reverse

theorem axesOf_fst (ashape fshape : List Nat) (hlen : ashape.length = fshape.length) :
    (axesOf ashape fshape).map Prod.fst = ashape.reverse := by
  unfold axesOf
  rw [List.map_reverse, List.map_fst_zip (by omega)]

theorem axesOf_pos (ashape fshape : List Nat) (ha : ∀ a ∈ ashape, 0 < a) (hf : ∀ f ∈ fshape, 0 < f) :
    AxPos (axesOf ashape fshape) := by
  intro x hx
  unfold axesOf at hx
  rw [List.mem_reverse] at hx
  obtain ⟨a, f⟩ := x
  have := List.of_mem_zip hx
  exact ⟨ha a this.1, hf f this.2⟩

theorem offsetsSize_eq (ashape fshape : List Nat) :
    offsetsSize ashape fshape = radProd nReg (axesOf ashape fshape) := by
  unfold axesOf
  rw [radProd_reverse]
  induction ashape generalizing fshape with
  | nil => simp [offsetsSize, radProd]
  | cons a as ih =>
    cases fshape with
    | nil => simp [offsetsSize, radProd]
    | cons f fs =>
      simp only [offsetsSize, List.zip_cons_cons, radProd, nReg, nRegions, ih fs]

theorem regionOf_zero (X : Axes) : regionOf X 0 = 0 := by
  induction X with
  | nil => rfl
  | cons x X ih =>
    obtain ⟨a, f⟩ := x
    simp [regionOf, regionIdx_zero, ih]

theorem zeros_reverse {α : Type} (l : List α) :
    (l.reverse.map fun _ => (0 : Int)) = l.map fun _ => (0 : Int) := by
  simp [List.map_const']

/-- the state of the walk after `n` calls of `iterate_both`: the array iterator is at the position
    with flat index `n` and the table pointer at `size × (region of that position)` -/
theorem stateAfter_eq (m : Mode) (ashape fshape : List Nat) (fp : Array Bool)
    (hlen : ashape.length = fshape.length)
    (ha : ∀ a ∈ ashape, 0 < a) (hf : ∀ f ∈ fshape, 0 < f) (n : Nat) :
    stateAfter (mkFIter m ashape fshape fp) ashape n =
      { posRev := digits id natDig ashape.reverse n,
        cur := ((footprintSize fshape fp : Nat) : Int) *
                 ((regionOf (axesOf ashape fshape) n : Nat) : Int) } := by
  induction n with
  | zero =>
    simp only [stateAfter, initState, regionOf_zero]
    rw [digits_zero id natDig ashape.reverse (fun _ _ => rfl), zeros_reverse]
    simp
  | succ n ih =>
    simp only [stateAfter, ih, step]
    have hits : (mkFIter m ashape fshape fp).its =
        axLE ((footprintSize fshape fp : Nat) : Int) (axesOf ashape fshape) := by
      simp only [mkFIter, initFilterOffsets, initFilterIterator, initAxes_reverse, axesOf]
    rw [hits, itOdo _ (fun a h => ha a (List.mem_reverse.mp h))]
    congr 1
    have := iterateBoth_regionOf (axesOf ashape fshape) (axesOf_pos ashape fshape ha hf)
      ((footprintSize fshape fp : Nat) : Int) 0 n
    rw [axesOf_fst ashape fshape hlen, Int.zero_add, Int.zero_add] at this
    exact this

/-! ### `init_filter_offsets`: the structure of the table -/

/-- filter flat indices of the footprint elements, in the order they are stored -/
def fpIdx (fshape : List Nat) (fp : Array Bool) : List Nat :=
  (List.range (shapeSize fshape)).filter fun kk => fp.getD kk false

/-- `coordinates` (last axis first) when the `kk` loop is at filter element `k` -/
def digC (fshape : List Nat) (k : Nat) : List Int := digits id natDig fshape.reverse k

/-- the offsets stored for one region, computed at `position = pR.reverse` -/
def regionEntries (m : Mode) (ashape fshape : List Nat) (fp : Array Bool) (pR : List Int) : List Entry :=
  (fpIdx fshape fp).map fun k => entry m ashape fshape (digC fshape k).reverse pR.reverse

theorem regionEntries_length (m : Mode) (ashape fshape : List Nat) (fp : Array Bool) (pR : List Int) :
    (regionEntries m ashape fshape fp pR).length = footprintSize fshape fp := by
  simp [regionEntries, fpIdx, footprintSize]

theorem kkLoop_spec (m : Mode) (ashape fshape : List Nat) (fp : Array Bool)
    (hf : ∀ f ∈ fshape, 0 < f) (pR : List Int) (n kk : Nat) :
    kkLoop m ashape fshape fp pR n kk (digC fshape kk) =
      (((List.range' kk n).filter fun k => fp.getD k false).map
          (fun k => entry m ashape fshape (digC fshape k).reverse pR.reverse),
       digC fshape (kk + n)) := by
  induction n generalizing kk with
  | zero => simp [kkLoop]
  | succ n ih =>
    have hodo : odoRev coordSucc fshape.reverse (digC fshape kk) = digC fshape (kk + 1) :=
      coordOdo _ (fun f h => hf f (List.mem_reverse.mp h)) kk
    simp only [kkLoop, hodo, ih (kk + 1)]
    rw [List.range'_succ, List.filter_cons]
    have e : kk + 1 + n = kk + (n + 1) := by omega
    by_cases hb : fp.getD kk false = true
    · simp only [hb, if_true, List.map_cons, e]
    · simp only [hb, e]; simp

theorem digC_size (fshape : List Nat) (hf : ∀ f ∈ fshape, 0 < f) :
    digC fshape (0 + shapeSize fshape) = digC fshape 0 := by
  unfold digC
  have := digits_radProd id natDig fshape.reverse (fun f h => hf f (List.mem_reverse.mp h))
  rw [radProd_id, shapeSize_reverse] at this
  rw [Nat.zero_add, this]

/-- entry `size·L + j` of what the region loop stores is entry `j` of the `L`-th region visited -/
theorem llLoop_get (m : Mode) (ashape fshape : List Nat) (fp : Array Bool)
    (ha : ∀ a ∈ ashape, 0 < a) (hf : ∀ f ∈ fshape, 0 < f)
    (n l L j : Nat) (hL : L < n) (hj : j < footprintSize fshape fp) :
    (llLoop m ashape fshape fp n (digC fshape 0)
        (digits nReg repDig (axesOf ashape fshape) l))[footprintSize fshape fp * L + j]? =
      (regionEntries m ashape fshape fp (digits nReg repDig (axesOf ashape fshape) (l + L)))[j]? := by
  induction n generalizing l L with
  | zero => omega
  | succ n ih =>
    simp only [llLoop]
    rw [kkLoop_spec m ashape fshape fp hf, digC_size fshape hf, ← List.range_eq_range']
    have hodo : odoRev posSucc (ashape.zip fshape).reverse (digits nReg repDig (axesOf ashape fshape) l)
        = digits nReg repDig (axesOf ashape fshape) (l + 1) :=
      posOdo (axesOf ashape fshape) (axesOf_pos ashape fshape ha hf) l
    rw [hodo]
    have hlen := regionEntries_length m ashape fshape fp (digits nReg repDig (axesOf ashape fshape) l)
    unfold regionEntries fpIdx at hlen
    cases L with
    | zero =>
      rw [Nat.mul_zero, Nat.zero_add, Nat.add_zero, List.getElem?_append_left (by rw [hlen]; exact hj)]
      rfl
    | succ L =>
      rw [List.getElem?_append_right (by rw [hlen, Nat.mul_add]; omega), hlen]
      have e1 : footprintSize fshape fp * (L + 1) + j - footprintSize fshape fp
          = footprintSize fshape fp * L + j := by rw [Nat.mul_add]; omega
      have e2 : l + (L + 1) = l + 1 + L := by omega
      rw [e1, e2]
      exact ih (l + 1) L (by omega)

/-! ### a table entry computed at the representative position is the closed form -/

/-- a table entry and the closed form, one axis at a time: both prepend the offset of the first axis to those of
    the others, flagged if either is -/
theorem entry_cons (m : Mode) (a f : Nat) (as fs : List Nat) (c p : Int) (cs ps : List Int) :
    entry m (a :: as) (f :: fs) (c :: cs) (p :: ps) =
      match axisOffset m a f c p, entry m as fs cs ps with
      | some o, some r => some (o :: r)
      | _, _ => none := by
  simp only [entry, axisOffset]
  cases fixOffset m (c - (f : Int) / 2 + p) a <;> cases entry m as fs cs ps <;> rfl

theorem closedForm_cons (m : Mode) (a f : Nat) (as fs : List Nat) (p k : Int) (ps ks : List Int) :
    closedForm m (a :: as) (f :: fs) (p :: ps) (k :: ks) =
      match axisOffset m a f k p, closedForm m as fs ps ks with
      | some o, some r => some (o :: r)
      | _, _ => none := by
  simp only [closedForm, centreOf, List.map_cons, subPos, addPos, fixPos, axisOffset]
  rw [show p + (k - ((f / 2 : Nat) : Int)) = k - (f : Int) / 2 + p by omega]
  cases fixOffset m (k - (f : Int) / 2 + p) a <;>
    cases fixPos m as (addPos ps (subPos ks (List.map (fun d => ((d / 2 : Nat) : Int)) fs))) <;>
    rfl

theorem closedForm_nil_pos (m : Mode) (as fs : List Nat) (ks : List Int) :
    closedForm m as fs [] ks = some [] := by
  cases as <;> simp [closedForm, addPos, fixPos, subPos]

theorem axisOffset_repAt (m : Mode) {a f p : Nat} {k : Int} (hk0 : 0 ≤ k) (hk1 : k < f) :
    axisOffset m a f k (repAt (a, f) p) = axisOffset m a f k (p : Int) :=
  axisOffset_rep m hk0 hk1

theorem entry_closedForm (m : Mode) : ∀ (as fs : List Nat) (ks : List Int) (ds : List Nat),
    as.length = fs.length → ds.length = as.length → inside fs ks = true →
    entry m as fs ks (List.zipWith repAt (as.zip fs) ds) = closedForm m as fs (ds.map Int.ofNat) ks
  | [], _, _, ds, _, hd, _ => by
    obtain rfl : ds = [] := by simpa using hd
    simp [entry, closedForm_nil_pos]
  | a :: as, f :: fs, k :: ks, d :: ds, hl, hd, hin => by
    rw [C01.inside_cons] at hin
    simp only [List.zip_cons_cons, List.zipWith_cons_cons, List.map_cons, Int.ofNat_eq_natCast]
    rw [entry_cons, closedForm_cons, axisOffset_repAt m hin.1.1 hin.1.2,
      entry_closedForm m as fs ks ds (by simpa using hl) (by simpa using hd) hin.2]
  | _ :: _, [], _, _, hl, _, _ => by simp at hl
  | _ :: _, _ :: _, _, [], _, hd, _ => by simp at hd
  | _ :: _, _ :: _, [], _ :: _, _, _, hin => by simp [inside] at hin

/-! ### from last-axis-first state to C-order coordinates -/

theorem digC_reverse (fshape : List Nat) (k : Nat) (hk : k < shapeSize fshape) :
    (digC fshape k).reverse = unravelI fshape k := by
  unfold digC unravelI
  rw [digits_eq_map, ← List.map_reverse, unravelLE_reverse fshape k hk]

/-- the position at which the offsets of the region of `i` were stored, in axis order -/
theorem regionDigits_reverse (ashape fshape : List Nat) (hlen : ashape.length = fshape.length)
    (ha : ∀ a ∈ ashape, 0 < a) (hf : ∀ f ∈ fshape, 0 < f) (i : Nat) (hi : i < shapeSize ashape) :
    (digits nReg repDig (axesOf ashape fshape) (regionOf (axesOf ashape fshape) i)).reverse =
      List.zipWith repAt (ashape.zip fshape) (unravel ashape i) := by
  rw [digits_regionOf _ (axesOf_pos ashape fshape ha hf), List.reverse_zipWith (by simp [unravelLE_length]),
    axesOf_fst ashape fshape hlen, unravelLE_reverse ashape i hi]
  simp [axesOf]

theorem mem_fpIdx_lt {fshape : List Nat} {fp : Array Bool} {k : Nat} (h : k ∈ fpIdx fshape fp) :
    k < shapeSize fshape := by
  unfold fpIdx at h
  exact List.mem_range.mp (List.mem_filter.mp h).1

theorem footprintCoords_eq (fshape : List Nat) (fp : Array Bool) :
    footprintCoords fshape fp = (fpIdx fshape fp).map (unravelI fshape) := rfl

/-- `filter_iterator::size()` is the number of footprint elements -/
theorem mkFIter_size (m : Mode) (ashape fshape : List Nat) (fp : Array Bool) :
    (mkFIter m ashape fshape fp).size = (footprintCoords fshape fp).length := by
  simp [mkFIter, initFilterOffsets, footprintSize, footprintCoords]

end FilterIter

open FilterIter in
/-- **F6.** For every rank, every array shape and filter shape with entries ≥ 1 (filter smaller than,
    equal to or larger than the array, even or odd), every border mode and every footprint:
    after `i` calls of `iterate_both` (`i <` number of elements) the array iterator is at the
    position `unravel ashape i` of the C scan order, and `retrieve(·, j, ·)` reads the table entry
    whose coordinate offsets are exactly those of the closed form at that position for the `j`-th
    footprint element — in every axis `fix(mode, p_d + k_d − ⌊fshape_d/2⌋, ashape_d) − p_d`, or the
    flag if some axis is flagged. (The table is `init_filter_offsets`, the pointer arithmetic
    `init_filter_iterator` + `iterate_both`, all as transliterated in `Model/FilterIter.lean`.) -/
theorem filterIter_refines (m : Mode) (ashape fshape : List Nat) (fp : Array Bool)
    (hlen : ashape.length = fshape.length)
    (ha : ∀ a ∈ ashape, 1 ≤ a) (hf : ∀ f ∈ fshape, 1 ≤ f)
    (i : Nat) (hi : i < shapeSize ashape)
    (j : Nat) (hj : j < (footprintCoords fshape fp).length) :
    retrieve (mkFIter m ashape fshape fp) (stateAfter (mkFIter m ashape fshape fp) ashape i) j =
      some (closedForm m ashape fshape (unravelI ashape i) ((footprintCoords fshape fp)[j])) := by
  have hX := axesOf_pos ashape fshape ha hf
  have hjs : j < footprintSize fshape fp := by
    simpa [footprintCoords, footprintSize] using hj
  have hjI : j < (fpIdx fshape fp).length := by
    simpa [footprintCoords_eq] using hj
  rw [stateAfter_eq m ashape fshape fp hlen ha hf i]
  unfold retrieve
  simp only [mkFIter, initFilterOffsets, List.getElem?_toArray]
  have hidx : ((footprintSize fshape fp : Nat) : Int) * ((regionOf (axesOf ashape fshape) i : Nat) : Int)
      + (j : Int) = ((footprintSize fshape fp * regionOf (axesOf ashape fshape) i + j : Nat) : Int) := by
    push_cast; rfl
  rw [hidx, Int.toNat_natCast]
  have hz1 : (fshape.map fun _ => (0 : Int)) = digC fshape 0 := by
    unfold digC
    rw [digits_zero id natDig fshape.reverse (fun _ _ => rfl), zeros_reverse]
  have hz2 : (ashape.map fun _ => (0 : Int)) = digits nReg repDig (axesOf ashape fshape) 0 := by
    rw [digits_zero nReg repDig _ (fun x _ => by simp [repDig, rep_zero])]
    simp [axesOf, List.map_const', hlen]
  rw [hz1, hz2, llLoop_get m ashape fshape fp ha hf _ 0 _ j
    (by rw [offsetsSize_eq]; exact regionOf_lt _ hX i) hjs]
  rw [Nat.zero_add]
  unfold regionEntries
  rw [List.getElem?_map, List.getElem?_eq_getElem hjI, Option.map_some]
  have hk := mem_fpIdx_lt (List.getElem_mem hjI)
  rw [digC_reverse fshape _ hk, regionDigits_reverse ashape fshape hlen ha hf i hi]
  have hin := C01.inside_unravelI fshape _ hk
  rw [entry_closedForm m ashape fshape _ (unravel ashape i) hlen (by simp [unravel_length]) hin]
  simp only [footprintCoords_eq, List.getElem_map]
  rfl

open FilterIter in
/-- the position part of F6: after `i` calls of `iterate_both` the array iterator (whose
    `position_` is stored reversed) is at the C-order position `unravel ashape i`. -/
theorem filterIter_position (m : Mode) (ashape fshape : List Nat) (fp : Array Bool)
    (hlen : ashape.length = fshape.length)
    (ha : ∀ a ∈ ashape, 1 ≤ a) (hf : ∀ f ∈ fshape, 1 ≤ f)
    (i : Nat) (hi : i < shapeSize ashape) :
    (stateAfter (mkFIter m ashape fshape fp) ashape i).posRev.reverse = unravelI ashape i := by
  rw [stateAfter_eq m ashape fshape fp hlen ha hf i]
  exact digC_reverse ashape i hi

open FilterIter in
/-- F6 for the element offsets the code actually stores (`offset += astrides[ii] * cc`): they are the
    image of the coordinate offsets under the linear map `elemOffset astrides`, whatever the strides. -/
theorem filterIter_refines_elemOffset (astrides : List Int) (m : Mode) (ashape fshape : List Nat)
    (fp : Array Bool) (hlen : ashape.length = fshape.length)
    (ha : ∀ a ∈ ashape, 1 ≤ a) (hf : ∀ f ∈ fshape, 1 ≤ f)
    (i : Nat) (hi : i < shapeSize ashape)
    (j : Nat) (hj : j < (footprintCoords fshape fp).length) :
    (retrieve (mkFIter m ashape fshape fp) (stateAfter (mkFIter m ashape fshape fp) ashape i) j).map
        (Option.map (elemOffset astrides)) =
      some ((closedForm m ashape fshape (unravelI ashape i) ((footprintCoords fshape fp)[j])).map
        (elemOffset astrides)) := by
  rw [filterIter_refines m ashape fshape fp hlen ha hf i hi j hj]
  rfl

namespace FilterIter

theorem mechanismWalk_go (fi : FIter) (ashape : List Nat) (k t : Nat) :
    mechanismWalk.go fi ashape k (stateAfter fi ashape t) =
      (List.range' t k).map fun i => (List.range fi.size).map fun j =>
        (retrieve fi (stateAfter fi ashape i) j).getD (some [2147483647]) := by
  induction k generalizing t with
  | zero => rfl
  | succ k ih =>
    rw [mechanismWalk.go, List.range'_succ, List.map_cons]
    congr 1
    exact ih (t + 1)

end FilterIter

open FilterIter in
/-- F6 as the driver prints it (op `f6`): the `table=` and `closed=` answers are the same list. -/
theorem filterIter_refines_walk (m : Mode) (ashape fshape : List Nat) (fp : Array Bool)
    (hlen : ashape.length = fshape.length)
    (ha : ∀ a ∈ ashape, 1 ≤ a) (hf : ∀ f ∈ fshape, 1 ≤ f) :
    mechanismWalk (mkFIter m ashape fshape fp) ashape (shapeSize ashape) =
      closedWalk m ashape fshape fp := by
  unfold mechanismWalk closedWalk allPos
  have h0 : initState ashape = stateAfter (mkFIter m ashape fshape fp) ashape 0 := rfl
  rw [h0, mechanismWalk_go, ← List.range_eq_range', List.map_map]
  apply List.map_congr_left
  intro i hi
  have hi' : i < shapeSize ashape := List.mem_range.mp hi
  apply List.ext_getElem
  · simp [mkFIter_size]
  · intro j h1 h2
    have hj : j < (footprintCoords fshape fp).length := by simpa using h2
    simp only [List.getElem_map, List.getElem_range, Function.comp]
    rw [filterIter_refines m ashape fshape fp hlen ha hf i hi' j hj]
    rfl

/-! ### which element is read -/

namespace FilterIter

theorem closedForm_none (m : Mode) (ashape fshape : List Nat) (p k : List Int) :
    closedForm m ashape fshape p k = none ↔
      fixPos m ashape (addPos p (subPos k (centreOf fshape))) = none := by
  simp [closedForm]

/-- the element read (`*(&*iterator + offset)`, i.e. position `p + offset`) is the one `fixPos` names -/
theorem closedForm_target (m : Mode) (ashape fshape : List Nat) (p k off : List Int)
    (hp : p.length = ashape.length) (hk : k.length = ashape.length) (hfl : fshape.length = ashape.length)
    (h : closedForm m ashape fshape p k = some off) :
    fixPos m ashape (addPos p (subPos k (centreOf fshape))) = some (addPos p off) := by
  unfold closedForm at h
  cases hq : fixPos m ashape (addPos p (subPos k (centreOf fshape))) with
  | none => simp [hq] at h
  | some q =>
    simp only [hq, Option.map_some, Option.some.injEq] at h
    have hc : (centreOf fshape).length = k.length := by simp [centreOf, hfl, hk]
    have h1 : (subPos k (centreOf fshape)).length = p.length := by
      rw [C01.subPos_length_of_eq k _ hc.symm, hk, hp]
    have h2 := fixPos_length m ashape _ q (by rw [C01.addPos_length_of_eq p _ h1.symm, hp]) hq
    rw [← h, C01.addPos_subPos p q (by rw [h2, hp])]

end FilterIter

/-! non-vacuity: a 1-D array of 5 under a filter of 3 (`nearest`): at the last position the third
    footprint element is clamped back onto the position itself; 2-D, filter larger than the array,
    `constant`: the element is flagged -/
example : FilterIter.retrieve (FilterIter.mkFIter .nearest [5] [3] #[true, true, true])
    (FilterIter.stateAfter (FilterIter.mkFIter .nearest [5] [3] #[true, true, true]) [5] 4) 2
    = some (some [0]) := by decide
example : FilterIter.closedForm .nearest [5] [3] [4] [2] = some [0] := by decide
example : FilterIter.closedForm .constant [2, 2] [3, 5] [1, 1] [0, 4] = none := by decide

end Mahotas
