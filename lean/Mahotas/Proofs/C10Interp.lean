/-
C10 — B8, `zoom_shift`: every `idxs[fi]` is the address of a position inside the array (`zsAccesses_address`).

The edge folding is the `mirror` rule of `fix_offset`; the odometer that fills `fcoordinates` /
`foffsets` keeps every coordinate in `[0, order]` and `off = Σ stride·ff`, on an edge or not.
-/
import Mahotas.Proofs.C10
import Mathlib.Tactic.Ring
namespace Mahotas.C10
open Mahotas

theorem zsFold_eq_mirror (len idx : Int) : fixOffset .mirror idx len = some (zsFold len idx) := by
  unfold fixOffset zsFold
  by_cases h1 : len ≤ 1
  · by_cases h2 : idx < 0
    · simp [h1, h2]
    · by_cases h3 : idx ≥ len
      · simp [h1, h2, h3]
      · simp [h1, h2, h3]; omega
  · simp only [h1, if_false]
    by_cases h2 : idx < 0
    · simp only [h2, if_true]
    · simp only [h2, if_false]
      by_cases h3 : idx ≥ len
      · simp only [h3, if_true]
      · simp only [h3, if_false]

theorem zsFold_range (len idx : Int) (h : 0 < len) : 0 ≤ zsFold len idx ∧ zsFold len idx < len :=
  fixOffset_range .mirror idx len h _ (zsFold_eq_mirror len idx)

theorem zsCoord_range (len : Int) (order : Nat) (start f : Int) (h : 0 < len) (hf0 : 0 ≤ f)
    (hf1 : f ≤ order) : 0 ≤ zsCoord len order start f ∧ zsCoord len order start f < len := by
  unfold zsCoord
  split
  · exact zsFold_range len _ h
  · rename_i he
    simp only [zsEdge, decide_eq_true_eq] at he
    omega

theorem zsCoords_inside (order : Nat) (shape : List Nat) (starts ff : List Int)
    (hpos : ∀ d ∈ shape, 0 < d) (hs : starts.length = shape.length) (hf : ff.length = shape.length)
    (hr : ∀ f ∈ ff, 0 ≤ f ∧ f ≤ (order : Int)) : inside shape (zsCoords shape order starts ff) = true := by
  have z := Zip₃.of_length hs hf
  clear hs hf
  induction z with
  | nil => rfl
  | @cons a as st sts f fs _ ih =>
    have ha : 0 < (a : Int) := by have := hpos a (by simp); omega
    have hc := zsCoord_range a order st f ha (hr f (by simp)).1 (hr f (by simp)).2
    simp only [zsCoords, inside, Bool.and_eq_true, decide_eq_true_eq]
    exact ⟨hc, ih (fun d hd => hpos d (by simp [hd])) (fun g hg => hr g (by simp [hg]))⟩

/-- the `on_edge` sum plus `oo` is the address of the folded coordinates -/
theorem zsEdgeSum_eq (order : Nat) (shape : List Nat) (ss starts ff : List Int)
    (h1 : ss.length = shape.length) (h2 : starts.length = shape.length) (h3 : ff.length = shape.length) :
    zsEdgeSum shape ss order starts ff + dot ss starts = dot ss (zsCoords shape order starts ff) := by
  have z := Zip₄.of_length h1 h2 h3
  clear h1 h2 h3
  induction z with
  | nil => rfl
  | @cons a as s ss st sts f fs _ ih =>
    simp only [zsEdgeSum, zsCoords, dot, zsCoord]
    rw [← ih]
    split <;> ring

/-- without any edge axis: `oo + foffsets[fi]` is the address of `start + ff` -/
theorem zsNormal_eq (order : Nat) (shape : List Nat) (ss starts ff : List Int)
    (h1 : ss.length = shape.length) (h2 : starts.length = shape.length) (h3 : ff.length = shape.length)
    (he : zsAnyEdge shape order starts = false) :
    dot ss starts + dot ss ff = dot ss (zsCoords shape order starts ff) := by
  have z := Zip₄.of_length h1 h2 h3
  clear h1 h2 h3
  induction z with
  | nil => rfl
  | @cons a as s ss st sts f fs _ ih =>
    simp only [zsAnyEdge, Bool.or_eq_false_iff] at he
    simp only [zsCoords, dot, zsCoord, he.1]
    rw [← ih he.2]
    simp only [Bool.false_eq_true, if_false]
    ring

/-- one odometer step keeps the coordinates in `[0, order]` and `off` in step with them -/
theorem zsOdoStep_spec (order : Int) (ho : 0 ≤ order) : ∀ (ss ff : List Int),
    ff.length = ss.length → (∀ f ∈ ff, 0 ≤ f ∧ f ≤ order) →
    (zsOdoStep order ss ff).1.length = ss.length ∧
    (∀ f ∈ (zsOdoStep order ss ff).1, 0 ≤ f ∧ f ≤ order) ∧
    dot ss (zsOdoStep order ss ff).1 = dot ss ff + (zsOdoStep order ss ff).2.1
  | [], [], _, _ => by simp [zsOdoStep, dot]
  | [], _ :: _, h, _ => by simp at h
  | _ :: _, [], h, _ => by simp at h
  | s :: ss, f :: fs, hl, hr => by
    obtain ⟨ih1, ih2, ih3⟩ :=
      zsOdoStep_spec order ho ss fs (Nat.succ.inj hl) (fun g hg => hr g (List.mem_cons_of_mem _ hg))
    have hf := hr f List.mem_cons_self
    have hlen : ∀ x : Int, (x :: (zsOdoStep order ss fs).1).length = (s :: ss).length := fun x => by
      rw [List.length_cons, ih1, List.length_cons]
    rw [zsOdoStep]
    by_cases h1 : (!(zsOdoStep order ss fs).2.2) = true
    · rw [if_pos h1]
      exact ⟨hlen f, List.forall_mem_cons.2 ⟨hf, ih2⟩, by simp only [dot]; omega⟩
    · rw [if_neg h1]
      by_cases h2 : f < order
      · rw [if_pos h2]
        exact ⟨hlen _, List.forall_mem_cons.2 ⟨by omega, ih2⟩, by simp only [dot]; rw [Int.mul_add, Int.mul_one]; omega⟩
      · rw [if_neg h2]
        obtain rfl : f = order := by omega
        exact ⟨hlen 0, List.forall_mem_cons.2 ⟨⟨Int.le_refl 0, ho⟩, ih2⟩, by simp only [dot]; rw [Int.mul_zero]; omega⟩

theorem dot_zeros (ss : List Int) : dot ss (ss.map fun _ => 0) = 0 := by
  induction ss with
  | nil => rfl
  | cons s ss ih => simp [dot, ih]

theorem zsOdo_spec (order : Int) (ho : 0 ≤ order) (ss : List Int) : ∀ n : Nat,
    (zsOdo order ss n).1.length = ss.length ∧ (∀ f ∈ (zsOdo order ss n).1, 0 ≤ f ∧ f ≤ order) ∧
    (zsOdo order ss n).2 = dot ss (zsOdo order ss n).1
  | 0 => by
    refine ⟨by simp [zsOdo], ?_, by simp [zsOdo, dot_zeros]⟩
    intro f hf
    simp only [zsOdo, List.mem_map] at hf
    obtain ⟨_, _, rfl⟩ := hf
    omega
  | n + 1 => by
    have ih := zsOdo_spec order ho ss n
    have st := zsOdoStep_spec order ho ss (zsOdo order ss n).1 ih.1 ih.2.1
    simp only [zsOdo]
    refine ⟨st.1, st.2.1, ?_⟩
    rw [st.2.2, ih.2.2]

theorem dot_cStrides : ∀ (shape : List Nat) (q : List Int), dot (cStrides shape) q = ravelZ shape q
  | [], _ => by simp [cStrides, dot, ravelZ]
  | _ :: _, [] => by simp [cStrides, dot, ravelZ]
  | d :: ds, p :: ps => by
    simp only [cStrides, dot, ravelZ, dot_cStrides ds ps]
    ring

theorem cStrides_length : ∀ shape : List Nat, (cStrides shape).length = shape.length
  | [] => rfl
  | _ :: ds => by simp [cStrides, cStrides_length ds]

/-- every `idxs[fi]` is the address `Σ stride·q` of a position `q` inside the array -/
theorem zsAccesses_address (shape : List Nat) (strides : List Int) (order : Nat) (starts : List Int)
    (hpos : ∀ d ∈ shape, 0 < d) (hs : strides.length = shape.length)
    (hst : starts.length = shape.length) :
    ∀ idx ∈ zsAccesses shape strides order starts,
      ∃ q, inside shape q = true ∧ idx = dot strides q := by
  intro idx hidx
  simp only [zsAccesses, List.mem_map] at hidx
  obtain ⟨fi, _, rfl⟩ := hidx
  obtain ⟨h1, h2, h3⟩ := zsOdo_spec order (by omega) strides fi
  refine ⟨zsCoords shape order starts (zsOdo order strides fi).1,
    zsCoords_inside order shape starts _ hpos hst (by omega) h2, ?_⟩
  simp only [zsIdx]
  split
  · exact zsEdgeSum_eq order shape strides starts _ hs hst (by omega)
  · rename_i he
    rw [h3]
    exact zsNormal_eq order shape strides starts _ hs hst (by omega) (by simpa using he)

theorem zsBase_range (m : Mode) (len c b : Int) (h : 0 < len) (hb : zsBase m len c = some b) :
    0 ≤ b ∧ b < len := by
  unfold zsBase at hb
  split at hb
  · exact fixOffset_range m c len h b hb
  · simp only [Option.some.injEq] at hb
    omega

theorem zsStarts_length (m : Mode) (order : Nat) : ∀ (shape : List Nat) (coord starts : List Int),
    coord.length = shape.length → zsStarts m order shape coord = some starts →
    starts.length = shape.length
  | [], [], starts, _, h => by simp [zsStarts] at h; simp [← h]
  | [], _ :: _, _, h, _ => by simp at h
  | _ :: _, [], _, h, _ => by simp at h
  | a :: as, c :: cs, starts, hl, h => by
    simp only [zsStarts] at h
    cases hb : zsBase m a c with
    | none => simp [hb] at h
    | some b =>
      cases hr : zsStarts m order as cs with
      | none => simp [hb, hr] at h
      | some r =>
        simp only [hb, hr, Option.some.injEq] at h
        subst h
        simp [zsStarts_length m order as cs r (by simpa using hl) hr]

end Mahotas.C10
