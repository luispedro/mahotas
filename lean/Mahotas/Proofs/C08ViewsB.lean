/-
C08 — the in-place row kernels over views (`Model/C08ViewsB.lean`) apply the owner's row transform and change no address
outside the view.

For every injective view (any strides) the logical content after the call is `C17.rowsPass` / `colsPass` of the logical
content before.
-/
import Mahotas.Model.C08ViewsB
import Mahotas.Proofs.InPlace
import Mathlib.Tactic.Ring
namespace Mahotas.C08
open Mahotas

theorem wr_same {α : Type} (m : Mem α) (a : Int) (x : α) : (wr m a x).rd a = x := by simp [wr]
theorem wr_other {α : Type} (m : Mem α) (a : Int) (x : α) (b : Int) (h : b ≠ a) : (wr m a x).rd b = m.rd b := by
  simp [wr, h]

theorem rowInPlace_spec {α : Type} (T : Nat → (Nat → α) → Nat → α) (N1 : Nat) (step data : Int) (m : Mem α)
    (hinj : ∀ x x' : Nat, x < N1 → x' < N1 → data + (x : Int) * step = data + (x' : Int) * step → x = x') :
    (∀ x : Nat, x < N1 →
      (rowInPlace T N1 step data m).rd (data + (x : Int) * step) = T N1 (fun p => m.rd (data + (p : Int) * step)) x) ∧
    (∀ a, (∀ x : Nat, x < N1 → a ≠ data + (x : Int) * step) → (rowInPlace T N1 step data m).rd a = m.rd a) := by
  unfold rowInPlace
  simp only [Int.mul_comm step]
  have h := foldl_blocks Mem.rd (fun x m' => wr m' (data + (x : Int) * step) (T N1 (fun p => m.rd (data + (p : Int) * step)) x))
    (fun x a => a = data + (x : Int) * step) N1 (fun x m' a _ ha => wr_other _ _ _ _ ha)
    (fun x x' a hx hx' e e' => hinj x x' hx hx' (e ▸ e'))
    (fun x m₁ m₂ _ _ a e => by subst e; rw [wr_same, wr_same]) m N1 (Nat.le_refl _)
  exact ⟨fun x hx => (h.1 x _ hx rfl).trans (wr_same _ _ _), h.2⟩

/-- the view addresses distinct positions at distinct addresses (no overlapping / zero strides): what a kernel that WRITES
through the view needs -/
def Inj2 (b s0 s1 : Int) (N0 N1 : Nat) : Prop :=
  ∀ y y' x x' : Nat, y < N0 → y' < N0 → x < N1 → x' < N1 →
    b + (y : Int) * s0 + (x : Int) * s1 = b + (y' : Int) * s0 + (x' : Int) * s1 → y = y' ∧ x = x'

/-- the row transform looks at its row only inside `[0, N)` -/
def Local {α : Type} (T : Nat → (Nat → α) → Nat → α) : Prop :=
  ∀ N f g, (∀ p, p < N → f p = g p) → ∀ x, T N f x = T N g x

theorem toIm_eq {α : Type} (m : Mem α) (v : View) (s0 s1 : Int) (hs : v.strides = [s0, s1]) (y x : Nat) :
    toIm m v y x = m.rd (v.base + (y : Int) * s0 + (x : Int) * s1) := by
  simp [toIm, hs]

theorem transposeView_shape (v : View) (N0 N1 : Nat) (s0 s1 : Int) (hsh : v.shape = [N0, N1]) (hst : v.strides = [s0, s1]) :
    (transposeView v).shape = [N1, N0] ∧ (transposeView v).strides = [s1, s0] ∧ (transposeView v).base = v.base := by
  unfold transposeView; rw [hsh, hst]; exact ⟨rfl, rfl, rfl⟩

theorem Inj2.swap {b s0 s1 : Int} {N0 N1 : Nat} (h : Inj2 b s0 s1 N0 N1) : Inj2 b s1 s0 N1 N0 :=
  fun y y' x x' hy hy' hx hx' e => (h x x' y y' hx hx' hy hy' (by omega)).symm

theorem toIm_transpose {α : Type} (m : Mem α) (v : View) (N0 N1 : Nat) (s0 s1 : Int)
    (hsh : v.shape = [N0, N1]) (hst : v.strides = [s0, s1]) (y x : Nat) :
    toIm m (transposeView v) y x = toIm m v x y := by
  obtain ⟨_, h2, h3⟩ := transposeView_shape v N0 N1 s0 s1 hsh hst
  rw [toIm_eq _ _ s1 s0 h2, toIm_eq _ v s0 s1 hst, h3]
  congr 1; ring

section Passes
variable {α : Type} (T : Nat → (Nat → α) → Nat → α) (hT : Local T) (m : Mem α) (v : View)
  (N0 N1 : Nat) (s0 s1 : Int) (hsh : v.shape = [N0, N1]) (hst : v.strides = [s0, s1])
  (hinj : Inj2 v.base s0 s1 N0 N1)
include hT hsh hst hinj

/-- **one native call** (`_convolve.haar(f)` etc.) on an injective 2-D view of any strides -/
theorem rowsInPlaceView_spec :
    (∀ y x, y < N0 → x < N1 → toIm (rowsInPlaceView T m v) v y x = C17.rowsPass T N1 (toIm m v) y x) ∧
    (∀ a, (∀ y x : Nat, y < N0 → x < N1 → a ≠ v.base + (y : Int) * s0 + (x : Int) * s1) →
      (rowsInPlaceView T m v).rd a = m.rd a) := by
  have row := fun (y : Nat) (m : Mem α) (hy : y < N0) =>
    rowInPlace_spec T N1 s1 (v.base + (y : Int) * s0) m fun x x' hx hx' e => (hinj y y x x' hy hy hx hx' e).2
  -- the kernel is a loop of row passes: block `y` is row `y` of the view
  have h := foldl_blocks Mem.rd (fun (y : Nat) m => rowInPlace T N1 s1 (v.base + (y : Int) * s0) m)
    (fun y a => ∃ x : Nat, x < N1 ∧ a = v.base + (y : Int) * s0 + (x : Int) * s1) N0
    (fun y m a hy ha => (row y m hy).2 a fun x hx e => ha ⟨x, hx, e⟩)
    (fun y y' a hy hy' ⟨x, hx, e⟩ ⟨x', hx', e'⟩ => (hinj y y' x x' hy hy' hx hx' (e ▸ e')).1)
    (fun y m₁ m₂ hy hm a ⟨x, hx, e⟩ => by
      subst e
      rw [(row y m₁ hy).1 x hx, (row y m₂ hy).1 x hx]
      exact hT N1 _ _ (fun p hp => hm _ ⟨p, hp, rfl⟩) x) m N0 (Nat.le_refl _)
  have hr : rowsInPlaceView T m v =
      (List.range N0).foldl (fun m (y : Nat) => rowInPlace T N1 s1 (v.base + (y : Int) * s0) m) m := by
    unfold rowsInPlaceView; rw [hsh, hst]
  rw [hr]
  refine ⟨fun y x hy hx => ?_, fun a ha => h.2 a fun y hy ⟨x, hx, e⟩ => ha y x hy hx e⟩
  rw [toIm_eq _ v s0 s1 hst, h.1 y _ hy ⟨x, hx, rfl⟩, (row y m hy).1 x hx]
  unfold C17.rowsPass
  congr 1
  funext p
  rw [toIm_eq _ v s0 s1 hst]

/-- **the call on the transposed view** `K(f.T)`, seen through `f`: every column is transformed -/
theorem colsInPlaceView_spec :
    (∀ y x, y < N0 → x < N1 →
      toIm (rowsInPlaceView T m (transposeView v)) v y x = C17.colsPass T N0 (toIm m v) y x) ∧
    (∀ a, (∀ y x : Nat, y < N0 → x < N1 → a ≠ v.base + (y : Int) * s0 + (x : Int) * s1) →
      (rowsInPlaceView T m (transposeView v)).rd a = m.rd a) := by
  obtain ⟨t1, t2, t3⟩ := transposeView_shape v N0 N1 s0 s1 hsh hst
  have p := rowsInPlaceView_spec T hT m (transposeView v) N1 N0 s1 s0 t1 t2 (t3 ▸ hinj.swap)
  constructor
  · intro y x hy hx
    rw [← toIm_transpose _ v N0 N1 s0 s1 hsh hst, p.1 x y hx hy]
    unfold C17.colsPass C17.rowsPass
    congr 1
    funext k
    exact toIm_transpose _ v N0 N1 s0 s1 hsh hst x k
  · intro a ha
    exact p.2 a (fun y x hy hx => by rw [t3]; have := ha x y hx hy; intro e; apply this; rw [e]; ring)

/-- `K(f); K(f.T)` (`haar`, `ihaar`, `daubechies`) -/
theorem rowsThenCols_spec :
    (∀ y x, y < N0 → x < N1 →
      toIm (rowsThenCols T m v) v y x = C17.colsPass T N0 (C17.rowsPass T N1 (toIm m v)) y x) ∧
    (∀ a, (∀ y x : Nat, y < N0 → x < N1 → a ≠ v.base + (y : Int) * s0 + (x : Int) * s1) →
      (rowsThenCols T m v).rd a = m.rd a) := by
  have p1 := rowsInPlaceView_spec T hT m v N0 N1 s0 s1 hsh hst hinj
  have p2 := colsInPlaceView_spec T hT (rowsInPlaceView T m v) v N0 N1 s0 s1 hsh hst hinj
  unfold rowsThenCols
  constructor
  · intro y x hy hx
    rw [p2.1 y x hy hx]
    exact hT N0 _ _ (fun k hk => p1.1 k x hk hx) y
  · intro a ha
    rw [p2.2 a ha]
    exact p1.2 a ha

/-- `K(f.T); K(f)` (`idaubechies`) -/
theorem colsThenRows_spec :
    (∀ y x, y < N0 → x < N1 →
      toIm (colsThenRows T m v) v y x = C17.rowsPass T N1 (C17.colsPass T N0 (toIm m v)) y x) ∧
    (∀ a, (∀ y x : Nat, y < N0 → x < N1 → a ≠ v.base + (y : Int) * s0 + (x : Int) * s1) →
      (colsThenRows T m v).rd a = m.rd a) := by
  have p1 := colsInPlaceView_spec T hT m v N0 N1 s0 s1 hsh hst hinj
  have p2 := rowsInPlaceView_spec T hT (rowsInPlaceView T m (transposeView v)) v N0 N1 s0 s1 hsh hst hinj
  unfold colsThenRows
  constructor
  · intro y x hy hx
    rw [p2.1 y x hy hx]
    exact hT N1 _ _ (fun k hk => p1.1 y k hy hk) x
  · intro a ha
    rw [p2.2 a ha]
    exact p1.2 a ha

end Passes

theorem passes_congr {α : Type} (T : Nat → (Nat → α) → Nat → α) (hT : Local T) (N0 N1 : Nat) (g g' : C17.Im α)
    (h : ∀ y x, y < N0 → x < N1 → g y x = g' y x) (y x : Nat) :
    C17.colsPass T N0 (C17.rowsPass T N1 g) y x = C17.colsPass T N0 (C17.rowsPass T N1 g') y x := by
  unfold C17.colsPass C17.rowsPass
  apply hT
  intro k hk
  apply hT
  intro p hp
  exact h k p hk hp

end Mahotas.C08
