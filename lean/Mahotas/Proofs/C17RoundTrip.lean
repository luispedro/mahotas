/-
C17 — the row kernels evaluated in *rounded* arithmetic.

`RV K fl` wraps an ordered field `K`; every `+ − × ÷` of the polymorphic row kernels `waveletRow` / `iwaveletRow`
(the very definitions the driver runs at `Float`) is followed by the rounding function `fl`. Under the standard model of
floating-point arithmetic, `|fl x − x| ≤ u·|x|`, the loops' own order of operations gives

* analysis:  `|w̃ f [k] − w f [k]| ≤ ((1+u)^(2n) − 1)·C·M`,
* synthesis: `|ĩw g [x] − iw g [x]| ≤ ((1+u)^(2n+2) − 1)·C·G`,
* a pass with error factor `γ_a` applied to a row already within `γ_m·B` of a row bounded by `B`: within `γ_(a+m)·C·B` of the
  exact pass (`pass_round`) — what chains the passes of the row round trip and of the 2-D pipeline (`forward_2d`),

`n` the number of coefficients, `C = Σ|c_k|`, `M = max|f|`, `G = max|g|`, `γ_k = (1+u)^(2k) − 1`.
-/
import Mahotas.Proofs.C17General
import Mahotas.Proofs.C17Round
import Mathlib.Tactic.Linarith
import Mathlib.Tactic.Ring
import Mathlib.Algebra.Order.Field.Basic

-- one section carries the order classes; the instances of `RV`, the `_ex` lemmas, `foldl_v` and the `gam` identities use
-- only `[Field K]`
set_option linter.unusedSectionVars false

namespace Mahotas.C17.RT
open Mahotas Mahotas.C17

/-- a value of `K` computed in rounded arithmetic -/
structure RV (K : Type) (fl : K → K) where
  v : K

section
variable {K : Type} [Field K] [LinearOrder K] [IsStrictOrderedRing K] {fl : K → K}

instance : Add (RV K fl) := ⟨fun a b => ⟨fl (a.v + b.v)⟩⟩
instance : Sub (RV K fl) := ⟨fun a b => ⟨fl (a.v - b.v)⟩⟩
instance : Mul (RV K fl) := ⟨fun a b => ⟨fl (a.v * b.v)⟩⟩
instance : Div (RV K fl) := ⟨fun a b => ⟨fl (a.v / b.v)⟩⟩
/-- negation, and the conversion of the literals `0`, `2` and of inputs, are exact -/
instance : Neg (RV K fl) := ⟨fun a => ⟨-a.v⟩⟩
instance : NatCast (RV K fl) := ⟨fun n => ⟨(n : K)⟩⟩
instance : IntCast (RV K fl) := ⟨fun n => ⟨(n : K)⟩⟩

/-- an exactly representable value -/
def ex (x : K) : RV K fl := ⟨x⟩

theorem zero_ex : (zero : RV K fl) = ex 0 := by
  show (⟨((0 : Nat) : K)⟩ : RV K fl) = ⟨0⟩
  rw [Nat.cast_zero]

theorem two_ex : (two : RV K fl) = ex 2 := by
  show (⟨((2 : Nat) : K)⟩ : RV K fl) = ⟨2⟩
  rw [Nat.cast_ofNat]

theorem getD_ex (cs : List K) (i : Nat) : (cs.map (ex (fl := fl))).getD i (ex 0) = ex (cs.getD i 0) := by
  simp only [List.getD_eq_getElem?_getD, List.getElem?_map]
  cases cs[i]? <;> rfl

theorem access_ex (N : Nat) (f : Nat → K) (p : Int) :
    access N (fun q => ex (fl := fl) (f q)) p = ex (access N f p) := by
  unfold access
  split
  · rfl
  · rw [zero_ex, zero_eq]

theorem neg_ex (c : K) : -(ex c : RV K fl) = ex (-c) := rfl

/-- `(1+u)^(2k) − 1`: the relative error of `k` multiply–add steps -/
def gam (u : K) (k : Nat) : K := (1 + u) ^ (2 * k) - 1

theorem gam_nonneg {u : K} (hu : 0 ≤ u) (k : Nat) : 0 ≤ gam u k :=
  sub_nonneg.mpr (one_le_pow₀ (le_add_of_nonneg_right hu))

theorem gam_mono {u : K} (hu : 0 ≤ u) {j k : Nat} (h : j ≤ k) : gam u j ≤ gam u k :=
  sub_le_sub_right (pow_le_pow_right₀ (le_add_of_nonneg_right hu) (Nat.mul_le_mul_left 2 h)) 1

theorem gam_zero (u : K) : gam u 0 = 0 := by
  unfold gam
  rw [Nat.mul_zero, pow_zero, sub_self]

theorem gam_succ (u : K) (k : Nat) : (1 + u) ^ 2 * (gam u k + 1) - 1 = gam u (k + 1) := by
  unfold gam
  rw [Nat.mul_add, pow_add]
  ring

/-- relative errors compose: `(1 + γ_a)·(1 + γ_m) = 1 + γ_(a+m)` -/
theorem gam_add (u : K) (a m : Nat) : gam u a * (1 + gam u m) + gam u m = gam u (a + m) := by
  unfold gam
  rw [Nat.mul_add, pow_add]
  ring

theorem foldl_v (a b : Nat → K) (l : List Nat) (acc : RV K fl) :
    (l.foldl (fun acc i => acc + ex (a i) * ex (b i)) acc).v
      = l.foldl (fun acc i => fl (acc + fl (a i * b i))) acc.v := by
  induction l generalizing acc with
  | nil => rfl
  | cons i l ih => exact ih _

theorem sum_abs_nonneg {ι : Type} (l : List ι) (F : ι → K) : 0 ≤ (l.map fun i => |F i|).sum :=
  List.sum_nonneg fun v hv => by
    obtain ⟨j, _, rfl⟩ := List.mem_map.mp hv
    exact abs_nonneg _

/-- the accumulation loop `acc += a_i·b_i` from zero in rounded arithmetic against the exact sum: `fold_round`, with
    its factor `(1+u)^(n+1) − 1` weakened to `gam u n` (`n ≥ 1`; for the empty list both sides vanish) -/
theorem rfold_err0 {u : K} (hu : 0 ≤ u) (hfl : ∀ x, |fl x - x| ≤ u * |x|) (a b : Nat → K) (l : List Nat) :
    |(l.foldl (fun acc i => acc + ex (a i) * ex (b i)) (ex 0 : RV K fl)).v - (l.map fun i => a i * b i).sum|
      ≤ gam u l.length * (l.map fun i => |a i * b i|).sum := by
  rw [foldl_v]
  cases l with
  | nil => simp only [List.foldl_nil, List.map_nil, List.sum_nil, mul_zero, ex, sub_zero, abs_zero, le_refl]
  | cons j l =>
    have h := (fold_round fl u hu hfl a b (j :: l)).1
    rw [foldl_add_eq, foldl_add_eq, zero_add, zero_add] at h
    refine h.trans (mul_le_mul_of_nonneg_right (sub_le_sub_right ?_ 1) (sum_abs_nonneg _ _))
    exact pow_le_pow_right₀ (le_add_of_nonneg_right hu) (by rw [List.length_cons]; omega)

theorem sum_abs_mul_le {ι : Type} (l : List ι) (a b : ι → K) (M : K) (hb : ∀ j, |b j| ≤ M) :
    (l.map fun j => |a j * b j|).sum ≤ (l.map fun j => |a j|).sum * M := by
  rw [← List.sum_map_mul_right]
  exact List.sum_le_sum fun j _ => (abs_mul _ _).trans_le (mul_le_mul_of_nonneg_left (hb j) (abs_nonneg _))

/-- `C = Σ_k |c_k|` -/
def absSum (cs : List K) : K := ((List.range cs.length).map fun k => |cs.getD k 0|).sum

theorem absSum_nonneg (cs : List K) : 0 ≤ absSum cs := sum_abs_nonneg _ _

theorem absSum_reflect (cs : List K) :
    ((List.range cs.length).map fun k => |cs.getD (cs.length - k - 1) 0|).sum = absSum cs := by
  unfold absSum
  rw [listsum_range, listsum_range, ← Finset.sum_range_reflect (fun k => |cs.getD k 0|) cs.length]
  exact Finset.sum_congr rfl fun k _ => by rw [Nat.sub_right_comm]

/-- the weights of the high-pass analysis sum -/
theorem absSum_signed (cs : List K) :
    ((List.range cs.length).map fun k => |if k % 2 = 0 then -(cs.getD k 0) else cs.getD k 0|).sum = absSum cs := by
  simp only [apply_ite abs, abs_neg, ite_self]
  rfl

/-- the weights of the high-pass synthesis sum -/
theorem absSum_reflect_signed (cs : List K) :
    ((List.range cs.length).map fun k =>
      |if k % 2 = 0 then cs.getD (cs.length - k - 1) 0 else -(cs.getD (cs.length - k - 1) 0)|).sum = absSum cs := by
  simp only [apply_ite abs, abs_neg, ite_self]
  exact absSum_reflect cs

/-- both halves of a row bounded by `G`, as `iwaveletRow` reads them -/
theorem abs_access_half_le (N : Nat) (g : Nat → K) (G : K) (hG : 0 ≤ G) (hg : ∀ p, p < N → |g p| ≤ G) (p : Int) :
    |access (N / 2) g p| ≤ G ∧ |access (N / 2) (fun k => g (N / 2 + k)) p| ≤ G :=
  ⟨abs_access_le _ _ G hG (fun q hq => hg q (by omega)) p, abs_access_le _ _ G hG (fun q hq => hg _ (by omega)) p⟩

/-! ### one tap accumulation

Taps `l` drawn from `range n`, weights `w` with `Σ_{i<n} |w i| ≤ C`, samples `d` bounded by `G`: every sum of the two row
kernels is an instance. -/

theorem taps_le {l : List Nat} {n : Nat} (hl : l.Sublist (List.range n)) (w d : Nat → K) (C G : K) (hG : 0 ≤ G)
    (hw : ((List.range n).map fun i => |w i|).sum ≤ C) (hd : ∀ i, |d i| ≤ G) :
    (l.map fun i => |w i * d i|).sum ≤ C * G ∧ |(l.map fun i => w i * d i).sum| ≤ C * G := by
  have hC : (l.map fun i => |w i|).sum * G ≤ C * G :=
    mul_le_mul_of_nonneg_right (((hl.map _).sum_le_sum fun v hv => by
      obtain ⟨j, _, rfl⟩ := List.mem_map.mp hv
      exact abs_nonneg _).trans hw) hG
  exact ⟨(sum_abs_mul_le l w d G hd).trans hC, (abs_listsum_le l w d G hd).trans hC⟩

theorem taps_round {u : K} (hu : 0 ≤ u) (hfl : ∀ x, |fl x - x| ≤ u * |x|) {l : List Nat} {n : Nat}
    (hl : l.Sublist (List.range n)) (w d : Nat → K) (C G : K) (hG : 0 ≤ G)
    (hw : ((List.range n).map fun i => |w i|).sum ≤ C) (hd : ∀ i, |d i| ≤ G) :
    |(l.foldl (fun acc i => acc + ex (w i) * ex (d i)) (ex 0 : RV K fl)).v - (l.map fun i => w i * d i).sum|
        ≤ gam u n * (C * G) ∧
      |(l.map fun i => w i * d i).sum| ≤ C * G :=
  have h := taps_le hl w d C G hG hw hd
  ⟨(rfold_err0 hu hfl w d l).trans
    (mul_le_mul (gam_mono hu (by simpa using hl.length_le)) h.1 (sum_abs_nonneg _ _) (gam_nonneg hu n)), h.2⟩

/-- **analysis in rounded arithmetic**: every output sample of `wavelet<T>` computed with rounding after every operation
    lies within `((1+u)^(2n) − 1)·C·M` of the exact sample, which is at most `C·M` -/
theorem wavelet_round {u : K} (hu : 0 ≤ u) (hfl : ∀ x, |fl x - x| ≤ u * |x|) (cs : List K) (N : Nat) (f : Nat → K)
    (M : K) (hM : 0 ≤ M) (hf : ∀ p, p < N → |f p| ≤ M) (k : Nat) :
    |(waveletRow (cs.map (ex (fl := fl))) N (fun q => ex (f q)) k).v - waveletRow cs N f k|
        ≤ gam u cs.length * (absSum cs * M) ∧
      |waveletRow cs N f k| ≤ absSum cs * M := by
  unfold waveletRow
  simp only [List.length_map, zero_ex, getD_ex, access_ex, neg_ex, ← apply_ite (ex (fl := fl)), foldl_add_eq,
    zero_eq, zero_add]
  split
  · exact taps_round hu hfl (.refl _) _ _ _ M hM (absSum_reflect cs).le fun _ => abs_access_le N f M hM hf _
  · split
    · exact taps_round hu hfl (.refl _) _ _ _ M hM (absSum_signed cs).le fun _ => abs_access_le N f M hM hf _
    · simp only [ex, sub_zero, abs_zero]
      have := mul_nonneg (absSum_nonneg cs) hM
      exact ⟨mul_nonneg (gam_nonneg hu _) this, this⟩

theorem abs_half_add_le {a b B : K} (ha : |a| ≤ B) (hb : |b| ≤ B) : |(a + b) / 2| ≤ B := by
  rw [abs_div, abs_two, div_le_iff₀ two_pos, mul_two]
  exact (abs_add_le a b).trans (add_le_add ha hb)

/-- the last two operations of `iwavelet<T>`: `(l + h) / 2` -/
theorem rfinal {u : K} (hu : 0 ≤ u) (hfl : ∀ x, |fl x - x| ≤ u * |x|) (lt ht L H B g : K)
    (hl : |lt - L| ≤ g * B ∧ |L| ≤ B) (hh : |ht - H| ≤ g * B ∧ |H| ≤ B) :
    |fl (fl (lt + ht) / 2) - (L + H) / 2| ≤ ((1 + u) ^ 2 * (g + 1) - 1) * B ∧ |(L + H) / 2| ≤ B := by
  have hd : |lt + ht - (L + H)| ≤ (g + 1 - 1) * (B + B) := by
    rw [add_sub_add_comm, add_sub_cancel_right, mul_add]
    exact (abs_add_le _ _).trans (add_le_add hl.1 hh.1)
  have h1 := Rounded.abs_fl_sub_le_mul hu hfl ((abs_add_le L H).trans (add_le_add hl.2 hh.2)) hd
  have h2 : |fl (lt + ht) / 2 - (L + H) / 2| ≤ ((g + 1) * (1 + u) - 1) * B := by
    rw [← sub_div, abs_div, abs_two, div_le_iff₀ two_pos]
    exact h1.trans_eq (by ring)
  exact ⟨(Rounded.abs_fl_sub_le_mul hu hfl (abs_half_add_le hl.2 hh.2) h2).trans_eq (by ring),
    abs_half_add_le hl.2 hh.2⟩

/-- **synthesis in rounded arithmetic**: `|ĩw g [x] − iw g [x]| ≤ ((1+u)^(2n+2) − 1)·C·G`, and `|iw g [x]| ≤ C·G` -/
theorem iwavelet_round {u : K} (hu : 0 ≤ u) (hfl : ∀ x, |fl x - x| ≤ u * |x|) (cs : List K) (N : Nat) (g : Nat → K)
    (G : K) (hG : 0 ≤ G) (hg : ∀ p, p < N → |g p| ≤ G) (x : Nat) :
    |(iwaveletRow (cs.map (ex (fl := fl))) N (fun q => ex (g q)) x).v - iwaveletRow cs N g x|
        ≤ gam u (cs.length + 1) * (absSum cs * G) ∧
      |iwaveletRow cs N g x| ≤ absSum cs * G := by
  unfold iwaveletRow
  simp only [List.length_map, zero_ex, two_ex, getD_ex, access_ex, neg_ex, ← apply_ite (ex (fl := fl)), foldl_add_eq,
    zero_eq, two_eq, zero_add]
  rw [← gam_succ]
  exact rfinal hu hfl _ _ _ _ _ _
    (taps_round hu hfl List.filter_sublist _ _ _ G hG le_rfl fun _ => (abs_access_half_le N g G hG hg _).1)
    (taps_round hu hfl List.filter_sublist _ _ _ G hG (absSum_reflect_signed cs).le
      fun _ => (abs_access_half_le N g G hG hg _).2)

/-- a rounded pass applied to an already perturbed row. `T` is one sample of an exact row kernel (linear, bounded by
    `C·B` on rows bounded by `B`), `Tt` its evaluation in rounded arithmetic (within `γ_a·C·B` of `T` on exactly
    representable rows bounded by `B`); the values of the input `gt` are within `γ_m·B` of a row `g` bounded by `B` -/
theorem pass_round {u : K} (hu : 0 ≤ u) (T : (Nat → K) → K) (Tt : (Nat → RV K fl) → K) (N : Nat) (C : K) (a : Nat)
    (hlin : ∀ a b f g, T (fun i => a * f i + b * g i) = a * T f + b * T g)
    (hTt : ∀ g B, 0 ≤ B → (∀ p, p < N → |g p| ≤ B) →
      |Tt (fun q => ex (g q)) - T g| ≤ gam u a * (C * B) ∧ |T g| ≤ C * B)
    (gt : Nat → RV K fl) (g : Nat → K) (B : K) (m : Nat) (hB : 0 ≤ B)
    (hd : ∀ p, p < N → |(gt p).v - g p| ≤ gam u m * B) (hg : ∀ p, p < N → |g p| ≤ B) :
    |Tt gt - T g| ≤ gam u (a + m) * (C * B) ∧ |T g| ≤ C * B := by
  have hm := gam_nonneg hu m
  have hgt : ∀ p, p < N → |(gt p).v| ≤ (1 + gam u m) * B := fun p hp => by
    have := abs_add_le ((gt p).v - g p) (g p)
    rw [sub_add_cancel] at this
    linarith [hd p hp, hg p hp]
  have h1 : |Tt gt - T fun p => (gt p).v| ≤ _ := (hTt _ _ (mul_nonneg (by linarith) hB) hgt).1
  have h2 : |T (fun p => (gt p).v) - T g| ≤ C * (gam u m * B) := by
    have e : T (fun p => (gt p).v) - T g = T (fun i => 1 * (gt i).v + -1 * g i) := by rw [hlin]; ring
    rw [e]
    exact (hTt _ _ (mul_nonneg hm hB) fun p hp => by
      simpa only [one_mul, neg_one_mul, ← sub_eq_add_neg] using hd p hp).2
  refine ⟨?_, (hTt g B hB hg).2⟩
  rw [← gam_add]
  exact (abs_sub_le (Tt gt) (T fun p => (gt p).v) (T g)).trans ((add_le_add h1 h2).trans_eq (by ring))

theorem pass_analysis {u : K} (hu : 0 ≤ u) (hfl : ∀ x, |fl x - x| ≤ u * |x|) (cs : List K) (N : Nat)
    (gt : Nat → RV K fl) (g : Nat → K) (B : K) (m : Nat) (hB : 0 ≤ B)
    (hd : ∀ p, p < N → |(gt p).v - g p| ≤ gam u m * B) (hg : ∀ p, p < N → |g p| ≤ B) (k : Nat) :
    |(waveletRow (cs.map (ex (fl := fl))) N gt k).v - waveletRow cs N g k|
        ≤ gam u (cs.length + m) * (absSum cs * B) ∧
      |waveletRow cs N g k| ≤ absSum cs * B :=
  pass_round hu (fun g => waveletRow cs N g k) (fun g => (waveletRow (cs.map (ex (fl := fl))) N g k).v)
    N (absSum cs) cs.length (fun a b f g => waveletRow_linear cs N a b f g k)
    (fun g B hB hg => wavelet_round hu hfl cs N g B hB hg k)
    gt g B m hB hd hg

theorem pass_synthesis {u : K} (hu : 0 ≤ u) (hfl : ∀ x, |fl x - x| ≤ u * |x|) (cs : List K) (N : Nat)
    (gt : Nat → RV K fl) (g : Nat → K) (B : K) (m : Nat) (hB : 0 ≤ B)
    (hd : ∀ p, p < N → |(gt p).v - g p| ≤ gam u m * B) (hg : ∀ p, p < N → |g p| ≤ B) (x : Nat) :
    |(iwaveletRow (cs.map (ex (fl := fl))) N gt x).v - iwaveletRow cs N g x|
        ≤ gam u (cs.length + 1 + m) * (absSum cs * B) ∧
      |iwaveletRow cs N g x| ≤ absSum cs * B :=
  pass_round hu (fun g => iwaveletRow cs N g x) (fun g => (iwaveletRow (cs.map (ex (fl := fl))) N g x).v)
    N (absSum cs) (cs.length + 1) (fun a b f g => iwaveletRow_linear cs N a b f g x)
    (fun g B hB hg => iwavelet_round hu hfl cs N g B hB hg x)
    gt g B m hB hd hg

/-- **forward error of the whole 2-D pipeline** `idaubechies(daubechies(f))` (rows, columns, columns, rows), every
    operation of the four passes rounded, against the same pipeline in exact arithmetic: at **every** pixel -/
theorem forward_2d {u : K} (hu : 0 ≤ u) (hfl : ∀ x, |fl x - x| ≤ u * |x|) (cs : List K) (N0 N1 : Nat) (f : Im K)
    (M : K) (hM : 0 ≤ M) (hf : ∀ y x, y < N0 → x < N1 → |f y x| ≤ M) (y x : Nat) :
    |(idaubechies2 (cs.map (ex (fl := fl))) N0 N1
        (daubechies2 (cs.map (ex (fl := fl))) N0 N1 (fun y x => ex (f y x))) y x).v
      - idaubechies2 cs N0 N1 (daubechies2 cs N0 N1 f) y x|
      ≤ gam u (4 * cs.length + 2) * (absSum cs ^ 4 * M) := by
  have hC := absSum_nonneg cs
  have h1 := mul_nonneg hC hM
  have h2 := mul_nonneg hC h1
  have s1 := fun k (hk : k < N0) q =>
    pass_analysis hu hfl cs N1 (fun p => ex (f k p)) (f k) M 0 hM
      (fun p _ => by simp only [ex, sub_self, abs_zero, gam_zero, zero_mul, le_refl]) (fun p hp => hf k p hk hp) q
  have s2 := fun k q => pass_analysis hu hfl cs N0 _ _ _ _ h1 (fun p hp => (s1 p hp q).1) (fun p hp => (s1 p hp q).2) k
  have s3 := fun k q => pass_synthesis hu hfl cs N0 _ _ _ _ h2 (fun p _ => (s2 p q).1) (fun p _ => (s2 p q).2) k
  have s4 := (pass_synthesis hu hfl cs N1 _ _ _ _ (mul_nonneg hC h2) (fun p _ => (s3 y p).1) (fun p _ => (s3 y p).2) x).1
  rw [show cs.length + 1 + (cs.length + 1 + (cs.length + (cs.length + 0))) = 4 * cs.length + 2 by omega,
    show absSum cs * (absSum cs * (absSum cs * (absSum cs * M))) = absSum cs ^ 4 * M by ring] at s4
  -- unfolded first: otherwise `exact` compares the bodies of the row kernels
  simp only [idaubechies2, daubechies2, rowsPass]
  exact s4

end

end Mahotas.C17.RT
