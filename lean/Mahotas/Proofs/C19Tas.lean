/-
C19 — Threshold Adjacency Statistics (`Model/C19Tas.lean`): the convolution/histogram model of `_ctas` equals the
counting specification; the kept bins partition the unselected pixels; the complement half is Hamilton's statistic.
Core Lean only.
-/
import Mahotas.Model.C19Tas
import Mahotas.Proofs.C19Cooc
namespace Mahotas.C19Tas
open Mahotas

theorem boxPos_eq (s : List Nat) : boxPos s = C19.boxPos s := by
  induction s with
  | nil => rfl
  | cons d ds ih => simp [boxPos, C19.boxPos, ih]

theorem mem_boxPos (s : List Nat) (p : List Int) : p ∈ boxPos s ↔ inside s p = true := by
  rw [boxPos_eq]; exact C19.mem_boxPos s p

theorem sum_split {α : Type} (L : List α) (z x : α → Bool) (w0 : Nat) :
    (L.map fun d => (if z d then w0 else 1) * bit (x d)).sum
      = w0 * (L.filter z).countP x + (L.filter (fun d => !z d)).countP x := by
  induction L with
  | nil => simp
  | cons a L ih =>
    simp only [List.map_cons, List.sum_cons, ih, List.filter_cons]
    cases hz : z a <;> cases hx : x a <;> simp [bit, hx, Nat.mul_add] <;> omega

theorem offs_filter_zero (n : Nat) : (offs n).filter isZero = [List.replicate n 0] := by
  induction n with
  | zero => simp [offs, isZero]
  | succ n ih =>
    have h : ∀ (c : Int), ((offs n).map (c :: ·)).filter isZero
        = if c = 0 then ((offs n).filter isZero).map (c :: ·) else [] := by
      intro c
      rw [List.filter_map]
      by_cases hc : c = 0
      · subst hc
        simp only [if_true]
        congr 1
      · simp only [if_neg hc]
        have : (isZero ∘ fun x => c :: x) = fun _ => false := by
          funext x; simp [isZero, hc]
        rw [this]; simp
    simp only [offs, List.flatMap_cons, List.flatMap_nil, List.filter_append, h, ih]
    simp [List.replicate_succ]

theorem reflectPos_add_zero (s : List Nat) (p : List Int) (h : inside s p = true) :
    reflectPos s (addPos p (List.replicate s.length 0)) = p := by
  induction s generalizing p with
  | nil => cases p <;> simp_all [inside, reflectPos]
  | cons d ds ih =>
    cases p with
    | nil => simp [inside] at h
    | cons x xs =>
      simp only [inside, Bool.and_eq_true, decide_eq_true_eq] at h
      simp only [List.length_cons, List.replicate_succ, addPos, reflectPos, ih xs h.2, Int.add_zero]
      congr 1
      unfold reflect1
      rw [if_neg (by omega), if_neg (by omega)]

/-- `V[p] = w0 · [b p] + #selected neighbours of p` at every pixel of the image -/
theorem convAt_eq (s : List Nat) (w0 : Nat) (b : List Int → Bool) (p : List Int) (hp : p ∈ boxPos s) :
    convAt s w0 b p = w0 * bit (b p) + nbCount s b p := by
  unfold convAt nbCount
  rw [sum_split, offs_filter_zero]
  simp only [List.countP_cons, List.countP_nil, Nat.zero_add]
  rw [reflectPos_add_zero s p ((mem_boxPos s p).1 hp)]
  cases b p <;> simp [bit]

/-- the number of neighbours in the window (`3^n − 1`; evaluated below for the ranks 2 and 3 of `tas`) -/
def nNb (n : Nat) : Nat := ((offs n).filter fun d => !isZero d).length

theorem nNb_two : nNb 2 = 8 := by decide
theorem nNb_three : nNb 3 = 26 := by decide

theorem nbCount_le (s : List Nat) (b : List Int → Bool) (p : List Int) : nbCount s b p ≤ nNb s.length :=
  List.countP_le_length

theorem count_map_eq_countP {α : Type} (L : List α) (g : α → Nat) (k : Nat) :
    (L.map g).count k = L.countP (fun p => g p == k) := by
  rw [List.count_eq_countP, List.countP_map]
  rfl

/-- below the centre weight a convolution value `k` is reached exactly at the unselected pixels with `k` selected
    neighbours -/
theorem V_count (s : List Nat) (w0 : Nat) (b : List Int → Bool) (k : Nat) (hk : k < w0) :
    ((boxPos s).map (convAt s w0 b)).count k = tasCount s b k := by
  rw [count_map_eq_countP]
  unfold tasCount
  apply List.countP_congr
  intro p hp
  rw [convAt_eq s w0 b p hp]
  cases hb : b p <;> simp [bit]
  omega

/-- no convolution value lies strictly between the number of neighbours and the centre weight -/
theorem V_count_none (s : List Nat) (w0 : Nat) (b : List Int → Bool) (k : Nat) (hk : nNb s.length < k) (hkw : k < w0) :
    ((boxPos s).map (convAt s w0 b)).count k = 0 := by
  rw [count_map_eq_countP, List.countP_eq_zero]
  intro p hp
  rw [convAt_eq s w0 b p hp]
  have hle := nbCount_le s b p
  cases hb : b p <;> simp [bit] <;> omega

/-- the first `saved` of `nb` bins are the counts of the specification, provided every kept bin lies below the centre
    weight `w0` and the closed last bin `[nb-1, nb]` is either dropped or receives no value `nb` -/
theorem take_npHistogram (s : List Nat) (b : List Int → Bool) (w0 nb saved : Nat) (h1 : saved ≤ nb) (h2 : saved ≤ w0)
    (h3 : saved < nb ∨ (nNb s.length < nb ∧ nb < w0)) :
    (npHistogram nb ((boxPos s).map (convAt s w0 b))).take saved = (List.range saved).map (tasCount s b) := by
  unfold npHistogram
  rw [← List.map_take, List.take_range, Nat.min_eq_left h1]
  apply List.map_congr_left
  intro k hk
  have hks : k < saved := List.mem_range.1 hk
  rw [V_count s w0 b k (by omega)]
  split
  · rcases h3 with h3 | ⟨h3, h4⟩
    · omega
    · rw [V_count_none s w0 b nb h3 h4, Nat.add_zero]
  · rfl

/-- rank 2: the nine kept bins of `np.histogram(convolve(b, _M2), arange(11))`; rank 3: the 27 bins of
    `np.histogram(convolve(b, _M3), arange(28))` (the last one closed: it would also take `V = 27`, which never
    occurs) — in both cases one bin per possible number `0 … 3^n − 1` of selected neighbours -/
theorem ctasCounts_eq (s : List Nat) (h : s.length = 2 ∨ s.length = 3) (b : List Int → Bool) :
    ctasCounts s b = (List.range (nNb s.length + 1)).map (tasCount s b) := by
  unfold ctasCounts params
  rcases h with h | h
  · simp only [h, beq_self_eq_true, if_true]
    exact take_npHistogram s b 10 10 9 (by omega) (by omega) (.inl (by omega))
  · simp only [h, show ((3 : Nat) == 2) = false from rfl, Bool.false_eq_true, if_false]
    exact take_npHistogram s b 28 27 27 (by omega) (by omega) (.inr (by rw [h, nNb_three]; omega))

theorem tasCount_sum (s : List Nat) (b : List Int → Bool) :
    ((List.range (nNb s.length + 1)).map (tasCount s b)).sum = offCount s b := by
  unfold tasCount offCount
  exact sum_countP_bins_of_mem _ List.nodup_range (fun p => !b p) (nbCount s b) (boxPos s)
    fun p _ => List.mem_range.2 (Nat.lt_succ_of_le (nbCount_le s b p))

theorem nbCount_not (s : List Nat) (b : List Int → Bool) (p : List Int) :
    nbCount s (fun q => !b q) p + nbCount s b p = nNb s.length := by
  unfold nbCount nNb
  rw [Nat.add_comm, List.length_eq_countP_add_countP fun d => b (reflectPos s (addPos p d))]
  simp only [Bool.not_eq_true, Bool.decide_eq_false]

theorem tasCount_not (s : List Nat) (b : List Int → Bool) (k : Nat) (hk : k ≤ nNb s.length) :
    tasCount s (fun q => !b q) k = hamiltonCount s b (nNb s.length - k) := by
  unfold tasCount hamiltonCount
  apply List.countP_congr
  intro p _
  have h := nbCount_not s b p
  cases hb : b p <;> simp [hb]
  omega

theorem ctasCounts_not (s : List Nat) (h : s.length = 2 ∨ s.length = 3) (b : List Int → Bool) :
    ctasCounts s (fun p => !b p) = (List.range (nNb s.length + 1)).map fun k => hamiltonCount s b (nNb s.length - k) := by
  rw [ctasCounts_eq s h]
  apply List.map_congr_left
  intro k hk
  exact tasCount_not s b k (Nat.le_of_lt_succ (List.mem_range.1 hk))

end Mahotas.C19Tas
