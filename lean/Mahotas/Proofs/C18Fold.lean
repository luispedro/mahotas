/-
C18 — the mirror folding of the knot indices (`edgeFold`, the arithmetic of `fix_offset(ExtendMirror, ·)`): it is
`mirrorSpec`, so it is even and periodic with period `2·len − 2`, and a folded index has the same two neighbours,
up to their order, as the index itself. `ext` is the mirror extension of a line it induces.
-/
import Mahotas.Model.C18
import Mahotas.Proofs.Border
import Mathlib.Tactic.Ring
import Mathlib.Tactic.LinearCombination
namespace Mahotas.C18
open Mahotas

theorem edgeFold_eq (len : Nat) (hlen : 0 < len) (k : Int) : edgeFold len k = mirrorSpec k len := by
  unfold edgeFold
  rw [fixOffset_mirror k len (by exact_mod_cast hlen)]
  rfl

theorem edgeFold_inside (len : Nat) (j : Int) (h0 : 0 ≤ j) (h1 : j < len) : edgeFold len j = j := by
  have a : ¬ j < 0 := by omega
  have b : ¬ j ≥ (len : Int) := by omega
  simp [edgeFold, fixOffset, a, b]

theorem edgeFold_range (len : Nat) (hlen : 0 < len) (k : Int) : 0 ≤ edgeFold len k ∧ edgeFold len k < (len : Int) := by
  rw [edgeFold_eq len hlen]
  exact borderSpec_range .mirror k len (by exact_mod_cast hlen) _ rfl

theorem edgeFold_one (k : Int) : edgeFold 1 k = 0 := by
  have := edgeFold_range 1 Nat.one_pos k
  omega

theorem edgeFold_add_period (len : Nat) (hlen : 0 < len) (k t : Int) :
    edgeFold len (k + (2 * (len : Int) - 2) * t) = edgeFold len k := by
  rw [edgeFold_eq len hlen, edgeFold_eq len hlen]
  unfold mirrorSpec
  rw [Int.add_mul_emod_self_left]

theorem edgeFold_cases (len : Nat) (hlen : 2 ≤ len) (k : Int) :
    ∃ t, edgeFold len k = k + (2 * (len : Int) - 2) * t ∨ edgeFold len k = -k + (2 * (len : Int) - 2) * t := by
  have hk := Int.emod_add_mul_ediv k (2 * (len : Int) - 2)
  have h0 := Int.emod_nonneg k (show 2 * (len : Int) - 2 ≠ 0 by omega)
  rw [edgeFold_eq len (by omega)]
  unfold mirrorSpec
  rw [if_neg (by omega)]
  dsimp only
  split
  · exact ⟨-(k / (2 * (len : Int) - 2)), Or.inl (by linear_combination hk)⟩
  · exact ⟨k / (2 * (len : Int) - 2) + 1, Or.inr (by linear_combination -hk)⟩

theorem edgeFold_neg (len : Nat) (hlen : 0 < len) (k : Int) : edgeFold len (-k) = edgeFold len k := by
  -- with `P = 2·len − 2`: `(−k) mod P` is `0` if `P ∣ k` and `P − k mod P` otherwise: the two `mod_unique` calls
  rw [edgeFold_eq len hlen, edgeFold_eq len hlen]
  unfold mirrorSpec
  by_cases hl : (len : Int) ≤ 1
  · rw [if_pos hl, if_pos hl]
  · rw [if_neg hl, if_neg hl]
    have hk := Int.emod_add_mul_ediv k (2 * (len : Int) - 2)
    have h0 := Int.emod_nonneg k (show 2 * (len : Int) - 2 ≠ 0 by omega)
    have h1 := Int.emod_lt_of_pos k (show 0 < 2 * (len : Int) - 2 by omega)
    by_cases hr : k % (2 * (len : Int) - 2) = 0
    · rw [mod_unique (-k) _ 0 (-(k / (2 * (len : Int) - 2))) le_rfl (by omega) (by linear_combination hk - hr), hr]
    · rw [mod_unique (-k) _ (2 * (len : Int) - 2 - k % (2 * (len : Int) - 2)) (-(k / (2 * (len : Int) - 2)) - 1)
        (by omega) (by omega) (by linear_combination hk)]
      dsimp only
      split <;> split <;> omega

theorem edgeFold_neighbours (len : Nat) (hlen : 2 ≤ len) (k : Int) :
    (edgeFold len (edgeFold len k - 1) = edgeFold len (k - 1) ∧
      edgeFold len (edgeFold len k + 1) = edgeFold len (k + 1)) ∨
    (edgeFold len (edgeFold len k - 1) = edgeFold len (k + 1) ∧
      edgeFold len (edgeFold len k + 1) = edgeFold len (k - 1)) := by
  have hpos : 0 < len := by omega
  obtain ⟨t, ht | ht⟩ := edgeFold_cases len hlen k
  · left
    rw [ht, show k + (2 * (len : Int) - 2) * t - 1 = k - 1 + (2 * (len : Int) - 2) * t by ring,
      show k + (2 * (len : Int) - 2) * t + 1 = k + 1 + (2 * (len : Int) - 2) * t by ring,
      edgeFold_add_period len hpos, edgeFold_add_period len hpos]
    exact ⟨rfl, rfl⟩
  · right
    rw [ht, show -k + (2 * (len : Int) - 2) * t - 1 = -(k + 1) + (2 * (len : Int) - 2) * t by ring,
      show -k + (2 * (len : Int) - 2) * t + 1 = -(k - 1) + (2 * (len : Int) - 2) * t by ring,
      edgeFold_add_period len hpos, edgeFold_add_period len hpos, edgeFold_neg len hpos, edgeFold_neg len hpos]
    exact ⟨rfl, rfl⟩

theorem edgeFold_start (n : Nat) (hn : 2 ≤ n) : edgeFold n (-1) = 1 := by
  rw [edgeFold_neg n (by omega), edgeFold_inside n 1 Int.one_nonneg (by omega)]

/-- beyond the end, up to one period: the first reflection -/
theorem edgeFold_mirror (n : Nat) (hn : 2 ≤ n) (k : Int) (h0 : (n : Int) ≤ k) (h1 : k ≤ 2 * (n : Int) - 2) :
    edgeFold n k = 2 * (n : Int) - 2 - k := by
  rw [← edgeFold_neg n (by omega), ← edgeFold_add_period n (by omega) _ 1,
    edgeFold_inside n _ (by omega) (by omega)]
  ring

theorem edgeFold_end (n : Nat) (hn : 2 ≤ n) : edgeFold n (n : Int) = (n : Int) - 2 :=
  (edgeFold_mirror n hn n le_rfl (by omega)).trans (by ring)

/-- the mirror extension `k ↦ c[fold k]` of a line of `n` samples, over all of ℤ -/
def ext {K : Type} (n : Nat) (c : Nat → K) (k : Int) : K := c (edgeFold n k).toNat

theorem ext_inside {K : Type} (n : Nat) (c : Nat → K) (j : Int) (h0 : 0 ≤ j) (h1 : j < n) : ext n c j = c j.toNat := by
  rw [ext, edgeFold_inside n j h0 h1]

end Mahotas.C18
