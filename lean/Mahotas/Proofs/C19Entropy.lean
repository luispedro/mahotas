/-
C19 — the entropy features over the reals.

`entropyG`, `hxy1G` are the generic definitions of `Model/C19.lean` from which `haralick13` takes
f8, f9, f11, HX, HY, HXY1 at `Float` with `Float.log2`; here they are instantiated at `ℝ` with
`Real.logb 2`. Proved: every entropy of a list of numbers in `[0,1]` is `≥ 0`; Gibbs' inequality
`HXY = f9 ≤ HXY1`, i.e. the numerator of the information measure f12 is `≤ 0`; `HXY1 = HXY2 = HX + HY`; the argument of
f13 lies in `[0, 1)`.
-/
import Mahotas.Proofs.C19HaralickFeat
import Mathlib.Analysis.SpecialFunctions.Log.Base
namespace Mahotas.C19
open Mahotas
open Finset (range)

noncomputable section

def log2R (x : ℝ) : ℝ := Real.logb 2 x

/-- one term `p log₂ q` of a cross entropy, `0` when `p = 0` -/
def xlog (p q : ℝ) : ℝ := if p = 0 then 0 else p * log2R q

theorem entropyG_eq (xs : List ℝ) : entropyG 0 log2R xs = -(xs.map fun p => xlog p p).sum := by
  unfold entropyG
  rw [gsum_eq_sum]
  simp only [beq_iff_eq]
  rfl

theorem xlog_self_nonpos (p : ℝ) (h0 : 0 ≤ p) (h1 : p ≤ 1) : xlog p p ≤ 0 := by
  unfold xlog log2R
  split
  · exact le_refl _
  · exact mul_nonpos_of_nonneg_of_nonpos h0 (Real.logb_nonpos (by norm_num) h0 h1)

theorem entropyG_nonneg (xs : List ℝ) (h : ∀ x ∈ xs, 0 ≤ x ∧ x ≤ 1) : 0 ≤ entropyG 0 log2R xs := by
  rw [entropyG_eq, neg_nonneg]
  refine (List.sum_le_card_nsmul _ 0 fun y hy => ?_).trans_eq (smul_zero _)
  obtain ⟨p, hp, rfl⟩ := List.mem_map.1 hy
  exact xlog_self_nonpos p (h p hp).1 (h p hp).2

/-- termwise Gibbs: `p log₂ q − p log₂ p ≤ (q − p)/ln 2` -/
theorem xlog_gibbs (p q : ℝ) (hp : 0 ≤ p) (hq : 0 ≤ q) (hpq : 0 < p → 0 < q) :
    xlog p q - xlog p p ≤ (q - p) / Real.log 2 := by
  have hl2 : 0 < Real.log 2 := Real.log_pos (by norm_num)
  unfold xlog log2R
  by_cases h : p = 0
  · simp only [h, if_true, sub_zero]
    exact div_nonneg hq hl2.le
  · have hp' : 0 < p := lt_of_le_of_ne hp (Ne.symm h)
    have hq' : 0 < q := hpq hp'
    simp only [h, if_false]
    have hlog : Real.log q - Real.log p ≤ q / p - 1 := by
      rw [← Real.log_div (ne_of_gt hq') (ne_of_gt hp')]
      exact Real.log_le_sub_one_of_pos (div_pos hq' hp')
    have e : p * Real.logb 2 q - p * Real.logb 2 p = p * (Real.log q - Real.log p) / Real.log 2 := by
      unfold Real.logb; ring
    rw [e]
    apply div_le_div_of_nonneg_right _ hl2.le
    calc p * (Real.log q - Real.log p) ≤ p * (q / p - 1) := mul_le_mul_of_nonneg_left hlog hp
      _ = q - p := by rw [mul_sub, mul_one, mul_div_cancel₀ _ (ne_of_gt hp')]

/-- **Gibbs' inequality** on a finite index set: `Σ p log₂ q ≤ Σ p log₂ p` when `Σ q ≤ Σ p` -/
theorem gibbs {ι : Type} (s : Finset ι) (p q : ι → ℝ) (hp : ∀ x ∈ s, 0 ≤ p x) (hq : ∀ x ∈ s, 0 ≤ q x)
    (hpq : ∀ x ∈ s, 0 < p x → 0 < q x) (hsum : ∑ x ∈ s, q x ≤ ∑ x ∈ s, p x) :
    ∑ x ∈ s, xlog (p x) (q x) ≤ ∑ x ∈ s, xlog (p x) (p x) := by
  have hl2 : 0 < Real.log 2 := Real.log_pos (by norm_num)
  have h1 : ∑ x ∈ s, (xlog (p x) (q x) - xlog (p x) (p x)) ≤ ∑ x ∈ s, (q x - p x) / Real.log 2 :=
    Finset.sum_le_sum fun x hx => xlog_gibbs _ _ (hp x hx) (hq x hx) (hpq x hx)
  rw [Finset.sum_sub_distrib, ← Finset.sum_div, Finset.sum_sub_distrib] at h1
  exact sub_nonpos.1 (h1.trans (div_nonpos_of_nonpos_of_nonneg (sub_nonpos.2 hsum) hl2.le))

theorem entropy_matrix (m : ℕ) (c : List ℕ) (hlen : c.length = m * m) :
    entropyG 0 log2R (normMat (Nat.cast : ℕ → ℝ) c).toList =
      -(∑ i ∈ range m, ∑ j ∈ range m,
        xlog (matAt (0 : ℝ) m (normMat Nat.cast c) i j) (matAt (0 : ℝ) m (normMat Nat.cast c) i j)) := by
  rw [entropyG_eq, sum_toList_matAt 0 m _ ((normMat_size c).trans hlen) fun p => xlog p p]

theorem xlog_mul (p a b : ℝ) (h : p ≠ 0 → a ≠ 0 ∧ b ≠ 0) :
    xlog p (a * b) = p * (log2R a + log2R b) := by
  unfold xlog log2R
  by_cases hp : p = 0
  · simp [hp]
  · obtain ⟨ha, hb⟩ := h hp
    rw [if_neg hp, Real.logb_mul ha hb]

theorem mul_log_eq_xlog (x : ℝ) : x * log2R x = xlog x x := by
  unfold xlog
  by_cases h : x = 0
  · rw [if_pos h, h, zero_mul]
  · rw [if_neg h]

theorem xlog_prod_self (a b : ℝ) : xlog (a * b) (a * b) = b * xlog a a + a * xlog b b := by
  unfold xlog log2R
  by_cases ha : a = 0
  · simp [ha]
  · by_cases hb : b = 0
    · simp [hb]
    · rw [if_neg (mul_ne_zero ha hb), if_neg ha, if_neg hb, Real.logb_mul ha hb]; ring

theorem entropy_map_range (f : ℕ → ℝ) (n : ℕ) :
    entropyG 0 log2R ((List.range n).map f) = -(∑ k ∈ range n, xlog (f k) (f k)) := by
  rw [entropyG_eq, List.map_map]
  rfl

section marginals
variable (m : ℕ) (P : ℕ → ℕ → ℝ)

theorem hxy1_eq : hxy1G 0 log2R m P (colSumG 0 m P) (rowSumG 0 m P) =
    -(∑ i ∈ range m, ∑ j ∈ range m, xlog (P i j) ((∑ i' ∈ range m, P i' j) * (∑ j' ∈ range m, P i j'))) := by
  unfold hxy1G
  rw [gsum_allPairs]
  simp only [beq_iff_eq]
  refine congrArg Neg.neg (Finset.sum_congr rfl fun i hi => Finset.sum_congr rfl fun j hj => ?_)
  rw [colSum_getD m P j (Finset.mem_range.1 hj), rowSum_getD m P i (Finset.mem_range.1 hi)]
  rfl

theorem hxy2_eq : hxy2G 0 log2R m P (colSumG 0 m P) (rowSumG 0 m P) =
    -(∑ i ∈ range m, ∑ j ∈ range m, xlog ((∑ i' ∈ range m, P i' j) * (∑ j' ∈ range m, P i j'))
      ((∑ i' ∈ range m, P i' j) * (∑ j' ∈ range m, P i j'))) := by
  unfold hxy2G
  rw [gsum_allPairs]
  simp only [beq_iff_eq]
  refine congrArg Neg.neg (Finset.sum_congr rfl fun i hi => Finset.sum_congr rfl fun j hj => ?_)
  rw [colSum_getD m P j (Finset.mem_range.1 hj), rowSum_getD m P i (Finset.mem_range.1 hi)]
  rfl

theorem entropy_colSum : entropyG 0 log2R (colSumG 0 m P) =
    -(∑ j ∈ range m, xlog (∑ i ∈ range m, P i j) (∑ i ∈ range m, P i j)) :=
  (entropy_map_range _ m).trans (by simp only [gsum_map_range])

theorem entropy_rowSum : entropyG 0 log2R (rowSumG 0 m P) =
    -(∑ i ∈ range m, xlog (∑ j ∈ range m, P i j) (∑ j ∈ range m, P i j)) :=
  (entropy_map_range _ m).trans (by simp only [gsum_map_range])

variable (h0 : ∀ i j, 0 ≤ P i j)
include h0

theorem marginal_pos {i j : ℕ} (hi : i ∈ range m) (hj : j ∈ range m) (hp : 0 < P i j) :
    0 < ∑ i' ∈ range m, P i' j ∧ 0 < ∑ j' ∈ range m, P i j' :=
  ⟨lt_of_lt_of_le hp (Finset.single_le_sum (f := fun i => P i j) (fun _ _ => h0 _ _) hi),
    lt_of_lt_of_le hp (Finset.single_le_sum (f := fun j => P i j) (fun _ _ => h0 _ _) hj)⟩

variable (h1 : ∑ i ∈ range m, ∑ j ∈ range m, P i j = 1)
include h1

/-- **Gibbs for the co-occurrence matrix: `HXY ≤ HXY1`**, `HXY = −Σ p log₂ p` over the entries -/
theorem sum_xlog_le_marginals :
    ∑ i ∈ range m, ∑ j ∈ range m, xlog (P i j) ((∑ i' ∈ range m, P i' j) * (∑ j' ∈ range m, P i j')) ≤
      ∑ i ∈ range m, ∑ j ∈ range m, xlog (P i j) (P i j) := by
  rw [dsum_eq_prod, dsum_eq_prod]
  refine gibbs (range m ×ˢ range m) (fun x => P x.1 x.2)
    (fun x => (∑ i' ∈ range m, P i' x.2) * (∑ j' ∈ range m, P x.1 j')) (fun x _ => h0 _ _) (fun x _ => ?_)
    (fun x hx hpos => ?_) ?_
  · exact mul_nonneg (Finset.sum_nonneg fun i _ => h0 _ _) (Finset.sum_nonneg fun j _ => h0 _ _)
  · obtain ⟨hx1, hx2⟩ := Finset.mem_product.1 hx
    exact mul_pos (marginal_pos m P h0 hx1 hx2 hpos).1 (marginal_pos m P h0 hx1 hx2 hpos).2
  · -- the product of the marginals has total `(Σ p_x)(Σ p_y) = 1`
    rw [← dsum_eq_prod m fun i j => (∑ i' ∈ range m, P i' j) * (∑ j' ∈ range m, P i j'), ← dsum_eq_prod m P, h1,
      Finset.sum_comm, ← Finset.sum_mul_sum, h1, Finset.sum_comm, h1, one_mul]

theorem hxy_eq_hx_add_hy :
    hxy1G 0 log2R m P (colSumG 0 m P) (rowSumG 0 m P) =
      entropyG 0 log2R (colSumG 0 m P) + entropyG 0 log2R (rowSumG 0 m P) ∧
    hxy2G 0 log2R m P (colSumG 0 m P) (rowSumG 0 m P) =
      entropyG 0 log2R (colSumG 0 m P) + entropyG 0 log2R (rowSumG 0 m P) := by
  rw [hxy1_eq, hxy2_eq, entropy_colSum, entropy_rowSum, ← neg_add, neg_inj, neg_inj]
  constructor
  · -- `p log(p_x p_y) = p log p_x + p log p_y`, then sum out the other index
    have hterm : ∀ i ∈ range m, ∀ j ∈ range m,
        xlog (P i j) ((∑ i' ∈ range m, P i' j) * (∑ j' ∈ range m, P i j')) =
          P i j * log2R (∑ i' ∈ range m, P i' j) + P i j * log2R (∑ j' ∈ range m, P i j') := by
      intro i hi j hj
      rw [xlog_mul, mul_add]
      intro hp
      have hpos := marginal_pos m P h0 hi hj (lt_of_le_of_ne (h0 i j) (Ne.symm hp))
      exact ⟨ne_of_gt hpos.1, ne_of_gt hpos.2⟩
    rw [Finset.sum_congr rfl fun i hi => Finset.sum_congr rfl fun j hj => hterm i hi j hj]
    simp only [Finset.sum_add_distrib]
    congr 1
    · rw [Finset.sum_comm]
      exact Finset.sum_congr rfl fun j _ => by rw [← Finset.sum_mul, mul_log_eq_xlog]
    · exact Finset.sum_congr rfl fun i _ => by rw [← Finset.sum_mul, mul_log_eq_xlog]
  · -- `Σ_i p_y(i) = Σ_j p_x(j) = 1`
    simp only [xlog_prod_self, Finset.sum_add_distrib]
    congr 1
    · rw [Finset.sum_comm]
      exact Finset.sum_congr rfl fun j _ => by rw [← Finset.sum_mul, h1, one_mul]
    · exact Finset.sum_congr rfl fun i _ => by rw [← Finset.sum_mul, Finset.sum_comm, h1, one_mul]

end marginals

/-- **`f9 = HXY ≤ HXY1`** (the numerator of f12 is `≤ 0`) -/
theorem entropy_le_hxy1 (m : ℕ) (c : List ℕ) (hlen : c.length = m * m) (hT : c.sum ≠ 0) :
    entropyG 0 log2R (normMat (Nat.cast : ℕ → ℝ) c).toList ≤
      hxy1G 0 log2R m (matAt (0 : ℝ) m (normMat Nat.cast c))
        (colSumG 0 m (matAt (0 : ℝ) m (normMat Nat.cast c))) (rowSumG 0 m (matAt (0 : ℝ) m (normMat Nat.cast c))) := by
  rw [entropy_matrix m c hlen, hxy1_eq, neg_le_neg_iff]
  exact sum_xlog_le_marginals m _ (fun i j => matAt_nonneg m c i j) (matAt_total m c hlen hT)

/-- the argument of f13: `0 ≤ 1 − exp(−2 (HXY2 − HXY)) < 1` -/
theorem f13_arg_bounds (hxy2 f9 : ℝ) (h : f9 ≤ hxy2) :
    0 ≤ 1 - Real.exp (-2 * (hxy2 - f9)) ∧ 1 - Real.exp (-2 * (hxy2 - f9)) < 1 := by
  have hexp : Real.exp (-2 * (hxy2 - f9)) ≤ 1 := by
    rw [← Real.exp_zero]
    exact Real.exp_le_exp.2 (by linarith)
  have hpos := Real.exp_pos (-2 * (hxy2 - f9))
  constructor <;> linarith

theorem entropy_fiber_nonneg (m n : ℕ) (h : ℕ → ℕ → ℕ) (P : ℕ → ℕ → ℝ) (hh : ∀ i < m, ∀ j < m, h i j < n)
    (h0 : ∀ i j, 0 ≤ P i j) (h1 : ∑ i ∈ range m, ∑ j ∈ range m, P i j = 1) :
    0 ≤ entropyG 0 log2R ((List.range n).map (fiberSum m h P)) :=
  entropyG_nonneg _ fun x hx => by
    obtain ⟨k, hk, rfl⟩ := List.mem_map.1 hx
    exact (fiber_prob m n h P hh h0 h1).2 k (List.mem_range.1 hk)

theorem entropies_nonneg (m : ℕ) (c : List ℕ) (hlen : c.length = m * m) (hT : c.sum ≠ 0) :
    let P := matAt (0 : ℝ) m (normMat Nat.cast c)
    0 ≤ entropyG 0 log2R (pplusG 0 m P) ∧ 0 ≤ entropyG 0 log2R (normMat (Nat.cast : ℕ → ℝ) c).toList ∧
    0 ≤ entropyG 0 log2R (pminusG 0 m P) ∧ 0 ≤ entropyG 0 log2R (colSumG 0 m P) ∧
    0 ≤ entropyG 0 log2R (rowSumG 0 m P) := by
  intro P
  have h0 : ∀ i j, 0 ≤ P i j := fun i j => matAt_nonneg m c i j
  have h1 : ∑ i ∈ range m, ∑ j ∈ range m, P i j = 1 := matAt_total m c hlen hT
  rw [pplusG_eq, pminusG_eq, colSumG_eq, rowSumG_eq]
  refine ⟨entropy_fiber_nonneg m _ _ P (fun _ hi _ hj => add_lt_two_mul hi hj) h0 h1, ?_,
    entropy_fiber_nonneg m _ _ P (fun _ hi _ hj => absDiff_lt hi hj) h0 h1,
    entropy_fiber_nonneg m _ _ P (fun _ _ j hj => hj) h0 h1, entropy_fiber_nonneg m _ _ P (fun i hi _ _ => hi) h0 h1⟩
  refine entropyG_nonneg _ fun x hx => ?_
  rw [normMat_toList] at hx
  obtain ⟨v, hv, rfl⟩ := List.mem_map.1 hx
  exact count_div_sum_mem c hv

end

end Mahotas.C19
