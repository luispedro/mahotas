/-
C10 — `Model/C10Labeled.lean`: under `C03.Roots` every index `find`/`join`/`compress` dereference is in range, and `find` ends.

`C03.Roots` is the forest part of the union–find invariant of C03 (every foreground cell has a root chain `RootN` inside
the array); no chain is longer than the array; the array the trace carries is the one `C03.parents` computes.
-/
import Mahotas.Model.C10Labeled
import Mahotas.Proofs.C03Label
namespace Mahotas.C10Labeled
open Mahotas Mahotas.C03

def InR (n : Nat) (l : List Int) : Prop := ∀ x ∈ l, 0 ≤ x ∧ x < (n : Int)

theorem inRange_iff (n : Nat) (l : List Int) : inRange n l = true ↔ InR n l := by
  simp only [inRange, List.all_eq_true, Bool.and_eq_true, decide_eq_true_eq, InR]

theorem InR.append {n : Nat} {a b : List Int} (ha : InR n a) (hb : InR n b) : InR n (a ++ b) :=
  List.forall_mem_append.mpr ⟨ha, hb⟩

/-- one `find` from a cell with a root chain of depth `d < fuel`: the recursion ends, every index is in range -/
theorem findAcc_ok (fuel : Nat) (par : Array Int) (i r d : Nat) (h : RootN par i r d) (hd : d < fuel) :
    (findAcc fuel par (i : Int)).2 = true ∧ InR par.size (findAcc fuel par (i : Int)).1 := by
  induction fuel generalizing i d with
  | zero => exact absurd hd (Nat.not_lt_zero d)
  | succ f ih =>
    have hi : 0 ≤ (i : Int) ∧ (i : Int) < par.size := ⟨Int.natCast_nonneg i, Int.ofNat_lt.mpr h.lt⟩
    rw [findAcc, if_neg (not_or.mpr ⟨Int.not_lt.mpr hi.1, Int.not_le.mpr hi.2⟩), Int.toNat_natCast]
    cases h with
    | base _ hb =>
      rw [if_pos hb]
      exact ⟨rfl, List.forall_mem_singleton.mpr hi⟩
    | @step _ p _ d' _ hp hne hrest =>
      rw [hp, if_neg (mt Int.ofNat_inj.mp hne)]
      obtain ⟨h1, h2⟩ := ih p d' hrest (Nat.lt_of_succ_lt_succ hd)
      exact ⟨h1, List.forall_mem_cons.mpr ⟨hi, h2.append (List.forall_mem_singleton.mpr hi)⟩⟩

/-- "`par` is a parent forest on the foreground" (`C03.Roots`, for some root function) -/
def HasInv (data : List Int) (par : Array Int) : Prop := ∃ ρ, Roots data par ρ

theorem HasInv.fg {data : List Int} {par : Array Int} (h : HasInv data par) {i : Nat} (hv : par.getD i (-1) ≠ -1) :
    Fg data i :=
  h.elim fun _ hρ => Classical.not_not.mp fun hc => hv ((hρ.neg_one_iff i).mpr hc)

/-- `join` of two cells with root chains: both `find`s end within `size + 1` calls, every index is in range -/
theorem joinAcc_ok {par : Array Int} {i p ri di rp dp : Nat} (hi : RootN par i ri di) (hp : RootN par p rp dp) :
    (joinAcc (par.size + 1) par (i : Int) (p : Int)).2 = true ∧
      InR par.size (joinAcc (par.size + 1) par (i : Int) (p : Int)).1 := by
  have hdi : di < par.size + 1 := Nat.lt_succ_of_lt hi.depth_lt
  -- the first `find` keeps the size and every root
  obtain ⟨a1, a2, a3⟩ := find_spec (par.size + 1) par i ri di hi (Nat.le_of_lt hdi)
  obtain ⟨dp1, -, hp1⟩ := a3 p rp dp hp
  obtain ⟨f1, f2⟩ := findAcc_ok (par.size + 1) par i ri di hi hdi
  obtain ⟨g1, g2⟩ := findAcc_ok (par.size + 1) (find (par.size + 1) par i).1 p rp dp1 hp1
    (Nat.lt_succ_of_lt (a2 ▸ hp1.depth_lt))
  rw [a2] at g2
  rw [joinAcc, Int.toNat_natCast, a1]
  exact ⟨Bool.and_eq_true_iff.mpr ⟨f1, g1⟩, (f2.append g2).append (List.forall_mem_singleton.mpr
    ⟨Int.natCast_nonneg ri, Int.ofNat_lt.mpr hi.isRoot.1⟩)⟩

/-- the trace invariant: the array is a parent forest on the foreground (`HasInv`), all indices so far are in range, every
    recursion ended -/
def Good (data : List Int) (st : Trace) : Prop := HasInv data st.1 ∧ InR data.length st.2.1 ∧ st.2.2 = true

theorem Good.step {data : List Int} {st : Trace} (h : Good data st) {par : Array Int} {acc : List Int} {ok : Bool}
    (hi : HasInv data par) (hr : InR data.length acc) (hok : ok = true) :
    Good data (par, st.2.1 ++ acc, st.2.2 && ok) :=
  ⟨hi, h.2.1.append hr, Bool.and_eq_true_iff.mpr ⟨h.2.2, hok⟩⟩

theorem innerAcc_good {data : List Int} {i : Nat} (hfi : Fg data i) (st : Trace) (nb : Nat) (h : Good data st) :
    Good data (innerAcc (data.length + 1) i st nb) := by
  simp only [innerAcc]
  split
  · exact h
  · rename_i hv
    obtain ⟨ρ, hρ⟩ := h.1
    have hnb : Fg data nb := h.1.fg hv
    obtain ⟨di, hi⟩ := hρ.fg i hfi
    obtain ⟨dn, hn⟩ := hρ.fg nb hnb
    obtain ⟨p, hp⟩ := hn.value
    obtain ⟨dp, hpn⟩ := hn.parent hp
    have hj := joinAcc_ok hi hpn
    rw [hρ.size] at hj
    rw [hp, Int.toNat_natCast]
    exact h.step ⟨_, hρ.join hfi hnb hp⟩ hj.2 hj.1

theorem scanPixel_good (m : Mode) (shape : List Nat) (offs : List (List Int)) (data : List Int) (st : Trace) (i : Nat)
    (h : Good data st) : Good data (scanPixelAcc m shape offs (data.length + 1) st i) := by
  unfold scanPixelAcc
  split
  · exact h
  · rename_i hv
    exact foldl_inv _ _ (innerAcc_good (h.1.fg hv)) _ _ h

theorem compress_good (data : List Int) (st : Trace) (i : Nat) (h : Good data st) :
    Good data (compressAcc (data.length + 1) st i) := by
  unfold compressAcc
  split
  · exact h
  · rename_i hv
    obtain ⟨ρ, hρ⟩ := h.1
    obtain ⟨d, hroot⟩ := hρ.fg i (h.1.fg hv)
    have hf := findAcc_ok (st.1.size + 1) st.1 i _ d hroot (Nat.lt_succ_of_lt hroot.depth_lt)
    rw [hρ.size] at hf
    exact h.step ⟨ρ, hρ.find hroot⟩ hf.2 hf.1

theorem labelUF_good (m : Mode) (shape : List Nat) (data : List Int) (offs : List (List Int)) :
    Good data (labelUF m shape data offs (data.length + 1)) :=
  foldl_inv _ _ (compress_good data) _ _
    (foldl_inv _ _ (scanPixel_good m shape offs data) _ _ ⟨⟨_, roots_init data⟩, nofun, rfl⟩)

theorem inner_fst (fuel i : Nat) (nbs : List Nat) (st : Trace) :
    (nbs.foldl (innerAcc fuel i) st).1 = nbs.foldl (fun par nb =>
        let v := par.getD nb (-1)
        if v = -1 then par else C03.join fuel par i v.toNat) st.1 :=
  (List.foldl_hom Prod.fst fun st nb => by
    simp only [innerAcc]
    rw [apply_ite Prod.fst]).symm

theorem scan_fst (m : Mode) (shape : List Nat) (offs : List (List Int)) (fuel : Nat) (l : List Nat) (st : Trace) :
    (l.foldl (scanPixelAcc m shape offs fuel) st).1 = l.foldl (C03.scanPixel m shape offs fuel) st.1 :=
  (List.foldl_hom Prod.fst fun st i => by
    unfold scanPixelAcc C03.scanPixel
    rw [apply_ite Prod.fst, inner_fst]).symm

theorem compress_fst (fuel : Nat) (l : List Nat) (st : Trace) : (l.foldl (compressAcc fuel) st).1 =
    l.foldl (fun par i => if par.getD i (-1) = -1 then par else C03.compress fuel par i) st.1 :=
  (List.foldl_hom Prod.fst fun st i => by
    unfold compressAcc
    rw [apply_ite Prod.fst]).symm

/-- the array the trace carries is the array `C03.parents` computes -/
theorem labelUF_parents (m : Mode) (shape : List Nat) (data : List Int) (offs : List (List Int)) :
    (labelUF m shape data offs (data.length + 1)).1 = C03.parents m shape data offs := by
  unfold labelUF C03.parents
  rw [compress_fst, scan_fst]

theorem inv_entries {data : List Int} {par : Array Int} {ρ : Nat → Nat} (h : Roots data par ρ) (i : Nat) :
    par.getD i (-1) = -1 ∨ (0 ≤ par.getD i (-1) ∧ par.getD i (-1) < (data.length : Int)) := by
  by_cases hf : Fg data i
  · obtain ⟨d, hr⟩ := h.fg i hf
    obtain ⟨p, hp⟩ := hr.value
    obtain ⟨dp, hpr⟩ := hr.parent hp
    exact Or.inr (hp ▸ ⟨Int.natCast_nonneg p, Int.ofNat_lt.mpr (h.size ▸ hpr.lt)⟩)
  · exact Or.inl (h.bg i hf)

end Mahotas.C10Labeled
