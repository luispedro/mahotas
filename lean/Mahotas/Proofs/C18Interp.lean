/-
C18 — the interpolation property along one axis and in any rank, for every spline order. One pole inverts the three-tap
filter `(1, λ, 1)` on the mirror extension of a line (`onePole_ext`), a list of poles the product of their taps
(`taps_foldPoles`), and for each order the B-spline sampled at the integers is such a product divided by the weight
(`Factors`): together `axis_inverts`. `nested_prefilter` lifts it to any rank over the separable prefilter written as a
function of the position (`prefilterNd`: along axis 0, then 1, …, every line replaced by the line filter's output — what
`splineFilter` leaves in the flat array).
-/
import Mahotas.Proofs.C18BSplineW
import Mahotas.Proofs.C18Init
set_option linter.unusedSectionVars false
namespace Mahotas.C18
open Mahotas

variable {K : Type} [Field K] [LinearOrder K] [IsStrictOrderedRing K]

/-- with an exact pole the coefficients `c` of the one-pole filter satisfy
    `c[fold(j−1)] + λ·c[j] + c[fold(j+1)] = s[j]` at every `0 ≤ j < n`; only sample 0 needs the exact initial value -/
theorem onePole_all (z lam c0 : K) (hz : z * z + lam * z + 1 = 0) (hz1 : z * z - 1 ≠ 0) (n : Nat) (hn : 2 ≤ n)
    (s : Nat → K) (j : Int) (h0 : 0 ≤ j) (h1 : j < n) (hinit : j = 0 → MirrorInit z n s c0) :
    onePole z c0 n s (edgeFold n (j - 1)).toNat + lam * onePole z c0 n s j.toNat
      + onePole z c0 n s (edgeFold n (j + 1)).toNat = s j.toNat := by
  obtain ⟨i, rfl⟩ := Int.eq_ofNat_of_zero_le h0
  rw [Int.toNat_natCast]
  rcases Nat.eq_zero_or_pos i with rfl | hi
  · rw [Nat.cast_zero, zero_sub, zero_add, edgeFold_start n hn, edgeFold_inside n 1 (by omega) (by omega),
      show (1 : Int).toNat = 1 from rfl]
    linear_combination onePole_first z lam c0 hz hz1 n hn s (hinit rfl)
  rw [edgeFold_inside n (i - 1) (by omega) (by omega), show ((i : Int) - 1).toNat = i - 1 by omega]
  by_cases hl : i + 1 = n
  · rw [show (i : Int) + 1 = (n : Int) by omega, edgeFold_end n hn, show ((n : Int) - 2).toNat = i - 1 by omega]
    have := onePole_last z lam c0 hz hz1 n hn s
    rw [show n - 2 = i - 1 by omega, show n - 1 = i by omega] at this
    linear_combination this
  · rw [edgeFold_inside n (i + 1) (by omega) (by omega), show ((i : Int) + 1).toNat = i + 1 by omega]
    exact onePole_interior z lam c0 hz n s i hi (by omega)

/-- the symmetric three-tap operator `(1, λ, 1)` on bi-infinite sequences -/
def tap (lam : K) (c : Int → K) (k : Int) : K := c (k - 1) + lam * c k + c (k + 1)

/-- `z` is an exact pole of the tap `λ`: a root of `z² + λz + 1` other than `±1` -/
def IsPole (z lam : K) : Prop := z * z + lam * z + 1 = 0 ∧ z * z - 1 ≠ 0

theorem IsPole.ne_zero {z lam : K} (h : IsPole z lam) : z ≠ 0 := by
  rintro rfl
  simpa using h.1

theorem IsPole.ne_zero_of_mem {ps lams : List K} (hp : List.Forall₂ IsPole ps lams) : ∀ z ∈ ps, z ≠ 0 := by
  induction hp with
  | nil => simp
  | cons hz _ ih =>
    intro z hm
    rcases List.mem_cons.mp hm with rfl | hm
    exacts [hz.ne_zero, ih z hm]

theorem onePole_ext {z lam : K} (hz : IsPole z lam) (c0 : K) (n : Nat) (hn : 2 ≤ n) (s : Nat → K)
    (hinit : MirrorInit z n s c0) : tap lam (ext n (onePole z c0 n s)) = ext n s := by
  funext k
  obtain ⟨r0, r1⟩ := edgeFold_range n (by omega) k
  have A := onePole_all z lam c0 hz.1 hz.2 n hn s (edgeFold n k) r0 r1 (fun _ => hinit)
  rcases edgeFold_neighbours n hn k with ⟨e1, e2⟩ | ⟨e1, e2⟩
  · rw [e1, e2] at A
    exact A
  · rw [e1, e2] at A
    simp only [tap, ext]
    linear_combination A

/-- `spline_filter`: along axis 0, then axis 1, …, every line `i ↦ g (…, i, …)` is replaced by `F len line` -/
def prefilterNd (F : Nat → (Nat → K) → Nat → K) : List Nat → (List Int → K) → List Int → K
  | len :: ls, g, i :: p =>
    prefilterNd F ls (fun p' => F len (fun i' => g (((i' : Nat) : Int) :: p')) i.toNat) p
  | _, g, p => g p

/-- one line of `spline_filter1d` for a single pole `z` (orders 2 and 3): lines of at most one sample are returned
    as they are, otherwise `line *= weight`, the causal pass from the initial value `ini len line`, the anti-causal
    pass (`onePole`, what `filterLine` runs) -/
def lineFilter1 (z w : K) (ini : Nat → (Nat → K) → K) (len : Nat) (s : Nat → K) (k : Nat) : K :=
  if len ≤ 1 then s k else onePole z (ini len (fun i => w * s i)) len (fun i => w * s i) k

/-- one line of `spline_filter1d`, any number of poles: lines of at most one sample are returned as they are;
    otherwise `line *= w` and, pole after pole, `line[0] = ini z len line`, causal pass, anti-causal pass -/
def lineFilterL (w : K) (ps : List K) (ini : K → Nat → (Nat → K) → K) (len : Nat) (s : Nat → K) : Nat → K :=
  if len ≤ 1 then s else ps.foldl (fun u z => onePole z (ini z len u) len u) (fun i => s i * w)

theorem lineFilterL_single (w z : K) (ini : K → Nat → (Nat → K) → K) :
    lineFilterL w [z] ini = lineFilter1 z w (ini z) := by
  funext len s k
  unfold lineFilterL lineFilter1
  by_cases hl : len ≤ 1
  · simp only [hl, if_true]
  · simp only [hl, if_false, List.foldl_cons, List.foldl_nil]
    have : (fun i => s i * w) = (fun i => w * s i) := by funext i; ring
    rw [this]

theorem taps_foldPoles (ini : K → Nat → (Nat → K) → K) (n : Nat) (hn : 2 ≤ n) {ps lams : List K}
    (hp : List.Forall₂ IsPole ps lams) (hini : ∀ z ∈ ps, ∀ s : Nat → K, MirrorInit z n s (ini z n s)) (u : Nat → K) :
    lams.foldr tap (ext n (ps.foldl (fun u z => onePole z (ini z n u) n u) u)) = ext n u := by
  induction hp generalizing u with
  | nil => rfl
  | @cons z lam ps lams hz _ ih =>
    rw [List.foldl_cons, List.foldr_cons, ih (fun z' hz' => hini z' (List.mem_cons_of_mem _ hz')),
      onePole_ext hz _ n hn u (hini z List.mem_cons_self u)]

/-- the five-tap equations with mirror boundaries at every sample of a line of 2 or 3 samples, where every knot outside
    folds back, some of them twice -/
theorem twoPole_all_small (z1 z2 l1 l2 c1 c2 : K) (h1 : z1 * z1 + l1 * z1 + 1 = 0)
    (h2 : z2 * z2 + l2 * z2 + 1 = 0) (hz1 : z1 * z1 - 1 ≠ 0) (hz2 : z2 * z2 - 1 ≠ 0)
    (n : Nat) (hn : n = 2 ∨ n = 3) (s : Nat → K) (hi1 : MirrorInit z1 n s c1)
    (hi2 : MirrorInit z2 n (onePole z1 c1 n s) c2) (j : Int) (h0 : 0 ≤ j) (hj : j < n) :
    onePole z2 c2 n (onePole z1 c1 n s) (edgeFold n (j - 2)).toNat
      + (l1 + l2) * onePole z2 c2 n (onePole z1 c1 n s) (edgeFold n (j - 1)).toNat
      + (2 + l1 * l2) * onePole z2 c2 n (onePole z1 c1 n s) j.toNat
      + (l1 + l2) * onePole z2 c2 n (onePole z1 c1 n s) (edgeFold n (j + 1)).toNat
      + onePole z2 c2 n (onePole z1 c1 n s) (edgeFold n (j + 2)).toNat = s j.toNat := by
  have hn2 : 2 ≤ n := by omega
  have A := congrFun (onePole_ext ⟨h1, hz1⟩ c1 n hn2 s hi1) j
  rw [← onePole_ext ⟨h2, hz2⟩ c2 n hn2 _ hi2, ext_inside n s j h0 hj] at A
  simp only [tap, sub_add_cancel, add_sub_cancel_right] at A
  rw [show j - 1 - 1 = j - 2 by ring, show j + 1 + 1 = j + 2 by ring, ext_inside n _ j h0 hj] at A
  simp only [ext] at A
  linear_combination A

theorem nestedSum_congr : ∀ (axes : List (List Int × List K)) (s s' : List Int → K),
    (∀ pos, List.Forall₂ (fun (k : Int) (e : List Int × List K) => k ∈ e.1) pos axes → s pos = s' pos) →
    nestedSum s axes = nestedSum s' axes := by
  intro axes
  induction axes with
  | nil =>
    intro s s' h
    rw [nestedSum, nestedSum]
    exact h [] List.Forall₂.nil
  | cons e rest ih =>
    intro s s' h
    obtain ⟨idx, w⟩ := e
    rw [nestedSum, nestedSum]
    congr 1
    apply List.map_congr_left
    intro iw hiw
    have hk : iw.1 ∈ idx := (List.of_mem_zip (a := iw.1) (b := iw.2) (by simpa using hiw)).1
    rw [ih (fun pos => s (iw.1 :: pos)) (fun pos => s' (iw.1 :: pos))
      (fun pos hp => h (iw.1 :: pos) (List.Forall₂.cons hk hp))]

theorem splineAxes_knots_inside (fl : K → Int) (order : Nat) :
    ∀ (shape : List Nat) (cs : List K) (pos : List Int), (∀ len ∈ shape, 0 < len) → shape.length = cs.length →
      List.Forall₂ (fun (k : Int) (e : List Int × List K) => k ∈ e.1) pos (splineAxes fl order shape cs) →
      inside shape pos = true := by
  intro shape
  induction shape with
  | nil =>
    intro cs pos _ hl h
    cases cs with
    | nil =>
      simp only [splineAxes] at h
      cases h
      rfl
    | cons c cs => simp at hl
  | cons len ls ih =>
    intro cs pos hpos hl h
    cases cs with
    | nil => simp at hl
    | cons c cs =>
      simp only [splineAxes] at h
      cases h with
      | cons hk hrest =>
        rename_i k pos'
        simp only [List.mem_map] at hk
        obtain ⟨hh, _, rfl⟩ := hk
        have hr := edgeFold_range len (hpos len (by simp)) (startIdx fl order c + (hh : Nat))
        simp only [inside, Bool.and_eq_true, decide_eq_true_eq]
        exact ⟨⟨hr.1, hr.2⟩, ih cs pos' (fun l hl' => hpos l (by simp [hl'])) (by simpa using hl) hrest⟩

/-- the combination `zoom_shift` forms along one axis at the integer coordinate `j`, of a sequence `c` on the
    integers (along an axis of length `len`: the mirror extension of the line of coefficients) -/
def axisComb (fl : K → Int) (order : Nat) (c : Int → K) (j : Int) : K :=
  (List.zipWith (fun (h : Nat) (w : K) => w * c (startIdx fl order (j : K) + (h : Int))) (List.range (order + 1))
    (weights fl order (j : K))).sum

theorem sum_knots (fl : K → Int) (order len : Nat) (G : Int → K) (j : Int) :
    ((((List.range (order + 1)).map fun h => edgeFold len (startIdx fl order (j : K) + ((h : Nat) : Int))).zip
        (weights fl order (j : K))).map fun iw => iw.2 * G iw.1).sum
      = axisComb fl order (fun k => G (edgeFold len k)) j := by
  rw [axisComb, List.map_zip_eq_zipWith, List.zipWith_map_left]
  rfl

theorem nested_prefilter (fl : K → Int) (order : Nat) (F : Nat → (Nat → K) → Nat → K) :
    ∀ (shape : List Nat) (js : List Int) (g : List Int → K),
      (∀ len ∈ shape, ∀ (s : Nat → K) (j : Int), 0 ≤ j → j < (len : Int) →
        axisComb fl order (ext len (F len s)) j = s j.toNat) →
      inside shape js = true →
      nestedSum (prefilterNd F shape g) (splineAxes fl order shape (js.map fun (j : Int) => (j : K))) = g js := by
  intro shape js g hline hin
  revert g hline
  refine C01.inside_induction (P := fun shape js => ∀ g : List Int → K,
    (∀ len ∈ shape, ∀ (s : Nat → K) (j : Int), 0 ≤ j → j < (len : Int) →
      axisComb fl order (ext len (F len s)) j = s j.toNat) →
    nestedSum (prefilterNd F shape g) (splineAxes fl order shape (js.map fun (j : Int) => (j : K))) = g js)
    ?_ ?_ shape js hin
  · intro g _
    simp [splineAxes, nestedSum, prefilterNd]
  · intro len ls j js h0 h1 _ ih g hline
    rw [List.map_cons, splineAxes, nestedSum]
    -- below the first axis the array is the prefilter of the rest applied to the filtered line through `js`
    have step : ∀ iw ∈ (((List.range (order + 1)).map fun h =>
          edgeFold len (startIdx fl order (j : K) + ((h : Nat) : Int))).zip (weights fl order (j : K))),
        iw.2 * nestedSum (fun pos => prefilterNd F (len :: ls) g (iw.1 :: pos))
            (splineAxes fl order ls (js.map fun (j : Int) => (j : K)))
          = iw.2 * (fun k : Int => F len (fun i' => g (((i' : Nat) : Int) :: js)) k.toNat) iw.1 := fun iw _ => by
      rw [show (fun pos => prefilterNd F (len :: ls) g (iw.1 :: pos))
          = prefilterNd F ls (fun p' => F len (fun i' => g (((i' : Nat) : Int) :: p')) iw.1.toNat) from rfl,
        ih _ fun l hl => hline l (List.mem_cons_of_mem _ hl)]
    rw [List.map_congr_left step]
    refine (sum_knots fl order len (fun k => F len (fun i' => g (((i' : Nat) : Int) :: js)) k.toNat) j).trans ?_
    exact (hline len List.mem_cons_self (fun i' => g (((i' : Nat) : Int) :: js)) j h0 h1).trans
      (by rw [Int.toNat_of_nonneg h0])

/-- on a constant sequence the combination returns the constant: the weights sum to one -/
theorem axisComb_const {fl : K → Int} (h : IsFloor fl) (order : Nat) (h1 : 1 ≤ order) (h5 : order ≤ 5) (a : K)
    (j : Int) : axisComb fl order (fun _ => a) j = a := by
  have : ∀ (l : List Nat) (ws : List K), ws.length ≤ l.length →
      (List.zipWith (fun (_ : Nat) (w : K) => w * a) l ws).sum = ws.sum * a := by
    intro l ws
    induction ws generalizing l with
    | nil => simp
    | cons w ws ih =>
      cases l with
      | nil => simp
      | cons x l => intro hl; simp only [List.zipWith_cons_cons, List.sum_cons, ih l (by simpa using hl)]; ring
  rw [axisComb, this _ _ (by simp [weights]), weights_sum h order h1 h5, one_mul]

theorem axisComb_int {fl : K → Int} (h : IsFloor fl) {order : Nat} (c : Int → K) {j : Int} {ws : List K}
    (hw : weights fl order (j : K) = ws) :
    axisComb fl order c j
      = (List.zipWith (fun (h : Nat) (w : K) => w * c (j - ((order / 2 : Nat) : Int) + (h : Int)))
          (List.range (order + 1)) ws).sum := by
  rw [axisComb, startIdx_int h, hw]

/-- `order` is a spline order whose B-spline, sampled at the integers and multiplied by the weight `w ≠ 0`, is the
    product of the taps `lams`; the bounds on `order` serve only the axis of one sample (`axisComb_const` in
    `axis_inverts`) -/
def Factors (fl : K → Int) (order : Nat) (w : K) (lams : List K) : Prop :=
  1 ≤ order ∧ order ≤ 5 ∧ w ≠ 0 ∧ ∀ (c : Int → K) (j : Int), w * axisComb fl order c j = lams.foldr tap c j

theorem factors2 {fl : K → Int} (h : IsFloor fl) : Factors fl 2 (8 : K) [6] :=
  ⟨by omega, by omega, by norm_num, fun c j => by
    rw [axisComb_int h c (weights_int2 h j)]
    simp only [show List.range (2 + 1) = [0, 1, 2] from rfl, List.zipWith_cons_cons, List.zipWith_nil_right,
      List.sum_cons, List.sum_nil, List.foldr_cons, List.foldr_nil, tap, Nat.cast_ofNat, Nat.cast_zero, Nat.cast_one,
      Nat.reduceDiv, sub_add_cancel, add_zero]
    rw [show j - 1 + 2 = j + 1 by ring]
    ring⟩

theorem factors3 {fl : K → Int} (h : IsFloor fl) : Factors fl 3 (6 : K) [4] :=
  ⟨by omega, by omega, by norm_num, fun c j => by
    rw [axisComb_int h c (weights_int3 h j)]
    simp only [show List.range (3 + 1) = [0, 1, 2, 3] from rfl, List.zipWith_cons_cons, List.zipWith_nil_right,
      List.sum_cons, List.sum_nil, List.foldr_cons, List.foldr_nil, tap, Nat.cast_ofNat, Nat.cast_zero, Nat.cast_one,
      Nat.reduceDiv, sub_add_cancel, add_zero]
    rw [show j - 1 + 2 = j + 1 by ring]
    ring⟩

theorem factors4 {fl : K → Int} (h : IsFloor fl) {l1 l2 : K} (hs : l1 + l2 = 76) (hp : l1 * l2 = 228) :
    Factors fl 4 (384 : K) [l1, l2] :=
  ⟨by omega, by omega, by norm_num, fun c j => by
    rw [axisComb_int h c (weights_int4 h j)]
    simp only [show List.range (4 + 1) = [0, 1, 2, 3, 4] from rfl, List.zipWith_cons_cons, List.zipWith_nil_right,
      List.sum_cons, List.sum_nil, List.foldr_cons, List.foldr_nil, tap, Nat.cast_ofNat, Nat.cast_zero, Nat.cast_one,
      Nat.reduceDiv, sub_add_cancel, add_sub_cancel_right, add_zero]
    rw [show j - 2 = j - 1 - 1 by ring, show j - 1 - 1 + 1 = j - 1 by ring, show j - 1 - 1 + 3 = j + 1 by ring,
      show j - 1 - 1 + 4 = j + 1 + 1 by ring]
    linear_combination -(c (j - 1) + c (j + 1)) * hs - c j * hp⟩

theorem factors5 {fl : K → Int} (h : IsFloor fl) {l1 l2 : K} (hs : l1 + l2 = 26) (hp : l1 * l2 = 64) :
    Factors fl 5 (120 : K) [l1, l2] :=
  ⟨by omega, by omega, by norm_num, fun c j => by
    rw [axisComb_int h c (weights_int5 h j)]
    simp only [show List.range (5 + 1) = [0, 1, 2, 3, 4, 5] from rfl, List.zipWith_cons_cons, List.zipWith_nil_right,
      List.sum_cons, List.sum_nil, List.foldr_cons, List.foldr_nil, tap, Nat.cast_ofNat, Nat.cast_zero, Nat.cast_one,
      Nat.reduceDiv, sub_add_cancel, add_sub_cancel_right, add_zero]
    rw [show j - 2 = j - 1 - 1 by ring, show j - 1 - 1 + 1 = j - 1 by ring, show j - 1 - 1 + 3 = j + 1 by ring,
      show j - 1 - 1 + 4 = j + 1 + 1 by ring]
    linear_combination -(c (j - 1) + c (j + 1)) * hs - c j * hp⟩

/-- the hypothesis `hline` of `nested_prefilter`, every order: an axis of one sample is not filtered and all its
    knots fold to that sample, with weights that sum to one; on a longer one the exact poles invert the taps -/
theorem axis_inverts {fl : K → Int} (h : IsFloor fl) {order : Nat} {w : K} {lams : List K}
    (hf : Factors fl order w lams) {ps : List K} (hp : List.Forall₂ IsPole ps lams)
    (ini : K → Nat → (Nat → K) → K) (len : Nat) (hlen : len = 1 ∨ 2 ≤ len)
    (hini : 2 ≤ len → ∀ z ∈ ps, ∀ s : Nat → K, MirrorInit z len s (ini z len s)) (s : Nat → K) (j : Int)
    (h0 : 0 ≤ j) (hj : j < (len : Int)) : axisComb fl order (ext len (lineFilterL w ps ini len s)) j = s j.toNat := by
  obtain ⟨h1, h5, hw, hf⟩ := hf
  rcases hlen with rfl | hlen
  · obtain rfl : j = 0 := by omega
    have e : ext 1 (lineFilterL w ps ini 1 s) = fun _ => s 0 := funext fun k => by rw [ext, edgeFold_one]; rfl
    rw [e]
    exact axisComb_const h order h1 h5 _ 0
  · apply mul_left_cancel₀ hw
    rw [hf, lineFilterL, if_neg (by omega), taps_foldPoles ini len hlen hp (hini hlen), ext_inside len _ j h0 hj,
      mul_comm]

theorem inRange_of_inside : ∀ (shape : List Nat) (js : List Int), inside shape js = true →
    InRange shape (js.map fun (j : Int) => (j : K)) :=
  C01.inside_induction trivial fun len ls j js h0 h1 _ ih => by
    simp only [List.map_cons, InRange]
    exact ⟨⟨by exact_mod_cast h0, by exact_mod_cast Int.le_sub_one_of_lt h1⟩, ih⟩

theorem nestedSum_inside (fl : K → Int) (order : Nat) (im : Img K) (js : List Int)
    (hpos : ∀ len ∈ im.shape, 0 < len) (hin : inside im.shape js = true)
    (c : List Int → K) (hdata : ∀ pos, inside im.shape pos = true → im.getD pos 0 = c pos) :
    nestedSum (fun pos => im.getD pos 0) (splineAxes fl order im.shape (js.map fun (j : Int) => (j : K)))
      = nestedSum c (splineAxes fl order im.shape (js.map fun (j : Int) => (j : K))) := by
  apply nestedSum_congr
  intro pos hp
  apply hdata
  exact splineAxes_knots_inside fl order im.shape _ pos hpos
    (by rw [List.length_map, C01.inside_length hin]) hp

theorem pixel_at_integer (fl : K → Int) (order : Nat) (m : Mode) (cval : K) (im : Img K)
    (shifts zooms : List (Option K)) (p js : List Int) (hpos : ∀ len ∈ im.shape, 0 < len)
    (hin : inside im.shape js = true)
    (hc : coordsOf im.shape p shifts zooms = js.map fun (j : Int) => (j : K))
    (c : List Int → K) (hdata : ∀ pos, inside im.shape pos = true → im.getD pos 0 = c pos) :
    pixel fl order m cval im shifts zooms p
      = nestedSum c (splineAxes fl order im.shape (js.map fun (j : Int) => (j : K))) := by
  rw [pixel_inrange fl order m cval im shifts zooms p (by rw [hc]; exact inRange_of_inside im.shape js hin), hc]
  exact nestedSum_inside fl order im js hpos hin c hdata

theorem pixel_line (fl : K → Int) (order : Nat) (m : Mode) (cval : K) (im : Img K) (n : Nat) (hshape : im.shape = [n])
    (s z : Option K) (kk j : Int) (h0 : 0 ≤ j) (h1 : j < n) (hc : coord kk.toNat s z = (j : K)) :
    pixel fl order m cval im [s] [z] [kk] = axisComb fl order (fun k => im.getD [edgeFold n k] 0) j := by
  rw [pixel_at_integer fl order m cval im [s] [z] [kk] [j] (by rw [hshape]; simp; omega)
    (by rw [hshape]; simp [inside, h0, h1]) (by rw [hshape]; simp [coordsOf, hc]) _ (fun _ _ => rfl), hshape]
  simp only [List.map_cons, List.map_nil, splineAxes]
  rw [nestedSum]
  simp only [nestedSum]
  exact sum_knots fl order n (fun k => im.getD [k] 0) j

/-- integer shifts at order 3 on a line whose coefficients are the one-pole prefilter of `f` (weight 6, an exact
    root of `z² + 4z + 1`): `zoom_shift` returns `f` at the source index; only source 0 needs the exact initial
    value of the causal pass -/
theorem shift3_line {fl : K → Int} (h : IsFloor fl) (m : Mode) (cval z c0 : K) (hz : z * z + 4 * z + 1 = 0)
    (hz1 : z * z - 1 ≠ 0) (n : Nat) (f : Nat → K) (im : Img K) (hshape : im.shape = [n])
    (hdata : ∀ k, k < n → im.getD [((k : Nat) : Int)] 0 = onePole z c0 n (fun i => 6 * f i) k)
    (kk d : Int) (i : Nat) (hkk : 0 ≤ kk) (hi : kk - d = (i : Int)) (h2 : i + 1 ≤ n) (hn : 2 ≤ n)
    (hinit : i = 0 → MirrorInit z n (fun i => 6 * f i) c0) :
    pixel fl 3 m cval im [some (-(d : K))] [none] [kk] = f i := by
  have hd : ∀ k : Int, im.getD [edgeFold n k] 0 = onePole z c0 n (fun i => 6 * f i) (edgeFold n k).toNat := by
    intro k
    obtain ⟨r0, r1⟩ := edgeFold_range n (by omega) k
    have := hdata (edgeFold n k).toNat (by omega)
    rwa [Int.toNat_of_nonneg r0] at this
  have A := onePole_all z 4 c0 hz hz1 n hn (fun i => 6 * f i) i (by omega) (by omega) (by simpa using hinit)
  rw [pixel_line fl 3 m cval im n hshape _ _ kk i (by omega) (by omega)
    (by rw [coord_shift kk hkk, ← hi]; push_cast; ring), ← mul_right_inj' (show (6 : K) ≠ 0 by norm_num), (factors3 h).2.2.2]
  simp only [List.foldr_cons, List.foldr_nil, tap, hd]
  rw [edgeFold_inside n i (by omega) (by omega)]
  rw [Int.toNat_natCast] at A ⊢
  exact A

end Mahotas.C18
