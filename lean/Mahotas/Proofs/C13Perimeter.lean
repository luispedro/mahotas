/-
C13 — `labeled.perimeter`: the counts that enter the dot product with the weight table
(`bwperim`, 3×3 convolution in `reflect` mode, `fullhistogram`, first 34 bins) equal the direct classification of
every perimeter pixel by its numbers of edge and diagonal neighbours on the perimeter.
-/
import Mahotas.Proofs.C13Maps
import Mahotas.Proofs.C13
import Mathlib.Tactic.Ring
import Mathlib.Data.List.Nodup
import Mathlib.Data.List.Count
namespace Mahotas.C13
open Mahotas

/-- the weight table read through the mask: a bin `c + 2a + 10d` (`c ≤ 1` centre, `a ≤ 4` edge neighbours, `d ≤ 4`
    diagonal neighbours — the decomposition is unique) has the class the direct rule gives -/
theorem perimClass_table : ∀ (c : Fin 2) (a d : Fin 5),
    perimClass (c.val + 2 * a.val + 10 * d.val) = perimClassAD c.val a.val d.val := by
  decide +kernel

theorem perimClass_AD (c a d : Nat) (hc : c ≤ 1) (ha : a ≤ 4) (hd : d ≤ 4) :
    perimClass (c + 2 * a + 10 * d) = perimClassAD c a d :=
  perimClass_table ⟨c, by omega⟩ ⟨a, by omega⟩ ⟨d, by omega⟩

theorem perimAt_le (shape : List Nat) (perim : List Bool) (i : Nat) (k : List Int) : perimAt shape perim i k ≤ 1 := by
  unfold perimAt
  split
  · split <;> omega
  · omega

theorem perimConv_term (shape : List Nat) (hs : ∀ d ∈ shape, 0 < d) (perim : List Bool) (i : Nat) (k : List Int) :
    perimTerm shape perim i k = perimMagic k * perimAt shape perim i k := by
  unfold perimTerm perimAt
  rw [fixPos_eq_specPos .reflect shape _ hs]
  cases specPos Mode.reflect shape (addPos (unravelI shape i) k) with
  | none => simp
  | some q =>
    simp only
    by_cases hq : perim.getD (ravelI shape q) false = true
    · rw [if_pos hq, if_pos hq]; simp
    · rw [if_neg hq, if_neg hq]; simp

theorem perimConv_class (shape : List Nat) (hs : ∀ d ∈ shape, 0 < d) (perim : List Bool) (i : Nat) :
    perimClass (perimConvAt shape perim i) = perimCls shape perim i := by
  have b := perimAt_le shape perim i
  rw [perimCls, ← perimClass_AD _ _ _ (b _)
    (by have := b [-1, 0]; have := b [0, -1]; have := b [0, 1]; have := b [1, 0]; omega)
    (by have := b [-1, -1]; have := b [-1, 1]; have := b [1, -1]; have := b [1, 1]; omega)]
  simp only [perimConvAt, perimConv_term shape hs perim i, nb9, List.map_cons, List.map_nil, List.foldl_cons,
    List.foldl_nil]
  congr 1
  -- the mask weights `perimMagic k` evaluate to 10 (diagonal), 2 (edge), 1 (centre)
  show 0 + 10 * _ + 2 * _ + 10 * _ + 2 * _ + 1 * _ + 2 * _ + 10 * _ + 2 * _ + 10 * _ = _
  ring

/-- summing the multiplicities of the values in a duplicate-free list `S` counts the elements that lie in `S`
    (`sum_countP_bins` with every item admitted and the item as its own bin) -/
theorem sum_count_eq (S : List Nat) (hnd : S.Nodup) (vs : List Nat) :
    (S.map fun v => vs.count v).sum = (vs.filter fun x => decide (x ∈ S)).length := by
  have h := sum_countP_bins S hnd (fun _ => true) id vs
  simp only [Bool.true_and, id] at h
  rw [← List.countP_eq_length_filter]
  refine Eq.trans (congrArg List.sum (List.map_congr_left fun v _ => ?_)) (h.trans (List.countP_congr fun x _ => ?_))
  · rw [List.count_eq_countP]
  · simp only [List.contains_iff_mem, decide_eq_true_eq]

theorem count_cast (conv : List Nat) (v : Nat) :
    ((conv.map fun (x : Nat) => (x : Int)).filter (· == (v : Int))).length = conv.count v := by
  rw [← List.countP_eq_length_filter, ← List.count_map_of_injective conv _ Int.ofNat_injective v]
  rfl

theorem perimClass_zero_of_ge (v : Nat) (h : 34 ≤ v) : perimClass v = 0 := by
  simp only [perimClass, List.contains_eq_mem, List.mem_cons, List.not_mem_nil, or_false, decide_eq_true_eq]
  rw [if_neg (by omega), if_neg (by omega), if_neg (by omega)]

/-- reading a class count off the histogram: summing the bins `v < B` of class `c` counts the values of class `c`,
    provided no value from `B` on has that class -/
theorem hist_class_count (cls : Nat → Nat) (c B : Nat) (hB : ∀ v, B ≤ v → cls v ≠ c) (conv : List Nat) :
    (((List.range (min B (fullHistogram false (conv.map fun (v : Nat) => (v : Int))).length)).filter
        fun v => cls v == c).map
      fun v => (fullHistogram false (conv.map fun (v : Nat) => (v : Int))).getD v 0).foldl (· + ·) 0 =
    (conv.filter fun x => cls x == c).length := by
  generalize hconvI : (conv.map fun (v : Nat) => (v : Int)) = convI
  have hnn : ∀ v ∈ convI, 0 ≤ v := by
    intro v hv
    rw [← hconvI] at hv
    obtain ⟨w, _, rfl⟩ := List.mem_map.1 hv
    exact Int.natCast_nonneg w
  have hlen : (fullHistogram false convI).length = (maxOf convI).toNat + 1 := by
    rw [fullHistogram, if_neg Bool.false_ne_true, Array.length_toList, histogram_size]
  have hget : ∀ v, v < (maxOf convI).toNat + 1 → (fullHistogram false convI).getD v 0 = conv.count v := by
    intro v hv
    rw [fullHistogram, if_neg Bool.false_ne_true, List.getD_eq_getElem?_getD, Array.getElem?_toList,
      histogram_slot _ convI hnn v hv, Option.getD_some, ← hconvI, count_cast]
  rw [hlen, Mahotas.foldl_add_sum, Nat.zero_add, List.map_congr_left (g := fun v => conv.count v),
    sum_count_eq _ (List.Nodup.filter _ List.nodup_range) conv]
  · -- a value of class `c` is below `B` and, being a value, below the number of bins
    apply congrArg List.length (List.filter_congr _)
    intro x hx
    have hxI : (x : Int) ∈ convI := hconvI ▸ List.mem_map.2 ⟨x, hx, rfl⟩
    have := le_maxOf hxI
    rw [Bool.eq_iff_iff, decide_eq_true_iff, List.mem_filter, List.mem_range, beq_iff_eq]
    refine ⟨fun h => h.2, fun h => ⟨?_, h⟩⟩
    have : x < B := Nat.lt_of_not_le fun hge => hB x hge h
    omega
  · intro v hv
    have := List.mem_range.1 (List.mem_filter.1 hv).1
    exact hget v (by omega)

end Mahotas.C13
