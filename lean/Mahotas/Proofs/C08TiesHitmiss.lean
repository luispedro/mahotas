/-
C08 — lemmas for `hitmissView` = `C14.hitmissAt` at every pixel (`C08_hitmissView_eq_C14`), the bound on `i + delta` included.

Wherever the loop control `C14.hmEvaluated` lets the template be evaluated the element fits (`C10.Fits`), so
`i + pos_to_flat(k − centre)` is the flat index of the inside position `p + k − centre` (`C10.Fits_neighbour`) and
`at_flat` (F8) reads that logical element.
-/
import Mahotas.Proofs.C08Kernels
import Mahotas.Proofs.C10Index
namespace Mahotas.C08
open Mahotas

theorem posToFlatGo_append (a : List Nat) (b : List Int) (d : Nat) (x : Int) (cum : Int) (h : a.length = b.length) :
    posToFlatGo (a ++ [d]) (b ++ [x]) cum = posToFlatGo a b cum + x * (cum * (shapeSize a : Int)) := by
  induction a generalizing b cum with
  | nil =>
    cases b with
    | nil => simp [posToFlatGo, shapeSize]
    | cons _ _ => simp at h
  | cons e es ih =>
    cases b with
    | nil => simp at h
    | cons y ys =>
      simp only [List.cons_append, posToFlatGo, shapeSize]
      rw [ih ys _ (by simpa using h)]
      push_cast
      ring

theorem posToFlatGo_reverse (s : List Nat) (p : List Int) (cum : Int) (h : s.length = p.length) :
    posToFlatGo s.reverse p.reverse cum = cum * C10.ravelZ s p := by
  induction s generalizing p with
  | nil =>
    cases p with
    | nil => simp [posToFlatGo, C10.ravelZ]
    | cons _ _ => simp at h
  | cons d ds ih =>
    cases p with
    | nil => simp at h
    | cons x xs =>
      simp only [List.reverse_cons]
      rw [posToFlatGo_append _ _ _ _ _ (by simpa using h), ih xs (by simpa using h), shapeSize_reverse]
      simp only [C10.ravelZ]
      ring

/-- also for negative coordinates: `hitmiss` calls `pos_to_flat` on `position − centre` -/
theorem posToFlat_eq_ravelZ (v : View) (pos : List Int) (h : v.shape.length = pos.length) :
    v.posToFlat pos = C10.ravelZ v.shape pos := by
  unfold View.posToFlat
  rw [posToFlatGo_reverse _ _ _ h]
  ring

/-- **the bound, inside this model.** At an evaluated pixel `i`, for every template coordinate `j`, the flat index
`i + pos_to_flat(k_j − centre)` is in range and `at_flat` reads the logical element under the template entry. -/
theorem hm_read (mA : Int → Int) (vA : View) (wfA : vA.WF) (bshape : List Nat) (hl : bshape.length = vA.shape.length)
    (i : Nat) (hi : i < shapeSize vA.shape)
    (hev : C14.hmEvaluated vA.shape bshape (unravelI vA.shape i) = true) (j : Nat) (hj : j < shapeSize bshape) :
    ((i : Int) + vA.posToFlat (offAt bshape j)).toNat < shapeSize vA.shape ∧
    readAtFlat mA vA ((i : Int) + vA.posToFlat (offAt bshape j)).toNat =
      (toImg mA vA).getD (addPos (unravelI vA.shape i) (offAt bshape j)) 0 := by
  have hf := C10.hmEvaluated_fits _ _ _ hev
  have hk : inside bshape (unravelI bshape j) = true := C01.inside_unravelI _ _ hj
  obtain ⟨h1, h2⟩ := C10.Fits_neighbour vA.shape bshape _ (unravelI bshape j) hf hk
  have hc : bshape.map C10.origin = centreOf bshape := rfl
  rw [hc] at h1 h2
  have h1' : inside vA.shape (addPos (unravelI vA.shape i) (offAt bshape j)) = true := h1
  have h2' : C10.ravelZ vA.shape (addPos (unravelI vA.shape i) (offAt bshape j)) =
      C10.ravelZ vA.shape (unravelI vA.shape i) + C10.ravelZ vA.shape (offAt bshape j) := h2
  have hidx : (i : Int) + vA.posToFlat (offAt bshape j) =
      ((ravelI vA.shape (addPos (unravelI vA.shape i) (offAt bshape j)) : Nat) : Int) := by
    rw [posToFlat_eq_ravelZ vA _ (by rw [offAt_length, hl]), ← C10.ravelZ_eq _ _ h1', h2',
      C10.ravelZ_unravelI vA.shape i hi]
  have hlt := C01.ravelI_lt vA.shape _ h1'
  rw [hidx, Int.toNat_natCast]
  refine ⟨hlt, ?_⟩
  rw [readAtFlat_logical mA vA wfA _ hlt 0, C01.unravelI_ravelI _ _ h1']

/-- the indices of the tested template entries -/
def hmIdx (bshape : List Nat) (w : List Int) : List Nat :=
  (List.range (shapeSize bshape)).filter fun j => !(w.getD j 0 == 2)

theorem hmTable_eq (vA : View) (mB : Int → Int) (vB : View) (wfB : vB.WF) :
    hmTable vA mB vB =
      (hmIdx vB.shape (logical mB vB)).map fun j => (vA.posToFlat (offAt vB.shape j), (logical mB vB).getD j 0) := by
  unfold hmTable hmIdx
  rw [← filterMap_ite (List.range (shapeSize vB.shape)) (fun j => (logical mB vB).getD j 0 == 2)
    (fun j => (vA.posToFlat (offAt vB.shape j), (logical mB vB).getD j 0))]
  apply filterMap_congr_mem
  intro j hj
  have hj' : j < shapeSize vB.shape := List.mem_range.1 hj
  simp only
  rw [position_eq vB wfB.len j hj', readIter_eq mB vB wfB.len j hj', ← logical_getD mB vB j hj' 0]
  rfl

theorem C14_hmEntries_eq (bshape : List Nat) (w : List Int) :
    C14.hmEntries bshape w.toArray = (hmIdx bshape w).map fun j => (offAt bshape j, w.getD j 0) := by
  unfold C14.hmEntries
  simp only [getD_toArray]
  exact filterMap_ite _ _ _

end Mahotas.C08
