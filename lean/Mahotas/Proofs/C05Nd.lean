/-
C05 — the passes of the 1-D kernel along every axis (`distanceCoord`) compute, at every pixel `p`, the minimum over all
pixels `q` of `|p − q|² + f0 q`, and the tracked origin attains it.

One invariant over the passes (`NdInv`): after the axes `0 … k-1` the value at `p` is that minimum over the pixels that
agree with `p` on the remaining axes, and the tracked origin is such a pixel realising it. It holds from any start image
(`NdInv.start`, `NdInv.passes`); `distance()` starts from 0 on the background and a fill value above every attainable
distance elsewhere (`nd_core`). Of the 1-D kernel only `ownerAt_lt` and `valueAt_ownerAt_le` are used.
-/
import Mahotas.Proofs.C05
import Mahotas.Proofs.C01Index

namespace Mahotas.C05
open Mahotas

theorem tabulate_shape {α : Type} (shape : List Nat) (f : List Int → α) :
    (Img.tabulate shape f).shape = shape := rfl

theorem getD_of_not_inside {α : Type} (im : Img α) (p : List Int) (d : α)
    (hp : ¬ inside im.shape p = true) : im.getD p d = d :=
  if_neg hp

theorem getD_mem {l : List Nat} {k : Nat} (hk : k < l.length) : l.getD k 0 ∈ l := by
  rw [List.getD_eq_getElem?_getD, List.getElem?_eq_getElem hk]
  exact List.getElem_mem hk

theorem sqDist_self (p : List Int) : sqDist p p = 0 := by
  induction p with
  | nil => rfl
  | cons a ps ih => simp [sqDist, ih]

theorem sqDist_nonneg (p q : List Int) : 0 ≤ sqDist p q := by
  induction p generalizing q with
  | nil => cases q <;> exact le_rfl
  | cons a ps ih =>
    cases q with
    | nil => exact le_rfl
    | cons b qs => exact add_nonneg (mul_self_nonneg _) (ih qs)

theorem sqDist_set (p q : List Int) (k : Nat) (hp : k < p.length) (hq : k < q.length) :
    sqDist p q = (p.getD k 0 - q.getD k 0) ^ 2 + sqDist (p.set k (q.getD k 0)) q := by
  rw [sq]
  induction p generalizing q k with
  | nil => exact absurd hp (Nat.not_lt_zero k)
  | cons a ps ih =>
    cases q with
    | nil => exact absurd hq (Nat.not_lt_zero k)
    | cons b qs =>
      cases k with
      | zero =>
        show _ = _ + ((b - b) * (b - b) + sqDist ps qs)
        rw [sub_self, mul_zero, zero_add]
        rfl
      | succ k =>
        show (a - b) * (a - b) + sqDist ps qs = _ + ((a - b) * (a - b) + sqDist (ps.set k (qs.getD k 0)) qs)
        rw [ih qs k (Nat.lt_of_succ_lt_succ hp) (Nat.lt_of_succ_lt_succ hq), add_left_comm]
        rfl

theorem sqDist_le_max (s : List Nat) (p q : List Int) (hp : inside s p = true) (hq : inside s q = true) :
    sqDist p q ≤ maxDist2 s := by
  induction s generalizing p q with
  | nil =>
    rw [List.eq_nil_of_length_eq_zero (C01.inside_length hp),
      List.eq_nil_of_length_eq_zero (C01.inside_length hq)]
    exact Int.le_refl 0
  | cons d ds ih =>
    cases p with
    | nil => simp [inside] at hp
    | cons a ps =>
      cases q with
      | nil => simp [inside] at hq
      | cons b qs =>
        rw [C01.inside_cons] at hp hq
        exact add_le_add
          (mul_self_le_mul_self_of_le_of_neg_le (by omega) (by omega)) (ih ps qs hp.2 hq.2)

theorem drop_set_succ (p : List Int) (k : Nat) (t : Int) : (p.set k t).drop (k + 1) = p.drop (k + 1) :=
  List.drop_set_of_lt (Nat.lt_succ_self k)

theorem drop_getD (q : List Int) (k : Nat) (hk : k < q.length) :
    q.drop k = q.getD k 0 :: q.drop (k + 1) := by
  rw [List.getD_eq_getElem?_getD, List.getElem?_eq_getElem hk, Option.getD_some]
  exact List.drop_eq_getElem_cons hk

theorem drop_set_self (p : List Int) (k : Nat) (t : Int) (hk : k < p.length) :
    (p.set k t).drop k = t :: p.drop (k + 1) := by
  rw [drop_getD _ k (by rw [List.length_set]; exact hk), C01.getD_set_self p k t 0 hk, drop_set_succ]

theorem ownerAt_eq (f : Array Int) (m : ℕ) (hm : f.size = m + 1) (q : ℕ) (hq : q ≤ m) :
    ownerAt f q = owner (build (gOf f) m) (q : ℚ) := by
  unfold ownerAt
  rw [owners1d_eq_top]
  unfold owners1dTop
  rw [hm]
  simp only
  have : q < m + 1 := Nat.lt_succ_of_le hq
  simp only [List.getD_eq_getElem?_getD, List.getElem?_map, List.getElem?_range this, Option.map_some,
    Option.getD_some]
  rfl

theorem ownerAt_lt (f : Array Int) (q : ℕ) (hq : q < f.size) : ownerAt f q < f.size := by
  obtain ⟨m, hm⟩ : ∃ m, f.size = m + 1 := ⟨f.size - 1, by omega⟩
  rw [ownerAt_eq f m hm q (by omega), hm]
  exact Nat.lt_succ_of_le (owner_build_le _ m _)

theorem valueAt_ownerAt_le (f : Array Int) (q t : ℕ) (hq : q < f.size) (ht : t < f.size) :
    valueAt f q (ownerAt f q) ≤ valueAt f q t := by
  obtain ⟨m, hm⟩ : ∃ m, f.size = m + 1 := ⟨f.size - 1, by omega⟩
  rw [ownerAt_eq f m hm q (by omega), valueAt_owner_eq_min f m hm q]
  exact minPlus1d_le f q t ht

theorem lineOf_size (im : Img Int) (p : List Int) (ax : Nat) : (lineOf im p ax).size = im.shape.getD ax 0 := by
  simp [lineOf]

theorem lineOf_getD (im : Img Int) (p : List Int) (ax : Nat) (t : Nat) (ht : t < im.shape.getD ax 0) :
    (lineOf im p ax).getD t 0 = im.getD (p.set ax (t : Int)) 0 := by
  unfold lineOf
  simp only [Array.getD_eq_getD_getElem?, List.getElem?_toArray, List.getElem?_map,
    List.getElem?_range ht, Option.map_some, Option.getD_some]

theorem passCoord_fst_getD (fo : Img Int × Img Int) (ax : Nat) (p : List Int)
    (hp : inside fo.1.shape p = true) :
    (passCoord fo ax).1.getD p 0 = valueAt (lineOf fo.1 p ax) (p.getD ax 0).toNat
      (ownerAt (lineOf fo.1 p ax) (p.getD ax 0).toNat) :=
  tabulate_getD _ _ p 0 hp

theorem passCoord_snd_getD (fo : Img Int × Img Int) (ax : Nat) (p : List Int)
    (hp : inside fo.1.shape p = true) :
    (passCoord fo ax).2.getD p 0 =
      fo.2.getD (p.set ax ((ownerAt (lineOf fo.1 p ax) (p.getD ax 0).toNat : Nat) : Int)) 0 :=
  tabulate_getD _ _ p 0 hp

/-- after the passes along axes `0 … k-1`: at every pixel the tracked origin agrees with the pixel on
    the axes not yet handled, realises the value, and the value is a lower bound over all such pixels -/
structure NdInv (shape : List Nat) (f0 : List Int → Int) (k : Nat) (fo : Img Int × Img Int) : Prop where
  shape1 : fo.1.shape = shape
  shape2 : fo.2.shape = shape
  at_ : ∀ p, inside shape p = true →
    ∃ n : Nat, n < shapeSize shape ∧ fo.2.getD p 0 = (n : Int) ∧
      (unravelI shape n).drop k = p.drop k ∧
      fo.1.getD p 0 = sqDist p (unravelI shape n) + f0 (unravelI shape n) ∧
      ∀ q, inside shape q = true → q.drop k = p.drop k → fo.1.getD p 0 ≤ sqDist p q + f0 q

theorem pass_inv (shape : List Nat) (f0 : List Int → Int) (k : Nat) (hk : k < shape.length)
    (fo : Img Int × Img Int) (h : NdInv shape f0 k fo) : NdInv shape f0 (k + 1) (passCoord fo k) := by
  refine ⟨h.shape1, h.shape1, ?_⟩
  intro p hp
  have hpl : p.length = shape.length := C01.inside_length hp
  obtain ⟨hp0, hp1⟩ := C01.inside_getD shape p k hp hk
  have hsz : (lineOf fo.1 p k).size = shape.getD k 0 := by rw [lineOf_size, h.shape1]
  have hq : (p.getD k 0).toNat < (lineOf fo.1 p k).size := by rw [hsz]; omega
  have hv := ownerAt_lt (lineOf fo.1 p k) _ hq
  rw [hsz] at hv
  have hqc : (((p.getD k 0).toNat : Nat) : Int) = p.getD k 0 := Int.toNat_of_nonneg hp0
  -- the pixel on the line whose value is taken
  have hp' : inside shape (p.set k ((ownerAt (lineOf fo.1 p k) (p.getD k 0).toNat : Nat) : Int)) = true :=
    C01.inside_set shape p k _ hp (Int.natCast_nonneg _) (by exact_mod_cast hv)
  obtain ⟨n, hn, ho, hdrop, hval, _⟩ := h.at_ _ hp'
  have hol : (unravelI shape n).length = shape.length := C01.inside_length (C01.inside_unravelI shape n hn)
  -- `n` agrees with that pixel from axis `k` on: it has the owner at axis `k` and agrees with `p` beyond
  have e1 := drop_getD (unravelI shape n) k (by rw [hol]; exact hk)
  rw [hdrop, drop_set_self p k _ (by rw [hpl]; exact hk)] at e1
  obtain ⟨hok, hd1⟩ := List.cons.inj e1
  have hv1 : (passCoord fo k).1.getD p 0 =
      valueAt (lineOf fo.1 p k) (p.getD k 0).toNat (ownerAt (lineOf fo.1 p k) (p.getD k 0).toNat) :=
    passCoord_fst_getD fo k p (h.shape1 ▸ hp)
  have hv2 : (passCoord fo k).2.getD p 0 =
      fo.2.getD (p.set k ((ownerAt (lineOf fo.1 p k) (p.getD k 0).toNat : Nat) : Int)) 0 :=
    passCoord_snd_getD fo k p (h.shape1 ▸ hp)
  refine ⟨n, hn, by rw [hv2]; exact ho, hd1.symm, ?_, ?_⟩
  · rw [hv1]
    unfold valueAt
    rw [lineOf_getD _ _ _ _ (by rw [h.shape1]; exact hv), hval, hqc,
      sqDist_set p (unravelI shape n) k (by rw [hpl]; exact hk) (by rw [hol]; exact hk), ← hok,
      add_assoc]
  · intro q hqi hqd
    have hql : q.length = shape.length := C01.inside_length hqi
    obtain ⟨hq0, hq1⟩ := C01.inside_getD shape q k hqi hk
    have ht : (q.getD k 0).toNat < (lineOf fo.1 p k).size := by rw [hsz]; omega
    have hle := valueAt_ownerAt_le (lineOf fo.1 p k) (p.getD k 0).toNat (q.getD k 0).toNat hq ht
    have htc : (((q.getD k 0).toNat : Nat) : Int) = q.getD k 0 := Int.toNat_of_nonneg hq0
    have hp'' : inside shape (p.set k (q.getD k 0)) = true := C01.inside_set shape p k _ hp hq0 hq1
    obtain ⟨n2, _, _, _, _, hlow⟩ := h.at_ _ hp''
    have hqd' : q.drop k = (p.set k (q.getD k 0)).drop k := by
      rw [drop_getD q k (by rw [hql]; exact hk), drop_set_self p k _ (by rw [hpl]; exact hk), hqd]
    have hl2 := hlow q hqi hqd'
    rw [hv1]
    refine le_trans hle ?_
    unfold valueAt
    rw [lineOf_getD _ _ _ _ (by rw [h.shape1, ← hsz]; exact ht), htc, hqc,
      sqDist_set p q k (by rw [hpl]; exact hk) (by rw [hql]; exact hk), add_assoc]
    exact add_le_add le_rfl hl2

theorem NdInv.start (shape : List Nat) (F : Img Int) (hF : F.shape = shape) :
    NdInv shape (fun q => F.getD q 0) 0 (F, Img.tabulate shape fun p => ((ravelI shape p : Nat) : Int)) := by
  refine ⟨hF, rfl, fun p hp =>
    ⟨ravelI shape p, C01.ravelI_lt shape p hp, tabulate_getD shape _ p 0 hp, ?_, ?_, ?_⟩⟩
  · rw [C01.unravelI_ravelI shape p hp]
  · rw [C01.unravelI_ravelI shape p hp, sqDist_self, zero_add]
  · intro q _ hqd
    rw [List.drop_zero, List.drop_zero] at hqd
    rw [hqd, sqDist_self, zero_add]

/-- the transform of a sampled function: from any start, `k` passes minimise `|p − q|² + f0 q` over the pixels
    `q` that agree with `p` on the axes not yet handled, and track a minimiser -/
theorem NdInv.passes {shape : List Nat} {f0 : List Int → Int} {FO : Img Int × Img Int}
    (h : NdInv shape f0 0 FO) (k : Nat) (hk : k ≤ shape.length) :
    NdInv shape f0 k ((List.range k).foldl passCoord FO) := by
  induction k with
  | zero => exact h
  | succ k ih =>
    rw [List.range_succ, List.foldl_append]
    exact pass_inv shape _ k hk _ (ih (Nat.le_of_succ_le hk))

theorem passes_inv (shape : List Nat) (bw : Array Int) (k : Nat) (hk : k ≤ shape.length) :
    NdInv shape (fun q => (initCoord shape bw).1.getD q 0) k
      ((List.range k).foldl passCoord (initCoord shape bw)) :=
  (NdInv.start shape (initCoord shape bw).1 rfl).passes k hk

theorem maxDist2_le_sumSq (s : List Nat) (hs : ∀ d ∈ s, 1 ≤ d) : maxDist2 s ≤ sumSq s := by
  induction s with
  | nil => exact le_rfl
  | cons d ds ih =>
    have h1 : (1 : Int) ≤ (d : Int) := by exact_mod_cast hs d List.mem_cons_self
    exact add_le_add (mul_self_le_mul_self (by omega) (by omega))
      (ih (fun d' hd' => hs d' (List.mem_cons_of_mem _ hd')))

theorem sumSq_lt_sentinel (s : List Nat) : sumSq s < sentinel s := by
  unfold sentinel
  split
  · next h2 =>
    match s, h2 with
    | [a, b], _ =>
      have ha : (a : Int) ≤ ((max (max 0 a) b : Nat) : Int) := by exact_mod_cast (by omega : a ≤ max (max 0 a) b)
      have hb : (b : Int) ≤ ((max (max 0 a) b : Nat) : Int) := by exact_mod_cast (by omega : b ≤ max (max 0 a) b)
      have h1 := mul_self_le_mul_self (Int.natCast_nonneg a) ha
      have h2 := mul_self_le_mul_self (Int.natCast_nonneg b) hb
      simp only [sumSq, List.foldl_cons, List.foldl_nil, sq]
      omega
  · exact Int.lt_succ_self _

theorem maxDist2_lt_sentinel (s : List Nat) (hs : ∀ d ∈ s, 1 ≤ d) : maxDist2 s < sentinel s :=
  (maxDist2_le_sumSq s hs).trans_lt (sumSq_lt_sentinel s)

theorem f0_getD (shape : List Nat) (bw : Array Int) (q : List Int) (hq : inside shape q = true) :
    (initCoord shape bw).1.getD q 0 = if bw.getD (ravelI shape q) 0 = 0 then 0 else sentinel shape := by
  simp only [initCoord]
  rw [tabulate_getD shape _ q 0 hq]
  by_cases h : bw.getD (ravelI shape q) 0 = 0 <;> simp [h]

theorem nd_final (shape : List Nat) (bw : Array Int) (p : List Int) (hp : inside shape p = true) :
    ∃ n : Nat, n < shapeSize shape ∧ (distanceCoord shape bw).2.getD p 0 = (n : Int) ∧
      (distanceCoord shape bw).1.getD p 0
        = sqDist p (unravelI shape n) + (initCoord shape bw).1.getD (unravelI shape n) 0 ∧
      ∀ q, inside shape q = true →
        (distanceCoord shape bw).1.getD p 0 ≤ sqDist p q + (initCoord shape bw).1.getD q 0 := by
  have h := passes_inv shape bw shape.length (le_refl _)
  obtain ⟨n, hn, ho, _, hval, hlow⟩ := h.at_ p hp
  refine ⟨n, hn, ho, hval, ?_⟩
  intro q hq
  apply hlow q hq
  rw [List.drop_of_length_le (by rw [C01.inside_length hq]),
    List.drop_of_length_le (by rw [C01.inside_length hp])]

/-- with some background: the origin is a background pixel at minimum distance and the value is
    that squared distance -/
theorem nd_core (shape : List Nat) (bw : Array Int) (p : List Int) (hp : inside shape p = true)
    (hbg : ∃ q0, inside shape q0 = true ∧ bw.getD (ravelI shape q0) 0 = 0) :
    ∃ n : Nat, n < shapeSize shape ∧ (distanceCoord shape bw).2.getD p 0 = (n : Int) ∧
      bw.getD n 0 = 0 ∧
      (distanceCoord shape bw).1.getD p 0 = sqDist p (unravelI shape n) ∧
      ∀ q, inside shape q = true → bw.getD (ravelI shape q) 0 = 0 →
        sqDist p (unravelI shape n) ≤ sqDist p q := by
  obtain ⟨n, hn, ho, hval, hlow⟩ := nd_final shape bw p hp
  have hoin := C01.inside_unravelI shape n hn
  have horav := C01.ravelI_unravelI shape n hn
  obtain ⟨q0, hq0, hb0⟩ := hbg
  have hsent := maxDist2_lt_sentinel shape (C01.inside_dims_pos shape p hp)
  have hle0 := hlow q0 hq0
  rw [f0_getD shape bw q0 hq0, if_pos hb0, add_zero] at hle0
  have hmax := sqDist_le_max shape p q0 hp hq0
  rw [f0_getD shape bw _ hoin, horav] at hval
  have hbn : bw.getD n 0 = 0 := by
    by_contra hne
    rw [if_neg hne] at hval
    have := sqDist_nonneg p (unravelI shape n)
    omega
  rw [if_pos hbn, add_zero] at hval
  refine ⟨n, hn, ho, hbn, hval, ?_⟩
  intro q hq hbq
  have := hlow q hq
  rw [f0_getD shape bw q hq, if_pos hbq, add_zero, hval] at this
  exact this

theorem sqDist_eq_zero (p q : List Int) (hl : p.length = q.length) (h : sqDist p q = 0) : p = q := by
  induction p generalizing q with
  | nil => exact (List.eq_nil_of_length_eq_zero hl.symm).symm
  | cons a ps ih =>
    cases q with
    | nil => exact absurd hl (Nat.succ_ne_zero _)
    | cons b qs =>
      have h1 := sqDist_nonneg ps qs
      have h2 := mul_self_nonneg (a - b)
      have h3 : (a - b) * (a - b) = 0 := by have : (a - b) * (a - b) + sqDist ps qs = 0 := h; omega
      have h4 : sqDist ps qs = 0 := by have : (a - b) * (a - b) + sqDist ps qs = 0 := h; omega
      rw [ih qs (Nat.succ.inj hl) h4, sub_eq_zero.1 (mul_self_eq_zero.1 h3)]

end Mahotas.C05
