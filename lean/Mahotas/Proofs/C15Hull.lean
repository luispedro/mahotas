/-
C15 — convex hull model (`inPlaceGraham`): the corners it returns are input points, and distinct
when the input points are distinct (the scan only permutes the array and returns prefixes).
-/
import Mahotas.Proofs.C15Basic
import Mathlib.Data.List.Perm.Basic
import Mathlib.Data.List.Nodup
namespace Mahotas.C15
open Mahotas List

theorem swapIfInBounds_perm (xs : Array Pt) (i j : Nat) : (xs.swapIfInBounds i j).toList.Perm xs.toList := by
  unfold Array.swapIfInBounds
  split
  · split
    · exact (Array.swap_perm _ _).toList
    · exact Perm.refl _
  · exact Perm.refl _

theorem foldl_perm {σ : Type} (arr : σ → Array Pt) (f : σ → Nat → σ)
    (hstep : ∀ s i, (arr (f s i)).toList.Perm (arr s).toList) (l : List Nat) (s : σ) :
    (arr (l.foldl f s)).toList.Perm (arr s).toList := by
  induction l generalizing s with
  | nil => exact Perm.refl _
  | cons i is ih => exact (ih _).trans (hstep s i)

theorem inPlaceScan_perm (P : Array Pt) (rev : Bool) : (inPlaceScan P rev).1.toList.Perm P.toList := by
  unfold inPlaceScan
  simp only
  refine (foldl_perm Prod.fst _ (fun _ _ => swapIfInBounds_perm _ _ _) _ _).trans ?_
  exact List.mergeSort_perm _ _

theorem rotate_perm (l : List Nat) (P : Array Pt) :
    (l.foldl (fun (P : Array Pt) i => P.swapIfInBounds i (i + 1)) P).toList.Perm P.toList :=
  foldl_perm id _ (fun _ _ => swapIfInBounds_perm _ _ _) l P

theorem grahamModel_subperm (pts : List Pt) : (grahamModel pts).Subperm pts := by
  unfold grahamModel
  simp only
  split
  · exact Subperm.refl _
  · have h1 := inPlaceScan_perm pts.toArray false
    generalize inPlaceScan pts.toArray false = r at h1 ⊢
    obtain ⟨P, h⟩ := r
    simp only at h1 ⊢
    have h2 := rotate_perm (List.range (h - 1)) P
    generalize (List.range (h - 1)).foldl (fun (P : Array Pt) i => P.swapIfInBounds i (i + 1)) P = P1 at h2 ⊢
    have h3 := inPlaceScan_perm (P1.extract (h - 2) pts.length) true
    generalize inPlaceScan (P1.extract (h - 2) pts.length) true = r2 at h3 ⊢
    obtain ⟨Q, h'⟩ := r2
    simp only at h3 ⊢
    simp only [Array.toList_extract, List.extract, Nat.sub_zero, List.drop_zero] at h3 ⊢
    -- result = take (h-2) P1 ++ take h' Q ; Q ~ take _ (drop (h-2) P1)
    have s1 : (List.take h' Q.toList).Subperm (List.drop (h - 2) P1.toList) :=
      ((List.take_sublist _ _).subperm).trans (h3.subperm.trans (List.take_sublist _ _).subperm)
    have s2 : (List.take (h - 2) P1.toList ++ List.take h' Q.toList).Subperm
        (List.take (h - 2) P1.toList ++ List.drop (h - 2) P1.toList) :=
      (List.subperm_append_left _).mpr s1
    rw [List.take_append_drop] at s2
    exact s2.trans ((h2.trans (h1.trans (by simp))).subperm)

theorem grahamModel_subset (pts : List Pt) : ∀ p ∈ grahamModel pts, p ∈ pts :=
  fun _ hp => (grahamModel_subperm pts).subset hp

theorem grahamModel_nodup (pts : List Pt) (h : pts.Nodup) : (grahamModel pts).Nodup := by
  obtain ⟨l, hl, hs⟩ := grahamModel_subperm pts
  exact hl.nodup_iff.mp (h.sublist hs)

theorem foreground_nodup (b : Bin) : (foreground b).Nodup := by
  unfold foreground
  apply List.Nodup.filterMap _ List.nodup_range
  intro i j p hi hj
  simp only [Option.mem_def] at hi hj
  split at hi
  · split at hj
    · have hi' := Option.some.inj hi
      have hj' := Option.some.inj hj
      have e := hi'.trans hj'.symm
      have e1 : ((i / b.cols : Nat) : Int) = ((j / b.cols : Nat) : Int) := congrArg Prod.fst e
      have e2 : ((i % b.cols : Nat) : Int) = ((j % b.cols : Nat) : Int) := congrArg Prod.snd e
      have e1' : i / b.cols = j / b.cols := by exact_mod_cast e1
      have e2' : i % b.cols = j % b.cols := by exact_mod_cast e2
      rw [← Nat.div_add_mod i b.cols, ← Nat.div_add_mod j b.cols, e1', e2']
    · exact absurd hj (by simp)
  · exact absurd hi (by simp)

theorem foreground_get (b : Bin) (p : Pt) (hp : p ∈ foreground b) : b.get p.1 p.2 = true := by
  unfold foreground at hp
  rw [List.mem_filterMap] at hp
  obtain ⟨i, hi, hv⟩ := hp
  split at hv
  · rename_i hd
    rw [← Option.some.inj hv]
    exact (get_divmod b (List.mem_range.mp hi)).trans hd
  · exact absurd hv (by simp)

end Mahotas.C15
