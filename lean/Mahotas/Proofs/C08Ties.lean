/-
C08 — value-level ties: every neighbourhood kernel over views is the owning property's logical model on the logical arrays.

The kernels are `erodeView`, `convolveView`, `rankView`, `meanView`, `tmView`, `bordersView`, and in `C08TiesMark.lean`
`locView`; the ties are stated in `Properties/C08.lean`. Both sides fold over the logical neighbour list
(`logicalNeigh`, T1 `neigh_logical`); what is proved here are the list-reshaping lemmas: the owners write their supports
with `filterMap`, the view kernels with `filter`/`map`.
-/
import Mahotas.Proofs.C08Kernels
import Mahotas.Model.C03
import Mahotas.Model.C06
import Mahotas.Model.C07
namespace Mahotas.C08
open Mahotas

theorem keptIdx_all {α : Type} (fshape : List Nat) (w : List α) (d : α) :
    keptIdx fshape w (fun _ => true) d = List.range (shapeSize fshape) := by
  unfold keptIdx; simp

theorem pixelLoop_eq_allPos {β : Type} (shape : List Nat) (g : Nat → β) (F : List Int → β)
    (h : ∀ i, i < shapeSize shape → g i = F (unravelI shape i)) :
    pixelLoop (shapeSize shape) g = (((allPos shape).map F).toArray).map some := by
  rw [pixelLoop_eq]
  simp only [allPos, List.map_toArray, List.map_map]
  congr 1
  apply List.map_congr_left
  intro i hi
  simp only [Function.comp]
  rw [h i (List.mem_range.1 hi)]

theorem C01_support_eq (fshape : List Nat) (w : List Int) (cmp : Bool) :
    C01.support fshape w.toArray cmp =
      (keptIdx fshape w (if cmp then (fun x => x != 0) else fun _ => true) 0).map fun kk =>
        (offAt fshape kk, w.getD kk 0) := by
  unfold C01.support
  simp only [getD_toArray]
  refine (filterMap_ite _ _ _).trans ?_
  congr 1
  apply List.filter_congr
  intro i _
  cases cmp <;> simp [bne]

theorem C07_footprint_eq (fshape : List Nat) (w : List Int) :
    C07.footprint fshape w.toArray = (keptIdx fshape w (fun x => x != 0) 0).map (offAt fshape) := by
  unfold C07.footprint C07.offsetOf
  simp only [getD_toArray]
  exact filterMap_ite _ _ _

/-- `C03.offsets` is `C07.footprint` (the same definition in two model files) -/
theorem C03_offsets_eq (fshape : List Nat) (w : List Int) :
    C03.offsets fshape w.toArray = (keptIdx fshape w (fun x => x != 0) 0).map (offAt fshape) :=
  C07_footprint_eq fshape w

theorem C06_support_eq {α : Type} [Add α] [Mul α] [Zero α] (isZero : α → Bool) (fshape : List Nat) (w : List α) :
    C06.support isZero fshape w.toArray =
      (keptIdx fshape w (fun x => !isZero x) 0).map fun kk => (offAt fshape kk, w.getD kk 0) := by
  unfold C06.support C06.offsetOf
  simp only [getD_toArray]
  exact filterMap_ite _ _ _

theorem nbAt_getD_nearest (A : Img Int) (fshape : List Nat) (p : List Int) (kk : Nat) :
    (nbAt .nearest A fshape 0 p kk).getD 0 = C01.readNearest A (addPos p (offAt fshape kk)) := by
  unfold nbAt C01.readNearest
  cases fixPos .nearest A.shape (addPos p (offAt fshape kk)) <;> rfl

theorem erodeInner_eq {ι : Type} (dt : DT) (A : Img Int) (p : List Int) (L : List ι) (g : ι → Option Int × Int)
    (f : ι → List Int × Int)
    (h : ∀ x ∈ L, (g x).1.getD 0 = C01.readNearest A (addPos p (f x).1) ∧ (g x).2 = (f x).2) (v : Int) :
    erodeInner dt (L.map g) v = C01.erodeAtExit.go dt A p (L.map f) v := by
  induction L generalizing v with
  | nil => rfl
  | cons a t ih =>
    simp only [List.map_cons, erodeInner, C01.erodeAtExit.go]
    rw [(h a (by simp)).1, (h a (by simp)).2]
    split
    · rfl
    · exact ih (fun x hx => h x (by simp [hx])) _

theorem nbAt_eq_sample {α : Type} [Add α] [Mul α] [Zero α] (m : Mode) (A : Img α) (fshape : List Nat) (p : List Int)
    (kk : Nat) : nbAt m A fshape 0 p kk = C06.sample m A (addPos p (offAt fshape kk)) := by
  unfold nbAt C06.sample
  cases fixPos m A.shape (addPos p (offAt fshape kk)) <;> rfl

theorem gatherInner_eq (m : Mode) (A : Img Int) (fshape : List Nat) (p : List Int) (L : List Nat)
    (w : List Int) :
    gatherInner m (L.map fun kk => (nbAt m A fshape 0 p kk, w.getD kk 0)) =
      C07.gather m A (L.map (offAt fshape)) p := by
  unfold gatherInner C07.gather
  rw [List.filterMap_map, List.filterMap_map]
  apply filterMap_congr_mem
  intro kk _
  simp only [Function.comp, nbAt]
  cases fixPos m A.shape (addPos p (offAt fshape kk)) <;> rfl

end Mahotas.C08
