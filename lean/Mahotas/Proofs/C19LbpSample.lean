/-
C19 — LBP sampling (`Model/C19Lbp.lean`): bits of the raw code, rotation of the sampling pattern, and the
sample values as linear interpolation (`pixel_shift_multilinear`, by the lemmas of `Proofs/C18Tensor.lean`: inside the image the
order-1 `zoom_shift` pixel of `interpolate.shift` is the multilinear interpolation at the shifted coordinate).
-/
import Mahotas.Model.C19
import Mahotas.Proofs.C19Lbp
import Mahotas.Proofs.C18Tensor
namespace Mahotas.C19Lbp
open Mahotas Mahotas.C19

theorem codeOfBits_lt (bs : List Bool) : codeOfBits bs < 2 ^ bs.length := by
  induction bs with
  | nil => simp [codeOfBits]
  | cons b bs ih =>
    simp only [codeOfBits, List.length_cons, Nat.pow_succ]
    split <;> omega

theorem testBit_codeOfBits (bs : List Bool) (i : Nat) : (codeOfBits bs).testBit i = bs.getD i false := by
  induction bs generalizing i with
  | nil => simp [codeOfBits]
  | cons b bs ih =>
    cases i with
    | zero =>
      simp only [codeOfBits, Nat.testBit_zero, List.getD_cons_zero]
      cases b <;> simp
    | succ i =>
      rw [Nat.testBit_succ, List.getD_cons_succ, ← ih i]
      congr 1
      simp only [codeOfBits]
      split <;> omega

/-- moving the first sample to the end (the sampling pattern turned by one angular step) rotates the code -/
theorem codeOfBits_rotate (b : Bool) (rest : List Bool) :
    codeOfBits (rest ++ [b]) = rollRight (rest.length + 1) (codeOfBits (b :: rest)) := by
  have hlt : codeOfBits (b :: rest) < 2 ^ (rest.length + 1) := by
    simpa using codeOfBits_lt (b :: rest)
  apply Nat.eq_of_testBit_eq
  intro i
  rw [testBit_rollRight _ _ (by omega) hlt, testBit_codeOfBits, testBit_codeOfBits]
  by_cases h1 : i < rest.length
  · have h2 : (i + 1) % (rest.length + 1) = i + 1 := Nat.mod_eq_of_lt (by omega)
    have h3 : i < rest.length + 1 := by omega
    rw [h2, List.getD_cons_succ]
    simp only [h3, decide_true, Bool.true_and]
    rw [List.getD_eq_getElem?_getD, List.getD_eq_getElem?_getD, List.getElem?_append_left h1]
  · by_cases h2 : i = rest.length
    · subst h2
      have h3 : (rest.length + 1) % (rest.length + 1) = 0 := Nat.mod_self _
      rw [h3]
      simp [List.getD_eq_getElem?_getD]
    · have h3 : ¬ i < rest.length + 1 := by omega
      simp only [h3, decide_false, Bool.false_and]
      rw [List.getD_eq_getElem?_getD, List.getElem?_eq_none (by simp; omega)]
      rfl

theorem lbpMap_rotate (b : Bool) (rest : List Bool) :
    lbpMap (rest.length + 1) (codeOfBits (rest ++ [b])) = lbpMap (rest.length + 1) (codeOfBits (b :: rest)) := by
  rw [codeOfBits_rotate]
  exact lbpMap_rollRight _ _ (by omega) (by simpa using codeOfBits_lt (b :: rest))

section field
variable {K : Type} [Field K] [LinearOrder K] [IsStrictOrderedRing K]

omit [IsStrictOrderedRing K] in
theorem sample_getD (fl : K → Int) (im : Img K) (r : K) (d : K × K) (p : List Int) (hp : inside im.shape p = true) :
    (sample fl im r d).getD p 0
      = C18.pixel fl 1 .constant 0 im [some (-(r * d.1)), some (-(r * d.2))] [none, none] p := by
  unfold sample C18.shiftGlue C18.zoomShift
  rw [tabulate_getD _ _ _ _ hp]
  simp

omit [IsStrictOrderedRing K] in
theorem bitsAt_getD (im : Img K) (samples : List (Img K)) (p : List Int) (i : Nat) (hi : i < samples.length) :
    (bitsAt im samples p).getD i false = decide (im.getD p 0 < (samples.getD i im).getD p 0) := by
  unfold bitsAt
  rw [List.getD_eq_getElem?_getD, List.getElem?_map, List.getD_eq_getElem?_getD, List.getElem?_eq_getElem hi]
  simp

/-- where the sampling coordinate `p − sh` lies inside the image, the order-1 `shift` pixel is the multilinear interpolation -/
theorem pixel_shift_multilinear {fl : K → Int} (h : C18.IsFloor fl) (im : Img K) (sh : List K) (p : List Int)
    (hp : ∀ kk ∈ p, 0 ≤ kk) (h1 : im.shape.length = p.length) (h2 : p.length = sh.length)
    (hr : C18.InRange im.shape (List.zipWith (fun (kk : Int) (s : K) => (kk : K) - s) p sh)) :
    C18.pixel fl 1 .constant 0 im (sh.map fun s => some (-s)) (sh.map fun _ => none) p
      = C18.multilinear fl (fun pos => im.getD pos 0) im.shape (List.zipWith (fun (kk : Int) (s : K) => (kk : K) - s) p sh) := by
  rw [← C18.coordsOf_shift im.shape p sh hp h1 h2] at hr ⊢
  exact C18.pixel_multilinear h .constant 0 im _ _ p hr

end field

end Mahotas.C19Lbp
