/-
C20 — the final cast of `stretch` for integer output dtypes: truncation towards zero
(`truncQ`, the exact counterpart of the driver's `truncF`) of a value already capped to `[lo, hi]`.
-/
import Mahotas.Proofs.C20Rounded
namespace Mahotas.C20
open Mahotas

theorem truncQ_mono {x y : Rat} (h : x ≤ y) : truncQ x ≤ truncQ y := by
  unfold truncQ
  by_cases hx : 0 ≤ x
  · have hy : 0 ≤ y := le_trans hx h
    rw [if_pos hx, if_pos hy]
    exact Rat.floor_monotone h
  · rw [if_neg hx]
    have hx' : (0 : Rat) ≤ -x := by linarith [not_le.mp hx]
    have h0 : (0 : Int) ≤ (-x).floor := Rat.le_floor_iff.mpr (by exact_mod_cast hx')
    by_cases hy : 0 ≤ y
    · rw [if_pos hy]
      have h1 : (0 : Int) ≤ y.floor := Rat.le_floor_iff.mpr (by exact_mod_cast hy)
      omega
    · rw [if_neg hy]
      have : (-y).floor ≤ (-x).floor := Rat.floor_monotone (by linarith)
      omega

theorem truncQ_intCast (n : Int) : truncQ (n : Rat) = n := by
  unfold truncQ
  by_cases h : (0 : Rat) ≤ (n : Rat)
  · rw [if_pos h, Rat.floor_intCast]
  · rw [if_neg h]
    have : (-(n : Rat)) = ((-n : Int) : Rat) := by push_cast; ring
    rw [this, Rat.floor_intCast]
    omega

theorem truncQ_range {lo hi : Int} {q : Rat} (h1 : (lo : Rat) ≤ q) (h2 : q ≤ (hi : Rat)) :
    lo ≤ truncQ q ∧ truncQ q ≤ hi := by
  have a := truncQ_mono h1
  have b := truncQ_mono h2
  rw [truncQ_intCast] at a b
  exact ⟨a, b⟩

theorem truncQ_spec {xs L : List Rat} {lo hi : Int} (spec : RangeMap xs (lo : Rat) (hi : Rat) L) :
    RangeMap xs lo hi (L.map truncQ) := by
  have := spec.map (f := truncQ) fun _ _ h => truncQ_mono h
  rwa [truncQ_intCast, truncQ_intCast] at this

theorem stretch_int_cast (xs : List Rat) (lo hi : Int) (h : lo ≤ hi) :
    RangeMap xs lo hi ((stretchList xs (lo : Rat) (hi : Rat)).map truncQ) :=
  truncQ_spec (stretchList_spec xs lo hi (by exact_mod_cast h))

end Mahotas.C20
