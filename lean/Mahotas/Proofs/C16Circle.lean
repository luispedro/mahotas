/-
C16 — the support of `circle_se(r)`, the structuring element `bernsen` hands to `gbernsen`: entry `(i, j)` of the row-major
`(2r+1) × (2r+1)` array is set exactly when `(i − r)² + (j − r)² < r²`.
-/
import Mahotas.Model.C16
import Mahotas.Proofs.ListLemmas
import Mathlib.Tactic.Linarith
namespace Mahotas.C16
open Mahotas

theorem circleSe_length (r : Nat) : (circleSe r).length = (2 * r + 1) * (2 * r + 1) := by
  simp [circleSe]

theorem circleSe_spec (r i j : Nat) (hi : i ≤ 2 * r) (hj : j ≤ 2 * r) :
    (circleSe r).getD (i * (2 * r + 1) + j) 0 =
      if ((i : Int) - r) * ((i : Int) - r) + ((j : Int) - r) * ((j : Int) - r) < (r : Int) * r then 1 else 0 := by
  have hk : i * (2 * r + 1) + j < (2 * r + 1) * (2 * r + 1) :=
    rowMajor_lt (Nat.lt_succ_of_le hi) (Nat.lt_succ_of_le hj)
  have hd := rowMajor_div i (Nat.lt_succ_of_le hj)
  have hm := rowMajor_mod i (Nat.lt_succ_of_le hj)
  unfold circleSe
  rw [List.getD_eq_getElem?_getD, List.getElem?_map, List.getElem?_range hk]
  simp only [Option.map_some, Option.getD_some, hd, hm, circleAt, decide_eq_true_eq]

/-- on the first/last row or column one coordinate is already `r` away from the centre -/
theorem circle_rim {r a b : Int} (h : a * a = r * r ∨ b * b = r * r) : ¬ (a * a + b * b < r * r) := by
  have := mul_self_nonneg a
  have := mul_self_nonneg b
  rcases h with h | h <;> linarith

example : circleSe 1 = [0, 0, 0, 0, 1, 0, 0, 0, 0] := by decide
example : circleSe 2 = [0,0,0,0,0, 0,1,1,1,0, 0,1,1,1,0, 0,1,1,1,0, 0,0,0,0,0] := by decide

end Mahotas.C16
