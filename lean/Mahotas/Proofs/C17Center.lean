/-
C17 — the pieces of `_wavelet_center_compute` for every integer border (`Model/C17Mem.lean: centerComputeI`): the search
loop returns the FIRST step that passes the test, the offsets of a candidate in closed form, the embedded image fits
behind them, and step 42 clears every admissible border.
-/
import Mahotas.Model.C17Mem
import Mathlib.Tactic.Ring
import Mathlib.Tactic.Linarith
namespace Mahotas.C17.Mem
open Mahotas Mahotas.C17

theorem searchC_some (P : Nat → Bool) : ∀ (fuel c r : Nat), searchC P fuel c = some r →
    c ≤ r ∧ r < c + fuel ∧ P r = true ∧ ∀ c', c ≤ c' → c' < r → P c' = false := by
  intro fuel
  induction fuel with
  | zero => intro c r h; simp [searchC] at h
  | succ n ih =>
    intro c r h
    unfold searchC at h
    by_cases hp : P c = true
    · rw [if_pos hp] at h
      cases h
      exact ⟨le_refl _, by omega, hp, fun c' h1 h2 => absurd h2 (by omega)⟩
    · rw [if_neg hp] at h
      obtain ⟨h1, h2, h3, h4⟩ := ih (c + 1) r h
      refine ⟨by omega, by omega, h3, ?_⟩
      intro c' hc hc'
      by_cases e : c' = c
      · subst e; simpa using hp
      · exact h4 c' (by omega) hc'

theorem searchC_isSome (P : Nat → Bool) : ∀ (fuel c r : Nat), c ≤ r → r < c + fuel → P r = true →
    (searchC P fuel c).isSome = true := by
  intro fuel
  induction fuel with
  | zero => intro c r h1 h2; omega
  | succ n ih =>
    intro c r h1 h2 hp
    unfold searchC
    by_cases hc : P c = true
    · rw [if_pos hc]; rfl
    · rw [if_neg hc]
      have : c ≠ r := fun e => hc (e ▸ hp)
      exact ih (c + 1) r (by omega) (by omega) hp

theorem centerCand_snd (o : List Nat) (c : Nat) :
    (centerCand o c).2 = o.map (fun t => (2 ^ (Nat.log2 t + c) - t) / 2) := by
  unfold centerCand
  simp only
  induction o with
  | nil => rfl
  | cons a l ih => simp only [List.map_cons, List.zip_cons_cons, ih]

/-- with `c ≥ 1` every new side exceeds the old one: the image fits behind its offset -/
theorem cand_fits (t c : Nat) (hc : 1 ≤ c) : (2 ^ (Nat.log2 t + c) - t) / 2 + t ≤ 2 ^ (Nat.log2 t + c) := by
  have h1 : t < 2 ^ (Nat.log2 t + 1) := Nat.lt_log2_self
  have h2 : 2 ^ (Nat.log2 t + 1) ≤ 2 ^ (Nat.log2 t + c) := Nat.pow_le_pow_right (by omega) (by omega)
  omega

/-- step `c = 42` always clears a border below `2^40` -/
theorem cand42 (t : Nat) (border : Int) (hb : border < 2 ^ 40) :
    border < (((2 ^ (Nat.log2 t + 42) - t) / 2 : Nat) : Int) := by
  have h1 : t < 2 ^ (Nat.log2 t + 1) := Nat.lt_log2_self
  have e1 : 2 ^ (Nat.log2 t + 42) = 2 ^ Nat.log2 t * 4398046511104 := by rw [Nat.pow_add]
  have e2 : 2 ^ (Nat.log2 t + 1) = 2 ^ Nat.log2 t * 2 := by rw [Nat.pow_add]
  have hp : 1 ≤ 2 ^ Nat.log2 t := Nat.one_le_two_pow
  rw [e1]
  rw [e2] at h1
  have hb' : border < 1099511627776 := by simpa using hb
  omega

end Mahotas.C17.Mem
