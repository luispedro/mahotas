/-
C19 — grey-level co-occurrence matrices: symmetries of the counting specification `coocCount` / `coocSym`. `boxPos` is the
foundation's `allPos`. Each symmetry is a bijection between the counted positions (`countP_bij`): negating the direction and
rotating the image by 180° transpose `coocCount`, swapping the first two axes of image and direction preserves it; all three
preserve the symmetric matrix `coocSym`. Core Lean only (no Mathlib import).
-/
import Mahotas.Model.C19
import Mahotas.Proofs.C01Index
import Mahotas.Proofs.ListLemmas
namespace Mahotas.C19
open Mahotas

theorem boxPos_eq_allPos (s : List Nat) : boxPos s = allPos s := by
  induction s with
  | nil => rfl
  | cons d ds ih =>
    rw [allPos, show shapeSize (d :: ds) = d * shapeSize ds from rfl, range_mul_map, boxPos, ih, allPos]
    refine flatMap_congr_mem _ _ _ fun i _ => ?_
    rw [List.map_map]
    refine List.map_congr_left fun j hj => ?_
    have hj' := List.mem_range.1 hj
    rw [Function.comp, C01.unravelI_cons, rowMajor_div i hj', rowMajor_mod i hj']
    rfl

theorem mem_boxPos (s : List Nat) (p : List Int) : p ∈ boxPos s ↔ inside s p = true := by
  rw [boxPos_eq_allPos]; exact C01.mem_allPos s p

theorem nodup_boxPos (s : List Nat) : (boxPos s).Nodup := by
  rw [boxPos_eq_allPos, allPos, List.Nodup, List.pairwise_map]
  refine List.Pairwise.imp_of_mem (fun {a b} ha hb hne h => hne ?_) List.nodup_range
  rw [← C01.ravelI_unravelI s a (List.mem_range.1 ha), h, C01.ravelI_unravelI s b (List.mem_range.1 hb)]

/-- `g` takes the counted elements of `l₁` to counted elements of `l₂`, and `g'` inverts it there -/
theorem countP_bij {α : Type} (l₁ l₂ : List α) (h₁ : l₁.Nodup) (h₂ : l₂.Nodup)
    (P Q : α → Bool) (g g' : α → α)
    (hg : ∀ x ∈ l₁, P x = true → g x ∈ l₂ ∧ Q (g x) = true ∧ g' (g x) = x)
    (hg' : ∀ y ∈ l₂, Q y = true → g' y ∈ l₁ ∧ P (g' y) = true ∧ g (g' y) = y) :
    l₁.countP P = l₂.countP Q := by
  rw [List.countP_eq_length_filter, List.countP_eq_length_filter,
    ← List.length_map (f := g)]
  apply List.Perm.length_eq
  have hf : (l₁.filter P).Nodup := h₁.sublist List.filter_sublist
  rw [List.perm_ext_iff_of_nodup]
  · intro a
    simp only [List.mem_map, List.mem_filter]
    constructor
    · rintro ⟨x, ⟨hx, hP⟩, rfl⟩
      have := hg x hx hP
      exact ⟨this.1, this.2.1⟩
    · rintro ⟨ha, hQ⟩
      have := hg' a ha hQ
      exact ⟨g' a, ⟨this.1, this.2.1⟩, this.2.2⟩
  · unfold List.Nodup
    rw [List.pairwise_map]
    refine List.Pairwise.imp_of_mem ?_ hf
    intro a b ha hb hne heq
    apply hne
    simp only [List.mem_filter] at ha hb
    rw [← (hg a ha.1 ha.2).2.2, heq, (hg b hb.1 hb.2).2.2]
  · exact h₂.sublist List.filter_sublist

theorem addPos_neg_add (p d : List Int) (h : d.length = p.length) :
    addPos (addPos p (negPos d)) d = p :=
  C01.subPos_eq_addPos_neg p d ▸ C01.addPos_subPos_cancel p d h

theorem coocCount_neg (s : List Nat) (f : List Int → Int) (d : List Int) (a b : Int)
    (hd : d.length = s.length) :
    coocCount s f (negPos d) a b = coocCount s f d b a := by
  unfold coocCount
  apply countP_bij _ _ (nodup_boxPos s) (nodup_boxPos s) _ _
    (fun q => addPos q (negPos d)) (fun p => addPos p d)
  · intro q hq hP
    have hlen : d.length = q.length := by rw [hd, C01.inside_length ((mem_boxPos _ _).1 hq)]
    simp only [Bool.and_eq_true, beq_iff_eq] at hP
    simp only [addPos_neg_add q d hlen, Bool.and_eq_true, beq_iff_eq]
    exact ⟨(mem_boxPos _ _).2 hP.1, ⟨(mem_boxPos _ _).1 hq, hP.2.2, hP.2.1⟩, trivial⟩
  · intro p hp hQ
    have hlen : d.length = p.length := by rw [hd, C01.inside_length ((mem_boxPos _ _).1 hp)]
    simp only [Bool.and_eq_true, beq_iff_eq] at hQ
    simp only [C01.addPos_negPos p d hlen, Bool.and_eq_true, beq_iff_eq]
    exact ⟨(mem_boxPos _ _).2 hQ.1, ⟨(mem_boxPos _ _).1 hp, hQ.2.2, hQ.2.1⟩, trivial⟩

theorem revPos_revPos (s : List Nat) (p : List Int) (h : p.length = s.length) :
    revPos s (revPos s p) = p := by
  induction s generalizing p with
  | nil => cases p <;> simp_all [revPos]
  | cons d ds ih =>
    cases p with
    | nil => simp at h
    | cons x xs =>
      simp only [List.length_cons, Nat.add_right_cancel_iff] at h
      simp only [revPos, ih xs h]
      congr 1; omega

theorem inside_revPos {s : List Nat} {p : List Int} (h : inside s p = true) :
    inside s (revPos s p) = true := by
  induction s generalizing p with
  | nil => cases p <;> simp_all [inside, revPos]
  | cons d ds ih =>
    cases p with
    | nil => simp [inside] at h
    | cons x xs =>
      simp only [inside, revPos, Bool.and_eq_true, decide_eq_true_eq] at h ⊢
      exact ⟨⟨by omega, by omega⟩, ih h.2⟩

theorem addPos_revPos_addPos (s : List Nat) (p d : List Int)
    (hp : p.length = s.length) (hd : d.length = s.length) :
    addPos (revPos s (addPos p d)) d = revPos s p := by
  induction s generalizing p d with
  | nil => cases p <;> cases d <;> simp_all [revPos, addPos]
  | cons n ns ih =>
    cases p with
    | nil => simp at hp
    | cons x xs =>
      cases d with
      | nil => simp at hd
      | cons y ys =>
        simp only [List.length_cons, Nat.add_right_cancel_iff] at hp hd
        simp only [addPos, revPos, ih xs ys hp hd]
        congr 1; omega

theorem coocCount_rot180 (s : List Nat) (f : List Int → Int) (d : List Int) (a b : Int)
    (hd : d.length = s.length) :
    coocCount s (fun p => f (revPos s p)) d a b = coocCount s f d b a := by
  unfold coocCount
  apply countP_bij _ _ (nodup_boxPos s) (nodup_boxPos s) _ _
    (fun p => revPos s (addPos p d)) (fun q => revPos s (addPos q d))
  · intro p hp hP
    have hin := (mem_boxPos _ _).1 hp
    have hlen : p.length = s.length := C01.inside_length hin
    simp only [Bool.and_eq_true, beq_iff_eq] at hP
    simp only [addPos_revPos_addPos s p d hlen hd, Bool.and_eq_true, beq_iff_eq]
    exact ⟨(mem_boxPos _ _).2 (inside_revPos hP.1),
      ⟨inside_revPos hin, hP.2.2, hP.2.1⟩, revPos_revPos s p hlen⟩
  · intro q hq hQ
    have hin := (mem_boxPos _ _).1 hq
    have hlen : q.length = s.length := C01.inside_length hin
    simp only [Bool.and_eq_true, beq_iff_eq] at hQ
    simp only [addPos_revPos_addPos s q d hlen hd, Bool.and_eq_true, beq_iff_eq,
      revPos_revPos s q hlen, revPos_revPos s (addPos q d) (C01.inside_length hQ.1)]
    exact ⟨(mem_boxPos _ _).2 (inside_revPos hQ.1),
      ⟨inside_revPos hin, hQ.2.2, hQ.2.1⟩, trivial⟩

theorem coocSym_rot180 (s : List Nat) (f : List Int → Int) (d : List Int) (a b : Int)
    (hd : d.length = s.length) :
    coocSym s (fun p => f (revPos s p)) d a b = coocSym s f d a b := by
  unfold coocSym
  rw [coocCount_rot180 s f d a b hd, coocCount_rot180 s f d b a hd, Nat.add_comm]

theorem coocSym_neg (s : List Nat) (f : List Int → Int) (d : List Int) (a b : Int)
    (hd : d.length = s.length) :
    coocSym s f (negPos d) a b = coocSym s f d a b := by
  unfold coocSym
  rw [coocCount_neg s f d a b hd, coocCount_neg s f d b a hd, Nat.add_comm]

theorem swap01_swap01 {α : Type} (l : List α) : swap01 (swap01 l) = l := by
  match l with
  | [] => rfl
  | [_] => rfl
  | _ :: _ :: _ => rfl

theorem length_swap01 {α : Type} (l : List α) : (swap01 l).length = l.length := by
  match l with
  | [] => rfl
  | [_] => rfl
  | _ :: _ :: _ => rfl

theorem inside_swap01 (s : List Nat) (p : List Int) :
    inside (swap01 s) (swap01 p) = inside s p := by
  match s, p with
  | [], [] => rfl
  | [], [_] => rfl
  | [], _ :: _ :: _ => rfl
  | [_], [] => rfl
  | [_], [_] => rfl
  | [_], _ :: _ :: _ => simp [swap01, inside]
  | _ :: _ :: _, [] => rfl
  | _ :: _ :: _, [_] => simp [swap01, inside]
  | _ :: _ :: _, _ :: _ :: _ =>
    simp only [swap01, inside]
    exact Bool.and_left_comm _ _ _

theorem addPos_swap01 (p d : List Int) (h : p.length = d.length) :
    addPos (swap01 p) (swap01 d) = swap01 (addPos p d) := by
  match p, d with
  | [], [] => rfl
  | [], _ :: _ => simp at h
  | _ :: _, [] => simp at h
  | [_], [_] => rfl
  | [_], _ :: _ :: _ => simp at h
  | _ :: _ :: _, [_] => simp at h
  | _ :: _ :: _, _ :: _ :: _ => rfl

theorem coocCount_swap01 (s : List Nat) (f : List Int → Int) (d : List Int) (a b : Int)
    (hd : d.length = s.length) :
    coocCount (swap01 s) (fun p => f (swap01 p)) (swap01 d) a b = coocCount s f d a b := by
  unfold coocCount
  apply countP_bij _ _ (nodup_boxPos _) (nodup_boxPos s) _ _ swap01 swap01
  · intro p hp hP
    have hin := (mem_boxPos _ _).1 hp
    have hlen : (swap01 p).length = d.length := by
      rw [length_swap01, C01.inside_length hin, length_swap01, hd]
    have e : addPos (swap01 p) d = swap01 (addPos p (swap01 d)) := by
      have := addPos_swap01 (swap01 p) d hlen
      rw [swap01_swap01] at this
      rw [this, swap01_swap01]
    simp only [Bool.and_eq_true, beq_iff_eq] at hP
    refine ⟨(mem_boxPos _ _).2 ?_, ?_, swap01_swap01 p⟩
    · rw [← inside_swap01, swap01_swap01]; exact hin
    · simp only [e, Bool.and_eq_true, beq_iff_eq]
      refine ⟨?_, hP.2⟩
      rw [← inside_swap01, swap01_swap01]; exact hP.1
  · intro q hq hQ
    have hin := (mem_boxPos _ _).1 hq
    have hlen : q.length = d.length := by rw [C01.inside_length hin, hd]
    simp only [Bool.and_eq_true, beq_iff_eq] at hQ
    refine ⟨(mem_boxPos _ _).2 ?_, ?_, swap01_swap01 q⟩
    · rw [inside_swap01]; exact hin
    · simp only [addPos_swap01 q d hlen, swap01_swap01, inside_swap01, Bool.and_eq_true,
        beq_iff_eq]
      exact hQ

theorem coocSym_swap01 (s : List Nat) (f : List Int → Int) (d : List Int) (a b : Int)
    (hd : d.length = s.length) :
    coocSym (swap01 s) (fun p => f (swap01 p)) (swap01 d) a b = coocSym s f d a b := by
  unfold coocSym
  rw [coocCount_swap01 s f d a b hd, coocCount_swap01 s f d b a hd]

end Mahotas.C19
