/-
Ties between bodies of `thresholding.py` (regenerated on every run into `Generated/PyBodiesC16.lean`) and the rules of
`Model/C16.lean` the driver runs.
-/
import Mahotas.Generated.PyBodiesC16
import Mahotas.Model.C16
import Mathlib.Algebra.Order.Field.Rat
import Mathlib.Tactic.Linarith

namespace Mahotas
open Mahotas.Generated.Py Mahotas.C16

/-- the pointwise rule of the translated body (rationals) is the model's rule on doubled integers -/
theorem pybody_gbernsen_rule_aux (a b c ct g : Int) :
    (if decide ((a : Rat) - (b : Rat) < (ct : Rat)) = true
      then decide ((a : Rat) / ((2 : Nat) : Rat) + (b : Rat) / ((2 : Nat) : Rat) < (g : Rat))
      else decide ((a : Rat) / ((2 : Nat) : Rat) + (b : Rat) / ((2 : Nat) : Rat) > (c : Rat)))
      = bernsenRule a b c ct (2 * g) := by
  have e0 : ((a : ℚ) - b < ct) ↔ a - b < ct := by rw [← Int.cast_sub, Int.cast_lt]
  have e1 : ((a : ℚ) / ((2 : ℕ) : ℚ) + b / ((2 : ℕ) : ℚ) < g) ↔ a + b < 2 * g := by
    rw [← Int.cast_lt (R := ℚ)]; push_cast; constructor <;> intro h <;> linarith
  have e2 : ((a : ℚ) / ((2 : ℕ) : ℚ) + b / ((2 : ℕ) : ℚ) > c) ↔ a + b > 2 * c := by
    rw [gt_iff_lt, gt_iff_lt, ← Int.cast_lt (R := ℚ)]; push_cast; constructor <;> intro h <;> linarith
  simp only [bernsenRule, e0, e1, e2, decide_eq_true_eq, ge_iff_le]
  by_cases h : a - b < ct
  · rw [if_pos h, if_neg (not_le.2 h)]
  · rw [if_neg h, if_pos (not_lt.1 h)]

/-- `thresholding.gbernsen`, pointwise at pixel `p`, over the rationals. The two `rank_filter` calls
    are instantiated by an arbitrary integer-valued rank function `rk field se pixel rank` (what `rank_filter` returns
    on an integer image), `se.sum()` by `n se`. The result is the model's `bernsenRule` on the doubled integers
    (`g2 = 2·gthresh`) applied to the ranks `se.sum() − 1` (local maximum) and `0` (local minimum) — the rule
    `C16.gbernsenAt` applies to `listMaxI`/`listMinI` of the neighbourhood. In particular the `np.choose` arms are in
    the order "contrast below the threshold → mid-grey against `gthresh`, otherwise mid-grey against the pixel", the
    mid-grey is `fmax/2 + fmin/2`, the contrast `fmax − fmin`. For all images, elements, thresholds and pixels. -/
theorem pybody_thresholding_gbernsen_eq_model {X S : Type} (f : X → Int) (rk : (X → Rat) → S → X → Int → Int)
    (n : S → Int) (se : S) (ct g : Int) (ofInt : Int → Rat) (flit : Nat → Nat → Rat) (p : X)
    (cs : Rat → S) (gb : (X → Rat) → S → Rat → Rat → X → Bool) :
    thresholding_gbernsen (K := Rat) (fun k => (k : Rat)) ofInt flit
        { rank_filter := fun fl s r q => ((rk fl s q r : Int) : Rat), se_sum := n, circle_se := cs, gbernsen := gb }
        (fun q => (f q : Rat)) se (ct : Rat) (g : Rat) p
      = bernsenRule (rk (fun q => (f q : Rat)) se p (n se - 1)) (rk (fun q => (f q : Rat)) se p 0) (f p) ct (2 * g) := by
  simp only [thresholding_gbernsen]
  exact pybody_gbernsen_rule_aux _ _ _ _ _

/-- non-vacuity: both arms of the rule are taken and give different answers -/
example :
    bernsenRule 10 2 7 5 12 = false ∧ bernsenRule 10 2 7 9 14 = true ∧ bernsenRule 10 2 5 5 12 = true := by decide

/-- `thresholding.bernsen`: `gbernsen` on `circle_se(radius)` with the global threshold defaulting to 128.
    With the `gbernsen` primitive instantiated by the generated `thresholding_gbernsen` itself, the result at pixel `p` is
    `bernsenRule` with `g2 = 2·gthresh`, `g2 = 256` when `gthresh` is omitted. -/
theorem pybody_thresholding_bernsen_eq_model {X S : Type} (f : X → Int) (rk : (X → Rat) → S → X → Int → Int)
    (n : S → Int) (cs : Rat → S) (radius : Rat) (ct : Int) (g : Option Int) (ofInt : Int → Rat) (flit : Nat → Nat → Rat)
    (p : X) (gb : (X → Rat) → S → Rat → Rat → X → Bool) :
    let P0 : ThreshPrims Rat X S :=
      { rank_filter := fun fl s r q => ((rk fl s q r : Int) : Rat), se_sum := n, circle_se := cs, gbernsen := gb }
    thresholding_bernsen (K := Rat) (fun k => (k : Rat)) ofInt flit
        { P0 with gbernsen := thresholding_gbernsen (K := Rat) (fun k => (k : Rat)) ofInt flit P0 }
        (fun q => (f q : Rat)) radius (ct : Rat) (g.map fun z => (z : Rat)) p
      = bernsenRule (rk (fun q => (f q : Rat)) (cs radius) p (n (cs radius) - 1))
          (rk (fun q => (f q : Rat)) (cs radius) p 0) (f p) ct (2 * g.getD 128) := by
  intro P0
  cases g with
  | none =>
    have h := pybody_thresholding_gbernsen_eq_model f rk n (cs radius) ct 128 ofInt flit p cs gb
    simp only [thresholding_bernsen, Option.getD_none]
    rw [← h]
    norm_num
    rfl
  | some z =>
    have h := pybody_thresholding_gbernsen_eq_model f rk n (cs radius) ct z ofInt flit p cs gb
    simp only [thresholding_bernsen, Option.getD_some]
    rw [← h]
    rfl

/-- the primitives of the `otsu` wrapper as the C16 model has them: `fullhistogram` is the model's histogram (as a
    list), `np.asanyarray(hist, dtype=np.double)` keeps the values (counts are exact in a double below 2^53),
    `hist[i] = v` is `List.set`, `_histogram.otsu` the transliterated kernel `otsuGen` -/
def c16HistPrims {α : Type} [Add α] [Sub α] [Mul α] [Div α] [LT α] [DecidableLT α] (cast : Nat → α) :
    HistPrims (List Nat) (List Nat) where
  fullhistogram := fun img => (fullhistogram img).toList
  asanyarray := fun h => h
  setitem := fun h i v => h.set i v
  otsu := otsuGen cast

/-- `thresholding.otsu` = `C16.otsuImg`: the histogram, bin 0 cleared exactly when `ignore_zeros`,
    handed to the kernel. Every arithmetic (`cast`), every image, both flag values. -/
theorem pybody_thresholding_otsu_eq_model {α : Type} [Add α] [Sub α] [Mul α] [Div α] [LT α] [DecidableLT α]
    (cast : Nat → α) (img : List Nat) (iz : Bool) :
    thresholding_otsu (c16HistPrims cast) img iz = otsuImg cast img iz := by
  cases iz <;> simp [thresholding_otsu, c16HistPrims, otsuImg, histOf]

/-- non-vacuity: on this image the flag changes the histogram handed to the kernel -/
example : histOf [0, 0, 1, 3] true ≠ histOf [0, 0, 1, 3] false := by decide

/-- the first mask `(f > t) | (f < -t)` is `t < |f|`, whatever the sign of `t` -/
theorem pybody_soft_mask {K : Type} [CommRing K] [LinearOrder K] [IsStrictOrderedRing K] (x t : K) :
    (t < x ∨ x < -t) ↔ t < (if x < 0 then -x else x) := by
  split_ifs with h
  · exact ⟨fun h' => h'.elim (fun _ => by linarith) (fun _ => by linarith), fun h' => Or.inr (by linarith)⟩
  · exact ⟨fun h' => h'.elim id (fun _ => by linarith), Or.inl⟩

/-- `thresholding.soft_threshold`, pointwise at `p` = `C16.softGen` on that element, over every linearly
    ordered commutative ring (the integers and the rationals in particular — the types `softGen` is proved at), for every
    threshold (negative ones included). The first mask is `(f > t) | (f < -t)` (not `np.abs`,
    which wraps at the most negative value of a signed dtype); `f.dtype.type(tval)` keeps the value of `tval`
    (it is only applied when `tval == int(tval)` on an integer image), so `step = tval` on both paths whatever the dtype test
    says. Fixes the three masks `(f > t) | (f < -t)`, `f > t`, `f < -t`, their order, and that later masks read the updated array. -/
theorem pybody_thresholding_soft_threshold_eq_model {K X : Type} [CommRing K] [LinearOrder K] [IsStrictOrderedRing K] [Div K]
    (ofInt : Int → K) (flit : Nat → Nat → K) (P : SoftPrims K X)
    (hcast : ∀ g v, P.dtype_cast g v = v) (f : X → K) (t : K) (p : X) :
    thresholding_soft_threshold (fun n => (n : K)) ofInt flit P f t p = softGen (0 : K) (f p) t := by
  -- each `x ∓ t·mask` becomes the `if` of the model; what is left is the first mask
  simp only [thresholding_soft_threshold, softGen, hcast, ite_self, Nat.cast_one, Nat.cast_zero,
    mul_boole, sub_ite, add_ite, sub_zero, add_zero, gt_iff_lt, Bool.or_eq_true, decide_eq_true_eq,
    zero_sub, pybody_soft_mask]

/-- non-vacuity (integers): shrink towards zero by `t = 2` -/
example : [5, 2, -1, -7].map (fun f => softGen (0 : Int) f 2) = [3, 0, 0, -5] := by decide

end Mahotas
