/-
C10 — `Model/C10Misc.lean`: accesses and loop ends of `histogram`, `bbox`, `remove_regions`, `relabel`.

`histogram` (bins `≥ max+1`, values unsigned), `bbox` (fast path: `extrema[3]` stays in `[0, N1]`, so the skip-ahead
ends each row with the pointer at the start of the next; generic path), `remove_regions` (`std::lower_bound` stays in
its window for ANY comparison results and, on a sorted array, `std::binary_search` answers membership), `relabel`.
-/
import Mahotas.Model.C10Misc
import Mahotas.Proofs.C10Base
import Mahotas.Proofs.ListLemmas
import Mathlib.Tactic.Linarith
namespace Mahotas.C10Misc
open Mahotas

def MOk (a : MAcc) : Prop := 0 ≤ a.i ∧ a.i < a.size

@[acc_forall] theorem mem_rangeI (n v : Int) : v ∈ rangeI n ↔ 0 ≤ v ∧ v < n := mem_natRange n v

theorem allOk_iff (l : List MAcc) : allOk l = true ↔ ∀ a ∈ l, MOk a := by
  simp [allOk, MAcc.ok, MOk]

theorem histTypeRange_lo (ty : Nat) (lo hi : Int) (h : histTypeRange ty = some (lo, hi)) : lo = 0 := by
  unfold histTypeRange at h
  split at h <;> simp at h <;> omega

theorem histWrapperSize_gt (vals : List Int) (s : Int) (h : histWrapperSize vals = some s) :
    ∀ v ∈ vals, v < s := by
  cases vals with
  | nil => simp [histWrapperSize] at h
  | cons v0 vs =>
    simp only [histWrapperSize, Option.some.injEq] at h
    have hm := (foldl_max_le_iff vs v0 _).mp (Int.le_refl _)
    intro v hv
    rcases List.mem_cons.mp hv with rfl | hv
    · have := hm.1; omega
    · have := hm.2 v hv; omega

/-- the two accesses of element `i`: `data[i]` and the bin `histogram[v]` -/
theorem mem_histAccesses (vals : List Int) (s : Int) (a : MAcc) :
    a ∈ histAccesses vals s ↔ ∃ v i, (v, i) ∈ vals.zipIdx ∧ (a = ⟨i, vals.length⟩ ∨ a = ⟨v, s⟩) := by
  simp only [histAccesses, List.mem_flatMap, List.mem_cons, List.not_mem_nil, or_false, Prod.exists]

theorem histAccesses_ok (vals : List Int) (s : Int) (h0 : ∀ v ∈ vals, 0 ≤ v) (h1 : ∀ v ∈ vals, v < s) :
    ∀ a ∈ histAccesses vals s, MOk a := by
  intro a ha
  obtain ⟨v, i, hvi, hm⟩ := (mem_histAccesses vals s a).1 ha
  obtain ⟨hi, hv⟩ := mem_zipIdx_lt vals v i hvi
  rcases hm with rfl | rfl
  · exact ⟨Int.natCast_nonneg i, Int.ofNat_lt.2 hi⟩
  · exact ⟨h0 v hv, h1 v hv⟩

theorem histAccesses_bad (vals : List Int) (s : Int) (v : Int) (hv : v ∈ vals) (hbad : v < 0 ∨ s ≤ v) :
    ¬ ∀ a ∈ histAccesses vals s, MOk a := by
  intro h
  obtain ⟨i, hi, rfl⟩ := List.getElem_of_mem hv
  have hmem : (vals[i], i) ∈ vals.zipIdx :=
    List.mem_zipIdx_iff_getElem?.mpr (List.getElem?_eq_getElem hi)
  have : MOk ⟨vals[i], s⟩ := h _ ((mem_histAccesses vals s _).2 ⟨_, _, hmem, Or.inr rfl⟩)
  simp only [MOk] at this
  omega

/-- the box stays within the array: `0 ≤ min_d, max_d ≤ N_d` -/
def ExtOk (n0 n1 : Int) (e : Ext4) : Prop :=
  0 ≤ e.e0 ∧ e.e0 ≤ n0 ∧ 0 ≤ e.e1 ∧ e.e1 ≤ n0 ∧ 0 ≤ e.e2 ∧ e.e2 ≤ n1 ∧ 0 ≤ e.e3 ∧ e.e3 ≤ n1

/-- the update for a set pixel at `(y, x)` inside the array, whatever admissible value `extrema[3]` receives -/
theorem ExtOk.set {n0 n1 y x : Int} {e : Ext4} (he : ExtOk n0 n1 e) (hy : 0 ≤ y ∧ y < n0) (hx : 0 ≤ x)
    {e3 : Int} (h3 : 0 ≤ e3 ∧ e3 ≤ n1) : ExtOk n0 n1 ⟨min e.e0 y, max e.e1 (y + 1), min e.e2 x, e3⟩ := by
  simp only [ExtOk] at *
  omega

theorem extremaAccesses_ok : ∀ a ∈ [MAcc.mk 0 4, MAcc.mk 1 4, MAcc.mk 2 4, MAcc.mk 3 4], MOk a := by
  simp [MOk]

/-- what the scan of (the rest of) a row delivers: every access in range, the pointer at `stop`, the loop left through
    its test, the extrema within the array -/
def RowPost (n0 n1 stop : Int) : List MAcc × Int × Ext4 × Bool → Prop :=
  Run MOk fun s => s.1 = stop ∧ s.2.2 = true ∧ ExtOk n0 n1 s.2.1

/-- one row: the pointer is `base + x`, the row occupies `[base, base + n1)` inside the buffer; `extrema[3]` is in
    `[0, n1]`. Then every access is in range, the row ends with the pointer at `base + n1` (the start of the
    next row) and the invariants on the extrema are kept. -/
theorem bfRow_spec (px : Int → Bool) (size n0 n1 y base : Int) (hy : 0 ≤ y ∧ y < n0)
    (hb : 0 ≤ base ∧ base + n1 ≤ size) :
    ∀ (f : Nat) (x ptr : Int) (e : Ext4), 0 ≤ x → x ≤ n1 → ptr = base + x → n1 - x ≤ f → ExtOk n0 n1 e →
      RowPost n0 n1 (base + n1) (bfRow px size n1 y f x ptr e) := by
  intro f
  induction f with
  | zero =>
    intro x ptr e hx0 hx1 hp hf he
    obtain rfl : x = n1 := by omega
    exact ⟨by simp [bfRow], hp, by simp [bfRow], he⟩
  | succ f ih =>
    intro x ptr e hx0 hx1 hp hf he
    rw [bfRow]
    by_cases hx : x < n1
    · rw [if_pos hx]
      have hhere : ∀ a ∈ [MAcc.mk ptr size, MAcc.mk x n1], MOk a := by
        simp only [acc_forall, MOk]
        omega
      by_cases hpx : px ptr = true
      · rw [if_pos hpx]
        have hex := List.forall_mem_append.2 ⟨hhere, extremaAccesses_ok⟩
        by_cases hs : x + 1 < e.e3
        · -- skip ahead to column `extrema[3]`
          rw [if_pos hs]
          exact (ih _ _ _ (by omega) (by have := he.2.2.2.2.2.2.2; omega) (by omega) (by omega)
            (he.set ⟨hy.1, hy.2⟩ hx0 he.2.2.2.2.2.2)).prepend hex
        · rw [if_neg hs]
          exact (ih _ _ _ (by omega) (by omega) (by omega) (by omega)
            (he.set hy hx0 (e3 := x + 1) (by omega))).prepend hex
      · rw [if_neg hpx]
        exact (ih _ _ e (by omega) (by omega) (by omega) (by omega) he).prepend hhere
    · rw [if_neg hx]
      obtain rfl : x = n1 := by omega
      exact ⟨by simp, hp, rfl, he⟩

theorem bfRows_spec (px : Int → Bool) (n0 n1 : Int) (hn1 : 0 ≤ n1) :
    ∀ (c : Nat) (y ptr : Int) (e : Ext4), 0 ≤ y → y + c = n0 → ptr = y * n1 → ExtOk n0 n1 e →
      (∀ a ∈ (bfRows px (n0 * n1) n1 c y ptr e).1, MOk a) ∧
      (bfRows px (n0 * n1) n1 c y ptr e).2.2 = true ∧ ExtOk n0 n1 (bfRows px (n0 * n1) n1 c y ptr e).2.1
  | 0, y, ptr, e, _, _, _, he => ⟨by simp [bfRows], rfl, he⟩
  | c + 1, y, ptr, e, hy0, hyc, hp, he => by
    have hy1 : y < n0 := by omega
    have hb1 : y * n1 + n1 ≤ n0 * n1 := by
      have := Int.mul_le_mul_of_nonneg_right (show y + 1 ≤ n0 by omega) hn1
      rwa [Int.add_mul, Int.one_mul] at this
    obtain ⟨hra, hrp, hrd, hre⟩ := bfRow_spec px (n0 * n1) n0 n1 y (y * n1) ⟨hy0, hy1⟩
      ⟨Int.mul_nonneg hy0 hn1, hb1⟩ (n1.toNat + 1) 0 ptr e (by omega) hn1 (by omega) (by omega) he
    have ih := bfRows_spec px n0 n1 hn1 c (y + 1) _ _ (by omega) (by omega)
      (hrp.trans (by rw [Int.add_mul, Int.one_mul])) hre
    simp only [bfRows]
    exact ⟨List.forall_mem_append.2 ⟨hra, ih.1⟩, by rw [hrd, ih.2.1]; rfl, ih.2.2⟩

theorem bboxFast_ok (px : Int → Bool) (n0 n1 : Nat) :
    (∀ a ∈ (bboxFast px n0 n1).1, MOk a) ∧ (bboxFast px n0 n1).2.2 = true ∧
      ExtOk n0 n1 (bboxFast px n0 n1).2.1 := by
  have h := bfRows_spec px n0 n1 (by omega) n0 0 0 ⟨n0, 0, n1, 0⟩ (by omega) (by omega) (by omega)
    (by simp only [ExtOk]; omega)
  refine ⟨h.1, h.2.1, ?_⟩
  unfold bboxFast
  dsimp only
  split
  · simp only [ExtOk]; omega
  · exact h.2.2

theorem bboxGenAt_ok (nd : Int) : ∀ a ∈ bboxGenAt nd, MOk a := by
  simp only [bboxGenAt, acc_forall, MOk]
  intro j hj
  omega

theorem bboxGen_ok (shape : List Nat) (img : List Bool) : ∀ a ∈ (bboxGen shape img).1, MOk a := by
  simp only [bboxGen, acc_forall]
  refine ⟨bboxGenAt_ok _, fun bi _ => ?_⟩
  split
  · exact bboxGenAt_ok _
  · nofun

/-- what `lower_bound` delivers on the window `[first, first+len)`: every `*middle` in range, the returned index in
    `[first, first+len]`, the loop ended -/
def LbPost (first len : Int) : List MAcc × Int × Bool → Prop :=
  Run MOk fun s => first ≤ s.1 ∧ s.1 ≤ first + len ∧ s.2 = true

/-- the result for a sub-window `[first', first'+len') ⊆ [first, first+len)` after the read of `*middle` -/
theorem LbPost.step {first len first' len' : Int} {m : MAcc} {r : List MAcc × Int × Bool} (hm : MOk m)
    (h0 : first ≤ first') (h1 : first' + len' ≤ first + len) (h : LbPost first' len' r) :
    LbPost first len (m :: r.1, r.2) :=
  ⟨List.forall_mem_cons.2 ⟨hm, h.1⟩, Int.le_trans h0 h.2.1, Int.le_trans h.2.2.1 h1, h.2.2.2⟩

/-- for ANY comparison results: the window `[first, first+len)` stays inside `[0, size)`, every `*middle` is inside
    the window (hence in `[0, size)`, which is what is stated), the loop ends, and the returned index is in `[first, first+len]`. -/
theorem lowerBound_post (lt : Int → Bool) (size : Int) :
    ∀ (f : Nat) (first len : Int), 0 ≤ first → 0 ≤ len → first + len ≤ size → len < f →
      LbPost first len (lowerBound lt size f first len) := by
  intro f
  induction f with
  | zero => intro first len _ h1 _ hf; omega
  | succ f ih =>
    intro first len h0 h1 h2 hf
    simp only [lowerBound]
    by_cases hl : len > 0
    · rw [if_pos hl]
      obtain ⟨hh0, hh1⟩ : 0 ≤ len / 2 ∧ len / 2 < len := by omega
      generalize len / 2 = half at hh0 hh1 ⊢
      have hm : MOk (MAcc.mk (first + half) size) := by simp only [MOk]; omega
      by_cases hc : lt (first + half) = true
      · rw [if_pos hc]
        exact (ih (first + half + 1) (len - half - 1) (by omega) (by omega) (by omega) (by omega)).step hm
          (by omega) (by omega)
      · rw [if_neg hc]
        exact (ih first half h0 hh0 (by omega) (by omega)).step hm (Int.le_refl _) (by omega)
    · rw [if_neg hl]
      exact ⟨by simp, Int.le_refl _, Int.le_add_of_nonneg_right h1, rfl⟩

/-- the `lower_bound` call of `binary_search`: the window is the whole array -/
theorem searchBound_post (regions : List Int) (val : Int) :
    LbPost 0 regions.length (lowerBound (fun m => decide (regions.getD m.toNat 0 < val)) regions.length
      (regions.length + 1) 0 regions.length) :=
  lowerBound_post _ _ _ 0 _ (Int.le_refl 0) (Int.natCast_nonneg _) (by omega) (by omega)

theorem binarySearch_ok (regions : List Int) (val : Int) :
    (∀ a ∈ (binarySearch regions val).1, MOk a) ∧ (binarySearch regions val).2.2 = true := by
  obtain ⟨ha, h1, h2, hd⟩ := searchBound_post regions val
  unfold binarySearch
  dsimp only
  split
  · refine ⟨List.forall_mem_append.2 ⟨ha, ?_⟩, hd⟩
    simp only [acc_forall, MOk]
    omega
  · exact ⟨ha, hd⟩

theorem removeRegions_ok (regions labeled : List Int) :
    (∀ a ∈ (removeRegions regions labeled).1, MOk a) ∧ (removeRegions regions labeled).2.2 = true ∧
    (removeRegions regions labeled).2.1.length = labeled.length := by
  unfold removeRegions
  dsimp only
  refine ⟨?_, ?_, by simp⟩
  · simp only [acc_forall]
    rintro ⟨v, i⟩ hvi
    have hi := (mem_zipIdx_lt labeled v i hvi).1
    have hself : MOk (MAcc.mk (i : Int) (labeled.length : Int)) := ⟨Int.natCast_nonneg i, Int.ofNat_lt.2 hi⟩
    split
    · simp only [acc_forall]
      refine ⟨⟨hself, (binarySearch_ok regions v).1⟩, ?_⟩
      split
      · exact List.forall_mem_singleton.2 hself
      · nofun
    · exact List.forall_mem_singleton.2 hself
  · simp only [List.all_eq_true, List.mem_map]
    rintro t ⟨⟨v, i⟩, _, rfl⟩
    split
    · exact (binarySearch_ok regions v).2
    · rfl

/-- invariant of `lower_bound` on a sorted array (`rd` non-decreasing on `[0, size)`): everything before the
    returned index is `< val`, everything from it on is `≥ val`. -/
theorem lowerBound_sorted (rd : Int → Int) (val size : Int)
    (hs : ∀ i j : Int, 0 ≤ i → i ≤ j → j < size → rd i ≤ rd j) :
    ∀ (f : Nat) (first len : Int), 0 ≤ first → 0 ≤ len → first + len ≤ size → len < f →
      (∀ i, 0 ≤ i → i < first → rd i < val) → (∀ i, first + len ≤ i → i < size → val ≤ rd i) →
      (∀ i, 0 ≤ i → i < (lowerBound (fun m => decide (rd m < val)) size f first len).2.1 → rd i < val) ∧
      (∀ i, (lowerBound (fun m => decide (rd m < val)) size f first len).2.1 ≤ i → i < size → val ≤ rd i) := by
  intro f
  induction f with
  | zero => intro first len _ h1 _ hf; omega
  | succ f ih =>
    intro first len h0 h1 h2 hf hlo hhi
    simp only [lowerBound, decide_eq_true_eq]
    by_cases hl : len > 0
    · rw [if_pos hl]
      obtain ⟨hh0, hh1⟩ : 0 ≤ len / 2 ∧ len / 2 < len := by omega
      generalize len / 2 = half at hh0 hh1 ⊢
      by_cases hc : rd (first + half) < val
      · -- `rd mid < val`: so is everything up to `mid`
        rw [if_pos hc]
        exact ih (first + half + 1) (len - half - 1) (by omega) (by omega) (by omega) (by omega)
          (fun i hi0 hi1 => Int.lt_of_le_of_lt (hs i (first + half) hi0 (by omega) (by omega)) hc)
          (fun i hi0 hi1 => hhi i (by omega) hi1)
      · -- `val ≤ rd mid`: so is everything from `mid` on
        rw [if_neg hc]
        exact ih first half h0 hh0 (by omega) (by omega) hlo
          (fun i hi0 hi1 => Int.le_trans (Int.not_lt.1 hc) (hs (first + half) i (by omega) hi0 hi1))
    · rw [if_neg hl]
      obtain rfl : len = 0 := by omega
      exact ⟨hlo, fun i hi0 hi1 => hhi i (by rwa [Int.add_zero]) hi1⟩

theorem getD_eq (l : List Int) (k : Nat) (h : k < l.length) : l.getD k 0 = l[k] := by
  simp [List.getD_eq_getElem?_getD, h]

/-- on a sorted `regions` array `std::binary_search` answers membership -/
theorem binarySearch_sorted (regions : List Int) (val : Int)
    (hs : ∀ i j : Nat, i ≤ j → j < regions.length → regions.getD i 0 ≤ regions.getD j 0) :
    (binarySearch regions val).2.1 = true ↔ val ∈ regions := by
  have hs' : ∀ i j : Int, 0 ≤ i → i ≤ j → j < (regions.length : Int) →
      regions.getD i.toNat 0 ≤ regions.getD j.toNat 0 :=
    fun i j hi hij hj => hs i.toNat j.toNat (by omega) (by omega)
  have hb := searchBound_post regions val
  have h := lowerBound_sorted (fun m => regions.getD m.toNat 0) val regions.length hs'
    (regions.length + 1) 0 regions.length (by omega) (by omega) (by omega) (by omega)
    (fun i hi0 hi1 => by omega) (fun i hi0 hi1 => by omega)
  unfold binarySearch
  dsimp only at h ⊢
  generalize lowerBound (fun m => decide (regions.getD m.toNat 0 < val)) (regions.length : Int)
    (regions.length + 1) 0 (regions.length : Int) = r at h hb ⊢
  obtain ⟨hlo, hhi⟩ := h
  obtain ⟨_, hb1, hb2, _⟩ := hb
  split
  · rename_i hne
    simp only [Bool.not_eq_true', decide_eq_false_iff_not, Int.not_lt]
    have hge := hhi r.2.1 (Int.le_refl _) (by omega)
    constructor
    · intro hle
      have heq : regions.getD r.2.1.toNat 0 = val := by omega
      rw [← heq, getD_eq _ _ (by omega : r.2.1.toNat < regions.length)]
      exact List.getElem_mem _
    · intro hmem
      obtain ⟨k, hk, rfl⟩ := List.getElem_of_mem hmem
      by_cases hkr : (k : Int) < r.2.1
      · have := hlo k (by omega) hkr
        simp only [Int.toNat_natCast, getD_eq _ _ hk] at this
        omega
      · have := hs r.2.1.toNat k (by omega) hk
        rw [getD_eq _ _ hk] at this
        exact this
  · rename_i heq
    simp only [Bool.false_eq_true, false_iff]
    intro hmem
    obtain ⟨k, hk, rfl⟩ := List.getElem_of_mem hmem
    have hr : r.2.1 = regions.length := by
      by_contra hne; exact heq hne
    have := hlo k (by omega) (by omega)
    simp only [Int.toNat_natCast, getD_eq _ _ hk] at this
    omega

theorem seenFind_mem (v w : Int) (seen : List (Int × Int)) (h : seenFind v seen = some w) :
    ∃ k, (k, w) ∈ seen := by
  induction seen with
  | nil => simp [seenFind] at h
  | cons kw t ih =>
    simp only [seenFind] at h
    split at h
    · simp only [Option.some.injEq] at h
      exact ⟨kw.1, by rw [← h]; simp⟩
    · obtain ⟨k, hk⟩ := ih h
      exact ⟨k, List.mem_cons_of_mem _ hk⟩

/-- Invariant: every new label recorded in `seen` is in `[0, next)`; `next` only grows, so a label handed out earlier stays below
the final count. -/
theorem relabelLoop_spec : ∀ (data : List Int) (seen : List (Int × Int)) (next : Int), 1 ≤ next →
    (∀ kw ∈ seen, 0 ≤ kw.2 ∧ kw.2 < next) →
    (relabelLoop data seen next).1.length = data.length ∧
    next ≤ (relabelLoop data seen next).2 ∧ (relabelLoop data seen next).2 ≤ next + data.length ∧
    ∀ w ∈ (relabelLoop data seen next).1, 0 ≤ w ∧ w < (relabelLoop data seen next).2
  | [], seen, next, _, _ => by simp [relabelLoop]
  | v :: rest, seen, next, hn, hinv => by
    simp only [relabelLoop]
    split
    · rename_i w hw
      obtain ⟨k, hk⟩ := seenFind_mem v w seen hw
      have hwb := hinv (k, w) hk
      have ih := relabelLoop_spec rest seen next hn hinv
      refine ⟨by simp [ih.1], ih.2.1, by simp only [List.length_cons]; push_cast; have := ih.2.2.1; omega, ?_⟩
      intro x hx
      rcases List.mem_cons.mp hx with rfl | hx
      · simp only at hwb; have := ih.2.1; omega
      · exact ih.2.2.2 x hx
    · have ih := relabelLoop_spec rest ((v, next) :: seen) (next + 1) (by omega) (by
        intro kw hkw
        rcases List.mem_cons.mp hkw with rfl | hkw
        · simp only; omega
        · have := hinv kw hkw; omega)
      refine ⟨by simp [ih.1], by have := ih.2.1; omega,
        by simp only [List.length_cons]; push_cast; have := ih.2.2.1; omega, ?_⟩
      intro x hx
      rcases List.mem_cons.mp hx with rfl | hx
      · have := ih.2.1; omega
      · exact ih.2.2.2 x hx

end Mahotas.C10Misc
