/-
C15 — the thinning loop: a reflexive, transitive relation that every pass respects holds between an image and the result
of the loop (`iter_rel`, `thinLoop_rel`), and the loop reaches a fixed point of all eight passes because every round that
changes the image clears a pixel. Euler tables: the generated look-up tables are Gray's bit-quad weights, so the model's
sum is Gray's bit-quad sum (`eulerModel4_eq_graySum`).
-/
import Mahotas.Proofs.C15Basic
import Mahotas.Proofs.ListLemmas
import Mathlib.Tactic.Ring
import Mathlib.Tactic.Linarith
namespace Mahotas.C15
open Mahotas

def Stable (b : Bin) : Prop := (iter b).data = b.data

theorem thinLoop_succ_of_stable (n : Nat) {b : Bin} (h : Stable b) : thinLoop (n + 1) b = iter b := by
  show (if (iter b).data == b.data then iter b else thinLoop n (iter b)) = iter b
  exact if_pos (beq_iff_eq.2 h)

theorem thinLoop_succ_of_not_stable (n : Nat) {b : Bin} (h : ¬ Stable b) :
    thinLoop (n + 1) b = thinLoop n (iter b) := by
  show (if (iter b).data == b.data then iter b else thinLoop n (iter b)) = thinLoop n (iter b)
  exact if_neg fun e => h (beq_iff_eq.1 e)

theorem thinLoop_of_stable (n : Nat) (b : Bin) (hs : Stable b) : (thinLoop n b).data = b.data := by
  cases n with
  | zero => rfl
  | succ n => rw [thinLoop_succ_of_stable n hs]; exact hs

theorem iter_rel {R : Bin → Bin → Prop} (hrefl : ∀ b, R b b) (htrans : ∀ {a b c}, R a b → R b c → R a c)
    (hpass : ∀ e ∈ Generated.thinElems, ∀ b, R b (pass b e)) (b : Bin) : R b (iter b) := by
  unfold iter
  generalize Generated.thinElems = l at hpass
  induction l generalizing b with
  | nil => exact hrefl b
  | cons e es ih =>
    exact htrans (hpass e List.mem_cons_self b) (ih _ fun e' he' => hpass e' (List.mem_cons_of_mem _ he'))

theorem thinLoop_rel {R : Bin → Bin → Prop} (hrefl : ∀ b, R b b) (htrans : ∀ {a b c}, R a b → R b c → R a c)
    (hiter : ∀ b, R b (iter b)) (n : Nat) (b : Bin) : R b (thinLoop n b) := by
  induction n generalizing b with
  | zero => exact hrefl b
  | succ n ih =>
    by_cases hs : Stable b
    · rw [thinLoop_succ_of_stable n hs]; exact hiter b
    · rw [thinLoop_succ_of_not_stable n hs]; exact htrans (hiter b) (ih _)

theorem pass_le (b : Bin) (e : Elem) (y x : Int) (h : (pass b e).get y x = true) : b.get y x = true := by
  rw [pass_get] at h
  simp at h
  exact h.1

theorem iter_le (b : Bin) (y x : Int) (h : (iter b).get y x = true) : b.get y x = true :=
  iter_rel (R := fun b b' => ∀ y x, b'.get y x = true → b.get y x = true) (fun _ _ _ h => h)
    (fun h1 h2 y x h => h1 y x (h2 y x h)) (fun e _ b => pass_le b e) b y x h

def Bin.WF (b : Bin) : Prop := b.data.size = b.rows * b.cols

theorem tabulate_wf (r c : Nat) (f : Int → Int → Bool) : (Bin.tabulate r c f).WF := by
  simp [Bin.WF, Bin.tabulate]

theorem iter_shape (b : Bin) (hb : b.WF) : (iter b).rows = b.rows ∧ (iter b).cols = b.cols ∧ (iter b).WF :=
  iter_rel (R := fun b b' => b.WF → b'.rows = b.rows ∧ b'.cols = b.cols ∧ b'.WF) (fun _ hb => ⟨rfl, rfl, hb⟩)
    (fun h1 h2 ha => by
      obtain ⟨r1, c1, w1⟩ := h1 ha
      obtain ⟨r2, c2, w2⟩ := h2 w1
      exact ⟨r2.trans r1, c2.trans c1, w2⟩)
    (fun _ _ _ _ => ⟨rfl, rfl, tabulate_wf _ _ _⟩) b hb

theorem thinLoop_wf (n : Nat) (b : Bin) (hb : b.WF) : (thinLoop n b).WF :=
  thinLoop_rel (R := fun b b' => b.WF → b'.WF) (fun _ h => h) (fun h1 h2 h => h2 (h1 h))
    (fun b hb => (iter_shape b hb).2.2) n b hb

theorem thinCore_wf (b : Bin) (hb : b.WF) (m : Int) : (thinCore b m).WF := thinLoop_wf _ b hb

theorem bin_ext (a b : Bin) (hr : a.rows = b.rows) (hc : a.cols = b.cols) (hd : a.data = b.data) : a = b := by
  cases a; cases b; simp_all

theorem iter_eq_of_stable (b : Bin) (hb : b.WF) (hs : Stable b) : iter b = b :=
  bin_ext _ _ (iter_shape b hb).1 (iter_shape b hb).2.1 hs

theorem thinLoop_eq_of_stable (n : Nat) (b : Bin) (hb : b.WF) (hs : Stable b) : thinLoop n b = b := by
  cases n with
  | zero => rfl
  | succ n => rw [thinLoop_succ_of_stable n hs]; exact iter_eq_of_stable b hb hs

theorem filter_len_le : ∀ (l' l : List Bool), l'.length = l.length →
    (∀ i, l'.getD i false = true → l.getD i false = true) →
    (l'.filter id).length ≤ (l.filter id).length :=
  fun l' l hl hs => by
    rw [← List.countP_eq_length_filter, ← List.countP_eq_length_filter]
    exact (countP_sub l' l hl hs).1

theorem get_flat (b : Bin) (hb : b.WF) (i : Nat) (hi : i < b.rows * b.cols) :
    b.get ((i / b.cols : Nat) : Int) ((i % b.cols : Nat) : Int) = b.data.toList.getD i false := by
  have hsz : i < b.data.size := by rw [hb]; exact hi
  rw [get_divmod b hi]
  simp [Array.getD, List.getD, hsz]

theorem count_lt_of_le (b' b : Bin) (hb' : b'.WF) (hb : b.WF) (hr : b'.rows = b.rows) (hc : b'.cols = b.cols)
    (hle : ∀ y x, b'.get y x = true → b.get y x = true) (hne : b'.data ≠ b.data) :
    b'.count < b.count := by
  unfold Bin.count
  rw [← List.countP_eq_length_filter, ← List.countP_eq_length_filter]
  refine (countP_sub _ _ ?_ ?_).2 ?_
  · simp only [Array.length_toList]; rw [hb', hb, hr, hc]
  · intro i hi
    have hi' : i < b'.rows * b'.cols := by
      by_contra hcon
      have : b'.data.toList.length ≤ i := by simp only [Array.length_toList]; rw [hb']; omega
      have hnone : b'.data.toList[i]? = none := List.getElem?_eq_none this
      simp [List.getD, hnone] at hi
    have h1 := get_flat b' hb' i hi'
    have h2 := get_flat b hb i (by rw [← hr, ← hc]; exact hi')
    rw [← h2]
    apply hle
    rw [hc] at h1
    rw [h1]; exact hi
  · intro h
    apply hne
    exact Array.toList_inj.mp h

theorem thinLoop_stable (n : Nat) (b : Bin) (hb : b.WF) (hn : b.count < n) : Stable (thinLoop n b) := by
  induction n generalizing b with
  | zero => omega
  | succ n ih =>
    obtain ⟨hr, hc, hw⟩ := iter_shape b hb
    by_cases hs : Stable b
    · rw [thinLoop_succ_of_stable n hs, iter_eq_of_stable b hb hs]; exact hs
    · rw [thinLoop_succ_of_not_stable n hs]
      have hlt := count_lt_of_le (iter b) b hw hb hr hc (iter_le b) hs
      exact ih (iter b) hw (by omega)

theorem thinCore_stable (b : Bin) (hb : b.WF) (m : Int) (hm : m < 0) : Stable (thinCore b m) := by
  unfold thinCore
  simp only [hm, if_true]
  exact thinLoop_stable _ b hb (by omega)

/-- the four pixels of a quad from its table index, using the generated weights
    (`eulerPowers = [[1,2],[4,8]]`): pixel (i,j) is set iff its weight's bit is set -/
def quadBit (code w : Nat) : Bool := (code / w) % 2 == 1

theorem euler_powers : Generated.eulerPowers = [[1, 2], [4, 8]] := by decide
theorem lookup_lengths : Generated.eulerLookup8.length = 16 ∧ Generated.eulerLookup4.length = 16 := by decide

theorem quadCode_eq (b : Bin) (y x : Int) :
    quadCode b y x = (if b.get y x then 1 else 0) + (if b.get y (x + 1) then 2 else 0) +
      ((if b.get (y + 1) x then 4 else 0) + (if b.get (y + 1) (x + 1) then 8 else 0)) := by
  unfold quadCode
  rw [euler_powers]
  simp [List.zipIdx]

theorem quad_lookup (b : Bin) (conn8 : Bool) (y x : Int) :
    (if conn8 then Generated.eulerLookup8 else Generated.eulerLookup4).getD (quadCode b y x) 0 =
      grayQuad conn8 (b.get y x) (b.get y (x + 1)) (b.get (y + 1) x) (b.get (y + 1) (x + 1)) := by
  rw [quadCode_eq]
  cases conn8 <;> cases b.get y x <;> cases b.get y (x + 1) <;> cases b.get (y + 1) x <;>
    cases b.get (y + 1) (x + 1) <;> decide

/-- Gray's bit-quad sum over every 2×2 window that meets the image -/
def graySum (b : Bin) (conn8 : Bool) : Int :=
  ((List.range (b.rows + 1)).map fun (i : Nat) =>
    ((List.range (b.cols + 1)).map fun (j : Nat) =>
      grayQuad conn8 (b.get ((i : Int) - 1) ((j : Int) - 1)) (b.get ((i : Int) - 1) ((j : Int) - 1 + 1))
        (b.get ((i : Int) - 1 + 1) ((j : Int) - 1)) (b.get ((i : Int) - 1 + 1) ((j : Int) - 1 + 1))).foldl (· + ·) 0).foldl (· + ·) 0

theorem eulerModel4_eq_graySum (b : Bin) (conn8 : Bool) : eulerModel4 b conn8 = graySum b conn8 := by
  unfold eulerModel4 graySum
  simp only [quad_lookup]

end Mahotas.C15
