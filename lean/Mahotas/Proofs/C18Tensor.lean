/-
C18 — `zoom_shift` evaluates the tensor-product B-spline expansion: for coordinates inside `[0, len−1]` on
every axis the knot/weight entries that `pixel.go` precomputes are `startIdx`/`weights` of the mapped
coordinate, and the flat accumulation `tensorSum` is the sum over all knot tuples of the product of the
per-axis weights times the coefficient (equivalently the nested sum, axis by axis). For any coordinates `pixel` is
`cval` or that sum at the coordinates the border handling maps them to (`pixel_general`); order 1 is multilinear interpolation.
-/
import Mahotas.Proofs.C18
import Mahotas.Proofs.ListLemmas
set_option linter.unusedSectionVars false
namespace Mahotas.C18
open Mahotas

variable {K : Type} [Field K] [LinearOrder K] [IsStrictOrderedRing K]

theorem foldl_mul_prod (ws : List K) (a : K) : ws.foldl (· * ·) a = a * ws.prod := by
  induction ws generalizing a with
  | nil => simp
  | cons w ws ih => simp only [List.foldl_cons, List.prod_cons, ih]; ring

theorem tensorSum_eq_sum (sample : List Int → K) (entries : List (List Int × List K)) :
    tensorSum (0 : K) sample entries
      = ((tensorTerms entries).map fun pw => pw.2.prod * sample pw.1).sum := by
  unfold tensorSum
  rw [foldl_add_map]
  simp only [zero_add, foldl_mul_prod]
  congr 1
  apply List.map_congr_left
  intro pw _
  ring

/-- the mathematical (nested, axis by axis) tensor-product sum:
    `Σ_{h₀} w₀[h₀] · Σ_{h₁} w₁[h₁] · … · c[k₀[h₀], k₁[h₁], …]` -/
def nestedSum (sample : List Int → K) : List (List Int × List K) → K
  | [] => sample []
  | (idx, w) :: rest =>
    ((idx.zip w).map fun iw => iw.2 * nestedSum (fun pos => sample (iw.1 :: pos)) rest).sum
termination_by l => l.length

theorem sum_map_flatMap {ι κ : Type} (l : List ι) (g : ι → List κ) (F : κ → K) :
    ((l.flatMap g).map F).sum = (l.map fun a => ((g a).map F).sum).sum := by
  induction l with
  | nil => simp
  | cons a l ih => simp only [List.flatMap_cons, List.map_append, List.sum_append, List.map_cons, List.sum_cons, ih]

theorem sum_map_mul_left {ι : Type} (l : List ι) (c : K) (F : ι → K) :
    (l.map fun a => c * F a).sum = c * (l.map F).sum := by
  induction l with
  | nil => simp
  | cons a l ih => simp only [List.map_cons, List.sum_cons, ih]; ring

theorem flat_eq_nested (entries : List (List Int × List K)) (sample : List Int → K) :
    ((tensorTerms entries).map fun pw => pw.2.prod * sample pw.1).sum = nestedSum sample entries := by
  induction entries generalizing sample with
  | nil => simp [tensorTerms, nestedSum]
  | cons e rest ih =>
    obtain ⟨idx, w⟩ := e
    rw [nestedSum]
    simp only [tensorTerms]
    rw [sum_map_flatMap]
    congr 1
    apply List.map_congr_left
    intro iw _
    rw [List.map_map, ← ih (fun pos => sample (iw.1 :: pos)), ← sum_map_mul_left]
    congr 1
    apply List.map_congr_left
    intro pw _
    simp only [Function.comp, List.prod_cons]
    ring

theorem tensorSum_eq_nested (sample : List Int → K) (entries : List (List Int × List K)) :
    tensorSum (0 : K) sample entries = nestedSum sample entries := by
  rw [tensorSum_eq_sum, flat_eq_nested]

theorem tensorTerms_length (entries : List (List Int × List K)) :
    (tensorTerms entries).length = (entries.map fun e => (e.1.zip e.2).length).prod := by
  induction entries with
  | nil => simp [tensorTerms]
  | cons e rest ih =>
    obtain ⟨idx, w⟩ := e
    simp only [tensorTerms, List.map_cons, List.prod_cons, List.length_flatMap, List.length_map, ih]
    generalize (List.map (fun e => (e.1.zip e.2).length) rest).prod = P
    induction (idx.zip w) with
    | nil => simp
    | cons a l ih2 => simp only [List.map_cons, List.sum_cons, List.length_cons, ih2]; ring

/-- the input coordinate of every axis for output position `p` (the recursion pattern of `pixel.go`) -/
def coordsOf : List Nat → List Int → List (Option K) → List (Option K) → List K
  | _ :: ls, kk :: ks, s :: ss, z :: zs => coord kk.toNat s z :: coordsOf ls ks ss zs
  | _, _, _, _ => []

/-- every coordinate lies inside `[0, len − 1]` of its axis -/
def InRange : List Nat → List K → Prop
  | len :: ls, c :: cs => (0 ≤ c ∧ c ≤ (((len : Int) - 1 : Int) : K)) ∧ InRange ls cs
  | _, _ => True

/-- knots (mirror-folded where they stick out) and weights of every axis at the coordinates `cs`:
    `start = startIdx order c`, knots `start + h`, weights `weights order c`, `h = 0..order` -/
def splineAxes (fl : K → Int) (order : Nat) : List Nat → List K → List (List Int × List K)
  | len :: ls, c :: cs =>
    ((List.range (order + 1)).map (fun h => edgeFold len (startIdx fl order c + (h : Nat))), weights fl order c)
      :: splineAxes fl order ls cs
  | _, _ => []

theorem mapCoord_inrange (fl : K → Int) (m : Mode) (len : Nat) (c : K)
    (h0 : 0 ≤ c) (h1 : c ≤ (((len : Int) - 1 : Int) : K)) : mapCoord fl m len c = some c := by
  unfold mapCoord
  have : ¬ (c < ((0 : Nat) : K) ∨ (((len : Int) - 1 : Int) : K) < c) := by
    rw [Nat.cast_zero]
    rintro (h | h)
    · exact absurd h (not_lt.mpr h0)
    · exact absurd h (not_lt.mpr h1)
  rw [if_neg this]

/-- the border handling of `zoom_shift` along every axis (`none`: some axis is flagged, the pixel gets `cval`) -/
def mapCoords (fl : K → Int) (m : Mode) : List Nat → List K → Option (List K)
  | len :: ls, c :: cs =>
    match mapCoord fl m len c, mapCoords fl m ls cs with
    | some a, some as => some (a :: as)
    | _, _ => none
  | _, _ => some []

theorem go_general (fl : K → Int) (order : Nat) (m : Mode) :
    ∀ (shape : List Nat) (p : List Int) (ss zs : List (Option K)),
      pixel.go fl order m shape p ss zs
        = (mapCoords fl m shape (coordsOf shape p ss zs)).map (splineAxes fl order shape)
  | [], _, _, _ => by simp [pixel.go, mapCoords, splineAxes]
  | _ :: _, [], _, _ => by simp [pixel.go, coordsOf, mapCoords, splineAxes]
  | _ :: _, _ :: _, [], _ => by simp [pixel.go, coordsOf, mapCoords, splineAxes]
  | _ :: _, _ :: _, _ :: _, [] => by simp [pixel.go, coordsOf, mapCoords, splineAxes]
  | len :: ls, kk :: ks, s :: ss, z :: zs => by
    simp only [pixel.go, coordsOf, mapCoords, axisEntry, go_general fl order m ls ks ss zs]
    cases mapCoord fl m len (coord kk.toNat s z) <;> cases mapCoords fl m ls (coordsOf ls ks ss zs) <;>
      simp [splineAxes]

theorem pixel_general (fl : K → Int) (order : Nat) (m : Mode) (cval : K) (im : Img K)
    (shifts zooms : List (Option K)) (p : List Int) :
    pixel fl order m cval im shifts zooms p
      = match mapCoords fl m im.shape (coordsOf im.shape p shifts zooms) with
        | none => cval
        | some cs => nestedSum (fun pos => im.getD pos 0) (splineAxes fl order im.shape cs) := by
  unfold pixel
  rw [go_general fl order m im.shape p shifts zooms]
  cases mapCoords fl m im.shape (coordsOf im.shape p shifts zooms) with
  | none => rfl
  | some cs =>
    simp only [Option.map_some, Nat.cast_zero]
    exact tensorSum_eq_nested _ _

theorem go_inrange (fl : K → Int) (order : Nat) (m : Mode) :
    ∀ (shape : List Nat) (p : List Int) (ss zs : List (Option K)),
      InRange shape (coordsOf shape p ss zs) →
      pixel.go fl order m shape p ss zs = some (splineAxes fl order shape (coordsOf shape p ss zs))
  | [], _, _, _, _ => by simp [pixel.go, splineAxes]
  | _ :: _, [], _, _, _ => by simp [pixel.go, coordsOf, splineAxes]
  | _ :: _, _ :: _, [], _, _ => by simp [pixel.go, coordsOf, splineAxes]
  | _ :: _, _ :: _, _ :: _, [], _ => by simp [pixel.go, coordsOf, splineAxes]
  | len :: ls, kk :: ks, s :: ss, z :: zs, hr => by
    simp only [pixel.go, coordsOf, splineAxes, axisEntry, mapCoord_inrange fl m len _ hr.1.1 hr.1.2,
      go_inrange fl order m ls ks ss zs hr.2]

theorem pixel_inrange (fl : K → Int) (order : Nat) (m : Mode) (cval : K) (im : Img K) (shifts zooms : List (Option K))
    (p : List Int) (hr : InRange im.shape (coordsOf im.shape p shifts zooms)) :
    pixel fl order m cval im shifts zooms p
      = nestedSum (fun pos => im.getD pos 0) (splineAxes fl order im.shape (coordsOf im.shape p shifts zooms)) := by
  unfold pixel
  rw [go_inrange fl order m im.shape p shifts zooms hr]
  simp only [Nat.cast_zero]
  exact tensorSum_eq_nested _ _

/-- multilinear interpolation at the coordinates `cs` (axis lengths alongside): along every axis
    `(1 − t)·(…at ⌊c⌋) + t·(…at ⌊c⌋ + 1)`, `t = c − ⌊c⌋`; the upper neighbour goes through the mirror folding
    of the knots, which is the identity whenever `⌊c⌋ + 1 < len` (`edgeFold_inside`) — at `c = len − 1` its
    weight `t` is zero -/
def multilinear (fl : K → Int) (sample : List Int → K) : List Nat → List K → K
  | len :: ls, c :: cs =>
    (1 - (c - (fl c : K))) * multilinear fl (fun pos => sample (fl c :: pos)) ls cs
      + (c - (fl c : K)) * multilinear fl (fun pos => sample (edgeFold len (fl c + 1) :: pos)) ls cs
  | _, _ => sample []

theorem floor_inrange {fl : K → Int} (h : IsFloor fl) (len : Nat) (c : K)
    (h0 : 0 ≤ c) (h1 : c ≤ (((len : Int) - 1 : Int) : K)) : 0 ≤ fl c ∧ fl c < (len : Int) := by
  have := h.floor_le (h1.trans_lt (lt_add_one _))
  exact ⟨h.nonneg c h0, by omega⟩

theorem nested_order1 {fl : K → Int} (h : IsFloor fl) :
    ∀ (shape : List Nat) (cs : List K) (sample : List Int → K), InRange shape cs →
      nestedSum sample (splineAxes fl 1 shape cs) = multilinear fl sample shape cs := by
  intro shape
  induction shape with
  | nil => intro cs sample _; simp [splineAxes, nestedSum, multilinear]
  | cons len ls ih =>
    intro cs sample hr
    cases cs with
    | nil => simp [splineAxes, nestedSum, multilinear]
    | cons c cs =>
      simp only [InRange] at hr
      obtain ⟨⟨h0, h1⟩, hr'⟩ := hr
      obtain ⟨f0, f1⟩ := floor_inrange h len c h0 h1
      have r : List.range (1 + 1) = [0, 1] := rfl
      have e0 : edgeFold len (fl c + ((0 : Nat) : Int)) = fl c := by
        rw [Nat.cast_zero, add_zero]; exact edgeFold_inside len _ f0 f1
      simp only [splineAxes, r, startIdx_one, List.map_cons, List.map_nil, e0, weights_order1 h c]
      rw [nestedSum]
      simp only [List.zip_cons_cons, List.zip_nil_right, List.map_cons, List.map_nil, List.sum_cons,
        List.sum_nil, add_zero, Nat.cast_one, multilinear]
      rw [ih cs _ hr', ih cs _ hr']

theorem pixel_multilinear {fl : K → Int} (h : IsFloor fl) (m : Mode) (cval : K) (im : Img K)
    (shifts zooms : List (Option K)) (p : List Int)
    (hr : InRange im.shape (coordsOf im.shape p shifts zooms)) :
    pixel fl 1 m cval im shifts zooms p
      = multilinear fl (fun pos => im.getD pos 0) im.shape (coordsOf im.shape p shifts zooms) := by
  rw [pixel_inrange fl 1 m cval im shifts zooms p hr]
  exact nested_order1 h im.shape _ _ hr

/-- `zoom`: output index `kk` reads input coordinate `kk·(n_in − 1)/(n_out − 1)` (`n_out ≥ 2`) -/
theorem coord_zoom (kk : Int) (hkk : 0 ≤ kk) (nin nout : Nat) (h2 : 2 ≤ nout) :
    coord kk.toNat none (some (zoomFactor nin nout : K))
      = (kk : K) * ((nin : K) - 1) / ((nout : K) - 1) := by
  have hne : nout ≠ 1 := by omega
  simp only [coord, zoomFactor, hne, if_false, natCast_toNat kk hkk]
  push_cast
  ring

/-- `coordsOf` stops at the shortest of its lists: no hypothesis on the lengths -/
theorem coordsOf_shift_take : ∀ (shape : List Nat) (p : List Int) (sh : List K), (∀ kk ∈ p, 0 ≤ kk) →
    coordsOf shape p (sh.map fun s => some (-s)) (sh.map fun _ => (none : Option K))
      = (List.zipWith (fun (kk : Int) (s : K) => (kk : K) - s) p sh).take shape.length
  | [], p, sh, _ => by cases p <;> cases sh <;> simp [coordsOf]
  | _ :: _, [], sh, _ => by cases sh <;> simp [coordsOf]
  | _ :: _, _ :: _, [], _ => by simp [coordsOf]
  | _ :: ls, kk :: ks, s :: ss, hp => by
    simp only [List.map_cons, coordsOf, List.zipWith_cons_cons, List.length_cons, List.take_succ_cons,
      coord_shift kk (hp kk (by simp)) s, coordsOf_shift_take ls ks ss fun k hk => hp k (by simp [hk])]

theorem coordsOf_shift (shape : List Nat) (p : List Int) (sh : List K) (hp : ∀ kk ∈ p, 0 ≤ kk)
    (h1 : shape.length = p.length) (h2 : p.length = sh.length) :
    coordsOf shape p (sh.map fun s => some (-s)) (sh.map fun _ => (none : Option K))
      = List.zipWith (fun (kk : Int) (s : K) => (kk : K) - s) p sh := by
  rw [coordsOf_shift_take shape p sh hp, List.take_of_length_le (by simp [h1, h2])]

theorem coordsOf_zoom : ∀ (shape oshape : List Nat) (p : List Int), (∀ kk ∈ p, 0 ≤ kk) →
    (∀ n ∈ oshape, 2 ≤ n) → shape.length = p.length → p.length = oshape.length →
    coordsOf shape p (oshape.map fun _ => (none : Option K))
        ((shape.zip oshape).map fun io => some (zoomFactor io.1 io.2 : K))
      = List.zipWith (fun (kk : Int) (io : Nat × Nat) => (kk : K) * ((io.1 : K) - 1) / ((io.2 : K) - 1))
          p (shape.zip oshape) := by
  intro shape
  induction shape with
  | nil => intro oshape p _ _ h1 h2; cases p <;> cases oshape <;> simp_all [coordsOf]
  | cons len ls ih =>
    intro oshape p hp ho h1 h2
    cases p with
    | nil => simp at h1
    | cons kk ks =>
      cases oshape with
      | nil => simp at h2
      | cons o os =>
        simp only [List.map_cons, List.zip_cons_cons, coordsOf, List.zipWith_cons_cons]
        rw [coord_zoom kk (hp kk (by simp)) len o (ho o (by simp)),
          ih os ks (fun k hk => hp k (by simp [hk])) (fun n hn => ho n (by simp [hn]))
            (by simpa using h1) (by simpa using h2)]

end Mahotas.C18
