/-
Ties between the definitions that `translator/cscalar.py` regenerates on every run from the *text* of the C++
helper functions (`Mahotas/Generated/CScalar.lean`) and the hand-written model definitions the driver runs.

Each theorem `cscalar_<function>_eq_model` equates the generated definition and the model definition (either may stand on the
left), for all arguments (or under the guard the callers guarantee, stated and explained there). An edit of the C++ function that changes its value somewhere makes
the theorem false, so its proof fails: a broken obligation of every property whose model uses the function. The proofs
compare the two sides branch by branch, not by `rfl` on syntax, so that re-arrangements of the C++ that the translator
understands and that do not change the value keep passing; loop functions are first brought to the loop forms of `Loops.lean`.

One file per function under `Proofs/CScalarTies/` (so that a broken tie breaks only the properties whose model uses that
function, see `harness/foundation/cscalar.py`); this file imports them all.
-/
import Mahotas.Proofs.CScalarTies.FixOffset
import Mahotas.Proofs.CScalarTies.ErodeSub
import Mahotas.Proofs.CScalarTies.DilateAdd
import Mahotas.Proofs.CScalarTies.TAbs
import Mahotas.Proofs.CScalarTies.SubmElem
import Mahotas.Proofs.CScalarTies.MarginOf
import Mahotas.Proofs.CScalarTies.Convex
import Mahotas.Proofs.CScalarTies.AtFlat
import Mahotas.Proofs.CScalarTies.PosToFlat
import Mahotas.Proofs.CScalarTies.FlatToPos
import Mahotas.Proofs.CScalarTies.Surf
import Mahotas.Proofs.CScalarTies.Lbp
import Mahotas.Proofs.CScalarTies.Find2d
import Mahotas.Proofs.CScalarTies.Find2dAcc
import Mahotas.Proofs.CScalarTies.Spline
import Mahotas.Proofs.CScalarTies.CurRank
import Mahotas.Proofs.CScalarTies.DtIntersect
import Mahotas.Proofs.CScalarTies.FastPositions
import Mahotas.Proofs.CScalarTies.UnionFind
import Mahotas.Proofs.CScalarTies.FastRow
