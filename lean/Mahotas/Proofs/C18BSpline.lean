/-
C18 — the piecewise polynomials of `spline_coefficients` ARE the centred cardinal B-splines.

`bspline n` is defined over any ordered field by the Cox–de Boor recursion on the uniform knots
`k − (n+1)/2` (`k = 0 … n+1`): `β⁰ = 1` on `[−½, ½)`, and
`β^{n+1}(x) = [ (x + (n+2)/2)·βⁿ(x + ½) + ((n+2)/2 − x)·βⁿ(x − ½) ] / (n+1)`.
For `n = 1 … 5` and every `x`: `bspline n x = splineCoeff n |x|`, the switch body of the C++ code.
General facts: support `[−(n+1)/2, (n+1)/2)`; every degree `≥ 1` is even (`bspline_even_all`).

Degree `n+1` follows from degree `n` on `x ≥ 0` by splitting the half-line at the breakpoints of the three
weights involved; on each interval every weight is one polynomial (the piece lemmas) and the recursion is
a polynomial identity.
-/
import Mahotas.Proofs.C18
set_option linter.unusedSectionVars false
namespace Mahotas.C18
open Mahotas

variable {K : Type} [Field K] [LinearOrder K] [IsStrictOrderedRing K]

/-- the centred cardinal B-spline of degree `n` (Cox–de Boor recursion, uniform knots `k − (n+1)/2`) -/
def bspline : Nat → K → K
  | 0, x => if x < -(1 / 2) then 0 else if x < 1 / 2 then 1 else 0
  | n + 1, x =>
    ((x + ((n : K) + 2) / 2) * bspline n (x + 1 / 2) + (((n : K) + 2) / 2 - x) * bspline n (x - 1 / 2))
      / ((n : K) + 1)

theorem bspline_succ (n : Nat) (x : K) :
    bspline (n + 1) x
      = ((x + ((n : K) + 2) / 2) * bspline n (x + 1 / 2) + (((n : K) + 2) / 2 - x) * bspline n (x - 1 / 2))
        / ((n : K) + 1) := rfl

theorem bspline_zero (y : K) : bspline 0 y = if y < -(1 / 2) then 0 else if y < 1 / 2 then 1 else 0 := rfl

theorem bspline0_left (y : K) (h : y < -(1 / 2)) : bspline 0 y = 0 := (bspline_zero y).trans (if_pos h)

theorem bspline0_mid (y : K) (h1 : -(1 / 2) ≤ y) (h2 : y < 1 / 2) : bspline 0 y = 1 :=
  (bspline_zero y).trans ((if_neg h1.not_gt).trans (if_pos h2))

theorem bspline0_right (y : K) (h : 1 / 2 ≤ y) : bspline 0 y = 0 :=
  (bspline_zero y).trans ((if_neg (le_trans (by norm_num) h).not_gt).trans (if_neg h.not_gt))

theorem bspline_support (n : Nat) : ∀ x : K, (x < -(((n : K) + 1) / 2) ∨ ((n : K) + 1) / 2 ≤ x) → bspline n x = 0 := by
  induction n with
  | zero =>
    intro x hx
    rw [Nat.cast_zero, zero_add] at hx
    exact hx.elim (bspline0_left x) (bspline0_right x)
  | succ n ih =>
    intro x hx
    push_cast at hx
    rw [bspline_succ,
      ih (x + 1 / 2) (hx.imp (fun h => by linear_combination h) fun h => by linear_combination h),
      ih (x - 1 / 2) (hx.imp (fun h => by linear_combination h) fun h => by linear_combination h),
      mul_zero, mul_zero, add_zero, zero_div]

/-- close one branch of a piecewise identity: contradiction, polynomial identity, or an isolated breakpoint -/
macro "bs_branch" x:ident : tactic =>
  `(tactic| first
    | (exfalso; linarith)
    | ring1
    | (field_simp; ring1)
    | (have hx0 : $x = 0 := by linarith
       subst hx0; norm_num)
    | (have hx0 : $x = 1 / 2 := by linarith
       subst hx0; norm_num)
    | (have hx0 : $x = 1 := by linarith
       subst hx0; norm_num)
    | (have hx0 : $x = 3 / 2 := by linarith
       subst hx0; norm_num)
    | (have hx0 : $x = 2 := by linarith
       subst hx0; norm_num)
    | (have hx0 : $x = 5 / 2 := by linarith
       subst hx0; norm_num)
    | (have hx0 : $x = 3 := by linarith
       subst hx0; norm_num))

theorem bspline1_eq (x : K) : bspline 1 x = splineCoeff 1 |x| := by
  rw [bspline_succ, Nat.cast_zero]
  rcases lt_or_ge x (-1) with h | h
  · rw [bspline0_left _ (by linear_combination h), bspline0_left _ (by linear_combination h),
      abs_of_neg (by linear_combination h), splineCoeff1_far _ (by linear_combination h)]
    ring
  rcases lt_or_ge x 0 with h0 | h0
  · rw [bspline0_mid _ (by linear_combination h) (by linear_combination h0),
      bspline0_left _ (by linear_combination h0), abs_of_neg h0, splineCoeff1_near _ (by linear_combination h)]
    ring
  rw [abs_of_nonneg h0]
  rcases lt_or_ge x 1 with h1 | h1
  · rw [bspline0_right _ (by linear_combination h0),
      bspline0_mid _ (by linear_combination h0) (by linear_combination h1), splineCoeff1_near _ h1.le]
    ring
  · rw [bspline0_right _ (by linear_combination h0), bspline0_right _ (by linear_combination h1),
      splineCoeff1_far _ h1]
    ring

/-- degree 0 is not even: `β⁰(−½) = 1`, `β⁰(½) = 0` -/
theorem bspline_even_all : ∀ n, 1 ≤ n → ∀ x : K, bspline n (-x) = bspline n x
  | 1, _, x => by rw [bspline1_eq, bspline1_eq, abs_neg]
  | n + 2, _, x => by
    rw [bspline_succ (n + 1) (-x), bspline_succ (n + 1) x, show -x + 1 / 2 = -(x - 1 / 2) by ring,
      show -x - 1 / 2 = -(x + 1 / 2) by ring, bspline_even_all (n + 1) (Nat.le_add_left 1 n),
      bspline_even_all (n + 1) (Nat.le_add_left 1 n)]
    ring

theorem bspline_abs (n : Nat) (hn : 1 ≤ n) (y : K) : bspline n y = bspline n |y| := by
  rcases le_total 0 y with h | h
  · rw [abs_of_nonneg h]
  · rw [abs_of_nonpos h, bspline_even_all n hn]

theorem bspline_step (n : Nat) (hn : 1 ≤ n) (S : K → K) (h : ∀ y : K, 0 ≤ y → bspline n y = S y) (x : K)
    (hx : 0 ≤ x) :
    bspline (n + 1) x
      = ((x + ((n : K) + 2) / 2) * S (x + 1 / 2) + (((n : K) + 2) / 2 - x) * S |x - 1 / 2|) / ((n : K) + 1) := by
  rw [bspline_succ, h _ (by linear_combination hx : 0 ≤ x + 1 / 2), bspline_abs n hn (x - 1 / 2), h _ (abs_nonneg _)]

theorem bspline2_nonneg_arg (x : K) (hx : 0 ≤ x) : bspline 2 x = splineCoeff 2 x := by
  refine (bspline_step 1 le_rfl _ (fun y hy => by rw [bspline1_eq, abs_of_nonneg hy]) x hx).trans ?_
  rw [Nat.cast_one]
  rcases le_total x (1 / 2) with h | h
  · rw [abs_of_nonpos (by linear_combination h), splineCoeff1_near _ (by linear_combination h),
      splineCoeff1_near _ (by linear_combination hx), splineCoeff2_a x h]
    ring
  rw [abs_of_nonneg (by linear_combination h)]
  rcases le_total x (3 / 2) with h' | h'
  · rw [splineCoeff1_far _ (by linear_combination h), splineCoeff1_near _ (by linear_combination h'),
      splineCoeff2_b x h h']
    ring
  · rw [splineCoeff1_far _ (by linear_combination h), splineCoeff1_far _ (by linear_combination h'),
      splineCoeff2_c x h']
    ring

theorem bspline3_nonneg_arg (x : K) (hx : 0 ≤ x) : bspline 3 x = splineCoeff 3 x := by
  refine (bspline_step 2 (by omega) _ bspline2_nonneg_arg x hx).trans ?_
  rw [Nat.cast_ofNat]
  rcases le_total x 1 with h | h
  · rw [splineCoeff2_a _ (abs_le.mpr ⟨by linear_combination hx, by linear_combination h⟩), abs_mul_abs_self,
      splineCoeff2_b _ (by linear_combination hx) (by linear_combination h), splineCoeff3_a x h]
    ring
  rw [abs_of_nonneg (by linear_combination h)]
  rcases le_total x 2 with h' | h'
  · rw [splineCoeff2_c _ (by linear_combination h),
      splineCoeff2_b _ (by linear_combination h) (by linear_combination h'), splineCoeff3_b x h h']
    ring
  · rw [splineCoeff2_c _ (by linear_combination h), splineCoeff2_c _ (by linear_combination h'),
      splineCoeff3_c x h']
    ring

theorem bspline4_nonneg_arg (x : K) (hx : 0 ≤ x) : bspline 4 x = splineCoeff 4 x := by
  refine (bspline_step 3 (by omega) _ bspline3_nonneg_arg x hx).trans ?_
  rw [Nat.cast_ofNat]
  rcases le_total x (1 / 2) with h | h
  · rw [abs_of_nonpos (by linear_combination h), splineCoeff3_a _ (by linear_combination h),
      splineCoeff3_a _ (by linear_combination hx), splineCoeff4_a x h]
    ring
  rw [abs_of_nonneg (by linear_combination h)]
  rcases le_total x (3 / 2) with h' | h'
  · rw [splineCoeff3_b _ (by linear_combination h) (by linear_combination h'),
      splineCoeff3_a _ (by linear_combination h'), splineCoeff4_b x h h']
    ring
  rcases le_total x (5 / 2) with h'' | h''
  · rw [splineCoeff3_c _ (by linear_combination h'),
      splineCoeff3_b _ (by linear_combination h') (by linear_combination h''), splineCoeff4_c x h' h'']
    ring
  · rw [splineCoeff3_c _ (by linear_combination h'), splineCoeff3_c _ (by linear_combination h''),
      splineCoeff4_d x h'']
    ring

theorem bspline5_nonneg_arg (x : K) (hx : 0 ≤ x) : bspline 5 x = splineCoeff 5 x := by
  refine (bspline_step 4 (by omega) _ bspline4_nonneg_arg x hx).trans ?_
  rw [Nat.cast_ofNat]
  rcases le_total x 1 with h | h
  · rw [splineCoeff4_a _ (abs_le.mpr ⟨by linear_combination hx, by linear_combination h⟩), abs_mul_abs_self,
      splineCoeff4_b _ (by linear_combination hx) (by linear_combination h), splineCoeff5_a x h]
    ring
  rw [abs_of_nonneg (by linear_combination h)]
  rcases le_total x 2 with h' | h'
  · rw [splineCoeff4_c _ (by linear_combination h) (by linear_combination h'),
      splineCoeff4_b _ (by linear_combination h) (by linear_combination h'), splineCoeff5_b x h h']
    ring
  rcases le_total x 3 with h'' | h''
  · rw [splineCoeff4_d _ (by linear_combination h'),
      splineCoeff4_c _ (by linear_combination h') (by linear_combination h''), splineCoeff5_c x h' h'']
    ring
  · rw [splineCoeff4_d _ (by linear_combination h'), splineCoeff4_d _ (by linear_combination h''),
      splineCoeff5_d x h'']
    ring

end Mahotas.C18
