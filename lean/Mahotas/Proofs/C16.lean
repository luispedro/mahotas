/-
C16 — what the thresholds rest on besides the two kernels: `soft_threshold` is its statement; the histogram counts the
pixels of each level and ignores their order (hence so do otsu and rc); the local extrema of the Bernsen rule are attained
bounds of the neighbourhood.
-/
import Mahotas.Model.C16
import Mahotas.Proofs.ListLemmas
import Mahotas.Proofs.FoldOrder
import Mathlib.Data.List.Perm.Basic
import Mathlib.Tactic.Linarith
namespace Mahotas.C16
open Mahotas

/-- the three numpy statements of `soft_threshold` against `softSpec`, in every linearly ordered ring: below `−t` only the
    third mask fires, above `t` only the second, in between the first has zeroed the element -/
theorem softGen_eq_softSpec {K : Type} [CommRing K] [LinearOrder K] [IsStrictOrderedRing K] (f t : K)
    (ht : 0 ≤ t) : softGen 0 f t = softSpec 0 f t := by
  unfold softGen softSpec
  by_cases hf : f < 0
  · by_cases h : t < 0 - f
    · have h1 : ¬ t < f := by linarith
      have h2 : f < 0 - t := by linarith
      simp only [if_pos hf, if_pos h, if_neg h1, if_pos h2]
      linarith
    · have h1 : ¬ t < 0 := by linarith
      have h2 : ¬ (0 : K) < 0 - t := by linarith
      simp only [if_pos hf, if_neg h, if_neg h1, if_neg h2]
  · by_cases h : t < f
    · have h2 : ¬ f - t < 0 - t := by linarith
      simp only [if_neg hf, if_pos h, if_neg h2]
    · have h1 : ¬ t < 0 := by linarith
      have h2 : ¬ (0 : K) < 0 - t := by linarith
      simp only [if_neg hf, if_neg h, if_neg h1, if_neg h2]

theorem softSpec_int_closed (f t : Int) (ht : 0 ≤ t) : softSpec (0 : Int) f t = Int.sign f * max (|f| - t) 0 := by
  unfold softSpec
  simp only
  rcases lt_trichotomy f 0 with h | h | h
  · have ha : |f| = -f := abs_of_neg h
    rw [ha, Int.sign_eq_neg_one_of_neg h]
    split_ifs <;> omega
  · subst h; simp; omega
  · have ha : |f| = f := abs_of_pos h
    rw [ha, Int.sign_eq_one_of_pos h]
    split_ifs <;> omega

theorem modify_comm (h : Array Nat) (v w : Nat) :
    (h.modify v (· + 1)).modify w (· + 1) = (h.modify w (· + 1)).modify v (· + 1) := by
  apply Array.ext
  · simp
  · intro i h1 h2
    simp only [Array.getElem_modify]
    by_cases hv : v = i <;> by_cases hw : w = i <;> simp [hv, hw]

instance : RightCommutative (fun (h : Array Nat) (v : Nat) => h.modify v (· + 1)) :=
  ⟨fun h v w => modify_comm h v w⟩

theorem fullhistogram_perm {l₁ l₂ : List Nat} (p : l₁.Perm l₂) : fullhistogram l₁ = fullhistogram l₂ := by
  unfold fullhistogram
  rw [p.foldl_eq (f := max) 0]
  exact p.foldl_eq _

theorem histOf_perm {l₁ l₂ : List Nat} (p : l₁.Perm l₂) (iz : Bool) : histOf l₁ iz = histOf l₂ iz := by
  unfold histOf; rw [fullhistogram_perm p]

theorem foldl_incr_getD (l : List Nat) (h : Array Nat) (i : Nat) (hi : i < h.size) :
    (l.foldl (fun h v => h.modify v (· + 1)) h).getD i 0 = h.getD i 0 + l.count i := by
  rw [foldl_modify_getD (fun v => v) (fun _ => (· + 1)) i l h 0 hi, foldl_succ, List.count_eq_length_filter]
  simp only [beq_eq_decide, eq_comm]

/-- `hist[i] == (img == i).sum()` for every level `i` (0 above the maximum) -/
theorem fullhistogram_count (img : List Nat) (i : Nat) : (fullhistogram img).getD i 0 = img.count i := by
  unfold fullhistogram
  by_cases hi : i < img.foldl max 0 + 1
  · rw [foldl_incr_getD _ _ _ (by simpa using hi)]
    simp [Array.getD, hi]
  · have hnot : i ∉ img := fun hm => hi (Nat.lt_succ_of_le ((foldl_max_spec img 0).2.1 i hm))
    have hge : ¬ i < (img.foldl (fun h v => h.modify v (· + 1)) (Array.replicate (img.foldl max 0 + 1) 0)).size := by
      rw [foldl_modify_size (fun v => v) fun _ => (· + 1)]; simpa using hi
    simp only [Array.getD, hge, dite_false]
    exact (List.count_eq_zero.mpr hnot).symm

theorem listMaxI_spec (l : List Int) (hl : l ≠ []) : listMaxI l ∈ l ∧ ∀ v ∈ l, v ≤ listMaxI l :=
  have h := isGreatest_foldl_max_head l 0 hl
  ⟨h.1, fun _ hv => h.2 hv⟩

theorem listMinI_spec (l : List Int) (hl : l ≠ []) : listMinI l ∈ l ∧ ∀ v ∈ l, listMinI l ≤ v :=
  have h := isLeast_foldl_min_head l 0 hl
  ⟨h.1, fun _ hv => h.2 hv⟩

end Mahotas.C16
