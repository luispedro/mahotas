/-
C12 (T4) — the access programs of `Model/C12Kernels3.lean` (majority_filter, locmin_max, hitmiss): roles inside the
arity, and the index and counting lemmas behind the value ties (`majIdx_inj`, `countP_map_ne`, `all_zip_map`).
-/
import Mahotas.Model.C12Kernels3
import Mahotas.Model.C08ViewsA
import Mahotas.Proofs.C12Kernels2
namespace Mahotas.C12
open Mahotas

theorem hmPixel_dst (vA vOut : C08.View) (tab : List (Int × Int)) (bshape : List Nat) (i : Nat) :
    (hmPixel vA vOut tab bshape i).dst = 0 ∧ (hmPixel vA vOut tab bshape i).doff = iterAddr vOut i := by
  unfold hmPixel; split <;> exact ⟨rfl, rfl⟩

theorem kernel3_rolesOk (k : Kernel3) : ∀ r ∈ k.raw, r.rolesOk k.arity = true := by
  cases k with
  | locminmax isMin vA vOut vBc bc =>
    show ∀ r ∈ locminmaxRaw isMin vA vOut vBc bc, r.rolesOk (2, 2) = true
    exact allOf_append (filterCopy_rolesOk 1 vBc (by decide) (by decide))
      (allOf_map fun _ => rolesOk_of rfl (allOf_cons rfl (allOf_cons rfl (allOf_map fun _ => rfl))))
  | hitmiss vA vOut tab bshape =>
    show ∀ r ∈ hitmissRaw vA vOut tab bshape, r.rolesOk (2, 1) = true
    refine allOf_map fun i => ?_
    unfold hmPixel
    split
    · exact rolesOk_of rfl (allOf_map fun _ => rfl)
    · rfl
  | majority n vA vOut =>
    show ∀ r ∈ majorityRaw n vA vOut, r.rolesOk (1, 1) = true
    unfold majorityRaw
    split
    · exact allOf_ite allOf_nil (allOf_map fun _ => rolesOk_of rfl (allOf_cons rfl (allOf_map fun _ => rfl)))
    · exact allOf_nil

theorem majIdx_inj (n cols w : Nat) (hw : w = cols - n) (hn : n ≤ cols) (k k' N : Nat) (hk : k < N * w)
    (h : majIdx n cols (k / w) (k % w) = majIdx n cols (k' / w) (k' % w)) : k = k' := by
  have hwpos : 0 < w := Nat.pos_of_ne_zero fun h0 => by rw [h0, Nat.mul_zero] at hk; exact Nat.not_lt_zero _ hk
  have hb : ∀ x, x < w → n / 2 + x < cols := fun x hx => by have := Nat.div_le_self n 2; omega
  unfold majIdx at h
  rw [Nat.add_assoc, Nat.add_assoc] at h
  obtain ⟨h1, h2⟩ := C19.cooc_digits_unique cols _ _ _ _ (hb _ (Nat.mod_lt k hwpos)) (hb _ (Nat.mod_lt k' hwpos)) h
  rw [← Nat.div_add_mod k w, ← Nat.div_add_mod k' w, Nat.add_right_cancel h1, Nat.add_left_cancel h2]

theorem countP_map_ne (l : List Int) (f : Int → Val) :
    (l.map f).countP (fun v => v != 0) = (l.map fun a => f a != 0).countP id := by
  rw [List.countP_map, List.countP_map]; rfl

theorem all_zip_map (tab : List (Int × Int)) (f : Int → Int) :
    ((tab.map (·.2)).zip (tab.map fun e => f e.1)).all (fun p => p.2 == p.1) = tab.all (fun e => f e.1 == e.2) := by
  induction tab with
  | nil => rfl
  | cons e t ih => simp only [List.map_cons, List.zip_cons_cons, List.all_cons, ih]

end Mahotas.C12
