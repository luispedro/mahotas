/-
C19 — LBP code mapping (`_lbp.cpp: roll_right`, `map`): general theorems for every `P ≥ 1`
and every `P`-bit code `v < 2^P`:

* `rollRight` is the cyclic right rotation of the `P` low bits (`testBit_rollRight`), keeps the
  code inside `[0, 2^P)` and has period `P`;
* `lbpMap P v` is the least code of the rotation class (`RotEq`) of `v` (`lbpMap_spec`, `lbpMap_congr`): it is below
  every rotation, it is one of the rotations, it is rotation invariant and idempotent.

`lbpMap` works on unbounded naturals. The C++ text of `map` is tied to the 32-bit version `C10Misc.lbpMap32`
(`Proofs/CScalarTies/Lbp.lean`), and `lbpMap32 P v = lbpMap P v` for `P ≤ 32` is `lbpMap32_eq` in
`Proofs/C10MiscLbp.lean`.
-/
import Mahotas.Model.C19
import Mahotas.Proofs.C19Fold
namespace Mahotas.C19

theorem iter_add {α : Type} (f : α → α) (a b : Nat) (x : α) :
    iter f (a + b) x = iter f b (iter f a x) := by
  induction a generalizing x with
  | zero => rw [Nat.zero_add]; rfl
  | succ a ih =>
    rw [Nat.add_right_comm]
    exact ih (f x)

theorem iter_succ' {α : Type} (f : α → α) (n : Nat) (x : α) :
    iter f (n + 1) x = f (iter f n x) :=
  iter_add f n 1 x

theorem testBit_eq_false_of_ge {P v i : Nat} (hv : v < 2 ^ P) (hi : P ≤ i) :
    v.testBit i = false :=
  Nat.testBit_lt_two_pow (Nat.lt_of_lt_of_le hv (Nat.pow_le_pow_right (by decide) hi))

/-- bit `i` of the rotated code is bit `i+1 (mod P)` of the code -/
theorem testBit_rollRight (P v : Nat) (hP : 1 ≤ P) (hv : v < 2 ^ P) (i : Nat) :
    (rollRight P v).testBit i = (decide (i < P) && v.testBit ((i + 1) % P)) := by
  unfold rollRight
  rw [Nat.testBit_or, Nat.testBit_shiftRight, Nat.testBit_shiftLeft, Nat.testBit_and]
  -- `i + 1 < P`: the shifted part supplies bit `i + 1`; `i + 1 = P`: the low bit comes round (`(i+1) % P = 0`) and the
  -- shifted part is beyond `v`; `i ≥ P`: both parts are zero
  by_cases h1 : i + 1 < P
  · have h2 : ¬ (i ≥ P - 1) := by omega
    have h3 : i < P := by omega
    simp [h2, h3, Nat.mod_eq_of_lt h1, Nat.add_comm]
  · by_cases h2 : i + 1 = P
    · have h3 : i < P := by omega
      have h4 : i ≥ P - 1 := by omega
      have h5 : i - (P - 1) = 0 := by omega
      have h6 : v.testBit (1 + i) = false := testBit_eq_false_of_ge hv (by omega)
      have h7 : (i + 1) % P = 0 := by rw [h2]; exact Nat.mod_self P
      simp [h3, h4, h5, h6, h7]
    · have h3 : ¬ (i < P) := by omega
      have h6 : v.testBit (1 + i) = false := testBit_eq_false_of_ge hv (by omega)
      have h5 : i - (P - 1) ≠ 0 := by omega
      have h8 : Nat.testBit 1 (i - (P - 1)) = false := by
        cases h : Nat.testBit 1 (i - (P - 1)) with
        | false => rfl
        | true => exact absurd (Nat.testBit_one_eq_true_iff_self_eq_zero.mp h) h5
      simp [h3, h6, h8]

theorem rollRight_lt (P v : Nat) (hP : 1 ≤ P) (hv : v < 2 ^ P) : rollRight P v < 2 ^ P := by
  apply Nat.lt_pow_two_of_testBit
  intro i hi
  have h : ¬ (i < P) := by omega
  rw [testBit_rollRight P v hP hv]
  simp [h]

theorem iter_rollRight_lt (P v : Nat) (hP : 1 ≤ P) (hv : v < 2 ^ P) (k : Nat) :
    iter (rollRight P) k v < 2 ^ P := by
  induction k generalizing v with
  | zero => exact hv
  | succ k ih => exact ih (rollRight P v) (rollRight_lt P v hP hv)

/-- bit `i` of the `k`-fold rotation is bit `i+k (mod P)` of the code -/
theorem testBit_iter_rollRight (P v : Nat) (hP : 1 ≤ P) (hv : v < 2 ^ P) (k i : Nat) :
    (iter (rollRight P) k v).testBit i = (decide (i < P) && v.testBit ((i + k) % P)) := by
  induction k generalizing v with
  | zero =>
    show v.testBit i = _
    by_cases h : i < P
    · simp [h, Nat.mod_eq_of_lt h]
    · simp [h, testBit_eq_false_of_ge hv (by omega : P ≤ i)]
  | succ k ih =>
    show (iter (rollRight P) k (rollRight P v)).testBit i = _
    rw [ih (rollRight P v) (rollRight_lt P v hP hv), testBit_rollRight P v hP hv]
    have hm : (i + k) % P < P := Nat.mod_lt _ (by omega)
    have he : ((i + k) % P + 1) % P = (i + (k + 1)) % P := by
      rw [Nat.mod_add_mod, Nat.add_assoc]
    simp [hm, he]

theorem iter_rollRight_mod (P v : Nat) (hP : 1 ≤ P) (hv : v < 2 ^ P) (k : Nat) :
    iter (rollRight P) k v = iter (rollRight P) (k % P) v := by
  apply Nat.eq_of_testBit_eq
  intro i
  rw [testBit_iter_rollRight P v hP hv, testBit_iter_rollRight P v hP hv, Nat.add_mod_mod]

theorem iter_rollRight_period (P v : Nat) (hP : 1 ≤ P) (hv : v < 2 ^ P) :
    iter (rollRight P) P v = v := by
  rw [iter_rollRight_mod P v hP hv P, Nat.mod_self]
  rfl

/-- `w` is a cyclic rotation of `v` -/
def RotEq (P v w : Nat) : Prop := ∃ k, iter (rollRight P) k v = w

theorem RotEq.refl (P v : Nat) : RotEq P v v := ⟨0, rfl⟩

theorem RotEq.symm {P v w : Nat} (hP : 1 ≤ P) (hv : v < 2 ^ P) (h : RotEq P v w) : RotEq P w v := by
  obtain ⟨k, rfl⟩ := h
  refine ⟨P - k % P, ?_⟩
  rw [iter_rollRight_mod P v hP hv k, ← iter_add, Nat.add_sub_cancel' (Nat.le_of_lt (Nat.mod_lt k hP))]
  exact iter_rollRight_period P v hP hv

theorem RotEq.trans {P u v w : Nat} (h1 : RotEq P u v) (h2 : RotEq P v w) : RotEq P u w := by
  obtain ⟨k, rfl⟩ := h1
  obtain ⟨j, rfl⟩ := h2
  exact ⟨k + j, iter_add _ k j u⟩

/-- the loop of `map` in closed form: the rotation reached, and the running minimum (`mapStep` keeps `minG`) as a fold -/
theorem iter_mapStep (P n x m : Nat) :
    iter (mapStep P) n (x, m) =
      (iter (rollRight P) n x, ((List.range n).map fun j => iter (rollRight P) (j + 1) x).foldl minG m) := by
  induction n with
  | zero => rfl
  | succ n ih =>
    rw [iter_succ', ih, List.range_succ, List.map_append, List.foldl_append, iter_succ' (rollRight P) n x]
    exact congrArg (Prod.mk _) (congrArg (minG _) (iter_succ' _ n x).symm)

/-- `map` returns the least of the rotations by `0 … P` steps (whatever `P` and `v`) -/
theorem lbpMap_spec (P v : Nat) :
    (∃ k ≤ P, lbpMap P v = iter (rollRight P) k v) ∧ ∀ k ≤ P, lbpMap P v ≤ iter (rollRight P) k v := by
  obtain ⟨hm, hle⟩ := foldl_minG ((List.range P).map fun j => iter (rollRight P) (j + 1) v) v
  have e : lbpMap P v = ((List.range P).map fun j => iter (rollRight P) (j + 1) v).foldl minG v := by
    rw [lbpMap, iter_mapStep]
  rw [← e] at hm hle
  constructor
  · rcases List.mem_cons.1 hm with h | h
    · exact ⟨0, Nat.zero_le _, h⟩
    · obtain ⟨j, hj, hj'⟩ := List.mem_map.1 h
      exact ⟨j + 1, List.mem_range.1 hj, hj'.symm⟩
  · intro k hk
    cases k with
    | zero => exact hle _ List.mem_cons_self
    | succ k => exact hle _ (List.mem_cons_of_mem _ (List.mem_map.2 ⟨k, List.mem_range.2 hk, rfl⟩))

theorem rotEq_lbpMap (P v : Nat) : RotEq P v (lbpMap P v) :=
  let ⟨k, _, hk⟩ := (lbpMap_spec P v).1; ⟨k, hk.symm⟩

theorem lbpMap_le_of_rotEq {P v w : Nat} (hP : 1 ≤ P) (hv : v < 2 ^ P) (h : RotEq P v w) : lbpMap P v ≤ w := by
  obtain ⟨k, rfl⟩ := h
  rw [iter_rollRight_mod P v hP hv k]
  exact (lbpMap_spec P v).2 _ (Nat.le_of_lt (Nat.mod_lt _ hP))

/-- codes of one rotation class share their value: each value is the least of the class -/
theorem lbpMap_congr {P v w : Nat} (hP : 1 ≤ P) (hv : v < 2 ^ P) (h : RotEq P v w) : lbpMap P v = lbpMap P w := by
  have hw : w < 2 ^ P := by obtain ⟨k, rfl⟩ := h; exact iter_rollRight_lt P v hP hv k
  exact Nat.le_antisymm (lbpMap_le_of_rotEq hP hv (h.trans (rotEq_lbpMap P w)))
    (lbpMap_le_of_rotEq hP hw ((h.symm hP hv).trans (rotEq_lbpMap P v)))

theorem lbpMap_le_orbit (P v : Nat) (hP : 1 ≤ P) (hv : v < 2 ^ P) (k : Nat) :
    lbpMap P v ≤ iter (rollRight P) k v :=
  lbpMap_le_of_rotEq hP hv ⟨k, rfl⟩

theorem lbpMap_mem_orbit (P v : Nat) (hP : 1 ≤ P) (hv : v < 2 ^ P) :
    ∃ k, k < P ∧ lbpMap P v = iter (rollRight P) k v :=
  let ⟨k, _, hk⟩ := (lbpMap_spec P v).1
  ⟨k % P, Nat.mod_lt _ hP, hk.trans (iter_rollRight_mod P v hP hv k)⟩

theorem lbpMap_iter (P v k : Nat) (hP : 1 ≤ P) (hv : v < 2 ^ P) :
    lbpMap P (iter (rollRight P) k v) = lbpMap P v :=
  (lbpMap_congr hP hv ⟨k, rfl⟩).symm

theorem lbpMap_rollRight (P v : Nat) (hP : 1 ≤ P) (hv : v < 2 ^ P) :
    lbpMap P (rollRight P v) = lbpMap P v :=
  lbpMap_iter P v 1 hP hv

theorem lbpMap_idem (P v : Nat) (hP : 1 ≤ P) (hv : v < 2 ^ P) :
    lbpMap P (lbpMap P v) = lbpMap P v :=
  (lbpMap_congr hP hv (rotEq_lbpMap P v)).symm

theorem lbpMap_lt (P v : Nat) (hP : 1 ≤ P) (hv : v < 2 ^ P) : lbpMap P v < 2 ^ P :=
  let ⟨k, _, hk⟩ := (lbpMap_spec P v).1
  hk ▸ iter_rollRight_lt P v hP hv k

/-- two codes share a bin iff they are rotations of one another -/
theorem lbpMap_eq_iff (P v w : Nat) (hP : 1 ≤ P) (hv : v < 2 ^ P) (hw : w < 2 ^ P) :
    lbpMap P v = lbpMap P w ↔ RotEq P v w :=
  ⟨fun h => (h ▸ rotEq_lbpMap P v).trans ((rotEq_lbpMap P w).symm hP hw), lbpMap_congr hP hv⟩

end Mahotas.C19
