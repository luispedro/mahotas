/-
C13 — relabel and filter_labeled. `relabel` yields the first-appearance labelling (`C03.IsLabelling`, of which a partition
has one) of the regions of equal label, hence is canonical under injective renaming. The composition remove_bordering →
relabel → labeled_size → remove_regions → relabel zeroes exactly the selected regions and renumbers.
-/
import Mahotas.Proofs.C13
import Mahotas.Proofs.C13Regions
import Mahotas.Proofs.C03Rank
namespace Mahotas.C13
open Mahotas

/-- pixels `i`, `j` carry the same label -/
def SameLabel (L : List Int) (i j : Nat) : Prop := L.getD i 0 = L.getD j 0

theorem eqvGen_sameLabel (L : List Int) (i j : Nat) : Relation.EqvGen (SameLabel L) i j ↔ L.getD i 0 = L.getD j 0 :=
  Equivalence.eqvGen_iff ⟨fun _ => rfl, Eq.symm, Eq.trans⟩

/-- **`relabel`, characterised**: the first-appearance labelling (`C03.IsLabelling`, of which a partition has one) of the
    partition of the non-zero pixels into the regions of equal label -/
theorem relabel_isLabelling (L : List Int) : C03.IsLabelling L (SameLabel L) (relabel L) :=
  C03.renumber_isLabelling 0 L L _ rfl (fun _ _ => Iff.rfl) fun i j _ _ => (eqvGen_sameLabel L i j).symm

/-- **relabel is canonical**: renaming the labels by a function that is injective on them gives the same
    renumbering: the renamed map has the same regions -/
theorem relabel_map_inj (f : Int → Int) (vals : List Int) (hf0 : f 0 = 0)
    (hinj : ∀ a b, (a ∈ vals ∨ a = 0) → (b ∈ vals ∨ b = 0) → f a = f b → a = b) :
    relabel (vals.map f) = relabel vals := by
  have hget : ∀ i, (vals.map f).getD i 0 = f (vals.getD i 0) ∧ (vals.getD i 0 ∈ vals ∨ vals.getD i 0 = 0) :=
    fun i => by
      rw [List.getD_eq_getElem?_getD, List.getD_eq_getElem?_getD, List.getElem?_map]
      cases h : vals[i]? with
      | none => exact ⟨hf0.symm, Or.inr rfl⟩
      | some v => exact ⟨rfl, Or.inl (List.mem_of_getElem? h)⟩
  refine (C03.renumber_isLabelling 0 (vals.map f) vals _ (List.length_map f) (fun i _ => ?_) fun i j _ _ => ?_).unique
    (relabel_isLabelling vals)
  · rw [(hget i).1]
    exact ⟨fun h => hinj _ 0 (hget i).2 (Or.inr rfl) (h.trans hf0.symm), fun h => by rw [h, hf0]⟩
  · rw [(hget i).1, (hget j).1, eqvGen_sameLabel]
    exact ⟨hinj _ _ (hget i).2 (hget j).2, congrArg f⟩

/-- zero a label whose region size (in `L`) fails the size test -/
def sizeZero (minSize maxSize : Nat) (L : List Int) (w : Int) : Int :=
  if w ≠ 0 && badSize minSize maxSize (L.filter (· == w)).length then 0 else w

/-- removing the labels whose histogram bin fails the size test = zeroing the regions whose size fails it -/
theorem removeBySize (L : List Int) (nr minSize maxSize : Nat) (hnn : ∀ v ∈ L, 0 ≤ v)
    (hle : ∀ v ∈ L, v ≤ (nr : Int)) :
    removeRegions L (((List.range (nr + 1)).filter fun l =>
        l ≠ 0 && badSize minSize maxSize ((histogram (nr + 1) L).getD l 0)).map fun (l : Nat) => (l : Int)) =
      L.map (sizeZero minSize maxSize L) := by
  rw [removeRegions_eq_spec]
  apply List.map_congr_left
  intro w hw
  have h0 := hnn w hw
  have h1 := hle w hw
  have hsz : (histogram (nr + 1) L).getD w.toNat 0 = (L.filter (· == w)).length := by
    rw [histogram_getD (nr + 1) L hnn w.toNat (by omega), Int.toNat_of_nonneg h0]
  have hc : (((List.range (nr + 1)).filter fun l =>
        l ≠ 0 && badSize minSize maxSize ((histogram (nr + 1) L).getD l 0)).map fun (l : Nat) => (l : Int)).contains w =
      (w ≠ 0 && badSize minSize maxSize (L.filter (· == w)).length) := by
    rw [Bool.eq_iff_iff, ← hsz, List.contains_iff_mem, List.mem_map]
    simp only [List.mem_filter, List.mem_range, Bool.and_eq_true, decide_eq_true_eq]
    constructor
    · rintro ⟨l, ⟨_, hl0, hb⟩, rfl⟩
      exact ⟨by omega, by rwa [Int.toNat_natCast]⟩
    · rintro ⟨hw0, hb⟩
      exact ⟨w.toNat, ⟨by omega, by omega, hb⟩, Int.toNat_of_nonneg h0⟩
  rw [sizeZero, hc]

theorem count_map_inj (f : Int → Int) (L : List Int) (v : Int) (hv : v ∈ L)
    (hinj : ∀ a b, a ∈ L → b ∈ L → f a = f b → a = b) :
    ((L.map f).filter (· == f v)).length = (L.filter (· == v)).length := by
  rw [List.filter_map, List.length_map]
  congr 1
  apply List.filter_congr
  intro u hu
  rw [Function.comp, Bool.eq_iff_iff, beq_iff_eq, beq_iff_eq]
  exact ⟨hinj u v hu hv, congrArg f⟩

theorem sizeZero_map_inj (minSize maxSize : Nat) (f : Int → Int) (L : List Int) (hf0 : f 0 = 0)
    (hinj : ∀ a b, (a ∈ L ∨ a = 0) → (b ∈ L ∨ b = 0) → f a = f b → a = b) :
    (L.map f).map (sizeZero minSize maxSize (L.map f)) = (L.map (sizeZero minSize maxSize L)).map f := by
  rw [List.map_map, List.map_map]
  apply List.map_congr_left
  intro v hv
  have hv0 : decide (f v ≠ 0) = decide (v ≠ 0) :=
    decide_eq_decide.mpr (not_congr ⟨fun c => hinj v 0 (Or.inl hv) (Or.inr rfl) (c.trans hf0.symm), fun c => c ▸ hf0⟩)
  rw [Function.comp, Function.comp, sizeZero, sizeZero,
    count_map_inj f L v hv (fun a b ha hb => hinj a b (Or.inl ha) (Or.inl hb)), hv0]
  split
  · exact hf0.symm
  · rfl

/-- what `remove_bordering` does to one label -/
def dropTouching (shape : List Nat) (labels : List Int) (v : Int) : Int :=
  if v ≠ 0 && touchesBorder shape labels (shape.map fun _ => 1) v then 0 else v

theorem removeBorderingSpec_eq_map (shape : List Nat) (labels : List Int) :
    removeBorderingSpec shape labels (shape.map fun _ => 1) = labels.map (dropTouching shape labels) := rfl

theorem dropTouching_cases (shape : List Nat) (labels : List Int) (v : Int) :
    (v ≠ 0 ∧ touchesBorder shape labels (shape.map fun _ => 1) v = true ∧ dropTouching shape labels v = 0) ∨
    ((v = 0 ∨ touchesBorder shape labels (shape.map fun _ => 1) v = false) ∧ dropTouching shape labels v = v) := by
  unfold dropTouching
  by_cases hv0 : v = 0
  · right; subst hv0; exact ⟨Or.inl rfl, by simp⟩
  · cases hT : touchesBorder shape labels (shape.map fun _ => 1) v
    · right; exact ⟨Or.inr rfl, by simp⟩
    · left; exact ⟨hv0, rfl, by simp [hv0]⟩

theorem count_dropTouching (shape : List Nat) (labels : List Int) (v : Int) (hv0 : v ≠ 0)
    (hT : touchesBorder shape labels (shape.map fun _ => 1) v = false) :
    ((labels.map (dropTouching shape labels)).filter (· == v)).length = (labels.filter (· == v)).length := by
  rw [List.filter_map, List.length_map]
  congr 1
  apply List.filter_congr
  intro u _
  rw [Function.comp]
  rcases dropTouching_cases shape labels u with ⟨_, hTu, hd⟩ | ⟨_, hd⟩
  · rw [hd, beq_eq_false_iff_ne.mpr (Ne.symm hv0), beq_eq_false_iff_ne.mpr]
    rintro rfl
    rw [hT] at hTu; cases hTu
  · rw [hd]

/-- dropping the regions that touch the border and then those whose remaining size fails the test zeroes exactly
    the regions the specification selects: a region that stays has kept all its pixels -/
theorem sizeZero_dropTouching (shape : List Nat) (labels : List Int) (minSize maxSize : Nat) :
    (labels.map (dropTouching shape labels)).map
        (sizeZero minSize maxSize (labels.map (dropTouching shape labels))) =
      filterKept shape labels true minSize maxSize := by
  rw [List.map_map]
  apply List.map_congr_left
  intro v _
  rw [Function.comp, Bool.true_and]
  rcases dropTouching_cases shape labels v with ⟨hv0, hT, hd⟩ | ⟨hc, hd⟩
  · rw [hd, hT, sizeZero]; simp [hv0]
  · rw [hd, sizeZero]
    by_cases hv0 : v = 0
    · subst hv0; simp
    · have hT := hc.resolve_left hv0
      rw [count_dropTouching shape labels v hv0 hT, hT, Bool.false_or]

theorem relabel_spec (labels : List Int) :
    (∃ f : Int → Int, (relabel labels).1 = labels.map f ∧ f 0 = 0 ∧ (∀ v ∈ labels, v ≠ 0 → 1 ≤ f v) ∧
      (∀ a b, (a ∈ labels ∨ a = 0) → (b ∈ labels ∨ b = 0) → f a = f b → a = b)) ∧
    C03.Consec 1 (relabel labels).1 ∧
    (∀ l ∈ (relabel labels).1, l ≤ (relabel labels).2) ∧
    (∀ k, 1 ≤ k → k ≤ (relabel labels).2 → k ∈ (relabel labels).1) :=
  have h := relabel_isLabelling labels
  ⟨C03.renumber_map 0 labels, h.consec, fun l hl => (h.range l hl).2, h.all_occur⟩

/-- **`filter_labeled` = `relabel` of the map with exactly the selected regions zeroed**: the intermediate relabelling
    (after `remove_bordering`) is a renaming by an injective function, which the final one undoes -/
theorem filterLabeled_eq (shape : List Nat) (labels : List Int) (rb : Bool) (minSize maxSize : Nat)
    (hnn : ∀ v ∈ labels, 0 ≤ v) (hlen : labels.length = shapeSize shape) :
    filterLabeled shape labels rb minSize maxSize = relabel (filterKept shape labels rb minSize maxSize) := by
  cases rb with
  | false =>
    rw [filterLabeled, if_neg Bool.false_ne_true,
      removeBySize labels _ minSize maxSize hnn fun v hv => by have := le_maxOf hv; omega]
    simp only [filterKept, Bool.false_and, Bool.false_or]
    rfl
  | true =>
    rw [filterLabeled, if_pos rfl, removeBordering_eq_spec shape labels _ hlen, removeBorderingSpec_eq_map,
      ← sizeZero_dropTouching]
    generalize labels.map (dropTouching shape labels) = L1
    obtain ⟨⟨f, hf, hf0, hpos, hinj⟩, _, hcnt, _⟩ := relabel_spec L1
    have hnn1 : ∀ w ∈ L1.map f, 0 ≤ w := by
      intro w hw
      obtain ⟨v, hv, rfl⟩ := List.mem_map.mp hw
      by_cases e : v = 0
      · rw [e, hf0]
      · have := hpos v hv e; omega
    rw [hf] at hcnt ⊢
    rw [removeBySize (L1.map f) _ minSize maxSize hnn1 fun w hw => by have := hcnt w hw; have := hnn1 w hw; omega,
      sizeZero_map_inj minSize maxSize f L1 hf0 hinj, relabel_map_inj f _ hf0]
    -- every label that survives the size test is a label of `L1` or 0
    have hsub : ∀ a, (a ∈ L1.map (sizeZero minSize maxSize L1) ∨ a = 0) → (a ∈ L1 ∨ a = 0) := by
      rintro a (ha | ha)
      · obtain ⟨v, hv, rfl⟩ := List.mem_map.mp ha
        rw [sizeZero]
        split
        · exact Or.inr rfl
        · exact Or.inl hv
      · exact Or.inr ha
    exact fun a b ha hb => hinj a b (hsub a ha) (hsub b hb)

end Mahotas.C13
