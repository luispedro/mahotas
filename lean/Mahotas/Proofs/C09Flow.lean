/-
C09 — the wrappers follow the `out=` convention (`Convention`), each from the steps it is made of.

A wrapper that validates first goes through `Convention.of_getOut`, and its body ends in `Stores.write`; `open`/`close`,
`cerode` and the top-hats are combinators over the conventions of their parts; the Gaussian ping-pong is the one induction.
-/
import Mahotas.Proofs.C09
namespace Mahotas.C09
open Mahotas

theorem forall_mem_pair {p : Nat → Prop} {a b : Nat} (ha : p a) (hb : p b) : ∀ x ∈ [a, b], p x := by
  intro x hx
  simp only [List.mem_cons, List.not_mem_nil, or_false] at hx
  rcases hx with rfl | rfl <;> assumption

/-- the result of a binary kernel reads its two operands only -/
theorem ap_vals (op : Op) {a b : Nat} {s s' : St} (h : ∀ x ∈ [a, b], s'.val x = s.val x) :
    Val.ap op (s'.val a) (s'.val b) = .ap op (s.val a) (s.val b) := by
  rw [h a (by simp), h b (by simp)]

theorem kernel1_convention (op : Op) (a bc : Nat) (dt : Option Nat) :
    Convention [bc] a dt (fun _ => True) (fun s => .ap op (s.val a) (s.val bc)) (fun out => kernel1 op a bc out dt) :=
  Convention.of_getOut (fun _ _ => trivial) (fun _ _ h => ap_vals op h) fun s _ _ ho _ _ => .write (.refl s) ho rfl

theorem unalias_ne (g : Bool) {x o : Nat} (h : x ≠ o) (s : St) : unalias g x o s = .ok x s := by
  simp only [unalias, beq_eq_false_iff_ne.2 h, Bool.and_false, Bool.false_eq_true, if_false]

/-- `if np.may_share_memory(x, o): x = x.copy()`: the operand the kernel is then given holds what `x` held, nothing was
written, and under the guard that operand is not `o` -/
theorem unalias_spec (g : Bool) {x o : Nat} {s : St} (hx : x < s.heap.length) (ho : o < s.heap.length) :
    ∃ x' s', unalias g x o s = .ok x' s' ∧ x' < s'.heap.length ∧ s'.val x' = s.val x ∧
      Ext s s' ∧ (g = true ∨ x ≠ o → x' ≠ o) := by
  by_cases h : (g && x == o) = true
  · exact ⟨_, _, by rw [unalias, if_pos h, alloc_eq], by rw [length_allocSt]; omega, val_allocSt_new _ _ s,
      Ext.alloc _ _ s, fun _ => by omega⟩
  · refine ⟨x, s, by rw [unalias, if_neg h], hx, rfl, Ext.refl s, fun hg hxo => h ?_⟩
    subst hxo
    rcases hg with hg | hg
    · rw [hg, Bool.true_and, beq_self_eq_true]
    · exact absurd rfl hg

theorem kernelWrite_ne (op : Op) {a bc o : Nat} (ha : a ≠ o) (hb : bc ≠ o) (s : St) :
    kernelWrite op a bc o s = write o (.ap op (s.val a) (s.val bc)) s := by
  simp only [kernelWrite, readWhile, if_neg ha, if_neg hb]

/-- what `out` resolves to is none of the operands, unless `out` is one -/
theorem Resolves.ne {out : Option Nat} {s : St} {b x : Nat} (h : Resolves out s b) (hx : x < s.heap.length)
    (hout : ∀ o ∈ out, x ≠ o) : x ≠ b := by
  cases out with
  | none => exact Nat.ne_of_lt (Nat.lt_of_lt_of_le hx h)
  | some o => exact h ▸ hout o rfl

/-- the single-pass wrapper with its guards: `out` may be an operand when the guards are there -/
theorem kernel1G_convention (g : Bool) (op : Op) (a bc : Nat) (dt : Option Nat) :
    Convention [bc] a dt (fun o => g = true ∨ (a ≠ o ∧ bc ≠ o)) (fun s => .ap op (s.val a) (s.val bc))
      (fun out => kernel1G g op a bc out dt) :=
  Convention.of_getOut (fun o h => .inr ⟨h a (by simp), h bc (by simp)⟩) (fun _ _ h => ap_vals op h)
    fun s o hops ho _ hC => by
      have hb := hops bc (by simp)
      obtain ⟨a', s2, e2, la, va, f2, na⟩ := unalias_spec g (hops a (by simp)) ho
      obtain ⟨b', s3, e3, lb, vb, f3, nb⟩ := unalias_spec g (f2.lt hb) (f2.lt ho)
      simp only [e2, e3, R.bind, kernelWrite_ne op (na (hC.imp id And.left)) (nb (hC.imp id And.right))]
      exact .write (f2.trans f3) ho (by rw [f3.val la, va, vb, f2.val hb])

/-- without the guards an accepted `out` goes straight to the kernel, operand of it or not -/
theorem kernel1G_false_accept {op : Op} {a bc o : Nat} {dt : Option Nat} {s : St}
    (h : s.desc o = outDesc (s.desc a) dt) :
    kernel1G false op a bc (some o) dt s = .ok o (kernelWrite op a bc o s) := by
  simp only [kernel1G, getOut_accept h, R.bind]
  rfl

/-- the common shape of `open` and `close` over a single-pass wrapper `K`:
`x = K(op1, f, Bc, out=out); return K(op2, x.copy(), Bc, out=x)` -/
def twoPass (K : Op → Nat → Nat → Option Nat → St → R Nat) (op1 op2 : Op) (f bc : Nat) (out : Option Nat) (s : St) :
    R Nat :=
  (K op1 f bc out s).bind fun e s => (alloc (s.desc e) (s.val e) s).bind fun tmp s => K op2 tmp bc (some e) s

theorem twoPass_convention {K : Op → Nat → Nat → Option Nat → St → R Nat} {C : Nat → Nat → Nat → Prop}
    (hK : ∀ op a b, Convention [b] a none (C a b) (fun s => .ap op (s.val a) (s.val b)) (K op a b))
    (hC : ∀ a b o, a ≠ o → b ≠ o → C a b o) (op1 op2 : Op) (f bc : Nat) :
    Convention [bc] f none (fun o => C f bc o ∧ bc ≠ o)
      (fun s => .ap op2 (.ap op1 (s.val f) (s.val bc)) (s.val bc)) (twoPass K op1 op2 f bc) where
  returns out s hops hout := by
    have hb := hops bc (by simp)
    obtain ⟨e, re, s1, e1, l1, d1, v1, f1⟩ := (hK op1 f bc).returns out s hops
      fun o ho => ⟨(hout o ho).1, (hout o ho).2.1, (hout o ho).2.2.1⟩
    have hbe : bc ≠ e := re.ne hb fun o ho => (hout o ho).2.2.2
    have hb1 : bc < s1.heap.length := Nat.lt_of_lt_of_le hb f1.le
    -- the second pass reads the copy (the new buffer `s1.heap.length`) and writes the buffer of the first
    obtain ⟨_, rfl, s2, e2, l2, d2, v2, f2⟩ := (hK op2 s1.heap.length bc).returns (some e)
      (allocSt (s1.desc e) (s1.val e) s1)
      (forall_mem_pair (by rw [length_allocSt]; omega) (by rw [length_allocSt]; omega))
      (fun _ ho => by
        cases ho
        refine ⟨by rw [length_allocSt]; omega, ?_, hC _ _ _ (Nat.ne_of_gt l1) hbe⟩
        rw [desc_allocSt_old _ _ _ _ l1, desc_allocSt_new, d1]; rfl)
    refine ⟨_, re, s2, by simp only [twoPass, e1, R.bind, alloc_eq, e2], l2, ?_, ?_,
      f1.trans (((Frame.refl _ s1).alloc _ _).trans f2)⟩
    · rw [d2, desc_allocSt_new, d1]; rfl
    · rw [v2, val_allocSt_new, v1, val_allocSt_old _ _ _ _ hb1, f1.val bc hb hbe]
  raises o s r ho hops hr := by
    obtain ⟨s', e, fr⟩ := (hK op1 f bc).raises o s r ho hops hr
    exact ⟨s', by simp only [twoPass, e, R.bind], fr⟩

/-- two plain passes: `openP f bc` is `twoPass (fun op a b out => kernel1 op a b out none) .erode .dilate f bc` by unfolding,
`closeP f bc` the same with the two kernels exchanged, so this is the convention of both -/
theorem twoPass_kernel1 (op1 op2 : Op) (f bc : Nat) :
    Convention [bc] f none (fun o => bc ≠ o) (fun s => .ap op2 (.ap op1 (s.val f) (s.val bc)) (s.val bc))
      (twoPass (fun op a b out => kernel1 op a b out none) op1 op2 f bc) :=
  (twoPass_convention (C := fun _ _ _ => True) (fun op a b => kernel1_convention op a b none)
    (fun _ _ _ _ _ => trivial) op1 op2 f bc).mono fun _ h => ⟨trivial, h⟩

/-- `twoPass` over the guarded single-pass wrapper: `out` may be the image when the guards are there, but not the structuring
element, which the second pass reads after the first has written `out` -/
theorem twoPass_kernel1G_passes (g : Bool) (op1 op2 : Op) (f bc : Nat) :
    Convention [bc] f none (fun o => (g = true ∨ (f ≠ o ∧ bc ≠ o)) ∧ bc ≠ o)
      (fun s => .ap op2 (.ap op1 (s.val f) (s.val bc)) (s.val bc))
      (twoPass (fun op a b out => kernel1G g op a b out none) op1 op2 f bc) :=
  twoPass_convention (C := fun a b o => g = true ∨ (a ≠ o ∧ b ≠ o))
    (fun op a b => kernel1G_convention g op a b none) (fun _ _ _ ha hb => .inr ⟨ha, hb⟩) op1 op2 f bc

/-- the guard for the structuring element, then the two guarded passes (the program is `openGP g f bc` for `.erode .dilate` and
`closeGP g f bc` for `.dilate .erode`, by unfolding); `out` may be the image or the structuring element when the guards are there -/
theorem twoPass_kernel1G (g : Bool) (op1 op2 : Op) (f bc : Nat) :
    Convention [bc] f none (fun o => g = true ∨ (f ≠ o ∧ bc ≠ o))
      (fun s => .ap op2 (.ap op1 (s.val f) (s.val bc)) (s.val bc))
      (fun out s => (unaliasOpt g bc out s).bind fun bc s =>
        twoPass (fun op a b out => kernel1G g op a b out none) op1 op2 f bc out s) where
  returns out s hops hout := by
    have hf := hops f (by simp)
    have hb := hops bc (by simp)
    cases out with
    | none => exact (twoPass_kernel1G_passes g op1 op2 f bc).returns none s hops (by simp)
    | some o =>
      obtain ⟨ho, hd, hg⟩ := hout o rfl
      obtain ⟨b', s0, e0, lb, vb, f0, nb⟩ := unalias_spec g hb ho
      have nb' := nb (hg.imp id And.right)
      obtain ⟨_, rfl, this⟩ := (twoPass_kernel1G_passes g op1 op2 f b').returns (some o) s0
        (forall_mem_pair (f0.lt hf) lb)
        (fun _ h => by
          cases h
          exact ⟨f0.lt ho, by rw [f0.desc ho, f0.desc hf, hd], hg.imp id fun h => ⟨h.1, nb'⟩, nb'⟩)
      rw [vb, f0.val hf, f0.desc hf] at this
      exact ⟨_, rfl, by simpa only [unaliasOpt, e0, R.bind] using this.of_frame f0.frame⟩
  raises o s r ho hops hr := by
    obtain ⟨s', e, fr⟩ := (twoPass_kernel1G_passes g op1 op2 f bc).raises o s r ho hops hr
    exact ⟨s', by simpa only [unaliasOpt, unalias_ne g (hops bc (by simp)).2, R.bind] using e, fr⟩

theorem submP_eq_submGP : submP = submGP false := by
  funext a b out s
  unfold submP submGP
  congr 1
  funext o s
  by_cases h : o = a
  · simp only [h, ne_eq, not_true_eq_false, if_false]
  · simp only [ne_eq, h, not_false_eq_true, if_true, unalias, Bool.false_and, Bool.false_eq_true, if_false, R.bind]

/-- `out` may be the minuend (the documented in-place use); it may be the subtrahend when the guard is there -/
theorem submGP_convention (g : Bool) (a b : Nat) :
    Convention [b] a none (fun o => g = true ∨ b ≠ o ∨ a = o) (fun s => .ap .subm (s.val a) (s.val b))
      (submGP g a b) :=
  Convention.of_getOut (fun o h => .inr (.inl (h b (by simp)))) (fun _ _ h => ap_vals .subm h)
    fun s o hops ho _ hC => by
      by_cases hoa : o = a
      · subst hoa
        simp only [ne_eq, not_true_eq_false, if_false]
        exact .write (.refl s) ho rfl
      · obtain ⟨b', s2, e2, lb, vb, f2, nb⟩ := unalias_spec g (hops b (by simp)) ho
        have nb' := nb (hC.imp id fun h => h.resolve_right (Ne.symm hoa))
        simp only [ne_eq, hoa, not_false_eq_true, if_true, e2, R.bind, write_write]
        refine .write f2 ho ?_
        rw [val_write_self _ _ _ (f2.lt ho), val_write_ne _ _ _ _ nb', f2.val (hops a (by simp)), vb]

theorem submP_convention (a b : Nat) :
    Convention [b] a none (fun o => b ≠ o ∨ a = o) (fun s => .ap .subm (s.val a) (s.val b)) (submP a b) :=
  Convention.mono (submP_eq_submGP ▸ submGP_convention false a b) fun _ => .inr

theorem Resolves.of_ext {out : Option Nat} {s s0 : St} {b : Nat} (h : Resolves out s0 b) (f0 : Ext s s0) :
    Resolves out s b := by
  cases out with
  | none => exact Nat.le_trans f0.le h
  | some o => exact h

theorem outDesc_contig (a : Desc) (dt : Option Nat) : outDesc { a with ccontig := true } dt = outDesc a dt := by
  cases dt <;> rfl

/-- `cerode` starts with `f = np.maximum(f, g)`: the rest of the wrapper (`P1 f1`) sees the temporary `f1` as its array. It is a
new buffer, so `out` is not it, and it has the descriptor of `f` made contiguous, so `_get_output` decides as it would for `f`. -/
theorem Convention.after_maximum {f g bc : Nat} {C : Nat → Prop} {P1 : Nat → Option Nat → St → R Nat}
    (h1 : ∀ f1, Convention [g, bc] f1 none (fun o => f1 ≠ o ∧ C o)
      (fun s => .ap .maximum (.ap .erode (s.val f1) (s.val bc)) (s.val g)) (P1 f1)) :
    Convention [g, bc] f none C
      (fun s => .ap .maximum (.ap .erode (.ap .maximum (s.val f) (s.val g)) (s.val bc)) (s.val g))
      (fun out s => (alloc (s.desc f) (.ap .maximum (s.val f) (s.val g)) s).bind fun f1 s => P1 f1 out s) where
  returns out s hops hout := by
    have f0 := Ext.alloc (s.desc f) (.ap .maximum (s.val f) (s.val g)) s
    have hl : s.heap.length < (allocSt (s.desc f) (.ap .maximum (s.val f) (s.val g)) s).heap.length := by
      rw [length_allocSt]; omega
    obtain ⟨b, rb, hr⟩ := (h1 s.heap.length).returns out _
      (List.forall_mem_cons.2 ⟨hl, fun x hx => f0.lt (hops x (List.mem_cons_of_mem _ hx))⟩)
      (fun o ho => ⟨f0.lt (hout o ho).1,
        by rw [f0.desc (hout o ho).1, desc_allocSt_new, outDesc_contig, (hout o ho).2.1],
        Nat.ne_of_gt (hout o ho).1, (hout o ho).2.2⟩)
    rw [desc_allocSt_new, outDesc_contig, val_allocSt_new, f0.val (hops bc (by simp)), f0.val (hops g (by simp))] at hr
    exact ⟨b, rb.of_ext f0, by simpa only [alloc_eq, R.bind] using hr.of_frame f0.frame⟩
  raises o s r ho hops hr := by
    have f0 := Ext.alloc (s.desc f) (.ap .maximum (s.val f) (s.val g)) s
    have hl : s.heap.length < (allocSt (s.desc f) (.ap .maximum (s.val f) (s.val g)) s).heap.length := by
      rw [length_allocSt]; omega
    obtain ⟨s', e, fr⟩ := (h1 s.heap.length).raises o _ r (f0.lt ho)
      (List.forall_mem_cons.2 ⟨⟨hl, Nat.ne_of_gt ho⟩, fun x hx =>
        ⟨f0.lt (hops x (List.mem_cons_of_mem _ hx)).1, (hops x (List.mem_cons_of_mem _ hx)).2⟩⟩)
      (by rw [desc_allocSt_new, desc_allocSt_old _ _ _ _ ho, getOutput_array_contig, hr])
    exact ⟨s', by simpa only [alloc_eq, R.bind] using e, f0.trans fr⟩

theorem cerode_accept {f o : Nat} {s : St} (v : Val) (ho : o < s.heap.length)
    (h : s.desc o = outDesc (s.desc f) none) :
    getOut s.heap.length (some o) none (allocSt (s.desc f) v s) = .ok o (allocSt (s.desc f) v s) :=
  getOut_accept (by rw [desc_allocSt_old _ _ _ _ ho, desc_allocSt_new, outDesc_contig, h])

/-- `out` may be the image (the kernel reads the temporary); it may be the condition or the structuring element when the
guards are there -/
theorem cerodeGP_convention (gd : Bool) (f g bc : Nat) :
    Convention [g, bc] f none (fun o => gd = true ∨ (g ≠ o ∧ bc ≠ o))
      (fun s => .ap .maximum (.ap .erode (.ap .maximum (s.val f) (s.val g)) (s.val bc)) (s.val g))
      (cerodeGP gd f g bc) :=
  Convention.after_maximum fun f1 => Convention.of_getOut
    (fun o h => ⟨h f1 (by simp), .inr ⟨h g (by simp), h bc (by simp)⟩⟩)
    (fun _ _ h => by rw [h f1 (by simp), h bc (by simp), h g (by simp)]) fun s o hops ho _ hC => by
      have lf := hops f1 (by simp)
      have hb := hops bc (by simp)
      obtain ⟨g', s2, e2, lg, vg, f2, ng⟩ := unalias_spec gd (hops g (by simp)) ho
      obtain ⟨b', s3, e3, lb, vb, f3, nb⟩ := unalias_spec gd (f2.lt hb) (f2.lt ho)
      simp only [e2, e3, R.bind, kernelWrite_ne .erode hC.1 (nb (hC.2.imp id And.right)), write_write]
      refine .write (f2.trans f3) ho ?_
      rw [val_write_self _ _ _ (f3.lt (f2.lt ho)), val_write_ne _ _ _ _ (ng (hC.2.imp id And.left)),
        f3.val (f2.lt lf), f2.val lf, vb, f2.val hb, f3.val lg, vg]

/-- the plain `cerode`: its last step reads the condition after `out` was written, so `out` must not be the condition -/
theorem cerodeP_convention (f g bc : Nat) :
    Convention [g, bc] f none (fun o => g ≠ o)
      (fun s => .ap .maximum (.ap .erode (.ap .maximum (s.val f) (s.val g)) (s.val bc)) (s.val g))
      (cerodeP f g bc) :=
  Convention.after_maximum fun f1 => Convention.of_getOut (fun o h => ⟨h f1 (by simp), h g (by simp)⟩)
    (fun _ _ h => by rw [h f1 (by simp), h bc (by simp), h g (by simp)]) fun s o _ ho _ hC => by
      simp only [write_write]
      exact .write (.refl s) ho (by rw [val_write_self _ _ _ ho, val_write_ne _ _ _ _ hC.2])

/-- `out = _get_output(f, out); fc = T(f, Bc); return subm(fc, f, out=out)` -/
def tophatClose (T : Option Nat → St → R Nat) (g : Bool) (f : Nat) (out : Option Nat) (s : St) : R Nat :=
  (getOut f out none s).bind fun o s => (T none s).bind fun fc s => submGP g fc f (some o) s

/-- `out = _get_output(f, out); fo = T(f, Bc); return subm(f, fo, out=out)` -/
def tophatOpen (T : Option Nat → St → R Nat) (g : Bool) (f : Nat) (out : Option Nat) (s : St) : R Nat :=
  (getOut f out none s).bind fun o s => (T none s).bind fun fo s => submGP g f fo (some o) s

theorem tophatCloseP_eq (f bc : Nat) : tophatCloseP f bc = tophatClose (closeP f bc) false f := by
  funext out s
  simp only [tophatCloseP, tophatClose, submP_eq_submGP]

theorem tophatOpenP_eq (f bc : Nat) : tophatOpenP f bc = tophatOpen (openP f bc) false f := by
  funext out s
  simp only [tophatOpenP, tophatOpen, submP_eq_submGP]

variable {T : Option Nat → St → R Nat} {CT : Nat → Prop} {FT : St → Val} {f bc : Nat}

/-- the common shape of the top-hats, `out = _get_output(f, out); x = T(f, Bc); return S(x, out=out)`: `T` run without `out`
returns a new buffer `x` with the accepted descriptor, and `S x`, for which `o` is then an acceptable `out`, combines `x`
and `f` into `o` -/
theorem tophat_convention {S : Nat → Nat → St → R Nat} {CS : Nat → Prop} {G : Val → Val → Val}
    (hT : Convention [bc] f none CT FT T) (hfresh : ∀ o, (∀ x ∈ [f, bc], x ≠ o) → CS o)
    (hFT : ∀ s s', (∀ x ∈ [f, bc], s'.val x = s.val x) → FT s' = FT s)
    (hS : ∀ s x o, f < s.heap.length → x < s.heap.length → o < s.heap.length → x ≠ o →
      s.desc o = outDesc (s.desc f) none → s.desc x = outDesc (s.desc f) none → CS o →
      ∃ b, Resolves (some o) s b ∧ Returns (S x o s) s b (outDesc (s.desc f) none) (G (s.val x) (s.val f))) :
    Convention [bc] f none CS (fun s => G (FT s) (s.val f))
      (fun out s => (getOut f out none s).bind fun o s => (T none s).bind fun x s => S x o s) :=
  Convention.of_getOut hfresh (fun s s' h => by rw [hFT s s' h, h f (by simp)]) fun s o hops ho hd hC => by
    have hf := hops f (by simp)
    obtain ⟨x, rx, s2, e2, l2, d2, v2, f2⟩ := hT.returns none s hops (by simp)
    -- `x` is a new buffer, so `T` wrote no buffer of `s`
    have f2' : Ext s s2 := f2.mono rx
    obtain ⟨_, rfl, this⟩ := hS s2 x o (f2'.lt hf) l2 (f2'.lt ho) (Nat.ne_of_gt (Nat.lt_of_lt_of_le ho rx))
      (by rw [f2'.desc ho, f2'.desc hf, hd]) (by rw [d2, f2'.desc hf]) hC
    rw [v2, f2'.val hf] at this
    simpa only [e2, R.bind] using (Stores.of_returns this).of_frame f2'.frame

theorem tophatClose_convention {op1 op2 : Op}
    (hT : Convention [bc] f none CT (fun s => .ap op2 (.ap op1 (s.val f) (s.val bc)) (s.val bc)) T) (g : Bool) :
    Convention [bc] f none (fun o => g = true ∨ f ≠ o)
      (fun s => .ap .subm (.ap op2 (.ap op1 (s.val f) (s.val bc)) (s.val bc)) (s.val f)) (tophatClose T g f) :=
  tophat_convention (G := fun u v => .ap .subm u v) hT (fun o h => .inr (h f (by simp)))
    (fun _ _ h => by rw [h f (by simp), h bc (by simp)]) fun s x o hf hx ho _ hdo hdx hC => by
      -- `out` is the subtrahend `f` or a buffer of its own
      have := (submGP_convention g x f).returns (some o) s (forall_mem_pair hx hf) fun _ h => by
        cases h
        exact ⟨ho, by rw [hdo, hdx]; rfl, hC.imp id .inl⟩
      rwa [hdx] at this

theorem tophatOpen_convention {op1 op2 : Op}
    (hT : Convention [bc] f none CT (fun s => .ap op2 (.ap op1 (s.val f) (s.val bc)) (s.val bc)) T) (g : Bool) :
    Convention [bc] f none (fun _ => True)
      (fun s => .ap .subm (s.val f) (.ap op2 (.ap op1 (s.val f) (s.val bc)) (s.val bc))) (tophatOpen T g f) :=
  tophat_convention (G := fun u v => .ap .subm v u) hT (fun _ _ => trivial)
    (fun _ _ h => by rw [h f (by simp), h bc (by simp)]) fun s x o hf hx ho hxo hdo _ _ =>
      -- `out` is not the new buffer `x`; it may be the minuend `f`
      (submGP_convention g f x).returns (some o) s (forall_mem_pair hf hx) fun _ h => by
        cases h
        exact ⟨ho, hdo, .inr (.inl hxo)⟩

/-- `out` may be the array (the store is then a self-assignment); it may be the second operand when the guard is there -/
theorem inplaceP_convention (g : Bool) (op : Op) (a bc : Nat) (dt : Option Nat) :
    Convention [bc] a dt (fun o => g = true ∨ bc ≠ o) (fun s => .ap op (s.val a) (s.val bc))
      (fun out => inplaceP g op a bc out dt) :=
  Convention.of_getOut (fun o h => .inr (h bc (by simp))) (fun _ _ h => ap_vals op h) fun s o hops ho _ hC => by
    obtain ⟨b', s2, e2, lb, vb, f2, nb⟩ := unalias_spec g (hops bc (by simp)) ho
    have nb' := nb hC
    simp only [e2, R.bind, readWhile, if_neg nb', write_write]
    refine .write f2 ho ?_
    rw [val_write_self _ _ _ (f2.lt ho), val_write_ne _ _ _ _ nb', f2.val (hops a (by simp)), vb]

/-- all four paths of `convolve1d`; only the fast path along an axis other than the last differs from a single pass: the
kernel writes a temporary that is then copied into the validated buffer -/
theorem convolve1dP_convention (f w : Nat) (fast lastAxis : Bool) :
    Convention [w] f none (fun _ => True) (fun s => .ap .kernel (s.val f) (s.val w))
      (fun out => convolve1dP f w out fast lastAxis) := by
  cases fast with
  | false => exact kernel1_convention .kernel f w none
  | true =>
  cases lastAxis with
  | true => exact kernel1_convention .kernel f w none
  | false =>
  exact Convention.of_getOut (fun _ _ => trivial) (fun _ _ h => ap_vals .kernel h) fun s o hops ho _ _ => by
    have hl : s.heap.length < (allocSt (s.desc f) .undef s).heap.length := by rw [length_allocSt]; omega
    simp only [Bool.false_eq_true, if_false, alloc_eq, R.bind]
    refine .write (((Frame.refl _ s).alloc _ _).write (.inr (Nat.le_refl _)) _) ho ?_
    rw [val_write_self _ _ _ hl, val_allocSt_old _ _ _ _ (hops f (by simp)), val_allocSt_old _ _ _ _ (hops w (by simp))]

/-- `n` Gaussian passes applied to a symbolic content -/
def gaussIter (b : Val) : Nat → Val → Val
  | 0, v => v
  | n + 1, v => gaussIter b n (.ap .gauss1d v b)

theorem outDesc_self {d : Desc} (h : d.ccontig = true) : outDesc d none = d := by
  obtain ⟨dt, sh, c⟩ := d
  obtain rfl : c = true := h
  rfl

/-- the ping-pong loop: `n` passes starting from `x`, each into the buffer the previous one read (the first into `nout`, or
into a new buffer). The buffers it alternates between are `o` or none of the heap `s0` at call time, contiguous and of one
descriptor (each is an acceptable `out` for a pass that reads the other); in which of them the last pass lands is left open -/
theorem gaussLoop_two (bc o : Nat) (s0 : St) (n : Nat) : ∀ (x : Nat) (nout : Option Nat) (s : St), Frame o s0 s →
    (∀ b, b = x ∨ b ∈ nout → (b = o ∨ s0.heap.length ≤ b) ∧ b < s.heap.length ∧ bc ≠ b) → bc < s.heap.length →
    (∀ y ∈ nout, x ≠ y ∧ s.desc y = s.desc x) → (s.desc x).ccontig = true →
    ∃ r s', gaussLoop bc n x nout s = .ok r s' ∧ s'.val r = gaussIter (s.val bc) n (s.val x) ∧ Frame o s0 s' := by
  induction n with
  | zero =>
    intro x nout s fr _ _ _ _
    exact ⟨x, s, rfl, rfl, fr⟩
  | succ n ih =>
    intro x nout s fr hw hb hn hc
    obtain ⟨hxo, hx, hbx⟩ := hw x (.inl rfl)
    obtain ⟨y, ry, s1, (e1 : gauss1dP x bc nout s = .ok y s1), ly, dy, vy, f1⟩ :=
      (kernel1_convention .gauss1d x bc none).returns nout s (forall_mem_pair hx hb)
        fun y hy => ⟨(hw y (.inr hy)).2.1, (hn y hy).2.trans (outDesc_self hc).symm, trivial⟩
    rw [outDesc_self hc] at dy
    have hxy : x ≠ y := ry.ne hx fun y' hy' => (hn y' hy').1
    have hby : bc ≠ y := ry.ne hb fun y' hy' => (hw y' (.inr hy')).2.2
    have hyo : y = o ∨ s0.heap.length ≤ y := by
      cases nout with
      | none => exact .inr (Nat.le_trans fr.le ry)
      | some y' => exact ry ▸ (hw y' (.inr rfl)).1
    obtain ⟨r, s', h1, h2, h3⟩ := ih y (some x) s1 (fr.trans' f1 hyo)
      (fun b h => by
        rcases h with rfl | h
        · exact ⟨hyo, ly, hby⟩
        · cases h; exact ⟨hxo, Nat.lt_of_lt_of_le hx f1.le, hbx⟩)
      (Nat.lt_of_lt_of_le hb f1.le) (fun _ h => by cases h; exact ⟨hxy.symm, (f1.desc x hx).trans dy.symm⟩) (dy ▸ hc)
    refine ⟨r, s', by simp only [gaussLoop, e1, R.bind, h1], ?_, h3⟩
    rw [h2, vy, f1.val bc hb hby, gaussIter]

/-- the whole ping-pong after `out` has been resolved to buffer `o` holding the input: the loop, then the copy back -/
theorem gaussRun (bc n o : Nat) (s : St) (ho : o < s.heap.length) (hb : bc < s.heap.length) (hbo : bc ≠ o)
    (hc : (s.desc o).ccontig = true) :
    Stores ((gaussLoop bc n o none s).bind fun r s => if r ≠ o then .ok o (write o (s.val r) s) else .ok o s)
      s o (gaussIter (s.val bc) n (s.val o)) := by
  obtain ⟨r, s', h1, h2, fr⟩ := gaussLoop_two bc o s n o none s (Frame.refl _ s)
    (fun b h => h.elim (fun e => e.symm ▸ ⟨.inl rfl, ho, hbo⟩) nofun) hb nofun hc
  by_cases hr : r = o
  · subst hr
    exact ⟨s', by simp only [h1, R.bind, ne_eq, not_true_eq_false, if_false], h2, fr⟩
  · -- the last pass landed in the scratch buffer: copy back
    exact ⟨write o (s'.val r) s', by simp only [h1, R.bind, ne_eq, hr, not_false_eq_true, if_true],
      by rw [val_write_self _ _ _ (Nat.lt_of_lt_of_le ho fr.le), h2], fr.write (.inl rfl) _⟩

/-- `gaussian_filter`: `out` may be the array itself — every pass reads one buffer of the ping-pong and writes
the other -/
theorem gaussRepairedP_convention (a bc n : Nat) :
    Convention [bc] a none (fun o => bc ≠ o) (fun s => gaussIter (s.val bc) n (s.val a))
      (fun out => gaussRepairedP a bc out n) :=
  Convention.of_getOut (fun o h => h bc (by simp)) (fun _ _ h => by rw [h a (by simp), h bc (by simp)])
    fun s o hops ho hd hbo => by
      have := gaussRun bc n o (write o (s.val a) s) (by rwa [length_write])
        (by rw [length_write]; exact hops bc (by simp)) hbo (by rw [desc_write, hd]; rfl)
      rw [val_write_ne _ _ _ _ hbo, val_write_self _ _ _ ho] at this
      exact this.of_frame ((Frame.refl _ s).write (.inl rfl) _)

theorem ite_ne {α : Type} {c : Prop} [Decidable c] {x y z : α} (hx : x ≠ z) (hy : y ≠ z) :
    (if c then x else y) ≠ z := by
  split <;> assumption

/-- no leaf of the nested test is `fresh` -/
theorem hitmissOut_ne_fresh (inp o : Desc) : hitmissOut inp (some o) ≠ .fresh :=
  ite_ne nofun (ite_ne nofun (ite_ne (ite_ne nofun nofun) nofun))

theorem hitmissP_none (g : Bool) (inp bc : Nat) (s : St) :
    hitmissP g inp bc none s =
      .ok s.heap.length (kernelWrite .kernel inp bc s.heap.length (allocSt (s.desc inp) .undef s)) :=
  rfl

theorem hitmissP_accept {g : Bool} {inp bc o : Nat} {s : St}
    (h : hitmissOut (s.desc inp) (some (s.desc o)) = .useOut ∨ hitmissOut (s.desc inp) (some (s.desc o)) = .useView) :
    hitmissP g inp bc (some o) s = (unalias g inp o s).bind fun inp' s => .ok o (kernelWrite .kernel inp' bc o s) := by
  unfold hitmissP
  rcases h with h | h <;> simp only [Option.map_some, h]

theorem hitmissP_reject {g : Bool} {inp bc o : Nat} {s : St}
    (h : ¬ (hitmissOut (s.desc inp) (some (s.desc o)) = .useOut ∨
      hitmissOut (s.desc inp) (some (s.desc o)) = .useView)) :
    ∃ r, hitmissP g inp bc (some o) s = .raise r s := by
  unfold hitmissP
  simp only [Option.map_some]
  cases hd : hitmissOut (s.desc inp) (some (s.desc o)) with
  | fresh => exact absurd hd (hitmissOut_ne_fresh _ _)
  | useOut => exact absurd (.inl hd) h
  | useView => exact absurd (.inr hd) h
  | valueError => exact ⟨_, rfl⟩
  | typeError => exact ⟨_, rfl⟩

/-- what `zoom` asks of `out`: an array of the input's rank, C-contiguous, writeable; then the dtype decides between
writing it directly and going through a temporary -/
theorem zoomDecision_some (a : Desc) (o : ZOut) :
    zoomDecision a (some o) =
      if o.isArray = true ∧ o.desc.shape.length = a.shape.length ∧ o.desc.ccontig = true ∧ o.writeable = true then
        (if o.desc.dtype ≠ a.dtype then .viaTemp else .direct)
      else .valueError := by
  obtain ⟨⟨dt, sh, c⟩, ia, wr⟩ := o
  cases ia <;> cases c <;> cases wr <;> by_cases hl : sh.length = a.shape.length <;> simp [zoomDecision, hl]

end Mahotas.C09
