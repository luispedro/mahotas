/-
C18 — the initial value of the causal pass of `spline_filter1d`. The exact mirror-symmetric value
`c⁺[0] = Σ_{k≥0} z^k s̃[k]` is characterised without infinite sums as the fixed point `c0 = Σ_{k<P} z^k s̃[k] + z^P·c0` over one
mirrored period `P = 2n − 2` (`MirrorInit`; `mirrorExt` is that period indexed by ℕ, `ext` of `Proofs/C18Fold.lean` the
whole extension over ℤ, `ext_eq_mirrorExt`). With it the first sample is reproduced (`onePole_first`); the code's closed form `initFull` is
this value (`initFull_mirrorInit`), and the sum cut after `mx` terms (what `initTrunc` computes, `initTrunc_eq`) differs from
it by at most `|z|^mx·M/(1 − |z|)` (`mirrorInit_trunc_bound`; `fixed_trunc_bound` for any bounded periodic sequence).
-/
import Mahotas.Proofs.C18Filter
import Mahotas.Proofs.C18Fold
import Mathlib.Algebra.Order.Field.Basic
import Mathlib.Algebra.Order.AbsoluteValue.Basic
import Mathlib.Algebra.BigOperators.Intervals
import Mathlib.Algebra.BigOperators.Ring.Finset
import Mathlib.Tactic.Linarith
set_option linter.unusedSectionVars false
namespace Mahotas.C18
open Mahotas

section Alg
variable {K : Type} [Field K]

/-- `Σ_{k<m} z^k · t[k]` -/
def geomSum (z : K) (t : Nat → K) : Nat → K
  | 0 => 0
  | m + 1 => geomSum z t m + z ^ m * t m

/-- the mirror extension of a line of length `n` (`… s₂ s₁ | s₀ s₁ … s_{n−1} | s_{n−2} … s₁ s₀ s₁ …`), one period and
    one sample more: `s̃[k] = s[k]` for `k < n`, `s[2n − 2 − k]` for `n ≤ k ≤ 2n − 2` -/
def mirrorExt (n : Nat) (s : Nat → K) (k : Nat) : K := if k < n then s k else s (2 * n - 2 - k)

/-- `c0` is the exact mirror-symmetric initial value `Σ_{k≥0} z^k s̃[k]` of the causal pass: the fixed point of
    "one period of the geometric sum, then the same again damped by `z^P`" -/
def MirrorInit (z : K) (n : Nat) (s : Nat → K) (c0 : K) : Prop :=
  c0 = geomSum z (mirrorExt n s) (2 * n - 2) + z ^ (2 * n - 2) * c0

theorem mirrorExt_lt (n : Nat) (s : Nat → K) {k : Nat} (h : k < n) : mirrorExt n s k = s k := if_pos h

theorem mirrorExt_ge (n : Nat) (s : Nat → K) {k : Nat} (h : n ≤ k) : mirrorExt n s k = s (2 * n - 2 - k) :=
  if_neg h.not_gt

theorem geomSum_congr (z : K) (t t' : Nat → K) (m : Nat) (h : ∀ k, k < m → t k = t' k) :
    geomSum z t m = geomSum z t' m := by
  induction m with
  | zero => rfl
  | succ m ih => simp only [geomSum]; rw [ih (fun k hk => h k (by omega)), h m (by omega)]

theorem geomSum_front (z : K) (g : Nat → K) (m : Nat) :
    geomSum z g (m + 1) = g 0 + z * geomSum z (fun j => g (j + 1)) m := by
  induction m with
  | zero => simp [geomSum]
  | succ m ih => rw [geomSum, ih]; simp only [geomSum]; ring

theorem geomSum_add (z : K) (t : Nat → K) (a d : Nat) :
    geomSum z t (a + d) = geomSum z t a + z ^ a * geomSum z (fun k => t (a + k)) d := by
  induction d with
  | zero => simp [geomSum]
  | succ d ih =>
    have e : a + (d + 1) = (a + d) + 1 := by omega
    rw [e, geomSum, ih]; simp only [geomSum]; ring

theorem causal_init (z c0 : K) (t : Nat → K) (k : Nat) :
    causal z c0 t k = z ^ k * c0 + causal z 0 t k := by
  induction k with
  | zero => simp [causal]
  | succ k ih => simp only [causal, ih]; ring

theorem causal_closed (z : K) (t : Nat → K) (k : Nat) :
    causal z 0 t k = geomSum z (fun j => t (k - j)) k := by
  induction k with
  | zero => simp [causal, geomSum]
  | succ k ih =>
    rw [geomSum_front]
    simp only [causal, ih, Nat.sub_zero, Nat.add_sub_add_right]

theorem causal_congr (z c0 : K) (t t' : Nat → K) (k : Nat) (h : ∀ i, 1 ≤ i → i ≤ k → t i = t' i) :
    causal z c0 t k = causal z c0 t' k := by
  induction k with
  | zero => rfl
  | succ k ih =>
    simp only [causal]
    rw [ih (fun i h1 h2 => h i h1 (by omega)), h (k + 1) (by omega) le_rfl]

theorem causal_period (z c0 : K) (n : Nat) (s : Nat → K) :
    causal z c0 (mirrorExt n s) (2 * n - 2)
      = z ^ (2 * n - 2) * c0 + geomSum z (mirrorExt n s) (2 * n - 2) := by
  rw [causal_init, causal_closed]
  congr 1
  apply geomSum_congr
  intro k hk
  rcases lt_or_ge k n with h1 | h1
  · rcases lt_or_ge (2 * n - 2 - k) n with h2 | h2
    · -- both inside: `2n−2−k < n` and `k < n` force `k = n − 1`
      rw [show 2 * n - 2 - k = k by omega]
    · rw [mirrorExt_ge n s h2, mirrorExt_lt n s h1]
      congr 1; omega
  · rw [mirrorExt_lt n s (show 2 * n - 2 - k < n by omega), mirrorExt_ge n s h1]

theorem mirrorInit_iff_steady (z c0 : K) (n : Nat) (s : Nat → K) :
    MirrorInit z n s c0 ↔ causal z c0 (mirrorExt n s) (2 * n - 2) = c0 := by
  unfold MirrorInit
  rw [causal_period z c0 n s, add_comm]
  exact eq_comm

/-- the quantity `c[k] − c[k+1]/z`, followed from the end of the line towards its start, is the causal recursion
    continued into the mirrored half of the period -/
theorem back_eq_causal (z c0 : K) (hz : z ≠ 0) (hz1 : z * z - 1 ≠ 0) (m : Nat) (s : Nat → K) (j : Nat)
    (hj : j ≤ m) :
    onePole z c0 (m + 2) s (m - j) - onePole z c0 (m + 2) s (m - j + 1) / z
      = causal z c0 (mirrorExt (m + 2) s) (m + 1 + j) := by
  induction j with
  | zero =>
    rw [causal_congr z c0 (mirrorExt (m + 2) s) s (m + 1 + 0)
      (fun i _ h2 => mirrorExt_lt _ s (by omega))]
    have e := onePole_end z c0 (m + 2) s
    rw [div_mul_eq_mul_div, eq_div_iff hz1] at e
    rw [Nat.sub_zero, onePole_step z c0 (m + 2) s m le_rfl]
    rw [show m + 2 - 1 = m + 1 from rfl, show m + 2 - 2 = m from rfl] at e
    field_simp
    linear_combination e
  | succ j ih =>
    obtain ⟨k, hk⟩ : ∃ k, m - j = k + 1 := ⟨m - j - 1, by omega⟩
    have hs : mirrorExt (m + 2) s (m + 1 + j + 1) = s (k + 1) := by
      rw [mirrorExt_ge _ s (by omega)]
      congr 1; omega
    rw [show m + 1 + (j + 1) = m + 1 + j + 1 from rfl, causal, ← ih (by omega), hs, show m - (j + 1) = k by omega, hk,
      onePole_step z c0 (m + 2) s k (by omega), onePole_step z c0 (m + 2) s (k + 1) (by omega), causal]
    field_simp
    ring

/-- **first sample.** With the exact mirror-symmetric initial value, the coefficients of the one-pole filter
    satisfy the equation of sample 0 with the mirrored knot `c[−1] = c[1]`: `2·c[1] + λ·c[0] = s[0]` -/
theorem onePole_first (z lam c0 : K) (hz : z * z + lam * z + 1 = 0) (hz1 : z * z - 1 ≠ 0) (n : Nat)
    (hn : 2 ≤ n) (s : Nat → K) (hinit : MirrorInit z n s c0) :
    2 * onePole z c0 n s 1 + lam * onePole z c0 n s 0 = s 0 := by
  have hz0 : z ≠ 0 := by
    rintro rfl
    simp at hz
  obtain ⟨m, rfl⟩ := Nat.exists_eq_add_of_le' hn
  have hst := (mirrorInit_iff_steady z c0 (m + 2) s).mp hinit
  have hs : mirrorExt (m + 2) s (m + 1 + m + 1) = s 0 := by
    rw [mirrorExt_ge _ s (by omega)]
    congr 1; omega
  rw [show 2 * (m + 2) - 2 = m + 1 + m + 1 by omega, causal, ← back_eq_causal z c0 hz0 hz1 m s m le_rfl, hs,
    Nat.sub_self, zero_add] at hst
  have a := onePole_step z c0 (m + 2) s 0 (by omega)
  rw [causal] at a
  apply mul_left_cancel₀ hz0
  have : z * (onePole z c0 (m + 2) s 0 - onePole z c0 (m + 2) s 1 / z)
      = z * onePole z c0 (m + 2) s 0 - onePole z c0 (m + 2) s 1 := by field_simp
  linear_combination onePole z c0 (m + 2) s 0 * hz - z * hst + z * this - a

/-- with the exact initial values of both passes, the first two samples of the two-pole filter satisfy the
    five-tap equations with the mirrored knots `c[−1] = c[1]`, `c[−2] = c[2]` -/
theorem twoPole_first (z1 z2 l1 l2 c1 c2 : K) (h1 : z1 * z1 + l1 * z1 + 1 = 0)
    (h2 : z2 * z2 + l2 * z2 + 1 = 0) (hz1 : z1 * z1 - 1 ≠ 0) (hz2 : z2 * z2 - 1 ≠ 0)
    (n : Nat) (hn : 4 ≤ n) (s : Nat → K) (hi1 : MirrorInit z1 n s c1)
    (hi2 : MirrorInit z2 n (onePole z1 c1 n s) c2) :
    let c := onePole z2 c2 n (onePole z1 c1 n s)
    (c 2 + (l1 + l2) * c 1 + (2 + l1 * l2) * c 0 + (l1 + l2) * c 1 + c 2 = s 0) ∧
    (c 1 + (l1 + l2) * c 0 + (2 + l1 * l2) * c 1 + (l1 + l2) * c 2 + c 3 = s 1) := by
  intro c
  let u := onePole z1 c1 n s
  have f1 : 2 * u 1 + l1 * u 0 = s 0 := onePole_first z1 l1 c1 h1 hz1 n (by omega) s hi1
  have f2 : 2 * c 1 + l2 * c 0 = u 0 := onePole_first z2 l2 c2 h2 hz2 n (by omega) u hi2
  have u1 : u 0 + l1 * u 1 + u 2 = s 1 := onePole_interior z1 l1 c1 h1 n s 1 (by omega) (by omega)
  have v1 : c 0 + l2 * c 1 + c 2 = u 1 := onePole_interior z2 l2 c2 h2 n u 1 (by omega) (by omega)
  have v2 : c 1 + l2 * c 2 + c 3 = u 2 := onePole_interior z2 l2 c2 h2 n u 2 (by omega) (by omega)
  exact ⟨by linear_combination f1 + 2 * v1 + l1 * f2, by linear_combination u1 + f2 + l1 * v1 + v2⟩

theorem initTrunc_loop (z : K) (s : Nat → K) (m : Nat) :
    (List.range m).foldl (fun (st : K × K) i => (st.1 + st.2 * s (i + 1), st.2 * z)) (s 0, z)
      = (geomSum z s (m + 1), z ^ (m + 1)) := by
  induction m with
  | zero => simp [geomSum]
  | succ m ih =>
    rw [List.range_succ, List.foldl_append, ih]
    simp only [List.foldl_cons, List.foldl_nil, geomSum]
    congr 1
    ring

theorem initTrunc_eq (z : K) (mx : Nat) (hmx : 1 ≤ mx) (s : Nat → K) :
    initTrunc z mx s = geomSum z s mx := by
  unfold initTrunc
  rw [initTrunc_loop]
  have : mx - 1 + 1 = mx := by omega
  simp only [this]

theorem geomSum_eq_sum (z : K) (t : Nat → K) (m : Nat) : geomSum z t m = ∑ k ∈ Finset.range m, z ^ k * t k := by
  induction m with
  | zero => rfl
  | succ m ih => rw [geomSum, ih, Finset.sum_range_succ]

/-- the loop of `initFull` in natural powers of `z`: with `iz = 1/z` the third component, started at `z^N`, counts
    the exponent down while the second counts it up -/
theorem initFull_loop (z : K) (hz : z ≠ 0) (s : Nat → K) (a : K) (N : Nat) : ∀ i, i ≤ N →
    (List.range i).foldl (stepFull z (1 / z) s) (a, z, z ^ N)
      = (a + ∑ k ∈ Finset.range i, (z ^ (k + 1) + z ^ (N - k)) * s (k + 1), z ^ (i + 1), z ^ (N - i))
  | 0, _ => by simp
  | i + 1, hi => by
    rw [List.range_succ, List.foldl_append, initFull_loop z hz s a N i (Nat.le_of_succ_le hi)]
    simp only [List.foldl_cons, List.foldl_nil, stepFull, Finset.sum_range_succ]
    refine Prod.ext (add_assoc _ _ _) (Prod.ext (pow_succ _ _).symm ?_)
    show z ^ (N - i) * (1 / z) = z ^ (N - (i + 1))
    rw [show N - i = N - (i + 1) + 1 by omega, pow_succ, mul_assoc, mul_one_div_cancel hz, mul_one]

/-- one period of the geometric sum over the mirrored line, the two halves paired sample by sample -/
theorem geomSum_mirror (z : K) (m : Nat) (s : Nat → K) :
    geomSum z (mirrorExt (m + 2) s) (2 * (m + 2) - 2)
      = s 0 + z ^ (m + 1) * s (m + 1) + ∑ k ∈ Finset.range m, (z ^ (k + 1) + z ^ (2 * m + 1 - k)) * s (k + 1) := by
  rw [show 2 * (m + 2) - 2 = (m + 1 + 1) + m by omega, geomSum_add,
    geomSum_congr z (mirrorExt (m + 2) s) s (m + 1 + 1) (fun k hk => mirrorExt_lt _ s hk),
    geomSum_congr z (fun k => mirrorExt (m + 2) s (m + 1 + 1 + k)) (fun k => s (m - k)) m
      (fun k hk => by rw [mirrorExt_ge _ s (by omega)]; congr 1; omega),
    geomSum, geomSum_front, geomSum_eq_sum, geomSum_eq_sum,
    ← Finset.sum_range_reflect (fun k => z ^ k * s (m - k)) m, Finset.mul_sum, Finset.mul_sum]
  have e : ∀ k ∈ Finset.range m, (z ^ (k + 1) + z ^ (2 * m + 1 - k)) * s (k + 1)
      = z * (z ^ k * s (k + 1)) + z ^ (m + 1 + 1) * (z ^ (m - 1 - k) * s (m - (m - 1 - k))) := fun k hk => by
    have hk := Finset.mem_range.mp hk
    rw [show m - (m - 1 - k) = k + 1 by omega, ← mul_assoc, ← mul_assoc, ← pow_succ', ← pow_add,
      show m + 1 + 1 + (m - 1 - k) = 2 * m + 1 - k by omega, add_mul]
  rw [Finset.sum_congr rfl e, Finset.sum_add_distrib]
  ring

/-- **the code's closed form is the exact mirror-symmetric initial value** (short lines; `zpow = pow(p, len−1)`) -/
theorem initFull_mirrorInit (z : K) (hz : z ≠ 0) (n : Nat) (hn : 2 ≤ n) (hP : 1 - z ^ (n - 1) * z ^ (n - 1) ≠ 0)
    (s : Nat → K) : MirrorInit z n s (initFull z (z ^ (n - 1)) n s) := by
  obtain ⟨m, rfl⟩ : ∃ m, n = m + 2 := ⟨n - 2, by omega⟩
  rw [show m + 2 - 1 = m + 1 by omega] at hP
  unfold MirrorInit initFull
  simp only [show m + 2 - 1 = m + 1 by omega, show m + 2 - 2 = m by omega, Nat.cast_one]
  have e0 : z ^ (m + 1) * (z ^ (m + 1) * (1 / z)) = z ^ (2 * m + 1) := by
    rw [show z ^ (m + 1) * (1 / z) = z ^ m by rw [pow_succ, mul_assoc, mul_one_div_cancel hz, mul_one], ← pow_add]
    congr 1; omega
  rw [e0, initFull_loop z hz s _ (2 * m + 1) m (by omega), geomSum_mirror,
    show z ^ (2 * (m + 2) - 2) = z ^ (m + 1) * z ^ (m + 1) by rw [← pow_add]; congr 1; omega]
  simp only
  generalize s 0 + z ^ (m + 1) * s (m + 1) + ∑ k ∈ Finset.range m, (z ^ (k + 1) + z ^ (2 * m + 1 - k)) * s (k + 1) = G
  generalize z ^ (m + 1) = Z at hP ⊢
  have h : G / (1 - Z * Z) * (1 - Z * Z) = G := div_mul_cancel₀ G hP
  generalize G / (1 - Z * Z) = q at h ⊢
  linear_combination h

end Alg

section Bound
variable {K : Type} [Field K] [LinearOrder K] [IsStrictOrderedRing K]

theorem geomSum_tail (z : K) (t : Nat → K) (M : K) (hz : |z| < 1) (ht : ∀ k, |t k| ≤ M) (a d : Nat) :
    |geomSum z t (a + d) - geomSum z t a| ≤ M * (|z| ^ a - |z| ^ (a + d)) / (1 - |z|) := by
  have h1 : 0 < 1 - |z| := sub_pos.mpr hz
  induction d with
  | zero => simp
  | succ d ih =>
    have e : a + (d + 1) = (a + d) + 1 := by omega
    rw [e]
    simp only [geomSum]
    have hterm : |z ^ (a + d) * t (a + d)| ≤ |z| ^ (a + d) * M := by
      rw [abs_mul, abs_pow]
      exact mul_le_mul_of_nonneg_left (ht _) (pow_nonneg (abs_nonneg z) _)
    calc |geomSum z t (a + d) + z ^ (a + d) * t (a + d) - geomSum z t a|
        = |(geomSum z t (a + d) - geomSum z t a) + z ^ (a + d) * t (a + d)| := by congr 1; ring
      _ ≤ |geomSum z t (a + d) - geomSum z t a| + |z ^ (a + d) * t (a + d)| := abs_add_le _ _
      _ ≤ M * (|z| ^ a - |z| ^ (a + d)) / (1 - |z|) + |z| ^ (a + d) * M := add_le_add ih hterm
      _ = M * (|z| ^ a - |z| ^ (a + d + 1)) / (1 - |z|) := by
          rw [pow_succ, div_add' _ _ _ h1.ne']; congr 1; ring

theorem periodic_mul (t : Nat → K) (P : Nat) (hper : ∀ k, t (k + P) = t k) (m k : Nat) :
    t (m * P + k) = t k := by
  induction m with
  | zero => simp
  | succ m ih =>
    have e : (m + 1) * P + k = (m * P + k) + P := by ring
    rw [e, hper, ih]

theorem fixed_periods (z : K) (t : Nat → K) (P : Nat) (hper : ∀ k, t (k + P) = t k) (c0 : K)
    (hfix : c0 = geomSum z t P + z ^ P * c0) (m : Nat) :
    c0 = geomSum z t (m * P) + z ^ (m * P) * c0 := by
  induction m with
  | zero => simp [geomSum]
  | succ m ih =>
    have e : (m + 1) * P = m * P + P := by ring
    rw [e, geomSum_add]
    have : geomSum z (fun k => t (m * P + k)) P = geomSum z t P :=
      geomSum_congr z _ _ P (fun k _ => periodic_mul t P hper m k)
    rw [this, pow_add]
    linear_combination ih + z ^ (m * P) * hfix

theorem fixed_abs_le (z : K) (t : Nat → K) (M : K) (hz : |z| < 1) (ht : ∀ k, |t k| ≤ M) (P : Nat) (hP : 1 ≤ P)
    (c0 : K) (hfix : c0 = geomSum z t P + z ^ P * c0) : |c0| ≤ M / (1 - |z|) := by
  have h1 : 0 < 1 - |z| := sub_pos.mpr hz
  have hr : |z| ^ P < 1 := pow_lt_one₀ (abs_nonneg z) hz (by omega)
  have h2 : 0 < 1 - |z| ^ P := sub_pos.mpr hr
  have hg := geomSum_tail z t M hz ht 0 P
  simp only [geomSum, Nat.zero_add, sub_zero, pow_zero] at hg
  have hc : c0 * (1 - z ^ P) = geomSum z t P := by linear_combination hfix
  have h3 : |c0| * (1 - |z| ^ P) ≤ |c0| * |1 - z ^ P| := by
    apply mul_le_mul_of_nonneg_left _ (abs_nonneg _)
    have := abs_sub_abs_le_abs_sub (1 : K) (z ^ P)
    rw [abs_one, abs_pow] at this
    exact this
  rw [← abs_mul, hc] at h3
  have h4 : |c0| * (1 - |z| ^ P) ≤ M / (1 - |z|) * (1 - |z| ^ P) := by
    calc _ ≤ |geomSum z t P| := h3
      _ ≤ M * (1 - |z| ^ P) / (1 - |z|) := hg
      _ = M / (1 - |z|) * (1 - |z| ^ P) := by ring
  exact le_of_mul_le_mul_right h4 h2

/-- `c0` a fixed point of `c0 = Σ_{k<P} z^k t[k] + z^P·c0`, `t` bounded and `P`-periodic. Iterate the equation `mx` times
    (`fixed_periods`): `c0 − Σ_{k<mx}` is the tail `Σ_{mx≤k<mx·P}` (`geomSum_tail`) plus `z^{mx·P}·c0`, and `|c0| ≤ M/(1−|z|)`
    (`fixed_abs_le`). -/
theorem fixed_trunc_bound (z : K) (t : Nat → K) (M : K) (hz : |z| < 1) (ht : ∀ k, |t k| ≤ M) (P : Nat)
    (hP : 1 ≤ P) (hper : ∀ k, t (k + P) = t k) (c0 : K) (hfix : c0 = geomSum z t P + z ^ P * c0) (mx : Nat) :
    |c0 - geomSum z t mx| ≤ |z| ^ mx * M / (1 - |z|) := by
  have h1 : 0 < 1 - |z| := sub_pos.mpr hz
  have hm := fixed_periods z t P hper c0 hfix mx
  obtain ⟨d, hd⟩ : ∃ d, mx * P = mx + d := ⟨mx * P - mx, by
    have : mx ≤ mx * P := Nat.le_mul_of_pos_right mx (by omega)
    omega⟩
  have htail := geomSum_tail z t M hz ht mx d
  have hc := fixed_abs_le z t M hz ht P hP c0 hfix
  rw [hd] at hm
  have e : c0 - geomSum z t mx = (geomSum z t (mx + d) - geomSum z t mx) + z ^ (mx + d) * c0 := by
    linear_combination hm
  rw [e]
  calc _ ≤ |geomSum z t (mx + d) - geomSum z t mx| + |z ^ (mx + d) * c0| := abs_add_le _ _
    _ ≤ M * (|z| ^ mx - |z| ^ (mx + d)) / (1 - |z|) + |z| ^ (mx + d) * (M / (1 - |z|)) := by
        apply add_le_add htail
        rw [abs_mul, abs_pow]
        exact mul_le_mul_of_nonneg_left hc (pow_nonneg (abs_nonneg z) _)
    _ = |z| ^ mx * M / (1 - |z|) := by ring

/-- on one period from 0 the extension over ℤ is the period `MirrorInit` is stated with -/
theorem ext_eq_mirrorExt (n : Nat) (hn : 2 ≤ n) (s : Nat → K) (k : Nat) (hk : k < 2 * n - 2) :
    ext n s k = mirrorExt n s k := by
  unfold ext mirrorExt
  split_ifs with h
  · rw [edgeFold_inside n k (by omega) (by omega), Int.toNat_natCast]
  · rw [edgeFold_mirror n hn k (by omega) (by omega)]
    congr 1
    omega

/-- `fixed_trunc_bound` on the mirror extension of a line, cut inside the line (`mx ≤ n`) -/
theorem mirrorInit_trunc_bound (z : K) (hz : |z| < 1) (n : Nat) (hn : 2 ≤ n) (s : Nat → K) (M : K)
    (hs : ∀ k, k < n → |s k| ≤ M) (c0 : K) (hinit : MirrorInit z n s c0) (mx : Nat) (h2 : mx ≤ n) :
    |c0 - geomSum z s mx| ≤ |z| ^ mx * M / (1 - |z|) := by
  have hper : ∀ k : Nat, ext n s ((k + (2 * n - 2) : Nat) : Int) = ext n s k := fun k => by
    have := edgeFold_add_period n (by omega) k 1
    rw [ext, ext, ← this]
    congr 3
    omega
  have hfix : c0 = geomSum z (fun k : Nat => ext n s k) (2 * n - 2) + z ^ (2 * n - 2) * c0 := by
    rw [geomSum_congr z _ (mirrorExt n s) (2 * n - 2) fun k hk => ext_eq_mirrorExt n hn s k hk]
    exact hinit
  have hb := fixed_trunc_bound z (fun k : Nat => ext n s k) M hz
    (fun k => hs _ (by have := edgeFold_range n (by omega) k; omega)) (2 * n - 2) (by omega) hper c0 hfix mx
  rwa [geomSum_congr z _ s mx fun k hk => by
    rw [ext_inside n s k (by omega) (by omega), Int.toNat_natCast]] at hb

end Bound

end Mahotas.C18
