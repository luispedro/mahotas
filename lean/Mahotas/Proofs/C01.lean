/-
C01, erosion: the gather kernel equals the lattice definition, and its early exit never changes the value.
The predicates of the C01 statements on dtype, image and element are here, with `scalars_ok`: what `erode_sub` /
`dilate_add` do with an admissible entry, on integer dtypes and bool at once — the one place where the two are told apart.
-/
import Mahotas.Model.C01
import Mahotas.Proofs.Border
import Mahotas.Proofs.DType
namespace Mahotas.C01
open Mahotas

/-- the element is admissible for dtype `dt`: entries are in range and are non-negative heights
    or the "absent" marker (dtype minimum); for bool images the kernel sees the compressed
    footprint, i.e. only non-zero entries. -/
def AdmissibleElem (dt : DT) (sup : List (List Int × Int)) : Prop :=
  ∀ kh ∈ sup, dt.InRange kh.2 ∧ (0 ≤ kh.2 ∨ kh.2 = dt.lo) ∧ (dt.isBool = true → kh.2 = 1)

/-- every pixel value is representable in `dt` (bool: 0/1); `q` ranges over all positions, and outside the image `getD` gives
    the default `0`, so the predicate also says that `0` is representable -/
def ImageInRange (dt : DT) (A : Img Int) : Prop := ∀ q, dt.InRange (A.getD q 0)

/-- the dtypes of the statement: an integer dtype, or bool -/
def DTypeOK (dt : DT) : Prop := dt.WF ∨ dt = dtBool

theorem isBool_eq (dt : DT) (hdt : DTypeOK dt) (h : dt.isBool = true) : dt = dtBool := by
  rcases hdt with wf | rfl
  · rw [wf.notBool] at h; cases h
  · rfl

theorem image01_iff (A : Img Int) : ImageInRange dtBool A ↔ ∀ q, A.getD q 0 = 0 ∨ A.getD q 0 = 1 := by
  refine forall_congr' fun q => ?_
  show (0 : Int) ≤ A.getD q 0 ∧ A.getD q 0 ≤ 1 ↔ _
  omega

theorem admissible_of_ones (sup : List (List Int × Int)) (h : ∀ kh ∈ sup, kh.2 = 1) :
    AdmissibleElem dtBool sup := by
  intro kh hkh
  rw [h kh hkh]
  exact ⟨⟨by decide, by decide⟩, Or.inl (by decide), fun _ => rfl⟩

theorem readNearest_eq (A : Img Int) (q : List Int) (hs : ∀ d ∈ A.shape, 0 < d) :
    readNearest A q = A.getD (clampPos A.shape q) 0 := by
  unfold readNearest; rw [fixPos_nearest A.shape q hs]

/-- what the two scalar helpers of the kernels do with an admissible entry of the element, on every dtype of
    the statement: for a member the saturated difference / sum (bool: the pixel itself), for the "absent"
    marker the neutral value of `min` / `max` -/
theorem scalars_ok (dt : DT) (hdt : DTypeOK dt) (kh : List Int × Int) (a : Int) (ha : dt.InRange a)
    (hr : dt.InRange kh.2) (h0 : 0 ≤ kh.2 ∨ kh.2 = dt.lo) (hb : dt.isBool = true → kh.2 = 1) :
    erodeSub dt a kh.2 =
      (if isMember dt kh = true then (if dt.isBool then a else dt.clamp (a - kh.2)) else dt.hi) ∧
    (a ≠ dt.lo → dilateAdd dt a kh.2 =
      if isMember dt kh = true then (if dt.isBool then a else dt.clamp (a + kh.2)) else dt.lo) := by
  rcases hdt with wf | rfl
  · have hnb := wf.notBool
    by_cases he : kh.2 = dt.lo
    · have hm : isMember dt kh = false := by simp [isMember, hnb, he]
      rw [hm]
      exact ⟨by unfold erodeSub; simp [hnb, he], fun hv => by unfold dilateAdd; simp [hnb, hv, he]⟩
    · have hm : isMember dt kh = true := by simp [isMember, hnb, he]
      have h0' : 0 ≤ kh.2 := h0.resolve_right he
      rw [hm, erodeSub_spec dt wf a kh.2 ha hr h0', dilateAdd_spec dt wf a kh.2 ha hr h0']
      exact ⟨by simp [hnb, he], fun hv => by simp [hnb, hv, he]⟩
  · have h1 : kh.2 = 1 := hb rfl
    have hm : isMember dtBool kh = true := by simp [isMember, dtBool, h1]
    have : a = 0 ∨ a = 1 := by simp only [DT.InRange, dtBool] at ha; omega
    rw [hm, h1]
    unfold erodeSub dilateAdd
    rcases this with rfl | rfl <;> simp [dtBool]

theorem erode_fold (dt : DT) (hdt : DTypeOK dt) (A : Img Int) (p : List Int)
    (hs : ∀ d ∈ A.shape, 0 < d) (sup : List (List Int × Int))
    (hA : ImageInRange dt A) (hB : AdmissibleElem dt sup) (v : Int) (hv : v ≤ dt.hi) :
    sup.foldl (fun v kh => min v (erodeSub dt (readNearest A (addPos p kh.1)) kh.2)) v =
    (sup.filter (isMember dt)).foldl (fun v kh =>
      let a := A.getD (clampPos A.shape (addPos p kh.1)) 0
      min v (if dt.isBool then a else dt.clamp (a - kh.2))) v := by
  induction sup generalizing v with
  | nil => rfl
  | cons kh t ih =>
    obtain ⟨hr, h0, hb⟩ := hB kh (by simp)
    rw [List.foldl_cons, readNearest_eq A _ hs, (scalars_ok dt hdt kh _ (hA _) hr h0 hb).1, List.filter_cons]
    have iht := ih (fun k hk => hB k (by simp [hk]))
    by_cases hm : isMember dt kh = true
    · rw [if_pos hm, if_pos hm, List.foldl_cons]; exact iht _ (by omega)
    · rw [if_neg hm, if_neg hm, Int.min_eq_left hv]; exact iht v hv

/-- the gather kernel equals the lattice definition, integer dtypes and bool at once -/
theorem erodeAt_eq_spec (dt : DT) (hdt : DTypeOK dt) (A : Img Int) (sup : List (List Int × Int))
    (p : List Int) (hs : ∀ d ∈ A.shape, 0 < d) (hA : ImageInRange dt A) (hB : AdmissibleElem dt sup) :
    erodeAt dt A sup p = erodeSpecAt dt A sup p :=
  erode_fold dt hdt A p hs sup hA hB dt.hi (Int.le_refl _)

/-! ### the early exit of the inner loop -/

theorem foldl_min_lo (dt : DT) (f : List Int × Int → Int) (sup : List (List Int × Int))
    (h : ∀ kh ∈ sup, dt.lo ≤ f kh) : sup.foldl (fun v kh => min v (f kh)) dt.lo = dt.lo := by
  induction sup with
  | nil => rfl
  | cons kh t ih =>
    simp only [List.foldl_cons]
    have := h kh (by simp)
    rw [Int.min_eq_left this]
    exact ih (fun k hk => h k (by simp [hk]))

theorem erodeAtExit_go (dt : DT) (A : Img Int) (p : List Int) (sup : List (List Int × Int))
    (h : ∀ kh ∈ sup, dt.lo ≤ erodeSub dt (readNearest A (addPos p kh.1)) kh.2) (v : Int) :
    erodeAtExit.go dt A p sup v =
      sup.foldl (fun v kh => min v (erodeSub dt (readNearest A (addPos p kh.1)) kh.2)) v := by
  induction sup generalizing v with
  | nil => rfl
  | cons kh t ih =>
    simp only [erodeAtExit.go, List.foldl_cons]
    have ht : ∀ k ∈ t, dt.lo ≤ erodeSub dt (readNearest A (addPos p k.1)) k.2 :=
      fun k hk => h k (by simp [hk])
    split
    · next he =>
      rw [he]
      exact (foldl_min_lo dt (fun kh => erodeSub dt (readNearest A (addPos p kh.1)) kh.2) t ht).symm
    · exact ih ht _


theorem erodeAtExit_eq (dt : DT) (hdt : DTypeOK dt) (A : Img Int) (sup : List (List Int × Int))
    (p : List Int) (hs : ∀ d ∈ A.shape, 0 < d) (hA : ImageInRange dt A) (hB : AdmissibleElem dt sup) :
    erodeAtExit dt A sup p = erodeAt dt A sup p := by
  unfold erodeAtExit erodeAt
  apply erodeAtExit_go
  intro kh hkh
  obtain ⟨hr, h0, hb⟩ := hB kh hkh
  have ha := hA (clampPos A.shape (addPos p kh.1))
  have hlh : dt.lo ≤ dt.hi := Int.le_trans ha.1 ha.2
  rw [readNearest_eq A _ hs, (scalars_ok dt hdt kh _ ha hr h0 hb).1]
  unfold DT.clamp
  split
  · split
    · exact ha.1
    · exact Int.le_max_left _ _
  · exact hlh

/-! ### the kernel's output array -/

theorem erodeModel_size (dt : DT) (A : Img Int) (sup : List (List Int × Int)) :
    (erodeModel dt A sup).size = A.size := by
  simp [erodeModel, allPos, Img.size]

theorem erodeModel_getD (dt : DT) (A : Img Int) (sup : List (List Int × Int)) (i : Nat) (hi : i < A.size) :
    (erodeModel dt A sup).getD i 0 = erodeAtExit dt A sup (unravelI A.shape i) := by
  unfold erodeModel
  exact getD_map_allPos A.shape _ i 0 hi

/-- the generic erosion kernel with its early exit, whole array: the lattice definition at every pixel (empty images
    included: a pixel exists only if every side is positive) -/
theorem erodeModel_eq_spec (dt : DT) (hdt : DTypeOK dt) (A : Img Int) (sup : List (List Int × Int))
    (hA : ImageInRange dt A) (hB : AdmissibleElem dt sup) :
    erodeModel dt A sup = ((allPos A.shape).map (erodeSpecAt dt A sup)).toArray := by
  unfold erodeModel
  congr 1
  refine List.map_congr_left fun p hp => ?_
  have hs := inside_dims_pos A.shape p ((mem_allPos _ _).mp hp)
  exact (erodeAtExit_eq dt hdt A sup p hs hA hB).trans (erodeAt_eq_spec dt hdt A sup p hs hA hB)

end Mahotas.C01
