/-
C03 / C13 — numbering the classes of a partition by the rank of their least member. `ρ` sends every foreground pixel to the
least pixel of its class (`ρ i ≤ i`, `ρ` constant exactly on the classes of the equivalence generated by `E`). Then "number of
roots up to `ρ i`" is the first-appearance labelling of that partition (`rank_isLabelling`). The oracles of `label`
(`specLabels`: `ρ` from the sweep) and of `relabel` (`relabelSpec`) are of this form, and so is what the renumbering loop
shared by `label` and `relabel` returns (`renumber_eq_rank`, the one induction over the loop: `ρ` = first pixel holding the same
value); hence `renumber_isLabelling`, `labelModel_isLabelling` and the functional form `renumber_map`.
-/
import Mahotas.Proofs.C03Label
namespace Mahotas.C03
open Relation

section rank
variable (fg : Nat → Bool) (ρ : Nat → Nat)

def isRoot (r : Nat) : Bool := fg r && ρ r == r

def rootCount (m : Nat) : Nat := ((List.range m).filter (isRoot fg ρ)).length

/-- 0 on the background, otherwise the rank (1-based) of the representative among the roots -/
def rankLabel (i : Nat) : Int := if fg i then ((rootCount fg ρ (ρ i + 1) : Nat) : Int) else 0

theorem rootCount_succ (m : Nat) :
    rootCount fg ρ (m + 1) = rootCount fg ρ m + (if isRoot fg ρ m then 1 else 0) := by
  unfold rootCount
  rw [List.range_succ, List.filter_append, List.length_append]
  by_cases h : isRoot fg ρ m = true
  · simp [h]
  · simp [h]

theorem rootCount_mono (a b : Nat) (h : a ≤ b) : rootCount fg ρ a ≤ rootCount fg ρ b := by
  induction h with
  | refl => exact Nat.le_refl _
  | step _ ih => rw [rootCount_succ]; omega

theorem rootCount_succ_lt {a b : Nat} (hab : a < b) (hb : isRoot fg ρ b = true) :
    rootCount fg ρ (a + 1) < rootCount fg ρ (b + 1) := by
  have := rootCount_mono fg ρ (a + 1) b hab
  rw [rootCount_succ fg ρ b, hb, if_pos rfl]
  exact Nat.lt_succ_of_le this

variable {fg ρ} {data : List Int} {E : Nat → Nat → Prop} (hfg : ∀ i, fg i = true ↔ Fg data i)
include hfg

theorem isRoot_iff (r : Nat) : isRoot fg ρ r = true ↔ Fg data r ∧ ρ r = r := by
  unfold isRoot
  rw [Bool.and_eq_true, beq_iff_eq, hfg]

theorem rankLabel_bg (i : Nat) (fi : ¬ Fg data i) : rankLabel fg ρ i = 0 :=
  if_neg fun h => fi ((hfg i).mp h)

theorem rankLabel_fg (i : Nat) (fi : Fg data i) : rankLabel fg ρ i = ((rootCount fg ρ (ρ i + 1) : Nat) : Int) :=
  if_pos ((hfg i).mpr fi)

variable (hρ : ∀ i, Fg data i → ρ i ≤ i ∧ Fg data (ρ i) ∧ EqvGen E i (ρ i))
  (hker : ∀ i j, Fg data i → Fg data j → (ρ i = ρ j ↔ EqvGen E i j))
include hρ hker

theorem isRoot_rho (i : Nat) (fi : Fg data i) : isRoot fg ρ (ρ i) = true :=
  (isRoot_iff hfg _).mpr ⟨(hρ i fi).2.1, ((hker i _ fi (hρ i fi).2.1).mpr (hρ i fi).2.2).symm⟩

theorem rankLabel_pos (i : Nat) (fi : Fg data i) : 1 ≤ rankLabel fg ρ i := by
  rw [rankLabel_fg hfg i fi, rootCount_succ, isRoot_rho hfg hρ hker i fi, if_pos rfl]
  omega

theorem rankLabel_eq_iff (i j : Nat) (fi : Fg data i) (fj : Fg data j) :
    rankLabel fg ρ i = rankLabel fg ρ j ↔ EqvGen E i j := by
  rw [← hker i j fi fj, rankLabel_fg hfg i fi, rankLabel_fg hfg j fj]
  refine ⟨fun h => ?_, fun h => by rw [h]⟩
  have h' : rootCount fg ρ (ρ i + 1) = rootCount fg ρ (ρ j + 1) := Int.ofNat.inj h
  by_contra hne
  rcases Nat.lt_or_gt_of_ne hne with hlt | hlt
  · exact Nat.ne_of_lt (rootCount_succ_lt fg ρ hlt (isRoot_rho hfg hρ hker j fj)) h'
  · exact Nat.ne_of_gt (rootCount_succ_lt fg ρ hlt (isRoot_rho hfg hρ hker i fi)) h'

omit hker in
theorem rankLabel_consec : ∀ (m s : Nat),
    Consec (1 + (rootCount fg ρ s : Int)) ((List.range' s m).map (rankLabel fg ρ))
  | 0, _ => trivial
  | m + 1, s => by
    rw [List.range'_succ, List.map_cons]
    have hnext := rankLabel_consec m (s + 1)
    rw [rootCount_succ] at hnext
    by_cases hroot : isRoot fg ρ s = true
    · -- a new root: exactly the next fresh label
      obtain ⟨fs, hr⟩ := (isRoot_iff hfg s).mp hroot
      rw [if_pos hroot, Int.natCast_add, Int.natCast_one, ← Int.add_assoc] at hnext
      refine Or.inr ⟨?_, hnext⟩
      rw [rankLabel_fg hfg s fs, hr, rootCount_succ, if_pos hroot, Int.natCast_add, Int.natCast_one, Int.add_comm]
    · -- an old label: the background, or the count at an earlier root
      rw [if_neg hroot, Nat.add_zero] at hnext
      refine Or.inl ⟨?_, hnext⟩
      by_cases fs : Fg data s
      · have hlt : ρ s < s :=
          Nat.lt_of_le_of_ne (hρ s fs).1 fun e => hroot ((isRoot_iff hfg s).mpr ⟨fs, e⟩)
        have := rootCount_mono fg ρ (ρ s + 1) s hlt
        rw [rankLabel_fg hfg s fs]
        omega
      · rw [rankLabel_bg hfg s fs]
        omega

omit hρ hker in
/-- the last root carries the count as its label -/
theorem rootCount_attained : ∀ m, 1 ≤ rootCount fg ρ m →
    ∃ r, r < m ∧ rankLabel fg ρ r = (rootCount fg ρ m : Int) := by
  intro m
  induction m with
  | zero => intro h; simp [rootCount] at h
  | succ m ih =>
    intro h
    by_cases hroot : isRoot fg ρ m = true
    · obtain ⟨fm, hr⟩ := (isRoot_iff hfg m).mp hroot
      exact ⟨m, Nat.lt_succ_self m, by rw [rankLabel_fg hfg m fm, hr]⟩
    · rw [rootCount_succ] at h ⊢
      simp only [hroot] at h ⊢
      obtain ⟨r, hr, e⟩ := ih h
      exact ⟨r, Nat.lt_succ_of_lt hr, e⟩

theorem rank_isLabelling :
    IsLabelling data E ((List.range data.length).map (rankLabel fg ρ), ((rootCount fg ρ data.length : Nat) : Int)) := by
  refine ⟨by simp, fun i hi => ?_, fun i j fi fj => ?_, ?_, fun l hl => ?_, Int.natCast_nonneg _, fun h => ?_⟩
  · rw [getD_map_range _ _ _ _ hi]
    by_cases fi : Fg data i
    · have := rankLabel_pos hfg hρ hker i fi
      exact iff_of_false (by omega) fi.2
    · rw [rankLabel_bg hfg i fi]
      exact iff_of_true rfl (not_not.mp fun hc => fi ⟨hi, hc⟩)
  · rw [getD_map_range _ _ _ _ fi.1, getD_map_range _ _ _ _ fj.1]
    exact rankLabel_eq_iff hfg hρ hker i j fi fj
  · have := rankLabel_consec hfg hρ data.length 0
    rwa [← List.range_eq_range', show rootCount fg ρ 0 = 0 from rfl] at this
  · obtain ⟨i, hi, rfl⟩ := List.mem_map.mp hl
    by_cases fi : Fg data i
    · have := rankLabel_pos hfg hρ hker i fi
      have hm := rootCount_mono fg ρ (ρ i + 1) data.length (Nat.succ_le_of_lt
        (Nat.lt_of_le_of_lt (hρ i fi).1 (List.mem_range.mp hi)))
      rw [rankLabel_fg hfg i fi] at this ⊢
      exact ⟨by omega, Int.ofNat_le.mpr hm⟩
    · rw [rankLabel_bg hfg i fi]
      exact ⟨Int.le_refl 0, Int.natCast_nonneg _⟩
  · obtain ⟨r, hr, e⟩ := rootCount_attained hfg data.length (Int.ofNat_le.mp h)
    exact List.mem_map.mpr ⟨r, List.mem_range.mpr hr, e⟩

end rank

def isFg (bg : Int) (L : List Int) (i : Nat) : Bool := decide (L.getD i bg ≠ bg)

def firstOcc (bg : Int) (L : List Int) (i : Nat) : Nat := L.idxOf (L.getD i bg)

/-- the label the loop gives to the value `v`: the rank of its first occurrence among the first occurrences -/
def rankOf (bg : Int) (L : List Int) (v : Int) : Int :=
  if v = bg then 0 else ((rootCount (isFg bg L) (firstOcc bg L) (L.idxOf v + 1) : Nat) : Int)

/-- the loop on a suffix `vals` of `L = pre ++ vals`: when the map `seen` holds exactly the values of `pre` (and `bg`) with
    their ranks and `next` is one more than the number of first occurrences in `pre`, the output is the rank of every value -/
theorem renumGo_eq_rank (bg : Int) (L : List Int) : ∀ (vals pre : List Int) (seen : List (Int × Int)) (next : Int),
    L = pre ++ vals →
    (∀ v, seen.lookup v = if v = bg ∨ v ∈ pre then some (rankOf bg L v) else none) →
    next = ((rootCount (isFg bg L) (firstOcc bg L) pre.length + 1 : Nat) : Int) →
    renumGo seen next vals = (vals.map (rankOf bg L), ((rootCount (isFg bg L) (firstOcc bg L) L.length : Nat) : Int))
  | [], pre, seen, next, hL, _, hn => by
    rw [hn, hL, List.append_nil, renumGo, Int.natCast_add, Int.natCast_one, Int.add_sub_cancel]
    rfl
  | v :: vs, pre, seen, next, hL, h1, hn => by
    have hL' : L = (pre ++ [v]) ++ vs := by rw [hL, List.append_assoc]; rfl
    have hget : L.getD pre.length bg = v := by
      rw [hL, List.getD_eq_getElem?_getD, List.getElem?_append_right (Nat.le_refl _), Nat.sub_self,
        List.getElem?_cons_zero, Option.getD_some]
    have hlen : (pre ++ [v]).length = pre.length + 1 := List.length_append
    by_cases hnew : v = bg ∨ v ∈ pre
    · -- `bg` or a value seen before: the map answers and nothing changes
      have hnf : isRoot (isFg bg L) (firstOcc bg L) pre.length = false := by
        rw [isRoot, isFg, firstOcc, hget]
        rcases hnew with e | hm
        · rw [decide_eq_false (not_not.mpr e), Bool.false_and]
        · have : L.idxOf v < pre.length := by
            rw [hL, List.idxOf_append, if_pos hm]; exact List.idxOf_lt_length_of_mem hm
          exact Bool.and_eq_false_imp.mpr fun _ => beq_eq_false_iff_ne.mpr (Nat.ne_of_lt this)
      rw [renumGo_cons_some (by rw [h1 v, if_pos hnew]), renumGo_eq_rank bg L vs (pre ++ [v]) seen next hL' ?_
        (by rw [hlen, rootCount_succ, hnf, hn]; rfl)]
      · rfl
      · intro w
        rw [h1 w]
        refine if_congr ?_ rfl rfl
        rw [List.mem_append, List.mem_singleton]
        exact ⟨fun h => h.imp_right Or.inl, fun h => h.elim Or.inl fun h => h.elim Or.inr fun e => e ▸ hnew⟩
    · -- a new value: this position is its first occurrence, and it gets the next rank
      have hv : v ≠ bg := fun e => hnew (Or.inl e)
      have hidx : L.idxOf v = pre.length := by
        rw [hL, List.idxOf_append, if_neg fun h => hnew (Or.inr h), List.idxOf_cons_self, Nat.zero_add]
      have hroot : isRoot (isFg bg L) (firstOcc bg L) pre.length = true := by
        rw [isRoot, isFg, firstOcc, hget, hidx, Bool.and_eq_true, decide_eq_true_iff, beq_iff_eq]
        exact ⟨hv, rfl⟩
      have hrank : rankOf bg L v = next := by
        rw [rankOf, if_neg hv, hidx, rootCount_succ, hroot, if_pos rfl, hn]
      rw [renumGo_cons_none (by rw [h1 v, if_neg hnew]),
        renumGo_eq_rank bg L vs (pre ++ [v]) ((v, next) :: seen) (next + 1) hL' ?_
          (by rw [hlen, rootCount_succ, hroot, if_pos rfl, hn]; rfl), List.map_cons, hrank]
      intro w
      by_cases e : w = v
      · rw [e, List.lookup_cons_self, if_pos (Or.inr (List.mem_append_right _ List.mem_cons_self)), hrank]
      · rw [lookup_cons_ne _ _ _ _ e, h1 w]
        refine if_congr ?_ rfl rfl
        rw [List.mem_append, List.mem_singleton]
        exact ⟨fun h => h.imp_right Or.inl, fun h => h.elim Or.inl fun h => h.elim Or.inr fun e' => absurd e' e⟩

/-- **the renumbering loop, in closed form**: every value gets the rank of its first occurrence, the count is the number
    of first occurrences -/
theorem renumber_eq_rank (bg : Int) (L : List Int) :
    renumber bg L = (L.map (rankOf bg L), ((rootCount (isFg bg L) (firstOcc bg L) L.length : Nat) : Int)) := by
  refine renumGo_eq_rank bg L L [] _ 1 rfl (fun v => ?_) rfl
  by_cases e : v = bg
  · rw [e, List.lookup_cons_self, if_pos (Or.inl rfl), rankOf, if_pos rfl]
  · rw [lookup_cons_ne _ _ _ _ e, if_neg fun h => h.elim e (nomatch ·)]; rfl

theorem rankOf_getD (bg : Int) (L : List Int) (i : Nat) :
    rankOf bg L (L.getD i bg) = rankLabel (isFg bg L) (firstOcc bg L) i := by
  rw [rankOf, rankLabel, isFg, firstOcc]
  by_cases e : L.getD i bg = bg
  · rw [if_pos e, if_neg (by rw [decide_eq_true_iff]; exact not_not.mpr e)]
  · rw [if_neg e, if_pos (decide_eq_true_iff.mpr e)]

theorem firstOcc_spec (bg : Int) (L : List Int) (i : Nat) (hi : i < L.length) :
    firstOcc bg L i ≤ i ∧ L.getD (firstOcc bg L i) bg = L.getD i bg := by
  have hg : ∀ {k} (hk : k < L.length), L.getD k bg = L[k] := fun hk => by
    rw [List.getD_eq_getElem?_getD, List.getElem?_eq_getElem hk, Option.getD_some]
  have hlt : L.idxOf (L.getD i bg) < L.length :=
    List.idxOf_lt_length_of_mem (by rw [hg hi]; exact List.getElem_mem hi)
  refine ⟨Nat.le_of_not_lt fun h => ?_, by rw [firstOcc, hg hlt, List.getElem_idxOf hlt]⟩
  exact beq_eq_false_iff_ne.mp (List.not_of_lt_findIdx (p := (· == L.getD i bg)) h) (hg hi).symm

theorem renumber_isLabelling (bg : Int) (vals data : List Int) (E : Nat → Nat → Prop) (hlen : vals.length = data.length)
    (hbg : ∀ i, i < data.length → (vals.getD i bg = bg ↔ data.getD i 0 = 0))
    (hsame : ∀ i j, Fg data i → Fg data j → (vals.getD i bg = vals.getD j bg ↔ EqvGen E i j)) :
    IsLabelling data E (renumber bg vals) := by
  have hfg : ∀ i, isFg bg vals i = true ↔ Fg data i := fun i => by
    rw [isFg, decide_eq_true_iff]
    by_cases hi : i < data.length
    · rw [Ne, hbg i hi]; exact ⟨fun h => ⟨hi, h⟩, And.right⟩
    · exact iff_of_false (fun h => h (by rw [List.getD_eq_getElem?_getD, List.getElem?_eq_none (by omega)]; rfl))
        fun h => hi h.1
  have hρ : ∀ i, Fg data i →
      firstOcc bg vals i ≤ i ∧ Fg data (firstOcc bg vals i) ∧ EqvGen E i (firstOcc bg vals i) := fun i fi => by
    obtain ⟨a, b⟩ := firstOcc_spec bg vals i (hlen ▸ fi.1)
    have f' : Fg data (firstOcc bg vals i) :=
      ⟨Nat.lt_of_le_of_lt a fi.1, fun h => fi.2 ((hbg i fi.1).mp (b ▸ (hbg _ (Nat.lt_of_le_of_lt a fi.1)).mpr h))⟩
    exact ⟨a, f', (hsame i _ fi f').mp b.symm⟩
  have hker : ∀ i j, Fg data i → Fg data j → (firstOcc bg vals i = firstOcc bg vals j ↔ EqvGen E i j) :=
    fun i j fi fj => by
      rw [← hsame i j fi fj]
      refine ⟨fun h => ?_, fun h => by rw [firstOcc, firstOcc, h]⟩
      rw [← (firstOcc_spec bg vals i (hlen ▸ fi.1)).2, h, (firstOcc_spec bg vals j (hlen ▸ fj.1)).2]
  rw [renumber_eq_rank, ← range_map_getD_comp vals bg, hlen]
  simp only [rankOf_getD]
  exact hlen ▸ rank_isLabelling hfg hρ hker

theorem isRoot_idxOf (bg : Int) (L : List Int) {v : Int} (hv : v ∈ L) (hne : v ≠ bg) :
    isRoot (isFg bg L) (firstOcc bg L) (L.idxOf v) = true := by
  have hlt := List.idxOf_lt_length_of_mem hv
  have hg : L.getD (L.idxOf v) bg = v := by
    rw [List.getD_eq_getElem?_getD, List.getElem?_eq_getElem hlt, Option.getD_some, List.getElem_idxOf hlt]
  rw [isRoot, isFg, firstOcc, hg, Bool.and_eq_true, decide_eq_true_iff, beq_iff_eq]
  exact ⟨hne, rfl⟩

theorem rankOf_pos (bg : Int) (L : List Int) {v : Int} (hv : v ∈ L) (hne : v ≠ bg) : 1 ≤ rankOf bg L v := by
  rw [rankOf, if_neg hne, rootCount_succ, isRoot_idxOf bg L hv hne, if_pos rfl]
  omega

/-- `renumber bg vals` maps the input through a function that sends
    `bg` to 0, every other occurring value to a label `≥ 1`, and is injective on the occurring values. -/
theorem renumber_map (bg : Int) (vals : List Int) :
    ∃ f : Int → Int, (renumber bg vals).1 = vals.map f ∧ f bg = 0 ∧
      (∀ v ∈ vals, v ≠ bg → 1 ≤ f v) ∧
      (∀ a b, (a ∈ vals ∨ a = bg) → (b ∈ vals ∨ b = bg) → f a = f b → a = b) := by
  refine ⟨rankOf bg vals, congrArg Prod.fst (renumber_eq_rank bg vals), if_pos rfl, fun v => rankOf_pos bg vals,
    fun a b ha hb h => ?_⟩
  by_cases ea : a = bg <;> by_cases eb : b = bg
  · rw [ea, eb]
  · have := rankOf_pos bg vals (hb.resolve_right eb) eb
    rw [← h, ea, rankOf, if_pos rfl] at this; omega
  · have := rankOf_pos bg vals (ha.resolve_right ea) ea
    rw [h, eb, rankOf, if_pos rfl] at this; omega
  · -- two first occurrences with the same rank are the same position
    have ha' := ha.resolve_right ea
    have hb' := hb.resolve_right eb
    rw [rankOf, rankOf, if_neg ea, if_neg eb, Int.natCast_inj] at h
    have hidx : vals.idxOf a = vals.idxOf b := by
      by_contra hne
      rcases Nat.lt_or_gt_of_ne hne with hlt | hlt
      · exact Nat.ne_of_lt (rootCount_succ_lt _ _ hlt (isRoot_idxOf bg vals hb' eb)) h
      · exact Nat.ne_of_gt (rootCount_succ_lt _ _ hlt (isRoot_idxOf bg vals ha' ea)) h
    have e1 := List.getElem_idxOf (List.idxOf_lt_length_of_mem ha')
    have e2 := List.getElem_idxOf (List.idxOf_lt_length_of_mem hb')
    rw [← e1, ← e2]
    simp only [hidx]

/-- **the model, characterised**, for every border rule: `labelModel` is the labelling of the partition generated by
    the edges the filter iterator yields -/
theorem labelModel_isLabelling (m : Mode) (shape : List Nat) (data : List Int) (bshape : List Nat) (bc : Array Int) :
    IsLabelling data (Edge m shape (offsets bshape bc) data) (labelModel m shape data bshape bc) := by
  obtain ⟨ρ, hsz, hb, hfg, hcls⟩ := parents_spec m shape data (offsets bshape bc)
  have hget : ∀ i, (parents m shape data (offsets bshape bc)).toList.getD i (-1) =
      (parents m shape data (offsets bshape bc)).getD i (-1) := fun i => by
    simp [List.getD_eq_getElem?_getD, Array.getD_eq_getD_getElem?]
  refine renumber_isLabelling (-1) _ data _ (by rw [Array.length_toList, hsz]) (fun i hi => ?_) fun i j fi fj => ?_
  · rw [hget]
    by_cases fi : Fg data i
    · rw [hfg i fi]; exact iff_of_false (by omega) fi.2
    · exact iff_of_true (hb i fi) (not_not.mp fun hc => fi ⟨hi, hc⟩)
  · rw [hget, hget, hfg i fi, hfg j fj, hcls, Int.natCast_inj]

end Mahotas.C03
