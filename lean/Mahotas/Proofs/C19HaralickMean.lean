/-
C19 — `return_mean` / `return_mean_ptp` (`Model/C19.lean: colMeanG`, `colPtpG`) over any ordered field: column `j` of
the row-by-row folds and the bounds of an arithmetic mean (the running maximum / minimum is in `Proofs/C19Fold.lean`).
-/
import Mahotas.Proofs.C19HaralickFeat
import Mahotas.Proofs.C19Fold
namespace Mahotas.C19
open Mahotas
open Finset (range)

theorem zipWith_getD {α : Type} (f : α → α → α) (a b : List α) (j : ℕ) (d : α) (ha : j < a.length) (hb : j < b.length) :
    (List.zipWith f a b).getD j d = f (a.getD j d) (b.getD j d) := by
  rw [List.getD_eq_getElem?_getD, List.getD_eq_getElem?_getD, List.getD_eq_getElem?_getD, List.getElem?_zipWith,
    List.getElem?_eq_getElem ha, List.getElem?_eq_getElem hb]
  rfl

/-- column `j` of the row-by-row fold is the fold of column `j` -/
theorem colFoldG_getD {α : Type} (f : α → α → α) (w : ℕ) (r0 : List α) (rest : List (List α)) (h0 : r0.length = w)
    (hr : ∀ r ∈ rest, r.length = w) (j : ℕ) (hj : j < w) (d : α) :
    (colFoldG f (r0 :: rest)).length = w ∧
    (colFoldG f (r0 :: rest)).getD j d = (rest.map (·.getD j d)).foldl f (r0.getD j d) := by
  induction rest generalizing r0 with
  | nil => exact ⟨h0, rfl⟩
  | cons r1 rest ih =>
    have h1 : r1.length = w := hr r1 List.mem_cons_self
    have hz : (List.zipWith f r0 r1).length = w := by rw [List.length_zipWith, h0, h1, Nat.min_self]
    have := ih (List.zipWith f r0 r1) hz fun r hr' => hr r (List.mem_cons_of_mem _ hr')
    rw [zipWith_getD f r0 r1 j d (h0 ▸ hj) (h1 ▸ hj)] at this
    exact this

section field
variable {α : Type} [Field α] [LinearOrder α] [IsStrictOrderedRing α]

theorem mean_bounds (xs : List α) (hne : 0 < xs.length) (lo hi : α) (h : ∀ x ∈ xs, lo ≤ x ∧ x ≤ hi) :
    lo ≤ xs.sum / (xs.length : α) ∧ xs.sum / (xs.length : α) ≤ hi := by
  have hn : (0 : α) < xs.length := Nat.cast_pos.2 hne
  rw [le_div_iff₀ hn, div_le_iff₀ hn, mul_comm lo, mul_comm hi, ← nsmul_eq_mul, ← nsmul_eq_mul]
  exact ⟨List.card_nsmul_le_sum _ _ fun x hx => (h x hx).1, List.sum_le_card_nsmul _ _ fun x hx => (h x hx).2⟩

end field
end Mahotas.C19
