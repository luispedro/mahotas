/-
Tie between the reviewed slice of `interpolate.py: zoom` that computes the output shape from a zoom factor (path `out is None`,
up to `output_shape = tuple([int(s * z) for s, z in zip(array.shape, zoom)])`; regenerated on every run into
`Generated/PyBodiesC18.lean` as `interpolate_zoom_output_shape`) and `C18.zoomFactors` / `C18.zoomOutLen` / `C18.zoomOutShape`
(`Model/C18Shape.lean`), the definitions the driver runs for the kinds `osh` and `rs name=imresize_factor`.
-/
import Mahotas.Generated.PyBodiesC18
import Mahotas.Model.C18

namespace Mahotas
open Mahotas.Generated.Py Mahotas.C18

section zoomshape
variable {α : Type} [Add α] [Sub α] [Mul α] [Div α] [Neg α] [NatCast α] [LT α] [DecidableLT α]
set_option linter.unusedSectionVars false

/-- the primitives of the slice: the zoom argument is (is it a scalar, its entries) as in the model; `np.array(zoom)` keeps it,
    `.ndim` is 0 for a scalar and 1 for a sequence, `np.array([zoom] * n)` repeats the scalar, `int(x)` is truncation toward
    zero (`C18.truncI`), `_maybe_filter` keeps the shape (the slice only reads `array.ndim` / `array.shape` afterwards) -/
abbrev c18ZoomPrims (fl : α → Int) : ZoomPrims α (Img α) (Bool × List α) where
  maybe_filter := fun im _ _ => im
  as_array := fun z => z
  zndim := fun z => if z.1 then 0 else 1
  ndim := fun im => im.shape.length
  shape := fun im => im.shape
  replicate := fun z n => (false, match z.2 with | v :: _ => List.replicate n v | [] => [])
  zlen := fun z => z.2.length
  elems := fun z => z.2
  trunc := truncI fl

theorem pybody_map_zip_zoomOutLen (fl : α → Int) : ∀ (shape : List Nat) (zs : List α),
    List.map (fun zz : Nat × α => truncI fl ((zz.1 : α) * zz.2)) (List.zip shape zs) = List.zipWith (zoomOutLen fl) shape zs
  | [], _ => by simp
  | _ :: _, [] => by simp
  | s :: ss, z :: zs => by simp [zoomOutLen, pybody_map_zip_zoomOutLen fl ss zs]

/-- **the output-shape slice of `interpolate.zoom`**: with the factors broadcast by `C18.zoomFactors`, a
    length mismatch raises and otherwise the shape is `C18.zoomOutLen fl s z = int(s * z)` per axis -/
theorem pybody_interpolate_zoom_output_shape_eq_model (ofInt : Int → α) (flit : Nat → Nat → α) (fl : α → Int)
    (im : Img α) (scalar : Bool) (zs : List α) (order : Nat) (prefilter : Bool) :
    interpolate_zoom_output_shape (fun n => (n : α)) ofInt flit (c18ZoomPrims fl) im (scalar, zs) order prefilter =
      if (zoomFactors im.shape.length scalar zs).length ≠ im.shape.length then none
      else some (List.zipWith (zoomOutLen fl) im.shape (zoomFactors im.shape.length scalar zs)) := by
  unfold interpolate_zoom_output_shape zoomFactors
  cases scalar <;> cases zs <;> simp [pybody_map_zip_zoomOutLen]

/-- `C18.zoomOutShape` (the model the driver runs: length check, `int(s * z)` per axis, `np.empty` refusing a negative entry)
    in terms of the per-axis lengths -/
theorem pybody_zoomOutShape_eq (fl : α → Int) : ∀ (shape : List Nat) (zs : List α),
    zoomOutShape fl shape zs =
      if zs.length ≠ shape.length then none
      else if (List.zipWith (zoomOutLen fl) shape zs).all (fun t => decide (0 ≤ t))
        then some ((List.zipWith (zoomOutLen fl) shape zs).map Int.toNat) else none
  | [], [] => by simp [zoomOutShape]
  | [], _ :: _ => by simp [zoomOutShape]
  | _ :: _, [] => by simp [zoomOutShape]
  | s :: ss, z :: zs => by
    rw [zoomOutShape, pybody_zoomOutShape_eq fl ss zs]
    by_cases hl : zs.length = ss.length
    · by_cases ht : zoomOutLen fl s z < 0
      · have : ¬ (0 ≤ zoomOutLen fl s z) := by omega
        simp [hl, ht, this]
      · have h0 : 0 ≤ zoomOutLen fl s z := by omega
        by_cases hall : (List.zipWith (zoomOutLen fl) ss zs).all (fun t => decide (0 ≤ t)) = true
        · simp [hl, ht, h0, hall]
        · simp [hl, ht, h0, hall]
    · by_cases ht : zoomOutLen fl s z < 0 <;> simp [hl, ht]

/-- `zoom(array, factor)` without `out` gets the shape `C18.zoomOutShape` says — the translated slice followed by
    `np.empty(output_shape)` (which raises on a negative entry) -/
theorem pybody_interpolate_zoom_output_shape_zoomOutShape (ofInt : Int → α) (flit : Nat → Nat → α) (fl : α → Int)
    (im : Img α) (scalar : Bool) (zs : List α) (order : Nat) (prefilter : Bool) :
    (interpolate_zoom_output_shape (fun n => (n : α)) ofInt flit (c18ZoomPrims fl) im (scalar, zs) order prefilter).bind
        (fun l => if l.all (fun t => decide (0 ≤ t)) then some (l.map Int.toNat) else none)
      = zoomOutShape fl im.shape (zoomFactors im.shape.length scalar zs) := by
  rw [pybody_interpolate_zoom_output_shape_eq_model, pybody_zoomOutShape_eq]
  by_cases h : (zoomFactors im.shape.length scalar zs).length ≠ im.shape.length
  · simp [h]
  · rw [if_neg h, if_neg h]; rfl

end zoomshape

/-- non-vacuity (integers, `fl = id`): a scalar factor is broadcast, a sequence of the wrong length raises, a negative factor
    gives a negative length that `np.empty` then refuses -/
example : interpolate_zoom_output_shape (fun n => (n : Int)) id (fun m _ => m) (c18ZoomPrims (fun z => z)) ⟨[3, 4], #[]⟩ (true, [2]) 3 true
      = some [6, 8] ∧
    interpolate_zoom_output_shape (fun n => (n : Int)) id (fun m _ => m) (c18ZoomPrims (fun z => z)) ⟨[3, 4], #[]⟩ (false, [2]) 3 true = none ∧
    interpolate_zoom_output_shape (fun n => (n : Int)) id (fun m _ => m) (c18ZoomPrims (fun z => z)) ⟨[3, 4], #[]⟩ (false, [2, -1]) 3 true
      = some [6, -4] ∧
    zoomOutShape (fun z : Int => z) [3, 4] [2, -1] = none := by decide

end Mahotas
