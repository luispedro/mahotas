/-
C13 — lemmas about the Python wrappers around the kernels: the border arithmetic and slices of
`bbox(border=, as_slice=)` / `croptobbox`, `labeled_sum(minlength=)`, `labeled_size`, `remove_regions_where`.
-/
import Mahotas.Proofs.C13
namespace Mahotas.C13
open Mahotas

theorem mem_where_iff (conds : List Int) (v : Int) :
    v ∈ (((List.range conds.length).filter fun i => conds.getD i 0 ≠ 0).map fun (i : Nat) => (i : Int)) ↔
      0 ≤ v ∧ v.toNat < conds.length ∧ conds.getD v.toNat 0 ≠ 0 := by
  simp only [List.mem_map, List.mem_filter, List.mem_range, ne_eq, decide_not, Bool.not_eq_eq_eq_not,
    Bool.not_true, decide_eq_false_iff_not]
  constructor
  · rintro ⟨i, ⟨hi, hc⟩, rfl⟩
    refine ⟨by omega, ?_, ?_⟩
    · simpa using hi
    · simpa using hc
  · rintro ⟨h0, h1, h2⟩
    exact ⟨v.toNat, ⟨h1, h2⟩, by omega⟩

theorem map_emod_id (vals : List Int) (hv : ∀ v ∈ vals, 0 ≤ v ∧ v < 4294967296) :
    vals.map (· % 4294967296) = vals :=
  (List.map_congr_left fun v h => Int.emod_eq_of_lt (hv v h).1 (hv v h).2).trans (List.map_id' vals)

theorem valuesOf_nil_of_gt {α : Type} (data : List α) (labels : List Int) (l : Int) (hl : maxOf labels < l) :
    valuesOf (data.zip labels) l = [] := by
  unfold valuesOf
  rw [List.map_eq_nil_iff, List.filter_eq_nil_iff]
  intro x hx
  have h2 : x.2 ∈ labels := (List.of_mem_zip hx).2
  have := le_maxOf h2
  simp only [beq_iff_eq]
  omega

theorem bboxBorderGo_getD (b : Int) : ∀ (box : List Int) (d : Nat), 2 * d + 1 < box.length →
    (bboxBorderGo b box).getD (2 * d) 0 = max (box.getD (2 * d) 0 - b) 0 ∧
    (bboxBorderGo b box).getD (2 * d + 1) 0 = box.getD (2 * d + 1) 0 + b
  | _ :: _ :: _, 0, _ => ⟨rfl, rfl⟩
  | _ :: _ :: rest, d + 1, hd => bboxBorderGo_getD b rest d (by simp only [List.length_cons] at hd; omega)
  | [], _, hd => absurd hd (Nat.not_lt_zero _)
  | [_], _, hd => absurd hd (by simp)

/-- one axis: a Python slice with non-negative ends selects `x < n` iff `s ≤ x < e` (the clipping of the ends to `n`
    is invisible below `n`) -/
theorem sliceSel_iff (n : Nat) (s e : Int) (x : Nat) (hs : 0 ≤ s) (he : 0 ≤ e) (hx : x < n) :
    sliceSel n s e x = (decide (s ≤ (x : Int)) && decide ((x : Int) < e)) := by
  rw [sliceSel, sliceBound, sliceBound, if_neg (not_lt.mpr hs), if_neg (not_lt.mpr he), Bool.eq_iff_iff,
    Bool.and_eq_true, Bool.and_eq_true, decide_eq_true_iff, decide_eq_true_iff, decide_eq_true_iff, decide_eq_true_iff,
    min_le_iff, lt_min_iff, Int.toNat_le, Int.lt_toNat]
  exact ⟨fun h => ⟨h.1.resolve_right (Nat.not_le.mpr hx), h.2.1⟩, fun h => ⟨Or.inl h.1, h.2, hx⟩⟩

end Mahotas.C13
