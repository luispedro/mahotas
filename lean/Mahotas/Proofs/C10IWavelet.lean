/-
C10 — B8, `iwavelet` / `ihaar` on a row with column step `≥ 1`: every element offset is inside the row extent `(N1-1)·step + 1`.

`rowExtent` is the bound for `low[x·step]` and `high[x·step]` with `high = (step·N1)/2` as `Model/C10.lean` has it.
-/
import Mahotas.Proofs.C10Wavelet
namespace Mahotas.C10
open Mahotas

/-- offsets `x*step` and `step*N1/2 + x*step` for `x < N1/2` lie inside the extent of a row of `N1`
    columns `step ≥ 1` elements apart -/
theorem rowExtent (n1 step x : Int) (hs : 1 ≤ step) (hx0 : 0 ≤ x) (hx : 2 * x + 2 ≤ n1) :
    (0 ≤ x * step ∧ x * step < (n1 - 1) * step + 1) ∧
    (0 ≤ (step * n1).tdiv 2 + x * step ∧ (step * n1).tdiv 2 + x * step < (n1 - 1) * step + 1) := by
  have h0 : 0 ≤ x * step := Int.mul_nonneg hx0 (by omega)
  -- `2x ≤ N1 - 2`, times `step`
  have h1 := Int.mul_le_mul_of_nonneg_right (show 2 * x ≤ n1 - 2 by omega) (show 0 ≤ step by omega)
  rw [Int.mul_assoc, Int.sub_mul] at h1
  rw [Int.mul_comm step n1, Int.tdiv_eq_ediv_of_nonneg (by omega), Int.sub_mul, Int.one_mul]
  omega

theorem colExtent (n1 step x : Int) (hs : 1 ≤ step) (hx0 : 0 ≤ x) (hx : x < n1) :
    0 ≤ step * x ∧ step * x < (n1 - 1) * step + 1 := by
  have h1 := Int.mul_le_mul_of_nonneg_left (show x ≤ n1 - 1 by omega) (show 0 ≤ step by omega)
  rw [Int.mul_comm step (n1 - 1)] at h1
  exact ⟨Int.mul_nonneg (by omega) hx0, by omega⟩

theorem ihaarAccesses_ok (n1 step : Int) (h : 0 ≤ n1) (hs : 1 ≤ step) :
    ∀ a ∈ ihaarAccesses n1 step, AccOk a := by
  obtain ⟨m1, -⟩ := iterNe_spec 0 (n1 / 2) (n1.toNat + 1) (by omega) (by omega)
  obtain ⟨m2, -⟩ := iterNe_count n1 h
  simp only [ihaarAccesses, acc_forall, m1, m2, AccOk]
  refine ⟨fun x hx => ?_, fun x hx => ⟨colExtent n1 step x hs (by omega) (by omega), by omega⟩⟩
  have he := rowExtent n1 step x hs (by omega) (by omega)
  exact ⟨he.2, he.1, by omega, by omega⟩

theorem iwaveletAccesses_ok (n1 nc step : Int) (h : 0 ≤ n1) (hc : 0 ≤ nc) (hs : 1 ≤ step) :
    ∀ a ∈ iwaveletAccesses n1 nc step, AccOk a := by
  obtain ⟨m1, -⟩ := iterNe_count nc hc
  obtain ⟨m2, -⟩ := iterNe_count n1 h
  simp only [iwaveletAccesses, acc_forall, m1, m2, AccOk]
  refine ⟨fun x hx => ⟨fun ci hci => ?_, hx⟩, fun x hx => ⟨colExtent n1 step x hs (by omega) (by omega), by omega⟩⟩
  split
  · nofun
  · simp only [acc_forall]
    -- `low[xmap·step]` and `high[xmap·step]` only behind the guard `0 ≤ xmap < N1/2`
    refine ⟨⟨by omega, fun b hb => ?_⟩, fun b hb => ?_⟩
    · obtain ⟨_, hb0, hb1, _⟩ := guardedAccess_ok _ _ b hb
      exact (rowExtent n1 step b.i hs hb0 (by omega)).1
    · obtain ⟨_, hb0, hb1, _⟩ := guardedAccess_ok _ _ b hb
      exact (rowExtent n1 step b.i hs hb0 (by omega)).2

end Mahotas.C10
