/-
C17 — energy of the Daubechies analysis transform for coefficient lists that satisfy the quadrature-mirror
identities only approximately: the analysis row kernel is (twice) the adjoint of the synthesis kernel on rows that
vanish below `n − 2`, hence `Σ (wavelet f)² = 2 Σ f² + 2 Σ f · errRow f`, and `|Σ (wavelet f)² − 2E| ≤ 2·errConst·E`.
For the Haar kernel the bilinear form is exact on every even-length row (`haarRow_inner`).
-/
import Mahotas.Proofs.C17General
import Mathlib.Algebra.Order.BigOperators.Group.Finset
import Mathlib.Algebra.Order.BigOperators.Ring.Finset
namespace Mahotas.C17
open Mahotas

section Alg
variable {K : Type} [Field K]

theorem sum_range_halves (N h : Nat) (hN : N = h + h) (F : Nat → K) :
    ∑ k ∈ Finset.range N, F k = ∑ m ∈ Finset.range h, (F m + F (h + m)) := by
  subst hN
  rw [Finset.sum_range_add, Finset.sum_add_distrib]

/-- one Haar row doubles the inner product of two even-length rows (in particular `Σ (haar f)² = 2 Σ f²`) -/
theorem haarRow_inner (N : Nat) (hN : N % 2 = 0) (f g : Nat → K) :
    ∑ k ∈ Finset.range N, haarRow N f k * haarRow N g k = 2 * ∑ k ∈ Finset.range N, f k * g k := by
  obtain ⟨m, rfl⟩ : ∃ m, N = 2 * m := ⟨N / 2, by omega⟩
  rw [sum_range_halves (2 * m) m (two_mul m), sum_range_pairs, Finset.mul_sum]
  refine Finset.sum_congr rfl fun x hx => ?_
  have hm : 2 * m / 2 = m := by omega
  have hx' : x < 2 * m / 2 := by have := Finset.mem_range.mp hx; omega
  have hf := haarRow_high (2 * m) f x hx'
  have hg := haarRow_high (2 * m) g x hx'
  rw [hm] at hf hg
  rw [haarRow_low _ f x hx', haarRow_low _ g x hx', hf, hg]
  ring

/-- **adjointness**, the support hypothesis only inside the row: the analysis kernel is twice the adjoint of the
    synthesis kernel. Both sides are sums over the pairs (tap `j`, sample `x = 2m + j`): the left one grouped by slot `m`
    (`waveletRow_low'`, `waveletRow_high`), the right one by sample `x` (`iwaveletRow_transpose`). -/
theorem wavelet_adjoint_of_lt (h2 : (2 : K) ≠ 0) (cs : List K) (heven : cs.length % 2 = 0) (N : Nat)
    (hN : N % 2 = 0) (f : Nat → K) (hsupp : ∀ p, p < N → p + 2 < cs.length → f p = 0) (g : Nat → K) :
    ∑ k ∈ Finset.range N, waveletRow cs N f k * g k
      = 2 * ∑ x ∈ Finset.range N, f x * iwaveletRow cs N g x := by
  let H : Nat → Nat → K := fun m j =>
    cf cs (cs.length - 1 - j) * g m + sg j * cf cs j * g (N / 2 + m)
  rw [sum_range_halves N (N / 2) (by omega)]
  have stepB : ∀ m ∈ Finset.range (N / 2),
      waveletRow cs N f m * g m + waveletRow cs N f (N / 2 + m) * g (N / 2 + m)
        = ∑ j ∈ Finset.range cs.length, H m j * ext N f (2 * m + j) := by
    intro m hm
    have hm' := Finset.mem_range.mp hm
    rw [waveletRow_low' cs N f m hm', waveletRow_high cs N f m hm', Finset.sum_mul, Finset.sum_mul,
      ← Finset.sum_add_distrib]
    exact Finset.sum_congr rfl fun j _ => by simp only [H]; ring
  have stepC : ∀ j ∈ Finset.range cs.length,
      ∑ m ∈ Finset.range (N / 2), H m j * ext N f (2 * m + j)
        = ∑ x ∈ Finset.range N, if x % 2 = j % 2 ∧ j ≤ x then H ((x - j) / 2) j * f x else 0 := by
    intro j _
    rw [sum_parity_ge N (N / 2) j (by omega) (fun x => H ((x - j) / 2) j * f x)]
    refine Finset.sum_congr rfl fun m _ => ?_
    rw [Nat.add_sub_cancel_left, Nat.mul_div_cancel_left m two_pos, Nat.add_comm, ext_eq, mul_ite, mul_zero]
  rw [Finset.sum_congr rfl stepB, Finset.sum_comm, Finset.sum_congr rfl stepC, Finset.sum_comm, Finset.mul_sum]
  refine Finset.sum_congr rfl fun x hx => ?_
  have hxN := Finset.mem_range.mp hx
  by_cases hxs : x + 2 < cs.length
  · rw [hsupp x hxN hxs]
    simp only [mul_zero, ite_self, Finset.sum_const_zero, zero_mul]
  · rw [iwaveletRow_transpose cs heven N hN g x (by omega) hxN, mul_div_assoc', mul_div_assoc',
      mul_div_cancel_left₀ _ h2, Finset.mul_sum]
    exact Finset.sum_congr rfl fun j _ => by rw [mul_ite, mul_zero, mul_comm]

/-- the same with the support hypothesis on all of ℕ -/
theorem wavelet_adjoint (h2 : (2 : K) ≠ 0) (cs : List K) (heven : cs.length % 2 = 0) (N : Nat) (hN : N % 2 = 0)
    (f : Nat → K) (hsupp : ∀ p, p + 2 < cs.length → f p = 0) (g : Nat → K) :
    ∑ k ∈ Finset.range N, waveletRow cs N f k * g k
      = 2 * ∑ x ∈ Finset.range N, f x * iwaveletRow cs N g x :=
  wavelet_adjoint_of_lt h2 cs heven N hN f (fun p _ => hsupp p) g

/-- **energy identity** of one analysis row: adjointness at `g = waveletRow cs N f`, then the row identity under the sum -/
theorem waveletRow_energy_identity (h2 : (2 : K) ≠ 0) (cs : List K) (heven : cs.length % 2 = 0)
    (hrow : RowIdentity cs) (N : Nat) (hN : N % 2 = 0) (f : Nat → K)
    (hsupp : ∀ p, p < N → p + 2 < cs.length → f p = 0) :
    ∑ k ∈ Finset.range N, waveletRow cs N f k ^ 2
      = 2 * ∑ x ∈ Finset.range N, f x ^ 2 + 2 * ∑ x ∈ Finset.range N, f x * errRow cs N f x := by
  simp only [sq]
  rw [wavelet_adjoint_of_lt h2 cs heven N hN f hsupp (waveletRow cs N f), ← mul_add, ← Finset.sum_add_distrib]
  refine congrArg (2 * ·) (Finset.sum_congr rfl fun x hx => ?_)
  have hxN := Finset.mem_range.mp hx
  by_cases hxs : x + 2 < cs.length
  · rw [hsupp x hxN hxs]; ring
  · rw [hrow N hN f x (by omega) hxN]; ring

/-- the cross term, regrouped by tap -/
theorem two_mul_sum_mul_errRow (h2 : (2 : K) ≠ 0) (cs : List K) (N : Nat) (f : Nat → K) :
    2 * ∑ x ∈ Finset.range N, f x * errRow cs N f x
      = ∑ j ∈ Finset.range (cs.length - 1), resid cs (lag (cs.length / 2) j)
          * ∑ x ∈ Finset.range N, f x * ext N f (x - (cs.length - 2) + 2 * j) := by
  simp only [errRow, listsum_range]
  have hS : ∀ a S : K, 2 * (a * (S / 2)) = a * S := by intro a S; field_simp
  rw [Finset.mul_sum]
  simp only [Finset.mul_sum]
  rw [Finset.sum_comm]
  apply Finset.sum_congr rfl
  intro x _
  rw [hS, Finset.mul_sum]
  apply Finset.sum_congr rfl
  intro j _
  ring

theorem sumTo_eq_sum (n : Nat) (g : Nat → K) : sumTo n g = ∑ k ∈ Finset.range n, g k := by
  induction n with
  | zero => simp [sumTo]
  | succ n ih => simp only [sumTo, ih, Finset.sum_range_succ]

/-- the sum of squares of an `N0 × N1` image -/
def energy2 (N0 N1 : Nat) (g : Im K) : K :=
  ∑ y ∈ Finset.range N0, ∑ x ∈ Finset.range N1, g y x ^ 2

theorem energy2_eq_sumTo (N0 N1 : Nat) (g : Im K) :
    energy2 N0 N1 g = sumTo N0 (fun y => sumTo N1 (fun x => g y x ^ 2)) := by
  unfold energy2
  rw [sumTo_eq_sum]
  apply Finset.sum_congr rfl
  intro y _
  rw [sumTo_eq_sum]

theorem energy2_swap (N0 N1 : Nat) (g : Im K) :
    energy2 N0 N1 g = ∑ x ∈ Finset.range N1, ∑ y ∈ Finset.range N0, g y x ^ 2 := by
  unfold energy2
  rw [Finset.sum_comm]

theorem waveletRow_eq_zero (cs : List K) (N : Nat) (f : Nat → K) (h : ∀ p, p < N → f p = 0) (x : Nat) :
    waveletRow cs N f x = 0 := by
  rw [waveletRow_congr cs N f (fun _ => 0) h]
  exact linear_zero (waveletRow cs) (waveletRow_linear cs) N x

end Alg

section Bounds
variable {K : Type} [Field K] [LinearOrder K] [IsStrictOrderedRing K]

/-- a shifted partial sum of a nonnegative sequence supported in `[0,N)` -/
theorem sum_shift_le (N c d : Nat) (G : Nat → K) (h0 : ∀ p, 0 ≤ G p) (hN : ∀ p, N ≤ p → G p = 0) :
    ∑ x ∈ Finset.range N, (if c ≤ x then G (x - c + d) else 0) ≤ ∑ p ∈ Finset.range N, G p := by
  have e : ∑ x ∈ Finset.range N, (if c ≤ x then G (x - c + d) else 0)
      = ∑ x ∈ (Finset.range N).filter (fun x => c ≤ x ∧ x - c + d < N), G (x - c + d) := by
    rw [Finset.sum_filter]
    apply Finset.sum_congr rfl
    intro x _
    by_cases h1 : c ≤ x
    · by_cases h2 : x - c + d < N
      · simp [h1, h2]
      · simp [h1, h2, hN _ (by omega : N ≤ x - c + d)]
    · simp [h1]
  rw [e, ← Finset.sum_image (f := G) (g := fun x => x - c + d)]
  · apply Finset.sum_le_sum_of_subset_of_nonneg
    · intro p hp
      simp only [Finset.mem_image, Finset.mem_filter, Finset.mem_range] at hp ⊢
      obtain ⟨x, hx, rfl⟩ := hp
      exact hx.2.2
    · intro p _ _; exact h0 p
  · intro x hx y hy hxy
    simp only [Finset.mem_coe, Finset.mem_filter, Finset.mem_range] at hx hy
    simp only at hxy
    omega

/-- a shifted autocorrelation of a row that vanishes below `c` is at most the energy -/
theorem abs_corr_le (N c d : Nat) (f : Nat → K) (hf : ∀ p, p < N → p < c → f p = 0) :
    |∑ x ∈ Finset.range N, f x * ext N f (x - c + d)| ≤ ∑ x ∈ Finset.range N, f x ^ 2 := by
  have hE : ∑ p ∈ Finset.range N, ext N f p ^ 2 = ∑ p ∈ Finset.range N, f p ^ 2 :=
    Finset.sum_congr rfl fun p hp => by rw [ext_eq, if_pos (Finset.mem_range.mp hp)]
  have h1 : ∑ x ∈ Finset.range N, (if c ≤ x then ext N f (x - c + d) ^ 2 else 0)
      ≤ ∑ p ∈ Finset.range N, f p ^ 2 := by
    rw [← hE]
    refine sum_shift_le N c d (fun p => ext N f p ^ 2) (fun p => sq_nonneg _) fun p hp => ?_
    rw [ext_eq, if_neg (by omega), zero_pow two_ne_zero]
  -- termwise `2|ab| ≤ a² + b²`; below `c` the row vanishes
  have h2 : ∑ x ∈ Finset.range N, 2 * |f x * ext N f (x - c + d)|
      ≤ ∑ x ∈ Finset.range N, (f x ^ 2 + (if c ≤ x then ext N f (x - c + d) ^ 2 else 0)) := by
    refine Finset.sum_le_sum fun x hx => ?_
    by_cases h : c ≤ x
    · rw [if_pos h, abs_mul, ← mul_assoc, ← sq_abs (f x), ← sq_abs (ext N f (x - c + d))]
      exact two_mul_le_add_sq _ _
    · rw [hf x (Finset.mem_range.mp hx) (by omega), if_neg h]; simp
  have h3 := Finset.abs_sum_le_sum_abs (fun x => f x * ext N f (x - c + d)) (Finset.range N)
  rw [← Finset.mul_sum, Finset.sum_add_distrib] at h2
  linarith

/-- **energy of one analysis row**, approximately quadrature-mirror coefficients; the row vanishes below `n − 2` -/
theorem abs_waveletRow_energy_le_of_lt (cs : List K) (heven : cs.length % 2 = 0) (hrow : RowIdentity cs)
    (N : Nat) (hN : N % 2 = 0) (f : Nat → K) (hsupp : ∀ p, p < N → p + 2 < cs.length → f p = 0) :
    |∑ k ∈ Finset.range N, waveletRow cs N f k ^ 2 - 2 * ∑ x ∈ Finset.range N, f x ^ 2|
      ≤ 2 * errConst cs * ∑ x ∈ Finset.range N, f x ^ 2 := by
  have h2 : (2 : K) ≠ 0 := two_ne_zero
  rw [waveletRow_energy_identity h2 cs heven hrow N hN f hsupp, add_sub_cancel_left,
    two_mul_sum_mul_errRow h2]
  have hc : 2 * errConst cs = ∑ j ∈ Finset.range (cs.length - 1), |resid cs (lag (cs.length / 2) j)| := by
    rw [errConst, listsum_range, mul_div_cancel₀ _ h2]
  rw [hc, Finset.sum_mul]
  refine le_trans (Finset.abs_sum_le_sum_abs _ _) (Finset.sum_le_sum fun j _ => ?_)
  rw [abs_mul]
  exact mul_le_mul_of_nonneg_left
    (abs_corr_le N (cs.length - 2) (2 * j) f fun p hpN hp => hsupp p hpN (by omega)) (abs_nonneg _)

theorem abs_sum_sub_two_le (s : Finset Nat) (A B : Nat → K) (c : K)
    (h : ∀ i ∈ s, |A i - 2 * B i| ≤ c * B i) :
    |∑ i ∈ s, A i - 2 * ∑ i ∈ s, B i| ≤ c * ∑ i ∈ s, B i := by
  rw [Finset.mul_sum, ← Finset.sum_sub_distrib, Finset.mul_sum]
  exact le_trans (Finset.abs_sum_le_sum_abs _ _) (Finset.sum_le_sum h)

/-- the row pass: every row vanishes below `n − 2` -/
theorem abs_rowsPass_energy_le (cs : List K) (heven : cs.length % 2 = 0) (hrow : RowIdentity cs)
    (N0 N1 : Nat) (h1 : N1 % 2 = 0) (f : Im K) (hx0 : ∀ y x, y < N0 → x < N1 → x + 2 < cs.length → f y x = 0) :
    |energy2 N0 N1 (rowsPass (waveletRow cs) N1 f) - 2 * energy2 N0 N1 f|
      ≤ 2 * errConst cs * energy2 N0 N1 f :=
  abs_sum_sub_two_le _ _ _ _ fun y hy =>
    abs_waveletRow_energy_le_of_lt cs heven hrow N1 h1 (f y) (hx0 y · (Finset.mem_range.mp hy))

/-- the column pass: every column vanishes below `n − 2` -/
theorem abs_colsPass_energy_le (cs : List K) (heven : cs.length % 2 = 0) (hrow : RowIdentity cs)
    (N0 N1 : Nat) (h0 : N0 % 2 = 0) (g : Im K) (hy0 : ∀ y x, y < N0 → x < N1 → y + 2 < cs.length → g y x = 0) :
    |energy2 N0 N1 (colsPass (waveletRow cs) N0 g) - 2 * energy2 N0 N1 g|
      ≤ 2 * errConst cs * energy2 N0 N1 g := by
  rw [energy2_swap N0 N1 (colsPass (waveletRow cs) N0 g), energy2_swap N0 N1 g]
  exact abs_sum_sub_two_le _ _ _ _ fun x hx =>
    abs_waveletRow_energy_le_of_lt cs heven hrow N0 h0 (fun k => g k x) fun p hp => hy0 p x hp (Finset.mem_range.mp hx)

/-- **energy of the 2-D analysis transform.** With `d = errConst cs`, for an image that vanishes in the first
    `n − 2` rows and columns (what `wavelet_center` with `border ≥ n − 3` and fill value 0 guarantees):
    `|E(daubechies f) − 4·E(f)| ≤ (8d + 4d²)·E(f)` -/
theorem abs_daubechies2_energy_le_of_lt (cs : List K) (heven : cs.length % 2 = 0) (hrow : RowIdentity cs)
    (N0 N1 : Nat) (h0 : N0 % 2 = 0) (h1 : N1 % 2 = 0) (f : Im K)
    (hy0 : ∀ y x, y < N0 → x < N1 → y + 2 < cs.length → f y x = 0)
    (hx0 : ∀ y x, y < N0 → x < N1 → x + 2 < cs.length → f y x = 0) :
    |energy2 N0 N1 (daubechies2 cs N0 N1 f) - 4 * energy2 N0 N1 f|
      ≤ (8 * errConst cs + 4 * errConst cs ^ 2) * energy2 N0 N1 f := by
  have d0 := errConst_nonneg cs
  have hR := abs_rowsPass_energy_le cs heven hrow N0 N1 h1 f hx0
  have hC := abs_colsPass_energy_le cs heven hrow N0 N1 h0 (rowsPass (waveletRow cs) N1 f) fun y x hy _ h =>
    waveletRow_eq_zero cs N1 (f y) (fun p hp => hy0 y p hy hp h) x
  show |energy2 N0 N1 (colsPass (waveletRow cs) N0 (rowsPass (waveletRow cs) N1 f)) - _| ≤ _
  rw [abs_le] at hR hC ⊢
  have hdG := mul_le_mul_of_nonneg_left (show energy2 N0 N1 (rowsPass (waveletRow cs) N1 f)
    ≤ (2 + 2 * errConst cs) * energy2 N0 N1 f by linarith [hR.2]) d0
  constructor
  · linarith [hR.1, hC.1]
  · linarith [hR.2, hC.2]

/-- the same with the row identity discharged by `rowIdentity_general` and the support hypotheses on all of ℕ (no `p < N`
    guards) -/
theorem abs_daubechies2_energy_le' (cs : List K) (heven : cs.length % 2 = 0) (hpos : 2 ≤ cs.length)
    (N0 N1 : Nat) (h0 : N0 % 2 = 0) (h1 : N1 % 2 = 0) (f : Im K)
    (hy0 : ∀ y x, y + 2 < cs.length → f y x = 0) (hx0 : ∀ y x, x + 2 < cs.length → f y x = 0) :
    |energy2 N0 N1 (daubechies2 cs N0 N1 f) - 4 * energy2 N0 N1 f|
      ≤ (8 * errConst cs + 4 * errConst cs ^ 2) * energy2 N0 N1 f :=
  abs_daubechies2_energy_le_of_lt cs heven (rowIdentity_general two_ne_zero cs heven hpos) N0 N1 h0 h1 f
    (fun y x _ _ => hy0 y x) (fun y x _ _ => hx0 y x)

end Bounds

end Mahotas.C17
