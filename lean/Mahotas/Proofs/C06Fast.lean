/-
C06, fast row path: the columns written (interior loop, then border loop) cover `[0, N1)` exactly
once; interior reads stay inside the row.
-/
import Mahotas.Proofs.C06
import Mathlib.Data.List.Basic
import Mathlib.Data.List.Range
namespace Mahotas.C06

theorem half_add_half_le {Nf N1 : Nat} (h : Nf < N1) : Nf / 2 + Nf / 2 ≤ N1 := by
  rw [← Nat.two_mul]
  exact (Nat.mul_div_le Nf 2).trans h.le

theorem interiorXs_eq (Nf N1 : Nat) (h : Nf < N1) :
    interiorXs Nf N1 = List.range' (Nf / 2) (N1 - Nf / 2 - Nf / 2) :=
  if_neg (Nat.not_le.2 (Nat.lt_of_le_of_lt (Nat.div_le_self Nf 2) h))

theorem borderXs_eq (Nf N1 : Nat) (h : Nf < N1) :
    borderXs Nf N1 = List.range (Nf / 2) ++ (List.range' (N1 - Nf / 2) (Nf / 2)).reverse := by
  have hcc := half_add_half_le h
  unfold borderXs
  rw [Nat.two_mul, Nat.min_eq_left hcc, List.range_add, List.map_append, List.map_map, List.reverse_range',
    Nat.sub_add_cancel ((Nat.le_add_left _ _).trans hcc)]
  congr 1
  · exact (List.map_congr_left fun k hk => if_pos (List.mem_range.1 hk)).trans (List.map_id _)
  · refine List.map_congr_left fun k _ => ?_
    show borderX (Nf / 2) N1 (Nf / 2 + k) = N1 - 1 - k
    rw [borderX, if_neg (Nat.not_lt.2 (Nat.le_add_right _ _)), Nat.add_sub_cancel_left]

theorem mem_interiorXs (Nf N1 x : Nat) (h : Nf < N1) :
    x ∈ interiorXs Nf N1 ↔ Nf / 2 ≤ x ∧ x + Nf / 2 < N1 := by
  rw [interiorXs_eq Nf N1 h, List.mem_range'_1, Nat.sub_sub, ← Nat.add_sub_assoc (half_add_half_le h),
    Nat.add_sub_add_left, Nat.lt_sub_iff_add_lt]

/-- the interior loop reads `base0[x + j − c]` inside the row -/
theorem interior_read_in_range (Nf N1 x j : Nat) (h : Nf < N1) (hx : x ∈ interiorXs Nf N1) (hj : j < Nf) :
    0 ≤ (x : Int) + (j : Int) - ((Nf / 2 : Nat) : Int) ∧
    (x : Int) + (j : Int) - ((Nf / 2 : Nat) : Int) < (N1 : Int) := by
  rw [mem_interiorXs Nf N1 x h] at hx
  omega

/-- the columns `[0, N1)` are `[0, c)`, then the interior `[c, N1 − c)`, then `[N1 − c, N1)`: the row kernel
writes the middle block, then the first, then the last one backwards -/
theorem fastXs_perm (Nf N1 : Nat) (h : Nf < N1) : (fastXs Nf N1).Perm (List.range N1) := by
  have hcc := half_add_half_le h
  have e1 : Nf / 2 + (N1 - Nf / 2 - Nf / 2) = N1 - Nf / 2 := by
    rw [Nat.sub_sub, ← Nat.add_sub_assoc hcc, Nat.add_sub_add_left]
  have hN : Nf / 2 + (N1 - Nf / 2 - Nf / 2 + Nf / 2) = N1 := by
    rw [← Nat.add_assoc, e1, Nat.sub_add_cancel ((Nat.le_add_left _ _).trans hcc)]
  have hsplit : List.range N1 =
      List.range (Nf / 2) ++ (interiorXs Nf N1 ++ List.range' (N1 - Nf / 2) (Nf / 2)) := by
    rw [interiorXs_eq Nf N1 h, List.range_eq_range', List.range_eq_range']
    refine (congrArg (List.range' 0) hN.symm).trans ?_
    rw [← List.range'_append_1, ← List.range'_append_1, Nat.zero_add, e1]
  unfold fastXs
  rw [borderXs_eq Nf N1 h, hsplit, ← List.append_assoc, ← List.append_assoc]
  exact List.perm_append_comm.append (List.reverse_perm _)

variable {R : Type} [CommSemiring R]

theorem fastInterior_eq_border (m : Mode) (f : Img R) (w : Array R) (N1 y x : Nat)
    (hx : x ∈ interiorXs w.size N1) (h : w.size < N1) :
    fastInterior f w y x = fastBorder m f w N1 y x := by
  unfold fastInterior fastBorder
  refine List.foldl_ext _ _ _ fun cur j hj => ?_
  obtain ⟨h0, h1⟩ := interior_read_in_range w.size N1 x j h hx (List.mem_range.1 hj)
  rw [fixOffset_inside m _ N1 h0 h1]

end Mahotas.C06
