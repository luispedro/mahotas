/-
C08 — `dilateView` = `C01.dilateModel` on the logical arrays.

The scatter kernel builds its filter iterator
on the C-contiguous output; the element offset `i + Σ cstride·(q − p)` it writes to is the flat index `ravelI q` of the
clamped target, and the `Option` cells of the view model are `some` of the cells of the logical model throughout.
`retrieve` from the *identity* memory delivers the address itself, and the output view presents of that memory the image
of flat indices: the inner loop of the scatter folds over the neighbour list `neigh_logical` speaks of.
-/
import Mahotas.Proofs.C08Kernels
namespace Mahotas.C08
open Mahotas

theorem outView_wf (shape : List Nat) : (outView shape).WF := by
  refine ⟨?_, fun _ => rfl⟩
  simp only [outView]
  induction shape with
  | nil => rfl
  | cons d ds ih => simp [cStrides, ih]

theorem iterPtr_outView (shape : List Nat) (i : Nat) (hi : i < shapeSize shape) : iterPtr (outView shape) i = (i : Int) := by
  unfold iterPtr
  rw [incrN_data (outView shape) (outView_wf shape).len i hi, addr_cStrides (outView shape) rfl i hi]
  exact Int.zero_add _

/-- the C-contiguous output view presents, of the identity memory, the image of flat indices -/
theorem idxImg_getD (shape : List Nat) (q : List Int) (hq : inside shape q = true) (d : Int) :
    (toImg (fun a : Int => a) (outView shape)).getD q d = (ravelI shape q : Int) := by
  have hlt : ravelI (outView shape).shape q < shapeSize (outView shape).shape := C01.ravelI_lt shape q hq
  rw [toImg_getD_ravel _ _ q d hq, logical_getD _ _ _ hlt d]
  exact (addr_cStrides (outView shape) rfl _ hlt).trans (Int.zero_add _)

/-- one `retrieve`/`set` of the scatter on an entry of the neighbour list of the identity memory: the entry is the
address -/
def scatter1 (dt : DT) (value : Int) (res : Array (Option Int)) (ab : Option Int × Int) : Array (Option Int) :=
  match ab.1 with
  | some a =>
    if dilateAdd dt value ab.2 > ((res.getD a.toNat none).getD 0) then
      res.setIfInBounds a.toNat (some (dilateAdd dt value ab.2)) else res
  | none => res

theorem dilateInner_eq (dt : DT) (fv : FiltV Int) (value : Int) (i : Nat) (res : Array (Option Int)) :
    (List.range fv.fi.size).foldl (dilateStep dt fv value i) res =
      (fv.neigh 0 (fun a => a) (i : Int) i).foldl (scatter1 dt value) res := by
  unfold FiltV.neigh
  rw [List.foldl_map]
  refine congrArg (fun f => List.foldl f res _) (funext fun r => funext fun j => ?_)
  unfold dilateStep scatter1 FiltV.retrieve
  cases FilterIter.retrieve fv.fi (FilterIter.stateAfter fv.fi fv.ashape i) j with
  | none => rfl
  | some e => cases e <;> rfl

/-- the relation kept by the scatter: the `Option` cells are `some` of the logical model's cells -/
def DilRel (N : Nat) (res : Array (Option Int)) (out : Array Int) : Prop := res = out.map some ∧ out.size = N

/-- one entry: the scatter of the view model on the flat index of the clamped target, C01's on the target -/
theorem scatter1_sim (dt : DT) (shape fshape : List Nat) (hpos : ∀ a ∈ shape, 1 ≤ a)
    (hl : shape.length = fshape.length) (value : Int) (i kk : Nat) (b : Int)
    (res : Array (Option Int)) (out : Array Int) (hR : DilRel (shapeSize shape) res out) :
    DilRel (shapeSize shape)
      (scatter1 dt value res (nbAt .nearest (toImg (fun a : Int => a) (outView shape)) fshape 0 (unravelI shape i) kk, b))
      (C01.dilateScatter dt shape value (unravelI shape i) out (offAt fshape kk, b)) := by
  obtain ⟨hres, hsz⟩ := hR
  have hfix := C01.fixPos_nearest shape (addPos (unravelI shape i) (offAt fshape kk)) hpos
  have hin := inside_fixPos .nearest shape _ _ hpos (addPos_offAt_length shape fshape hl i kk) hfix
  have hlt := C01.ravelI_lt shape _ hin
  unfold scatter1 C01.dilateScatter nbAt
  rw [show (toImg (fun a : Int => a) (outView shape)).shape = shape from rfl, hfix]
  simp only [Option.map_some, idxImg_getD shape _ hin, Int.toNat_natCast]
  generalize ravelI shape (clampPos shape (addPos (unravelI shape i) (offAt fshape kk))) = t at hlt
  rw [show (res.getD t none).getD 0 = out.getD t dt.lo by rw [hres]; simp [Array.getD_eq_getD_getElem?, hsz, hlt]]
  by_cases hc : dilateAdd dt value b > out.getD t dt.lo
  · rw [if_pos hc, if_pos hc]
    exact ⟨by rw [hres, Array.map_setIfInBounds], by simp [hsz]⟩
  · rw [if_neg hc, if_neg hc]
    exact ⟨hres, hsz⟩

/-- the early return for an empty element is a special case of the loops -/
theorem dilateView_loops (dt : DT) (mA : Int → Int) (vA : View) (mB : Int → Int) (vB : View) :
    dilateView dt mA vA mB vB =
      (List.range (shapeSize vA.shape)).foldl (fun res i =>
        let value := readIter mA vA i
        if value = dt.lo then res
        else (List.range (mkFiltV (fun x => x != 0) (outView vA.shape) mB vB .nearest dt.isBool).fi.size).foldl
          (dilateStep dt (mkFiltV (fun x => x != 0) (outView vA.shape) mB vB .nearest dt.isBool) value i) res)
        (pixelLoop (shapeSize vA.shape) fun _ => dt.lo) := by
  unfold dilateView
  simp only
  split
  · rename_i hz
    rw [hz]
    exact (foldl_fixed _ _ (fun _ => ite_self _) _).symm
  · rfl

end Mahotas.C08
