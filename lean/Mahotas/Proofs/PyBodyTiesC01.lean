/-
Tie between the body of `morph.py: disk` (regenerated on every run into `Generated/PyBodiesC01.lean`) and
`C01.diskElem`, the structuring element the driver builds for the kind `disk`.
-/
import Mahotas.Generated.PyBodiesC01
import Mahotas.Model.C01

namespace Mahotas
open Mahotas.Generated.Py Mahotas.C01

/-- membership in the disk of radius `r` at the position with coordinate vector `v` (as `np.indices` lists it):
    `Σ (v_i − r)² < r²` -/
def pyDiskAt (r : Nat) (v : List Int) : Bool :=
  decide ((v.map fun x => (x - (r : Int)) * (x - (r : Int))).foldl (· + ·) 0 < ((r * r : Nat) : Int))

/-- **`morph.disk`**, for every scalar type and all primitives: dimensions `≤ 0` and `> 64` raise; the
    shape is `2·radius + 1` per axis; two dimensions go to the C++ kernel `disk_2d` on a zero array of that shape; every
    other dimension is `Σ (index − radius)² < radius²` over `np.indices(shape)`. -/
theorem pybody_morph_disk_eq_model {K X A D : Type} [Add K] [Sub K] [Mul K] [LT K] [DecidableLT K] [LE K] [DecidableLE K]
    (ofNat : Nat → K) (P : DiskPrims K X A D) (r d : Nat) :
    morph_disk ofNat P r d =
      if d = 0 ∨ 64 < d then none
      else if d = 2 then some (P.disk_2d (P.zeros (List.replicate d (r * 2 + 1)) P.bool_dtype) r)
      else some (fun p => decide (List.foldl (fun a b => a + b) (ofNat 0)
        ((P.indices (List.replicate d (r * 2 + 1)) P.float_dtype p).map fun t => (t - ofNat r) * (t - ofNat r)) < ofNat (r * r))) := by
  have hshape : List.map (fun _ => r * 2 + 1) (List.range d) = List.replicate d (r * 2 + 1) := by
    simp [List.map_const']
  unfold morph_disk
  by_cases h0 : d = 0
  · simp [h0]
  by_cases h64 : 64 < d
  · simp [h64]
  by_cases h2 : d = 2
  · subst h2; simp [hshape]
  · simp only [hshape, h0, h64, h2, Nat.le_zero, decide_false, Bool.false_eq_true, if_false,
      false_or, List.map_map]
    rfl

/-- … with integer scalars and `np.indices` giving every position its own coordinate vector: the mask at `v` is
    `pyDiskAt r v`, and **`C01.diskElem d r`** is that mask listed over all positions of the `(2r+1)^d` box in C order
    (also for `d = 2` when `disk_2d` computes the same formula, which is what the C01 correspondence run checks). -/
theorem pybody_morph_disk_diskElem {A D : Type} (bd fd : D) (z : List Nat → D → A) (k2 : A → Nat → List Int → Bool)
    (r d : Nat) (hd : 0 < d) (hd64 : d ≤ 64) (h2 : d ≠ 2) :
    ∃ m, morph_disk (fun n => (n : Int))
        ({ bool_dtype := bd, float_dtype := fd, zeros := z, disk_2d := k2, indices := fun _ _ v => v } : DiskPrims Int (List Int) A D)
        r d = some m ∧ (∀ v, m v = pyDiskAt r v) ∧
      diskElem d r = ((allPos (List.replicate d (2 * r + 1))).map fun v => if m v then (1 : Int) else 0).toArray := by
  refine ⟨pyDiskAt r, ?_, fun _ => rfl, ?_⟩
  · rw [pybody_morph_disk_eq_model]
    have h0 : ¬ (d = 0 ∨ 64 < d) := by omega
    rw [if_neg h0, if_neg h2]
    congr 1
  · unfold diskElem pyDiskAt
    simp only [decide_eq_true_eq]

/-- the integer instantiation used in the examples below -/
abbrev unitDiskPrims : DiskPrims Int (List Int) Unit Unit where
  bool_dtype := ()
  float_dtype := ()
  zeros := fun _ _ => ()
  disk_2d := fun _ _ _ => false
  indices := fun _ _ v => v

/-- non-vacuity: in three dimensions the centre of `disk(1, 3)` is set and its face neighbours are not (strict `<`);
    dimension 0 and 65 raise -/
example : pyDiskAt 1 [1, 1, 1] = true ∧ pyDiskAt 1 [0, 1, 1] = false ∧ pyDiskAt 2 [1, 2, 2] = true ∧
    (morph_disk (fun n => (n : Int)) unitDiskPrims 1 0).isNone = true ∧
    (morph_disk (fun n => (n : Int)) unitDiskPrims 1 65).isNone = true := by decide

end Mahotas
