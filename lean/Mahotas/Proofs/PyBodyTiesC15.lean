/-
Ties between the bodies of `euler.py: euler` and `thin.py: thin` (regenerated on every run into
`Generated/PyBodiesC15.lean`) and `C15.eulerModel4`, `C15.thinModel`, the models the driver runs (kinds `euler`, `thin`).
-/
import Mahotas.Generated.PyBodiesC15
import Mahotas.Model.C15
import Mahotas.Proofs.C15Basic
import Mahotas.Proofs.C15Model

namespace Mahotas
open Mahotas.Generated.Py Mahotas.C15

/-- the 2×2 window code `Σ k[i][j] · g (y + i) (x + j)` for a kernel `k` and a pixel reader `g` — `C15.quadCode` with the
    kernel and the image abstracted -/
def pyQuadCode (k : List (List Nat)) (g : Int → Int → Bool) (y x : Int) : Nat :=
  ((k.zipIdx.map fun (row, i) =>
      (row.zipIdx.map fun (w, j) => if g (y + (i : Int)) (x + (j : Int)) then w else 0).foldl (· + ·) 0)).foldl (· + ·) 0

theorem pybody_quadCode_eq (b : Bin) (y x : Int) : quadCode b y x = pyQuadCode Generated.eulerPowers b.get y x := rfl

/-- the primitives of `euler` on the model's binary images. An image is (its dtype is `bool`, its content read as
    "non-zero"); `np.all((f == 0) | (f == 1))` is a parameter; `f != 0` makes the dtype `bool` and keeps the content;
    `np.pad(f, ((0,1),(0,1)))` adds one background row and column; `convolve(f, k, mode)` of the 0/1 image with the 2×2
    kernel gives at `(i, j)` the code of the window whose top-left pixel is `(i − 1, j − 1)` (background outside: the
    default `mode='constant'`; the model covers only that mode); `lookup[value].sum()` sums the selected table entries;
    the tables are the extracted ones (numerators over `eulerDen`). -/
abbrev c15EulerPrims (allBin : Bool × Bin → Bool) :
    EulerPrims (Bool × Bin) (Nat × Nat × (Nat → Nat → Nat)) (List Int) (List (List Nat)) Int where
  lookup8 := Generated.eulerLookup8
  lookup4 := Generated.eulerLookup4
  powers := Generated.eulerPowers
  is_bool := fun a => a.1
  all_binary := allBin
  ne0 := fun a => (true, a.2)
  pad01 := fun a => (a.1, Bin.tabulate (a.2.rows + 1) (a.2.cols + 1) a.2.get)
  astype_like := fun a _ => a
  convolve := fun a k _ => (a.2.rows, a.2.cols, fun i j => pyQuadCode k a.2.get ((i : Int) - 1) ((j : Int) - 1))
  lookup_sum := fun tbl v =>
    ((List.range v.1).map fun (i : Nat) =>
      ((List.range v.2.1).map fun (j : Nat) => tbl.getD (v.2.2 i j) 0).foldl (· + ·) 0).foldl (· + ·) 0

theorem pybody_pad01_get (b : Bin) : (Bin.tabulate (b.rows + 1) (b.cols + 1) b.get).get = b.get := by
  funext y x
  rw [Bin.get_tabulate]
  by_cases h : 0 ≤ y ∧ y < (b.rows : Int) ∧ 0 ≤ x ∧ x < (b.cols : Int)
  · rw [decide_eq_true (by omega), Bool.true_and]
  · rw [get_false_outside b y x h, Bool.and_false]

/-- `euler.euler` (default `mode='constant'`) = `C15.eulerModel4`: connectivity 8 / 4 selects the
    table, any other `n` raises; a non-bool image must be binary (else the `assert` fails) and is converted; the image is
    padded by one background row and column; the result is the sum of the table entries of all window codes of the padded
    image — `eulerModel4`'s double sum over `(rows + 1) × (cols + 1)` windows. -/
theorem pybody_euler_euler_eq_model (allBin : Bool × Bin → Bool) (isb : Bool) (b : Bin) (n : Nat) :
    euler_euler (c15EulerPrims allBin) (isb, b) n "constant" =
      if n = 8 ∨ n = 4 then (if isb ∨ allBin (isb, b) then some (eulerModel4 b (n == 8)) else none) else none := by
  have hr : ∀ f, (Bin.tabulate (b.rows + 1) (b.cols + 1) f).rows = b.rows + 1 := fun _ => rfl
  have hc : ∀ f, (Bin.tabulate (b.rows + 1) (b.cols + 1) f).cols = b.cols + 1 := fun _ => rfl
  unfold euler_euler
  by_cases h8 : n = 8
  · subst h8
    cases isb <;> cases hb : allBin (false, b) <;> simp [eulerModel4, hb, pybody_quadCode_eq, pybody_pad01_get, hr, hc]
  · by_cases h4 : n = 4
    · subst h4
      cases isb <;> cases hb : allBin (false, b) <;> simp [eulerModel4, hb, pybody_quadCode_eq, pybody_pad01_get, hr, hc]
    · simp [h8, h4]

/-- non-vacuity: a single set pixel has Euler number 1 (4/4) for both connectivities, a non-binary non-bool image fails the
    `assert`, and connectivity 5 raises -/
example : euler_euler (c15EulerPrims fun _ => true) (true, ⟨1, 1, #[true]⟩) 8 "constant" = some 4 ∧
    euler_euler (c15EulerPrims fun _ => true) (false, ⟨1, 1, #[true]⟩) 4 "constant" = some 4 ∧
    euler_euler (c15EulerPrims fun _ => false) (false, ⟨1, 1, #[true]⟩) 4 "constant" = none ∧
    euler_euler (c15EulerPrims fun _ => true) (true, ⟨1, 1, #[true]⟩) 5 "constant" = none := by decide +kernel

/-- the primitives of `thin` on the model's binary images: `bbox` is `C15.bbox`, `np.zeros*` / `np.empty` are all-background
    images, `a[y0:y1, x0:x1]` is the window read from its corner, `a[y0:y1, x0:x1] = v` overwrites the window with `v`
    (numpy raises when the shapes differ; here `v` is read from its corner), `_thin.thin(image, buffer, n)` is
    `C15.thinCore` -/
abbrev c15ThinPrims : ThinPrims Bin Unit where
  bool_dtype := ()
  bbox := C15.bbox
  zeros_like := fun b => Bin.tabulate b.rows b.cols fun _ _ => false
  zeros2 := fun h w _ => Bin.tabulate h.toNat w.toNat fun _ _ => false
  empty2 := fun h w _ => Bin.tabulate h.toNat w.toNat fun _ _ => false
  getwin := fun a y0 y1 x0 x1 => Bin.tabulate (y1 - y0).toNat (x1 - x0).toNat fun y x => a.get (y + y0) (x + x0)
  setwin := fun a y0 y1 x0 x1 v => Bin.tabulate a.rows a.cols fun y x =>
    if y0 ≤ y ∧ y < y1 ∧ x0 ≤ x ∧ x < x1 then v.get (y - y0) (x - x0) else a.get y x
  thin_kernel := fun a _ it => thinCore a it

theorem pybody_head_le_last (P : Nat → Bool) (n y0 : Nat) (rest : List Nat)
    (h : (List.range n).filter P = y0 :: rest) : y0 ≤ (y0 :: rest).getLastD y0 :=
  (sorted_bounds _ (h ▸ (List.pairwise_lt_range (n := n)).filter _) y0 List.mem_cons_self y0).2

theorem pybody_bbox_ordered (b : Bin) :
    (C15.bbox b).1 ≤ (C15.bbox b).2.1 ∧ (C15.bbox b).2.2.1 ≤ (C15.bbox b).2.2.2 := by
  unfold C15.bbox
  simp only
  split
  · rename_i y0 ry x0 rx hy hx
    have a := pybody_head_le_last _ _ _ _ hy
    have c := pybody_head_le_last _ _ _ _ hx
    rw [hy, hx]
    exact ⟨Nat.le_succ_of_le a, Nat.le_succ_of_le c⟩
  · exact ⟨Nat.le_refl _, Nat.le_refl _⟩

theorem pybody_tabulate_congr (R C R' C' : Nat) (f f' : Int → Int → Bool) (hR : R = R') (hC : C = C')
    (h : ∀ y x, f y x = f' y x) : Bin.tabulate R C f = Bin.tabulate R' C' f' := by
  subst hR; subst hC
  have : f = f' := funext fun y => funext fun x => h y x
  rw [this]

/-- `thin.thin` = `C15.thinModel`, for every image and every `max_iter` (the bounding box `C15.bbox`
    returns is ordered: `pybody_bbox_ordered`): the crop `binimg[min0:max0,
    min1:max1]` is stored at offset (1, 1) of an all-background `(r + 2) × (c + 2)` image, that image is thinned, and its
    inner `r × c` window is stored back at the bounding box of an all-background image of the input's shape. -/
theorem pybody_thin_thin_eq_model (b : Bin) (m : Int) : thin_thin c15ThinPrims b m = thinModel b m := by
  obtain ⟨h0, h1⟩ := pybody_bbox_ordered b
  rw [thinModel_eq]
  show c15ThinPrims.setwin _ _ _ _ _ (c15ThinPrims.getwin (thinCore (c15ThinPrims.setwin _ _ _ _ _ _) m) _ _ _ _) = _
  have hframe : c15ThinPrims.setwin
      (c15ThinPrims.zeros2 ((((C15.bbox b).2.1 : Nat) : Int) - (((C15.bbox b).1 : Nat) : Int) + 2)
        ((((C15.bbox b).2.2.2 : Nat) : Int) - (((C15.bbox b).2.2.1 : Nat) : Int) + 2) ())
      1 ((((C15.bbox b).2.1 : Nat) : Int) - (((C15.bbox b).1 : Nat) : Int) + 1)
      1 ((((C15.bbox b).2.2.2 : Nat) : Int) - (((C15.bbox b).2.2.1 : Nat) : Int) + 1)
      (c15ThinPrims.getwin b (((C15.bbox b).1 : Nat) : Int) (((C15.bbox b).2.1 : Nat) : Int)
        (((C15.bbox b).2.2.1 : Nat) : Int) (((C15.bbox b).2.2.2 : Nat) : Int)) = frameOf b := by
    unfold frameOf
    dsimp only [c15ThinPrims]
    apply pybody_tabulate_congr
    · show (_ : Int).toNat = _
      omega
    · show (_ : Int).toNat = _
      omega
    · intro y x
      simp only [Bin.get_tabulate, Bool.and_false]
      cases b.get (y - 1 + ((C15.bbox b).1 : Int)) (x - 1 + ((C15.bbox b).2.2.1 : Int))
      · simp only [Bool.and_false, ite_self]
      · rw [Bool.eq_iff_iff]
        simp only [Bool.and_true, Bool.and_eq_true, decide_eq_true_eq, Bool.if_false_right]
        omega
  have hpaste : ∀ T : Bin, c15ThinPrims.setwin (c15ThinPrims.zeros_like b)
      (((C15.bbox b).1 : Nat) : Int) (((C15.bbox b).2.1 : Nat) : Int) (((C15.bbox b).2.2.1 : Nat) : Int) (((C15.bbox b).2.2.2 : Nat) : Int)
      (c15ThinPrims.getwin T 1 ((((C15.bbox b).2.1 : Nat) : Int) - (((C15.bbox b).1 : Nat) : Int) + 1)
        1 ((((C15.bbox b).2.2.2 : Nat) : Int) - (((C15.bbox b).2.2.1 : Nat) : Int) + 1)) = pasteOf b T := by
    intro T
    unfold pasteOf
    dsimp only [c15ThinPrims]
    apply pybody_tabulate_congr _ _ _ _ _ _ rfl rfl
    intro y x
    simp only [Bin.get_tabulate, Bool.and_false]
    cases T.get (y - ((C15.bbox b).1 : Int) + 1) (x - ((C15.bbox b).2.2.1 : Int) + 1)
    · simp only [Bool.and_false, ite_self]
    · rw [Bool.eq_iff_iff]
      simp only [Bool.and_true, Bool.and_eq_true, decide_eq_true_eq, Bool.if_false_right]
      omega
  rw [hframe, hpaste]
end Mahotas
