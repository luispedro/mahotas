/-
C06 — both paths of `convolve1d` as one tabulated defining sum; a pass of `gaussian_filter` as such a
tabulation; constant images under the extending border modes (every sample equals the constant, so the
defining sum is the constant times the sum of the weights).
-/
import Mahotas.Proofs.C06Axis
import Mahotas.Proofs.C06Gauss
namespace Mahotas.C06
open Mahotas

section semiring
variable {R : Type} [CommSemiring R]

theorem convolve1dG_eq_spec (cast : R → R) (isZero : R → Bool) (hz : ∀ x, isZero x = true → x = 0)
    (m : Mode) (f : Img R) (contig : Bool) (axis : Nat) (w : Array R) (hax : axis < f.shape.length) :
    (convolve1dG cast isZero m f contig axis w).1 =
      (allPos f.shape).map fun p => cast (convSpec m f (embedShape f.shape.length axis w.size) w p) := by
  unfold convolve1dG
  simp only
  split
  · rename_i hc
    simp only [Bool.and_eq_true, decide_eq_true_eq] at hc
    apply List.map_congr_left
    intro p hp
    rw [fastAt_eq_spec m f axis w p ((C01.mem_allPos _ _).mp hp) hax hc.2]
  · apply List.map_congr_left
    intro p hp
    have hs := C01.inside_dims_pos _ _ ((C01.mem_allPos _ _).mp hp)
    exact congrArg cast ((conv_fold isZero hz m f hs _ w p _ 0).trans (zero_add _))

theorem gaussianPass_eq_tabulate (cast : R → R) (isZero : R → Bool) (hz : ∀ x, isZero x = true → x = 0)
    (m : Mode) (cur : Img R) (ax : Nat) (w : Array R) (hax : ax < cur.shape.length) :
    gaussianPass cast isZero m cur ax w =
      Img.tabulate cur.shape fun p => cast (convSpec m cur (embedShape cur.shape.length ax w.size) w p) := by
  unfold gaussianPass Img.tabulate
  rw [convolve1dG_eq_spec cast isZero hz m cur true ax w hax]

theorem gaussianPass_shape (cast : R → R) (isZero : R → Bool) (m : Mode) (cur : Img R) (ax : Nat)
    (w : Array R) : (gaussianPass cast isZero m cur ax w).shape = cur.shape := rfl

end semiring

/-- the four border modes that extend the image (every sample exists) -/
def Extending (m : Mode) : Prop := m ≠ .constant ∧ m ≠ .ignore

theorem borderSpec_extending (m : Mode) (hm : Extending m) (cc len : Int) :
    ∃ o, borderSpec m cc len = some o := by
  cases m
  · exact ⟨_, rfl⟩
  · exact ⟨_, rfl⟩
  · exact ⟨_, rfl⟩
  · exact ⟨_, rfl⟩
  · exact absurd rfl hm.1
  · exact absurd rfl hm.2

theorem specPos_extending (m : Mode) (hm : Extending m) (shape : List Nat) (p : List Int)
    (hs : ∀ d ∈ shape, 0 < d) (hp : p.length = shape.length) :
    ∃ q, specPos m shape p = some q ∧ inside shape q = true := by
  obtain ⟨q, hq⟩ := Option.isSome_iff_exists.1 (fixPos_isSome_of_extending m hm.1 hm.2 shape p)
  rw [fixPos_eq_specPos m shape p hs] at hq
  exact ⟨q, hq, inside_specPos m shape p q hs hp hq⟩

theorem offsetOf_length (wshape : List Nat) (i : Nat) : (offsetOf wshape i).length = wshape.length := by
  induction wshape generalizing i with
  | nil => rfl
  | cons d ds ih => exact congrArg Nat.succ (ih _)

section semiring
variable {R : Type} [CommSemiring R]

theorem specSample_const (m : Mode) (hm : Extending m) (f : Img R) (c : R)
    (hc : ∀ q, inside f.shape q = true → f.getD q 0 = c) (hs : ∀ d ∈ f.shape, 0 < d)
    (p : List Int) (hp : p.length = f.shape.length) : specSample m f p = c := by
  obtain ⟨q, hq, hin⟩ := specPos_extending m hm f.shape p hs hp
  unfold specSample
  rw [hq]
  exact hc q hin

theorem convSpec_const (m : Mode) (hm : Extending m) (f : Img R) (c : R)
    (hc : ∀ q, inside f.shape q = true → f.getD q 0 = c) (hs : ∀ d ∈ f.shape, 0 < d)
    (wshape : List Nat) (w : Array R) (p : List Int) (hp : p.length = f.shape.length)
    (hw : wshape.length = f.shape.length) (hsz : shapeSize wshape = w.size) :
    convSpec m f wshape w p = w.toList.sum * c := by
  unfold convSpec
  rw [hsz, ← range_map_getD_toList w 0, ← List.sum_map_mul_right]
  refine congrArg List.sum (List.map_congr_left fun i _ => ?_)
  rw [specSample_const m hm f c hc hs]
  rw [C01.addPos_length_of_eq _ _ (by rw [offsetOf_length, hp, hw]), hp]

theorem convAcc_const (isZero : R → Bool) (hz : ∀ x, isZero x = true → x = 0) (m : Mode) (hm : Extending m)
    (f : Img R) (c : R) (hc : ∀ q, inside f.shape q = true → f.getD q 0 = c) (wshape : List Nat)
    (w : Array R) (p : List Int) (hp : inside f.shape p = true) (hw : wshape.length = f.shape.length)
    (hsz : shapeSize wshape = w.size) :
    convAcc m f (support isZero wshape w) p = w.toList.sum * c :=
  have hs := C01.inside_dims_pos _ _ hp
  ((conv_fold isZero hz m f hs wshape w p _ 0).trans (zero_add _)).trans
    (convSpec_const m hm f c hc hs wshape w p (C01.inside_length hp) hw hsz)

theorem embedShape_length (n axis k : Nat) : (embedShape n axis k).length = n := by
  simp [embedShape]

theorem axisSum_const (m : Mode) (hm : Extending m) (N : Nat) (w : Array R) (c : R) (x : Int) :
    axisSum m N w (fun _ => c) x = w.toList.sum * c := by
  unfold axisSum read1
  rw [← range_map_getD_toList w 0, ← List.sum_map_mul_right]
  refine congrArg List.sum (List.map_congr_left fun j _ => ?_)
  obtain ⟨o, ho⟩ := borderSpec_extending m hm (x + (j : Int) - ((w.size / 2 : Nat) : Int)) (N : Int)
  rw [ho]

end semiring
end Mahotas.C06
