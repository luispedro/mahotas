/-
Rounded arithmetic, shared by the clusters that reason about floating point.

* The standard model on an ordered field: a rounding `fl` with `|fl t − t| ≤ u·|t|`.  An error is carried as a
  factor `c` relative to a bound `B` (`|t − s| ≤ (c − 1)·B`): one rounding turns `c` into `c·(1+u)`
  (`abs_fl_sub_le`, `abs_fl_sub_le_mul`), a recursive summation of `n` approximate terms into `c·(1+u)^n`
  relative to the sum of the magnitudes (`foldl_fl_add`).
* Comparisons made on approximations have the exact outcome when the exact values are further apart than
  the two errors together (`lt_iff_of_close`, `le_iff_of_close`).
* `C05.Rounding`: what the proofs use of IEEE-754 binary64 round-to-nearest (the interface of C05, C07, C13,
  C16; `Proofs/C05Binary64.lean` has a concrete instance), with order reflection on separated arguments
  (`Rounding.le_iff`, `Rounding.lt_iff`) and exactness on the naturals up to `2^53` (`Rounding.exact_nat`).
-/
import Mathlib.Algebra.Order.Field.Basic
import Mathlib.Algebra.Order.Ring.Abs
import Mathlib.Algebra.BigOperators.Group.List.Basic
import Mathlib.Tactic.Ring
import Mathlib.Tactic.Linarith
import Mathlib.Tactic.Positivity
import Mathlib.Data.Rat.Defs
import Mathlib.Algebra.Order.Ring.Cast
import Mathlib.Data.Rat.Cast.Order

namespace Mahotas.Rounded

variable {K : Type} [Field K] [LinearOrder K] [IsStrictOrderedRing K]

theorem lt_iff_of_close {a b x y εa εb : K} (ha : |a - x| ≤ εa) (hb : |b - y| ≤ εb)
    (hm : εa + εb < |x - y|) : a < b ↔ x < y := by
  obtain ⟨a1, a2⟩ := abs_le.1 ha
  obtain ⟨b1, b2⟩ := abs_le.1 hb
  rcases lt_or_ge x y with h | h
  · rw [abs_of_neg (sub_neg.2 h)] at hm
    exact ⟨fun _ => h, fun _ => by linarith⟩
  · rw [abs_of_nonneg (sub_nonneg.2 h)] at hm
    exact ⟨fun h' => by linarith, fun h' => absurd h' (not_lt.2 h)⟩

/-- `heq`: the approximations of equal values are equal, being the same function of both -/
theorem le_iff_of_close {a b x y εa εb : K} (ha : |a - x| ≤ εa) (hb : |b - y| ≤ εb)
    (heq : x = y → a = b) (hm : x ≠ y → εa + εb < |x - y|) : a ≤ b ↔ x ≤ y := by
  rcases eq_or_ne x y with h | h
  · rw [heq h, h]; exact ⟨fun _ => le_rfl, fun _ => le_rfl⟩
  · rw [← not_lt, ← not_lt, lt_iff_of_close hb ha (by rw [add_comm, abs_sub_comm]; exact hm h)]

section
variable {fl : K → K} {u : K} (hu : 0 ≤ u) (hfl : ∀ t, |fl t - t| ≤ u * |t|)
include hu hfl

/-- rounding a computed `t` that is within `e` of a value `s` bounded by `b`: the error grows by the
    factor `1 + u` and gains `u·b` -/
theorem abs_fl_sub_le {t s e b : K} (he : |t - s| ≤ e) (hb : |s| ≤ b) :
    |fl t - s| ≤ (1 + u) * e + u * b := by
  have h1 := abs_sub_le (fl t) t s
  have h2 := abs_add_le (t - s) s
  rw [sub_add_cancel] at h2
  have h3 := mul_le_mul_of_nonneg_left (h2.trans (add_le_add he hb)) hu
  linarith [hfl t]

/-- in units of a bound `B` of the exact value: an error factor `c` becomes `c·(1+u)` -/
theorem abs_fl_sub_le_mul {t s B c : K} (hb : |s| ≤ B) (he : |t - s| ≤ (c - 1) * B) :
    |fl t - s| ≤ (c * (1 + u) - 1) * B :=
  (abs_fl_sub_le hu hfl he hb).trans_eq (by ring)

/-- one step `acc ← fl (acc + p')` against `acc ← acc + p`: the accumulator has error factor `c` relative
    to `A ≥ |S|`, the computed term `p'` a factor `d ≤ c` relative to `|p|` -/
theorem abs_fl_add_sub_le {s S A c p p' d : K} (hdc : d ≤ c) (hA : |S| ≤ A) (hE : |s - S| ≤ (c - 1) * A)
    (hp : |p' - p| ≤ (d - 1) * |p|) :
    |fl (s + p') - (S + p)| ≤ (c * (1 + u) - 1) * (A + |p|) ∧ |S + p| ≤ A + |p| := by
  have hA' : |S + p| ≤ A + |p| := (abs_add_le S p).trans (add_le_add hA le_rfl)
  refine ⟨abs_fl_sub_le_mul hu hfl hA' ?_, hA'⟩
  rw [add_sub_add_comm, mul_add]
  exact (abs_add_le _ _).trans (add_le_add hE (hp.trans
    (mul_le_mul_of_nonneg_right (sub_le_sub_right hdc 1) (abs_nonneg _))))

/-- **Recursive summation of approximate terms.**  The loop `acc ← fl (acc + p' i)` against the exact
    `acc ← acc + p i`, every computed term `p' i` carrying an error factor `d` (`d = 1`: exact terms;
    `d = 1 + u`: one rounded product) and the accumulators starting with an error factor `c ≥ d` relative
    to `A ≥ |S|`: after the loop the factor is `c·(1+u)^n`, relative to `A + Σ|p i|`. -/
theorem foldl_fl_add {ι : Type} (p p' : ι → K) {d : K} (hp : ∀ i, |p' i - p i| ≤ (d - 1) * |p i|)
    (l : List ι) (S s A c : K) (hc1 : 1 ≤ c) (hdc : d ≤ c) (hA : |S| ≤ A) (hE : |s - S| ≤ (c - 1) * A) :
    |l.foldl (fun acc i => fl (acc + p' i)) s - l.foldl (fun acc i => acc + p i) S|
        ≤ (c * (1 + u) ^ l.length - 1) * (A + (l.map fun i => |p i|).sum) ∧
      |l.foldl (fun acc i => acc + p i) S| ≤ A + (l.map fun i => |p i|).sum := by
  induction l generalizing S s A c with
  | nil => exact ⟨by simpa using hE, by simpa using hA⟩
  | cons i l ih =>
    obtain ⟨hE', hA'⟩ := abs_fl_add_sub_le hu hfl hdc hA hE (hp i)
    rw [List.length_cons, pow_succ', ← mul_assoc, List.map_cons, List.sum_cons, ← add_assoc]
    have h1u : 1 ≤ 1 + u := le_add_of_nonneg_right hu
    exact ih _ _ _ _ (one_le_mul_of_one_le_of_one_le hc1 h1u)
      (hdc.trans (le_mul_of_one_le_right (zero_le_one.trans hc1) h1u)) hA' hE'

end

end Mahotas.Rounded

namespace Mahotas.C05

/-- What the proofs use of "round to nearest double": the rounding is monotone, its relative error is at
    most `2^-53` (half an ulp), and integers of magnitude up to `2^53` are representable.
    IEEE-754 binary64 round-to-nearest (the correctly rounded division of `dist_transform`) satisfies all
    three in the normal range (no overflow, no underflow — the abscissae of C05, the first user and the reason for the
    namespace, are `0` or of magnitude between `2^-13` and `2^27` for sides up to `2^12`: `C05_abscissa_normal_range`);
    bit patterns are not modelled. -/
structure Rounding (rnd : ℚ → ℚ) : Prop where
  mono : ∀ x y : ℚ, x ≤ y → rnd x ≤ rnd y
  rel : ∀ x : ℚ, |rnd x - x| ≤ |x| / 2 ^ 53
  exact_int : ∀ k : ℤ, |(k : ℚ)| ≤ 2 ^ 53 → rnd (k : ℚ) = (k : ℚ)

theorem Rounding.close {rnd : ℚ → ℚ} (hr : Rounding rnd) {x B : ℚ} (hx : |x| ≤ B) : |rnd x - x| ≤ B / 2 ^ 53 :=
  (hr.rel x).trans (div_le_div_of_nonneg_right hx (by positivity))

/-- on arguments of magnitude at most `B` that are equal or at least `δ > 2B·2⁻⁵³` apart, a rounding
    reflects the order (the two rounding errors together are at most `2B·2⁻⁵³`) -/
theorem Rounding.le_iff {rnd : ℚ → ℚ} (hr : Rounding rnd) {x y B δ : ℚ} (hx : |x| ≤ B) (hy : |y| ≤ B)
    (hsep : x ≠ y → δ ≤ |x - y|) (hδ : 2 * B / 2 ^ 53 < δ) : rnd x ≤ rnd y ↔ x ≤ y :=
  Rounded.le_iff_of_close (hr.close hx) (hr.close hy) (congrArg rnd)
    fun h => ((add_div _ _ _).symm.trans (by rw [two_mul])).trans_lt (hδ.trans_le (hsep h))

theorem Rounding.lt_iff {rnd : ℚ → ℚ} (hr : Rounding rnd) {x y B δ : ℚ} (hx : |x| ≤ B) (hy : |y| ≤ B)
    (hsep : x ≠ y → δ ≤ |x - y|) (hδ : 2 * B / 2 ^ 53 < δ) : rnd x < rnd y ↔ x < y := by
  rw [← not_le, ← not_le, hr.le_iff hy hx (fun h => abs_sub_comm x y ▸ hsep h.symm) hδ]

theorem Rounding.exact_nat {rnd : ℚ → ℚ} (hr : Rounding rnd) (m : ℕ) (hm : m ≤ 2 ^ 53) : rnd (m : ℚ) = (m : ℚ) :=
  hr.exact_int m (by rw [Int.cast_natCast, Nat.abs_cast]; exact_mod_cast hm)

end Mahotas.C05
