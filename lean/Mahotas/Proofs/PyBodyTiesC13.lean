/-
Ties between the wrappers of `labeled.py` (`labeled_sum`, `labeled_max`, `labeled_min`, `labeled_size`,
`remove_regions_where`, `is_same_labeling`, `bwperim`; regenerated on every run into `Generated/PyBodiesC13.lean`) and the
wrapper definitions of `Model/C13.lean` the driver runs: `foldLen`, `labeledSize`, `removeRegionsWhere`,
`isSameLabelingShaped`, `bwperim`.
-/
import Mahotas.Generated.PyBodiesC13
import Mahotas.Model.C13
import Mahotas.Proofs.ListLemmas

namespace Mahotas
open Mahotas.Generated.Py Mahotas.C13

/-- the primitives of the `labeled` family on the model's data: a value array is its list of values, a label map is
    (shape, labels), an output array is (number of slots, content), a boolean image is (shape, bits).
    `_as_labeled` / `_convert_labeled` keep the labels (their conversions and shape checks belong to the guards),
    `labeled.max()` is the model's `maxOf`, `np.empty(n, dtype)` has `n` slots, the kernels `ksum` / `kmm` are parameters
    (any kernel: they receive the label list and the number of slots), `astype(np.uint32)` reduces modulo 2^32,
    `fullhistogram` is the counting kernel, `np.unique` is the model's `sortedUnique` and `_labeled.remove_regions` the binary
    search of every non-zero label in that sorted array, `np.where(c)` lists the indices of the non-zero entries, `remove_regions` /
    `_labeled.is_same_labeling` / `borders` are the model's kernels (`modeOf` reads the mode string, `offsOf n` the
    neighbourhood of connectivity `n`). -/
abbrev c13Prims (modeOf : String → Mode) (offsOf : Nat → List (List Int))
    (ksum : List Int → List Int → Nat → List Int) (kmm : List Int → List Int → Nat → Bool → List Int) :
    LabeledPrims (List Int) (List Nat × List Int) Unit (Nat × List Int) (List Nat) (List Nat) (List Nat × List Bool)
      (List Int) (List Int) where
  as_labeled := fun _ l => l
  convert_labeled := fun l => l
  max_label := fun l => maxOf l.2
  dtype := fun _ => ()
  shape := fun l => l.1
  shape_ne := fun a b => a != b
  empty := fun n _ => (n.toNat, [])
  k_sum := fun a l buf => (buf.1, ksum a l.2 buf.1)
  k_max_min := fun a l buf isMax => (buf.1, kmm a l.2 buf.1 isMax)
  k_same := fun a b => isSameLabeling a.2 b.2
  astype := fun l _ => (l.1, l.2.map (· % 4294967296))
  uint32 := ()
  fullhistogram := fun l => fullHistogram false l.2
  nonzero_idx := fun c => ((List.range c.length).filter fun i => c.getD i 0 ≠ 0).map fun (i : Nat) => (i : Int)
  remove_regions := fun l r _ => (l.1, removeRegions l.2 r)
  as_labeled_self := fun l _ _ => l
  as_intc := fun r => r
  unique := sortedUnique
  k_remove := fun l r => (l.1, l.2.map fun v => if v ≠ 0 && binarySearch r.toArray v then 0 else v)
  ne0 := fun l => (l.1, l.2.map (· != 0))
  and_ := fun a b => (a.1, (a.2.zip b.2).map fun x => x.1 && x.2)
  borders := fun b n mode => (b.1, bordersModel (modeOf mode) b.1 (b.2.map fun v => if v then 1 else 0) (offsOf n))

theorem pybody_maxOf_nonneg (l : List Int) : 0 ≤ maxOf l := ((foldl_max_le_iff l 0 _).mp (Int.le_refl _)).1

section
variable (modeOf : String → Mode) (offsOf : Nat → List (List Int))
  (ksum : List Int → List Int → Nat → List Int) (kmm : List Int → List Int → Nat → Bool → List Int)

/-- `labeled.labeled_sum`: the kernel is run on `C13.foldLen labels minlength` output slots
    (`labeled.max() + 1`, raised to `minlength` when that is given and larger — Python's `max`) -/
theorem pybody_labeled_labeled_sum_eq_model (a : List Int) (l : List Nat × List Int) (minlength : Option Int) :
    labeled_labeled_sum (c13Prims modeOf offsOf ksum kmm) a l minlength
      = (foldLen l.2 minlength, ksum a l.2 (foldLen l.2 minlength)) := by
  have h0 := pybody_maxOf_nonneg l.2
  cases minlength with
  | none => simp only [labeled_labeled_sum, foldLen]
  | some m =>
    simp only [labeled_labeled_sum, foldLen]
    by_cases h : maxOf l.2 + 1 < m
    · rw [if_pos h, Int.max_eq_right (Int.le_of_lt h)]
    · rw [if_neg h, Int.max_eq_left (by omega)]

/-- `labeled.labeled_max` / `labeled_min`: `labeled.max() + 1` slots, flag `True` / `False` -/
theorem pybody_labeled_labeled_max_eq_model (a : List Int) (l : List Nat × List Int) :
    labeled_labeled_max (c13Prims modeOf offsOf ksum kmm) a l = (foldLen l.2 none, kmm a l.2 (foldLen l.2 none) true) := by
  simp only [labeled_labeled_max, foldLen]

theorem pybody_labeled_labeled_min_eq_model (a : List Int) (l : List Nat × List Int) :
    labeled_labeled_min (c13Prims modeOf offsOf ksum kmm) a l = (foldLen l.2 none, kmm a l.2 (foldLen l.2 none) false) := by
  simp only [labeled_labeled_min, foldLen]

/-- `labeled.labeled_size` = `C13.labeledSize`: `fullhistogram` of the labels reduced modulo 2^32 -/
theorem pybody_labeled_labeled_size_eq_model (l : List Nat × List Int) :
    labeled_labeled_size (c13Prims modeOf offsOf ksum kmm) l = labeledSize l.2 := by
  simp only [labeled_labeled_size, labeledSize]

/-- `labeled.remove_regions_where` = `C13.removeRegionsWhere` -/
theorem pybody_labeled_remove_regions_where_eq_model (l : List Nat × List Int) (c : List Int) (inplace : Bool) :
    labeled_remove_regions_where (c13Prims modeOf offsOf ksum kmm) l c inplace = (l.1, removeRegionsWhere l.2 c) := by
  simp only [labeled_remove_regions_where, removeRegionsWhere]

/-- `labeled.remove_regions` = `C13.removeRegions`: `np.unique` first, then the kernel's binary search -/
theorem pybody_labeled_remove_regions_eq_model (l : List Nat × List Int) (r : List Int) (inplace : Bool) :
    labeled_remove_regions (c13Prims modeOf offsOf ksum kmm) l r inplace = (l.1, removeRegions l.2 r) := by
  simp only [labeled_remove_regions, removeRegions]

/-- `labeled.is_same_labeling` = `C13.isSameLabelingShaped`: maps of different shapes are never the same -/
theorem pybody_labeled_is_same_labeling_eq_model (l0 l1 : List Nat × List Int) :
    labeled_is_same_labeling (c13Prims modeOf offsOf ksum kmm) l0 l1 = isSameLabelingShaped l0.1 l1.1 l0.2 l1.2 := by
  simp only [labeled_is_same_labeling, isSameLabelingShaped]
  by_cases h : l0.1 = l1.1 <;> simp [h]

/-- `bw != 0` as a 0/1 map -/
def pyBinarise (bw : List Int) : List Int := bw.map fun v => if v != 0 then 1 else 0

/-- `labeled.bwperim` = `C13.bwperim` of the BINARISED map: the code first replaces `bw` by `bw != 0`
    and hands *that* to `borders`, then masks with it. (`C13.bwperim` applies `bordersModel` to the map it is given: on a
    map with entries other than 0/1 the two differ — two different non-zero values are no border for the code.) -/
theorem pybody_labeled_bwperim_eq_model (l : List Nat × List Int) (n : Nat) (mode : String) :
    labeled_bwperim (c13Prims modeOf offsOf ksum kmm) l n mode
      = (l.1, bwperim (modeOf mode) l.1 (pyBinarise l.2) (offsOf n)) := by
  simp only [labeled_bwperim, bwperim, pyBinarise, List.map_map]
  congr 1
  rw [List.zip_map_left, List.zip_map_left, List.map_map, List.map_map]
  congr 1
  · funext x
    simp only [Function.comp_apply, Prod.map]
    by_cases h : x.1 = 0 <;> simp [h]

/-- … hence, on a 0/1 map (what the statement of C13 calls a binary image), `C13.bwperim` itself -/
theorem pybody_labeled_bwperim_binary (l : List Nat × List Int) (n : Nat) (mode : String)
    (hbin : ∀ v ∈ l.2, v = 0 ∨ v = 1) :
    labeled_bwperim (c13Prims modeOf offsOf ksum kmm) l n mode = (l.1, bwperim (modeOf mode) l.1 l.2 (offsOf n)) := by
  rw [pybody_labeled_bwperim_eq_model]
  have : pyBinarise l.2 = l.2 := by
    unfold pyBinarise
    conv => rhs; rw [← List.map_id l.2]
    apply List.map_congr_left
    intro v hv
    rcases hbin v hv with h | h <;> subst h <;> rfl
  rw [this]

end

/-- non-vacuity: the slot count follows the largest label and `minlength`; different shapes are never the same labeling -/
example : foldLen [0, 2, 1] none = 3 ∧ foldLen [0, 2, 1] (some 7) = 7 ∧ foldLen [0, 2, 1] (some 2) = 3 ∧
    labeled_is_same_labeling (c13Prims (fun _ => Mode.constant) (fun _ => []) (fun _ _ _ => []) (fun _ _ _ _ => []))
      ([2, 1], [1, 2]) ([1, 2], [1, 2]) = false := by decide

end Mahotas
