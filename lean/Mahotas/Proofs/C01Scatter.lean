/-
Helper lemmas for C01 (dilate): the scatter kernel (fold over pixels in scan order, running
maximum into an array) equals a pointwise maximum — the array disappears from the reasoning:
the kernel is one sequence of stores `out[j] = max(out[j], v)`, and such stores leave in a cell the
maximum of what was stored to it. Last, the gather and the scatter kernel on bool images as 0/1 cells (`Proofs/C01Cells.lean`):
the form in which the fast path and the duality of C02 meet them.
-/
import Mahotas.Proofs.C01
import Mahotas.Proofs.C01Cells
import Mahotas.Proofs.ListLemmas
namespace Mahotas.C01
open Mahotas

/-! ### running maximum over a list -/

/-- maximum of `lo` and the members of `l` (as a left fold, the way the kernels compute it) -/
def listMax (lo : Int) (l : List Int) : Int := l.foldl max lo

theorem listMax_cons (lo x : Int) (l : List Int) : listMax lo (x :: l) = listMax (max lo x) l := rfl

/-- the running maximum by its universal property; the bounds below are its two halves at `w := listMax lo l` -/
theorem listMax_le_iff (lo w : Int) (l : List Int) : listMax lo l ≤ w ↔ lo ≤ w ∧ ∀ x ∈ l, x ≤ w :=
  foldl_max_le_iff l lo w

theorem le_listMax_init (lo : Int) (l : List Int) : lo ≤ listMax lo l :=
  ((listMax_le_iff lo _ l).mp (Int.le_refl _)).1

theorem le_listMax_of_mem (lo : Int) (l : List Int) (x : Int) (h : x ∈ l) : x ≤ listMax lo l :=
  ((listMax_le_iff lo _ l).mp (Int.le_refl _)).2 x h

theorem listMax_le (lo b : Int) (l : List Int) (h0 : lo ≤ b) (h : ∀ x ∈ l, x ≤ b) : listMax lo l ≤ b :=
  (listMax_le_iff lo b l).mpr ⟨h0, h⟩

theorem listMax_mem (lo : Int) (l : List Int) : listMax lo l = lo ∨ listMax lo l ∈ l := by
  induction l generalizing lo with
  | nil => exact Or.inl rfl
  | cons x t ih =>
    rw [listMax_cons]
    rcases ih (max lo x) with h | h
    · rw [h]
      rcases Int.le_total lo x with hx | hx
      · right; rw [Int.max_eq_right hx]; simp
      · left; exact Int.max_eq_left hx
    · right; exact List.mem_cons_of_mem _ h

theorem listMax_le_of_dom (lo : Int) (l1 l2 : List Int) (h : ∀ x ∈ l1, x ≤ lo ∨ ∃ y ∈ l2, x ≤ y) :
    listMax lo l1 ≤ listMax lo l2 :=
  listMax_le _ _ _ (le_listMax_init lo l2) fun x hx => (h x hx).elim
    (fun h => Int.le_trans h (le_listMax_init lo l2))
    fun ⟨y, hy, hxy⟩ => Int.le_trans hxy (le_listMax_of_mem lo l2 y hy)

/-- order independence: two candidate lists that dominate each other (up to `lo`) have the same maximum -/
theorem listMax_eq_of_dom (lo : Int) (l1 l2 : List Int)
    (h12 : ∀ x ∈ l1, x ≤ lo ∨ ∃ y ∈ l2, x ≤ y) (h21 : ∀ y ∈ l2, y ≤ lo ∨ ∃ x ∈ l1, y ≤ x) :
    listMax lo l1 = listMax lo l2 :=
  Int.le_antisymm (listMax_le_of_dom lo l1 l2 h12) (listMax_le_of_dom lo l2 l1 h21)

theorem foldl_max_map {α : Type} (f : α → Int) (l : List α) (lo : Int) :
    l.foldl (fun v x => max v (f x)) lo = listMax lo (l.map f) := by
  unfold listMax; rw [List.foldl_map]

/-! ### the scatter kernel as a sequence of running-maximum stores -/

/-- `if (nval > out[j]) out[j] = nval;` stores the maximum of the cell and `nval` -/
theorem dilateScatter_eq (dt : DT) (shape : List Nat) (hs : ∀ d ∈ shape, 0 < d) (v : Int)
    (p : List Int) (out : Array Int) (kh : List Int × Int) :
    dilateScatter dt shape v p out kh =
      out.setIfInBounds (ravelI shape (clampPos shape (addPos p kh.1)))
        (max (out.getD (ravelI shape (clampPos shape (addPos p kh.1))) dt.lo) (dilateAdd dt v kh.2)) := by
  unfold dilateScatter
  rw [fixPos_nearest shape _ hs]
  simp only
  split
  · next h => rw [Int.max_eq_right (Int.le_of_lt h)]
  · next h => rw [Int.max_eq_left (Int.not_lt.mp h), setIfInBounds_getD_self]

/-- all stores of the scatter kernel in program order: (flat target, `dilate_add(A p, h)`) for every pixel
    `p` that is not the dtype minimum and every entry `(k, h)` of the element -/
def scatStores (dt : DT) (A : Img Int) (sup : List (List Int × Int)) : List (Nat × Int) :=
  (allPos A.shape).flatMap fun p =>
    if A.getD p dt.lo = dt.lo then []
    else sup.map fun kh => (ravelI A.shape (clampPos A.shape (addPos p kh.1)), dilateAdd dt (A.getD p dt.lo) kh.2)

/-- inside the fold every `p` is a pixel, so the sides are positive and `fixPos .nearest` is `clampPos`
    (`inside_dims_pos`) -/
theorem dilateModel_eq_stores (dt : DT) (A : Img Int) (sup : List (List Int × Int)) :
    dilateModel dt A sup =
      (scatStores dt A sup).foldl (fun o w => o.setIfInBounds w.1 (max (o.getD w.1 dt.lo) w.2))
        (Array.replicate A.size dt.lo) := by
  unfold dilateModel scatStores
  rw [List.foldl_flatMap]
  refine foldl_congr_mem _ _ _ (fun out p hp => ?_) _
  have hs := inside_dims_pos A.shape p ((mem_allPos _ _).mp hp)
  simp only
  split
  · rfl
  · rw [List.foldl_map]
    exact foldl_congr_mem _ _ _ (fun o kh _ => dilateScatter_eq dt A.shape hs _ p o kh) _

theorem dilateModel_size (dt : DT) (A : Img Int) (sup : List (List Int × Int)) :
    (dilateModel dt A sup).size = A.size := by
  rw [dilateModel_eq_stores, foldl_storePair_size, Array.size_replicate]

/-- all values a scatter step stores (or tries to store) into cell `i`, in the order the kernel visits them -/
def scatCands (dt : DT) (A : Img Int) (sup : List (List Int × Int)) (i : Nat) : List Int :=
  ((scatStores dt A sup).filter (·.1 == i)).map (·.2)

theorem dilateModel_getD (dt : DT) (A : Img Int) (sup : List (List Int × Int)) (i : Nat) (hi : i < A.size) :
    (dilateModel dt A sup).getD i dt.lo = listMax dt.lo (scatCands dt A sup i) := by
  rw [dilateModel_eq_stores dt A sup]
  refine (foldl_storePair_getD max dt.lo _ _ i (by simpa using hi)).trans ?_
  simp [listMax, scatCands, Array.getD_eq_getD_getElem?, hi]

theorem mem_scatCands (dt : DT) (A : Img Int) (sup : List (List Int × Int)) (i : Nat) (x : Int) :
    x ∈ scatCands dt A sup i ↔
      ∃ p, inside A.shape p = true ∧ A.getD p dt.lo ≠ dt.lo ∧ ∃ kh ∈ sup,
        ravelI A.shape (clampPos A.shape (addPos p kh.1)) = i ∧ x = dilateAdd dt (A.getD p dt.lo) kh.2 := by
  simp only [scatCands, scatStores, List.mem_map, List.mem_filter, List.mem_flatMap, mem_allPos, beq_iff_eq]
  constructor
  · rintro ⟨w, ⟨⟨p, hp, hw⟩, hi⟩, rfl⟩
    by_cases hv : A.getD p dt.lo = dt.lo
    · rw [if_pos hv] at hw; cases hw
    · rw [if_neg hv] at hw
      obtain ⟨kh, hkh, rfl⟩ := List.mem_map.mp hw
      exact ⟨p, hp, hv, kh, hkh, hi, rfl⟩
  · rintro ⟨p, hp, hv, kh, hkh, hi, rfl⟩
    exact ⟨_, ⟨⟨p, hp, by rw [if_neg hv]; exact List.mem_map.mpr ⟨kh, hkh, rfl⟩⟩, hi⟩, rfl⟩

/-- the candidates for the cell of pixel `q`, by positions: the values of the scatter pairs `(p, kh)` whose clamped
    target is `q` (`Reaches` in `Properties/C01.lean`) -/
theorem mem_scatCands_at (dt : DT) (A : Img Int) (sup : List (List Int × Int)) (q : List Int)
    (hq : inside A.shape q = true) (hlen : ∀ kh ∈ sup, kh.1.length = A.shape.length) (x : Int) :
    x ∈ scatCands dt A sup (ravelI A.shape q) ↔
      ∃ p kh, (inside A.shape p = true ∧ kh ∈ sup ∧ A.getD p dt.lo ≠ dt.lo ∧
        clampPos A.shape (addPos p kh.1) = q) ∧ x = dilateAdd dt (A.getD p dt.lo) kh.2 := by
  have ht : ∀ p kh, inside A.shape p = true → kh ∈ sup →
      (ravelI A.shape (clampPos A.shape (addPos p kh.1)) = ravelI A.shape q ↔
        clampPos A.shape (addPos p kh.1) = q) := fun p kh hp hkh =>
    ravelI_clampPos_eq_iff A.shape _ q
      (by rw [addPos_length, inside_length hp, hlen kh hkh, Nat.min_self]; exact Nat.le_refl _) hq
  rw [mem_scatCands]
  constructor
  · rintro ⟨p, hp, hv, kh, hkh, h, rfl⟩
    exact ⟨p, kh, ⟨hp, hkh, hv, (ht p kh hp hkh).mp h⟩, rfl⟩
  · rintro ⟨p, kh, ⟨hp, hkh, hv, h⟩, rfl⟩
    exact ⟨p, hp, hv, kh, hkh, (ht p kh hp hkh).mpr h, rfl⟩

/-! ### scatter against gather -/

/-- the value the gather specification takes from member `kh` at pixel `q` -/
def gatherVal (dt : DT) (A : Img Int) (q : List Int) (kh : List Int × Int) : Int :=
  let a := A.getD (clampPos A.shape (subPos q kh.1)) dt.lo
  if a = dt.lo then dt.lo else if dt.isBool then a else dt.clamp (a + kh.2)

theorem dilateSpecAt_eq (dt : DT) (A : Img Int) (sup : List (List Int × Int)) (q : List Int) :
    dilateSpecAt dt A sup q = listMax dt.lo ((sup.filter (isMember dt)).map (gatherVal dt A q)) := by
  unfold dilateSpecAt
  rw [← foldl_max_map]
  rfl

/-- the scatter value agrees with the specification's arithmetic: for a member `dilate_add` is the
    saturated sum (bool: the pixel itself), for a non-member it is the dtype minimum -/
def ValOK (dt : DT) (A : Img Int) (sup : List (List Int × Int)) : Prop :=
  ∀ kh ∈ sup, ∀ p, inside A.shape p = true → A.getD p dt.lo ≠ dt.lo →
    dilateAdd dt (A.getD p dt.lo) kh.2 =
      if isMember dt kh = true then
        (if dt.isBool then A.getD p dt.lo else dt.clamp (A.getD p dt.lo + kh.2))
      else dt.lo

/-- scatter = gather at `q` as soon as every (source pixel, member) pair that reaches `q` one way is
    dominated by a pair that reaches it the other way through a member of **at least the same height** -/
theorem scatter_eq_gather_at (dt : DT) (A : Img Int) (sup : List (List Int × Int)) (q : List Int)
    (hq : inside A.shape q = true)
    (hlen : ∀ kh ∈ sup, kh.1.length = A.shape.length)
    (hval : ValOK dt A sup)
    (hSG : ∀ p kh, inside A.shape p = true → kh ∈ sup → isMember dt kh = true →
      clampPos A.shape (addPos p kh.1) = q →
      ∃ kh' ∈ sup, isMember dt kh' = true ∧ kh.2 ≤ kh'.2 ∧ clampPos A.shape (subPos q kh'.1) = p)
    (hGS : ∀ kh ∈ sup, isMember dt kh = true →
      ∃ kh' ∈ sup, isMember dt kh' = true ∧ kh.2 ≤ kh'.2 ∧
        clampPos A.shape (addPos (clampPos A.shape (subPos q kh.1)) kh'.1) = q) :
    (dilateModel dt A sup).getD (ravelI A.shape q) dt.lo = dilateSpecAt dt A sup q := by
  have hi : ravelI A.shape q < A.size := ravelI_lt A.shape q hq
  rw [dilateModel_getD dt A sup _ hi, dilateSpecAt_eq]
  apply listMax_eq_of_dom
  · intro x hx
    obtain ⟨p, kh, ⟨hp, hkh, hv, ht⟩, rfl⟩ := (mem_scatCands_at dt A sup q hq hlen x).mp hx
    rw [hval kh hkh p hp hv]
    by_cases hm : isMember dt kh = true
    · right
      obtain ⟨kh', hkh', hm', hh, hg⟩ := hSG p kh hp hkh hm ht
      refine ⟨gatherVal dt A q kh', ?_, ?_⟩
      · exact List.mem_map.mpr ⟨kh', List.mem_filter.mpr ⟨hkh', hm'⟩, rfl⟩
      · simp only [gatherVal, hg, hv, hm, if_true, if_false]
        split
        · exact Int.le_refl _
        · exact dt.clamp_mono _ _ (by omega)
    · left; simp only [hm]; exact Int.le_refl _
  · intro y hy
    obtain ⟨kh, hkh, rfl⟩ := List.mem_map.mp hy
    obtain ⟨hkh, hm⟩ := List.mem_filter.mp hkh
    by_cases hv : A.getD (clampPos A.shape (subPos q kh.1)) dt.lo = dt.lo
    · left; simp only [gatherVal, hv, if_true]; exact Int.le_refl _
    · right
      obtain ⟨kh', hkh', hm', hh, hg⟩ := hGS kh hkh hm
      have hp : inside A.shape (clampPos A.shape (subPos q kh.1)) = true := by
        apply clampPos_inside A.shape _ (inside_dims_pos _ _ hq)
        rw [subPos_length, inside_length hq, hlen kh hkh]; omega
      refine ⟨dilateAdd dt (A.getD (clampPos A.shape (subPos q kh.1)) dt.lo) kh'.2, ?_, ?_⟩
      · exact (mem_scatCands_at dt A sup q hq hlen _).mpr ⟨_, kh', ⟨hp, hkh', hv, hg⟩, rfl⟩
      · rw [hval kh' hkh' _ hp hv]
        simp only [gatherVal, hv, hm', if_true, if_false]
        split
        · exact Int.le_refl _
        · exact dt.clamp_mono _ _ (by omega)

theorem getD_lo_inRange (dt : DT) (A : Img Int) (hlh : dt.lo ≤ dt.hi) (hA : ImageInRange dt A)
    (p : List Int) : dt.InRange (A.getD p dt.lo) := by
  have h := hA p
  unfold Img.getD at h ⊢
  split
  · next hin =>
    simp only [hin, if_true] at h
    rw [Array.getD_eq_getD_getElem?] at h ⊢
    cases hx : A.data[ravelI A.shape p]? with
    | none => simp only [Option.getD_none]; exact ⟨Int.le_refl _, hlh⟩
    | some x => rw [hx] at h; exact h
  · exact ⟨Int.le_refl _, hlh⟩

theorem valOK_of (dt : DT) (hdt : DTypeOK dt) (A : Img Int) (sup : List (List Int × Int))
    (hA : ImageInRange dt A) (hB : AdmissibleElem dt sup) : ValOK dt A sup := by
  intro kh hkh p _ hv
  have hlh : dt.lo ≤ dt.hi := Int.le_trans (hA p).1 (hA p).2
  exact (scalars_ok dt hdt kh _ (getD_lo_inRange dt A hlh hA p) (hB kh hkh).1 (hB kh hkh).2.1 (hB kh hkh).2.2).2 hv

/-! ### the two generic kernels on bool images, as 0/1 cells -/

/-- the Boolean gather erosion is non-zero iff every read is (any image, any set entries) -/
theorem erodeAt_bool_cell (A : Img Int) (sup : List (List Int × Int)) (hsup : ∀ kh ∈ sup, kh.2 ≠ 0)
    (p : List Int) :
    Is01 (erodeAt dtBool A sup p) (∀ kh ∈ sup, readNearest A (addPos p kh.1) ≠ 0) := by
  have he : ∀ a h : Int, erodeSub dtBool a h = if a ≠ 0 ∧ h ≠ 0 then 1 else 0 := fun a h => by
    simp [erodeSub, dtBool]
  unfold erodeAt
  refine (foldl_min_Is01 (fun kh : List Int × Int => erodeSub dtBool (readNearest A (addPos p kh.1)) kh.2) sup
    (fun kh _ => by rw [he]; exact (Is01.ite _).1) dtBool.hi (Or.inr rfl)).congr ?_
  refine (and_iff_right (by decide)).trans (forall₂_congr fun kh hkh => ?_)
  rw [he, (Is01.ite _).2, and_iff_left (hsup kh hkh)]

theorem scatCands_bool (A : Img Int) (sup : List (List Int × Int)) (hB : ∀ kh ∈ sup, kh.2 ≠ 0)
    (i : Nat) (x : Int) (hx : x ∈ scatCands dtBool A sup i) : x = 1 := by
  rw [mem_scatCands] at hx
  obtain ⟨p, _, hv, kh, hkh, _, rfl⟩ := hx
  have hv' : A.getD p 0 ≠ 0 := hv
  show dilateAdd dtBool (A.getD p 0) kh.2 = 1
  unfold dilateAdd
  simp [dtBool, hv', hB kh hkh]

/-- a cell of the generic kernel on a bool image with a compressed element: non-zero iff some non-zero pixel
    scatters onto it -/
theorem dilateModel_bool_cell (A : Img Int) (sup : List (List Int × Int)) (hB : ∀ kh ∈ sup, kh.2 ≠ 0)
    (i : Nat) (hi : i < A.size) :
    Is01 ((dilateModel dtBool A sup).getD i 0)
      (∃ p, inside A.shape p = true ∧ A.getD p 0 ≠ 0 ∧
        ∃ kh ∈ sup, ravelI A.shape (clampPos A.shape (addPos p kh.1)) = i) := by
  have h1 := scatCands_bool A sup hB i
  have hv : (dilateModel dtBool A sup).getD i 0 = listMax 0 (scatCands dtBool A sup i) :=
    dilateModel_getD dtBool A sup i hi
  rw [hv]
  constructor
  · rcases listMax_mem 0 (scatCands dtBool A sup i) with e | e
    · exact Or.inl e
    · exact Or.inr (h1 _ e)
  · constructor
    · intro hne
      obtain ⟨p, hp, hv, kh, hkh, ht, _⟩ := (mem_scatCands dtBool A sup i _).mp
        ((listMax_mem 0 (scatCands dtBool A sup i)).resolve_left hne)
      exact ⟨p, hp, hv, kh, hkh, ht⟩
    · rintro ⟨p, hp, hv, kh, hkh, ht⟩ h0
      have hm := (mem_scatCands dtBool A sup i _).mpr ⟨p, hp, hv, kh, hkh, ht, rfl⟩
      have := le_listMax_of_mem 0 _ _ hm
      rw [h1 _ hm] at this
      omega

end Mahotas.C01
