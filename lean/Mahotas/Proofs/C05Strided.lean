/-
C05 — the flat/strided transliteration of `py_dt` (`dtLine`, `dtPass`, `pyDt`, `passAxis`,
`distanceModel`) computes the coordinate-level passes (`passCoord`, `distanceCoord`) about which the
exactness theorems speak.

A buffer is read as a logical image through an address map that is injective and in bounds on the positions
of a shape (`viewImg`, `AddrOK`). `PassOf s adr oadr G fo r` says that a routine, seen through such views of the
value and origin buffers, computes `G`: sizes kept, logical images after = `G` of the logical images before,
nothing outside the view touched; such statements compose (`PassOf.trans`). One theorem carries the work:
`viewPass_spec`, running `dist_transform` on every line along one axis, each line given by its start, is
`PassOf … (passCoord · ax)`. The two passes of `py_dt` over a strided 2-D view and the per-axis loop of
`distance.py` over the `(1, n)` rows of a C-contiguous array are instances.
-/
import Mahotas.Proofs.C05Nd
import Mahotas.Proofs.ListLemmas
import Mathlib.Tactic.Ring

namespace Mahotas.C05
open Mahotas

theorem writeLine_size (a : Array Int) (addr : Nat → Nat) (vals : Nat → Int) (n : Nat) :
    (writeLine a addr vals n).size = a.size :=
  foldl_set_size addr vals _ a

theorem writeLine_other (a : Array Int) (addr : Nat → Nat) (vals : Nat → Int) (n x : Nat)
    (hx : ∀ q < n, addr q ≠ x) : (writeLine a addr vals n).getD x 0 = a.getD x 0 := by
  rw [Array.getD_eq_getD_getElem?, writeLine, foldl_set_frame addr vals x _ a fun q hq => hx q (List.mem_range.1 hq),
    Array.getD_eq_getD_getElem?]

theorem writeLine_at (a : Array Int) (addr : Nat → Nat) (vals : Nat → Int) (n : Nat)
    (hinj : ∀ q < n, ∀ q' < n, addr q = addr q' → q = q') (hb : ∀ q < n, addr q < a.size)
    (q : Nat) (hq : q < n) : (writeLine a addr vals n).getD (addr q) 0 = vals q := by
  rw [Array.getD_eq_getD_getElem?, writeLine, foldl_set_inj addr vals _ a ?_ q (List.mem_range.2 hq),
    Array.getElem?_eq_getElem (hb q hq)]
  · rfl
  · exact List.Pairwise.imp_of_mem (fun {i j} hi hj hne e =>
      hne (hinj i (List.mem_range.1 hi) j (List.mem_range.1 hj) e)) (List.nodup_range (n := n))

/-- the line `dist_transform` is handed: the cells of `a` at `addr 0, …, addr (n - 1)` -/
def lineA (a : Array Int) (addr : Nat → Nat) (n : Nat) : Array Int :=
  ((List.range n).map fun (t : Nat) => a.getD (addr t) 0).toArray

theorem lineA_size (a : Array Int) (addr : Nat → Nat) (n : Nat) : (lineA a addr n).size = n := by
  simp [lineA]

theorem lineA_congr (a a' : Array Int) (addr : Nat → Nat) (n : Nat)
    (h : ∀ t < n, a.getD (addr t) 0 = a'.getD (addr t) 0) : lineA a addr n = lineA a' addr n := by
  unfold lineA
  congr 1
  apply List.map_congr_left
  intro t ht
  exact h t (List.mem_range.1 ht)

structure LineOK (size : Nat) (addr : Nat → Nat) (n : Nat) : Prop where
  inj : ∀ q < n, ∀ q' < n, addr q = addr q' → q = q'
  inb : ∀ q < n, addr q < size

theorem dtLineA_spec (fo : Array Int × Array Int) (addr oaddr : Nat → Nat) (n : Nat)
    (h1 : LineOK fo.1.size addr n) (h2 : LineOK fo.2.size oaddr n) :
    (dtLineA fo addr oaddr n).1.size = fo.1.size ∧ (dtLineA fo addr oaddr n).2.size = fo.2.size ∧
    (∀ q < n, (dtLineA fo addr oaddr n).1.getD (addr q) 0 =
        valueAt (lineA fo.1 addr n) q (ownerAt (lineA fo.1 addr n) q)) ∧
    (∀ q < n, (dtLineA fo addr oaddr n).2.getD (oaddr q) 0 =
        fo.2.getD (oaddr (ownerAt (lineA fo.1 addr n) q)) 0) ∧
    (∀ x, (∀ q < n, addr q ≠ x) → (dtLineA fo addr oaddr n).1.getD x 0 = fo.1.getD x 0) ∧
    (∀ x, (∀ q < n, oaddr q ≠ x) → (dtLineA fo addr oaddr n).2.getD x 0 = fo.2.getD x 0) := by
  have hown : ∀ q, (owners1d (lineA fo.1 addr n)).toArray.getD q 0 = ownerAt (lineA fo.1 addr n) q := by
    intro q
    simp [ownerAt, Array.getD_eq_getD_getElem?, List.getD_eq_getElem?_getD]
  refine ⟨writeLine_size _ _ _ _, writeLine_size _ _ _ _, ?_, ?_, ?_, ?_⟩
  · intro q hq
    show (writeLine fo.1 addr _ n).getD (addr q) 0 = _
    rw [writeLine_at _ _ _ _ h1.inj h1.inb q hq]
    show valueAt (lineA fo.1 addr n) q ((owners1d (lineA fo.1 addr n)).toArray.getD q 0) = _
    rw [hown]
  · intro q hq
    show (writeLine fo.2 oaddr _ n).getD (oaddr q) 0 = _
    rw [writeLine_at _ _ _ _ h2.inj h2.inb q hq]
    show fo.2.getD (oaddr ((owners1d (lineA fo.1 addr n)).toArray.getD q 0)) 0 = _
    rw [hown]
  · intro x hx
    exact writeLine_other _ _ _ _ _ hx
  · intro x hx
    exact writeLine_other _ _ _ _ _ hx

/-- The same shape of argument as `foldl_blocks` (`Proofs/InPlace.lean`), proved here on its own: the stores are
    bounds-checked array writes (`setIfInBounds`), not writes to a total memory, so sizes have to be carried, and every step
    writes two buffers, the second from what it read in the first. -/
theorem lines_fold_spec (n : Nat) (lines : List ((Nat → Nat) × (Nat → Nat))) (fo : Array Int × Array Int)
    (hok : ∀ l ∈ lines, LineOK fo.1.size l.1 n ∧ LineOK fo.2.size l.2 n)
    (hdis : lines.Pairwise (fun l l' => ∀ t < n, ∀ t' < n, l.1 t ≠ l'.1 t' ∧ l.2 t ≠ l'.2 t')) :
    (lines.foldl (fun acc l => dtLineA acc l.1 l.2 n) fo).1.size = fo.1.size ∧
    (lines.foldl (fun acc l => dtLineA acc l.1 l.2 n) fo).2.size = fo.2.size ∧
    (∀ l ∈ lines, ∀ q < n,
      (lines.foldl (fun acc l => dtLineA acc l.1 l.2 n) fo).1.getD (l.1 q) 0 =
        valueAt (lineA fo.1 l.1 n) q (ownerAt (lineA fo.1 l.1 n) q) ∧
      (lines.foldl (fun acc l => dtLineA acc l.1 l.2 n) fo).2.getD (l.2 q) 0 =
        fo.2.getD (l.2 (ownerAt (lineA fo.1 l.1 n) q)) 0) ∧
    (∀ x, (∀ l ∈ lines, ∀ q < n, l.1 q ≠ x) →
      (lines.foldl (fun acc l => dtLineA acc l.1 l.2 n) fo).1.getD x 0 = fo.1.getD x 0) ∧
    (∀ x, (∀ l ∈ lines, ∀ q < n, l.2 q ≠ x) →
      (lines.foldl (fun acc l => dtLineA acc l.1 l.2 n) fo).2.getD x 0 = fo.2.getD x 0) := by
  induction lines generalizing fo with
  | nil =>
    refine ⟨rfl, rfl, ?_, fun _ _ => rfl, fun _ _ => rfl⟩
    intro l hl; cases hl
  | cons l0 rest ih =>
    obtain ⟨hok0a, hok0b⟩ := hok l0 (List.mem_cons_self)
    obtain ⟨s1, s2, hv, ho, hu1, hu2⟩ := dtLineA_spec fo l0.1 l0.2 n hok0a hok0b
    rw [List.pairwise_cons] at hdis
    obtain ⟨hd0, hdr⟩ := hdis
    have hok' : ∀ l ∈ rest, LineOK (dtLineA fo l0.1 l0.2 n).1.size l.1 n ∧
        LineOK (dtLineA fo l0.1 l0.2 n).2.size l.2 n := by
      intro l hl
      rw [s1, s2]
      exact hok l (List.mem_cons_of_mem _ hl)
    obtain ⟨r1, r2, rv, ru1, ru2⟩ := ih (dtLineA fo l0.1 l0.2 n) hok' hdr
    simp only [List.foldl_cons]
    refine ⟨by rw [r1, s1], by rw [r2, s2], ?_, ?_, ?_⟩
    · intro l hl q hq
      rcases List.mem_cons.1 hl with rfl | hl
      · constructor
        · rw [ru1 (l.1 q) (fun l' hl' q' hq' h => (hd0 l' hl' q hq q' hq').1 h.symm)]
          exact hv q hq
        · rw [ru2 (l.2 q) (fun l' hl' q' hq' h => (hd0 l' hl' q hq q' hq').2 h.symm)]
          exact ho q hq
      · have hline : lineA (dtLineA fo l0.1 l0.2 n).1 l.1 n = lineA fo.1 l.1 n := by
          apply lineA_congr
          intro t ht
          exact hu1 _ (fun q' hq' h => (hd0 l hl q' hq' t ht).1 h)
        obtain ⟨ha, hb⟩ := rv l hl q hq
        rw [hline] at ha hb
        refine ⟨ha, ?_⟩
        rw [hb]
        have hown : ownerAt (lineA fo.1 l.1 n) q < n := by
          have := ownerAt_lt (lineA fo.1 l.1 n) q (by rw [lineA_size]; exact hq)
          rwa [lineA_size] at this
        exact hu2 _ (fun q' hq' h => (hd0 l hl q' hq' _ hown).2 h)
    · intro x hx
      rw [ru1 x (fun l hl => hx l (List.mem_cons_of_mem _ hl))]
      exact hu1 x (hx l0 List.mem_cons_self)
    · intro x hx
      rw [ru2 x (fun l hl => hx l (List.mem_cons_of_mem _ hl))]
      exact hu2 x (hx l0 List.mem_cons_self)

/-- the logical image of shape `s` read from the buffer `a` through the address map `adr` -/
def viewImg (a : Array Int) (s : List Nat) (adr : List Int → Nat) : Img Int :=
  Img.tabulate s fun p => a.getD (adr p) 0

structure AddrOK (size : Nat) (s : List Nat) (adr : List Int → Nat) : Prop where
  inb : ∀ p, inside s p = true → adr p < size
  inj : ∀ p q, inside s p = true → inside s q = true → adr p = adr q → p = q

/-- `dist_transform` on the lines along `ax` that start at the positions `starts` -/
def viewPass (s : List Nat) (ax : Nat) (adr oadr : List Int → Nat) (starts : List (List Int))
    (fo : Array Int × Array Int) : Array Int × Array Int :=
  starts.foldl (fun acc P => dtLineA acc (fun t => adr (P.set ax (t : Int)))
    (fun t => oadr (P.set ax (t : Int))) (s.getD ax 0)) fo

theorem lineOf_viewImg (a : Array Int) (s : List Nat) (adr : List Int → Nat) (p : List Int) (ax : Nat)
    (hp : inside s p = true) :
    lineOf (viewImg a s adr) p ax = lineA a (fun t => adr (p.set ax (t : Int))) (s.getD ax 0) := by
  unfold lineOf lineA
  congr 1
  apply List.map_congr_left
  intro t ht
  exact tabulate_getD _ _ _ _
    (C01.inside_set s p ax t hp (Int.natCast_nonneg t) (Int.ofNat_lt.2 (List.mem_range.1 ht)))

/-- `r` is what a routine leaves of the buffers `fo` when, read through the views `adr`/`oadr` of shape `s`, it
    computes `G`: the sizes are kept, the logical images are `G` of the logical images before, and every element
    outside the view is kept -/
structure PassOf (s : List Nat) (adr oadr : List Int → Nat) (G : Img Int × Img Int → Img Int × Img Int)
    (fo r : Array Int × Array Int) : Prop where
  size1 : r.1.size = fo.1.size
  size2 : r.2.size = fo.2.size
  view : (viewImg r.1 s adr, viewImg r.2 s oadr) = G (viewImg fo.1 s adr, viewImg fo.2 s oadr)
  frame1 : ∀ x, (∀ p, inside s p = true → adr p ≠ x) → r.1.getD x 0 = fo.1.getD x 0
  frame2 : ∀ x, (∀ p, inside s p = true → oadr p ≠ x) → r.2.getD x 0 = fo.2.getD x 0

theorem PassOf.refl {s : List Nat} {adr oadr : List Int → Nat} {fo : Array Int × Array Int} :
    PassOf s adr oadr id fo fo :=
  ⟨rfl, rfl, rfl, fun _ _ => rfl, fun _ _ => rfl⟩

theorem PassOf.trans {s : List Nat} {adr oadr : List Int → Nat} {G G' : Img Int × Img Int → Img Int × Img Int}
    {fo r r' : Array Int × Array Int} (h : PassOf s adr oadr G fo r) (h' : PassOf s adr oadr G' r r') :
    PassOf s adr oadr (G' ∘ G) fo r' :=
  ⟨h'.size1.trans h.size1, h'.size2.trans h.size2, h'.view.trans (congrArg G' h.view),
   fun x hx => (h'.frame1 x hx).trans (h.frame1 x hx), fun x hx => (h'.frame2 x hx).trans (h.frame2 x hx)⟩

/-- only the addresses of the positions of the shape matter -/
theorem PassOf.congr_adr {s : List Nat} {adr oadr adr' oadr' : List Int → Nat}
    {G : Img Int × Img Int → Img Int × Img Int} {fo r : Array Int × Array Int} (h : PassOf s adr oadr G fo r)
    (e1 : ∀ p, inside s p = true → adr p = adr' p) (e2 : ∀ p, inside s p = true → oadr p = oadr' p) :
    PassOf s adr' oadr' G fo r := by
  have v : ∀ a : Array Int, viewImg a s adr = viewImg a s adr' := fun a =>
    tabulate_congr s _ _ fun p hp => by rw [e1 p hp]
  have w : ∀ a : Array Int, viewImg a s oadr = viewImg a s oadr' := fun a =>
    tabulate_congr s _ _ fun p hp => by rw [e2 p hp]
  refine ⟨h.size1, h.size2, ?_, fun x hx => h.frame1 x fun p hp => e1 p hp ▸ hx p hp,
    fun x hx => h.frame2 x fun p hp => e2 p hp ▸ hx p hp⟩
  rw [← v, ← w, ← v, ← w]; exact h.view

theorem AddrOK.congr {size : Nat} {s : List Nat} {adr adr' : List Int → Nat} (h : AddrOK size s adr)
    (e : ∀ p, inside s p = true → adr p = adr' p) : AddrOK size s adr' :=
  ⟨fun p hp => e p hp ▸ h.inb p hp, fun p q hp hq => e p hp ▸ e q hq ▸ h.inj p q hp hq⟩

theorem AddrOK.lineOK {size : Nat} {s : List Nat} {adr : List Int → Nat} (h : AddrOK size s adr) {P : List Int}
    (hP : inside s P = true) {ax : Nat} (hax : ax < s.length) :
    LineOK size (fun t => adr (P.set ax (t : Int))) (s.getD ax 0) := by
  have hset : ∀ t < s.getD ax 0, inside s (P.set ax (t : Int)) = true :=
    fun t ht => C01.inside_set s P ax t hP (Int.natCast_nonneg t) (Int.ofNat_lt.2 ht)
  refine ⟨fun q hq q' hq' e => ?_, fun q hq => h.inb _ (hset q hq)⟩
  have := congrArg (fun l => l.getD ax 0) (h.inj _ _ (hset q hq) (hset q' hq') e)
  simp only [C01.getD_set_self _ _ _ _ (by rw [C01.inside_length hP]; exact hax)] at this
  exact Int.ofNat_inj.1 this

/-- **A pass over a view.** `dist_transform` on the lines along `ax` of any view whose positions have distinct
    addresses inside the buffers, the lines given by a duplicate-free list of starts that covers the axis, computes
    `passCoord · ax` on the logical images. -/
theorem viewPass_spec (s : List Nat) (ax : Nat) (hax : ax < s.length) (adr oadr : List Int → Nat)
    (fo : Array Int × Array Int) (h1 : AddrOK fo.1.size s adr) (h2 : AddrOK fo.2.size s oadr)
    (starts : List (List Int)) (hst : ∀ P ∈ starts, inside s P = true ∧ P.getD ax 0 = 0)
    (hnd : starts.Nodup) (hcov : ∀ p, inside s p = true → p.set ax 0 ∈ starts) :
    PassOf s adr oadr (passCoord · ax) fo (viewPass s ax adr oadr starts fo) := by
  have hset : ∀ P ∈ starts, ∀ t < s.getD ax 0, inside s (P.set ax (t : Int)) = true :=
    fun P hP t ht => C01.inside_set s P ax t (hst P hP).1 (Int.natCast_nonneg t) (Int.ofNat_lt.2 ht)
  have hback : ∀ P ∈ starts, ∀ t : Nat, (P.set ax (t : Int)).set ax 0 = P := fun P hP t => by
    have := set_getD_self P ax
    rwa [(hst P hP).2, ← List.set_set (t : Int)] at this
  have key := lines_fold_spec (s.getD ax 0)
    (starts.map fun P => ((fun t : Nat => adr (P.set ax (t : Int))),
      fun t : Nat => oadr (P.set ax (t : Int)))) fo ?_ ?_
  · rw [List.foldl_map] at key
    obtain ⟨k1, k2, k3, k4, k5⟩ := key
    refine ⟨k1, k2, ?_, fun x hx => k4 x ?_, fun x hx => k5 x ?_⟩
    · -- at the address of `p`: the line through `p` starts at `p.set ax 0`
      have hpix : ∀ p, inside s p = true →
          (viewPass s ax adr oadr starts fo).1.getD (adr p) 0 =
            valueAt (lineOf (viewImg fo.1 s adr) p ax) (p.getD ax 0).toNat
              (ownerAt (lineOf (viewImg fo.1 s adr) p ax) (p.getD ax 0).toNat) ∧
          (viewPass s ax adr oadr starts fo).2.getD (oadr p) 0 =
            (viewImg fo.2 s oadr).getD (p.set ax
              ((ownerAt (lineOf (viewImg fo.1 s adr) p ax) (p.getD ax 0).toNat : Nat) : Int)) 0 := by
        intro p hp
        obtain ⟨h0, hlt⟩ := C01.inside_getD s p ax hp hax
        have hq : (p.getD ax 0).toNat < s.getD ax 0 := by omega
        have hP := k3 _ (List.mem_map.2 ⟨_, hcov p hp, rfl⟩) _ hq
        simp only [List.set_set, Int.toNat_of_nonneg h0, set_getD_self] at hP
        rw [lineOf_viewImg fo.1 s adr p ax hp]
        refine ⟨hP.1, hP.2.trans (tabulate_getD s (fun p => fo.2.getD (oadr p) 0) _ 0
          (C01.inside_set s p ax _ hp (Int.natCast_nonneg _) (Int.ofNat_lt.2 ?_))).symm⟩
        have := ownerAt_lt (lineA fo.1 (fun t => adr (p.set ax (t : Int))) (s.getD ax 0)) _
          (by rw [lineA_size]; exact hq)
        rwa [lineA_size] at this
      exact Prod.ext (tabulate_congr s _ _ fun p hp => (hpix p hp).1)
        (tabulate_congr s _ _ fun p hp => (hpix p hp).2)
    · intro l hl q hq
      obtain ⟨P, hP, rfl⟩ := List.mem_map.1 hl
      exact hx _ (hset P hP q hq)
    · intro l hl q hq
      obtain ⟨P, hP, rfl⟩ := List.mem_map.1 hl
      exact hx _ (hset P hP q hq)
  · intro l hl
    obtain ⟨P, hP, rfl⟩ := List.mem_map.1 hl
    exact ⟨h1.lineOK (hst P hP).1 hax, h2.lineOK (hst P hP).1 hax⟩
  · -- lines with different starts are disjoint: a common element would have both starts as its start
    rw [List.pairwise_map]
    refine List.Pairwise.imp_of_mem ?_ hnd
    intro P P' hP hP' hne t ht t' ht'
    have hd : P.set ax (t : Int) ≠ P'.set ax (t' : Int) := fun h => hne (by
      rw [← hback P hP t, ← hback P' hP' t', h])
    exact ⟨fun h => hd (h1.inj _ _ (hset P hP t ht) (hset P' hP' t' ht') h),
           fun h => hd (h2.inj _ _ (hset P hP t ht) (hset P' hP' t' ht') h)⟩

/-- address of the logical element `(i, j)` of a 2-D view: data pointer `b`, element strides `s0`, `s1` -/
def addr2 (b s0 s1 : Int) (i j : Nat) : Nat := (b + (i : Int) * s0 + (j : Int) * s1).toNat

/-- what numpy guarantees about a (non-overlapping) view of shape `(d0, d1)` into a buffer of `size`
elements: every element address is inside the buffer and distinct elements have distinct addresses.
Strides may be negative, zero is impossible unless the axis has length 1, any order. -/
structure ViewOK (size d0 d1 : Nat) (b s0 s1 : Int) : Prop where
  inb : ∀ i < d0, ∀ j < d1, 0 ≤ b + (i : Int) * s0 + (j : Int) * s1 ∧
      b + (i : Int) * s0 + (j : Int) * s1 < (size : Int)
  inj : ∀ i < d0, ∀ j < d1, ∀ i' < d0, ∀ j' < d1,
      b + (i : Int) * s0 + (j : Int) * s1 = b + (i' : Int) * s0 + (j' : Int) * s1 → i = i' ∧ j = j'

/-- the logical image seen through the view -/
def logical2 (a : Array Int) (d0 d1 : Nat) (b s0 s1 : Int) : Img Int :=
  Img.tabulate [d0, d1] fun p => a.getD (addr2 b s0 s1 (p.getD 0 0).toNat (p.getD 1 0).toNat) 0

theorem inside2 (d0 d1 : Nat) (p : List Int) (hp : inside [d0, d1] p = true) :
    ∃ i j : Nat, i < d0 ∧ j < d1 ∧ p = [(i : Int), (j : Int)] := by
  obtain ⟨a, c, rfl⟩ := List.length_eq_two.1 (C01.inside_length hp)
  obtain ⟨⟨ha0, ha1⟩, hp⟩ := (C01.inside_cons _ _ _ _).1 hp
  obtain ⟨⟨hc0, hc1⟩, _⟩ := (C01.inside_cons _ _ _ _).1 hp
  exact ⟨a.toNat, c.toNat, by omega, by omega, by
    rw [Int.toNat_of_nonneg ha0, Int.toNat_of_nonneg hc0]⟩

/-- the address map of a 2-D view, on positions -/
def posAddr2 (b s0 s1 : Int) (p : List Int) : Nat := addr2 b s0 s1 (p.getD 0 0).toNat (p.getD 1 0).toNat

theorem posAddr2_mk (b s0 s1 : Int) (i j : Nat) : posAddr2 b s0 s1 [(i : Int), (j : Int)] = addr2 b s0 s1 i j := rfl

theorem posAddr2_ne {d0 d1 : Nat} {b s0 s1 : Int} {x : Nat} (hx : ∀ i < d0, ∀ j < d1, addr2 b s0 s1 i j ≠ x)
    (p : List Int) (hp : inside [d0, d1] p = true) : posAddr2 b s0 s1 p ≠ x := by
  obtain ⟨i, j, hi, hj, rfl⟩ := inside2 d0 d1 p hp
  exact hx i hi j hj

theorem ViewOK.addrOK {size d0 d1 : Nat} {b s0 s1 : Int} (h : ViewOK size d0 d1 b s0 s1) :
    AddrOK size [d0, d1] (posAddr2 b s0 s1) := by
  constructor
  · intro p hp
    obtain ⟨i, j, hi, hj, rfl⟩ := inside2 d0 d1 p hp
    have := h.inb i hi j hj
    rw [posAddr2_mk]; unfold addr2; omega
  · intro p q hp hq he
    obtain ⟨i, j, hi, hj, rfl⟩ := inside2 d0 d1 p hp
    obtain ⟨i', j', hi', hj', rfl⟩ := inside2 d0 d1 q hq
    have h1 := h.inb i hi j hj
    have h2 := h.inb i' hi' j' hj'
    rw [posAddr2_mk, posAddr2_mk] at he
    obtain ⟨rfl, rfl⟩ := h.inj i hi j hj i' hi' j' hj' (by unfold addr2 at he; omega)
    rfl

/-- the pass of `py_dt` along axis 0 runs over the lines that start at `(0, j)` … -/
theorem dtPass_axis0 (fo : Array Int × Array Int) (d0 d1 : Nat) (b s0 s1 ob os0 os1 : Int) :
    dtPass fo d0 d1 b s0 s1 ob os0 os1 = viewPass [d0, d1] 0 (posAddr2 b s0 s1) (posAddr2 ob os0 os1)
      ((List.range d1).map fun j : Nat => [(0 : Int), (j : Int)]) fo := by
  have h : ∀ (b s0 s1 : Int) (j t : Nat), lineAddr (b + (j : Int) * s1) s0 t = addr2 b s0 s1 t j :=
    fun b s0 s1 j t => by unfold lineAddr addr2; congr 1; ring
  unfold dtPass viewPass dtLine
  rw [List.foldl_map]
  congr 1
  funext acc j
  congr 1 <;> exact funext (h _ _ _ j)

/-- … and the pass along axis 1 over those that start at `(i, 0)` -/
theorem dtPass_axis1 (fo : Array Int × Array Int) (d0 d1 : Nat) (b s0 s1 ob os0 os1 : Int) :
    dtPass fo d1 d0 b s1 s0 ob os1 os0 = viewPass [d0, d1] 1 (posAddr2 b s0 s1) (posAddr2 ob os0 os1)
      ((List.range d0).map fun i : Nat => [(i : Int), (0 : Int)]) fo := by
  unfold dtPass viewPass
  rw [List.foldl_map]
  rfl

/-- **`py_dt` on an arbitrary strided 2-D view** computes the two coordinate-level passes, one after the other,
on the logical images and leaves everything outside the view untouched. -/
theorem pyDt_logical (fo : Array Int × Array Int) (d0 d1 : Nat) (b s0 s1 ob os0 os1 : Int)
    (hd0 : 0 < d0) (hd1 : 0 < d1)
    (hv : AddrOK fo.1.size [d0, d1] (posAddr2 b s0 s1)) (ho : AddrOK fo.2.size [d0, d1] (posAddr2 ob os0 os1)) :
    PassOf [d0, d1] (posAddr2 b s0 s1) (posAddr2 ob os0 os1) ((passCoord · 1) ∘ (passCoord · 0)) fo
      (pyDt fo d0 d1 b s0 s1 ob os0 os1) := by
  have hpy : pyDt fo d0 d1 b s0 s1 ob os0 os1 =
      dtPass (dtPass fo d0 d1 b s0 s1 ob os0 os1) d1 d0 b s1 s0 ob os1 os0 := by
    unfold pyDt
    rw [if_neg (by simpa using ⟨hd0.ne', hd1.ne'⟩), Nat.mul_div_cancel_left d1 hd0,
      Nat.mul_div_cancel d0 hd1]
  rw [hpy, dtPass_axis1 _ d0 d1 b s0 s1 ob os0 os1, dtPass_axis0 fo d0 d1 b s0 s1 ob os0 os1]
  have a := viewPass_spec [d0, d1] 0 Nat.zero_lt_two _ _ fo hv ho
    ((List.range d1).map fun j : Nat => [(0 : Int), (j : Int)])
    (fun P hP => by
      obtain ⟨j, hj, rfl⟩ := List.mem_map.1 hP
      exact ⟨C01.inside2_mk d0 d1 0 j hd0 (List.mem_range.1 hj), rfl⟩)
    (List.Pairwise.map _ (fun j j' hne h => hne (by simpa using h)) List.nodup_range)
    (fun p hp => by
      obtain ⟨i, j, hi, hj, rfl⟩ := inside2 d0 d1 p hp
      exact List.mem_map.2 ⟨j, List.mem_range.2 hj, rfl⟩)
  exact a.trans (viewPass_spec [d0, d1] 1 Nat.one_lt_two _ _ _ (a.size1 ▸ hv) (a.size2 ▸ ho)
    ((List.range d0).map fun i : Nat => [(i : Int), (0 : Int)])
    (fun P hP => by
      obtain ⟨i, hi, rfl⟩ := List.mem_map.1 hP
      exact ⟨C01.inside2_mk d0 d1 i 0 (List.mem_range.1 hi) hd1, rfl⟩)
    (List.Pairwise.map _ (fun i i' hne h => hne (by simpa using h)) List.nodup_range)
    (fun p hp => by
      obtain ⟨i, j, hi, hj, rfl⟩ := inside2 d0 d1 p hp
      exact List.mem_map.2 ⟨i, List.mem_range.2 hi, rfl⟩))

theorem ravelI_set (shape : List Nat) (p : List Int) (ax : Nat) (t : Int) (hp : ax < p.length)
    (hs : ax < shape.length) :
    ravelI shape (p.set ax t) = ravelI shape (p.set ax 0) + t.toNat * strideOf shape ax := by
  induction shape generalizing p ax with
  | nil => exact absurd hs (Nat.not_lt_zero ax)
  | cons d ds ih =>
    cases p with
    | nil => exact absurd hp (Nat.not_lt_zero ax)
    | cons a ps =>
      cases ax with
      | zero =>
        show t.toNat * shapeSize ds + ravelI ds ps = (0 : Int).toNat * shapeSize ds + ravelI ds ps + t.toNat * shapeSize ds
        rw [Int.toNat_zero, Nat.zero_mul, Nat.zero_add, Nat.add_comm]
      | succ k =>
        show a.toNat * shapeSize ds + ravelI ds (ps.set k t) =
          a.toNat * shapeSize ds + ravelI ds (ps.set k 0) + t.toNat * strideOf ds k
        rw [ih ps k (Nat.lt_of_succ_lt_succ hp) (Nat.lt_of_succ_lt_succ hs), Nat.add_assoc]

theorem owners1d_single (x : Int) : owners1d #[x] = [0] := by
  simp [owners1d, readOwners, build, advance, headV, List.range_succ]

theorem dtLineA_one (fo : Array Int × Array Int) (addr oaddr : Nat → Nat) : dtLineA fo addr oaddr 1 = fo := by
  unfold dtLineA
  simp only [List.range_succ, List.range_zero, List.nil_append, List.map_cons, List.map_nil, owners1d_single]
  unfold writeLine
  simp only [List.range_succ, List.range_zero, List.nil_append, List.foldl_cons, List.foldl_nil]
  apply Prod.ext
  · show fo.1.setIfInBounds (addr 0) (valueAt #[fo.1.getD (addr 0) 0] 0 (#[0].getD 0 0)) = fo.1
    have : valueAt #[fo.1.getD (addr 0) 0] 0 (#[0].getD 0 0) = fo.1.getD (addr 0) 0 := by
      simp [valueAt]
    rw [this, C01.setIfInBounds_getD_self]
  · show fo.2.setIfInBounds (oaddr 0) (fo.2.getD (oaddr (#[0].getD 0 0)) 0) = fo.2
    have : (#[0] : Array Nat).getD 0 0 = 0 := rfl
    rw [this, C01.setIfInBounds_getD_self]

theorem pyDt_row (fo : Array Int × Array Int) (n i st : Nat) :
    pyDt fo 1 n (i : Int) 0 (st : Int) (i : Int) 0 (st : Int) =
      dtLineA fo (fun t => i + t * st) (fun t => i + t * st) n := by
  -- without a pixel `py_dt` returns at once, and a line of no elements changes nothing
  rcases Nat.eq_zero_or_pos n with rfl | hn
  · rfl
  have ha : ∀ t, lineAddr ((i : Int) + ((0 : Nat) : Int) * 0) (st : Int) t = i + t * st := fun t => by
    unfold lineAddr
    rw [show (i : Int) + ((0 : Nat) : Int) * 0 + (t : Int) * st = ((i + t * st : Nat) : Int) by
      push_cast; ring, Int.toNat_natCast]
  -- the pass along the axis of length 1 changes nothing; the other pass has the one line
  have h1 : dtPass fo 1 n (i : Int) 0 (st : Int) (i : Int) 0 (st : Int) = fo :=
    List.foldl_fixed' (fun _ => dtLineA_one _ _ _) _
  rw [pyDt, if_neg (by simpa using hn.ne'), Nat.one_mul, Nat.div_one, Nat.div_self hn, h1]
  show dtLineA fo (lineAddr _ _) (lineAddr _ _) n = _
  rw [funext ha]

theorem getD_one_eq (l : List Nat) (ax : Nat) (h : ax < l.length) : l.getD ax 1 = l.getD ax 0 := by
  simp [List.getD_eq_getElem?_getD, List.getElem?_eq_getElem h]

theorem lineStart_addr (shape : List Nat) (ax : Nat) (hax : ax < shape.length) (i : Nat)
    (hi : i < shapeSize shape) (hz : (unravel shape i).getD ax 0 = 0) (t : Nat) :
    i + t * strideOf shape ax = ravelI shape ((unravelI shape i).set ax (t : Int)) := by
  have hin := C01.inside_unravelI shape i hi
  have hrav := C01.ravelI_unravelI shape i hi
  have hl := C01.inside_length hin
  rw [ravelI_set shape _ ax t (by omega) hax]
  have h0 : (unravelI shape i).set ax 0 = unravelI shape i := by
    have := set_getD_self (unravelI shape i) ax
    rw [unravelI_getD, hz] at this
    exact this
  rw [h0, hrav]
  simp

theorem tab_ravel_data (a : Array Int) (s : List Nat) (h : a.size = shapeSize s) :
    (viewImg a s (ravelI s)).data = a := by
  apply array_ext_getD 0
  · rw [viewImg, Img.tabulate_data_size, h]
  · intro x hx
    rw [viewImg, Img.tabulate_data_size] at hx
    rw [viewImg, Img.tabulate_data_getD _ _ x 0 hx, C01.ravelI_unravelI s x hx]

theorem viewImg_ravel (A : Img Int) (s : List Nat) (hA : A.shape = s)
    (hs : A.data.size = shapeSize s) : viewImg A.data s (ravelI s) = A := by
  obtain ⟨sh, da⟩ := A
  subst hA
  show Img.mk sh _ = Img.mk sh da
  congr 1
  exact tab_ravel_data da sh hs

theorem addrOK_ravelI (s : List Nat) : AddrOK (shapeSize s) s (ravelI s) :=
  ⟨C01.ravelI_lt s, C01.ravelI_inj s⟩

/-- the first elements of the lines along `ax`, in the `np.ndindex` order of the remaining axes -/
def lineStarts (shape : List Nat) (ax : Nat) : List (List Int) :=
  ((List.range (shapeSize shape)).filter fun i => (unravel shape i).getD ax 0 == 0).map (unravelI shape)

theorem lineStarts_spec (shape : List Nat) (ax : Nat) (hax : ax < shape.length) :
    (∀ P ∈ lineStarts shape ax, inside shape P = true ∧ P.getD ax 0 = 0) ∧
    (lineStarts shape ax).Nodup ∧
    ∀ p, inside shape p = true → p.set ax 0 ∈ lineStarts shape ax := by
  refine ⟨fun P hP => ?_, ?_, fun p hp => ?_⟩
  · obtain ⟨i, hi, rfl⟩ := List.mem_map.1 hP
    obtain ⟨hi1, hi2⟩ := List.mem_filter.1 hi
    refine ⟨C01.inside_unravelI shape i (List.mem_range.1 hi1), ?_⟩
    rw [unravelI_getD, beq_iff_eq.1 hi2]; rfl
  · refine List.pairwise_map.2 ((List.nodup_range.filter _).imp_of_mem fun ha hb hne h => hne ?_)
    rw [← C01.ravelI_unravelI shape _ (List.mem_range.1 (List.mem_filter.1 ha).1), h,
      (C01.ravelI_unravelI shape _ (List.mem_range.1 (List.mem_filter.1 hb).1))]
  · obtain ⟨h0, h1⟩ := C01.inside_getD shape p ax hp hax
    have hp0 : inside shape (p.set ax 0) = true := C01.inside_set shape p ax 0 hp le_rfl (by omega)
    have hu := C01.unravelI_ravelI shape _ hp0
    refine List.mem_map.2 ⟨ravelI shape (p.set ax 0),
      List.mem_filter.2 ⟨List.mem_range.2 (C01.ravelI_lt shape _ hp0), ?_⟩, hu⟩
    have := unravelI_getD shape (ravelI shape (p.set ax 0)) ax
    rw [hu, C01.getD_set_self p ax 0 0 (by rw [C01.inside_length hp]; exact hax)] at this
    exact beq_iff_eq.2 (Int.ofNat_eq_zero.1 this.symm)

/-- the loop of `distance.py` over the `(1, n)` row views of one axis is a pass over the C-order view -/
theorem passAxis_eq_viewPass (shape : List Nat) (ax : Nat) (hax : ax < shape.length)
    (fo : Array Int × Array Int) :
    passAxis shape ax fo = viewPass shape ax (ravelI shape) (ravelI shape) (lineStarts shape ax) fo := by
  unfold passAxis viewPass lineStarts
  rw [List.foldl_map, List.foldl_filter]
  apply List.foldl_ext
  intro acc i hi
  have hi := List.mem_range.1 hi
  by_cases hc : (unravel shape i).getD ax 0 = 0
  · rw [if_neg (by rw [hc]; decide), if_pos (by rw [hc]; rfl), pyDt_row _ _ _ _, getD_one_eq shape ax hax]
    congr 1 <;> exact funext (lineStart_addr shape ax hax i hi hc)
  · rw [if_pos (bne_iff_ne.2 hc), if_neg (by rw [beq_iff_eq]; exact hc)]

def GoodPair (shape : List Nat) (FO : Img Int × Img Int) : Prop :=
  FO.1.shape = shape ∧ FO.2.shape = shape ∧ FO.1.data.size = shapeSize shape ∧ FO.2.data.size = shapeSize shape

/-- through the C-order view of full buffers, a routine that computes `G` returns the data of `G` -/
theorem PassOf.data_eq {s : List Nat} {G : Img Int × Img Int → Img Int × Img Int} {A O : Img Int}
    {r : Array Int × Array Int} (h : PassOf s (ravelI s) (ravelI s) G (A.data, O.data) r)
    (hg : GoodPair s (A, O)) : r = ((G (A, O)).1.data, (G (A, O)).2.data) := by
  obtain ⟨g1, g2, g3, g4⟩ := hg
  have v := h.view
  rw [viewImg_ravel A s g1 g3, viewImg_ravel O s g2 g4] at v
  rw [← v]
  exact Prod.ext (tab_ravel_data _ _ (h.size1.trans g3)).symm (tab_ravel_data _ _ (h.size2.trans g4)).symm

theorem passAxis_spec (shape : List Nat) (ax : Nat) (hax : ax < shape.length) (fo : Array Int × Array Int)
    (h1 : fo.1.size = shapeSize shape) (h2 : fo.2.size = shapeSize shape) :
    PassOf shape (ravelI shape) (ravelI shape) (passCoord · ax) fo (passAxis shape ax fo) := by
  obtain ⟨hst, hnd, hcov⟩ := lineStarts_spec shape ax hax
  rw [passAxis_eq_viewPass shape ax hax]
  exact viewPass_spec shape ax hax _ _ fo (h1 ▸ addrOK_ravelI shape) (h2 ▸ addrOK_ravelI shape) _ hst hnd hcov

theorem passAxis_coord (shape : List Nat) (ax : Nat) (hax : ax < shape.length) (A O : Img Int)
    (hA : A.shape = shape) (hO : O.shape = shape)
    (hAs : A.data.size = shapeSize shape) (hOs : O.data.size = shapeSize shape) :
    passAxis shape ax (A.data, O.data) = ((passCoord (A, O) ax).1.data, (passCoord (A, O) ax).2.data) :=
  (passAxis_spec shape ax hax (A.data, O.data) hAs hOs).data_eq ⟨hA, hO, hAs, hOs⟩

/-- the loop of `distance.py` over the axes `0 … k-1` -/
theorem passes_spec (shape : List Nat) (k : Nat) (hk : k ≤ shape.length) (fo : Array Int × Array Int)
    (h1 : fo.1.size = shapeSize shape) (h2 : fo.2.size = shapeSize shape) :
    PassOf shape (ravelI shape) (ravelI shape) (fun FO => (List.range k).foldl passCoord FO) fo
      ((List.range k).foldl (fun fo ax => passAxis shape ax fo) fo) := by
  induction k with
  | zero => exact PassOf.refl
  | succ k ih =>
    have a := ih (by omega)
    simp only [List.range_succ, List.foldl_append, List.foldl_cons, List.foldl_nil]
    exact a.trans (passAxis_spec shape k (by omega) _ (a.size1.trans h1) (a.size2.trans h2))

theorem passCoord_good (shape : List Nat) (FO : Img Int × Img Int) (ax : Nat) (h : GoodPair shape FO) :
    GoodPair shape (passCoord FO ax) := by
  obtain ⟨h1, _, _, _⟩ := h
  refine ⟨?_, ?_, ?_, ?_⟩
  · show (Img.tabulate FO.1.shape _).shape = shape; exact h1
  · show (Img.tabulate FO.1.shape _).shape = shape; exact h1
  · show (Img.tabulate FO.1.shape _).data.size = _; rw [Img.tabulate_data_size, h1]
  · show (Img.tabulate FO.1.shape _).data.size = _; rw [Img.tabulate_data_size, h1]

theorem initCoord_good (shape : List Nat) (bw : Array Int) : GoodPair shape (initCoord shape bw) :=
  ⟨rfl, rfl, Img.tabulate_data_size _ _, Img.tabulate_data_size _ _⟩

theorem distanceCoord_good (shape : List Nat) (bw : Array Int) : GoodPair shape (distanceCoord shape bw) :=
  foldl_inv (GoodPair shape) passCoord (fun FO ax h => passCoord_good shape FO ax h) _ _ (initCoord_good shape bw)

theorem init_flat (shape : List Nat) (bw : Array Int) (hsz : bw.size = shapeSize shape) :
    (bw.map fun b => if b == 0 then 0 else sentinel shape) = (initCoord shape bw).1.data ∧
    ((List.range (shapeSize shape)).map fun (i : Nat) => (i : Int)).toArray = (initCoord shape bw).2.data := by
  constructor
  · apply array_ext_getD 0
    · rw [Array.size_map, hsz]; exact (Img.tabulate_data_size _ _).symm
    · intro x hx
      rw [Array.size_map] at hx
      have hx' : x < shapeSize shape := by omega
      show _ = (Img.tabulate shape _).data.getD x 0
      rw [Img.tabulate_data_getD _ _ x 0 hx', C01.ravelI_unravelI shape x hx']
      simp [Array.getD_eq_getD_getElem?, hx]
  · apply array_ext_getD 0
    · rw [(initCoord_good shape bw).2.2.2]; simp
    · intro x hx
      have hx' : x < shapeSize shape := by simpa using hx
      show _ = (Img.tabulate shape _).data.getD x 0
      rw [Img.tabulate_data_getD _ _ x 0 hx', C01.ravelI_unravelI shape x hx']
      simp [Array.getD_eq_getD_getElem?, List.getElem?_range hx']

theorem addrC_eq (d0 d1 i j : Nat) :
    (0 : Int) + (i : Int) * (d1 : Int) + (j : Int) * 1 = ((ravelI [d0, d1] [(i : Int), (j : Int)] : Nat) : Int) := by
  simp only [ravelI, Int.toNat_natCast, shapeSize]
  push_cast
  ring

theorem addr2_C (d0 d1 : Nat) (p : List Int) (hp : inside [d0, d1] p = true) :
    addr2 0 (d1 : Int) 1 (p.getD 0 0).toNat (p.getD 1 0).toNat = ravelI [d0, d1] p := by
  obtain ⟨i, j, hi, hj, rfl⟩ := inside2 d0 d1 p hp
  show (0 + (i : Int) * (d1 : Int) + (j : Int) * 1).toNat = _
  rw [addrC_eq d0, Int.toNat_natCast]

theorem passAxis_of_size_zero (shape : List Nat) (ax : Nat) (fo : Array Int × Array Int)
    (h : shapeSize shape = 0) : passAxis shape ax fo = fo := by
  unfold passAxis
  rw [h]
  rfl

/-- **the flat/strided model of `distance()` / `gvoronoi` equals the coordinate-level passes**, for
every rank and shape (empty arrays included) -/
theorem distanceModel_eq_coord (shape : List Nat) (bw : Array Int) (hsz : bw.size = shapeSize shape) :
    distanceModel shape bw = ((distanceCoord shape bw).1.data, (distanceCoord shape bw).2.data) := by
  obtain ⟨hf0, ho0⟩ := init_flat shape bw hsz
  have hg := initCoord_good shape bw
  have hgen := (passes_spec shape shape.length le_rfl ((initCoord shape bw).1.data, (initCoord shape bw).2.data)
    hg.2.2.1 hg.2.2.2).data_eq hg
  unfold distanceModel
  simp only [hf0, ho0]
  split
  · next d0 d1 =>
    by_cases hz : d0 * d1 = 0
    · -- nothing to do: `py_dt` returns at once, and so does every row loop
      have hS : shapeSize [d0, d1] = 0 := by simpa [shapeSize] using hz
      refine Eq.trans ?_ hgen
      show pyDt _ d0 d1 _ _ _ _ _ _ = passAxis [d0, d1] 1 (passAxis [d0, d1] 0 _)
      rw [pyDt, if_pos (by rw [hz]; rfl), passAxis_of_size_zero _ _ _ hS, passAxis_of_size_zero _ _ _ hS]
    · have hd0 : 0 < d0 := Nat.pos_of_ne_zero fun h => hz (by rw [h, Nat.zero_mul])
      have hd1 : 0 < d1 := Nat.pos_of_ne_zero fun h => hz (by rw [h, Nat.mul_zero])
      -- on the positions of the shape the C-contiguous view is the C-order numbering
      have hC : AddrOK (shapeSize [d0, d1]) [d0, d1] (posAddr2 0 (d1 : Int) 1) :=
        (addrOK_ravelI [d0, d1]).congr fun p hp => (addr2_C d0 d1 p hp).symm
      exact ((pyDt_logical _ d0 d1 0 (d1 : Int) 1 0 (d1 : Int) 1 hd0 hd1 (hg.2.2.1 ▸ hC)
        (hg.2.2.2 ▸ hC)).congr_adr (addr2_C d0 d1) (addr2_C d0 d1)).data_eq hg
  · exact hgen

end Mahotas.C05
