/-
C13 — per-label folds: slot `l` of `labeled_foldl` (and bin `l` of `compute_histogram`) is the fold over exactly the entries
with key `l` (`replicate_fold_slot`, `labeledFold_slot`). Each instance — wrapped sum, `or`, maximum / minimum, count — is
then one fact about the fold of a list.
-/
import Mahotas.Model.C13
import Mahotas.Proofs.DType
import Mahotas.Proofs.ListLemmas
import Mahotas.Proofs.FoldOrder
import Mathlib.Order.Basic
import Mathlib.Order.Lattice
import Mathlib.Algebra.Order.Group.Int
import Mathlib.Tactic.Linarith
import Mathlib.Algebra.BigOperators.Group.List.Basic
namespace Mahotas.C13
open Mahotas

/-- core's `List.foldl_filter` for a test given as a proposition, so that it rewrites the `if` of the models -/
theorem foldl_filter {ι α : Type} (c : ι → Prop) [DecidablePred c] (g : α → ι → α) (l : List ι) (e : α) :
    l.foldl (fun a i => if c i then g a i else a) e = (l.filter fun i => c i).foldl g e := by
  rw [List.foldl_filter]
  simp only [decide_eq_true_eq]

/-- slot `s` of a fold of `modify (key i) (g i)` over a fresh array: it sees exactly the entries with key `s` -/
theorem replicate_fold_slot {ι β : Type} (g : ι → β → β) (key : ι → Nat) (n : Nat) (init : β) (is : List ι)
    (s : Nat) (hs : s < n) :
    (is.foldl (fun a i => a.modify (key i) (g i)) (Array.replicate n init))[s]? =
      some ((is.filter (fun i => key i = s)).foldl (fun v i => g i v) init) := by
  rw [foldl_modify_getElem?, Array.getElem?_replicate, if_pos hs, Option.map_some]

/-- For every operation `f`, start value, label count and pixel list, slot `l`
    of `labeled_foldl` is the fold of `f` over exactly the values of the pixels labelled `l`, in scan order. -/
theorem labeledFold_slot {α : Type} (f : α → α → α) (start : α) (n : Nat) (px : List (α × Int)) (l : Nat)
    (hl : l < n) :
    (labeledFold f start n px)[l]? = some ((valuesOf px (l : Int)).foldl (fun r a => f a r) start) := by
  rw [labeledFold, foldl_filter (fun x : α × Int => 0 ≤ x.2 ∧ x.2 < (n : Int))
      (fun (res : Array α) x => res.modify x.2.toNat (f x.1)),
    replicate_fold_slot (fun (x : α × Int) => f x.1) (fun x => x.2.toNat) n start _ l hl, List.filter_filter, valuesOf,
    List.foldl_map]
  -- a label in range with `toNat = l` is the label `l`
  refine congrArg (fun xs => some (List.foldl _ start xs)) (List.filter_congr fun x _ => ?_)
  rw [Bool.eq_iff_iff, Bool.and_eq_true, decide_eq_true_iff, decide_eq_true_iff, beq_iff_eq]
  omega

theorem labeledFold_size {α : Type} (f : α → α → α) (start : α) (n : Nat) (px : List (α × Int)) :
    (labeledFold f start n px).size = n := by
  rw [labeledFold, foldl_filter (fun x : α × Int => 0 ≤ x.2 ∧ x.2 < (n : Int))
      (fun (res : Array α) x => res.modify x.2.toNat (f x.1)),
    foldl_modify_size (fun (x : α × Int) => x.2.toNat) (fun x => f x.1), Array.size_replicate]

theorem sumInt_size (dt : DT) (n : Nat) (px : List (Int × Int)) : (sumInt dt n px).size = n := by
  unfold sumInt
  split <;> exact labeledFold_size _ _ n px

/-- `labeled_foldl` applies the operation as `f(value, result)` -/
theorem foldl_add_comm_sum {α : Type} [AddCommMonoid α] (vs : List α) (s : α) :
    vs.foldl (fun r a => a + r) s = s + vs.sum := by
  induction vs generalizing s with
  | nil => rw [List.foldl_nil, List.sum_nil, add_zero]
  | cons v vs ih => rw [List.foldl_cons, ih, List.sum_cons, add_comm v s, add_assoc]

theorem wrap_add_wrap (dt : DT) (a r : Int) : dt.wrap (a + dt.wrap r) = dt.wrap (a + r) := by
  unfold DT.wrap
  have e1 : a + ((r - dt.lo) % dt.card + dt.lo) - dt.lo = a + (r - dt.lo) % dt.card := by omega
  have e2 : a + r - dt.lo = a + (r - dt.lo) := by omega
  rw [e1, e2, Int.add_emod_emod]

theorem foldl_wrap_add (dt : DT) (vs : List Int) (s : Int) :
    vs.foldl (fun r a => dt.wrap (a + r)) (dt.wrap s) = dt.wrap (s + vs.sum) := by
  induction vs generalizing s with
  | nil => simp
  | cons v vs ih =>
    rw [List.foldl_cons, List.sum_cons, wrap_add_wrap, ih]
    congr 1; omega

theorem sumInt_slot (dt : DT) (wf : dt.WF) (n : Nat) (px : List (Int × Int)) (l : Nat) (hl : l < n) :
    (sumInt dt n px)[l]? = some (dt.wrap (valuesOf px (l : Int)).sum) := by
  have h0 : dt.wrap 0 = 0 := by
    apply DT.wrap_in
    have := wf.hi_pos
    rcases wf.lo_cases with h | h <;> omega
  have := foldl_wrap_add dt (valuesOf px (l : Int)) 0
  rw [h0, Int.zero_add] at this
  rw [sumInt, wf.notBool, if_neg Bool.false_ne_true, labeledFold_slot _ _ n px l hl, this]

/-- the `or` of bool images, as the kernel computes it on 0/1 -/
theorem foldl_or_any (vs : List Int) (s : Int) (hs : s = 0 ∨ s = 1) :
    vs.foldl (fun r a => if a ≠ 0 ∨ r ≠ 0 then (1 : Int) else 0) s =
      if s ≠ 0 ∨ vs.any (· ≠ 0) then 1 else 0 := by
  induction vs generalizing s with
  | nil => rcases hs with rfl | rfl <;> rfl
  | cons v vs ih =>
    have h : (if v ≠ 0 ∨ s ≠ 0 then (1 : Int) else 0) ≠ 0 ↔ v ≠ 0 ∨ s ≠ 0 := by split <;> simp [*]
    rw [List.foldl_cons, ih _ (ite_eq_or_eq _ _ _).symm, List.any_cons]
    simp only [h, Bool.or_eq_true, decide_eq_true_eq, or_left_comm, or_assoc]

theorem sumInt_bool_slot (n : Nat) (px : List (Int × Int)) (l : Nat) (hl : l < n) :
    (sumInt dtBool n px)[l]? = some (if (valuesOf px (l : Int)).any (· ≠ 0) then 1 else 0) := by
  rw [sumInt, if_pos (show dtBool.isBool = true from rfl), labeledFold_slot _ _ n px l hl,
    foldl_or_any _ 0 (Or.inl rfl)]
  simp

theorem stdMax_eq_max {α : Type} [LinearOrder α] (a b : α) : stdMax a b = max a b := by
  by_cases h : a < b
  · rw [stdMax, if_pos h, max_eq_right h.le]
  · rw [stdMax, if_neg h, max_eq_left (not_lt.mp h)]

/-- `std_like_min` is `std_like_max` for the reversed order -/
theorem stdMin_eq_min {α : Type} [LinearOrder α] (a b : α) : stdMin a b = min a b :=
  stdMax_eq_max (α := αᵒᵈ) a b

theorem foldl_stdMax_eq {α : Type} [LinearOrder α] (vs : List α) (s : α) :
    vs.foldl (fun r a => stdMax a r) s = vs.foldl max s := by
  congr 1; funext r a; rw [stdMax_eq_max, max_comm]

/-- from an identity below all values the running maximum of a non-empty list is the one started from its first value
    (which is how the oracles start) -/
theorem foldl_stdMax_headD {α : Type} [LinearOrder α] (vs : List α) (lowest d : α) (hne : vs ≠ [])
    (hlo : ∀ v ∈ vs, lowest ≤ v) : vs.foldl (fun r a => stdMax a r) lowest = vs.foldl max (vs.headD d) := by
  match vs, hne with
  | v0 :: rest, _ =>
    rw [foldl_stdMax_eq, List.headD_cons, List.foldl_cons, List.foldl_cons, max_self,
      max_eq_right (hlo v0 List.mem_cons_self)]

theorem foldl_stdMin_headD {α : Type} [LinearOrder α] (vs : List α) (highest d : α) (hne : vs ≠ [])
    (hhi : ∀ v ∈ vs, v ≤ highest) : vs.foldl (fun r a => stdMin a r) highest = vs.foldl min (vs.headD d) :=
  foldl_stdMax_headD (α := αᵒᵈ) vs highest d hne hhi

theorem labeledFold_stdMax_slot {α : Type} [LinearOrder α] (lowest : α) (n : Nat) (px : List (α × Int)) (l : Nat)
    (hl : l < n) (hne : valuesOf px (l : Int) ≠ []) (hlo : ∀ v ∈ valuesOf px (l : Int), lowest ≤ v) :
    ∃ m, (labeledFold stdMax lowest n px)[l]? = some m ∧ m ∈ valuesOf px (l : Int) ∧
      ∀ v ∈ valuesOf px (l : Int), v ≤ m := by
  obtain ⟨hmem, hge⟩ := isGreatest_foldl_max_head (valuesOf px (l : Int)) lowest hne
  exact ⟨_, by rw [labeledFold_slot stdMax lowest n px l hl, foldl_stdMax_headD _ lowest lowest hne hlo], hmem, hge⟩

theorem le_maxOf {vals : List Int} {v : Int} (hv : v ∈ vals) : v ≤ maxOf vals :=
  (isGreatest_foldl_max vals 0).2 (Or.inr hv)

theorem histogram_size (n : Nat) (vals : List Int) : (histogram n vals).size = n := by
  rw [histogram, foldl_modify_size Int.toNat (fun _ c => c + 1), Array.size_replicate]

theorem histogram_slot (n : Nat) (vals : List Int) (hv : ∀ v ∈ vals, 0 ≤ v) (l : Nat) (hl : l < n) :
    (histogram n vals)[l]? = some ((vals.filter (· == (l : Int))).length) := by
  rw [histogram, replicate_fold_slot (fun _ c => c + 1) Int.toNat n 0 vals l hl, foldl_succ, Nat.zero_add]
  -- a non-negative value with `toNat = l` is the value `l`
  refine congrArg (fun xs => some (List.length xs)) (List.filter_congr fun v hv' => ?_)
  have := hv v hv'
  rw [Bool.eq_iff_iff, decide_eq_true_iff, beq_iff_eq]
  omega

theorem histogram_getD (n : Nat) (vals : List Int) (hv : ∀ v ∈ vals, 0 ≤ v) (l : Nat) (hl : l < n) :
    (histogram n vals).getD l 0 = (vals.filter (· == (l : Int))).length := by
  rw [Array.getD_eq_getD_getElem?, histogram_slot n vals hv l hl, Option.getD_some]

end Mahotas.C13
