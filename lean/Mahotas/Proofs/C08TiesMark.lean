/-
C08 — lemmas for the value-level tie of the mark kernel `locView` = `C14.locModel` (the centre entry of the structuring
element, which `C14.neighbours` removes, never beats the pixel itself).
-/
import Mahotas.Proofs.C08Kernels
import Mahotas.Proofs.C14
namespace Mahotas.C08
open Mahotas

theorem locInner_eq_all (isMin : Bool) (cur : Int) (l : List (Option Int × Int)) :
    locInner isMin cur l = l.all fun ab => !C14.beats isMin (ab.1.getD 0) cur := by
  induction l with
  | nil => rfl
  | cons ab t ih =>
    simp only [locInner, List.all_cons]
    rw [ih]
    cases isMin <;> simp [C14.beats]

theorem all_filter_of {ι : Type} (L : List ι) (Q P : ι → Bool) (h : ∀ x ∈ L, Q x = false → P x = true) :
    (L.filter Q).all P = L.all P := by
  induction L with
  | nil => rfl
  | cons a t ih =>
    have iht := ih (fun x hx => h x (by simp [hx]))
    by_cases hq : Q a = true
    · simp only [List.filter_cons, hq, if_true, List.all_cons, iht]
    · have hq' : Q a = false := by simpa using hq
      simp only [List.filter_cons, hq', Bool.false_eq_true, if_false, List.all_cons, iht, h a (by simp) hq',
        Bool.true_and]

theorem C14_neighbours_eq (fshape : List Nat) (w : List Int) :
    C14.neighbours fshape w.toArray =
      ((keptIdx fshape w (fun x => x != 0) 0).filter fun kk => !C14.isZeroPos (offAt fshape kk)).map
        (offAt fshape) := by
  unfold keptIdx
  rw [C14.neighbours_eq_map, List.filter_filter]
  simp only [getD_toArray]
  congr 1
  apply List.filter_congr
  intro i _
  simp only [offAt, Bool.not_or, bne, Bool.and_comm]

theorem beats_self (isMin : Bool) (a : Int) : C14.beats isMin a a = false := by
  cases isMin <;> simp [C14.beats]

end Mahotas.C08
