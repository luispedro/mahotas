/-
C20 — `stretch` in *rounded* arithmetic: the same polymorphic `stretchList` the driver runs at `Float`,
instantiated at `RQ r` = ℚ with every operation followed by a rounding function `r`. If `r` is monotone and fixes
`0` and the two bounds (what IEEE round-to-nearest does for representable bounds), the pipeline is still a
non-decreasing map into `[lo, hi]` with min ↦ `lo`; with the truncating cast behind it, too. (Of the two bounds only `lo`
is touched by an operation; the cap at `hi` is a comparison: no proof uses `Rounding.hi_fix`.)
-/
import Mahotas.Proofs.C20
import Mathlib.Tactic.Positivity
import Mathlib.Tactic.FieldSimp
namespace Mahotas.C20
open Mahotas

/-- ℚ with every arithmetic result passed through a rounding function `r` (a model of floating-point
    arithmetic in which each operation returns the rounding of the exact result); order and `0` are those of ℚ -/
def RQ (_r : Rat → Rat) : Type := Rat

namespace RQ
variable {r : Rat → Rat}
def val (a : RQ r) : Rat := a
def mk (q : Rat) : RQ r := q
instance : Add (RQ r) := ⟨fun a b => mk (r (a.val + b.val))⟩
instance : Sub (RQ r) := ⟨fun a b => mk (r (a.val - b.val))⟩
instance : Mul (RQ r) := ⟨fun a b => mk (r (a.val * b.val))⟩
instance : Div (RQ r) := ⟨fun a b => mk (r (a.val / b.val))⟩
instance : LT (RQ r) := ⟨fun a b => a.val < b.val⟩
instance : DecidableLT (RQ r) := fun a b => inferInstanceAs (Decidable (a.val < b.val))
instance : OfNat (RQ r) 0 := ⟨mk 0⟩
end RQ

/-- `stretchList` at `RQ r`, with rational lists in and out (for examples) -/
def stretchRounded (r : Rat → Rat) (xs : List Rat) (lo hi : Rat) : List Rat := @stretchList (RQ r) _ _ _ _ _ _ _ xs lo hi

/-- the hypotheses on the rounding: monotone, and `0`, `lo`, `hi` are representable -/
structure Rounding (r : Rat → Rat) (lo hi : Rat) : Prop where
  mono : ∀ x y, x ≤ y → r x ≤ r y
  zero : r 0 = 0
  lo_fix : r lo = lo
  hi_fix : r hi = hi

theorem minL_RQ (r : Rat → Rat) (m : Rat) (xs : List Rat) :
    (minL (α := RQ r) m xs : Rat) = minL (α := Rat) m xs := by
  induction xs generalizing m with
  | nil => rfl
  | cons x xs ih => exact ih _

/-- the minimum / the range `stretch` computes in rounded arithmetic, as rationals -/
def mnRQ (r : Rat → Rat) (x0 : Rat) (rest : List Rat) : Rat := @minL (RQ r) _ _ x0 rest
def ptpRQ (r : Rat → Rat) (x0 : Rat) (rest : List Rat) : Rat :=
  @maxL (RQ r) _ _ (@HSub.hSub (RQ r) (RQ r) (RQ r) _ x0 (@minL (RQ r) _ _ x0 rest))
    (@List.map (RQ r) (RQ r) (fun x => x - @minL (RQ r) _ _ x0 rest) rest)

/-- stated as an equation (it is `rfl`) because `rw` and `simp` do not see through the carrier `RQ r` -/
theorem stretchList_RQ_cons (r : Rat → Rat) (x0 : Rat) (rest : List Rat) (lo hi : Rat) :
    (@stretchList (RQ r) _ _ _ _ _ _ _ (x0 :: rest) lo hi : List Rat) =
      if (0 : Rat) < ptpRQ r x0 rest then
        (x0 :: rest).map (fun x => capHi (α := Rat) lo hi
          (r (r (r (x - mnRQ r x0 rest) * r (r (hi - lo) / ptpRQ r x0 rest)) + lo)))
      else (x0 :: rest).map (fun _ => lo) := rfl

/-- **`stretchList` in rounded arithmetic** is still `map g` for a non-decreasing `g` with values in `[lo, hi]` on the
    pixels and minimal pixels ↦ `lo`: every operation of the affine map is followed by a monotone `r`, which fixes the
    `0` of `x − min` at a least pixel and the bound `lo` added to it -/
theorem stretchList_rounded (r : Rat → Rat) (xs : List Rat) (lo hi : Rat) (h : lo ≤ hi) (R : Rounding r lo hi) :
    RangeMap xs lo hi (@stretchList (RQ r) _ _ _ _ _ _ _ xs lo hi : List Rat) := by
  cases xs with
  | nil => exact ⟨fun _ => lo, fun _ _ _ => le_refl _, rfl, by simp, by simp⟩
  | cons x0 rest =>
    have e := stretchList_RQ_cons r x0 rest lo hi
    rw [show mnRQ r x0 rest = minL (α := Rat) x0 rest from minL_RQ r x0 rest] at e
    generalize ptpRQ r x0 rest = ptp at e
    refine (congrArg (RangeMap (x0 :: rest) lo hi) e).mpr ?_
    by_cases hp : (0 : Rat) < ptp
    · rw [if_pos hp]
      have hf : 0 ≤ r (r (hi - lo) / ptp) := by
        have h1 : 0 ≤ r (hi - lo) := by rw [← R.zero]; exact R.mono _ _ (sub_nonneg.2 h)
        rw [← R.zero]; exact R.mono _ _ (div_nonneg h1 hp.le)
      obtain ⟨gm, gr, gmin⟩ := capHi_comp_spec h
        (f := fun x => r (r (r (x - minL x0 rest) * r (r (hi - lo) / ptp)) + lo))
        (fun x y hxy => R.mono _ _ (add_le_add (R.mono _ _
          (mul_le_mul_of_nonneg_right (R.mono _ _ (sub_le_sub_right hxy _)) hf)) le_rfl))
        (by simp only [sub_self, R.zero, zero_mul, zero_add, R.lo_fix])
        (minL_mem x0 rest) (List.forall_mem_cons.2 (minL_le x0 rest))
      exact ⟨_, gm, rfl, gr, gmin⟩
    · rw [if_neg hp]
      exact ⟨fun _ => lo, fun _ _ _ => le_refl _, rfl, fun _ _ => ⟨le_refl _, h⟩, fun _ _ _ => rfl⟩

/-- exact arithmetic is the rounded arithmetic whose rounding is the identity (`RQ id` is ℚ by `rfl`) -/
theorem stretchList_spec (xs : List Rat) (lo hi : Rat) (h : lo ≤ hi) : RangeMap xs lo hi (stretchList xs lo hi) :=
  stretchList_rounded id xs lo hi h ⟨fun _ _ h => h, rfl, rfl, rfl⟩

/-- rounding down to the grid `2^-k` is monotone and fixes every integer: a `Rounding` for all integer bounds -/
theorem rounding_floor_grid (k : Nat) (lo hi : Int) :
    Rounding (fun q => ((q * 2 ^ k).floor : Rat) / 2 ^ k) (lo : Rat) (hi : Rat) := by
  have hpos : (0 : Rat) < 2 ^ k := by positivity
  have fix : ∀ n : Int, (((n : Rat) * 2 ^ k).floor : Rat) / 2 ^ k = (n : Rat) := by
    intro n
    have : ((n : Rat) * 2 ^ k) = ((n * 2 ^ k : Int) : Rat) := by push_cast; ring
    rw [this, Rat.floor_intCast]; push_cast; field_simp
  refine ⟨fun x y hxy => ?_, ?_, fix lo, fix hi⟩
  · apply div_le_div_of_nonneg_right _ (le_of_lt hpos)
    exact_mod_cast Rat.floor_monotone (mul_le_mul_of_nonneg_right hxy (le_of_lt hpos))
  · have := fix 0
    simpa using this

end Mahotas.C20
