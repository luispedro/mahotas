/-
In-place loops over a memory: a loop of passes over pairwise disjoint blocks of addresses. The memory is any type `M`
read through `rd : M → A → V` (a structure with a read field, a bare function), so that the one induction serves the
address-level views of C08 and the strided views of C17.
-/
namespace Mahotas

/-- a loop of passes over pairwise disjoint blocks of addresses, each pass writing only inside its block and computing
what it writes from the block's content at entry: afterwards every block is what its own pass alone makes of the initial
memory, and everything outside the blocks is untouched. (A row is a loop of single stores, a kernel a loop of rows.) -/
theorem foldl_blocks {M A V : Type} (rd : M → A → V) (S : Nat → M → M) (B : Nat → A → Prop) (n : Nat)
    (frame : ∀ y m a, y < n → ¬ B y a → rd (S y m) a = rd m a)
    (disj : ∀ y y' a, y < n → y' < n → B y a → B y' a → y = y')
    (loc : ∀ y m m', y < n → (∀ a, B y a → rd m a = rd m' a) → ∀ a, B y a → rd (S y m) a = rd (S y m') a)
    (m : M) (k : Nat) (hk : k ≤ n) :
    (∀ y a, y < k → B y a → rd ((List.range k).foldl (fun m y => S y m) m) a = rd (S y m) a) ∧
    (∀ a, (∀ y, y < k → ¬ B y a) → rd ((List.range k).foldl (fun m y => S y m) m) a = rd m a) := by
  induction k with
  | zero => exact ⟨fun y a hy => absurd hy (Nat.not_lt_zero _), fun a _ => rfl⟩
  | succ k ih =>
    obtain ⟨ih1, ih2⟩ := ih (by omega)
    rw [List.range_succ, List.foldl_append]
    simp only [List.foldl_cons, List.foldl_nil]
    refine ⟨fun y a hy hB => ?_, fun a ha => ?_⟩
    · by_cases hyk : y = k
      · subst hyk
        exact loc y _ _ (by omega) (fun a' hB' => ih2 a' fun y' hy' hB'' =>
          absurd (disj y' y a' (by omega) (by omega) hB'' hB') (by omega)) a hB
      · rw [frame k _ a (by omega) fun hB' => hyk (disj y k a (by omega) (by omega) hB hB')]
        exact ih1 y a (by omega) hB
    · rw [frame k _ a (by omega) (ha k (by omega))]
      exact ih2 a fun y hy => ha y (by omega)

end Mahotas
