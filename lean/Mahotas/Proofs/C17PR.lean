/-
C17 — the closed forms of the four row kernels written out for each table length: for `n = 4, 6, …, 20` symbolic taps
`c0 … c(n−1)`, one low-pass and one high-pass sample of `wavelet<T>` as the explicit sum of `n` products, and one sample of
`iwavelet<T>` at an even and at an odd position `≥ n − 2` as the explicit sums over the `n/2` taps it uses per half. These
are the per-length formulas (`wavelet#_low/_high`, `iwavelet#_even/_odd`) that the note of the C17 check entry
(`harness/props/meta/C17.json`) names; each is the instance of
`waveletRow_low'`, `waveletRow_high`, `iwaveletRow_even`, `iwaveletRow_odd` (`Proofs/C17General.lean`) at a literal list,
with the finite sums unrolled. `pr_list`: perfect reconstruction of a row for the lengths of `D4 … D20`.
-/
import Mahotas.Proofs.C17General
namespace Mahotas.C17
open Mahotas

variable {K : Type} [Field K]

/-- which taps of `iwavelet` are used at position `2u + a` (`b` = tap index, `n` = number of taps) -/
theorem tapOdd (u a b n : Nat) :
    ((((2 * u + a + b : Nat) : Int) - ((n : Nat) : Int) + 2) % 2 ≠ 0) ↔ (a + b + n) % 2 = 1 := by omega

/-- and which low/high sample they read (no truncation towards zero happens for `x ≥ n − 2`) -/
theorem tapMap (u a b n k : Nat) (h : a + b + 2 = n + 2 * k + 1) :
    ((((2 * u + a + b : Nat) : Int) - ((n : Nat) : Int) + 2)).tdiv 2 = ((u + k : Nat) : Int) := by
  rw [Int.tdiv_eq_ediv_of_nonneg (by omega)]; omega

theorem cf_cons_succ (c : K) (cs : List K) (k : Nat) : cf (c :: cs) (k + 1) = cf cs k := rfl
theorem cf_cons_zero (c : K) (cs : List K) : cf (c :: cs) 0 = c := rfl

/-! ### explicit sums over a literal list

The closed forms of `Proofs/C17General.lean` are sums over `Finset.range n` with the coefficient looked up by index; for a
literal list the two functions below compute the same sum by recursion on the list, in the left-nested order in which the
per-length statements are written, so that an instance is unrolled in `n` steps. -/

/-- `Σ_k c_k · e (n − 1 − k)` over a list of `n` coefficients, as the left-nested sum in the order of `e`'s argument -/
def revDot (e : Nat → K) : Nat → List K → K
  | _, [] => 0
  | n, [c] => c * e (n - 1)
  | n, c :: cs => revDot e (n - 1) cs + c * e (n - 1)

theorem revDot_eq (e : Nat → K) : ∀ (cs : List K),
    revDot e cs.length cs = ∑ j ∈ Finset.range cs.length, cf cs (cs.length - 1 - j) * e j
  | [] => rfl
  | [c] => by simp [revDot, cf]
  | c :: d :: cs => by
    have ih := revDot_eq e (d :: cs)
    rw [revDot, List.length_cons, Nat.add_sub_cancel, ih, Finset.sum_range_succ (n := (d :: cs).length)]
    · congr 1
      · refine Finset.sum_congr rfl fun j hj => ?_
        have := Finset.mem_range.mp hj
        rw [show (d :: cs).length - j = ((d :: cs).length - 1 - j) + 1 by omega, cf_cons_succ]
      · rw [Nat.sub_self, cf_cons_zero]
    · exact List.cons_ne_nil d cs

/-- `acc + Σ_k w (j + k) c_k · e (j + k)` over a list of coefficients, left-nested -/
def dotFrom (w : Nat → K → K) (e : Nat → K) : K → Nat → List K → K
  | acc, _, [] => acc
  | acc, j, c :: cs => dotFrom w e (acc + w j c * e j) (j + 1) cs

theorem dotFrom_eq (w : Nat → K → K) (e : Nat → K) : ∀ (cs : List K) (acc : K) (j : Nat),
    dotFrom w e acc j cs = acc + ∑ k ∈ Finset.range cs.length, w (j + k) (cf cs k) * e (j + k)
  | [], acc, j => by simp [dotFrom]
  | c :: cs, acc, j => by
    rw [dotFrom, dotFrom_eq w e cs, List.length_cons, Finset.sum_range_succ', cf_cons_zero, add_zero, add_assoc,
      add_comm (Finset.sum _ _)]
    refine congrArg (fun s => acc + (w j c * e j + s)) (Finset.sum_congr rfl fun k _ => ?_)
    rw [cf_cons_succ, Nat.add_right_comm, Nat.add_assoc]

theorem waveletRow_low_list (cs : List K) (n : Nat) (hn : cs.length = n) (N : Nat) (f : Nat → K) (m : Nat)
    (hm : m < N / 2) : waveletRow cs N f m = revDot (fun j => ext N f (2 * m + j)) n cs := by
  subst hn
  rw [waveletRow_low' cs N f m hm, revDot_eq]

theorem waveletRow_high_list (c : K) (cs : List K) (N : Nat) (f : Nat → K) (m : Nat) (hm : m < N / 2) :
    waveletRow (c :: cs) N f (N / 2 + m)
      = dotFrom (fun j c => if j % 2 = 0 then -c else c) (fun j => ext N f (2 * m + j)) (-c * ext N f (2 * m)) 1 cs := by
  rw [waveletRow_high _ N f m hm, dotFrom_eq, List.length_cons, Finset.sum_range_succ', add_comm]
  refine congrArg₂ (· + ·) ?_ (Finset.sum_congr rfl fun k _ => ?_)
  · rw [sg_mul, if_pos rfl, cf_cons_zero, add_zero]
  · rw [sg_mul, cf_cons_succ, Nat.add_comm 1 k]

theorem wavelet4_low (c0 c1 c2 c3 : K) (N : Nat) (f : Nat → K) (m : Nat) (hm : m < N / 2) :
    waveletRow [c0, c1, c2, c3] N f m
      = c3 * ext N f (2 * m) + c2 * ext N f (2 * m + 1) + c1 * ext N f (2 * m + 2) + c0 * ext N f (2 * m + 3) := by
  rw [waveletRow_low_list _ 4 rfl N f m hm]
  simp only [revDot, Nat.reduceSub, add_zero]

theorem wavelet4_high (c0 c1 c2 c3 : K) (N : Nat) (f : Nat → K) (m : Nat) (hm : m < N / 2) :
    waveletRow [c0, c1, c2, c3] N f (N / 2 + m)
      = -c0 * ext N f (2 * m) + c1 * ext N f (2 * m + 1) + -c2 * ext N f (2 * m + 2) + c3 * ext N f (2 * m + 3) := by
  rw [waveletRow_high_list _ _ N f m hm]
  simp only [dotFrom, Nat.reduceAdd, Nat.reduceMod, Nat.reduceEqDiff, if_true, if_false]

theorem iwavelet4_odd (c0 c1 c2 c3 : K) (N : Nat) (hN : N % 2 = 0) (g : Nat → K) (u : Nat) (hx : 2 * u + 3 < N) :
    iwaveletRow [c0, c1, c2, c3] N g (2 * u + 3)
      = ((c0 * g u + c2 * g (u + 1)) + (c3 * g (N / 2 + u) + c1 * g (N / 2 + (u + 1)))) / 2 := by
  rw [iwaveletRow_odd _ 2 rfl N hN g u _ rfl hx]
  simp only [Finset.sum_range_succ, Finset.sum_range_zero, zero_add, add_zero, cf, List.getD_cons_succ,
    List.getD_cons_zero, Nat.reduceMul, Nat.reduceSub]

theorem iwavelet4_even (c0 c1 c2 c3 : K) (N : Nat) (hN : N % 2 = 0) (g : Nat → K) (u : Nat) (hx : 2 * u + 2 < N) :
    iwaveletRow [c0, c1, c2, c3] N g (2 * u + 2)
      = ((c1 * g u + c3 * g (u + 1)) + (-c2 * g (N / 2 + u) + -c0 * g (N / 2 + (u + 1)))) / 2 := by
  rw [iwaveletRow_even _ 2 rfl N hN g u _ rfl hx]
  simp only [Finset.sum_range_succ, Finset.sum_range_zero, zero_add, add_zero, cf, List.getD_cons_succ,
    List.getD_cons_zero, Nat.reduceMul, Nat.reduceSub]

theorem wavelet6_low (c0 c1 c2 c3 c4 c5 : K) (N : Nat) (f : Nat → K) (m : Nat) (hm : m < N / 2) :
    waveletRow [c0, c1, c2, c3, c4, c5] N f m
      = c5 * ext N f (2 * m) + c4 * ext N f (2 * m + 1) + c3 * ext N f (2 * m + 2) + c2 * ext N f (2 * m + 3) + c1 * ext N f (2 * m + 4) + c0 * ext N f (2 * m + 5) := by
  rw [waveletRow_low_list _ 6 rfl N f m hm]
  simp only [revDot, Nat.reduceSub, add_zero]

theorem wavelet6_high (c0 c1 c2 c3 c4 c5 : K) (N : Nat) (f : Nat → K) (m : Nat) (hm : m < N / 2) :
    waveletRow [c0, c1, c2, c3, c4, c5] N f (N / 2 + m)
      = -c0 * ext N f (2 * m) + c1 * ext N f (2 * m + 1) + -c2 * ext N f (2 * m + 2) + c3 * ext N f (2 * m + 3) + -c4 * ext N f (2 * m + 4) + c5 * ext N f (2 * m + 5) := by
  rw [waveletRow_high_list _ _ N f m hm]
  simp only [dotFrom, Nat.reduceAdd, Nat.reduceMod, Nat.reduceEqDiff, if_true, if_false]

theorem iwavelet6_odd (c0 c1 c2 c3 c4 c5 : K) (N : Nat) (hN : N % 2 = 0) (g : Nat → K) (u : Nat) (hx : 2 * u + 5 < N) :
    iwaveletRow [c0, c1, c2, c3, c4, c5] N g (2 * u + 5)
      = ((c0 * g u + c2 * g (u + 1) + c4 * g (u + 2)) + (c5 * g (N / 2 + u) + c3 * g (N / 2 + (u + 1)) + c1 * g (N / 2 + (u + 2)))) / 2 := by
  rw [iwaveletRow_odd _ 3 rfl N hN g u _ rfl hx]
  simp only [Finset.sum_range_succ, Finset.sum_range_zero, zero_add, add_zero, cf, List.getD_cons_succ,
    List.getD_cons_zero, Nat.reduceMul, Nat.reduceSub]

theorem iwavelet6_even (c0 c1 c2 c3 c4 c5 : K) (N : Nat) (hN : N % 2 = 0) (g : Nat → K) (u : Nat) (hx : 2 * u + 4 < N) :
    iwaveletRow [c0, c1, c2, c3, c4, c5] N g (2 * u + 4)
      = ((c1 * g u + c3 * g (u + 1) + c5 * g (u + 2)) + (-c4 * g (N / 2 + u) + -c2 * g (N / 2 + (u + 1)) + -c0 * g (N / 2 + (u + 2)))) / 2 := by
  rw [iwaveletRow_even _ 3 rfl N hN g u _ rfl hx]
  simp only [Finset.sum_range_succ, Finset.sum_range_zero, zero_add, add_zero, cf, List.getD_cons_succ,
    List.getD_cons_zero, Nat.reduceMul, Nat.reduceSub]

theorem wavelet8_low (c0 c1 c2 c3 c4 c5 c6 c7 : K) (N : Nat) (f : Nat → K) (m : Nat) (hm : m < N / 2) :
    waveletRow [c0, c1, c2, c3, c4, c5, c6, c7] N f m
      = c7 * ext N f (2 * m) + c6 * ext N f (2 * m + 1) + c5 * ext N f (2 * m + 2) + c4 * ext N f (2 * m + 3) + c3 * ext N f (2 * m + 4) + c2 * ext N f (2 * m + 5) + c1 * ext N f (2 * m + 6) + c0 * ext N f (2 * m + 7) := by
  rw [waveletRow_low_list _ 8 rfl N f m hm]
  simp only [revDot, Nat.reduceSub, add_zero]

theorem wavelet8_high (c0 c1 c2 c3 c4 c5 c6 c7 : K) (N : Nat) (f : Nat → K) (m : Nat) (hm : m < N / 2) :
    waveletRow [c0, c1, c2, c3, c4, c5, c6, c7] N f (N / 2 + m)
      = -c0 * ext N f (2 * m) + c1 * ext N f (2 * m + 1) + -c2 * ext N f (2 * m + 2) + c3 * ext N f (2 * m + 3) + -c4 * ext N f (2 * m + 4) + c5 * ext N f (2 * m + 5) + -c6 * ext N f (2 * m + 6) + c7 * ext N f (2 * m + 7) := by
  rw [waveletRow_high_list _ _ N f m hm]
  simp only [dotFrom, Nat.reduceAdd, Nat.reduceMod, Nat.reduceEqDiff, if_true, if_false]

theorem iwavelet8_odd (c0 c1 c2 c3 c4 c5 c6 c7 : K) (N : Nat) (hN : N % 2 = 0) (g : Nat → K) (u : Nat) (hx : 2 * u + 7 < N) :
    iwaveletRow [c0, c1, c2, c3, c4, c5, c6, c7] N g (2 * u + 7)
      = ((c0 * g u + c2 * g (u + 1) + c4 * g (u + 2) + c6 * g (u + 3)) + (c7 * g (N / 2 + u) + c5 * g (N / 2 + (u + 1)) + c3 * g (N / 2 + (u + 2)) + c1 * g (N / 2 + (u + 3)))) / 2 := by
  rw [iwaveletRow_odd _ 4 rfl N hN g u _ rfl hx]
  simp only [Finset.sum_range_succ, Finset.sum_range_zero, zero_add, add_zero, cf, List.getD_cons_succ,
    List.getD_cons_zero, Nat.reduceMul, Nat.reduceSub]

theorem iwavelet8_even (c0 c1 c2 c3 c4 c5 c6 c7 : K) (N : Nat) (hN : N % 2 = 0) (g : Nat → K) (u : Nat) (hx : 2 * u + 6 < N) :
    iwaveletRow [c0, c1, c2, c3, c4, c5, c6, c7] N g (2 * u + 6)
      = ((c1 * g u + c3 * g (u + 1) + c5 * g (u + 2) + c7 * g (u + 3)) + (-c6 * g (N / 2 + u) + -c4 * g (N / 2 + (u + 1)) + -c2 * g (N / 2 + (u + 2)) + -c0 * g (N / 2 + (u + 3)))) / 2 := by
  rw [iwaveletRow_even _ 4 rfl N hN g u _ rfl hx]
  simp only [Finset.sum_range_succ, Finset.sum_range_zero, zero_add, add_zero, cf, List.getD_cons_succ,
    List.getD_cons_zero, Nat.reduceMul, Nat.reduceSub]

theorem wavelet10_low (c0 c1 c2 c3 c4 c5 c6 c7 c8 c9 : K) (N : Nat) (f : Nat → K) (m : Nat) (hm : m < N / 2) :
    waveletRow [c0, c1, c2, c3, c4, c5, c6, c7, c8, c9] N f m
      = c9 * ext N f (2 * m) + c8 * ext N f (2 * m + 1) + c7 * ext N f (2 * m + 2) + c6 * ext N f (2 * m + 3) + c5 * ext N f (2 * m + 4) + c4 * ext N f (2 * m + 5) + c3 * ext N f (2 * m + 6) + c2 * ext N f (2 * m + 7) + c1 * ext N f (2 * m + 8) + c0 * ext N f (2 * m + 9) := by
  rw [waveletRow_low_list _ 10 rfl N f m hm]
  simp only [revDot, Nat.reduceSub, add_zero]

theorem wavelet10_high (c0 c1 c2 c3 c4 c5 c6 c7 c8 c9 : K) (N : Nat) (f : Nat → K) (m : Nat) (hm : m < N / 2) :
    waveletRow [c0, c1, c2, c3, c4, c5, c6, c7, c8, c9] N f (N / 2 + m)
      = -c0 * ext N f (2 * m) + c1 * ext N f (2 * m + 1) + -c2 * ext N f (2 * m + 2) + c3 * ext N f (2 * m + 3) + -c4 * ext N f (2 * m + 4) + c5 * ext N f (2 * m + 5) + -c6 * ext N f (2 * m + 6) + c7 * ext N f (2 * m + 7) + -c8 * ext N f (2 * m + 8) + c9 * ext N f (2 * m + 9) := by
  rw [waveletRow_high_list _ _ N f m hm]
  simp only [dotFrom, Nat.reduceAdd, Nat.reduceMod, Nat.reduceEqDiff, if_true, if_false]

theorem iwavelet10_odd (c0 c1 c2 c3 c4 c5 c6 c7 c8 c9 : K) (N : Nat) (hN : N % 2 = 0) (g : Nat → K) (u : Nat) (hx : 2 * u + 9 < N) :
    iwaveletRow [c0, c1, c2, c3, c4, c5, c6, c7, c8, c9] N g (2 * u + 9)
      = ((c0 * g u + c2 * g (u + 1) + c4 * g (u + 2) + c6 * g (u + 3) + c8 * g (u + 4)) + (c9 * g (N / 2 + u) + c7 * g (N / 2 + (u + 1)) + c5 * g (N / 2 + (u + 2)) + c3 * g (N / 2 + (u + 3)) + c1 * g (N / 2 + (u + 4)))) / 2 := by
  rw [iwaveletRow_odd _ 5 rfl N hN g u _ rfl hx]
  simp only [Finset.sum_range_succ, Finset.sum_range_zero, zero_add, add_zero, cf, List.getD_cons_succ,
    List.getD_cons_zero, Nat.reduceMul, Nat.reduceSub]

theorem iwavelet10_even (c0 c1 c2 c3 c4 c5 c6 c7 c8 c9 : K) (N : Nat) (hN : N % 2 = 0) (g : Nat → K) (u : Nat) (hx : 2 * u + 8 < N) :
    iwaveletRow [c0, c1, c2, c3, c4, c5, c6, c7, c8, c9] N g (2 * u + 8)
      = ((c1 * g u + c3 * g (u + 1) + c5 * g (u + 2) + c7 * g (u + 3) + c9 * g (u + 4)) + (-c8 * g (N / 2 + u) + -c6 * g (N / 2 + (u + 1)) + -c4 * g (N / 2 + (u + 2)) + -c2 * g (N / 2 + (u + 3)) + -c0 * g (N / 2 + (u + 4)))) / 2 := by
  rw [iwaveletRow_even _ 5 rfl N hN g u _ rfl hx]
  simp only [Finset.sum_range_succ, Finset.sum_range_zero, zero_add, add_zero, cf, List.getD_cons_succ,
    List.getD_cons_zero, Nat.reduceMul, Nat.reduceSub]

theorem wavelet12_low (c0 c1 c2 c3 c4 c5 c6 c7 c8 c9 c10 c11 : K) (N : Nat) (f : Nat → K) (m : Nat) (hm : m < N / 2) :
    waveletRow [c0, c1, c2, c3, c4, c5, c6, c7, c8, c9, c10, c11] N f m
      = c11 * ext N f (2 * m) + c10 * ext N f (2 * m + 1) + c9 * ext N f (2 * m + 2) + c8 * ext N f (2 * m + 3) + c7 * ext N f (2 * m + 4) + c6 * ext N f (2 * m + 5) + c5 * ext N f (2 * m + 6) + c4 * ext N f (2 * m + 7) + c3 * ext N f (2 * m + 8) + c2 * ext N f (2 * m + 9) + c1 * ext N f (2 * m + 10) + c0 * ext N f (2 * m + 11) := by
  rw [waveletRow_low_list _ 12 rfl N f m hm]
  simp only [revDot, Nat.reduceSub, add_zero]

theorem wavelet12_high (c0 c1 c2 c3 c4 c5 c6 c7 c8 c9 c10 c11 : K) (N : Nat) (f : Nat → K) (m : Nat) (hm : m < N / 2) :
    waveletRow [c0, c1, c2, c3, c4, c5, c6, c7, c8, c9, c10, c11] N f (N / 2 + m)
      = -c0 * ext N f (2 * m) + c1 * ext N f (2 * m + 1) + -c2 * ext N f (2 * m + 2) + c3 * ext N f (2 * m + 3) + -c4 * ext N f (2 * m + 4) + c5 * ext N f (2 * m + 5) + -c6 * ext N f (2 * m + 6) + c7 * ext N f (2 * m + 7) + -c8 * ext N f (2 * m + 8) + c9 * ext N f (2 * m + 9) + -c10 * ext N f (2 * m + 10) + c11 * ext N f (2 * m + 11) := by
  rw [waveletRow_high_list _ _ N f m hm]
  simp only [dotFrom, Nat.reduceAdd, Nat.reduceMod, Nat.reduceEqDiff, if_true, if_false]

theorem iwavelet12_odd (c0 c1 c2 c3 c4 c5 c6 c7 c8 c9 c10 c11 : K) (N : Nat) (hN : N % 2 = 0) (g : Nat → K) (u : Nat) (hx : 2 * u + 11 < N) :
    iwaveletRow [c0, c1, c2, c3, c4, c5, c6, c7, c8, c9, c10, c11] N g (2 * u + 11)
      = ((c0 * g u + c2 * g (u + 1) + c4 * g (u + 2) + c6 * g (u + 3) + c8 * g (u + 4) + c10 * g (u + 5)) + (c11 * g (N / 2 + u) + c9 * g (N / 2 + (u + 1)) + c7 * g (N / 2 + (u + 2)) + c5 * g (N / 2 + (u + 3)) + c3 * g (N / 2 + (u + 4)) + c1 * g (N / 2 + (u + 5)))) / 2 := by
  rw [iwaveletRow_odd _ 6 rfl N hN g u _ rfl hx]
  simp only [Finset.sum_range_succ, Finset.sum_range_zero, zero_add, add_zero, cf, List.getD_cons_succ,
    List.getD_cons_zero, Nat.reduceMul, Nat.reduceSub]

theorem iwavelet12_even (c0 c1 c2 c3 c4 c5 c6 c7 c8 c9 c10 c11 : K) (N : Nat) (hN : N % 2 = 0) (g : Nat → K) (u : Nat) (hx : 2 * u + 10 < N) :
    iwaveletRow [c0, c1, c2, c3, c4, c5, c6, c7, c8, c9, c10, c11] N g (2 * u + 10)
      = ((c1 * g u + c3 * g (u + 1) + c5 * g (u + 2) + c7 * g (u + 3) + c9 * g (u + 4) + c11 * g (u + 5)) + (-c10 * g (N / 2 + u) + -c8 * g (N / 2 + (u + 1)) + -c6 * g (N / 2 + (u + 2)) + -c4 * g (N / 2 + (u + 3)) + -c2 * g (N / 2 + (u + 4)) + -c0 * g (N / 2 + (u + 5)))) / 2 := by
  rw [iwaveletRow_even _ 6 rfl N hN g u _ rfl hx]
  simp only [Finset.sum_range_succ, Finset.sum_range_zero, zero_add, add_zero, cf, List.getD_cons_succ,
    List.getD_cons_zero, Nat.reduceMul, Nat.reduceSub]

theorem wavelet14_low (c0 c1 c2 c3 c4 c5 c6 c7 c8 c9 c10 c11 c12 c13 : K) (N : Nat) (f : Nat → K) (m : Nat) (hm : m < N / 2) :
    waveletRow [c0, c1, c2, c3, c4, c5, c6, c7, c8, c9, c10, c11, c12, c13] N f m
      = c13 * ext N f (2 * m) + c12 * ext N f (2 * m + 1) + c11 * ext N f (2 * m + 2) + c10 * ext N f (2 * m + 3) + c9 * ext N f (2 * m + 4) + c8 * ext N f (2 * m + 5) + c7 * ext N f (2 * m + 6) + c6 * ext N f (2 * m + 7) + c5 * ext N f (2 * m + 8) + c4 * ext N f (2 * m + 9) + c3 * ext N f (2 * m + 10) + c2 * ext N f (2 * m + 11) + c1 * ext N f (2 * m + 12) + c0 * ext N f (2 * m + 13) := by
  rw [waveletRow_low_list _ 14 rfl N f m hm]
  simp only [revDot, Nat.reduceSub, add_zero]

theorem wavelet14_high (c0 c1 c2 c3 c4 c5 c6 c7 c8 c9 c10 c11 c12 c13 : K) (N : Nat) (f : Nat → K) (m : Nat) (hm : m < N / 2) :
    waveletRow [c0, c1, c2, c3, c4, c5, c6, c7, c8, c9, c10, c11, c12, c13] N f (N / 2 + m)
      = -c0 * ext N f (2 * m) + c1 * ext N f (2 * m + 1) + -c2 * ext N f (2 * m + 2) + c3 * ext N f (2 * m + 3) + -c4 * ext N f (2 * m + 4) + c5 * ext N f (2 * m + 5) + -c6 * ext N f (2 * m + 6) + c7 * ext N f (2 * m + 7) + -c8 * ext N f (2 * m + 8) + c9 * ext N f (2 * m + 9) + -c10 * ext N f (2 * m + 10) + c11 * ext N f (2 * m + 11) + -c12 * ext N f (2 * m + 12) + c13 * ext N f (2 * m + 13) := by
  rw [waveletRow_high_list _ _ N f m hm]
  simp only [dotFrom, Nat.reduceAdd, Nat.reduceMod, Nat.reduceEqDiff, if_true, if_false]

theorem iwavelet14_odd (c0 c1 c2 c3 c4 c5 c6 c7 c8 c9 c10 c11 c12 c13 : K) (N : Nat) (hN : N % 2 = 0) (g : Nat → K) (u : Nat) (hx : 2 * u + 13 < N) :
    iwaveletRow [c0, c1, c2, c3, c4, c5, c6, c7, c8, c9, c10, c11, c12, c13] N g (2 * u + 13)
      = ((c0 * g u + c2 * g (u + 1) + c4 * g (u + 2) + c6 * g (u + 3) + c8 * g (u + 4) + c10 * g (u + 5) + c12 * g (u + 6)) + (c13 * g (N / 2 + u) + c11 * g (N / 2 + (u + 1)) + c9 * g (N / 2 + (u + 2)) + c7 * g (N / 2 + (u + 3)) + c5 * g (N / 2 + (u + 4)) + c3 * g (N / 2 + (u + 5)) + c1 * g (N / 2 + (u + 6)))) / 2 := by
  rw [iwaveletRow_odd _ 7 rfl N hN g u _ rfl hx]
  simp only [Finset.sum_range_succ, Finset.sum_range_zero, zero_add, add_zero, cf, List.getD_cons_succ,
    List.getD_cons_zero, Nat.reduceMul, Nat.reduceSub]

theorem iwavelet14_even (c0 c1 c2 c3 c4 c5 c6 c7 c8 c9 c10 c11 c12 c13 : K) (N : Nat) (hN : N % 2 = 0) (g : Nat → K) (u : Nat) (hx : 2 * u + 12 < N) :
    iwaveletRow [c0, c1, c2, c3, c4, c5, c6, c7, c8, c9, c10, c11, c12, c13] N g (2 * u + 12)
      = ((c1 * g u + c3 * g (u + 1) + c5 * g (u + 2) + c7 * g (u + 3) + c9 * g (u + 4) + c11 * g (u + 5) + c13 * g (u + 6)) + (-c12 * g (N / 2 + u) + -c10 * g (N / 2 + (u + 1)) + -c8 * g (N / 2 + (u + 2)) + -c6 * g (N / 2 + (u + 3)) + -c4 * g (N / 2 + (u + 4)) + -c2 * g (N / 2 + (u + 5)) + -c0 * g (N / 2 + (u + 6)))) / 2 := by
  rw [iwaveletRow_even _ 7 rfl N hN g u _ rfl hx]
  simp only [Finset.sum_range_succ, Finset.sum_range_zero, zero_add, add_zero, cf, List.getD_cons_succ,
    List.getD_cons_zero, Nat.reduceMul, Nat.reduceSub]

theorem wavelet16_low (c0 c1 c2 c3 c4 c5 c6 c7 c8 c9 c10 c11 c12 c13 c14 c15 : K) (N : Nat) (f : Nat → K) (m : Nat) (hm : m < N / 2) :
    waveletRow [c0, c1, c2, c3, c4, c5, c6, c7, c8, c9, c10, c11, c12, c13, c14, c15] N f m
      = c15 * ext N f (2 * m) + c14 * ext N f (2 * m + 1) + c13 * ext N f (2 * m + 2) + c12 * ext N f (2 * m + 3) + c11 * ext N f (2 * m + 4) + c10 * ext N f (2 * m + 5) + c9 * ext N f (2 * m + 6) + c8 * ext N f (2 * m + 7) + c7 * ext N f (2 * m + 8) + c6 * ext N f (2 * m + 9) + c5 * ext N f (2 * m + 10) + c4 * ext N f (2 * m + 11) + c3 * ext N f (2 * m + 12) + c2 * ext N f (2 * m + 13) + c1 * ext N f (2 * m + 14) + c0 * ext N f (2 * m + 15) := by
  rw [waveletRow_low_list _ 16 rfl N f m hm]
  simp only [revDot, Nat.reduceSub, add_zero]

theorem wavelet16_high (c0 c1 c2 c3 c4 c5 c6 c7 c8 c9 c10 c11 c12 c13 c14 c15 : K) (N : Nat) (f : Nat → K) (m : Nat) (hm : m < N / 2) :
    waveletRow [c0, c1, c2, c3, c4, c5, c6, c7, c8, c9, c10, c11, c12, c13, c14, c15] N f (N / 2 + m)
      = -c0 * ext N f (2 * m) + c1 * ext N f (2 * m + 1) + -c2 * ext N f (2 * m + 2) + c3 * ext N f (2 * m + 3) + -c4 * ext N f (2 * m + 4) + c5 * ext N f (2 * m + 5) + -c6 * ext N f (2 * m + 6) + c7 * ext N f (2 * m + 7) + -c8 * ext N f (2 * m + 8) + c9 * ext N f (2 * m + 9) + -c10 * ext N f (2 * m + 10) + c11 * ext N f (2 * m + 11) + -c12 * ext N f (2 * m + 12) + c13 * ext N f (2 * m + 13) + -c14 * ext N f (2 * m + 14) + c15 * ext N f (2 * m + 15) := by
  rw [waveletRow_high_list _ _ N f m hm]
  simp only [dotFrom, Nat.reduceAdd, Nat.reduceMod, Nat.reduceEqDiff, if_true, if_false]

theorem iwavelet16_odd (c0 c1 c2 c3 c4 c5 c6 c7 c8 c9 c10 c11 c12 c13 c14 c15 : K) (N : Nat) (hN : N % 2 = 0) (g : Nat → K) (u : Nat) (hx : 2 * u + 15 < N) :
    iwaveletRow [c0, c1, c2, c3, c4, c5, c6, c7, c8, c9, c10, c11, c12, c13, c14, c15] N g (2 * u + 15)
      = ((c0 * g u + c2 * g (u + 1) + c4 * g (u + 2) + c6 * g (u + 3) + c8 * g (u + 4) + c10 * g (u + 5) + c12 * g (u + 6) + c14 * g (u + 7)) + (c15 * g (N / 2 + u) + c13 * g (N / 2 + (u + 1)) + c11 * g (N / 2 + (u + 2)) + c9 * g (N / 2 + (u + 3)) + c7 * g (N / 2 + (u + 4)) + c5 * g (N / 2 + (u + 5)) + c3 * g (N / 2 + (u + 6)) + c1 * g (N / 2 + (u + 7)))) / 2 := by
  rw [iwaveletRow_odd _ 8 rfl N hN g u _ rfl hx]
  simp only [Finset.sum_range_succ, Finset.sum_range_zero, zero_add, add_zero, cf, List.getD_cons_succ,
    List.getD_cons_zero, Nat.reduceMul, Nat.reduceSub]

theorem iwavelet16_even (c0 c1 c2 c3 c4 c5 c6 c7 c8 c9 c10 c11 c12 c13 c14 c15 : K) (N : Nat) (hN : N % 2 = 0) (g : Nat → K) (u : Nat) (hx : 2 * u + 14 < N) :
    iwaveletRow [c0, c1, c2, c3, c4, c5, c6, c7, c8, c9, c10, c11, c12, c13, c14, c15] N g (2 * u + 14)
      = ((c1 * g u + c3 * g (u + 1) + c5 * g (u + 2) + c7 * g (u + 3) + c9 * g (u + 4) + c11 * g (u + 5) + c13 * g (u + 6) + c15 * g (u + 7)) + (-c14 * g (N / 2 + u) + -c12 * g (N / 2 + (u + 1)) + -c10 * g (N / 2 + (u + 2)) + -c8 * g (N / 2 + (u + 3)) + -c6 * g (N / 2 + (u + 4)) + -c4 * g (N / 2 + (u + 5)) + -c2 * g (N / 2 + (u + 6)) + -c0 * g (N / 2 + (u + 7)))) / 2 := by
  rw [iwaveletRow_even _ 8 rfl N hN g u _ rfl hx]
  simp only [Finset.sum_range_succ, Finset.sum_range_zero, zero_add, add_zero, cf, List.getD_cons_succ,
    List.getD_cons_zero, Nat.reduceMul, Nat.reduceSub]

theorem wavelet18_low (c0 c1 c2 c3 c4 c5 c6 c7 c8 c9 c10 c11 c12 c13 c14 c15 c16 c17 : K) (N : Nat) (f : Nat → K) (m : Nat) (hm : m < N / 2) :
    waveletRow [c0, c1, c2, c3, c4, c5, c6, c7, c8, c9, c10, c11, c12, c13, c14, c15, c16, c17] N f m
      = c17 * ext N f (2 * m) + c16 * ext N f (2 * m + 1) + c15 * ext N f (2 * m + 2) + c14 * ext N f (2 * m + 3) + c13 * ext N f (2 * m + 4) + c12 * ext N f (2 * m + 5) + c11 * ext N f (2 * m + 6) + c10 * ext N f (2 * m + 7) + c9 * ext N f (2 * m + 8) + c8 * ext N f (2 * m + 9) + c7 * ext N f (2 * m + 10) + c6 * ext N f (2 * m + 11) + c5 * ext N f (2 * m + 12) + c4 * ext N f (2 * m + 13) + c3 * ext N f (2 * m + 14) + c2 * ext N f (2 * m + 15) + c1 * ext N f (2 * m + 16) + c0 * ext N f (2 * m + 17) := by
  rw [waveletRow_low_list _ 18 rfl N f m hm]
  simp only [revDot, Nat.reduceSub, add_zero]

theorem wavelet18_high (c0 c1 c2 c3 c4 c5 c6 c7 c8 c9 c10 c11 c12 c13 c14 c15 c16 c17 : K) (N : Nat) (f : Nat → K) (m : Nat) (hm : m < N / 2) :
    waveletRow [c0, c1, c2, c3, c4, c5, c6, c7, c8, c9, c10, c11, c12, c13, c14, c15, c16, c17] N f (N / 2 + m)
      = -c0 * ext N f (2 * m) + c1 * ext N f (2 * m + 1) + -c2 * ext N f (2 * m + 2) + c3 * ext N f (2 * m + 3) + -c4 * ext N f (2 * m + 4) + c5 * ext N f (2 * m + 5) + -c6 * ext N f (2 * m + 6) + c7 * ext N f (2 * m + 7) + -c8 * ext N f (2 * m + 8) + c9 * ext N f (2 * m + 9) + -c10 * ext N f (2 * m + 10) + c11 * ext N f (2 * m + 11) + -c12 * ext N f (2 * m + 12) + c13 * ext N f (2 * m + 13) + -c14 * ext N f (2 * m + 14) + c15 * ext N f (2 * m + 15) + -c16 * ext N f (2 * m + 16) + c17 * ext N f (2 * m + 17) := by
  rw [waveletRow_high_list _ _ N f m hm]
  simp only [dotFrom, Nat.reduceAdd, Nat.reduceMod, Nat.reduceEqDiff, if_true, if_false]

theorem iwavelet18_odd (c0 c1 c2 c3 c4 c5 c6 c7 c8 c9 c10 c11 c12 c13 c14 c15 c16 c17 : K) (N : Nat) (hN : N % 2 = 0) (g : Nat → K) (u : Nat) (hx : 2 * u + 17 < N) :
    iwaveletRow [c0, c1, c2, c3, c4, c5, c6, c7, c8, c9, c10, c11, c12, c13, c14, c15, c16, c17] N g (2 * u + 17)
      = ((c0 * g u + c2 * g (u + 1) + c4 * g (u + 2) + c6 * g (u + 3) + c8 * g (u + 4) + c10 * g (u + 5) + c12 * g (u + 6) + c14 * g (u + 7) + c16 * g (u + 8)) + (c17 * g (N / 2 + u) + c15 * g (N / 2 + (u + 1)) + c13 * g (N / 2 + (u + 2)) + c11 * g (N / 2 + (u + 3)) + c9 * g (N / 2 + (u + 4)) + c7 * g (N / 2 + (u + 5)) + c5 * g (N / 2 + (u + 6)) + c3 * g (N / 2 + (u + 7)) + c1 * g (N / 2 + (u + 8)))) / 2 := by
  rw [iwaveletRow_odd _ 9 rfl N hN g u _ rfl hx]
  simp only [Finset.sum_range_succ, Finset.sum_range_zero, zero_add, add_zero, cf, List.getD_cons_succ,
    List.getD_cons_zero, Nat.reduceMul, Nat.reduceSub]

theorem iwavelet18_even (c0 c1 c2 c3 c4 c5 c6 c7 c8 c9 c10 c11 c12 c13 c14 c15 c16 c17 : K) (N : Nat) (hN : N % 2 = 0) (g : Nat → K) (u : Nat) (hx : 2 * u + 16 < N) :
    iwaveletRow [c0, c1, c2, c3, c4, c5, c6, c7, c8, c9, c10, c11, c12, c13, c14, c15, c16, c17] N g (2 * u + 16)
      = ((c1 * g u + c3 * g (u + 1) + c5 * g (u + 2) + c7 * g (u + 3) + c9 * g (u + 4) + c11 * g (u + 5) + c13 * g (u + 6) + c15 * g (u + 7) + c17 * g (u + 8)) + (-c16 * g (N / 2 + u) + -c14 * g (N / 2 + (u + 1)) + -c12 * g (N / 2 + (u + 2)) + -c10 * g (N / 2 + (u + 3)) + -c8 * g (N / 2 + (u + 4)) + -c6 * g (N / 2 + (u + 5)) + -c4 * g (N / 2 + (u + 6)) + -c2 * g (N / 2 + (u + 7)) + -c0 * g (N / 2 + (u + 8)))) / 2 := by
  rw [iwaveletRow_even _ 9 rfl N hN g u _ rfl hx]
  simp only [Finset.sum_range_succ, Finset.sum_range_zero, zero_add, add_zero, cf, List.getD_cons_succ,
    List.getD_cons_zero, Nat.reduceMul, Nat.reduceSub]

theorem wavelet20_low (c0 c1 c2 c3 c4 c5 c6 c7 c8 c9 c10 c11 c12 c13 c14 c15 c16 c17 c18 c19 : K) (N : Nat) (f : Nat → K) (m : Nat) (hm : m < N / 2) :
    waveletRow [c0, c1, c2, c3, c4, c5, c6, c7, c8, c9, c10, c11, c12, c13, c14, c15, c16, c17, c18, c19] N f m
      = c19 * ext N f (2 * m) + c18 * ext N f (2 * m + 1) + c17 * ext N f (2 * m + 2) + c16 * ext N f (2 * m + 3) + c15 * ext N f (2 * m + 4) + c14 * ext N f (2 * m + 5) + c13 * ext N f (2 * m + 6) + c12 * ext N f (2 * m + 7) + c11 * ext N f (2 * m + 8) + c10 * ext N f (2 * m + 9) + c9 * ext N f (2 * m + 10) + c8 * ext N f (2 * m + 11) + c7 * ext N f (2 * m + 12) + c6 * ext N f (2 * m + 13) + c5 * ext N f (2 * m + 14) + c4 * ext N f (2 * m + 15) + c3 * ext N f (2 * m + 16) + c2 * ext N f (2 * m + 17) + c1 * ext N f (2 * m + 18) + c0 * ext N f (2 * m + 19) := by
  rw [waveletRow_low_list _ 20 rfl N f m hm]
  simp only [revDot, Nat.reduceSub, add_zero]

theorem wavelet20_high (c0 c1 c2 c3 c4 c5 c6 c7 c8 c9 c10 c11 c12 c13 c14 c15 c16 c17 c18 c19 : K) (N : Nat) (f : Nat → K) (m : Nat) (hm : m < N / 2) :
    waveletRow [c0, c1, c2, c3, c4, c5, c6, c7, c8, c9, c10, c11, c12, c13, c14, c15, c16, c17, c18, c19] N f (N / 2 + m)
      = -c0 * ext N f (2 * m) + c1 * ext N f (2 * m + 1) + -c2 * ext N f (2 * m + 2) + c3 * ext N f (2 * m + 3) + -c4 * ext N f (2 * m + 4) + c5 * ext N f (2 * m + 5) + -c6 * ext N f (2 * m + 6) + c7 * ext N f (2 * m + 7) + -c8 * ext N f (2 * m + 8) + c9 * ext N f (2 * m + 9) + -c10 * ext N f (2 * m + 10) + c11 * ext N f (2 * m + 11) + -c12 * ext N f (2 * m + 12) + c13 * ext N f (2 * m + 13) + -c14 * ext N f (2 * m + 14) + c15 * ext N f (2 * m + 15) + -c16 * ext N f (2 * m + 16) + c17 * ext N f (2 * m + 17) + -c18 * ext N f (2 * m + 18) + c19 * ext N f (2 * m + 19) := by
  rw [waveletRow_high_list _ _ N f m hm]
  simp only [dotFrom, Nat.reduceAdd, Nat.reduceMod, Nat.reduceEqDiff, if_true, if_false]

theorem iwavelet20_odd (c0 c1 c2 c3 c4 c5 c6 c7 c8 c9 c10 c11 c12 c13 c14 c15 c16 c17 c18 c19 : K) (N : Nat) (hN : N % 2 = 0) (g : Nat → K) (u : Nat) (hx : 2 * u + 19 < N) :
    iwaveletRow [c0, c1, c2, c3, c4, c5, c6, c7, c8, c9, c10, c11, c12, c13, c14, c15, c16, c17, c18, c19] N g (2 * u + 19)
      = ((c0 * g u + c2 * g (u + 1) + c4 * g (u + 2) + c6 * g (u + 3) + c8 * g (u + 4) + c10 * g (u + 5) + c12 * g (u + 6) + c14 * g (u + 7) + c16 * g (u + 8) + c18 * g (u + 9)) + (c19 * g (N / 2 + u) + c17 * g (N / 2 + (u + 1)) + c15 * g (N / 2 + (u + 2)) + c13 * g (N / 2 + (u + 3)) + c11 * g (N / 2 + (u + 4)) + c9 * g (N / 2 + (u + 5)) + c7 * g (N / 2 + (u + 6)) + c5 * g (N / 2 + (u + 7)) + c3 * g (N / 2 + (u + 8)) + c1 * g (N / 2 + (u + 9)))) / 2 := by
  rw [iwaveletRow_odd _ 10 rfl N hN g u _ rfl hx]
  simp only [Finset.sum_range_succ, Finset.sum_range_zero, zero_add, add_zero, cf, List.getD_cons_succ,
    List.getD_cons_zero, Nat.reduceMul, Nat.reduceSub]

theorem iwavelet20_even (c0 c1 c2 c3 c4 c5 c6 c7 c8 c9 c10 c11 c12 c13 c14 c15 c16 c17 c18 c19 : K) (N : Nat) (hN : N % 2 = 0) (g : Nat → K) (u : Nat) (hx : 2 * u + 18 < N) :
    iwaveletRow [c0, c1, c2, c3, c4, c5, c6, c7, c8, c9, c10, c11, c12, c13, c14, c15, c16, c17, c18, c19] N g (2 * u + 18)
      = ((c1 * g u + c3 * g (u + 1) + c5 * g (u + 2) + c7 * g (u + 3) + c9 * g (u + 4) + c11 * g (u + 5) + c13 * g (u + 6) + c15 * g (u + 7) + c17 * g (u + 8) + c19 * g (u + 9)) + (-c18 * g (N / 2 + u) + -c16 * g (N / 2 + (u + 1)) + -c14 * g (N / 2 + (u + 2)) + -c12 * g (N / 2 + (u + 3)) + -c10 * g (N / 2 + (u + 4)) + -c8 * g (N / 2 + (u + 5)) + -c6 * g (N / 2 + (u + 6)) + -c4 * g (N / 2 + (u + 7)) + -c2 * g (N / 2 + (u + 8)) + -c0 * g (N / 2 + (u + 9)))) / 2 := by
  rw [iwaveletRow_even _ 10 rfl N hN g u _ rfl hx]
  simp only [Finset.sum_range_succ, Finset.sum_range_zero, zero_add, add_zero, cf, List.getD_cons_succ,
    List.getD_cons_zero, Nat.reduceMul, Nat.reduceSub]

theorem pr_list (h2 : (2 : K) ≠ 0) (cs : List K) (hl : cs.length ∈ prLengths) (hq : qmfExact cs)
    (N : Nat) (hN : N % 2 = 0) (f : Nat → K) (x : Nat) (hx : cs.length ≤ x + 2) (hxN : x < N) :
    iwaveletRow cs N (waveletRow cs N f) x = f x := by
  obtain ⟨he, hp⟩ := even_of_mem_prLengths hl
  rw [rowIdentity_general h2 cs he hp N hN f x hx hxN, errRow_eq_zero cs he hp hq, add_zero]

end Mahotas.C17
