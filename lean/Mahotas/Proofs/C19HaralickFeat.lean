/-
C19 — the Haralick features that do not involve logarithms, over any ordered field.

`colSumG`, `rowSumG`, `meanG`, `meanSqG`, `varG`, `contrastG`, `covG`, `idmG`, `sumAvgG`, `sumVarG`, `diffVarG`
are the generic definitions of `Model/C19.lean` from which `haralick13` (the model the driver runs at `Float`)
is assembled. Here `P` is any matrix; where needed it is non-negative with total 1 (true for the
normalised matrix `p = c / Σc`: `matAt_nonneg`, `matAt_total`).

Every mean and variance of a marginal is an expectation under `P` of the statistic the marginal is the distribution of
(`meanG_fiber`, `varG_fiber`); the inequalities are those of a weighted mean on a finite index set (`weighted_cov`).
-/
import Mahotas.Proofs.C19Haralick
import Mathlib.Algebra.Order.BigOperators.Ring.Finset
namespace Mahotas.C19
open Mahotas
open Finset (range)

section field
variable {α : Type} [Field α] [LinearOrder α] [IsStrictOrderedRing α]

omit [LinearOrder α] [IsStrictOrderedRing α] in
/-- covariance about the origin = covariance about the means, for weights of total 1 -/
theorem weighted_cov {ι : Type} (s : Finset ι) (w a b : ι → α) (h1 : ∑ x ∈ s, w x = 1) :
    ∑ x ∈ s, w x * (a x * b x) - (∑ x ∈ s, w x * a x) * (∑ x ∈ s, w x * b x) =
      ∑ x ∈ s, w x * ((a x - ∑ y ∈ s, w y * a y) * (b x - ∑ y ∈ s, w y * b y)) := by
  generalize hA : ∑ y ∈ s, w y * a y = A
  generalize hB : ∑ y ∈ s, w y * b y = B
  have e : ∀ x, w x * ((a x - A) * (b x - B)) = w x * (a x * b x) - B * (w x * a x) - A * (w x * b x) + A * B * w x :=
    fun x => by ring
  simp only [e]
  rw [Finset.sum_add_distrib, Finset.sum_sub_distrib, Finset.sum_sub_distrib, ← Finset.mul_sum, ← Finset.mul_sum,
    ← Finset.mul_sum, h1, hA, hB]
  ring

omit [LinearOrder α] [IsStrictOrderedRing α] in
theorem weighted_var {ι : Type} (s : Finset ι) (w a : ι → α) (h1 : ∑ x ∈ s, w x = 1) :
    ∑ x ∈ s, w x * a x ^ 2 - (∑ x ∈ s, w x * a x) ^ 2 = ∑ x ∈ s, w x * (a x - ∑ y ∈ s, w y * a y) ^ 2 := by
  simp only [sq]
  exact weighted_cov s w a a h1

theorem weighted_var_nonneg {ι : Type} (s : Finset ι) (w a : ι → α) (h0 : ∀ x ∈ s, 0 ≤ w x)
    (h1 : ∑ x ∈ s, w x = 1) : 0 ≤ ∑ x ∈ s, w x * a x ^ 2 - (∑ x ∈ s, w x * a x) ^ 2 := by
  rw [weighted_var s w a h1]
  exact Finset.sum_nonneg fun x hx => mul_nonneg (h0 x hx) (sq_nonneg _)

/-- `cov² ≤ var_a · var_b` (weighted Cauchy–Schwarz, no square roots) -/
theorem weighted_cov_sq_le {ι : Type} (s : Finset ι) (w a b : ι → α) (h0 : ∀ x ∈ s, 0 ≤ w x)
    (h1 : ∑ x ∈ s, w x = 1) :
    (∑ x ∈ s, w x * (a x * b x) - (∑ x ∈ s, w x * a x) * (∑ x ∈ s, w x * b x)) ^ 2 ≤
      (∑ x ∈ s, w x * a x ^ 2 - (∑ x ∈ s, w x * a x) ^ 2) * (∑ x ∈ s, w x * b x ^ 2 - (∑ x ∈ s, w x * b x) ^ 2) := by
  rw [weighted_cov s w a b h1, weighted_var s w a h1, weighted_var s w b h1]
  exact Finset.sum_sq_le_sum_mul_sum_of_sq_le_mul s
    (fun x hx => mul_nonneg (h0 x hx) (sq_nonneg _)) (fun x hx => mul_nonneg (h0 x hx) (sq_nonneg _))
    (fun x _ => le_of_eq (by ring))

omit [LinearOrder α] [IsStrictOrderedRing α] in
theorem dsum_eq_prod (m : ℕ) (F : ℕ → ℕ → α) :
    ∑ i ∈ range m, ∑ j ∈ range m, F i j = ∑ x ∈ range m ×ˢ range m, F x.1 x.2 :=
  (Finset.sum_product' _ _ _).symm

section fiber
variable (m n : ℕ) (h : ℕ → ℕ → ℕ) (P : ℕ → ℕ → α) (hh : ∀ i < m, ∀ j < m, h i j < n)
include hh

omit [LinearOrder α] [IsStrictOrderedRing α] in
theorem meanG_fiber : meanG (0 : α) Nat.cast ((List.range n).map (fiberSum m h P)) n =
    ∑ x ∈ range m ×ˢ range m, P x.1 x.2 * (h x.1 x.2 : α) := by
  unfold meanG
  simp only [mul_comm _ ((_ : ℕ) : α)]
  rw [gsum_mul_fiber m n h P hh fun k => (k : α), dsum_eq_prod]

omit [LinearOrder α] [IsStrictOrderedRing α] in
theorem varG_fiber : varG (0 : α) Nat.cast ((List.range n).map (fiberSum m h P)) n =
    ∑ x ∈ range m ×ˢ range m, P x.1 x.2 * (h x.1 x.2 : α) ^ 2 -
      (∑ x ∈ range m ×ˢ range m, P x.1 x.2 * (h x.1 x.2 : α)) ^ 2 := by
  unfold varG
  rw [meanG_fiber m n h P hh, ← sq]
  unfold meanSqG
  simp only [mul_comm _ ((_ : ℕ) : α)]
  rw [gsum_mul_fiber m n h P hh fun k => ((k * k : ℕ) : α), dsum_eq_prod]
  congr 1
  exact Finset.sum_congr rfl fun x _ => by rw [Nat.cast_mul, ← sq, mul_comm]

theorem varG_fiber_nonneg (h0 : ∀ i j, 0 ≤ P i j) (h1 : ∑ i ∈ range m, ∑ j ∈ range m, P i j = 1) :
    0 ≤ varG (0 : α) Nat.cast ((List.range n).map (fiberSum m h P)) n := by
  rw [varG_fiber m n h P hh]
  exact weighted_var_nonneg _ (fun x : ℕ × ℕ => P x.1 x.2) _ (fun x _ => h0 _ _) (dsum_eq_prod m P ▸ h1)

omit [LinearOrder α] [IsStrictOrderedRing α] in
/-- the textbook (centred) form of the variance -/
theorem varG_fiber_centered (h1 : ∑ i ∈ range m, ∑ j ∈ range m, P i j = 1) :
    varG (0 : α) Nat.cast ((List.range n).map (fiberSum m h P)) n =
      ∑ i ∈ range m, ∑ j ∈ range m,
        P i j * ((h i j : α) - meanG 0 Nat.cast ((List.range n).map (fiberSum m h P)) n) ^ 2 := by
  rw [varG_fiber m n h P hh, meanG_fiber m n h P hh, dsum_eq_prod]
  exact weighted_var _ (fun x : ℕ × ℕ => P x.1 x.2) _ (dsum_eq_prod m P ▸ h1)

end fiber

variable (m : ℕ) (P : ℕ → ℕ → α)

omit [LinearOrder α] [IsStrictOrderedRing α] in
theorem cast_absDiff_sq (i j : ℕ) : ((absDiff i j * absDiff i j : ℕ) : α) = ((i : α) - (j : α)) ^ 2 := by
  unfold absDiff
  split
  · rename_i h; rw [Nat.cast_mul, Nat.cast_sub h]; ring
  · rename_i h; rw [Nat.cast_mul, Nat.cast_sub (by omega)]; ring

omit [LinearOrder α] [IsStrictOrderedRing α] in
theorem contrast_eq :
    contrastG (0 : α) Nat.cast m (pminusG 0 m P) = ∑ i ∈ range m, ∑ j ∈ range m, ((i : α) - (j : α)) ^ 2 * P i j := by
  rw [contrastG, pminusG_eq, gsum_mul_fiber m m absDiff P (fun _ hi _ hj => absDiff_lt hi hj) fun k => ((k * k : ℕ) : α)]
  simp only [cast_absDiff_sq]

omit [LinearOrder α] [IsStrictOrderedRing α] in
theorem pplus_moment (g : ℕ → α) :
    gsum 0 ((List.range (2 * m)).map fun k => g k * (pplusG (0 : α) m P).getD k 0) =
      ∑ i ∈ range m, ∑ j ∈ range m, g (i + j) * P i j := by
  rw [pplusG_eq]
  exact gsum_mul_fiber m (2 * m) _ P (fun _ hi _ hj => add_lt_two_mul hi hj) g

omit [LinearOrder α] [IsStrictOrderedRing α] in
/-- f6 is the mean of `p_{x+y}` -/
theorem sumAvgG_eq_meanG (q : List α) : sumAvgG (0 : α) Nat.cast m q = meanG 0 Nat.cast q (2 * m) := by
  unfold sumAvgG meanG; simp only [mul_comm]

omit [LinearOrder α] [IsStrictOrderedRing α] in
/-- `np.dot(tk2, p) − f6²` is the variance of `p_{x+y}` -/
theorem code_form_eq_varG (q : List α) :
    gsum 0 ((List.range (2 * m)).map fun k => ((k * k : ℕ) : α) * q.getD k 0) -
      sumAvgG 0 Nat.cast m q * sumAvgG 0 Nat.cast m q = varG 0 Nat.cast q (2 * m) := by
  rw [sumAvgG_eq_meanG]; unfold varG meanSqG; simp only [mul_comm]

omit [LinearOrder α] [IsStrictOrderedRing α] in
theorem sumAvg_eq :
    sumAvgG (0 : α) Nat.cast m (pplusG 0 m P) = ∑ i ∈ range m, ∑ j ∈ range m, ((i : α) + (j : α)) * P i j := by
  rw [sumAvgG, pplus_moment m P fun k => (k : α)]
  simp only [Nat.cast_add]

omit [LinearOrder α] [IsStrictOrderedRing α] in
/-- the sum average is the sum of the two marginal means: `f6 = μ_x + μ_y` -/
theorem sumAvg_eq_means :
    sumAvgG (0 : α) Nat.cast m (pplusG 0 m P) =
      meanG 0 Nat.cast (rowSumG 0 m P) m + meanG 0 Nat.cast (colSumG 0 m P) m := by
  rw [sumAvg_eq, rowSumG_eq, colSumG_eq, meanG_fiber m m _ P fun i hi _ _ => hi, meanG_fiber m m _ P fun _ _ j hj => hj,
    dsum_eq_prod, ← Finset.sum_add_distrib]
  exact Finset.sum_congr rfl fun x _ => by ring

theorem idm_bounds (h0 : ∀ i j, 0 ≤ P i j) (h1 : ∑ i ∈ range m, ∑ j ∈ range m, P i j = 1) :
    0 ≤ idmG (0 : α) 1 Nat.cast m P ∧ idmG (0 : α) 1 Nat.cast m P ≤ 1 := by
  unfold idmG
  rw [gsum_allPairs]
  have hden : ∀ i j : ℕ, (1 : α) ≤ 1 + ((absDiff i j * absDiff i j : ℕ) : α) := fun i j =>
    le_add_of_nonneg_right (Nat.cast_nonneg _)
  constructor
  · exact Finset.sum_nonneg fun i _ => Finset.sum_nonneg fun j _ =>
      div_nonneg (h0 i j) (le_trans zero_le_one (hden i j))
  · refine le_trans (Finset.sum_le_sum fun i _ => Finset.sum_le_sum fun j _ => ?_) (le_of_eq h1)
    exact div_le_self (h0 i j) (hden i j)

/-- **variances are non-negative** (f4 = `varG … p_x`) -/
theorem var_nonneg (h0 : ∀ i j, 0 ≤ P i j) (h1 : ∑ i ∈ range m, ∑ j ∈ range m, P i j = 1) :
    0 ≤ varG (0 : α) Nat.cast (colSumG 0 m P) m ∧ 0 ≤ varG (0 : α) Nat.cast (rowSumG 0 m P) m := by
  rw [colSumG_eq, rowSumG_eq]
  exact ⟨varG_fiber_nonneg m m _ P (fun _ _ j hj => hj) h0 h1, varG_fiber_nonneg m m _ P (fun i hi _ _ => hi) h0 h1⟩

omit [LinearOrder α] [IsStrictOrderedRing α] in
/-- **sum of squares: variance** in its textbook form `Σ_{i,j} (j − μ_x)² p(i,j)` (and the same for rows) -/
theorem var_centered (h1 : ∑ i ∈ range m, ∑ j ∈ range m, P i j = 1) :
    varG (0 : α) Nat.cast (colSumG 0 m P) m =
      ∑ i ∈ range m, ∑ j ∈ range m, P i j * ((j : α) - meanG 0 Nat.cast (colSumG 0 m P) m) ^ 2 ∧
    varG (0 : α) Nat.cast (rowSumG 0 m P) m =
      ∑ i ∈ range m, ∑ j ∈ range m, P i j * ((i : α) - meanG 0 Nat.cast (rowSumG 0 m P) m) ^ 2 := by
  rw [colSumG_eq, rowSumG_eq]
  exact ⟨varG_fiber_centered m m _ P (fun _ _ j hj => hj) h1, varG_fiber_centered m m _ P (fun i hi _ _ => hi) h1⟩

/-- **covariance² ≤ variance · variance** — the correlation lies in `[−1, 1]` wherever it is defined -/
theorem cov_sq_le (h0 : ∀ i j, 0 ≤ P i j) (h1 : ∑ i ∈ range m, ∑ j ∈ range m, P i j = 1) :
    covG (0 : α) Nat.cast m P (meanG 0 Nat.cast (colSumG 0 m P) m) (meanG 0 Nat.cast (rowSumG 0 m P) m) ^ 2 ≤
      varG (0 : α) Nat.cast (colSumG 0 m P) m * varG (0 : α) Nat.cast (rowSumG 0 m P) m := by
  have hcov : gsum 0 ((allPairs m).map fun ij => ((ij.1 * ij.2 : ℕ) : α) * P ij.1 ij.2) =
      ∑ x ∈ range m ×ˢ range m, P x.1 x.2 * ((x.2 : α) * (x.1 : α)) := by
    rw [gsum_allPairs, dsum_eq_prod]
    exact Finset.sum_congr rfl fun x _ => by rw [Nat.cast_mul]; ring
  rw [covG, hcov, colSumG_eq, rowSumG_eq, varG_fiber m m _ P fun _ _ j hj => hj, varG_fiber m m _ P fun i hi _ _ => hi,
    meanG_fiber m m _ P fun _ _ j hj => hj, meanG_fiber m m _ P fun i hi _ _ => hi]
  exact weighted_cov_sq_le _ (fun x : ℕ × ℕ => P x.1 x.2) _ _ (fun x _ => h0 _ _) (dsum_eq_prod m P ▸ h1)

theorem corr_bounds (cov vx vy sx sy : α) (h : cov ^ 2 ≤ vx * vy) (hx : sx ^ 2 = vx) (hy : sy ^ 2 = vy)
    (px : 0 < sx) (py : 0 < sy) : -1 ≤ cov / (sx * sy) ∧ cov / (sx * sy) ≤ 1 := by
  have hpos : 0 < sx * sy := mul_pos px py
  have h2 : cov ^ 2 ≤ (sx * sy) ^ 2 := by rw [mul_pow, hx, hy]; exact h
  rw [le_div_iff₀ hpos, div_le_iff₀ hpos, neg_one_mul, one_mul]
  exact abs_le_of_sq_le_sq' h2 hpos.le

omit [LinearOrder α] [IsStrictOrderedRing α] in
theorem sumVar_eq (mu : α) :
    sumVarG (0 : α) Nat.cast m (pplusG 0 m P) mu =
      ∑ i ∈ range m, ∑ j ∈ range m, ((i : α) + (j : α) - mu) ^ 2 * P i j := by
  rw [sumVarG, pplus_moment m P fun k => ((k : α) - mu) * ((k : α) - mu)]
  simp only [Nat.cast_add, ← sq]

theorem sumVar_nonneg (h0 : ∀ i j, 0 ≤ P i j) (mu : α) : 0 ≤ sumVarG (0 : α) Nat.cast m (pplusG 0 m P) mu := by
  rw [sumVar_eq]
  exact Finset.sum_nonneg fun i _ => Finset.sum_nonneg fun j _ => mul_nonneg (sq_nonneg _) (h0 i j)

omit [LinearOrder α] [IsStrictOrderedRing α] in
/-- the form `texture.py` computes: `np.dot(tk2, px_plus_y) − feats[5]**2` equals the textbook `Σ_k (k − f6)² p_{x+y}(k)` -/
theorem sumVar_code_form (h1 : ∑ i ∈ range m, ∑ j ∈ range m, P i j = 1) :
    sumVarG (0 : α) Nat.cast m (pplusG 0 m P) (sumAvgG 0 Nat.cast m (pplusG 0 m P)) =
      gsum 0 ((List.range (2 * m)).map fun k => ((k * k : ℕ) : α) * (pplusG (0 : α) m P).getD k 0) -
        sumAvgG 0 Nat.cast m (pplusG 0 m P) * sumAvgG 0 Nat.cast m (pplusG 0 m P) := by
  rw [code_form_eq_varG, sumVar_eq, sumAvgG_eq_meanG, pplusG_eq,
    varG_fiber_centered m (2 * m) _ P (fun _ hi _ hj => add_lt_two_mul hi hj) h1]
  exact Finset.sum_congr rfl fun i _ => Finset.sum_congr rfl fun j _ => by rw [Nat.cast_add, mul_comm]

theorem diffVar_nonneg (q : List α) : 0 ≤ diffVarG (0 : α) Nat.cast m q := by
  refine div_nonneg ?_ (Nat.cast_nonneg m)
  rw [gsum_eq_sum]
  refine List.sum_nonneg fun y hy => ?_
  obtain ⟨v, _, rfl⟩ := List.mem_map.1 hy
  exact mul_self_nonneg _

/-- `use_x_minus_y_variance`: **`VAR[|x−y|] = Σ k² p_{x−y}(k) − (Σ k p_{x−y}(k))² ≥ 0`** -/
theorem diffVarAlt_nonneg (h0 : ∀ i j, 0 ≤ P i j) (h1 : ∑ i ∈ range m, ∑ j ∈ range m, P i j = 1) :
    0 ≤ varG (0 : α) Nat.cast (pminusG 0 m P) m := by
  rw [pminusG_eq]
  exact varG_fiber_nonneg m m absDiff P (fun _ hi _ hj => absDiff_lt hi hj) h0 h1

end field

end Mahotas.C19
