/-
C15 — `thin(thin(x)) = thin(x)` for the whole model: the result of the loop is stable, cropping
and re-framing a stable image is a translation, passes commute with translations.
-/
import Mahotas.Proofs.C15Model
namespace Mahotas.C15
open Mahotas

theorem data_eq_of_get (a b : Bin) (ha : a.WF) (hb : b.WF) (hr : a.rows = b.rows) (hc : a.cols = b.cols)
    (h : ∀ y x, a.get y x = b.get y x) : a.data = b.data := by
  apply Array.ext
  · rw [ha, hb, hr, hc]
  · intro i h1 h2
    have e := h ((i / a.cols : Nat) : Int) ((i % a.cols : Nat) : Int)
    rw [get_divmod a (ha ▸ h1), hc, get_divmod b (hb ▸ h2)] at e
    simpa [Array.getD, h1, h2] using e

theorem bin_eq_of_get (a b : Bin) (ha : a.WF) (hb : b.WF) (hr : a.rows = b.rows) (hc : a.cols = b.cols)
    (h : ∀ y x, a.get y x = b.get y x) : a = b :=
  bin_ext a b hr hc (data_eq_of_get a b ha hb hr hc h)

theorem get_eq_of_bset (a b : Bin) (h : bset a = bset b) (y x : Int) : a.get y x = b.get y x := by
  have : ((y, x) ∈ bset a) ↔ ((y, x) ∈ bset b) := by rw [h]
  simp only [bset, Set.mem_ofPred_eq] at this
  cases ha : a.get y x <;> cases hb : b.get y x <;> simp_all

def foldT (l : List Elem) (A : Set Px) : Set Px := l.foldl (fun A e => passT e A) A

theorem bset_foldl_pass (l : List Elem) (b : Bin) : bset (l.foldl pass b) = foldT l (bset b) := by
  induction l generalizing b with
  | nil => rfl
  | cons e es ih =>
    simp only [List.foldl_cons, foldT]
    rw [ih (pass b e), bset_pass]; rfl

theorem passT_shift (e : Elem) (dy dx : Int) (A : Set Px) :
    passT e {u | shift dy dx u ∈ A} = {u | shift dy dx u ∈ passT e A} := by
  ext p
  simp only [passT, delT, Set.mem_ofPred_eq, shift]
  have : ∀ t : Int × Int × Bool, ((p.1 + t.1 + dy, p.2 + t.2.1 + dx) ∈ A) ↔ ((p.1 + dy + t.1, p.2 + dx + t.2.1) ∈ A) := by
    intro t
    have e1 : p.1 + t.1 + dy = p.1 + dy + t.1 := by ring
    have e2 : p.2 + t.2.1 + dx = p.2 + dx + t.2.1 := by ring
    rw [e1, e2]
  simp only [this]

theorem foldT_shift (l : List Elem) (dy dx : Int) (A : Set Px) :
    foldT l {u | shift dy dx u ∈ A} = {u | shift dy dx u ∈ foldT l A} := by
  induction l generalizing A with
  | nil => rfl
  | cons e es ih =>
    simp only [foldT, List.foldl_cons]
    rw [passT_shift]
    exact ih (passT e A)

theorem stable_of_shift (a t : Bin) (ha : a.WF) (ht : t.WF) (hs : Stable t) (dy dx : Int)
    (h : bset a = {u | shift dy dx u ∈ bset t}) : Stable a := by
  have h1 : bset (iter a) = bset a := by
    unfold iter
    rw [bset_foldl_pass, h, foldT_shift, ← bset_foldl_pass]
    have : List.foldl pass t Generated.thinElems = t := iter_eq_of_stable t ht hs
    rw [this]
  exact data_eq_of_get _ _ (iter_shape a ha).2.2 ha (iter_shape a ha).1 (iter_shape a ha).2.1
    (get_eq_of_bset _ _ h1)

theorem frameOf_wf (b : Bin) : (frameOf b).WF := tabulate_wf _ _ _
theorem pasteOf_wf (b t : Bin) : (pasteOf b t).WF := tabulate_wf _ _ _

theorem shift_shift (a b c d : Int) (p : Px) : shift a b (shift c d p) = shift (a + c) (b + d) p := by
  simp only [shift]; exact Prod.ext (by ring) (by ring)

theorem preimage_shift_symm {dy dx : Int} {S T : Set Px} (h : {u | shift dy dx u ∈ S} = T) :
    S = {q | shift (-dy) (-dx) q ∈ T} := by
  subst h
  ext q
  simp [shift]

theorem paste_frame (R : Bin) (hR : R.WF) : pasteOf R (frameOf R) = R := by
  apply bin_eq_of_get _ _ (pasteOf_wf _ _) hR rfl rfl
  apply get_eq_of_bset
  rw [← bset_pasteOf R (frameOf R) (fun _ h => h)]
  exact bset_frameOf R

theorem thinModel_idem (b : Bin) (maxIter maxIter' : Int) (hm : maxIter < 0) :
    thinModel (thinModel b maxIter) maxIter' = thinModel b maxIter := by
  set R := thinModel b maxIter with hRdef
  have hRwf : R.WF := by rw [hRdef, thinModel_eq]; exact pasteOf_wf _ _
  -- the loop's result on the first run
  set t := thinCore (frameOf b) maxIter with htdef
  have htwf : t.WF := thinCore_wf _ (frameOf_wf b) maxIter
  have hts : Stable t := thinCore_stable _ (frameOf_wf b) maxIter hm
  have htsub : bset t ⊆ bset (frameOf b) := (thinCore_sameComps (frameOf b) maxIter).1
  have hR : bset R = {u | toFrame b u ∈ bset t} := by
    rw [hRdef, thinModel_eq]; exact (bset_pasteOf b t htsub).symm
  -- the frame of R is a translate of R, hence of t (the offsets are found by unification), hence stable
  have hFs : Stable (frameOf R) := by
    refine stable_of_shift _ t (frameOf_wf R) htwf hts ?_ ?_ ?h
    case h =>
      rw [preimage_shift_symm (bset_frameOf R), hR]
      ext q
      simp only [toFrame, Set.mem_ofPred_eq, shift_shift]
      exact Iff.rfl
  rw [thinModel_eq R maxIter']
  unfold thinCore
  rw [thinLoop_eq_of_stable _ _ (frameOf_wf R) hFs]
  exact paste_frame R hRwf

end Mahotas.C15
