/-
C03 — the neighbour list of the scan (`neighbours`, `offsets`) is what the `filter_iterator` mechanism
(F6: `init_filter_offsets` + `init_filter_iterator` + `iterate_both` + `retrieve`, `Model/FilterIter.lean`)
delivers at every pixel.
-/
import Mahotas.Proofs.C03Label
import Mahotas.Proofs.FilterIter
namespace Mahotas.C03
open Mahotas FilterIter

/-- the (compressed) footprint the `filter_iterator` constructor derives from the element: non-zero entries -/
def fpOf (bc : Array Int) : Array Bool := bc.map fun v => v != 0

theorem fpOf_getD (bc : Array Int) (k : Nat) : (fpOf bc).getD k false = (bc.getD k 0 != 0) := by
  unfold fpOf
  simp only [Array.getD_eq_getD_getElem?, Array.getElem?_map]
  cases bc[k]? <;> simp

theorem offsets_eq_footprint (bshape : List Nat) (bc : Array Int) :
    offsets bshape bc = (footprintCoords bshape (fpOf bc)).map (fun k => subPos k (centreOf bshape)) := by
  unfold offsets footprintCoords
  rw [Mahotas.filterMap_ite _ (fun i => bc.getD i 0 == 0), List.map_map]
  congr 1
  exact List.filter_congr fun i _ => by rw [C03.fpOf_getD]; rfl

/-- what the scan does with the `j`-th retrieved table entry: flagged / past-the-end entries are skipped,
    otherwise the flat index of `position + offset` is read -/
def retrievedIndex (shape : List Nat) (p : List Int) (e : Option Entry) : Option Nat :=
  match e with
  | some (some off) => some (ravelI shape (addPos p off))
  | _ => none

/-- At the `i`-th pixel of the scan, the `j`-th entry the filter-iterator mechanism
    retrieves names exactly the pixel the model's `neighbours` computes from its `j`-th offset. -/
theorem retrieve_eq_neighbour (m : Mode) (shape bshape : List Nat) (bc : Array Int)
    (hlen : shape.length = bshape.length) (ha : ∀ a ∈ shape, 1 ≤ a) (hf : ∀ f ∈ bshape, 1 ≤ f)
    (i : Nat) (hi : i < shapeSize shape) (j : Nat) (hj : j < (offsets bshape bc).length) :
    retrievedIndex shape (unravelI shape i)
        (retrieve (mkFIter m shape bshape (fpOf bc)) (stateAfter (mkFIter m shape bshape (fpOf bc)) shape i) j) =
      (fixPos m shape (addPos (unravelI shape i) ((offsets bshape bc)[j]))).map (ravelI shape) := by
  have hj' : j < (footprintCoords bshape (fpOf bc)).length := by
    rw [offsets_eq_footprint] at hj; simpa using hj
  have ho : subPos ((footprintCoords bshape (fpOf bc))[j]) (centreOf bshape) = (offsets bshape bc)[j] := by
    simp only [offsets_eq_footprint, List.getElem_map]
  rw [filterIter_refines m shape bshape (fpOf bc) hlen ha hf i hi j hj']
  unfold closedForm retrievedIndex
  rw [ho]
  cases hq : fixPos m shape (addPos (unravelI shape i) (offsets bshape bc)[j]) with
  | none => rfl
  | some q =>
    -- the table holds `q − p`; the scan adds it to `p` again
    have h2 := fixPos_length m shape _ q (by
      rw [C01.addPos_length_of_eq _ _ (by rw [unravelI_length, offsets_length bshape bc _ (List.getElem_mem hj), hlen]),
        unravelI_length]) hq
    simp only [Option.map_some]
    rw [C01.addPos_subPos _ q (by rw [h2, unravelI_length])]

end Mahotas.C03
