/-
C04 — flat-index arithmetic (`pos_to_flat`, `flat_to_pos`, flat deltas)
and the border margins (`margin_of`) of `Model/C04.lean`.
-/
import Mahotas.Model.C04
import Mahotas.Proofs.C01Index
import Mathlib.Tactic.Ring
import Mathlib.Tactic.SplitIfs

namespace Mahotas.C04
open Mahotas

theorem offsets_length (bshape : List Nat) (bc : Array Int) :
    ∀ o ∈ offsets bshape bc, o.length = bshape.length := by
  intro o ho
  obtain ⟨j, _, hj⟩ := List.mem_filterMap.mp ho
  split_ifs at hj
  rw [← Option.some.inj hj, C01.subPos_length_of_eq _ _ (by rw [unravelI_length, centreOf, List.length_map]), unravelI_length]

theorem shapeSize_pos_of_lt (s : List Nat) (i : Nat) (h : i < shapeSize s) : 0 < shapeSize s := by omega

/-- `next.position + delta` is the flat index of `pos + offset` whenever both are inside -/
theorem ravelI_addPos : ∀ (s : List Nat) (p o : List Int), inside s p = true → inside s (addPos p o) = true →
    ((ravelI s (addPos p o) : Nat) : Int) = (ravelI s p : Int) + posToFlat s o
  | [], [], _, _, _ => rfl
  | [], _ :: _, _, h, _ => by cases h
  | _ :: _, [], _, h, _ => by cases h
  | _ :: _, _ :: _, [], _, h => by cases h
  | d :: ds, a :: ps, b :: os, hp, hq => by
    obtain ⟨⟨h0, _⟩, h2⟩ := (C01.inside_cons d ds a ps).mp hp
    obtain ⟨⟨g0, _⟩, g2⟩ := (C01.inside_cons d ds (a + b) (addPos ps os)).mp hq
    have ih := ravelI_addPos ds ps os h2 g2
    show (((a + b).toNat * shapeSize ds + ravelI ds (addPos ps os) : Nat) : Int) =
      ((a.toNat * shapeSize ds + ravelI ds ps : Nat) : Int) + (b * (shapeSize ds : Int) + posToFlat ds os)
    push_cast
    rw [ih, Int.toNat_of_nonneg h0, Int.toNat_of_nonneg g0]
    ring

/-- a zero flat delta between two pixels of the image means the same pixel, so the entries
    skipped by `if (!delta) continue` are the centre or lead outside the image from every pixel -/
theorem zero_delta_same (s : List Nat) (p o : List Int) (hp : inside s p = true)
    (hq : inside s (addPos p o) = true) (hd : posToFlat s o = 0) : addPos p o = p := by
  have h := ravelI_addPos s p o hp hq
  rw [hd, Int.add_zero] at h
  exact C01.ravelI_inj s _ _ hq hp (Int.ofNat.inj h)

theorem idxMax_pos : (0 : Int) ≤ idxMax := Int.natCast_nonneg 9223372036854775807

theorem inside_iff_margin : ∀ (s : List Nat) (p : List Int), p.length = s.length →
    (inside s p = true ↔ 0 ≤ marginOf s p)
  | [], [], _ => iff_of_true rfl idxMax_pos
  | d :: ds, a :: ps, hl => by
    rw [C01.inside_cons, inside_iff_margin ds ps (Nat.succ.inj hl)]
    show _ ↔ 0 ≤ min (min a ((d : Int) - a - 1)) (marginOf ds ps)
    rw [le_min_iff, le_min_iff]
    omega

/-- one axis: moving by `b` lowers the distance to either end by at most `|b|` -/
theorem axisMargin_add (d : Nat) (a b : Int) : axisMargin d a - (b.natAbs : Int) ≤ axisMargin d (a + b) := by
  unfold axisMargin; omega

theorem margin_lipschitz' : ∀ (s : List Nat) (p o : List Int), p.length = s.length → o.length = s.length →
    marginOf s p - chebStep o ≤ marginOf s (addPos p o)
  | [], [], [], _, _ => sub_le_self _ (le_refl _)
  | d :: ds, a :: ps, b :: os, hp, ho =>
    le_min ((sub_le_sub (min_le_left _ _) (le_max_left _ _)).trans (axisMargin_add d a b))
      ((sub_le_sub (min_le_right _ _) (le_max_right _ _)).trans
        (margin_lipschitz' ds ps os (Nat.succ.inj hp) (Nat.succ.inj ho)))

/-- `margin_of` is 1-Lipschitz for the Chebyshev distance; the length conditions stand as a right-hand disjunct here, the
    implication from them is `margin_lipschitz'` -/
theorem margin_lipschitz (s : List Nat) (p o : List Int) :
    marginOf s p - chebStep o ≤ marginOf s (addPos p o) ∨ (p.length ≠ s.length ∨ o.length ≠ s.length) := by
  by_cases hp : p.length = s.length
  · by_cases ho : o.length = s.length
    · exact Or.inl (margin_lipschitz' s p o hp ho)
    · exact Or.inr (Or.inr ho)
  · exact Or.inr (Or.inl hp)

theorem chebStep_negPos : ∀ o : List Int, chebStep (negPos o) = chebStep o
  | [] => rfl
  | x :: xs => by
    show max ((-x).natAbs : Int) (chebStep (negPos xs)) = max (x.natAbs : Int) (chebStep xs)
    rw [chebStep_negPos xs, Int.natAbs_neg]

theorem margin_lipschitz_back (s : List Nat) (p o : List Int) (hp : p.length = s.length)
    (ho : o.length = s.length) : marginOf s (addPos p o) - chebStep o ≤ marginOf s p := by
  have hl : (addPos p o).length = s.length := (C01.addPos_length_of_eq p o (hp.trans ho.symm)).trans hp
  have := margin_lipschitz' s (addPos p o) (negPos o) hl ((C01.negPos_length o).trans ho)
  rw [C01.addPos_negPos p o (ho.trans hp.symm), chebStep_negPos] at this
  exact this

/-- The bounds decision of the inner loop. If the stored margin is a lower bound of the true
    margin of the (inside) pixel `p`, then `nbCheck` says "skip" exactly when `p + off` is outside the
    image; otherwise the margin handed to the neighbour is a lower bound of the neighbour's true
    margin, and the updated margin is still a lower bound for `p` and did not decrease. -/
theorem nbCheck_sound (s : List Nat) (i : Nat) (m : Int) (o : List Int) (delta : Int)
    (ho : o.length = s.length) (hm : m ≤ marginOf s (unravelI s i)) :
    match nbCheck s i m ⟨delta, chebStep o, o⟩ with
    | none => inside s (addPos (unravelI s i) o) = false
    | some (nm, m') => inside s (addPos (unravelI s i) o) = true ∧
        nm ≤ marginOf s (addPos (unravelI s i) o) ∧ m ≤ m' ∧ m' ≤ marginOf s (unravelI s i) := by
  have hpl := unravelI_length s i
  have hql : (addPos (unravelI s i) o).length = s.length :=
    (C01.addPos_length_of_eq _ o (hpl.trans ho.symm)).trans hpl
  have hL := margin_lipschitz' s (unravelI s i) o hpl ho
  have hB := margin_lipschitz_back s (unravelI s i) o hpl ho
  have hiff := inside_iff_margin s (addPos (unravelI s i) o) hql
  unfold nbCheck
  simp only
  split_ifs with h1 h2 h3
  · exact Bool.eq_false_iff.mpr fun hc => absurd (hiff.1 hc) (not_le.mpr h2)
  · exact ⟨hiff.2 (by omega), le_refl _, by omega, by omega⟩
  · exact ⟨hiff.2 (by omega), le_refl _, le_refl _, hm⟩
  · exact ⟨hiff.2 (by omega), by omega, le_refl _, hm⟩

end Mahotas.C04
