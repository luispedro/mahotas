/-
C-order index arithmetic on `List Int` positions, over `Model/Basic` alone: `inside`, `ravelI`, `unravelI`, `allPos`, the
offsets `addPos` / `subPos` / `negPos`, single coordinates of a position (`getD`, `set`); in the root namespace reads of
images and tabulated arrays at such positions. The first part is in namespace `C01`: the morphology proofs of C01 are its
first user, and every cluster cites these lemmas under that name. A fact about positions inside a shape is proved by `inside_induction`:
the one place where shape and position are taken apart together.
-/
import Mahotas.Model.Basic
namespace Mahotas.C01
open Mahotas

theorem inside_cons (d : Nat) (ds : List Nat) (c : Int) (cs : List Int) :
    inside (d :: ds) (c :: cs) = true ↔ (0 ≤ c ∧ c < (d : Int)) ∧ inside ds cs = true := by
  simp [inside]

theorem inside_induction {P : List Nat → List Int → Prop} (nil : P [] [])
    (cons : ∀ (d : Nat) (ds : List Nat) (c : Int) (cs : List Int), 0 ≤ c → c < (d : Int) →
      inside ds cs = true → P ds cs → P (d :: ds) (c :: cs)) :
    ∀ s p, inside s p = true → P s p
  | [], [], _ => nil
  | [], _ :: _, h | _ :: _, [], h => by simp [inside] at h
  | d :: ds, c :: cs, h => by
    rw [inside_cons] at h
    exact cons d ds c cs h.1.1 h.1.2 h.2 (inside_induction nil cons ds cs h.2)

theorem inside_length {s : List Nat} {p : List Int} (h : inside s p = true) : p.length = s.length :=
  inside_induction (P := fun s p => p.length = s.length) rfl (fun _ _ _ _ _ _ _ ih => congrArg Nat.succ ih) s p h

theorem inside_dims_pos : ∀ (s : List Nat) (p : List Int), inside s p = true → ∀ d ∈ s, 0 < d :=
  inside_induction (fun _ h => nomatch h) fun d ds c cs h0 h1 _ ih e he => by
    rcases List.mem_cons.1 he with rfl | he
    · omega
    · exact ih e he

theorem inside_nonneg : ∀ (s : List Nat) (p : List Int), inside s p = true → ∀ x ∈ p, 0 ≤ x :=
  inside_induction (fun _ h => nomatch h) fun _ _ _ _ h0 _ _ ih x hx => (List.mem_cons.1 hx).elim (fun e => e ▸ h0) (ih x)

theorem inside2_mk (d0 d1 i j : Nat) (hi : i < d0) (hj : j < d1) : inside [d0, d1] [(i : Int), (j : Int)] = true :=
  (inside_cons _ _ _ _).2 ⟨⟨Int.natCast_nonneg i, Int.ofNat_lt.2 hi⟩,
    (inside_cons _ _ _ _).2 ⟨⟨Int.natCast_nonneg j, Int.ofNat_lt.2 hj⟩, rfl⟩⟩

theorem inside_unravelI (s : List Nat) (i : Nat) (h : i < shapeSize s) :
    inside s (unravelI s i) = true := by
  induction s generalizing i with
  | nil => simp [unravelI, unravel, inside]
  | cons d ds ih =>
    have hS : 0 < shapeSize ds := by
      rcases Nat.eq_zero_or_pos (shapeSize ds) with h0 | h0
      · simp [shapeSize, h0] at h
      · exact h0
    have h1 : i / shapeSize ds < d := by
      apply Nat.div_lt_of_lt_mul
      rw [Nat.mul_comm]; exact h
    have h2 := ih (i % shapeSize ds) (Nat.mod_lt _ hS)
    simp only [unravelI] at h2 ⊢
    simp only [unravel, List.map_cons, inside, Bool.and_eq_true, decide_eq_true_eq]
    refine ⟨⟨?_, ?_⟩, h2⟩
    · exact Int.natCast_nonneg _
    · exact Int.ofNat_lt.mpr h1

theorem ravelI_unravelI (s : List Nat) (i : Nat) (h : i < shapeSize s) :
    ravelI s (unravelI s i) = i := by
  induction s generalizing i with
  | nil => simp [shapeSize] at h; simp [ravelI, h]
  | cons d ds ih =>
    have hS : 0 < shapeSize ds := by
      rcases Nat.eq_zero_or_pos (shapeSize ds) with h0 | h0
      · simp [shapeSize, h0] at h
      · exact h0
    have h2 := ih (i % shapeSize ds) (Nat.mod_lt _ hS)
    simp only [unravelI] at h2 ⊢
    simp only [unravel, List.map_cons, ravelI, h2]
    simp only [Int.ofNat_eq_natCast, Int.toNat_natCast]
    exact Nat.div_add_mod' i (shapeSize ds)

theorem ravelI_lt : ∀ (s : List Nat) (p : List Int), inside s p = true → ravelI s p < shapeSize s :=
  inside_induction Nat.one_pos fun d ds c cs h0 h1 _ ih => by
    simp only [ravelI, shapeSize]
    have hc : c.toNat < d := by omega
    calc c.toNat * shapeSize ds + ravelI ds cs < c.toNat * shapeSize ds + shapeSize ds := by omega
      _ = (c.toNat + 1) * shapeSize ds := by rw [Nat.add_mul, Nat.one_mul]
      _ ≤ d * shapeSize ds := Nat.mul_le_mul_right _ hc

theorem unravelI_ravelI : ∀ (s : List Nat) (p : List Int), inside s p = true → unravelI s (ravelI s p) = p :=
  inside_induction rfl fun d ds c cs h0 h1 h ih => by
    have h3 := ravelI_lt ds cs h
    simp only [unravelI] at ih ⊢
    simp only [ravelI, unravel, List.map_cons]
    have hS : 0 < shapeSize ds := by omega
    have e1 : (c.toNat * shapeSize ds + ravelI ds cs) / shapeSize ds = c.toNat := by
      rw [Nat.mul_comm, Nat.mul_add_div hS, Nat.div_eq_of_lt h3, Nat.add_zero]
    have e2 : (c.toNat * shapeSize ds + ravelI ds cs) % shapeSize ds = ravelI ds cs := by
      rw [Nat.mul_comm, Nat.mul_add_mod, Nat.mod_eq_of_lt h3]
    rw [e1, e2, ih]
    congr 1
    simp only [Int.ofNat_eq_natCast]
    omega

theorem mem_allPos (s : List Nat) (p : List Int) : p ∈ allPos s ↔ inside s p = true := by
  unfold allPos
  simp only [List.mem_map, List.mem_range]
  constructor
  · rintro ⟨i, hi, rfl⟩; exact inside_unravelI s i hi
  · intro h; exact ⟨ravelI s p, ravelI_lt s p h, unravelI_ravelI s p h⟩

theorem ravelI_inj (s : List Nat) (p q : List Int) (hp : inside s p = true) (hq : inside s q = true)
    (h : ravelI s p = ravelI s q) : p = q := by
  rw [← unravelI_ravelI s p hp, ← unravelI_ravelI s q hq, h]

theorem unravelI_cons (d : Nat) (ds : List Nat) (i : Nat) :
    unravelI (d :: ds) i = Int.ofNat (i / shapeSize ds) :: unravelI ds (i % shapeSize ds) := rfl

theorem centreOf_length (s : List Nat) : (centreOf s).length = s.length := by
  simp [centreOf]

theorem centre_inside (s : List Nat) (h : 0 < shapeSize s) : inside s (centreOf s) = true := by
  induction s with
  | nil => rfl
  | cons d ds ih =>
    have hd : 0 < d ∧ 0 < shapeSize ds := ⟨Nat.pos_of_mul_pos_right h, Nat.pos_of_mul_pos_left h⟩
    rw [centreOf, List.map_cons, inside_cons]
    exact ⟨by omega, ih hd.2⟩

/-! ### adding and subtracting offsets -/

theorem addPos_length (a b : List Int) : (addPos a b).length = min a.length b.length := by
  induction a generalizing b with
  | nil => simp [addPos]
  | cons x xs ih => cases b with
    | nil => simp [addPos]
    | cons y ys => simp [addPos, ih]

theorem subPos_length (a b : List Int) : (subPos a b).length = min a.length b.length := by
  induction a generalizing b with
  | nil => simp [subPos]
  | cons x xs ih => cases b with
    | nil => simp [subPos]
    | cons y ys => simp [subPos, ih]

theorem addPos_length_of_eq (a b : List Int) (h : a.length = b.length) : (addPos a b).length = a.length := by
  rw [addPos_length, h, Nat.min_self]

theorem subPos_length_of_eq (a b : List Int) (h : a.length = b.length) : (subPos a b).length = a.length := by
  rw [subPos_length, h, Nat.min_self]

theorem negPos_length (o : List Int) : (negPos o).length = o.length := List.length_map _

theorem negPos_negPos (o : List Int) : negPos (negPos o) = o := by
  rw [negPos, negPos, List.map_map]
  exact (List.map_congr_left fun x _ => Int.neg_neg x).trans (List.map_id o)

theorem addPos_comm : ∀ (a b : List Int), addPos a b = addPos b a
  | [], b => by cases b <;> rfl
  | _ :: _, [] => rfl
  | x :: xs, y :: ys => by rw [addPos, addPos, addPos_comm xs ys, Int.add_comm]

theorem addPos_negPos : ∀ (p k : List Int), k.length = p.length → addPos (addPos p k) (negPos k) = p
  | [], _, _ => by cases ‹List Int› <;> rfl
  | a :: ps, b :: ks, h => by
    show (a + b + -b) :: addPos (addPos ps ks) (negPos ks) = a :: ps
    rw [addPos_negPos ps ks (Nat.succ.inj h), Int.add_neg_cancel_right]

theorem subPos_eq_addPos_neg (q k : List Int) : subPos q k = addPos q (negPos k) := by
  induction q generalizing k with
  | nil => cases k <;> rfl
  | cons x xs ih =>
    cases k with
    | nil => rfl
    | cons a as => rw [subPos, ih as, Int.sub_eq_add_neg]; rfl

theorem addPos_subPos_cancel (q k : List Int) (h : k.length = q.length) : addPos (subPos q k) k = q := by
  induction q generalizing k with
  | nil => cases k <;> rfl
  | cons x xs ih =>
    cases k with
    | nil => simp at h
    | cons a as => rw [subPos, addPos, ih as (Nat.succ.inj h), Int.sub_add_cancel]

theorem addPos_subPos (p q : List Int) (h : q.length = p.length) : addPos p (subPos q p) = q := by
  rw [addPos_comm, addPos_subPos_cancel q p h.symm]

theorem subPos_addPos_cancel (p k : List Int) (h : k.length = p.length) : subPos (addPos p k) k = p := by
  rw [subPos_eq_addPos_neg, addPos_negPos p k h]

/-- adding the zero offset (`C14.isZeroPos k`, spelled out) -/
theorem addPos_zero (p k : List Int) (hz : k.all (· == 0) = true) (hl : k.length = p.length) : addPos p k = p := by
  induction p generalizing k with
  | nil => cases k <;> rfl
  | cons x xs ih =>
    cases k with
    | nil => simp at hl
    | cons a as =>
      rw [List.all_cons, Bool.and_eq_true, beq_iff_eq] at hz
      rw [addPos, ih as hz.2 (Nat.succ.inj hl), hz.1, Int.add_zero]

theorem subPos_zero_iff (a b : List Int) (h : a.length = b.length) :
    (subPos a b).all (· == 0) = true ↔ a = b := by
  induction a generalizing b with
  | nil => cases b <;> simp_all [subPos]
  | cons x xs ih =>
    cases b with
    | nil => simp at h
    | cons y ys =>
      rw [subPos, List.all_cons, Bool.and_eq_true, ih ys (Nat.succ.inj h), beq_iff_eq, List.cons.injEq]
      exact and_congr_left fun _ => ⟨fun e => by omega, fun e => by omega⟩

/-! ### one coordinate of a position -/

theorem getD_lt_of_inside : ∀ (s : List Nat) (p : List Int), inside s p = true → ∀ a : Nat,
    0 ≤ p.getD a 0 ∧ p.getD a 0 < ((s.getD a 1 : Nat) : Int) :=
  inside_induction (fun a => by simp) fun d ds c cs h0 h1 _ ih a => by
    cases a with
    | zero => exact ⟨h0, h1⟩
    | succ a => exact ih a

theorem inside_getD (s : List Nat) (p : List Int) (k : Nat) (hp : inside s p = true) (hk : k < s.length) :
    0 ≤ p.getD k 0 ∧ p.getD k 0 < (s.getD k 0 : Nat) := by
  have h := getD_lt_of_inside s p hp k
  rwa [show s.getD k 1 = s.getD k 0 by
    rw [List.getD_eq_getElem?_getD, List.getD_eq_getElem?_getD, List.getElem?_eq_getElem hk]; rfl] at h

theorem getD_set_self {α : Type} (p : List α) (k : Nat) (t d : α) (hk : k < p.length) : (p.set k t).getD k d = t := by
  rw [List.getD_eq_getElem?_getD, List.getElem?_set_self hk, Option.getD_some]

theorem getD_set_ne {α : Type} (p : List α) (k b : Nat) (t d : α) (h : b ≠ k) : (p.set k t).getD b d = p.getD b d := by
  rw [List.getD_eq_getElem?_getD, List.getElem?_set_ne h.symm, List.getD_eq_getElem?_getD]

/-- replacing one coordinate by a value in range stays inside (an axis beyond the rank has `s.getD k 0 = 0`: no such
value) -/
theorem inside_set (s : List Nat) (p : List Int) (k : Nat) (t : Int) (hp : inside s p = true)
    (h0 : 0 ≤ t) (h1 : t < (s.getD k 0 : Nat)) : inside s (p.set k t) = true := by
  refine inside_induction (P := fun s p => ∀ k : Nat, t < (s.getD k 0 : Nat) → inside s (p.set k t) = true)
    (fun k h1 => ?_) (fun d ds a ps ha0 ha1 hp ih k h1 => ?_) s p hp k h1
  · simp at h1; omega
  · cases k with
    | zero => exact (inside_cons d ds t ps).mpr ⟨⟨h0, h1⟩, hp⟩
    | succ k => exact (inside_cons d ds a _).mpr ⟨⟨ha0, ha1⟩, ih k h1⟩

/-- the same with the default 1 for the side: beyond the rank only `t = 0` is allowed, and `set` does nothing -/
theorem inside_set_one (s : List Nat) (p : List Int) (k : Nat) (t : Int) (hp : inside s p = true)
    (h0 : 0 ≤ t) (h1 : t < (s.getD k 1 : Nat)) : inside s (p.set k t) = true := by
  by_cases hk : k < s.length
  · exact inside_set s p k t hp h0 (by rwa [List.getD_eq_getElem?_getD, List.getElem?_eq_getElem hk] at h1 ⊢)
  · rwa [List.set_eq_of_length_le (by rw [inside_length hp]; omega)]

end Mahotas.C01

namespace Mahotas

theorem shapeSize_pos_of_lt (s : List Nat) (i : Nat) (h : i < shapeSize s) : 0 < shapeSize s := by omega

theorem unravel_length (s : List Nat) (i : Nat) : (unravel s i).length = s.length := by
  induction s generalizing i with
  | nil => simp [unravel]
  | cons d ds ih => simp [unravel, ih]

theorem unravelI_length (s : List Nat) (i : Nat) : (unravelI s i).length = s.length := by
  simp [unravelI, unravel_length]

theorem unravelI_getD (s : List Nat) (i j : Nat) :
    (unravelI s i).getD j 0 = (((unravel s i).getD j 0 : Nat) : Int) := by
  rw [unravelI, List.getD_eq_getElem?_getD, List.getD_eq_getElem?_getD, List.getElem?_map]
  cases (unravel s i)[j]? <;> rfl

theorem Img.getD_inside {α : Type} (A : Img α) (q : List Int) (d : α) (h : inside A.shape q = true) :
    A.getD q d = A.data.getD (ravelI A.shape q) d := by
  simp [Img.getD, h]

theorem Img.getD_unravelI {α : Type} (A : Img α) (i : Nat) (d : α) (h : i < shapeSize A.shape) :
    A.getD (unravelI A.shape i) d = A.data.getD i d := by
  rw [Img.getD_inside A _ d (C01.inside_unravelI _ _ h), C01.ravelI_unravelI _ _ h]

theorem getD_map_allPos {β : Type} (s : List Nat) (f : List Int → β) (i : Nat) (d : β) (h : i < shapeSize s) :
    (((allPos s).map f).toArray).getD i d = f (unravelI s i) := by
  simp [Array.getD_eq_getD_getElem?, allPos, List.getElem?_map, List.getElem?_range h]

theorem tabulate_getD {α : Type} (shape : List Nat) (f : List Int → α) (p : List Int) (d : α)
    (hp : inside shape p = true) : (Img.tabulate shape f).getD p d = f p := by
  rw [Img.getD_inside _ p d (show inside (Img.tabulate shape f).shape p = true from hp)]
  exact (getD_map_allPos shape f _ d (C01.ravelI_lt shape p hp)).trans (congrArg f (C01.unravelI_ravelI shape p hp))

theorem size_map_allPos {β : Type} (s : List Nat) (f : List Int → β) :
    (((allPos s).map f).toArray).size = shapeSize s := by
  simp [allPos]

theorem Img.tabulate_data_size {α : Type} (s : List Nat) (f : List Int → α) : (Img.tabulate s f).data.size = shapeSize s :=
  size_map_allPos s f

theorem Img.tabulate_data_getD {α : Type} (s : List Nat) (f : List Int → α) (x : Nat) (d : α) (hx : x < shapeSize s) :
    (Img.tabulate s f).data.getD x d = f (unravelI s x) :=
  getD_map_allPos s f x d hx

theorem forall_mem_allPos (s : List Nat) (P : List Int → Prop) :
    (∀ p ∈ allPos s, P p) ↔ ∀ i, i < shapeSize s → P (unravelI s i) := by
  simp only [allPos, List.mem_map, List.mem_range, forall_exists_index, and_imp, forall_apply_eq_imp_iff₂]

theorem set_getD_self (p : List Int) (k : Nat) : p.set k (p.getD k 0) = p := by
  by_cases h : k < p.length
  · simp [List.getD_eq_getElem?_getD, List.getElem?_eq_getElem h]
  · exact List.set_eq_of_length_le (by omega)

theorem tabulate_congr {α : Type} (s : List Nat) (f g : List Int → α)
    (h : ∀ p, inside s p = true → f p = g p) : Img.tabulate s f = Img.tabulate s g :=
  congrArg (fun l => Img.mk s l.toArray)
    (List.map_congr_left fun p hp => h p ((C01.mem_allPos s p).1 hp))

end Mahotas
