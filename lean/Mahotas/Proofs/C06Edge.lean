/-
C06 — 3×3 kernels on 2-D images (`edge.sobel`, `laplacian_2D`): the defining sum at an interior pixel written out,
and its value on a quadratic polynomial of the pixel coordinates in terms of the moments of the kernel.
-/
import Mahotas.Proofs.C06Const
import Mathlib.Tactic.Ring

namespace Mahotas.C06
open Mahotas

theorem interior_bounds (N : Nat) (y : Int) (h0 : 1 ≤ y) (h1 : y + 1 < N) :
    (0 ≤ y - 1 ∧ y - 1 < N) ∧ (0 ≤ y ∧ y < N) ∧ (0 ≤ y + 1 ∧ y + 1 < N) := by
  omega

theorem interior_dims_pos (N0 N1 : Nat) (y x : Int) (hy0 : 1 ≤ y) (hy1 : y + 1 < N0) (hx0 : 1 ≤ x)
    (hx1 : x + 1 < N1) : ∀ d ∈ [N0, N1], 0 < d := by
  obtain ⟨_, hyz, _⟩ := interior_bounds N0 y hy0 hy1
  obtain ⟨_, hxz, _⟩ := interior_bounds N1 x hx0 hx1
  exact C01.inside_dims_pos _ _ (inside_pair N0 N1 y x hyz.1 hyz.2 hxz.1 hxz.2)

/-- The defining sum of a 3×3 kernel, given by its nine entries, at an interior pixel of a 2-D image: nine direct
reads, in every mode. `F` is any description of the pixel values: `fun a b => f.getD [a, b] 0`, or a closed form. -/
theorem convSpec33_interior {R : Type} [CommSemiring R] (m : Mode) (f : Img R) (N0 N1 : Nat)
    (hf : f.shape = [N0, N1]) (w0 w1 w2 w3 w4 w5 w6 w7 w8 : R) (F : Int → Int → R)
    (hF : ∀ a b : Int, 0 ≤ a → a < N0 → 0 ≤ b → b < N1 → f.getD [a, b] 0 = F a b)
    (y x : Int) (hy0 : 1 ≤ y) (hy1 : y + 1 < N0) (hx0 : 1 ≤ x) (hx1 : x + 1 < N1) :
    convSpec m f [3, 3] #[w0, w1, w2, w3, w4, w5, w6, w7, w8] [y, x] =
      w0 * F (y - 1) (x - 1) + w1 * F (y - 1) x + w2 * F (y - 1) (x + 1) +
      w3 * F y (x - 1) + w4 * F y x + w5 * F y (x + 1) +
      w6 * F (y + 1) (x - 1) + w7 * F (y + 1) x + w8 * F (y + 1) (x + 1) := by
  obtain ⟨hym, hyz, hyp⟩ := interior_bounds N0 y hy0 hy1
  obtain ⟨hxm, hxz, hxp⟩ := interior_bounds N1 x hx0 hx1
  have hin : ∀ a b : Int, (0 ≤ a ∧ a < N0) → (0 ≤ b ∧ b < N1) → specSample m f [a, b] = F a b :=
    fun a b ha hb => (specSample_inside m f _ (hf ▸ inside_pair N0 N1 a b ha.1 ha.2 hb.1 hb.2)).trans
      (hF a b ha.1 ha.2 hb.1 hb.2)
  rw [← hin _ _ hym hxm, ← hin _ _ hym hxz, ← hin _ _ hym hxp, ← hin _ _ hyz hxm, ← hin _ _ hyz hxz,
    ← hin _ _ hyz hxp, ← hin _ _ hyp hxm, ← hin _ _ hyp hxz, ← hin _ _ hyp hxp]
  show ([0, 1, 2, 3, 4, 5, 6, 7, 8].map fun i => #[w0, w1, w2, w3, w4, w5, w6, w7, w8].getD i 0 *
    specSample m f (addPos [y, x] (offsetOf [3, 3] i))).sum = _
  simp only [List.map_cons, List.map_nil, List.sum_cons, List.sum_nil, add_zero, add_assoc, addPos,
    show offsetOf [3, 3] 0 = [-1, -1] from rfl, show offsetOf [3, 3] 1 = [-1, 0] from rfl,
    show offsetOf [3, 3] 2 = [-1, 1] from rfl, show offsetOf [3, 3] 3 = [0, -1] from rfl,
    show offsetOf [3, 3] 4 = [0, 0] from rfl, show offsetOf [3, 3] 5 = [0, 1] from rfl,
    show offsetOf [3, 3] 6 = [1, -1] from rfl, show offsetOf [3, 3] 7 = [1, 0] from rfl,
    show offsetOf [3, 3] 8 = [1, 1] from rfl, ← Int.sub_eq_add_neg]
  rfl

/-- A 3×3 kernel on a quadratic image `f[y, x] = a·y² + b·x² + c·x·y + d·y + e·x + g`, at an interior pixel: the
Taylor expansion of `f` around the pixel is exact, so the response is the combination of `f`, its two first
derivatives and `a`, `b`, `c` with the moments `Σ w[i,j]·iᵏ·jˡ` (`i, j ∈ {−1, 0, 1}`, `k + l ≤ 2`) of the kernel. -/
theorem convSpec33_quadratic {K : Type} [CommRing K] (m : Mode) (f : Img K) (N0 N1 : Nat)
    (hf : f.shape = [N0, N1]) (w0 w1 w2 w3 w4 w5 w6 w7 w8 a b c d e g : K)
    (hq : ∀ y x : Int, 0 ≤ y → y < N0 → 0 ≤ x → x < N1 →
      f.getD [y, x] 0 =
        a * (y : K) * (y : K) + b * (x : K) * (x : K) + c * (x : K) * (y : K) + d * (y : K) + e * (x : K) + g)
    (y x : Int) (hy0 : 1 ≤ y) (hy1 : y + 1 < N0) (hx0 : 1 ≤ x) (hx1 : x + 1 < N1) :
    convSpec m f [3, 3] #[w0, w1, w2, w3, w4, w5, w6, w7, w8] [y, x] =
      (w0 + w1 + w2 + w3 + w4 + w5 + w6 + w7 + w8) * f.getD [y, x] 0 +
      (w6 + w7 + w8 - w0 - w1 - w2) * (2 * a * (y : K) + c * (x : K) + d) +
      (w2 + w5 + w8 - w0 - w3 - w6) * (2 * b * (x : K) + c * (y : K) + e) +
      (w0 + w1 + w2 + w6 + w7 + w8) * a + (w0 + w3 + w6 + w2 + w5 + w8) * b + (w0 + w8 - w2 - w6) * c := by
  obtain ⟨_, hyz, _⟩ := interior_bounds N0 y hy0 hy1
  obtain ⟨_, hxz, _⟩ := interior_bounds N1 x hx0 hx1
  rw [convSpec33_interior m f N0 N1 hf _ _ _ _ _ _ _ _ _ _ hq y x hy0 hy1 hx0 hx1,
    hq y x hyz.1 hyz.2 hxz.1 hxz.2]
  simp only [Int.cast_sub, Int.cast_add, Int.cast_one]
  ring

theorem convSpec33_affine {K : Type} [CommRing K] (m : Mode) (f : Img K) (N0 N1 : Nat)
    (hf : f.shape = [N0, N1]) (w0 w1 w2 w3 w4 w5 w6 w7 w8 a b c : K)
    (ha : ∀ y x : Int, 0 ≤ y → y < N0 → 0 ≤ x → x < N1 → f.getD [y, x] 0 = a * (y : K) + b * (x : K) + c)
    (y x : Int) (hy0 : 1 ≤ y) (hy1 : y + 1 < N0) (hx0 : 1 ≤ x) (hx1 : x + 1 < N1) :
    convSpec m f [3, 3] #[w0, w1, w2, w3, w4, w5, w6, w7, w8] [y, x] =
      (w0 + w1 + w2 + w3 + w4 + w5 + w6 + w7 + w8) * f.getD [y, x] 0 +
      (w6 + w7 + w8 - w0 - w1 - w2) * a + (w2 + w5 + w8 - w0 - w3 - w6) * b := by
  have hq : ∀ y x : Int, 0 ≤ y → y < N0 → 0 ≤ x → x < N1 → f.getD [y, x] 0 =
      0 * (y : K) * (y : K) + 0 * (x : K) * (x : K) + 0 * (x : K) * (y : K) + a * (y : K) + b * (x : K) + c := by
    intro y x h1 h2 h3 h4
    rw [ha y x h1 h2 h3 h4]
    ring
  rw [convSpec33_quadratic m f N0 N1 hf _ _ _ _ _ _ _ _ _ 0 0 0 a b c hq y x hy0 hy1 hx0 hx1]
  ring

end Mahotas.C06
