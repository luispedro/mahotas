/-
C18 — the specification of an integer shift (`shiftPos`): it is the border rule `specPos` applied to `p − d`
(`shiftPos_eq_specPos`), so an integer shift at order 1 is an instance of `pixel_order1_int` (`Proofs/C18Border.lean`).
-/
import Mahotas.Proofs.C18
namespace Mahotas.C18
open Mahotas

/-- where an integer shift reads along one axis: inside the array the sample itself, outside the sample
    the border rule of the mode assigns (the mathematical `borderSpec`), or nothing (`constant`/`ignore`) -/
def shiftIndex (m : Mode) (len : Nat) (n : Int) : Option Int :=
  if 0 ≤ n ∧ n ≤ (len : Int) - 1 then some n else borderSpec m n len

/-- the source position of output position `p` under the integer shift `d`, axis by axis -/
def shiftPos (m : Mode) : List Nat → List Int → List Int → Option (List Int)
  | len :: ls, kk :: ks, d :: ds =>
    match shiftIndex m len (kk - d), shiftPos m ls ks ds with
    | some j, some js => some (j :: js)
    | _, _ => none
  | _, _, _ => some []

theorem shiftIndex_eq (m : Mode) (len : Nat) (n : Int) : shiftIndex m len n = borderSpec m n len := by
  unfold shiftIndex
  split_ifs with c
  · exact (borderSpec_inside m n len c.1 (by omega)).symm
  · rfl

theorem shiftPos_eq_specPos (m : Mode) : ∀ (shape : List Nat) (p ds : List Int),
    shiftPos m shape p ds = specPos m shape (List.zipWith (· - ·) p ds)
  | [], p, ds => by cases p <;> cases ds <;> rfl
  | _ :: _, [], ds => by cases ds <;> rfl
  | _ :: _, _ :: _, [] => rfl
  | len :: ls, kk :: ks, d :: ds => by
    simp only [shiftPos, List.zipWith_cons_cons, specPos, shiftIndex_eq, shiftPos_eq_specPos m ls ks ds]
    cases borderSpec m (kk - d) len <;> cases specPos m ls (List.zipWith (· - ·) ks ds) <;> rfl

end Mahotas.C18
