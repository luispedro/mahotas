/-
C17 — the rounding of the analysis kernel in the standard model of floating-point arithmetic.

`waveletRow` is polymorphic in its scalar type; here it is instantiated at `Rnd K fl`: the ordered field `K` with every
`+ − × ÷` followed by a rounding function `fl` (negation and the casts are exact) — the very loop of the model, in its
order of operations, evaluated in rounded arithmetic. If `|fl t − t| ≤ u·|t|` for every `t`, one sample of the
transform differs from the exact one by at most `((1+u)^(n+1) − 1) · Σ_ci |c|·|f(2x+ci)|` (`fold_round`, here, for the loop
over `K`; `C17_wavelet_row_rounding` for the kernel at `Rnd K fl`).
-/
import Mahotas.Proofs.C17
import Mahotas.Proofs.Rounded
import Mahotas.Proofs.ListLemmas
import Mathlib.Algebra.Order.Field.Basic
import Mathlib.Algebra.Order.AbsoluteValue.Basic
namespace Mahotas.C17
open Mahotas

/-- `K` with rounded arithmetic: every `+ − × ÷` is followed by `fl` -/
structure Rnd (K : Type) (fl : K → K) where
  val : K

namespace Rnd
variable {K : Type} [Field K] {fl : K → K}
instance : Add (Rnd K fl) := ⟨fun a b => ⟨fl (a.val + b.val)⟩⟩
instance : Sub (Rnd K fl) := ⟨fun a b => ⟨fl (a.val - b.val)⟩⟩
instance : Mul (Rnd K fl) := ⟨fun a b => ⟨fl (a.val * b.val)⟩⟩
instance : Div (Rnd K fl) := ⟨fun a b => ⟨fl (a.val / b.val)⟩⟩
instance : Neg (Rnd K fl) := ⟨fun a => ⟨-a.val⟩⟩
instance : NatCast (Rnd K fl) := ⟨fun n => ⟨(n : K)⟩⟩
instance : IntCast (Rnd K fl) := ⟨fun n => ⟨(n : K)⟩⟩
@[simp] theorem add_val (a b : Rnd K fl) : (a + b).val = fl (a.val + b.val) := rfl
@[simp] theorem mul_val (a b : Rnd K fl) : (a * b).val = fl (a.val * b.val) := rfl
@[simp] theorem neg_val (a : Rnd K fl) : (-a).val = -a.val := rfl
@[simp] theorem zero_val : (zero : Rnd K fl).val = 0 := by
  show ((0 : Nat) : K) = 0
  simp
end Rnd

section Bound
variable {K : Type} [Field K] [LinearOrder K] [IsStrictOrderedRing K]

/-- the accumulation `acc ← fl(acc + fl(a_i·b_i))` over a list of indices against the exact sum: the summation bound
    `Rounded.foldl_fl_add` with every product rounded once (`d = 1 + u`) -/
theorem fold_round (fl : K → K) (u : K) (hu : 0 ≤ u) (hfl : ∀ t, |fl t - t| ≤ u * |t|) (a b : Nat → K)
    (l : List Nat) :
    |l.foldl (fun acc i => fl (acc + fl (a i * b i))) 0 - l.foldl (fun acc i => acc + a i * b i) 0|
        ≤ ((1 + u) ^ (l.length + 1) - 1) * l.foldl (fun acc i => acc + |a i * b i|) 0 ∧
    |l.foldl (fun acc i => acc + a i * b i) 0| ≤ l.foldl (fun acc i => acc + |a i * b i|) 0 := by
  have h := Rounded.foldl_fl_add hu hfl (fun i => a i * b i) (fun i => fl (a i * b i)) (d := 1 + u)
    (fun i => by rw [add_sub_cancel_left]; exact hfl _) l 0 0 0 (1 + u) (le_add_of_nonneg_right hu) le_rfl
    abs_zero.le (by rw [sub_zero, abs_zero, mul_zero])
  rwa [zero_add, ← pow_succ', ← zero_add (List.sum _), ← foldl_add_map (fun i => |a i * b i|)] at h

end Bound
section Row
variable {K : Type} [Field K] {fl : K → K}

theorem access_val (N : Nat) (f : Nat → K) (p : Int) :
    (access N (fun i => (⟨f i⟩ : Rnd K fl)) p).val = access N f p := by
  unfold access
  by_cases h : 0 ≤ p ∧ p < (N : Int)
  · simp only [h, and_self, if_true]
  · simp only [h, if_false, Rnd.zero_val, zero_eq]

theorem getD_val (cs : List K) (i : Nat) :
    ((cs.map (fun c => (⟨c⟩ : Rnd K fl))).getD i zero).val = cs.getD i 0 := by
  simp only [List.getD_eq_getElem?_getD, List.getElem?_map]
  cases cs[i]? <;> simp

theorem foldl_val (l : List Nat) (g : Nat → Rnd K fl) (acc : Rnd K fl) :
    (l.foldl (fun acc i => acc + g i) acc).val = l.foldl (fun acc i => fl (acc + (g i).val)) acc.val := by
  induction l generalizing acc with
  | nil => rfl
  | cons i l ih => simp only [List.foldl_cons]; rw [ih]; rfl

end Row

section RowBound
variable {K : Type} [Field K] [LinearOrder K] [IsStrictOrderedRing K]

/-- `Σ_ci |c·f|` over the taps of one sample of `waveletRow` -/
def rowAbs (cs : List K) (N : Nat) (f : Nat → K) (x : Nat) : K :=
  let n := cs.length
  if x < N / 2 then
    (List.range n).foldl (fun acc ci => acc + |cs.getD (n - ci - 1) 0 * access N f ((2 * x + ci : Nat) : Int)|) 0
  else if x < 2 * (N / 2) then
    (List.range n).foldl (fun acc ci =>
      acc + |(if ci % 2 = 0 then -(cs.getD ci 0) else cs.getD ci 0) * access N f ((2 * (x - N / 2) + ci : Nat) : Int)|) 0
  else 0

end RowBound
end Mahotas.C17
