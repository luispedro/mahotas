/-
C02: `open` / `close` with a caller-supplied output buffer (`morph.py`: `open`, `close`) and `subm(a, b, out=…)` as buffer
programs. The programs of `Model/C02.lean` (`openBuf`, `closeBuf`: erode/dilate *into* a buffer with arbitrary old
contents, copy, second kernel into the same buffer; `submBuf`) compute the pure compositions for every initial
buffer content of the right size. Every kernel is a scan that reads cell `i` before it writes cell `i`,
so a full scan is a `map` over the cells (`foldUpd_eq`).
-/
import Mahotas.Proofs.C02
namespace Mahotas.C02
open Mahotas Mahotas.C01

/-- a scan over a whole buffer of `n` cells that replaces cell `i` by `φ i (cell i)` — each cell is read before it is
    written, once — is a `map` over the cell indices -/
theorem foldUpd_eq (φ : Nat → Int → Int) (n : Nat) (out : Array Int) (hn : out.size = n) :
    (List.range n).foldl (fun o i => o.setIfInBounds i (φ i (o.getD i 0))) out =
      ((List.range n).map fun i => φ i (out.getD i 0)).toArray := by
  apply Array.ext_getElem?
  intro j
  rw [foldl_store_getElem? (fun i => i) φ 0 j, getElem?_map_range, filter_range_eq]
  by_cases hj : j < n
  · rw [if_pos hj, if_pos hj, Array.getD_eq_getD_getElem?, Array.getElem?_eq_getElem (hn ▸ hj)]; rfl
  · rw [if_neg hj, if_neg hj, Array.getElem?_eq_none (by omega)]; rfl

theorem fillBuf_eq (out : Array Int) (v : Int) : fillBuf out v = Array.replicate out.size v :=
  (foldUpd_eq (fun _ _ => v) out.size out rfl).trans
    (by rw [List.map_const', List.length_range, List.toArray_replicate])

/-- `erode` into a buffer overwrites every cell: the result is the pure erosion, whatever the buffer held -/
theorem erodeInto_eq (dt : DT) (A : Img Int) (sup : List (List Int × Int)) (out : Array Int)
    (hsz : out.size = A.size) : erodeInto dt A sup out = (erodeImg dt A sup).data :=
  (foldUpd_eq (fun i _ => erodeAt dt A sup (unravelI A.shape i)) A.size out hsz).trans
    (by simp [erodeImg, allPos, Img.size])

/-- `dilate` into a buffer first fills it: the result is the pure dilation, whatever the buffer held -/
theorem dilateInto_eq (dt : DT) (A : Img Int) (sup : List (List Int × Int)) (out : Array Int)
    (hsz : out.size = A.size) : dilateInto dt A sup out = dilateModel dt A sup := by
  unfold dilateInto dilateModel
  rw [fillBuf_eq, hsz]

theorem openBuf_eq (dt : DT) (A : Img Int) (sup : List (List Int × Int)) (out : Array Int)
    (hsz : out.size = A.size) : openBuf dt A sup out = (openModel dt A sup).data := by
  unfold openBuf
  simp only []
  rw [erodeInto_eq dt A sup out hsz]
  exact dilateInto_eq dt (erodeImg dt A sup) sup _ (size_map_allPos _ _)

theorem closeBuf_eq (dt : DT) (A : Img Int) (sup : List (List Int × Int)) (out : Array Int)
    (hsz : out.size = A.size) : closeBuf dt A sup out = (closeModel dt A sup).data := by
  unfold closeBuf
  simp only []
  rw [dilateInto_eq dt A sup out hsz]
  exact erodeInto_eq dt (dilateImg dt A sup) sup _ (dilateModel_size dt A sup)

/-- without the copy the dilation destroys its own input: after the fill every cell holds the dtype minimum,
    every pixel is skipped, and the "opening" is constant `lo` — for every image, element and buffer -/
theorem dilateInPlace_eq (dt : DT) (shape : List Nat) (sup : List (List Int × Int)) (buf : Array Int) :
    dilateInPlace dt shape sup buf = Array.replicate buf.size dt.lo := by
  unfold dilateInPlace
  rw [fillBuf_eq]
  generalize allPos shape = ps
  induction ps with
  | nil => rfl
  | cons p t ih =>
    rw [List.foldl_cons]
    have : (Array.replicate buf.size dt.lo).getD (ravelI shape p) dt.lo = dt.lo := by
      simp only [Array.getD_eq_getD_getElem?, Array.getElem?_replicate]
      split <;> rfl
    simp only [this, if_true]
    exact ih

/-- the pure specification of `subm` on arrays -/
def submPure (dt : DT) (a b : Array Int) : Array Int :=
  ((List.range a.size).map fun i => submElem dt (a.getD i 0) (b.getD i 0)).toArray

theorem submPure_getD (dt : DT) (a b : Array Int) (j : Nat) (hj : j < a.size) :
    (submPure dt a b).getD j 0 = submElem dt (a.getD j 0) (b.getD j 0) :=
  getD_map_range_toArray _ a.size j hj

theorem submInPlace_eq (dt : DT) (out b : Array Int) : submInPlace dt out b = submPure dt out b :=
  foldUpd_eq (fun i x => submElem dt x (b.getD i 0)) out.size out rfl

theorem submInPlaceSelf_getD (dt : DT) (out : Array Int) (j : Nat) (hj : j < out.size) :
    (submInPlaceSelf dt out).getD j 0 = submElem dt (out.getD j 0) (out.getD j 0) :=
  (congrArg (·.getD j 0) (foldUpd_eq (fun _ x => submElem dt x x) out.size out rfl)).trans
    (getD_map_range_toArray _ out.size j hj)

theorem copyInto_eq (out a : Array Int) (hsz : out.size = a.size) : copyInto out a = a :=
  (foldUpd_eq (fun i _ => a.getD i 0) out.size out rfl).trans
    (array_eq_of_cells _ _ a.size (by simp [hsz]) rfl fun j hj => getD_map_range_toArray _ _ j (by rw [hsz]; exact hj))

end Mahotas.C02
