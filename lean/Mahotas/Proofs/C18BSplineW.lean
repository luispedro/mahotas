/-
C18 — the weights `spline_coefficients` computes are the values of the cardinal B-spline at the distances to the
knots, the knots cover the whole support, and the integer shifts of the cardinal B-spline of any degree sum to one
(hence so do the weights).
-/
import Mahotas.Proofs.C18BSpline
import Mahotas.Proofs.C18Tensor
namespace Mahotas.C18
open Mahotas

variable {K : Type} [Field K] [LinearOrder K] [IsStrictOrderedRing K]

/-- for the orders `spline_coefficients` implements, its switch body is the cardinal B-spline -/
theorem bspline_eq_splineCoeff (order : Nat) (h1 : 1 ≤ order) (h5 : order ≤ 5) (x : K) :
    bspline order x = splineCoeff order (absV x) := by
  rw [absV_eq_abs, bspline_abs order h1]
  have : order = 1 ∨ order = 2 ∨ order = 3 ∨ order = 4 ∨ order = 5 := by omega
  rcases this with rfl | rfl | rfl | rfl | rfl
  · rw [bspline1_eq, abs_abs]
  · exact bspline2_nonneg_arg _ (abs_nonneg x)
  · exact bspline3_nonneg_arg _ (abs_nonneg x)
  · exact bspline4_nonneg_arg _ (abs_nonneg x)
  · exact bspline5_nonneg_arg _ (abs_nonneg x)

theorem weights_eq_bspline (fl : K → Int) (order : Nat) (h1 : 1 ≤ order) (h5 : order ≤ 5) (x : K) :
    weights fl order x
      = (List.range (order + 1)).map fun h =>
          bspline order (x - ((startIdx fl order x + ((h : Nat) : Int) : Int) : K)) := by
  unfold weights
  apply List.map_congr_left
  intro h _
  rw [← bspline_eq_splineCoeff order h1 h5, ← bspline_even_all order h1]
  congr 1
  push_cast
  ring

theorem bspline_outside_knots {fl : K → Int} (h : IsFloor fl) (order : Nat) (x : K) (k : Int)
    (hk : k < startIdx fl order x ∨ startIdx fl order x + (order : Int) < k) :
    bspline order (x - (k : K)) = 0 := by
  apply bspline_support
  obtain ⟨a, b⟩ := startIdx_window h order x
  rcases hk with hk | hk
  · right
    have : (k : K) + 1 ≤ (startIdx fl order x : K) := by exact_mod_cast Int.add_one_le_of_lt hk
    linear_combination a + this
  · left
    have : (startIdx fl order x : K) + (order : K) + 1 ≤ (k : K) := by exact_mod_cast Int.add_one_le_of_lt hk
    linear_combination b + this

/-- the Cox–de Boor recursion at `y − ½ − k`: with `T k = (y − k + (n+1)/2)·βⁿ(y − k)` it reads
    `(n+1)·β^{n+1}(y − ½ − k) = T k − T (k+1) + (n+1)·βⁿ(y − (k+1))` -/
theorem bspline_succ_shift (n : Nat) (y k : K) :
    bspline (n + 1) (y - 1 / 2 - k) * ((n : K) + 1)
      = (y - k + ((n : K) + 1) / 2) * bspline n (y - k)
        - (y - (k + 1) + ((n : K) + 1) / 2) * bspline n (y - (k + 1)) + ((n : K) + 1) * bspline n (y - (k + 1)) := by
  rw [bspline_succ, div_mul_cancel₀ _ (Nat.cast_add_one_ne_zero n), show y - 1 / 2 - k + 1 / 2 = y - k by ring,
    show y - 1 / 2 - k - 1 / 2 = y - (k + 1) by ring]
  ring

/-- summed over consecutive shifts the `T` terms telescope -/
theorem bspline_succ_sum (n : Nat) (y a : K) (m : Nat) :
    ((List.range m).map fun h : Nat => bspline (n + 1) (y - 1 / 2 - (a + (h : K)))).sum * ((n : K) + 1)
      = (y - a + ((n : K) + 1) / 2) * bspline n (y - a)
        - (y - (a + (m : K)) + ((n : K) + 1) / 2) * bspline n (y - (a + (m : K)))
        + ((n : K) + 1) * ((List.range m).map fun h : Nat => bspline n (y - (a + 1 + (h : K)))).sum := by
  induction m with
  | zero => simp
  | succ m ih =>
    rw [List.sum_range_succ, List.sum_range_succ, add_mul, ih, bspline_succ_shift, Nat.cast_succ,
      ← add_assoc a, add_right_comm a 1]
    ring

/-- **partition of unity**: the integer shifts of the cardinal B-spline of any degree sum to one; at `x` only the
    `n + 1` shifts `a, …, a + n` with `a + (n − 1)/2 ≤ x < a + (n + 1)/2` can be non-zero, the two next to them
    vanish (`bspline_support`) -/
theorem bspline_partition (n : Nat) : ∀ x a : K, a + ((n : K) - 1) / 2 ≤ x → x < a + ((n : K) + 1) / 2 →
    ((List.range (n + 1)).map fun h : Nat => bspline n (x - (a + (h : K)))).sum = 1 := by
  induction n with
  | zero =>
    intro x a h0 h1
    have r : List.range (0 + 1) = [0] := rfl
    simp only [r, List.map_cons, List.map_nil, List.sum_cons, List.sum_nil, Nat.cast_zero]
    rw [bspline0_mid _ (by linear_combination h0) (by linear_combination h1), add_zero]
  | succ n ih =>
    intro x a h0 h1
    rw [Nat.cast_succ] at h0 h1
    have key := bspline_succ_sum n (x + 1 / 2) a (n + 1 + 1)
    rw [add_sub_cancel_right] at key
    apply mul_right_cancel₀ (Nat.cast_add_one_ne_zero n : (n : K) + 1 ≠ 0)
    rw [key, List.sum_range_succ, ih (x + 1 / 2) (a + 1) (by linear_combination h0) (by linear_combination h1),
      bspline_support n _ (Or.inr (by linear_combination h0)),
      bspline_support n (x + 1 / 2 - (a + 1 + ((n + 1 : Nat) : K)))
        (Or.inl (by rw [Nat.cast_succ]; linear_combination h1)),
      bspline_support n (x + 1 / 2 - (a + ((n + 1 + 1 : Nat) : K)))
        (Or.inl (by rw [Nat.cast_succ, Nat.cast_succ]; linear_combination h1))]
    ring

theorem weights_sum {fl : K → Int} (h : IsFloor fl) (order : Nat) (h1 : 1 ≤ order) (h5 : order ≤ 5) (x : K) :
    (weights fl order x).sum = 1 := by
  obtain ⟨a, b⟩ := startIdx_window h order x
  rw [weights_eq_bspline fl order h1 h5]
  simp only [Int.cast_add, Int.cast_natCast]
  exact bspline_partition order x _ a b

/-- knots and B-spline values of every axis at the coordinates `cs` (as `splineAxes`, with the weights written as
    values of the cardinal B-spline) -/
def bsplineAxes (fl : K → Int) (order : Nat) : List Nat → List K → List (List Int × List K)
  | len :: ls, c :: cs =>
    ((List.range (order + 1)).map (fun h => edgeFold len (startIdx fl order c + (h : Nat))),
      (List.range (order + 1)).map fun h => bspline order (c - ((startIdx fl order c + ((h : Nat) : Int) : Int) : K)))
      :: bsplineAxes fl order ls cs
  | _, _ => []

theorem splineAxes_eq_bsplineAxes (fl : K → Int) (order : Nat) (h1 : 1 ≤ order) (h5 : order ≤ 5) :
    ∀ (shape : List Nat) (cs : List K), splineAxes fl order shape cs = bsplineAxes fl order shape cs := by
  intro shape
  induction shape with
  | nil => intro cs; simp [splineAxes, bsplineAxes]
  | cons len ls ih =>
    intro cs
    cases cs with
    | nil => simp [splineAxes, bsplineAxes]
    | cons c cs => simp only [splineAxes, bsplineAxes, weights_eq_bspline fl order h1 h5 c, ih cs]

end Mahotas.C18
