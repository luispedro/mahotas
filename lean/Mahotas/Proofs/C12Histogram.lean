/-
C12 — `compute_histogram` (`_histogram.cpp`: `for (i = 0; i != N; ++i) { ++histogram[*data]; ++data; }`) is the
labeled fold `result[label] = f(value, result[label])` with the image as its own label array and `f _ r = r + 1`:
its access program is `Kernel.fold` on the footprint `[aA, aA] → [aRes, aReg]`, and the value the fold model computes is
`C13.histogram`. The list form of the fold in `Model/C08Base.lean` is C13's `labeledFold` on the zipped pixels, so both
sides are read off cell by cell from C13's slot lemmas.
-/
import Mahotas.Model.C08Base
import Mahotas.Proofs.C13
namespace Mahotas.C12
open Mahotas

theorem labeledFoldList_eq {α : Type} (f : α → α → α) (start : α) (n : Nat) (vals : List α) (labels : List Int) :
    C08.labeledFoldList f start n vals labels = C13.labeledFold f start n (vals.zip labels) := rfl

theorem hist_fold_eq (n : Nat) (vals : List Int) (h : ∀ v ∈ vals, 0 ≤ v) :
    C08.labeledFoldList (fun (_ r : Int) => r + 1) 0 n vals vals =
      (C13.histogram n vals).map (fun (c : Nat) => (c : Int)) := by
  rw [labeledFoldList_eq]
  apply Array.ext_getElem?
  intro l
  by_cases hl : l < n
  · rw [C13.labeledFold_slot _ _ n _ l hl, Array.getElem?_map, C13.histogram_slot n vals h l hl, Option.map_some,
      C13.valuesOf, List.foldl_map]
    -- both count the values equal to `l`
    have hzip : ∀ vs : List Int, vs.zip vs = vs.map fun v => (v, v) := fun vs => by
      induction vs with
      | nil => rfl
      | cons a t ih => rw [List.zip_cons_cons, List.map_cons, ih]
    rw [foldl_succ_int, Int.zero_add, hzip, List.filter_map, List.length_map]
    rfl
  · rw [Array.getElem?_eq_none (by rw [C13.labeledFold_size]; omega),
      Array.getElem?_eq_none (by rw [Array.size_map, C13.histogram_size]; omega)]

end Mahotas.C12
