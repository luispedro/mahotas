/-
C11 — shapes of descriptors: a shape of rank 2 is a pair, and a non-zero size means that every axis is positive. This is what
the `*_safe` theorems of Properties/C11.lean need to hand a guarded descriptor to a C10 theorem.
-/
import Mahotas.Model.C11Base
import Mahotas.Proofs.ListLemmas
namespace Mahotas.C11
open Mahotas

theorem shape_of_len_two (l : List Nat) (h : l.length = 2) : ∃ a b, l = [a, b] := by
  match l, h with
  | [a, b], _ => exact ⟨a, b, rfl⟩

theorem Desc.shape_of_ndim_two {d : Desc} (wf : d.wf) (h : d.ndim = 2) : ∃ a b, d.shape = [a, b] :=
  shape_of_len_two d.shape (wf ▸ h)

theorem shapeSize_pair (a b : Nat) : shapeSize [a, b] = a * b := by simp [shapeSize]

theorem shapeSize_pos_of_all_pos : ∀ (l : List Nat), (∀ d ∈ l, 0 < d) → 0 < shapeSize l :=
  shapeSize_pos

theorem all_pos_of_shapeSize_ne_zero (l : List Nat) (h : shapeSize l ≠ 0) : ∀ d ∈ l, 0 < d :=
  fun _ hd => Nat.pos_of_ne_zero fun e => h (shapeSize_zero_of_mem l (e ▸ hd))

end Mahotas.C11
