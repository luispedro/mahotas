/-
C03 — the invariant of the scan loop of `label`: the buffer is a parent forest on the foreground cells, and its root
function `ρ` has as kernel the equivalence closure of the edges processed so far. `find` keeps `ρ`; `join i j` replaces it
by `mergeRoot ρ i j`, whose kernel is the closure with the edge `i — j` added (`eqvGen_merge`, a fact about functions and
relations only).
-/
import Mahotas.Proofs.C03UF
import Mathlib.Logic.Relation
namespace Mahotas.C03
open Relation

/-- foreground pixel (flat index) -/
def Fg (data : List Int) (i : Nat) : Prop := i < data.length ∧ data.getD i 0 ≠ 0

/-- the root function after the class of `i` has been linked below the root of `j` -/
def mergeRoot {α β : Type} [DecidableEq β] (ρ : α → β) (i j : α) (x : α) : β :=
  if ρ x = ρ i then ρ j else ρ x

theorem eqvGen_merge {α β : Type} [DecidableEq β] {E : α → α → Prop} {ρ : α → β}
    (h : ∀ x y, EqvGen E x y ↔ ρ x = ρ y) (i j x y : α) :
    EqvGen (fun x y => E x y ∨ (x = i ∧ y = j)) x y ↔ mergeRoot ρ i j x = mergeRoot ρ i j y := by
  have hj : mergeRoot ρ i j j = ρ j := ite_id _
  have hi : mergeRoot ρ i j i = ρ j := if_pos rfl
  constructor
  · intro hxy
    induction hxy with
    | rel a b hab =>
      rcases hab with hE | ⟨rfl, rfl⟩
      · unfold mergeRoot; rw [(h a b).mp (EqvGen.rel _ _ hE)]
      · rw [hi, hj]
    | refl => rfl
    | symm _ _ _ ih => exact ih.symm
    | trans _ _ _ _ _ ih1 ih2 => exact ih1.trans ih2
  · intro hxy
    have up : ∀ a b, ρ a = ρ b → EqvGen (fun x y => E x y ∨ (x = i ∧ y = j)) a b :=
      fun a b e => EqvGen.mono (fun _ _ => Or.inl) _ _ ((h a b).mpr e)
    -- every `z` is linked to some `w` with `ρ w = mergeRoot ρ i j z`: to `j` through the new edge, or to itself
    have key : ∀ z, ∃ w, EqvGen (fun x y => E x y ∨ (x = i ∧ y = j)) z w ∧ ρ w = mergeRoot ρ i j z := by
      intro z
      by_cases hz : ρ z = ρ i
      · exact ⟨j, EqvGen.trans _ _ _ (up z i hz) (EqvGen.rel _ _ (Or.inr ⟨rfl, rfl⟩)), (if_pos hz).symm⟩
      · exact ⟨z, EqvGen.refl _, (if_neg hz).symm⟩
    obtain ⟨a, ha, ea⟩ := key x
    obtain ⟨b, hb, eb⟩ := key y
    exact EqvGen.trans _ _ _ ha (EqvGen.trans _ _ _ (up a b (by rw [ea, eb, hxy])) (EqvGen.symm _ _ hb))

/-- background cells hold `-1`, every foreground cell `i` has a root path, ending in `ρ i` -/
structure Roots (data : List Int) (par : Array Int) (ρ : Nat → Nat) : Prop where
  size : par.size = data.length
  bg : ∀ i, ¬ Fg data i → par.getD i (-1) = -1
  fg : ∀ i, Fg data i → ∃ d, RootN par i (ρ i) d

/-- the fuel `label` passes is enough for every path -/
theorem Roots.fuel {data : List Int} {par : Array Int} {ρ : Nat → Nat} (h : Roots data par ρ) {i r d : Nat}
    (hi : RootN par i r d) : d ≤ data.length + 1 := by
  have := hi.depth_lt; rw [h.size] at this; omega

theorem Roots.neg_one_iff {data : List Int} {par : Array Int} {ρ : Nat → Nat} (h : Roots data par ρ) (x : Nat) :
    par.getD x (-1) = -1 ↔ ¬ Fg data x := by
  refine ⟨fun hv hx => ?_, h.bg x⟩
  obtain ⟨d, hr⟩ := h.fg x hx
  obtain ⟨p, hp⟩ := hr.value
  omega

theorem Roots.find {data : List Int} {par : Array Int} {ρ : Nat → Nat} (h : Roots data par ρ) {i r d : Nat}
    (hi : RootN par i r d) : Roots data (find (data.length + 1) par i).1 ρ := by
  obtain ⟨_, h2, h3⟩ := find_spec _ par i r d hi (h.fuel hi)
  refine ⟨h2.trans h.size, fun x hx => find_frame _ par i r d hi (h.fuel hi) x (h.bg x hx), fun x hx => ?_⟩
  obtain ⟨dx, hxr⟩ := h.fg x hx
  obtain ⟨dx', _, hx'⟩ := h3 x _ dx hxr
  exact ⟨dx', hx'⟩

/-- `join i p`, `p` the value read at the foreground cell `nb`, merges the class of `i` into that of `nb` -/
theorem Roots.join {data : List Int} {par : Array Int} {ρ : Nat → Nat} (h : Roots data par ρ) {i nb p : Nat}
    (hfi : Fg data i) (hfn : Fg data nb) (hp : par.getD nb (-1) = (p : Int)) :
    Roots data (join (data.length + 1) par i p) (mergeRoot ρ i nb) := by
  obtain ⟨di, hi⟩ := h.fg i hfi
  obtain ⟨dn, hn⟩ := h.fg nb hfn
  obtain ⟨dp, hpn⟩ := hn.parent hp
  obtain ⟨hsz, hmap, hframe⟩ := join_spec _ par i p _ _ di dp hi hpn (h.fuel hi) (h.fuel hpn)
  refine ⟨hsz.trans h.size, fun x hx => hframe x (h.bg x hx), fun x hx => ?_⟩
  obtain ⟨dx, hxr⟩ := h.fg x hx
  exact hmap x _ dx hxr

/-- the buffer represents the equivalence generated by the edges `E`: it is a parent forest on the foreground whose
    root function has that equivalence as its kernel -/
def Inv (data : List Int) (par : Array Int) (E : Nat → Nat → Prop) : Prop :=
  ∃ ρ, Roots data par ρ ∧ ∀ x y, EqvGen E x y ↔ ρ x = ρ y

section
variable {data : List Int} {par : Array Int} {E : Nat → Nat → Prop}

theorem Inv.neg_one_iff (h : Inv data par E) (x : Nat) : par.getD x (-1) = -1 ↔ ¬ Fg data x :=
  h.elim fun _ h => h.1.neg_one_iff x

/-- only `EqvGen E` matters; the loops use this to re-bracket `E ∨ edges of this round` -/
theorem Inv.congr {E' : Nat → Nat → Prop} (h : Inv data par E) (he : ∀ x y, E x y ↔ E' x y) : Inv data par E' := by
  have : E = E' := by funext x y; exact propext (he x y)
  exact this ▸ h

theorem join_inv (h : Inv data par E) {i nb p : Nat} (hfi : Fg data i) (hfn : Fg data nb)
    (hp : par.getD nb (-1) = (p : Int)) :
    Inv data (join (data.length + 1) par i p) (fun x y => E x y ∨ (x = i ∧ y = nb)) :=
  h.elim fun ρ h => ⟨mergeRoot ρ i nb, h.1.join hfi hfn hp, eqvGen_merge h.2 i nb⟩

end

end Mahotas.C03
