/-
C10 — B6 (`dist_transform`: the two loops stay in range) and, of B7, `bbox_labeled` (row `label` of a `(max+1) × 2·nd` table).

In `dist_transform` the stack `v[0..k]` holds `k+1` earlier values of `q` (`DtStack`), so `k < q` and every `v[k]`, `z[k]`,
`f[v[k]]` is in range, and the second loop stops at the sentinel `z[kmax+1]`.
-/
import Mahotas.Proofs.C10
namespace Mahotas.C10
open Mahotas

/-- the stack `v[0..k]` (top first) of the first loop when it is at `q`: `k+1` earlier values of `q` -/
def DtStack (q : Int) (k : Nat) (vs : List Int) : Prop := vs.length = k + 1 ∧ ∀ v ∈ vs, 0 ≤ v ∧ v < q

theorem DtStack.head {q : Int} {k : Nat} {vs : List Int} (h : DtStack q k vs) : 0 ≤ vs.headD 0 ∧ vs.headD 0 < q := by
  cases vs with
  | nil => exact absurd h.1 (by simp)
  | cons v vt => exact h.2 v List.mem_cons_self

theorem DtStack.tail {q : Int} {k : Nat} {vs : List Int} (h : DtStack q (k + 1) vs) : DtStack q k vs.tail :=
  ⟨by rw [List.length_tail, h.1]; rfl, fun v hv => h.2 v (List.mem_of_mem_tail hv)⟩

theorem DtStack.push {q k : Nat} {vs : List Int} (h : DtStack q k vs) : DtStack (q + 1 : Nat) (k + 1) ((q : Int) :: vs) :=
  ⟨by rw [List.length_cons, h.1], fun v hv => by
    rcases List.mem_cons.1 hv with rfl | hv
    · omega
    · have := h.2 v hv; omega⟩

/-- the accesses `v[k]`, `z[k]`, `f[q]`, `f[v[k]]` of one round of the do-while -/
theorem dtPopHere_ok {n q k : Nat} {vs : List Int} (hq : q < n) (hk : k < n) (hs : DtStack q k vs) :
    ∀ a ∈ [Acc.mk (k : Nat) n, Acc.mk (k : Nat) (n + 1), Acc.mk q n, Acc.mk (vs.headD 0) n], AccOk a := by
  have hh := hs.head
  simp only [acc_forall, AccOk]
  omega

/-- `h0` is the sentinel `z[0] = -inf`: the test `s > z[0]` succeeds, so the do-while leaves through `break` at `k = 0` at the
latest and `k` never becomes `-1`. -/
theorem dtPop_spec (cmp : Nat → Nat → Bool) (n q : Nat) (hq : q < n) (h0 : cmp q 0 = true) :
    ∀ (k : Nat) (vs : List Int), DtStack q k vs → k < n →
    (∀ a ∈ (dtPop cmp n q k vs).1, AccOk a) ∧
    ∃ kb vs', (dtPop cmp n q k vs).2 = some (kb, vs') ∧ kb ≤ k ∧ DtStack q kb vs' := by
  intro k
  induction k with
  | zero =>
    intro vs hs hk
    simp only [dtPop, h0, if_true]
    exact ⟨dtPopHere_ok hq hk hs, 0, vs, rfl, Nat.le_refl _, hs⟩
  | succ k ih =>
    intro vs hs hk
    have hhere := dtPopHere_ok hq hk hs
    simp only [dtPop]
    split
    · exact ⟨hhere, k + 1, vs, rfl, Nat.le_refl _, hs⟩
    · obtain ⟨hacc, kb, vs', he, hkb, hs'⟩ := ih vs.tail hs.tail (by omega)
      exact ⟨List.forall_mem_append.2 ⟨hhere, hacc⟩, kb, vs', he, by omega, hs'⟩

theorem dtFirst_spec (cmp : Nat → Nat → Bool) (n : Nat) (hcmp : ∀ q, cmp q 0 = true) :
    ∀ (c q k : Nat) (vs : List Int), q + c = n → k < q → DtStack q k vs →
    (∀ a ∈ (dtFirst cmp n c q k vs).1, AccOk a) ∧
    ∃ kf vsf, (dtFirst cmp n c q k vs).2 = some (kf, vsf) ∧ kf < n ∧ DtStack n kf vsf := by
  intro c
  induction c with
  | zero =>
    intro q k vs hq hk hs
    exact ⟨by simp [dtFirst], k, vs, rfl, by omega, hs.1, fun v h => by have := hs.2 v h; omega⟩
  | succ c ih =>
    intro q k vs hq hk hs
    obtain ⟨hacc, kb, vs', he, hkb, hs'⟩ := dtPop_spec cmp n q (by omega) (hcmp q) k vs hs (by omega)
    rcases hp : dtPop cmp n q k vs with ⟨a, r⟩
    rw [hp] at he hacc
    obtain rfl : r = some (kb, vs') := he
    simp only [dtFirst, hp]
    obtain ⟨hacc2, kf, vsf, he2, hkf, hsf⟩ := ih (q + 1) (kb + 1) ((q : Int) :: vs') (by omega) (by omega) hs'.push
    refine ⟨List.forall_mem_append.2 ⟨List.forall_mem_append.2 ⟨hacc, ?_⟩, hacc2⟩, kf, vsf, he2, hkf, hsf⟩
    simp only [acc_forall, AccOk]
    omega

/-- `hlt` is the sentinel `z[kmax+1] = +inf`: it is never `< q`, so `k` stops at `kmax` at the latest; the fuel has to exceed
the `kmax - k` advances left (`dtSecond` passes `n + 2 > kmax`). -/
theorem dtAdvance_spec (lt2 : Nat → Nat → Bool) (n q kmax : Nat) (hkm : kmax < n)
    (hlt : lt2 q kmax = false) :
    ∀ (f k : Nat), k ≤ kmax → kmax - k < f →
    (∀ a ∈ (dtAdvance lt2 n q f k).1, AccOk a) ∧ k ≤ (dtAdvance lt2 n q f k).2 ∧
      (dtAdvance lt2 n q f k).2 ≤ kmax := by
  intro f
  induction f with
  | zero => intro k _ h; omega
  | succ f ih =>
    intro k hk hf
    by_cases hc : lt2 q k = true
    · have hne : k ≠ kmax := by
        intro e; rw [e, hlt] at hc; exact absurd hc (by simp)
      obtain ⟨h1, h2, h3⟩ := ih (k + 1) (by omega) (by omega)
      simp only [dtAdvance, hc, if_true]
      exact ⟨List.forall_mem_cons.2 ⟨by simp only [AccOk]; omega, h1⟩, by omega, h3⟩
    · simp only [dtAdvance, hc, Bool.false_eq_true, if_false, acc_forall, AccOk]
      exact ⟨by omega, Nat.le_refl _, hk⟩

theorem dtSecond_spec (lt2 : Nat → Nat → Bool) (n kmax : Nat) (v : List Int) (hkm : kmax < n)
    (hlt : ∀ q, lt2 q kmax = false) (hvl : v.length = kmax + 1)
    (hv : ∀ x ∈ v, 0 ≤ x ∧ x < (n : Int)) :
    ∀ (c q k : Nat), q + c = n → k ≤ kmax → ∀ a ∈ dtSecond lt2 n v c q k, AccOk a := by
  intro c
  induction c with
  | zero => intro q k _ _ a ha; simp [dtSecond] at ha
  | succ c ih =>
    intro q k hq hk
    obtain ⟨h1, h2, h3⟩ := dtAdvance_spec lt2 n q kmax hkm (hlt q) (n + 2) k hk (by omega)
    simp only [dtSecond, acc_forall, AccOk]
    refine ⟨⟨h1, by omega, by omega, ?_⟩, ih (q + 1) _ (by omega) h3⟩
    -- `f[v[k]]`: the stack cell `v[k]`, `k ≤ kmax`, holds an earlier `q`
    have hlt' : (dtAdvance lt2 n q (n + 2) k).2 < v.length := by omega
    have hm : v.getD (dtAdvance lt2 n q (n + 2) k).2 0 ∈ v := by
      simp [List.getD_eq_getElem?_getD, List.getElem?_eq_getElem hlt']
    exact hv _ hm

theorem bboxAccesses_ok (nd maxlabel label : Int) (h0 : 0 ≤ label) (h1 : label ≤ maxlabel) :
    ∀ a ∈ bboxAccesses nd maxlabel label, AccOk a := by
  -- cell `2j (+1)` of row `label` of a `(maxlabel+1) × 2·nd` table
  have e1 : label * 2 * nd = label * (nd * 2) := by ring
  have e2 : nd * 2 * (maxlabel + 1) = (maxlabel + 1) * (nd * 2) := by ring
  simp only [bboxAccesses, acc_forall, AccOk, e1, e2]
  intro j hj
  have := flat2_range label (2 * j) (maxlabel + 1) (nd * 2) h0 (by omega) (by omega) (by omega)
  have := flat2_range label (2 * j + 1) (maxlabel + 1) (nd * 2) h0 (by omega) (by omega) (by omega)
  omega

theorem bboxAccesses_bad (nd maxlabel label : Int) (hnd : 1 ≤ nd)
    (h : ∀ a ∈ bboxAccesses nd maxlabel label, AccOk a) : 0 ≤ label ∧ label ≤ maxlabel := by
  have hm : Acc.mk (label * 2 * nd + 2 * 0) (nd * 2 * (maxlabel + 1)) ∈ bboxAccesses nd maxlabel label := by
    simp only [bboxAccesses, List.mem_flatMap, mem_rangeI]
    exact ⟨0, ⟨by omega, by omega⟩, by simp⟩
  have := h _ hm
  simp only [AccOk] at this
  obtain ⟨a0, a1⟩ := this
  constructor
  · by_contra hneg
    have : label * 2 * nd ≤ (-1) * 2 * nd := by
      have : label * 2 ≤ (-1) * 2 := by omega
      exact Int.mul_le_mul_of_nonneg_right this (by omega)
    omega
  · by_contra hbig
    have h2 : (maxlabel + 1) * 2 * nd ≤ label * 2 * nd := by
      have : (maxlabel + 1) * 2 ≤ label * 2 := by omega
      exact Int.mul_le_mul_of_nonneg_right this (by omega)
    have e2 : nd * 2 * (maxlabel + 1) = (maxlabel + 1) * 2 * nd := by ring
    omega

end Mahotas.C10
