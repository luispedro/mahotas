/-
C14-T2: `regmax`/`regmin` mark exactly the plateaus without a strictly better neighbour
(symmetric neighbourhoods).
-/
import Mahotas.Proofs.C14Flood
namespace Mahotas.C14
open Mahotas

theorem beats_antisymm (isMin : Bool) (a b : Int) (h1 : beats isMin a b = false) (h2 : beats isMin b a = false) :
    a = b := by
  unfold beats at h1 h2
  cases isMin <;> simp at h1 h2 <;> omega

/-- "at least as good as" is "not beaten by" -/
theorem weakBeats_eq (isMin : Bool) (a b : Int) : weakBeats isMin a b = !beats isMin b a := by
  unfold weakBeats beats
  cases isMin <;> simp [← Int.not_lt]

theorem weak_not_beats (isMin : Bool) (a b : Int) (h1 : weakBeats isMin a b = true) (h2 : beats isMin a b = false) :
    a = b :=
  beats_antisymm isMin a b h2 (by rwa [weakBeats_eq, Bool.not_eq_true'] at h1)

theorem weakBeats_refl (isMin : Bool) (a : Int) : weakBeats isMin a a = true := by
  rw [weakBeats_eq, beats_irrefl]; rfl

section reg
variable (isMin : Bool) (A : Img Int) (nb : List (List Int))

/-- the flag of position `q` in a mark array: `Ctx.fl` for the shape of an image (the two are equal by `rfl`) -/
def flg (m : Array Bool) (q : List Int) : Bool := m.getD (ravelI A.shape q) false

theorem flg_map_allPos (f : List Int → Bool) (q : List Int) (hq : inside A.shape q = true) :
    flg A ((allPos A.shape).map f).toArray q = f q := by
  unfold flg
  rw [getD_map_allPos A.shape _ _ false (C01.ravelI_lt _ _ hq), C01.unravelI_ravelI _ _ hq]

/-- `q` is a local extremum in the sense of the specification -/
def Loc (q : List Int) : Prop :=
  ∀ k ∈ nb, inside A.shape (addPos q k) = true → beats isMin (A.getD (addPos q k) 0) (A.getD q 0) = false

theorem flg_map_not (m : Array Bool) (hsz : m.size = shapeSize A.shape) (q : List Int)
    (hq : inside A.shape q = true) : flg A (m.map (!·)) q = !flg A m q := by
  have hlt : ravelI A.shape q < m.size := hsz ▸ C01.ravelI_lt _ _ hq
  simp [flg, Array.getD_eq_getD_getElem?, hlt]

theorem locSpecAt_iff (q : List Int) : locSpecAt isMin A nb q = true ↔ Loc isMin A nb q := by
  unfold locSpecAt Loc
  simp only [List.all_eq_true, Bool.not_eq_true', Bool.and_eq_false_imp]

/-- one step inside a plateau: a neighbour inside the image with the same value -/
def PStep (x y : List Int) : Prop :=
  ∃ k ∈ nb, y = addPos x k ∧ inside A.shape y = true ∧ A.getD y 0 = A.getD x 0

/-- `r` belongs to the plateau of `q` -/
inductive PConn : List Int → List Int → Prop
  | refl (q : List Int) : PConn q q
  | tail (p x y : List Int) : PConn p x → PStep A nb x y → PConn p y

/-- the plateau of `q` has no strictly better neighbour -/
def Regional (q : List Int) : Prop := ∀ r, PConn A nb q r → Loc isMin A nb r

variable {isMin A nb}

theorem PConn.head {p x r : List Int} (h1 : PStep A nb p x) (h2 : PConn A nb x r) : PConn A nb p r := by
  induction h2 with
  | refl => exact PConn.tail p p _ (PConn.refl p) h1
  | tail x' y _ hs ih => exact PConn.tail p x' y ih hs

theorem PConn.trans {p x r : List Int} (h1 : PConn A nb p x) (h2 : PConn A nb x r) : PConn A nb p r := by
  induction h2 with
  | refl => exact h1
  | tail x' y _ hs ih => exact PConn.tail p x' y ih hs

/-- symmetric neighbourhood whose offsets have the rank of the image -/
structure SymNb (A : Img Int) (nb : List (List Int)) : Prop where
  neg : ∀ k ∈ nb, negPos k ∈ nb
  len : ∀ k ∈ nb, k.length = A.shape.length

theorem SymNb.len_eq (hn : SymNb A nb) {k q : List Int} (hk : k ∈ nb) (hq : inside A.shape q = true) :
    k.length = q.length := by
  rw [hn.len k hk, C01.inside_length hq]

/-- for a symmetric neighbourhood, "some neighbour in either direction" is "some neighbour" -/
theorem any_either (hn : SymNb A nb) (q : List Int) (f : List Int → Bool) :
    (nb.any fun k => (inside A.shape (addPos q k) && f (addPos q k)) ||
        (inside A.shape (subPos q k) && f (subPos q k))) = true ↔
      ∃ k ∈ nb, inside A.shape (addPos q k) = true ∧ f (addPos q k) = true := by
  simp only [List.any_eq_true, Bool.or_eq_true, Bool.and_eq_true]
  constructor
  · rintro ⟨k, hk, h | h⟩
    · exact ⟨k, hk, h⟩
    · exact ⟨negPos k, hn.neg k hk, by rwa [← C01.subPos_eq_addPos_neg]⟩
  · rintro ⟨k, hk, h⟩
    exact ⟨k, hk, Or.inl h⟩

theorem PStep.symm (hn : SymNb A nb) {x y : List Int} (hx : inside A.shape x = true) (h : PStep A nb x y) :
    PStep A nb y x := by
  obtain ⟨k, hk, rfl, hin, hv⟩ := h
  refine ⟨negPos k, hn.neg k hk, ?_, hx, hv.symm⟩
  rw [C01.addPos_negPos x k (hn.len_eq hk hx)]

theorem PConn.in_image {p r : List Int} (hp : inside A.shape p = true) (h : PConn A nb p r) :
    inside A.shape r = true := by
  cases h with
  | refl => exact hp
  | tail x y _ hs => obtain ⟨_, _, _, hin, _⟩ := hs; exact hin

theorem PConn.symm (hn : SymNb A nb) {p r : List Int} (hp : inside A.shape p = true) (h : PConn A nb p r) :
    PConn A nb r p := by
  induction h with
  | refl => exact PConn.refl p
  | tail x y hpx hs ih => exact PConn.head (PStep.symm hn (PConn.in_image hp hpx) hs) ih

theorem Regional.of_conn {p r : List Int} (h : Regional isMin A nb p) (hc : PConn A nb p r) :
    Regional isMin A nb r := fun r' hr' => h r' (PConn.trans hc hr')

end reg

section pass
variable {isMin : Bool} {A : Img Int} {nb : List (List Int)}

/-- the body of the scan of `removeFake` -/
def regBody (isMin : Bool) (A : Img Int) (nb : List (List Int)) (m : Array Bool) (p : List Int) : Array Bool :=
  let i := ravelI A.shape p
  if !m.getD i false then m
  else if hasFakeWitness isMin A nb m p then
    flood A.shape nb (A.size + 1) (m.setIfInBounds i false) [p]
  else m

theorem removeFake_eq (marks : Array Bool) :
    removeFake isMin A nb marks = (allPos A.shape).foldl (regBody isMin A nb) marks := rfl

theorem hasFakeWitness_iff (m : Array Bool) (p : List Int) :
    hasFakeWitness isMin A nb m p = true ↔
      ∃ k ∈ nb, inside A.shape (addPos p k) = true ∧ flg A m (addPos p k) = false ∧
        weakBeats isMin (A.getD (addPos p k) 0) (A.getD p 0) = true := by
  simp only [hasFakeWitness, flg, List.any_eq_true, Bool.and_eq_true, Bool.not_eq_true', and_assoc]

/-- invariant of the scan, `scanned` the positions already visited. `keep`: no regional pixel has lost its mark; `loc`: every
    mark is a local extremum; `nofake`: a scanned pixel that is still marked has no unmarked neighbour at least as good — at the
    end the marks are closed under plateau steps, which with `loc` is `Regional`. -/
structure RInv (isMin : Bool) (A : Img Int) (nb : List (List Int)) (m : Array Bool)
    (scanned : List (List Int)) : Prop where
  size : m.size = shapeSize A.shape
  keep : ∀ q, inside A.shape q = true → Regional isMin A nb q → flg A m q = true
  loc : ∀ q, inside A.shape q = true → flg A m q = true → Loc isMin A nb q
  nofake : ∀ p ∈ scanned, inside A.shape p = true → flg A m p = true → ∀ k ∈ nb,
    inside A.shape (addPos p k) = true →
    weakBeats isMin (A.getD (addPos p k) 0) (A.getD p 0) = true → flg A m (addPos p k) = true

/-- adjacent marked pixels have the same value (symmetric neighbourhood) -/
theorem adj_marked_eq (hn : SymNb A nb) {m : Array Bool} {sc : List (List Int)} (h : RInv isMin A nb m sc)
    {x : List Int} {k : List Int} (hk : k ∈ nb) (hx : inside A.shape x = true)
    (hy : inside A.shape (addPos x k) = true) (mx : flg A m x = true) (my : flg A m (addPos x k) = true) :
    A.getD (addPos x k) 0 = A.getD x 0 := by
  have h1 := h.loc x hx mx k hk hy
  have h2 := h.loc _ hy my (negPos k) (hn.neg k hk)
  have hback : addPos (addPos x k) (negPos k) = x :=
    C01.addPos_negPos x k (hn.len_eq hk hx)
  rw [hback] at h2
  exact beats_antisymm isMin _ _ h1 (h2 hx)

/-- a scanned pixel that keeps its mark must have no fake witness -/
theorem RInv.cons {m : Array Bool} {sc : List (List Int)} (h : RInv isMin A nb m sc) {p : List Int}
    (hp : hasFakeWitness isMin A nb m p = true → flg A m p = false) : RInv isMin A nb m (p :: sc) := by
  refine ⟨h.size, h.keep, h.loc, fun p' hp' hin' hm' => ?_⟩
  rcases List.mem_cons.mp hp' with rfl | hp'
  · intro k hk hink hwk
    cases hf : flg A m (addPos p' k)
    · rw [hp ((hasFakeWitness_iff m p').mpr ⟨k, hk, hink, hf, hwk⟩)] at hm'
      cases hm'
    · rfl
  · exact h.nofake p' hp' hin' hm'

theorem regBody_inv (hn : SymNb A nb) (m : Array Bool) (sc : List (List Int)) (h : RInv isMin A nb m sc)
    (p : List Int) (hp : inside A.shape p = true) :
    RInv isMin A nb (regBody isMin A nb m p) (p :: sc) := by
  unfold regBody
  simp only []
  have hflg : m.getD (ravelI A.shape p) false = flg A m p := rfl
  rw [hflg]
  cases hm : flg A m p
  · simp only [Bool.not_false, if_true]
    exact h.cons fun _ => hm
  · simp only [Bool.not_true, Bool.false_eq_true, if_false]
    cases hw : hasFakeWitness isMin A nb m p
    · simp only [Bool.false_eq_true, if_false]
      exact h.cons fun hw' => by rw [hw] at hw'; cases hw'
    · -- marked with a witness: the marked component of `p` is removed
      simp only [if_true]
      obtain ⟨k0, hk0, hin0, hf0, hw0⟩ := (hasFakeWitness_iff m p).mp hw
      let c : Ctx := ⟨A.shape, nb, m.setIfInBounds (ravelI A.shape p) false, [p]⟩
      have hset : ∀ q, inside A.shape q = true →
          c.fl c.avail0 q = (if q = p then false else flg A m q) :=
        fun q hq => fl_set c m p q hp hq
      have hfin : ∀ q, inside A.shape q = true →
          (flg A (flood A.shape nb (A.size + 1) (m.setIfInBounds (ravelI A.shape p) false) [p]) q = true ↔
            (flg A m q = true ∧ ¬ Src c q)) :=
        flood_seeded c m [p] rfl (fun _ => Iff.rfl) (fun p' hp' => List.mem_singleton.mp hp' ▸ hp) _
          (by rw [h.size, Nat.add_comm]; exact Nat.le_refl _)
      -- every source is marked and lies in the plateau of `p`
      have hsrc : ∀ q, Src c q → flg A m q = true ∧ inside A.shape q = true ∧ PConn A nb p q := by
        intro q hs
        refine hs.induction ?_ ?_
        · intro p' hp'
          rw [List.mem_singleton.mp hp']
          exact ⟨hm, hp, PConn.refl _⟩
        · intro x k _ ⟨mx, hx, hpx⟩ hk hin hav
          rw [hset _ hin] at hav
          split at hav
          · cases hav
          · exact ⟨hav, hin, PConn.tail _ _ _ hpx ⟨k, hk, rfl, hin, adj_marked_eq hn h hk hx hin mx hav⟩⟩
      -- `p` is not regional: its witness is an unmarked pixel of its plateau
      have hnotreg : ¬ Regional isMin A nb p := by
        intro hr
        have hv : A.getD (addPos p k0) 0 = A.getD p 0 :=
          weak_not_beats isMin _ _ hw0 (h.loc p hp hm k0 hk0 hin0)
        have hstep : PConn A nb p (addPos p k0) := PConn.tail _ _ _ (PConn.refl _) ⟨k0, hk0, rfl, hin0, hv⟩
        have := h.keep _ hin0 (hr.of_conn hstep)
        rw [hf0] at this; cases this
      refine ⟨by rw [flood_size, Array.size_setIfInBounds, h.size], ?_, ?_, ?_⟩
      · intro q hq hr
        rw [hfin q hq]
        exact ⟨h.keep q hq hr, fun hs => hnotreg (hr.of_conn (PConn.symm hn hp (hsrc q hs).2.2))⟩
      · intro q hq hmq
        exact h.loc q hq ((hfin q hq).mp hmq).1
      · intro p' hp' hin' hm' k hk hink hwk
        obtain ⟨hm1, hns⟩ := (hfin p' hin').mp hm'
        have hne : p' ≠ p := fun e => hns (Or.inl (e ▸ List.mem_singleton_self _))
        have hmx := h.nofake p' ((List.mem_cons.mp hp').resolve_left hne) hin' hm1 k hk hink hwk
        rw [hfin _ hink]
        have hback : addPos (addPos p' k) (negPos k) = p' :=
          C01.addPos_negPos p' k (hn.len_eq hk hin')
        have hav' : c.fl c.avail0 p' = true := by rw [hset p' hin']; simp [hne, hm1]
        -- `p'` would be reached back from its neighbour
        refine ⟨hmx, fun hs => hns (Or.inr ?_)⟩
        have := Reach.of_src hs (hn.neg k hk) (by rwa [hback]) (by rwa [hback])
        rwa [hback] at this

theorem regFold_inv (hn : SymNb A nb) (ps : List (List Int)) (hps : ∀ p ∈ ps, inside A.shape p = true)
    (m : Array Bool) (sc : List (List Int)) (h : RInv isMin A nb m sc) :
    RInv isMin A nb (ps.foldl (regBody isMin A nb) m) (ps.reverse ++ sc) := by
  rw [← List.foldl_flip_cons_eq_append']
  exact foldl_rel_mem (RInv isMin A nb) _ _ ps (fun m sc p hp h => regBody_inv hn m sc h p (hps p hp)) m sc h

/-- the removal pass turns the local extrema into the regional ones -/
theorem removeFake_spec (hn : SymNb A nb) (marks0 : Array Bool) (hsize : marks0.size = shapeSize A.shape)
    (hmarks : ∀ q, inside A.shape q = true → (flg A marks0 q = true ↔ Loc isMin A nb q))
    (q : List Int) (hq : inside A.shape q = true) :
    flg A (removeFake isMin A nb marks0) q = true ↔ Regional isMin A nb q := by
  have hinit : RInv isMin A nb marks0 [] :=
    ⟨hsize, fun q hq hr => (hmarks q hq).mpr (hr q (PConn.refl q)), fun q hq hm => (hmarks q hq).mp hm,
      by simp⟩
  have hfin := regFold_inv hn (allPos A.shape)
    (fun p hp => (C01.mem_allPos _ p).mp hp) marks0 [] hinit
  rw [← removeFake_eq] at hfin
  generalize removeFake isMin A nb marks0 = mf at hfin ⊢
  constructor
  · intro hm r hr
    have : flg A mf r = true := by
      induction hr with
      | refl => exact hm
      | tail x y hqx hs ih =>
        obtain ⟨k, hk, rfl, hin, hv⟩ := hs
        have hx := PConn.in_image hq hqx
        refine hfin.nofake x (by simp [(C01.mem_allPos _ _).mpr hx]) hx ih k hk hin ?_
        rw [hv]; exact weakBeats_refl isMin _
    exact hfin.loc r (PConn.in_image hq hr) this
  · exact hfin.keep q hq

theorem flg_locModel (q : List Int) (hq : inside A.shape q = true) :
    flg A (locModel isMin A nb) q = locAt isMin A nb q :=
  flg_map_allPos A _ q hq

end pass

end Mahotas.C14
