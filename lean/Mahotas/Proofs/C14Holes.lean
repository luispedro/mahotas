/-
C14-T3: `close_holes` = complement of the background connected to the image border.
-/
import Mahotas.Proofs.C14Flood
namespace Mahotas.C14
open Mahotas

/-- background pixel `q` is connected to the border: it is a background pixel on the border, or it
    is reached from one by steps `p ↦ p + k` (`k` in the neighbourhood) through background pixels
    inside the image -/
inductive BorderConn (ref : Img Int) (nb : List (List Int)) : List Int → Prop
  | seed (q : List Int) : inside ref.shape q = true → onBorder ref.shape q = true →
      ref.getD q 1 = 0 → BorderConn ref nb q
  | step (p q k : List Int) : BorderConn ref nb p → k ∈ nb → q = addPos p k →
      inside ref.shape q = true → ref.getD q 1 = 0 → BorderConn ref nb q

def chCtx (ref : Img Int) (nb : List (List Int)) : Ctx :=
  { shape := ref.shape, nb := nb, avail0 := chAvail1 ref, stack0 := (chSeeds ref).reverse }

theorem mem_chSeeds (ref : Img Int) (q : List Int) :
    q ∈ chSeeds ref ↔ inside ref.shape q = true ∧ onBorder ref.shape q = true ∧ ref.getD q 1 = 0 := by
  unfold chSeeds
  rw [List.mem_filter, C01.mem_allPos, Bool.and_eq_true, beq_iff_eq]

theorem fl_chAvail0 (ref : Img Int) (nb : List (List Int)) (hwf : ref.data.size = shapeSize ref.shape)
    (q : List Int) (hq : inside ref.shape q = true) :
    (chCtx ref nb).fl (chAvail0 ref) q = true ↔ ref.getD q 1 = 0 := by
  have hi : ravelI ref.shape q < ref.data.size := by rw [hwf]; exact C01.ravelI_lt _ _ hq
  unfold Ctx.fl chAvail0
  rw [Img.getD_inside ref q 1 hq]
  simp [chCtx, Array.getD_eq_getD_getElem?, List.getElem?_map, Array.getElem?_eq_getElem hi]

theorem fl_chAvail1 (ref : Img Int) (nb : List (List Int)) (hwf : ref.data.size = shapeSize ref.shape)
    (q : List Int) (hq : inside ref.shape q = true) :
    (chCtx ref nb).fl (chCtx ref nb).avail0 q = true ↔ (ref.getD q 1 = 0 ∧ q ∉ chSeeds ref) := by
  show (chCtx ref nb).fl (chAvail1 ref) q = true ↔ _
  unfold chAvail1
  have := fl_foldl_set (chCtx ref nb) (chSeeds ref)
    (fun p hp => ((mem_chSeeds ref p).mp hp).1) (chAvail0 ref) q hq
  rw [show (chCtx ref nb).shape = ref.shape from rfl] at this
  rw [this, fl_chAvail0 ref nb hwf q hq]

/-- connected to the border = a source of the flood that `close_holes` runs: a path from a seed is cut at its last seed -/
theorem borderConn_iff (ref : Img Int) (nb : List (List Int)) (hwf : ref.data.size = shapeSize ref.shape)
    (q : List Int) : BorderConn ref nb q ↔ Src (chCtx ref nb) q := by
  have hseed : ∀ q, q ∈ (chCtx ref nb).stack0 ↔ q ∈ chSeeds ref := fun q => List.mem_reverse
  constructor
  · intro h
    induction h with
    | seed q h1 h2 h3 => exact Or.inl ((hseed q).mpr ((mem_chSeeds ref q).mpr ⟨h1, h2, h3⟩))
    | step p q k _ hk hq hin hbg ih =>
      by_cases hs : q ∈ chSeeds ref
      · exact Or.inl ((hseed q).mpr hs)
      · subst hq
        exact Or.inr (Reach.of_src ih hk hin ((fl_chAvail1 ref nb hwf _ hin).mpr ⟨hbg, hs⟩))
  · intro h
    refine h.induction ?_ ?_
    · intro p hp
      obtain ⟨h1, h2, h3⟩ := (mem_chSeeds ref p).mp ((hseed p).mp hp)
      exact .seed p h1 h2 h3
    · intro p k _ ih hk hin hav
      exact .step p _ k ih hk rfl hin ((fl_chAvail1 ref nb hwf _ hin).mp hav).1

section
variable {ref : Img Int} {nb : List (List Int)}

theorem BorderConn.bg {q : List Int} (h : BorderConn ref nb q) : ref.getD q 1 = 0 := by
  cases h with
  | seed _ _ _ hb => exact hb
  | step _ _ _ _ _ _ _ hb => exact hb

end

/-- `close_holes` = complement of the background connected to the image border -/
theorem closeHoles_spec (ref : Img Int) (nb : List (List Int)) (hwf : ref.data.size = shapeSize ref.shape)
    (q : List Int) (hq : inside ref.shape q = true) :
    (closeHoles ref nb).getD (ravelI ref.shape q) false = true ↔ ¬ BorderConn ref nb q := by
  have hi : ravelI ref.shape q < ref.size := C01.ravelI_lt _ _ hq
  have hfuel : (chSeeds ref).reverse.length + (chAvail0 ref).size ≤ ref.size + (chSeeds ref).length + 1 := by
    have h2 : (chAvail0 ref).size = ref.data.size := by simp [chAvail0]
    rw [List.length_reverse, h2, hwf]
    show _ ≤ shapeSize ref.shape + _ + 1
    omega
  have hget : (closeHoles ref nb).getD (ravelI ref.shape q) false =
      (ref.getD q 1 != 0 || (chCtx ref nb).fl (flood (chCtx ref nb).shape (chCtx ref nb).nb
        (ref.size + (chSeeds ref).length + 1) (chCtx ref nb).avail0 (chCtx ref nb).stack0) q) := by
    have hi2 : ravelI ref.shape q < ref.data.size := hwf ▸ hi
    rw [Img.getD_inside ref q 1 hq]
    simp [closeHoles, Ctx.fl, chCtx, Array.getD_eq_getD_getElem?, List.getElem?_map,
      List.getElem?_range hi, hi2]
  rw [hget, Bool.or_eq_true, flood_seeded (chCtx ref nb) (chAvail0 ref) (chSeeds ref) rfl (fun _ => List.mem_reverse)
    (fun p hp => ((mem_chSeeds ref p).mp hp).1) _ hfuel q hq, fl_chAvail0 ref nb hwf q hq, ← borderConn_iff ref nb hwf q]
  by_cases hz : ref.getD q 1 = 0
  · simp [hz]
  · exact iff_of_true (Or.inl (by simpa using hz)) fun h => hz h.bg

end Mahotas.C14
