/-
C16 — `ignore_zeros` is "remove the zero pixels", and Otsu's threshold separates the
occupied levels (two-level images as a corollary of the first-argmax theorem).
-/
import Mahotas.Proofs.C16
import Mahotas.Proofs.C16Otsu
namespace Mahotas.C16
open Mahotas

theorem fullhistogram_size (img : List Nat) : (fullhistogram img).size = img.foldl max 0 + 1 := by
  unfold fullhistogram
  rw [foldl_modify_size (fun v => v) fun _ => (· + 1)]; simp

theorem foldl_max_filter (img : List Nat) (a : Nat) :
    (img.filter (· ≠ 0)).foldl max a = img.foldl max a := by
  rw [List.foldl_filter]
  refine List.foldl_ext _ _ _ fun m x _ => ?_
  split
  · rfl
  · rw [show x = 0 from of_not_not fun h => ‹¬ _› (decide_eq_true h), Nat.max_zero]

theorem histOf_length (img : List Nat) (iz : Bool) : (histOf img iz).length = img.foldl max 0 + 1 := by
  unfold histOf
  cases iz <;> simp [fullhistogram_size]

theorem histOf_false_getD (img : List Nat) (i : Nat) : (histOf img false).getD i 0 = img.count i := by
  have := fullhistogram_count img i
  simpa [histOf] using this

theorem histOf_true_getD (img : List Nat) (i : Nat) :
    (histOf img true).getD i 0 = if i = 0 then 0 else img.count i := by
  have := fullhistogram_count img i
  simp only [histOf, if_true]
  rw [List.getD_eq_getElem?_getD, List.getElem?_set]
  by_cases hi : i = 0
  · subst hi
    simp only [if_true]
    split <;> simp
  · have h0 : ¬ 0 = i := fun h => hi h.symm
    simp only [h0, if_false, hi]
    simpa using this

theorem count_filter_ne_zero (img : List Nat) (i : Nat) :
    (img.filter (· ≠ 0)).count i = if i = 0 then 0 else img.count i := by
  by_cases hi : i = 0
  · subst hi
    simp [List.count_eq_zero]
  · simp only [hi, if_false]
    rw [List.count_filter]
    simpa using hi

/-- clearing bin 0 of the histogram = the histogram of the image without its zero pixels
    (same number of bins: the largest level is unchanged, and an all-zero image gives `[0]` either way) -/
theorem histOf_ignore_zeros (img : List Nat) :
    histOf img true = histOf (img.filter (· ≠ 0)) false := by
  apply List.ext_getElem?
  intro i
  have h1 := histOf_true_getD img i
  have h2 := histOf_false_getD (img.filter (· ≠ 0)) i
  rw [count_filter_ne_zero, ← h1] at h2
  have l1 := histOf_length img true
  have l2 := histOf_length (img.filter (· ≠ 0)) false
  rw [foldl_max_filter] at l2
  by_cases hi : i < img.foldl max 0 + 1
  · rw [List.getD_eq_getElem?_getD, List.getD_eq_getElem?_getD,
      List.getElem?_eq_getElem (by omega), List.getElem?_eq_getElem (by omega)] at h2
    rw [List.getElem?_eq_getElem (by omega), List.getElem?_eq_getElem (by omega)]
    simpa using h2.symm
  · rw [List.getElem?_eq_none (by omega), List.getElem?_eq_none (by omega)]

theorem rcGen_singleton_zero {α : Type} [Add α] [Sub α] [Mul α] [Div α] [LT α] [DecidableLT α]
    (cast : Nat → α) : rcGen cast [0] = cast 0 := by
  simp [rcGen, lastNonzero, rcLoop, List.range, List.range.loop]

theorem filter_ne_zero_eq_nil {img : List Nat} (h : img.count 0 = img.length) :
    img.filter (· ≠ 0) = [] := by
  rw [List.filter_eq_nil_iff]
  intro a ha
  have := List.count_eq_length.1 h a ha
  simp [this]

theorem hOf_histOf (img : List Nat) (iz : Bool) (i : Nat) :
    hOf (histOf img iz) i = if iz = true ∧ i = 0 then 0 else img.count i := by
  rw [hOf_eq]
  cases iz
  · rw [histOf_false_getD]; simp
  · rw [histOf_true_getD]; simp

theorem hOf_histOf_ne_zero {img : List Nat} {iz : Bool} {i : Nat} :
    hOf (histOf img iz) i ≠ 0 ↔ i ∈ img ∧ ¬ (iz = true ∧ i = 0) := by
  rw [hOf_histOf]
  by_cases hc : iz = true ∧ i = 0
  · rw [if_pos hc]; exact ⟨fun h => absurd rfl h, fun h => absurd hc h.2⟩
  · rw [if_neg hc, Ne, List.count_eq_zero, not_not]; exact ⟨fun h => ⟨h, hc⟩, fun h => h.1⟩

theorem rcImg_ignore_zeros {α : Type} [Add α] [Sub α] [Mul α] [Div α] [LT α] [DecidableLT α]
    (cast : Nat → α) (img : List Nat) :
    rcImg cast img true = rcImg cast (img.filter (· ≠ 0)) false := by
  have hr : rcImg cast (img.filter (· ≠ 0)) false = rcGen cast (histOf img true) := by
    simp only [rcImg, Bool.false_and, ← histOf_ignore_zeros]; rfl
  rw [hr]
  unfold rcImg
  by_cases hz : (fullhistogram img).getD 0 0 = img.length
  · have hc : img.count 0 = img.length := by rw [← fullhistogram_count]; exact hz
    have hnil := filter_ne_zero_eq_nil hc
    have hh : histOf img true = [0] := by
      rw [histOf_ignore_zeros, hnil]; rfl
    rw [hh, rcGen_singleton_zero]
    simp only [Bool.true_and, beq_iff_eq, hz, if_true]
  · simp only [Bool.true_and, beq_iff_eq, hz, if_false]

/-- **Otsu's threshold lies between the smallest and the largest occupied level** whenever there
    are at least two: both classes `{≤ T}` and `{> T}` are occupied. -/
theorem otsuGen_separates (hist : List Nat) (hne : ∃ v ∈ hist, v ≠ 0)
    (hlh : loOf hist < lastNonzero hist) :
    loOf hist ≤ otsuGen ratCast hist ∧ otsuGen ratCast hist < lastNonzero hist := by
  have hn := hi_lt_length hist hne
  -- `σ` is positive at `lo`, hence at the maximiser, and the maximiser is a proper split
  rw [← otsuSigma_pos_iff hist hne (otsuGen_lt_length ratCast hist (by omega))]
  exact lt_of_lt_of_le ((otsuSigma_pos_iff hist hne (by omega)).2 ⟨le_rfl, hlh⟩)
    ((otsuGen_first_argmax hist).2.1 _ (by omega))

theorem two_level_lo_hi (hist : List Nat) (a b : Nat) (hab : a < b)
    (ha : hOf hist a ≠ 0) (hb : hOf hist b ≠ 0) (hall : ∀ i, hOf hist i ≠ 0 → i = a ∨ i = b) :
    (∃ v ∈ hist, v ≠ 0) ∧ loOf hist = a ∧ lastNonzero hist = b := by
  have hne := hne_of_hOf ha
  obtain ⟨l1, l2⟩ := loOf_spec hist hne
  obtain ⟨u1, u2⟩ := lastNonzero_spec hist hne
  refine ⟨hne, ?_, ?_⟩
  · rcases hall _ l1 with h | h
    · exact h
    · exfalso
      exact ha (l2 a (by omega))
  · rcases hall _ u1 with h | h
    · exfalso
      exact hb (u2 b (by omega))
    · exact h

end Mahotas.C16
