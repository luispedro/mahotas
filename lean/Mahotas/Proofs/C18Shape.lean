/-
C18 — the output shape a zoom factor asks for (`zoomOutShape`: `int(s * z)` per axis) and the truncation of the
interpolated values to an integer dtype (`castToInt`), over an ordered field with a floor function.
-/
import Mahotas.Proofs.C18
set_option linter.unusedSectionVars false
namespace Mahotas.C18
open Mahotas

variable {K : Type} [Field K] [LinearOrder K] [IsStrictOrderedRing K]

theorem truncI_nonneg (fl : K → Int) (v : K) (hv : 0 ≤ v) : truncI fl v = fl v := by
  unfold truncI
  rw [if_neg (by rw [Nat.cast_zero]; exact not_lt.mpr hv)]

theorem truncI_neg (fl : K → Int) (v : K) (hv : v < 0) : truncI fl v = -(fl (-v)) := by
  unfold truncI
  rw [if_pos (by rw [Nat.cast_zero]; exact hv)]

theorem truncI_int {fl : K → Int} (h : IsFloor fl) (n : Int) : truncI fl (n : K) = n := by
  by_cases hn : (n : K) < 0
  · rw [truncI_neg fl _ hn]
    have e : -(n : K) = ((-n : Int) : K) := by push_cast; ring
    rw [e, h.int]; omega
  · rw [truncI_nonneg fl _ (not_lt.mp hn), h.int]

theorem truncI_mono {fl : K → Int} (h : IsFloor fl) (a b : K) (hab : a ≤ b) : truncI fl a ≤ truncI fl b := by
  by_cases ha : a < 0
  · by_cases hb : b < 0
    · rw [truncI_neg fl a ha, truncI_neg fl b hb]
      have := h.mono (-b) (-a) (neg_le_neg hab)
      omega
    · rw [truncI_neg fl a ha, truncI_nonneg fl b (not_lt.mp hb)]
      have p := h.nonneg (-a) (neg_nonneg.mpr ha.le)
      have q' := h.nonneg b (not_lt.mp hb)
      omega
  · have hb : 0 ≤ b := le_trans (not_lt.mp ha) hab
    rw [truncI_nonneg fl a (not_lt.mp ha), truncI_nonneg fl b hb]
    exact h.mono a b hab

theorem truncI_bounds {fl : K → Int} (h : IsFloor fl) (v : K) :
    (0 ≤ v → 0 ≤ truncI fl v ∧ ((truncI fl v : Int) : K) ≤ v ∧ v < ((truncI fl v : Int) : K) + 1) ∧
    (v ≤ 0 → truncI fl v ≤ 0 ∧ v ≤ ((truncI fl v : Int) : K) ∧ ((truncI fl v : Int) : K) - 1 < v) := by
  constructor
  · intro hv
    rw [truncI_nonneg fl v hv]
    exact ⟨h.nonneg v hv, (h v).1, (h v).2⟩
  · intro hv
    rcases lt_or_eq_of_le hv with hlt | heq
    · rw [truncI_neg fl v hlt]
      have p := h.nonneg (-v) (neg_nonneg.mpr hv)
      obtain ⟨a, b⟩ := h (-v)
      rw [Int.cast_neg]
      exact ⟨by omega, by linear_combination a, by linear_combination b⟩
    · subst heq
      have z : truncI fl (0 : K) = 0 := by simpa using truncI_int h 0
      rw [z]; simp

theorem zoomOutLen_one {fl : K → Int} (h : IsFloor fl) (s : Nat) : zoomOutLen fl s (1 : K) = s := by
  unfold zoomOutLen
  rw [mul_one]
  have := truncI_int h (s : Int)
  simpa using this

theorem zoomOutLen_nat {fl : K → Int} (h : IsFloor fl) (s k : Nat) :
    zoomOutLen fl s ((k : Nat) : K) = (s : Int) * (k : Int) := by
  unfold zoomOutLen
  have := truncI_int h ((s : Int) * (k : Int))
  push_cast at this
  exact this

theorem zoomOutLen_mono {fl : K → Int} (h : IsFloor fl) (s : Nat) (z z' : K) (hz : z ≤ z') :
    zoomOutLen fl s z ≤ zoomOutLen fl s z' := by
  unfold zoomOutLen
  exact truncI_mono h _ _ (mul_le_mul_of_nonneg_left hz (Nat.cast_nonneg s))

theorem zoomOutShape_cons (fl : K → Int) (s : Nat) (ss : List Nat) (z : K) (zs : List K)
    (h : 0 ≤ zoomOutLen fl s z) :
    zoomOutShape fl (s :: ss) (z :: zs) = (zoomOutShape fl ss zs).map ((zoomOutLen fl s z).toNat :: ·) := by
  rw [zoomOutShape, if_neg h.not_gt]
  cases zoomOutShape fl ss zs <;> rfl

theorem zoomOutShape_some (fl : K → Int) : ∀ (shape : List Nat) (zs : List K) (os : List Nat),
    zoomOutShape fl shape zs = some os →
      zs.length = shape.length ∧ os.length = shape.length ∧
      os.map (fun (o : Nat) => (o : Int)) = List.zipWith (zoomOutLen fl) shape zs
  | [], [], os, hs => by
    cases Option.some.inj hs
    exact ⟨rfl, rfl, rfl⟩
  | [], _ :: _, _, hs => by simp [zoomOutShape] at hs
  | _ :: _, [], _, hs => by simp [zoomOutShape] at hs
  | s :: ss, z :: zs, os, hs => by
    rcases lt_or_ge (zoomOutLen fl s z) 0 with ht | ht
    · rw [zoomOutShape, if_pos ht] at hs
      cases hs
    · rw [zoomOutShape_cons fl s ss z zs ht] at hs
      obtain ⟨r, hr, rfl⟩ := Option.map_eq_some_iff.mp hs
      obtain ⟨a, b, c⟩ := zoomOutShape_some fl ss zs r hr
      exact ⟨congrArg (· + 1) a, congrArg (· + 1) b,
        congrArg₂ List.cons (Int.toNat_of_nonneg ht) c⟩

theorem zoomOutShape_length_ne (fl : K → Int) (shape : List Nat) (zs : List K)
    (hl : zs.length ≠ shape.length) : zoomOutShape fl shape zs = none := by
  cases h : zoomOutShape fl shape zs with
  | none => rfl
  | some os => exact absurd (zoomOutShape_some fl shape zs os h).1 hl

theorem zoomOutShape_nonneg {fl : K → Int} (h : IsFloor fl) : ∀ (shape : List Nat) (zs : List K),
    zs.length = shape.length → (∀ z ∈ zs, 0 ≤ z) → ∃ os, zoomOutShape fl shape zs = some os
  | [], [], _, _ => ⟨[], rfl⟩
  | [], _ :: _, hl, _ => by simp at hl
  | _ :: _, [], hl, _ => by simp at hl
  | s :: ss, z :: zs, hl, hz => by
    obtain ⟨r, hr⟩ := zoomOutShape_nonneg h ss zs (Nat.succ.inj hl) fun z' hz' => hz z' (List.mem_cons_of_mem z hz')
    have hnn : 0 ≤ zoomOutLen fl s z :=
      ((truncI_bounds h _).1 (mul_nonneg (Nat.cast_nonneg s) (hz z List.mem_cons_self))).1
    exact ⟨_, by rw [zoomOutShape_cons fl s ss z zs hnn, hr]; rfl⟩

theorem zoomOutShape_unit {fl : K → Int} (h : IsFloor fl) : ∀ (shape : List Nat),
    zoomOutShape fl shape (List.replicate shape.length (1 : K)) = some shape
  | [] => rfl
  | s :: ss => by
    rw [List.length_cons, List.replicate_succ,
      zoomOutShape_cons fl s ss 1 _ (by rw [zoomOutLen_one h]; exact Int.natCast_nonneg s),
      zoomOutShape_unit h ss, zoomOutLen_one h, Int.toNat_natCast]
    rfl

theorem zoomOutShape_nat {fl : K → Int} (h : IsFloor fl) : ∀ (shape ks : List Nat), ks.length = shape.length →
    zoomOutShape fl shape (ks.map fun (k : Nat) => (k : K)) = some (List.zipWith (· * ·) shape ks)
  | [], [], _ => rfl
  | [], _ :: _, hl => by simp at hl
  | _ :: _, [], hl => by simp at hl
  | s :: ss, k :: ks, hl => by
    have e : zoomOutLen fl s ((k : Nat) : K) = ((s * k : Nat) : Int) := by rw [zoomOutLen_nat h, Int.natCast_mul]
    rw [List.map_cons, zoomOutShape_cons fl s ss _ _ (by rw [e]; exact Int.natCast_nonneg _),
      zoomOutShape_nat h ss ks (Nat.succ.inj hl), e, Int.toNat_natCast]
    rfl

theorem castToInt_int {fl : K → Int} (h : IsFloor fl) (dt : DT) (n : Int) (hlo : dt.lo ≤ n) (hhi : n ≤ dt.hi) :
    castToInt fl dt (n : K) = some n := by
  unfold castToInt
  simp only [truncI_int h, hlo, hhi, and_self, if_true]

theorem castToInt_some (fl : K → Int) (dt : DT) (v : K) (t : Int) (hc : castToInt fl dt v = some t) :
    t = truncI fl v ∧ dt.lo ≤ t ∧ t ≤ dt.hi := by
  unfold castToInt at hc
  by_cases hr : dt.lo ≤ truncI fl v ∧ truncI fl v ≤ dt.hi
  · simp only [hr, and_self, if_true, Option.some.injEq] at hc
    subst hc
    exact ⟨rfl, hr.1, hr.2⟩
  · simp only [hr, if_false] at hc
    cases hc

end Mahotas.C18
