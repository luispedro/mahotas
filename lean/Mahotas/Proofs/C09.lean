/-
C09 — what the out= convention means on the buffer-flow model, and the means to prove it of a wrapper.

`Honours` and `AliasSafe` state the convention on the heap at call time. They are instances of `Convention`, which states it
on every heap and for every position of the operands (with `Returns`: which buffer came back, what it holds, and the frame
`Frame`: what else may have changed), so that a wrapper built from other wrappers inherits it from them.
-/
import Mahotas.Model.C09
import Mathlib.Tactic.SplitIfs
namespace Mahotas.C09
open Mahotas

/-- the dtype `_get_output` expects: the `dtype` argument, by default the array's -/
def expectedDtype (a : Desc) (dt : Option Nat) : Nat :=
  match dt with
  | none => a.dtype
  | some d => d

/-- **the convention's notion of a valid buffer**: documented dtype, the array's shape, C-contiguous -/
def Acceptable (a o : Desc) (dt : Option Nat) : Prop :=
  o.dtype = expectedDtype a dt ∧ o.shape = a.shape ∧ o.ccontig = true

instance (a o : Desc) (dt : Option Nat) : Decidable (Acceptable a o dt) := by
  unfold Acceptable; infer_instance

/-- the reason reported is the first failing test in source order: dtype, then shape, then contiguity -/
theorem getOutput_reason (a o : Desc) (dt : Option Nat) :
    getOutput a (some o) dt =
      (if o.dtype ≠ expectedDtype a dt then .reject .dtype
       else if o.shape ≠ a.shape then .reject .shape
       else if o.ccontig = false then .reject .contig
       else .useOut) := by
  unfold getOutput expectedDtype
  cases dt <;> simp

theorem getOutput_useOut_iff (a o : Desc) (dt : Option Nat) :
    getOutput a (some o) dt = .useOut ↔ Acceptable a o dt := by
  rw [getOutput_reason, Acceptable]
  split_ifs <;> simp_all

theorem getOutput_reject_of_not (a o : Desc) (dt : Option Nat) (h : ¬ Acceptable a o dt) :
    ∃ r, getOutput a (some o) dt = .reject r := by
  rw [getOutput_reason]
  rw [Acceptable] at h
  split_ifs <;> simp_all

/-- `_get_output` never looks at the contiguity of `array` -/
theorem getOutput_array_contig (a : Desc) (c : Bool) (out : Option Desc) (dt : Option Nat) :
    getOutput { dtype := a.dtype, shape := a.shape, ccontig := c } out dt = getOutput a out dt := by
  unfold getOutput
  cases out <;> cases dt <;> rfl

/-- the one descriptor `_get_output` accepts -/
def outDesc (a : Desc) (dt : Option Nat) : Desc := ⟨expectedDtype a dt, a.shape, true⟩

theorem acceptable_iff {a o : Desc} {dt : Option Nat} : Acceptable a o dt ↔ o = outDesc a dt := by
  obtain ⟨d, sh, c⟩ := o
  simp only [Acceptable, outDesc, Desc.mk.injEq]

theorem getOutput_outDesc (a : Desc) (dt : Option Nat) : getOutput a (some (outDesc a dt)) dt = .useOut :=
  (getOutput_useOut_iff _ _ _).2 (acceptable_iff.2 rfl)

def R.ret : R Nat → Option Nat
  | .ok b _ => some b
  | .raise _ _ => none

def R.exc {α} : R α → Option Reject
  | .ok _ _ => none
  | .raise r _ => some r

def R.st {α} : R α → St
  | .ok _ s => s
  | .raise _ s => s

def R.retVal (r : R Nat) : Option Val := r.ret.map r.st.val

/-- the input buffers `0 … k-1` still hold their call-time content. A recursion on `k` and not a `∀ i < k` (`intact_iff`): at a
literal `k` it unfolds to a conjunction of equations that a run by evaluation closes with `⟨rfl, rfl, trivial⟩`. -/
def intact (s : St) : Nat → Prop
  | 0 => True
  | k + 1 => s.val k = .inp k ∧ intact s k

/-- what "the wrapper honours the convention" means for a buffer-flow program `P` over the inputs
`inputs` (buffers `0 … k-1`), whose `_get_output` call sees an array of descriptor `arr` and the
dtype argument `dt`, and whose result has the symbolic content `V`:

* without `out`: `P` returns a buffer holding `V`, inputs untouched;
* with an acceptable `out` (buffer `k`): `P` returns **buffer `k` itself**, which then holds `V`
  (the complete result, equal to the result without `out`), and no input was modified;
* with any other `out`: `P` raises the exception `_get_output` raises for it, and neither `out`
  (still `old`) nor any input was written before the raise. -/
def Honours (inputs : List Desc) (arr : Desc) (dt : Option Nat) (P : Option Nat → St → R Nat) (V : Val) : Prop :=
  let k := inputs.length
  ((P none (initSt inputs none)).retVal = some V ∧ intact (P none (initSt inputs none)).st k) ∧
  ∀ o : Desc,
    (Acceptable arr o dt →
      (P (some k) (initSt inputs (some o))).ret = some k ∧
      (P (some k) (initSt inputs (some o))).st.val k = V ∧
      intact (P (some k) (initSt inputs (some o))).st k) ∧
    (¬ Acceptable arr o dt →
      (P (some k) (initSt inputs (some o))).exc.map Decision.reject = some (getOutput arr (some o) dt) ∧
      (P (some k) (initSt inputs (some o))).st.val k = .old ∧
      intact (P (some k) (initSt inputs (some o))).st k)

/-- every input buffer `< k` except `i` still holds its call-time content (a recursion for the same reason as `intact`) -/
def intactBut (s : St) (i : Nat) : Nat → Prop
  | 0 => True
  | k + 1 => (k ≠ i → s.val k = .inp k) ∧ intactBut s i k

/-- **"`out` may be input buffer `i` itself"** for a buffer-flow program `P` over `inputs` whose result without `out`
has the symbolic content `V`: called with `out` = buffer `i` (no separate out buffer on the heap), `P` returns **that
buffer**, it then holds `V` — exactly what the call without `out` returns, computed from the call-time contents of all
inputs, nothing read after it was overwritten (no `undef` inside) — and every other input is intact. -/
def AliasSafe (inputs : List Desc) (i : Nat) (P : Option Nat → St → R Nat) (V : Val) : Prop :=
  (P none (initSt inputs none)).retVal = some V ∧
  (P (some i) (initSt inputs none)).ret = some i ∧
  (P (some i) (initSt inputs none)).st.val i = V ∧
  intactBut (P (some i) (initSt inputs none)).st i inputs.length

theorem intactBut_iff (s : St) (j k : Nat) : intactBut s j k ↔ ∀ i, i < k → i ≠ j → s.val i = .inp i := by
  induction k with
  | zero => simp [intactBut]
  | succ k ih => rw [intactBut, ih, Nat.forall_lt_succ_right, and_comm]

theorem intact_iff (s : St) (k : Nat) : intact s k ↔ ∀ i, i < k → s.val i = .inp i := by
  induction k with
  | zero => simp [intact]
  | succ k ih => rw [intact, ih, Nat.forall_lt_succ_right, and_comm]

theorem desc_write (b : Nat) (v : Val) (s : St) (i : Nat) : (write b v s).desc i = s.desc i := by
  simp only [write, St.desc, List.getElem?_modify]
  cases h : s.heap[i]? <;> simp
  split <;> rfl

theorem val_write_ne (b : Nat) (v : Val) (s : St) (i : Nat) (h : i ≠ b) : (write b v s).val i = s.val i := by
  simp only [write, St.val, List.getElem?_modify]
  cases h2 : s.heap[i]? <;> simp
  have : ¬ b = i := fun e => h e.symm
  simp [this]

theorem val_write_self (b : Nat) (v : Val) (s : St) (h : b < s.heap.length) : (write b v s).val b = v := by
  simp only [write, St.val, List.getElem?_modify]
  have : s.heap[b]? = some s.heap[b] := List.getElem?_eq_getElem h
  simp [this]

theorem length_write (b : Nat) (v : Val) (s : St) : (write b v s).heap.length = s.heap.length := by
  simp [write, List.length_modify]

theorem write_write (o : Nat) (v w : Val) (s : St) : write o w (write o v s) = write o w s := by
  simp only [write, List.modify_modify_eq]
  rfl

def allocSt (d : Desc) (v : Val) (s : St) : St :=
  { heap := s.heap ++ [{ desc := { d with ccontig := true }, val := v }] }

theorem alloc_eq (d : Desc) (v : Val) (s : St) : alloc d v s = .ok s.heap.length (allocSt d v s) := rfl

theorem length_allocSt (d : Desc) (v : Val) (s : St) : (allocSt d v s).heap.length = s.heap.length + 1 := by
  simp [allocSt]

theorem val_allocSt_old (d : Desc) (v : Val) (s : St) (i : Nat) (h : i < s.heap.length) :
    (allocSt d v s).val i = s.val i := by
  simp [allocSt, St.val, List.getElem?_append_left h]

theorem desc_allocSt_old (d : Desc) (v : Val) (s : St) (i : Nat) (h : i < s.heap.length) :
    (allocSt d v s).desc i = s.desc i := by
  simp [allocSt, St.desc, List.getElem?_append_left h]

theorem val_allocSt_new (d : Desc) (v : Val) (s : St) : (allocSt d v s).val s.heap.length = v := by
  simp [allocSt, St.val]

theorem desc_allocSt_new (d : Desc) (v : Val) (s : St) :
    (allocSt d v s).desc s.heap.length = { d with ccontig := true } := by
  simp [allocSt, St.desc]

/-- every buffer of `s` is a buffer of `s'`, with its descriptor and, unless it is buffer `o`, with its content -/
structure Frame (o : Nat) (s s' : St) : Prop where
  le : s.heap.length ≤ s'.heap.length
  desc : ∀ i, i < s.heap.length → s'.desc i = s.desc i
  val : ∀ i, i < s.heap.length → i ≠ o → s'.val i = s.val i

namespace Frame
variable {o b : Nat} {s s1 s2 : St}

theorem refl (o : Nat) (s : St) : Frame o s s := ⟨Nat.le_refl _, fun _ _ => rfl, fun _ _ _ => rfl⟩

/-- the second run may except a buffer of its own, provided it is `o` or no buffer of `s` -/
theorem trans' (h1 : Frame o s s1) (h2 : Frame b s1 s2) (hb : b = o ∨ s.heap.length ≤ b) : Frame o s s2 :=
  ⟨Nat.le_trans h1.le h2.le,
   fun i hi => (h2.desc i (Nat.lt_of_lt_of_le hi h1.le)).trans (h1.desc i hi),
   fun i hi hio => (h2.val i (Nat.lt_of_lt_of_le hi h1.le) (by omega)).trans (h1.val i hi hio)⟩

theorem trans (h1 : Frame o s s1) (h2 : Frame o s1 s2) : Frame o s s2 := h1.trans' h2 (.inl rfl)

/-- the exception is no exception when `s` has no such buffer -/
theorem mono (h : Frame b s s1) (hb : s.heap.length ≤ b) : Frame o s s1 :=
  ⟨h.le, h.desc, fun i hi _ => h.val i hi (by omega)⟩

theorem alloc (h : Frame o s s1) (d : Desc) (v : Val) : Frame o s (allocSt d v s1) :=
  ⟨by rw [length_allocSt]; exact Nat.le_succ_of_le h.le,
   fun i hi => (desc_allocSt_old d v s1 i (Nat.lt_of_lt_of_le hi h.le)).trans (h.desc i hi),
   fun i hi hio => (val_allocSt_old d v s1 i (Nat.lt_of_lt_of_le hi h.le)).trans (h.val i hi hio)⟩

theorem write (h : Frame o s s1) (hb : b = o ∨ s.heap.length ≤ b) (v : Val) : Frame o s (write b v s1) :=
  ⟨by rw [length_write]; exact h.le,
   fun i hi => (desc_write b v s1 i).trans (h.desc i hi),
   fun i hi hio => (val_write_ne b v s1 i (by omega)).trans (h.val i hi hio)⟩

end Frame

/-- no buffer of `s` was written -/
def Ext (s s' : St) : Prop := Frame s.heap.length s s'

namespace Ext
variable {s s1 s2 : St}

theorem refl (s : St) : Ext s s := Frame.refl _ s

theorem frame (h : Ext s s1) {o : Nat} : Frame o s s1 := Frame.mono h (Nat.le_refl _)

theorem le (h : Ext s s1) : s.heap.length ≤ s1.heap.length := Frame.le h

theorem lt (h : Ext s s1) {i : Nat} (hi : i < s.heap.length) : i < s1.heap.length := Nat.lt_of_lt_of_le hi h.le

theorem desc (h : Ext s s1) {i : Nat} (hi : i < s.heap.length) : s1.desc i = s.desc i := Frame.desc h i hi

theorem val (h : Ext s s1) {i : Nat} (hi : i < s.heap.length) : s1.val i = s.val i :=
  Frame.val h i hi (Nat.ne_of_lt hi)

theorem trans (h1 : Ext s s1) (h2 : Ext s1 s2) : Ext s s2 := Frame.trans h1 h2.frame

theorem alloc (d : Desc) (v : Val) (s : St) : Ext s (allocSt d v s) := (Frame.refl _ s).alloc d v

end Ext

/-- the run `r` from heap `s` returned buffer `o` (a buffer of the final heap), which now has descriptor `d` and holds `v`,
and wrote no other buffer of `s` -/
def Returns (r : R Nat) (s : St) (o : Nat) (d : Desc) (v : Val) : Prop :=
  ∃ s', r = .ok o s' ∧ o < s'.heap.length ∧ s'.desc o = d ∧ s'.val o = v ∧ Frame o s s'

theorem Returns.of_frame {r : R Nat} {s s0 : St} {o : Nat} {d : Desc} {v : Val} (f0 : Frame o s s0)
    (h : Returns r s0 o d v) : Returns r s o d v :=
  let ⟨s', e, l, hd, hv, fr⟩ := h
  ⟨s', e, l, hd, hv, f0.trans fr⟩

/-- the run `r` from heap `s` returned its buffer `o`, which now holds `v`, and wrote no other buffer of `s` -/
def Stores (r : R Nat) (s : St) (o : Nat) (v : Val) : Prop := ∃ s', r = .ok o s' ∧ s'.val o = v ∧ Frame o s s'

namespace Stores
variable {r : R Nat} {s s0 s2 : St} {o : Nat} {d : Desc} {v w : Val}

theorem returns (ho : o < s.heap.length) (h : Stores r s o v) : Returns r s o (s.desc o) v :=
  let ⟨s', e, hv, fr⟩ := h
  ⟨s', e, Nat.lt_of_lt_of_le ho fr.le, fr.desc o ho, hv, fr⟩

theorem of_returns (h : Returns r s o d v) : Stores r s o v :=
  let ⟨s', e, _, _, hv, fr⟩ := h
  ⟨s', e, hv, fr⟩

theorem of_frame (f0 : Frame o s s0) (h : Stores r s0 o v) : Stores r s o v :=
  let ⟨s', e, hv, fr⟩ := h
  ⟨s', e, hv, f0.trans fr⟩

/-- the shape every wrapper body has: temporaries are allocated and written (`Ext`), then the result is stored into `o`.
`hv` is where the value goes: what was stored, read back through the frames, is `F` of the call-time heap -/
theorem write (f : Ext s s2) (ho : o < s.heap.length) (hv : v = w) : Stores (.ok o (write o v s2)) s o w :=
  ⟨_, rfl, hv ▸ val_write_self _ _ _ (f.lt ho), f.frame.write (.inl rfl) _⟩

end Stores

/-- `b` may be the buffer a wrapper called with `out` returns: `out` itself, or one the heap `s` does not have -/
def Resolves (out : Option Nat) (s : St) (b : Nat) : Prop :=
  match out with
  | some o => b = o
  | none => s.heap.length ≤ b

theorem getOut_none (a : Nat) (dt : Option Nat) (s : St) :
    getOut a none dt s = .ok s.heap.length (allocSt (outDesc (s.desc a) dt) .undef s) := by
  cases dt <;> rfl

theorem getOut_accept {a o : Nat} {dt : Option Nat} {s : St} (h : s.desc o = outDesc (s.desc a) dt) :
    getOut a (some o) dt s = .ok o s := by
  simp only [getOut, Option.map_some, h, getOutput_outDesc]

theorem getOut_reject {a o : Nat} {dt : Option Nat} {s : St} {r : Reject}
    (h : getOutput (s.desc a) (some (s.desc o)) dt = .reject r) : getOut a (some o) dt s = .raise r s := by
  simp only [getOut, Option.map_some, h]

theorem getOut_resolves {a : Nat} {out : Option Nat} {dt : Option Nat} {s : St}
    (h : ∀ o ∈ out, o < s.heap.length ∧ s.desc o = outDesc (s.desc a) dt) :
    ∃ b s', getOut a out dt s = .ok b s' ∧ Resolves out s b ∧ b < s'.heap.length ∧
      s'.desc b = outDesc (s.desc a) dt ∧ Ext s s' := by
  cases out with
  | none =>
    exact ⟨_, _, getOut_none a dt s, Nat.le_refl _, by simp [length_allocSt], desc_allocSt_new _ _ s, Ext.alloc _ _ s⟩
  | some o =>
    obtain ⟨ho, hd⟩ := h o rfl
    exact ⟨o, s, getOut_accept hd, rfl, ho, hd, Ext.refl s⟩

theorem length_initSt (inputs : List Desc) (out : Option Desc) :
    (initSt inputs out).heap.length = inputs.length + (if out.isSome then 1 else 0) := by
  cases out <;> simp [initSt]

theorem initSt_input (inputs : List Desc) (out : Option Desc) {i : Nat} (hi : i < inputs.length) :
    (initSt inputs out).heap[i]? = some ⟨inputs[i], .inp i⟩ := by
  simp only [initSt]
  rw [List.getElem?_append_left (by simpa using hi)]
  simp [hi]

theorem initSt_out (inputs : List Desc) (o : Desc) :
    (initSt inputs (some o)).heap[inputs.length]? = some ⟨o, .old⟩ := by
  simp [initSt]

theorem val_initSt_input (inputs : List Desc) (out : Option Desc) {i : Nat} (hi : i < inputs.length) :
    (initSt inputs out).val i = .inp i := by
  simp only [St.val, initSt_input inputs out hi]

theorem desc_initSt_input (inputs : List Desc) (out : Option Desc) {i : Nat} (hi : i < inputs.length) :
    (initSt inputs out).desc i = inputs[i] := by
  simp only [St.desc, initSt_input inputs out hi]

theorem val_initSt_out (inputs : List Desc) (o : Desc) : (initSt inputs (some o)).val inputs.length = .old := by
  simp only [St.val, initSt_out]

theorem desc_initSt_out (inputs : List Desc) (o : Desc) : (initSt inputs (some o)).desc inputs.length = o := by
  simp only [St.desc, initSt_out]

/-- **`P` follows the `out=` convention on every heap** that has the buffers `a :: ops` it reads, `a` being the array its
`_get_output` call sees and `dt` that call's dtype argument. Run without `out`, or with an `out` that has the one
acceptable descriptor and satisfies `C` (what `P` needs when `out` is one of its operands), `P` returns the buffer `out`
resolves to — a new one, or `out` itself — holding `F` of the call-time heap, and writes no other buffer. Run with an `out`
(a buffer of the heap) that is none of its operands and that `_get_output` rejects, it raises for that reason having written nothing. -/
structure Convention (ops : List Nat) (a : Nat) (dt : Option Nat) (C : Nat → Prop) (F : St → Val)
    (P : Option Nat → St → R Nat) : Prop where
  returns : ∀ out s, (∀ x ∈ a :: ops, x < s.heap.length) →
    (∀ o ∈ out, o < s.heap.length ∧ s.desc o = outDesc (s.desc a) dt ∧ C o) →
    ∃ b, Resolves out s b ∧ Returns (P out s) s b (outDesc (s.desc a) dt) (F s)
  raises : ∀ o s r, o < s.heap.length → (∀ x ∈ a :: ops, x < s.heap.length ∧ x ≠ o) →
    getOutput (s.desc a) (some (s.desc o)) dt = .reject r →
    ∃ s', P (some o) s = .raise r s' ∧ Ext s s'

variable {ops : List Nat} {a : Nat} {dt : Option Nat} {C : Nat → Prop} {F : St → Val} {P : Option Nat → St → R Nat}

theorem Convention.mono {C' : Nat → Prop} (h : Convention ops a dt C F P) (hC : ∀ o, C' o → C o) :
    Convention ops a dt C' F P :=
  ⟨fun out s hops hout => h.returns out s hops fun o ho => ⟨(hout o ho).1, (hout o ho).2.1, hC o (hout o ho).2.2⟩,
    h.raises⟩

/-- a wrapper that validates `out` first and hands the buffer `o` it resolves to (with the accepted descriptor, and `C o`: a
new buffer is none of the operands) to `body`: it suffices that `body` stores `F` into `o`, and that `F` reads the
operands only -/
theorem Convention.of_getOut {body : Nat → St → R Nat} (hfresh : ∀ o, (∀ x ∈ a :: ops, x ≠ o) → C o)
    (hF : ∀ s s', (∀ x ∈ a :: ops, s'.val x = s.val x) → F s' = F s)
    (hbody : ∀ s o, (∀ x ∈ a :: ops, x < s.heap.length) → o < s.heap.length → s.desc o = outDesc (s.desc a) dt → C o →
      Stores (body o s) s o (F s)) :
    Convention ops a dt C F (fun out s => (getOut a out dt s).bind body) where
  returns out s hops hout := by
    obtain ⟨o, s1, e1, ro, l1, d1, f1⟩ := getOut_resolves fun o ho => ⟨(hout o ho).1, (hout o ho).2.1⟩
    have hCo : C o := by
      cases out with
      | none => exact hfresh o fun x hx => Nat.ne_of_lt (Nat.lt_of_lt_of_le (hops x hx) ro)
      | some o' => exact ro ▸ (hout o' rfl).2.2
    have hb := (hbody s1 o (fun x hx => f1.lt (hops x hx)) l1 (by rw [d1, f1.desc (hops a List.mem_cons_self)])
      hCo).returns l1
    rw [d1, hF s s1 fun x hx => f1.val (hops x hx)] at hb
    exact ⟨o, ro, by simpa only [e1, R.bind] using hb.of_frame f1.frame⟩
  raises o s r _ _ hr := ⟨s, by simp only [getOut_reject hr, R.bind], Ext.refl s⟩

/-- on the heap at call time (`k` inputs), with `out` a buffer of its own -/
theorem Convention.honours (h : Convention ops a dt C F P) {inputs : List Desc} {arr : Desc} {V : Val}
    (k : Nat) (hk : inputs.length = k) (hops : ∀ x ∈ a :: ops, x < k) (ha : inputs[a]? = some arr) (hC : C k)
    (hF : ∀ out, F (initSt inputs out) = V) : Honours inputs arr dt P V := by
  subst hk
  have hlt : a < inputs.length := hops a List.mem_cons_self
  have hda : ∀ out, (initSt inputs out).desc a = arr := fun out => by
    rw [desc_initSt_input inputs out hlt]
    exact Option.some.inj ((List.getElem?_eq_getElem hlt).symm.trans ha)
  -- the three clauses of `Honours` in order (no `out`; an acceptable one; a rejected one), each: the length of `initSt`,
  -- the matching field of `h`, and the inputs (and `out`) read back through the frame
  refine ⟨?_, fun o => ⟨fun hacc => ?_, fun hrej => ?_⟩⟩
  · have hl : (initSt inputs none).heap.length = inputs.length := by simp [length_initSt]
    obtain ⟨b, hb, s', e, -, -, v, fr⟩ := h.returns none (initSt inputs none) (by rw [hl]; exact hops) (by simp)
    rw [e]
    refine ⟨by simp only [R.retVal, R.ret, R.st, Option.map_some, v, hF], (intact_iff _ _).2 fun i hi => ?_⟩
    exact (fr.val i (hl ▸ hi) (Nat.ne_of_lt (Nat.lt_of_lt_of_le (hl ▸ hi) hb))).trans
      (val_initSt_input inputs none hi)
  · have hl : (initSt inputs (some o)).heap.length = inputs.length + 1 := by simp [length_initSt]
    obtain ⟨_, rfl, s', e, -, -, v, fr⟩ := h.returns (some inputs.length) (initSt inputs (some o))
      (by rw [hl]; exact fun x hx => Nat.lt_succ_of_lt (hops x hx))
      (fun _ ho => by
        cases ho
        exact ⟨by omega, by rw [desc_initSt_out, hda]; exact acceptable_iff.1 hacc, hC⟩)
    rw [e]
    refine ⟨rfl, by simp only [R.st, v, hF], (intact_iff _ _).2 fun i hi => ?_⟩
    exact (fr.val i (by omega) (by omega)).trans (val_initSt_input inputs _ hi)
  · have hl : (initSt inputs (some o)).heap.length = inputs.length + 1 := by simp [length_initSt]
    obtain ⟨r, hr⟩ := getOutput_reject_of_not arr o dt hrej
    obtain ⟨s', e, fr⟩ := h.raises inputs.length (initSt inputs (some o)) r (by omega)
      (by rw [hl]; exact fun x hx => ⟨Nat.lt_succ_of_lt (hops x hx), Nat.ne_of_lt (hops x hx)⟩)
      (by rw [hda, desc_initSt_out, hr])
    rw [e]
    refine ⟨by simp only [R.exc, Option.map_some, hr], ?_, (intact_iff _ _).2 fun i hi => ?_⟩
    · exact (fr.val (by omega)).trans (val_initSt_out inputs o)
    · exact (fr.val (by omega)).trans (val_initSt_input inputs _ hi)

/-- on the heap at call time (`k` inputs), with input buffer `i` itself as `out` -/
theorem Convention.aliasSafe (h : Convention ops a dt C F P) {inputs : List Desc} {i : Nat} {V : Val}
    (k : Nat) (hk : inputs.length = k) (hops : ∀ x ∈ a :: ops, x < k) (hi : i < k)
    (hd : (initSt inputs none).desc i = outDesc ((initSt inputs none).desc a) dt) (hC : C i)
    (hF : F (initSt inputs none) = V) : AliasSafe inputs i P V := by
  subst hk
  have hl : (initSt inputs none).heap.length = inputs.length := by simp [length_initSt]
  obtain ⟨b0, -, s0, e0, -, -, v0, -⟩ := h.returns none (initSt inputs none) (by rw [hl]; exact hops) (by simp)
  obtain ⟨_, rfl, s', e, -, -, v, fr⟩ := h.returns (some i) (initSt inputs none) (by rw [hl]; exact hops)
    (fun _ ho => by cases ho; exact ⟨hl ▸ hi, hd, hC⟩)
  rw [AliasSafe, e0, e]
  refine ⟨by simp only [R.retVal, R.ret, R.st, Option.map_some, v0, hF], rfl, by simp only [R.st, v, hF],
    (intactBut_iff _ _ _).2 fun j hj hji => ?_⟩
  exact (fr.val j (hl ▸ hj) hji).trans (val_initSt_input inputs none hj)

end Mahotas.C09
