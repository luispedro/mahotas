/-
C20 — `xyz2rgb ∘ rgb2xyz` over the reals.

The generic definitions `linearToSrgbG` / `xyz2rgbG` of `Model/C20.lean` (run by the driver at `Float` with
`Float.pow` and the extracted `…F` constants) are instantiated at `ℝ` with `Real.rpow` and the exact
rationals `…Q` of the same extracted literals (`encR`, `xyz2rgbR`). The encoder inverts the decoder outside a gap between
the two knees that holds no integer; the two 4-digit matrices invert each other up to a defect `D`; so an encoder that is
Lipschitz around `T(c)` (`T = srgbR`, the decoder) returns `c` up to its constant times `D s` (`roundTrip_linear`, `enc_near_of_lip`), and the model's own
encoder has slope at most `3294.6` and a step of `10⁻⁵` at its knee (`encR_near_all`).
-/
import Mahotas.Proofs.C20Real
namespace Mahotas.C20
open Mahotas Mahotas.Generated

noncomputable section

/-- the model's sRGB encoding (`linearToSrgbG`, selection and constants as extracted) at `ℝ` -/
def encR (v : ℝ) : ℝ :=
  linearToSrgbG Real.rpow (srgbOneInvQ : ℝ) (srgbGammaInvQ : ℝ) (srgbAInvQ : ℝ) (srgbSlopeInvQ : ℝ) (srgbKneeInvQ : ℝ)
    (srgbScaleInvQ : ℝ) invLowWhenBelow v

/-- the model's `xyz2rgb` (`xyz2rgbG`: the extracted matrix, then the encoding on each channel) at `ℝ` -/
def xyz2rgbR (xyz : List ℝ) : List ℝ := xyz2rgbG (castM xyz2rgbMQ) encR xyz

theorem encR_eq (v : ℝ) :
    encR v = (if v ≤ 7827 / 2500000 then 323 / 25 * v else (1 + 11 / 200) * v ^ ((5 : ℝ) / 12) - 11 / 200) * 255 := by
  simp only [encR, linearToSrgbG, invLowWhenBelow, srgbAInvQ, srgbSlopeInvQ, srgbKneeInvQ, srgbOneInvQ, srgbGammaInvQ,
    srgbScaleInvQ, if_true]
  push_cast
  simp only [Real.rpow_eq_pow]
  rw [show (1 : ℝ) / 1 / (12 / 5) = 5 / 12 by norm_num, show (1 : ℝ) / 1 = 1 by norm_num,
    show (255 : ℝ) / 1 = 255 by norm_num]

theorem encR_low {v : ℝ} (h : v ≤ 7827 / 2500000) : encR v = 16473 / 5 * v := by
  rw [encR_eq, if_pos h]; ring

/-- the power branch of the encoder, as a function on all of `ℝ`: `encHigh_knee` evaluates it at the knee itself, where
    `encR` takes the linear branch -/
def encHigh (x : ℝ) : ℝ := ((1 + 11 / 200) * x ^ ((5 : ℝ) / 12) - 11 / 200) * 255

theorem encR_high {v : ℝ} (h : 7827 / 2500000 < v) : encR v = encHigh v := by
  rw [encR_eq, if_neg (not_le.2 h), encHigh]

/-! ## the encoder inverts the decoder (outside the gap between the two knees) -/

theorem rpow_rpow_inv_gamma {y : ℝ} (hy : 0 ≤ y) : (y ^ ((12 : ℝ) / 5)) ^ ((5 : ℝ) / 12) = y := by
  rw [← Real.rpow_mul hy, show ((12 : ℝ) / 5) * (5 / 12) = 1 by norm_num, Real.rpow_one]

/-- decoder and encoder both on their linear segments: `c/255 ≤ 12.92 · 0.0031308` -/
theorem encR_srgbR_low {c : ℝ} (h : c / 255 ≤ 323 / 25 * (7827 / 2500000)) : encR (srgbR c) = c := by
  have h1 : c / 255 ≤ 809 / 20000 := by linarith
  rw [srgbR_eq, if_pos h1]
  have h2 : c / 255 / (323 / 25) ≤ 7827 / 2500000 := by
    rw [div_le_iff₀ (by norm_num)]; linarith
  rw [encR_low h2]
  field_simp
  ring

theorem srgbR_above_knee {c : ℝ} (h : 809 / 20000 < c / 255) : 7827 / 2500000 < srgbR c := by
  rw [srgbR_eq, if_neg (not_le.2 h)]
  exact (lt_of_lt_of_le (by norm_num) srgbR_knee).trans (srgb_pow_strict (by norm_num) h)

theorem encHigh_srgbR {c : ℝ} (h : 809 / 20000 < c / 255) : encHigh (srgbR c) = c := by
  rw [encHigh, srgbR_eq, if_neg (not_le.2 h)]
  have hy : 0 ≤ (c / 255 + 11 / 200) / (1 + 11 / 200 : ℝ) := div_nonneg (by linarith only [h]) (by norm_num)
  rw [rpow_rpow_inv_gamma hy]
  ring

/-- decoder and encoder both on their power segments: `c/255 > 0.04045` -/
theorem encR_srgbR_high {c : ℝ} (h : 809 / 20000 < c / 255) : encR (srgbR c) = c := by
  rw [encR_high (srgbR_above_knee h), encHigh_srgbR h]

/-- the gap between the knees, `12.92·0.0031308 < c/255 ≤ 0.04045` (`10.31473 < c ≤ 10.31475`), contains no
    integer: on the whole lattice of integer channel values the encoder inverts the decoder exactly -/
theorem encR_srgbR_nat (k : Nat) : encR (srgbR (k : ℝ)) = (k : ℝ) := by
  by_cases hk : k ≤ 10
  · apply encR_srgbR_low
    have : (k : ℝ) ≤ 10 := by exact_mod_cast hk
    rw [div_le_iff₀ (by norm_num)]
    linarith
  · apply encR_srgbR_high
    have : (11 : ℝ) ≤ (k : ℝ) := by exact_mod_cast (by omega : 11 ≤ k)
    rw [lt_div_iff₀ (by norm_num)]
    linarith

/-- the power branch above the encoder's knee: increasing, with slope at most `12.92·255` — the slope of `t^(5/12)` at
    the knee is at most `12.92/1.055`, i.e. `0.0031308^(5/12) ≤ (31008/1055)·0.0031308`, a rational inequality between
    the 5th and the 12th powers -/
theorem encHigh_lip {x y : ℝ} (hx : 7827 / 2500000 ≤ x) (hxy : x ≤ y) :
    encHigh x ≤ encHigh y ∧ encHigh y - encHigh x ≤ 16473 / 5 * (y - x) := by
  have hk : (7827 / 2500000 : ℝ) ^ ((5 : ℝ) / 12) ≤ 31008 / 1055 * (7827 / 2500000) :=
    rpow_le_of_pow_le 5 12 (by norm_num) (by norm_num) (by norm_num) (by norm_num)
  have a := Real.rpow_le_rpow (le_trans (by norm_num) hx) hxy (by norm_num : (0 : ℝ) ≤ 5 / 12)
  have b := rpow_lip_above (p := 5 / 12) (C := 2584 / 211) (by norm_num) (by norm_num) (by norm_num)
    (by linarith only [hk]) hx hxy
  unfold encHigh
  exact ⟨by linarith only [a], by linarith only [b]⟩

/-- the encoder on its power branch is Lipschitz with the slope `12.92·255 = 3294.6` of the linear branch -/
theorem encR_high_lip {x y : ℝ} (hx : 7827 / 2500000 < x) (hy : 7827 / 2500000 < y) :
    |encR x - encR y| ≤ 16473 / 5 * |x - y| := by
  rw [encR_high hx, encR_high hy]
  wlog h : x ≤ y generalizing x y
  · rw [abs_sub_comm, abs_sub_comm x]
    exact this hy hx (le_of_not_ge h)
  obtain ⟨a, b⟩ := encHigh_lip hx.le h
  rw [abs_of_nonpos (by linarith only [a]), abs_of_nonpos (by linarith only [h])]
  linarith only [b]

theorem encR_low_lip {x y : ℝ} (hx : x ≤ 7827 / 2500000) (hy : y ≤ 7827 / 2500000) :
    |encR x - encR y| = 16473 / 5 * |x - y| := by
  rw [encR_low hx, encR_low hy, ← mul_sub, abs_mul, abs_of_nonneg (by norm_num : (0 : ℝ) ≤ 16473 / 5)]

/-- at the encoder's knee `0.0031308` the power branch lies **below** the linear branch (the encoder steps
    down there), by less than `1.02·10⁻⁵` 8-bit units (`≈ 7.3·10⁻⁶`): two rational inequalities between
    12th and 5th powers -/
theorem encHigh_knee :
    16473 / 5 * (7827 / 2500000 : ℝ) - 102 / 10000000 ≤ encHigh (7827 / 2500000) ∧
      encHigh (7827 / 2500000) ≤ 16473 / 5 * (7827 / 2500000 : ℝ) := by
  -- `5965621/65937500 = (12.92·0.0031308 + 0.055)/1.055` is the `u` at which `255·(1.055·u − 0.055)` meets the linear
  -- branch at the knee; `11931237/131875000` is that `u` minus `1.02·10⁻⁵/(255·1.055)`
  have hU : (7827 / 2500000 : ℝ) ^ ((5 : ℝ) / 12) ≤ 5965621 / 65937500 :=
    rpow_le_of_pow_le 5 12 (by norm_num) (by norm_num) (by norm_num) (by norm_num)
  have hL : (11931237 / 131875000 : ℝ) ≤ (7827 / 2500000 : ℝ) ^ ((5 : ℝ) / 12) :=
    le_rpow_of_pow_le 5 12 (by norm_num) (by norm_num) (by norm_num) (by norm_num)
  unfold encHigh
  exact ⟨by linarith only [hL], by linarith only [hU]⟩

theorem encHigh_bounds {x : ℝ} (hx : 7827 / 2500000 ≤ x) :
    16473 / 5 * (7827 / 2500000 : ℝ) - 102 / 10000000 ≤ encHigh x ∧ encHigh x ≤ 16473 / 5 * x := by
  obtain ⟨k1, k2⟩ := encHigh_knee
  obtain ⟨m1, m2⟩ := encHigh_lip le_rfl hx
  exact ⟨by linarith only [k1, m1], by linarith only [k2, m2]⟩

/-! ## the matrix part: `M⁻¹ M = I + D` with the extracted 4-digit matrices -/

theorem castM_xyz2rgbMQ : castM xyz2rgbMQ =
    [[16203 / 5000, -3843 / 2500, -2493 / 5000], [-9689 / 10000, 9379 / 5000, 83 / 2000],
     [557 / 10000, -51 / 250, 1057 / 1000]] := by
  simp [castM, xyz2rgbMQ]

theorem matRoundTrip_eq (s1 s2 s3 : ℝ) :
    matVec (castM xyz2rgbMQ) (matVec (castM rgb2xyzMQ) [s1, s2, s3]) =
      [s1 + (-(413 / 50000000) * s1 + 579 / 25000000 * s3),
       s2 + (2167 / 100000000 * s1 + 63 / 1562500 * s2 + -(397 / 50000000) * s3),
       s3 + (19 / 50000000 * s1 + 149 / 12500000 * s2 + 71 / 20000000 * s3)] := by
  rw [castM_rgb2xyzMQ, castM_xyz2rgbMQ, matVec_three, matVec_three]
  simp only [List.cons.injEq, and_true]
  refine ⟨?_, ?_, ?_⟩ <;> ring

theorem roundTrip_unfold (enc : ℝ → ℝ) (r g b : ℝ) :
    xyz2rgbG (castM xyz2rgbMQ) enc (rgb2xyzR [r, g, b]) =
      (matVec (castM xyz2rgbMQ) (matVec (castM rgb2xyzMQ) [srgbR r, srgbR g, srgbR b])).map enc := rfl

/-- the round trip of a pixel in `[0,255]³` with any encoder: the encoder is applied to linear values `t` that differ
    from the decoded channels by `D s`, `D = M⁻¹M − I`. The sign structure of `D`: over the box `[0,1]³` the deviation
    `Σ_j D_ij s_j` lies between the sum of the negative and the sum of the positive entries of row `i`; the larger of
    the two magnitudes is `579/25000000` (R), `6199/100000000` (G), `317/20000000` (B) — below the absolute row sums
    `1571/50000000`, `6993/100000000` (the entries of `inverseDefect`, `Properties/C20.lean`) for R and G -/
theorem roundTrip_linear (enc : ℝ → ℝ) {r g b : ℝ} (hr : 0 ≤ r ∧ r ≤ 255) (hg : 0 ≤ g ∧ g ≤ 255)
    (hb : 0 ≤ b ∧ b ≤ 255) :
    ∃ t1 t2 t3 : ℝ, xyz2rgbG (castM xyz2rgbMQ) enc (rgb2xyzR [r, g, b]) = [enc t1, enc t2, enc t3] ∧
      (-(413 / 50000000) ≤ t1 - srgbR r ∧ t1 - srgbR r ≤ 579 / 25000000) ∧
      (-(397 / 50000000) ≤ t2 - srgbR g ∧ t2 - srgbR g ≤ 6199 / 100000000) ∧
      (0 ≤ t3 - srgbR b ∧ t3 - srgbR b ≤ 317 / 20000000) := by
  obtain ⟨r0, r1⟩ := srgbR_unit hr.1 hr.2
  obtain ⟨g0, g1⟩ := srgbR_unit hg.1 hg.2
  obtain ⟨b0, b1⟩ := srgbR_unit hb.1 hb.2
  exact ⟨_, _, _, by rw [roundTrip_unfold, matRoundTrip_eq]; rfl,
    ⟨by linarith only [r1, b0], by linarith only [r0, b1]⟩,
    ⟨by linarith only [r0, g0, b1], by linarith only [r1, g1, b0]⟩,
    ⟨by linarith only [r0, g0, b0], by linarith only [r1, g1, b1]⟩⟩

/-- one channel: an encoder that is `L`-Lipschitz on `[lo, hi]` and inverts the decoder at `c`, where `T(c)` lies at
    least `7·10⁻⁵` inside the interval, maps a linear value within `d ≤ 7·10⁻⁵` of `T(c)` to within `L·d` of `c` -/
theorem enc_near_of_lip {enc : ℝ → ℝ} {L lo hi : ℝ}
    (hlip : ∀ x y : ℝ, lo ≤ x → x ≤ hi → lo ≤ y → y ≤ hi → |enc x - enc y| ≤ L * |x - y|) {c t d : ℝ}
    (ic : enc (srgbR c) = c ∧ lo + 7 / 100000 ≤ srgbR c ∧ srgbR c + 7 / 100000 ≤ hi)
    (hd : d ≤ 7 / 100000) (ht : |t - srgbR c| ≤ d) : |enc t - c| ≤ L * d := by
  obtain ⟨e, sa, sb⟩ := ic
  have hlt : lo < hi := by linarith only [sa, sb]
  have hL : 0 ≤ L := nonneg_of_mul_nonneg_left
    ((abs_nonneg _).trans (hlip lo hi le_rfl hlt.le hlt.le le_rfl)) (abs_pos.2 (sub_ne_zero.2 hlt.ne))
  obtain ⟨ta, tb⟩ := abs_le.1 ht
  have h := hlip t (srgbR c) (by linarith only [sa, ta, hd]) (by linarith only [sb, tb, hd])
    (by linarith only [sa]) (by linarith only [sb])
  rw [e] at h
  exact h.trans (mul_le_mul_of_nonneg_left ht hL)

/-- one channel, **every** real `c`: a linear value within `d` of `T(c)` (`10⁻⁸ ≤ d`) is encoded within
    `3294.6·d` of `c`. Same branch on both sides: the slope; different branches (only possible for `c` near
    `10.3147`): the power branch lies at most `1.02·10⁻⁵` below the linear one at the knee and the gap
    between the two knees is `255·(0.04045 − 12.92·0.0031308) = 1.632·10⁻⁵`, both far below `3294.6·d`. -/
theorem encR_near_all {c t d : ℝ} (hd0 : 1 / 100000000 ≤ d) (ht : |t - srgbR c| ≤ d) :
    |encR t - c| ≤ 16473 / 5 * d := by
  obtain ⟨ta, tb⟩ := abs_le.1 ht
  by_cases hk : c / 255 ≤ 809 / 20000
  · -- the decoder is linear at `c`, and `c` lies at most `1.632·10⁻⁵` above the image of the encoder's knee
    have ec : c = 16473 / 5 * srgbR c := by rw [srgbR_eq, if_pos hk]; ring
    by_cases htk : t ≤ 7827 / 2500000
    · rw [encR_low htk, abs_le]
      exact ⟨by linarith only [ec, ta], by linarith only [ec, tb]⟩
    · obtain ⟨m1, m2⟩ := encHigh_bounds (le_of_not_ge htk)
      rw [encR_high (not_le.1 htk), abs_le]
      exact ⟨by linarith only [m1, hk, hd0], by linarith only [m2, ec, tb]⟩
  · have hk' : 809 / 20000 < c / 255 := not_le.1 hk
    have hs : 7827 / 2500000 < srgbR c := srgbR_above_knee hk'
    by_cases htk : t ≤ 7827 / 2500000
    · obtain ⟨m1, m2⟩ := encHigh_bounds hs.le
      have ec := encHigh_srgbR hk'
      rw [encR_low htk, abs_le]
      exact ⟨by linarith only [m2, ec, ta], by linarith only [m1, ec, htk, hd0]⟩
    · have h := encR_high_lip (not_le.1 htk) hs
      rw [encR_srgbR_high hk'] at h
      exact h.trans (mul_le_mul_of_nonneg_left ht (by norm_num))

theorem roundTrip_encR_sharp {r g b : ℝ} (hr : 0 ≤ r ∧ r ≤ 255) (hg : 0 ≤ g ∧ g ≤ 255) (hb : 0 ≤ b ∧ b ≤ 255) :
    ∃ r' g' b' : ℝ, xyz2rgbR (rgb2xyzR [r, g, b]) = [r', g', b'] ∧
      |r' - r| ≤ 16473 / 5 * (579 / 25000000) ∧ |g' - g| ≤ 16473 / 5 * (6199 / 100000000) ∧
      |b' - b| ≤ 16473 / 5 * (317 / 20000000) := by
  obtain ⟨t1, t2, t3, e, b1, b2, b3⟩ := roundTrip_linear encR hr hg hb
  refine ⟨encR t1, encR t2, encR t3, e, ?_, ?_, ?_⟩
  · exact encR_near_all (by norm_num) (abs_le.2 ⟨le_trans (by norm_num) b1.1, b1.2⟩)
  · exact encR_near_all (by norm_num) (abs_le.2 ⟨le_trans (by norm_num) b2.1, b2.2⟩)
  · exact encR_near_all (by norm_num) (abs_le.2 ⟨le_trans (by norm_num) b3.1, b3.2⟩)

/-- the R bound is attained: the pixel `(0, 255, 255)` comes back with `R = 3294.6 · 579/25000000 = 0.0763…` -/
theorem roundTrip_cyan_red : ∃ g' b' : ℝ,
    xyz2rgbR (rgb2xyzR [0, 255, 255]) = [16473 / 5 * (579 / 25000000), g', b'] := by
  rw [xyz2rgbR, roundTrip_unfold, srgbR_zero, srgbR_255, matRoundTrip_eq]
  refine ⟨encR (1 + (2167 / 100000000 * 0 + 63 / 1562500 * 1 + -(397 / 50000000) * 1)),
    encR (1 + (19 / 50000000 * 0 + 149 / 12500000 * 1 + 71 / 20000000 * 1)), ?_⟩
  simp only [List.map_cons, List.map_nil]
  congr 1
  rw [encR_low (by norm_num)]
  norm_num

end

end Mahotas.C20
