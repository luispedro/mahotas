/-
The two universal properties every C02 law rests on: (E) `v ≤ ε g p ↔ …` for the gather erosion of the C01 model
(a running minimum) and (D) `δ f q ≤ w ↔ …` for its scatter dilation (a cell holds the maximum of what was stored
to it, `Proofs/C01Scatter.lean`); from them the adjunction `δ F ≤ G ↔ F ≤ ε G` for any scalar pair that is adjoint
on the values that meet (`adjunction_core`).
-/
import Mahotas.Model.C02
import Mahotas.Proofs.C01Scatter
namespace Mahotas.C02
open Mahotas Mahotas.C01

theorem le_foldl_min {β : Type} (l : List β) (φ : β → Int) (init v : Int) :
    v ≤ l.foldl (fun acc x => min acc (φ x)) init ↔ v ≤ init ∧ ∀ x ∈ l, v ≤ φ x := by
  induction l generalizing init with
  | nil => simp
  | cons a t ih => rw [List.foldl_cons, ih, List.forall_mem_cons, Int.le_min, and_assoc]

/-- (E), at a position -/
theorem le_erodeAt_iff (dt : DT) (A : Img Int) (sup : List (List Int × Int)) (p : List Int) (v : Int) :
    v ≤ erodeAt dt A sup p ↔
      v ≤ dt.hi ∧ ∀ kh ∈ sup, v ≤ erodeSub dt (readNearest A (addPos p kh.1)) kh.2 := by
  unfold erodeAt
  exact le_foldl_min sup _ dt.hi v

theorem getD_default {a : Array Int} {j : Nat} (d d' : Int) (hj : j < a.size) : a.getD j d = a.getD j d' := by
  simp [Array.getD_eq_getD_getElem?, Array.getElem?_eq_getElem hj]

theorem getD_map_range_toArray (f : Nat → Int) (n j : Nat) (hj : j < n) : ((List.range n).map f).toArray.getD j 0 = f j := by
  simp [Array.getD_eq_getD_getElem?, List.getElem?_map, List.getElem?_range hj]

/-- (D), at a flat index: the order form of `C01.dilateModel_getD` -/
theorem dilateModel_le_iff (dt : DT) (A : Img Int) (sup : List (List Int × Int)) (j : Nat) (hj : j < A.size)
    (w : Int) :
    (dilateModel dt A sup).getD j dt.lo ≤ w ↔
      dt.lo ≤ w ∧
      ∀ p ∈ allPos A.shape, A.getD p dt.lo ≠ dt.lo → ∀ kh ∈ sup,
        ravelI A.shape (clampPos A.shape (addPos p kh.1)) = j → dilateAdd dt (A.getD p dt.lo) kh.2 ≤ w := by
  rw [dilateModel_getD dt A sup j hj, listMax_le_iff]
  refine and_congr_right fun _ => ⟨fun h p hp hv kh hkh ht => ?_, fun h x hx => ?_⟩
  · exact h _ ((mem_scatCands dt A sup j _).mpr ⟨p, (C01.mem_allPos _ p).mp hp, hv, kh, hkh, ht, rfl⟩)
  · obtain ⟨p, hp, hv, kh, hkh, ht, rfl⟩ := (mem_scatCands dt A sup j x).mp hx
    exact h p ((C01.mem_allPos _ p).mpr hp) hv kh hkh ht

/-- flat index of the pixel that `p` reaches through the element offset `k` (clamped) -/
def target (shape : List Nat) (p k : List Int) : Nat := ravelI shape (clampPos shape (addPos p k))

theorem target_lt (shape : List Nat) (p k : List Int) (hp : inside shape p = true)
    (hk : k.length = shape.length) : target shape p k < shapeSize shape :=
  C01.ravelI_lt _ _ (clampPos_addPos_inside shape p k hp hk)

theorem readNearest_target (G : Img Int) (p k : List Int) (hp : inside G.shape p = true)
    (hk : k.length = G.shape.length) : readNearest G (addPos p k) = G.data.getD (target G.shape p k) 0 := by
  rw [readNearest_eq G _ (inside_dims_pos _ p hp), Img.getD_inside _ _ _ (clampPos_addPos_inside G.shape p k hp hk)]
  rfl

/-- **adjunction, generic form**: whenever the scalar operations `dilate_add(·,h)` / `erode_sub(·,h)`
    are adjoint on the pairs of values that actually meet, the model dilation and the model erosion
    are adjoint: `δ F ≤ G` pointwise iff `F ≤ ε G` pointwise. -/
theorem adjunction_core (dt : DT) (F G : Img Int) (sup : List (List Int × Int))
    (hshape : G.shape = F.shape) (hs : ∀ d ∈ F.shape, 0 < d)
    (hlen : ∀ kh ∈ sup, kh.1.length = F.shape.length)
    (hFhi : ∀ p ∈ allPos F.shape, F.getD p dt.lo ≤ dt.hi)
    (hGlo : ∀ j, j < shapeSize F.shape → dt.lo ≤ G.data.getD j 0)
    (hsc : ∀ p ∈ allPos F.shape, ∀ kh ∈ sup,
      (F.getD p dt.lo = dt.lo → dt.lo ≤ erodeSub dt (G.data.getD (target F.shape p kh.1) 0) kh.2) ∧
      (F.getD p dt.lo ≠ dt.lo →
        (dilateAdd dt (F.getD p dt.lo) kh.2 ≤ G.data.getD (target F.shape p kh.1) 0 ↔
         F.getD p dt.lo ≤ erodeSub dt (G.data.getD (target F.shape p kh.1) 0) kh.2))) :
    (∀ j, j < shapeSize F.shape → (dilateModel dt F sup).getD j dt.lo ≤ G.data.getD j 0) ↔
    (∀ p ∈ allPos F.shape, F.getD p dt.lo ≤ erodeAt dt G sup p) := by
  have hin : ∀ p ∈ allPos F.shape, inside G.shape p = true := fun p hp => by
    rw [hshape]; exact (C01.mem_allPos _ p).mp hp
  constructor
  · intro h p hp
    rw [le_erodeAt_iff]
    refine ⟨hFhi p hp, fun kh hkh => ?_⟩
    rw [readNearest_target G p kh.1 (hin p hp) (by rw [hshape]; exact hlen kh hkh), hshape]
    have hj := target_lt F.shape p kh.1 ((C01.mem_allPos _ p).mp hp) (hlen kh hkh)
    have hD := (dilateModel_le_iff dt F sup _ hj _).mp (h _ hj)
    by_cases hv : F.getD p dt.lo = dt.lo
    · rw [hv]; exact (hsc p hp kh hkh).1 hv
    · exact ((hsc p hp kh hkh).2 hv).mp (hD.2 p hp hv kh hkh rfl)
  · intro h j hj
    rw [dilateModel_le_iff dt F sup j hj]
    refine ⟨hGlo j hj, fun p hp hv kh hkh hidx => ?_⟩
    have hE := ((le_erodeAt_iff dt G sup p _).mp (h p hp)).2 kh hkh
    rw [readNearest_target G p kh.1 (hin p hp) (by rw [hshape]; exact hlen kh hkh), hshape] at hE
    have := ((hsc p hp kh hkh).2 hv).mpr hE
    have ht : target F.shape p kh.1 = j := hidx
    rw [ht] at this
    exact this

end Mahotas.C02
