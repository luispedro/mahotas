/-
C17 — what every proof about the row kernels of `Model/C17Core.lean` (`haarRow`, `ihaarRow`, `waveletRow`, `iwaveletRow`) uses:
each kernel reads its row only inside `[0, N)` (any scalar type, no algebra), each is linear in the row over a field
(`RowLinear`; the 2-D passes, zero rows and scalings follow from linearity alone), and the two-tap analysis kernel with
coefficients `(1, 1)` is the Haar kernel.
-/
import Mahotas.Model.C17Core
import Mathlib.Tactic.Ring
import Mathlib.Tactic.FieldSimp
import Mathlib.Tactic.Linarith
namespace Mahotas.C17
open Mahotas

section Local
variable {α : Type}

theorem haarRow_local [Add α] [Sub α] [NatCast α] (N : Nat) (f g : Nat → α) (h : ∀ p, p < N → f p = g p) (x : Nat) :
    haarRow N f x = haarRow N g x := by
  unfold haarRow
  by_cases h1 : x < N / 2
  · simp only [h1, if_true]
    rw [h (2 * x) (by omega), h (2 * x + 1) (by omega)]
  · simp only [h1, if_false]
    by_cases h2 : x < 2 * (N / 2)
    · simp only [h2, if_true]
      rw [h (2 * (x - N / 2) + 1) (by omega), h (2 * (x - N / 2)) (by omega)]
    · simp only [h2, if_false]

theorem ihaarRow_local [Add α] [Sub α] [Div α] [NatCast α] (N : Nat) (g g' : Nat → α) (h : ∀ p, p < N → g p = g' p) (k : Nat) :
    ihaarRow N g k = ihaarRow N g' k := by
  unfold ihaarRow
  by_cases h1 : k < 2 * (N / 2)
  · simp only [h1, if_true]
    rw [h (k / 2) (by omega), h (N / 2 + k / 2) (by omega)]
  · simp only [h1, if_false]

theorem access_local [NatCast α] (N : Nat) (f g : Nat → α) (h : ∀ p, p < N → f p = g p) (p : Int) :
    access N f p = access N g p := by
  unfold access
  by_cases hp : 0 ≤ p ∧ p < (N : Int)
  · simp only [hp, and_self, if_true]
    exact h _ (by omega)
  · simp only [hp, if_false]

theorem waveletRow_local [Add α] [Mul α] [Neg α] [NatCast α] (cs : List α) (N : Nat) (f g : Nat → α) (h : ∀ p, p < N → f p = g p) (x : Nat) :
    waveletRow cs N f x = waveletRow cs N g x := by
  unfold waveletRow
  simp only [access_local N f g h]

theorem iwaveletRow_local [Add α] [Mul α] [Div α] [Neg α] [NatCast α] (cs : List α) (N : Nat) (f g : Nat → α) (h : ∀ p, p < N → f p = g p) (x : Nat) :
    iwaveletRow cs N f x = iwaveletRow cs N g x := by
  unfold iwaveletRow
  have e1 : ∀ p, access (N / 2) f p = access (N / 2) g p :=
    access_local (N / 2) f g (fun p hp => h p (by omega))
  have e2 : ∀ p, access (N / 2) (fun k => f (N / 2 + k)) p = access (N / 2) (fun k => g (N / 2 + k)) p :=
    access_local (N / 2) _ _ (fun p hp => h _ (by omega))
  simp only [e1, e2]

end Local

variable {K : Type} [Field K]

@[simp] theorem zero_eq : (zero : K) = 0 := by simp [zero]
@[simp] theorem two_eq : (two : K) = 2 := by simp [two]

theorem access_congr (N : Nat) (f f' : Nat → K) (h : ∀ p, p < N → f p = f' p) : access N f = access N f' :=
  funext (access_local N f f' h)

theorem waveletRow_congr (cs : List K) (N : Nat) (f f' : Nat → K) (h : ∀ p, p < N → f p = f' p) :
    waveletRow cs N f = waveletRow cs N f' :=
  funext (waveletRow_local cs N f f' h)

theorem haarRow_low (N : Nat) (f : Nat → K) (x : Nat) (hx : x < N / 2) :
    haarRow N f x = f (2 * x) + f (2 * x + 1) := by
  simp [haarRow, hx]

theorem haarRow_high (N : Nat) (f : Nat → K) (x : Nat) (hx : x < N / 2) :
    haarRow N f (N / 2 + x) = f (2 * x + 1) - f (2 * x) := by
  have h1 : ¬ (N / 2 + x < N / 2) := by omega
  have h2 : N / 2 + x < 2 * (N / 2) := by omega
  have h3 : N / 2 + x - N / 2 = x := by omega
  simp [haarRow, h1, h2, h3]

def RowLinear (T : Nat → (Nat → K) → Nat → K) : Prop :=
  ∀ N a b f g x, T N (fun i => a * f i + b * g i) x = a * T N f x + b * T N g x

theorem ihaarRow_linear (N : Nat) (a b : K) (f g : Nat → K) (x : Nat) :
    ihaarRow N (fun i => a * f i + b * g i) x = a * ihaarRow N f x + b * ihaarRow N g x := by
  unfold ihaarRow
  by_cases h1 : x < 2 * (N / 2)
  · by_cases h2 : x % 2 = 0
    · simp only [h1, h2, if_true, two_eq]; ring
    · simp only [h1, h2, if_true, if_false, two_eq]; ring
  · simp only [h1, if_false, zero_eq]; ring

theorem access_linear (N : Nat) (a b : K) (f g : Nat → K) (p : Int) :
    access N (fun i => a * f i + b * g i) p = a * access N f p + b * access N g p := by
  unfold access
  by_cases h : 0 ≤ p ∧ p < (N : Int)
  · simp only [h, and_self, if_true]
  · simp only [h, if_false, zero_eq]; ring

theorem access_natCast (N : Nat) (f : Nat → K) (p : Nat) :
    access N f ((p : Nat) : Int) = if p < N then f p else 0 := by
  unfold access
  by_cases h : p < N
  · simp [h]
  · simp [h]

theorem foldl_linear (l : List Nat) (w u v : Nat → K) (a b z1 z2 : K) :
    l.foldl (fun acc i => acc + w i * (a * u i + b * v i)) (a * z1 + b * z2)
      = a * l.foldl (fun acc i => acc + w i * u i) z1 + b * l.foldl (fun acc i => acc + w i * v i) z2 := by
  induction l generalizing z1 z2 with
  | nil => simp
  | cons i l ih =>
    simp only [List.foldl_cons]
    have e : a * z1 + b * z2 + w i * (a * u i + b * v i) = a * (z1 + w i * u i) + b * (z2 + w i * v i) := by ring
    rw [e, ih]

theorem foldl_linear0 (l : List Nat) (w u v : Nat → K) (a b : K) :
    l.foldl (fun acc i => acc + w i * (a * u i + b * v i)) 0
      = a * l.foldl (fun acc i => acc + w i * u i) 0 + b * l.foldl (fun acc i => acc + w i * v i) 0 := by
  have := foldl_linear l w u v a b 0 0
  simpa using this

theorem waveletRow_linear (cs : List K) (N : Nat) (a b : K) (f g : Nat → K) (x : Nat) :
    waveletRow cs N (fun i => a * f i + b * g i) x = a * waveletRow cs N f x + b * waveletRow cs N g x := by
  unfold waveletRow
  simp only [access_linear, zero_eq]
  by_cases h1 : x < N / 2
  · simp only [h1, if_true]
    exact foldl_linear0 _ (fun ci => cs.getD (cs.length - ci - 1) 0)
      (fun ci => access N f ((2 * x + ci : Nat) : Int)) (fun ci => access N g ((2 * x + ci : Nat) : Int)) a b
  · by_cases h2 : x < 2 * (N / 2)
    · simp only [h1, h2, if_true, if_false]
      exact foldl_linear0 _ (fun ci => if ci % 2 = 0 then -(cs.getD ci 0) else cs.getD ci 0)
        (fun ci => access N f ((2 * (x - N / 2) + ci : Nat) : Int))
        (fun ci => access N g ((2 * (x - N / 2) + ci : Nat) : Int)) a b
    · simp only [h1, h2, if_false]; ring

/-- `D2 = (1, 1)`: with the two coefficients `1, 1` each fold has two terms, `1·d[2x] + 1·d[2x+1]` and
    `(−1)·d[2x] + 1·d[2x+1]`: the two-tap analysis kernel is the Haar kernel, for every length -/
theorem waveletRow_one_one : waveletRow ([1, 1] : List K) = haarRow := by
  funext N r x
  unfold waveletRow haarRow
  by_cases a : x < N / 2
  · have b1 : 2 * x + 1 < N := by omega
    have b0 := Nat.lt_of_succ_lt b1
    simp only [a, if_true]
    show zero + 1 * access N r ((2 * x : Nat) : Int) + 1 * access N r ((2 * x + 1 : Nat) : Int) = _
    rw [access_natCast, access_natCast, if_pos b0, if_pos b1, zero_eq]
    ring
  · by_cases b : x < 2 * (N / 2)
    · have b1 : 2 * (x - N / 2) + 1 < N := by omega
      have b0 := Nat.lt_of_succ_lt b1
      simp only [a, b, if_true, if_false]
      show zero + -1 * access N r ((2 * (x - N / 2) : Nat) : Int)
        + 1 * access N r ((2 * (x - N / 2) + 1 : Nat) : Int) = _
      rw [access_natCast, access_natCast, if_pos b0, if_pos b1, zero_eq]
      ring
    · simp only [a, b, if_false]

theorem haarRow_linear (N : Nat) (a b : K) (f g : Nat → K) (x : Nat) :
    haarRow N (fun i => a * f i + b * g i) x = a * haarRow N f x + b * haarRow N g x := by
  rw [← waveletRow_one_one]
  exact waveletRow_linear _ N a b f g x

theorem iwaveletRow_linear (cs : List K) (N : Nat) (a b : K) (f g : Nat → K) (x : Nat) :
    iwaveletRow cs N (fun i => a * f i + b * g i) x
      = a * iwaveletRow cs N f x + b * iwaveletRow cs N g x := by
  unfold iwaveletRow
  simp only [access_linear, zero_eq, two_eq]
  rw [foldl_linear0, foldl_linear0]
  ring

theorem rowsPass_linear (T : Nat → (Nat → K) → Nat → K) (hT : RowLinear T)
    (N1 : Nat) (a b : K) (f g : Im K) :
    rowsPass T N1 (fun y x => a * f y x + b * g y x)
      = fun y x => a * rowsPass T N1 f y x + b * rowsPass T N1 g y x := by
  funext y x
  exact hT N1 a b (f y) (g y) x

theorem colsPass_linear (T : Nat → (Nat → K) → Nat → K) (hT : RowLinear T)
    (N0 : Nat) (a b : K) (f g : Im K) :
    colsPass T N0 (fun y x => a * f y x + b * g y x)
      = fun y x => a * colsPass T N0 f y x + b * colsPass T N0 g y x := by
  funext y x
  exact hT N0 a b (fun k => f k x) (fun k => g k x) y

theorem linear_zero (T : Nat → (Nat → K) → Nat → K) (hT : RowLinear T)
    (N x : Nat) : T N (fun _ => (0 : K)) x = 0 := by
  have := hT N 0 0 (fun _ => 0) (fun _ => 0) x
  simpa using this

theorem ihaarRow_zero (N : Nat) (k : Nat) : ihaarRow N (fun _ => (0 : K)) k = 0 :=
  linear_zero ihaarRow ihaarRow_linear N k

theorem scale_of_linear (T : Nat → (Nat → K) → Nat → K) (hT : RowLinear T)
    (N : Nat) (c : K) (f : Nat → K) (x : Nat) : T N (fun i => f i / c) x = T N f x / c := by
  have e : (fun i => f i / c) = fun i => (1 / c) * f i + 0 * f i := by funext i; ring
  rw [e, hT]; ring

theorem rows_cols_comm_haar (T : Nat → (Nat → K) → Nat → K) (hT : RowLinear T)
    (N0 N1 : Nat) (g : Im K) :
    rowsPass T N1 (colsPass haarRow N0 g) = colsPass haarRow N0 (rowsPass T N1 g) := by
  funext y x
  show T N1 (fun j => haarRow N0 (fun k => g k j) y) x = haarRow N0 (fun k => T N1 (g k) x) y
  by_cases h1 : y < N0 / 2
  · have e : (fun j => haarRow N0 (fun k => g k j) y) = fun j => 1 * g (2 * y) j + 1 * g (2 * y + 1) j := by
      funext j; rw [haarRow_low _ _ _ h1]; ring
    rw [e, hT, haarRow_low _ _ _ h1]; ring
  · by_cases h2 : y < 2 * (N0 / 2)
    · have e : (fun j => haarRow N0 (fun k => g k j) y)
          = fun j => 1 * g (2 * (y - N0 / 2) + 1) j + (-1) * g (2 * (y - N0 / 2)) j := by
        funext j; simp only [haarRow, h1, h2, if_true, if_false]; ring
      rw [e, hT]; simp only [haarRow, h1, h2, if_true, if_false]; ring
    · have e : (fun j => haarRow N0 (fun k => g k j) y) = fun _ => (0 : K) := by
        funext j; simp only [haarRow, h1, h2, if_false, zero_eq]
      rw [e, linear_zero T hT]; simp only [haarRow, h1, h2, if_false, zero_eq]

/-- `Σ_{k<n} g k` by recursion on `n`, as `energy` and `inner2` of `Properties/C17.lean` are written (its examples
    evaluate them by `decide +kernel`); proofs go through the `Finset` sum (`sumTo_eq_sum`, `Proofs/C17Energy.lean`) -/
def sumTo (n : Nat) (g : Nat → K) : K :=
  match n with
  | 0 => 0
  | n + 1 => sumTo n g + g n

end Mahotas.C17
