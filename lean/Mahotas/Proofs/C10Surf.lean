/-
C10 — B9, SURF (`Model/C10Surf.lean`): every read through `sum_rect` is inside the integral image; the pyramid and its `int`s.

The two-sided clamps of `sum_rect` put all four corners inside for ALL integers, so every window-based read (`csum_rect`,
`haar_x/y`, pyramid samples, descriptor windows) is; the pyramid write needs
`border ≥ step`; the `int`s of `build_pyramid` are bounded by the border, which `check_pyramid_parameters` bounds.
-/
import Mahotas.Model.C10Surf
import Mahotas.Proofs.C10Base
import Mathlib.Tactic.Linarith
namespace Mahotas.C10Surf
open Mahotas

def SOk (a : SAcc) : Prop := 0 ≤ a.i ∧ a.i < a.size

theorem sAllOk_iff (l : List SAcc) : sAllOk l = true ↔ ∀ a ∈ l, SOk a := by
  simp [sAllOk, SAcc.ok, SOk, List.all_eq_true]

theorem at2_ok_iff (n0 n1 r c : Int) : (∀ a ∈ at2 n0 n1 r c, SOk a) ↔ (0 ≤ r ∧ r < n0) ∧ (0 ≤ c ∧ c < n1) := by
  simp only [at2, acc_forall, SOk]

theorem at3_ok {nint nr nc i r c : Int} (hi : 0 ≤ i ∧ i < nint) (hr : 0 ≤ r ∧ r < nr) (hc : 0 ≤ c ∧ c < nc) :
    ∀ a ∈ at3 nint nr nc i r c, SOk a := by
  simp only [at3, acc_forall]
  exact ⟨hi, hr, hc⟩

@[acc_forall] theorem mem_sRangeI (n x : Int) : x ∈ sRangeI n ↔ 0 ≤ x ∧ x < n := mem_natRange n x

/-- the values of `for (v = lo; v < hi; v += step)` are the `lo + step * k` in `[lo, hi)` -/
theorem mem_sRangeStep (lo hi step x : Int) :
    x ∈ sRangeStep lo hi step ↔ 0 < step ∧ lo ≤ x ∧ x < hi ∧ step ∣ x - lo := by
  unfold sRangeStep
  split
  · simp only [List.not_mem_nil, false_iff]; omega
  · rename_i hs
    have hs' : 0 < step := by omega
    -- `lo + step * k < hi ↔ k < ⌈(hi - lo) / step⌉`
    have hlt : ∀ k : Int, k < (hi - lo + step - 1) / step ↔ lo + step * k < hi := fun k => by
      rw [Int.lt_iff_add_one_le, Int.le_ediv_iff_mul_le hs', Int.add_mul, Int.mul_comm k]; omega
    simp only [List.mem_map, List.mem_range]
    constructor
    · rintro ⟨k, hk, rfl⟩
      have := (hlt k).1 (by omega)
      have := Int.mul_nonneg hs'.le (Int.natCast_nonneg k)
      exact ⟨hs', by omega, by omega, ⟨k, by omega⟩⟩
    · rintro ⟨_, h0, h1, c, hc⟩
      have hc0 : 0 ≤ c := Int.le_of_mul_le_mul_left (a := step) (by omega) hs'
      have := (hlt c).2 (by omega)
      exact ⟨c.toNat, by omega, by rw [Int.toNat_of_nonneg hc0]; omega⟩

@[acc_forall] theorem mem_sRangeStep_one (lo hi x : Int) : x ∈ sRangeStep lo hi 1 ↔ lo ≤ x ∧ x < hi := by
  simp [mem_sRangeStep]

theorem sRangeStep_range {lo hi step x : Int} (h : x ∈ sRangeStep lo hi step) : lo ≤ x ∧ x < hi :=
  ⟨((mem_sRangeStep lo hi step x).1 h).2.1, ((mem_sRangeStep lo hi step x).1 h).2.2.1⟩

/-- the four reads `at(a,b)`, `at(a,d)`, `at(c,b)`, `at(c,d)` of a window with rows `a`, `c` and columns `b`, `d` -/
theorem corners_ok_iff (n0 n1 a b c d : Int) :
    (∀ x ∈ at2 n0 n1 a b ++ at2 n0 n1 a d ++ at2 n0 n1 c b ++ at2 n0 n1 c d, SOk x) ↔
      ((0 ≤ a ∧ a < n0) ∧ (0 ≤ c ∧ c < n0)) ∧ (0 ≤ b ∧ b < n1) ∧ (0 ≤ d ∧ d < n1) := by
  simp only [List.forall_mem_append, at2_ok_iff]
  exact ⟨fun ⟨⟨⟨⟨ha, hb⟩, _, hd⟩, hc, _⟩, _⟩ => ⟨⟨ha, hc⟩, hb, hd⟩,
    fun ⟨⟨ha, hc⟩, hb, hd⟩ => ⟨⟨⟨⟨ha, hb⟩, ha, hd⟩, hc, hb⟩, hc, hd⟩⟩

theorem clamp_range (v n : Int) (hn : 0 < n) : 0 ≤ min (max v 0) (n - 1) ∧ min (max v 0) (n - 1) < n := by
  omega

/-- `sum_rect` with the two-sided clamps: all four corners are clamped into the image and an empty image is not read:
    for ALL integers the reads are inside the `n0 x n1` integral image. -/
theorem sumRect_ok (n0 n1 y0 x0 y1 x1 : Int) : ∀ a ∈ sumRectAccesses n0 n1 y0 x0 y1 x1, SOk a := by
  unfold sumRectAccesses
  split
  · simp
  · exact (corners_ok_iff ..).2 ⟨⟨clamp_range _ n0 (by omega), clamp_range _ n0 (by omega)⟩,
      clamp_range _ n1 (by omega), clamp_range _ n1 (by omega)⟩

/-- an empty image performs no access; a non-empty one exactly the four reads (8 coordinates) -/
theorem sumRect_length (n0 n1 y0 x0 y1 x1 : Int) :
    (sumRectAccesses n0 n1 y0 x0 y1 x1).length = if n0 ≤ 0 ∨ n1 ≤ 0 then 0 else 8 := by
  unfold sumRectAccesses
  split <;> rfl

/-- the `int` parameters wrap before the clamps see them: the entry point is `sum_rect` at the wrapped corners -/
theorem sumRectEntry_eq (n0 n1 y0 x0 y1 x1 : Int) : sumRectEntry n0 n1 y0 x0 y1 x1 =
    sumRectAccesses n0 n1 (wrap32 (y0 - 1) + 1) (wrap32 (x0 - 1) + 1) (wrap32 (y1 - 1) + 1) (wrap32 (x1 - 1) + 1) := by
  simp only [sumRectEntry, sumRectAccesses, Int.add_sub_cancel]

theorem sumRectEntry_ok (n0 n1 y0 x0 y1 x1 : Int) : ∀ a ∈ sumRectEntry n0 n1 y0 x0 y1 x1, SOk a :=
  sumRectEntry_eq .. ▸ sumRect_ok _ _ _ _ _ _

/-- the one-sided clamps `max(lo-1, 0)`, `min(hi-1, n-1)` of `sumRectPinnedAccesses` along one axis -/
theorem oneSidedClamp_range_iff (n lo hi : Int) :
    (0 ≤ max (lo - 1) 0 ∧ max (lo - 1) 0 < n) ∧ (0 ≤ min (hi - 1) (n - 1) ∧ min (hi - 1) (n - 1) < n) ↔
      1 ≤ n ∧ lo ≤ n ∧ 1 ≤ hi := by
  omega

/-- the clamps of `sum_rect` before 6faa5ae: exact characterisation (one-sided clamps) -/
theorem sumRectPinned_ok_iff (n0 n1 y0 x0 y1 x1 : Int) :
    (∀ a ∈ sumRectPinnedAccesses n0 n1 y0 x0 y1 x1, SOk a) ↔
      1 ≤ n0 ∧ 1 ≤ n1 ∧ y0 ≤ n0 ∧ x0 ≤ n1 ∧ 1 ≤ y1 ∧ 1 ≤ x1 := by
  unfold sumRectPinnedAccesses
  rw [corners_ok_iff, oneSidedClamp_range_iff, oneSidedClamp_range_iff]
  tauto

theorem csumRect_ok (n0 n1 y x dy dx h w : Int) : ∀ a ∈ csumRectAccesses n0 n1 y x dy dx h w, SOk a :=
  sumRect_ok _ _ _ _ _ _

/-- `haar_x` followed by `haar_y` at `(y, x, w)`: in bounds for all integers -/
theorem haar_ok (n0 n1 y x w : Int) : ∀ a ∈ haarAccesses n0 n1 y x w, SOk a := by
  simp only [haarAccesses, haarXAccesses, haarYAccesses, acc_forall]
  exact ⟨⟨sumRect_ok _ _ _ _ _ _, sumRect_ok _ _ _ _ _ _⟩, sumRect_ok _ _ _ _ _ _, sumRect_ok _ _ _ _ _ _⟩

theorem descWindow_ok (n0 n1 : Int) (pts : List (Int × Int)) (w : Int) :
    ∀ a ∈ descWindowAccesses n0 n1 pts w, SOk a := by
  simp only [descWindowAccesses, acc_forall]
  exact fun p _ => haar_ok n0 n1 p.1 p.2 w

theorem pow2_pos (k : Nat) : 1 ≤ pow2 k := Int.pow_pos (by decide)

theorem pow2_succ (k : Nat) : pow2 (k + 1) = 2 * pow2 k := by
  unfold pow2
  rw [pow_succ, Int.mul_comm]

theorem pow2_mono {a b : Nat} (h : a ≤ b) : pow2 a ≤ pow2 b := by
  induction h with
  | refl => exact le_refl _
  | step _ ih => rw [pow2_succ]; have := pow2_pos a; omega

theorem stepSize_pos (init : Int) (o : Nat) (hi : 1 ≤ init) : 1 ≤ stepSize init o :=
  one_le_mul_of_one_le_of_one_le hi (pow2_pos o)

/-- the ceiling in `get_border_size` is exact: `3*(2u+1)` is odd -/
theorem borderSize_eq (o : Nat) (nint : Int) : borderSize o nint = 3 * (pow2 o * (nint + 1)) + 2 := by
  unfold borderSize
  rw [pow2_succ, Int.mul_assoc]
  omega

theorem borderSize_ge (o : Nat) (nint : Int) (hn : 1 ≤ nint) : 8 ≤ borderSize o nint := by
  have := Int.mul_le_mul (pow2_pos o) (show 2 ≤ nint + 1 by omega) (by decide) (Int.le_trans (by decide) (pow2_pos o))
  rw [borderSize_eq]
  omega

theorem lobeSize_ge (o : Nat) (i : Int) (hi : 0 ≤ i) : 1 ≤ lobeSize o i := by
  have := Int.mul_nonneg (Int.le_trans (by decide) (pow2_pos (o + 1))) (show 0 ≤ i + 1 by omega)
  unfold lobeSize
  omega

/-- the eight windows of one sample: inside for every position and lobe size (the two-sided clamps of `sum_rect`) -/
theorem pyramidSampleReads_ok (n0 n1 y x l : Int) :
    ∀ a ∈ pyramidSampleReads n0 n1 y x l, SOk a := by
  intro a ha
  simp only [pyramidSampleReads, List.mem_append] at ha
  rcases ha with ((((((ha | ha) | ha) | ha) | ha) | ha) | ha) | ha <;> exact csumRect_ok _ _ _ _ _ _ _ _ a ha

/-- a sample `y` of the `y += step` loop lands in a row of the plane: `y < n - border` and `border ≥ step` give
    `y/step < n/step` although `n/step` rounds down -/
theorem tdiv_step_range (n y step border : Int) (hs : 1 ≤ step) (hb : step ≤ border)
    (hy : border ≤ y ∧ y < n - border) :
    0 ≤ Int.tdiv y step ∧ Int.tdiv y step < Int.tdiv n step := by
  rw [Int.tdiv_eq_ediv_of_nonneg (by omega), Int.tdiv_eq_ediv_of_nonneg (by omega)]
  have hs' : 0 < step := by omega
  constructor
  · exact Int.ediv_nonneg (by omega) (by omega)
  · have h1 : (y + step) / step = y / step + 1 := by
      rw [Int.add_ediv_of_dvd_right (dvd_refl step), Int.ediv_self (by omega)]
    have h2 : (y + step) / step ≤ n / step := Int.ediv_le_ediv hs' (by omega)
    omega

theorem pyramidOctave_ok (n0 n1 nint init : Int) (o : Nat) (hi : 1 ≤ init) :
    ∀ a ∈ pyramidOctave n0 n1 nint init o, SOk a := by
  simp only [pyramidOctave, acc_forall]
  intro i hir y hy x hx
  have hstep := stepSize_pos init o hi
  have hborder : stepSize init o ≤ borderSize o nint * stepSize init o :=
    le_mul_of_one_le_left (by omega) (by have := borderSize_ge o nint (by omega); omega)
  exact ⟨pyramidSampleReads_ok n0 n1 y x _, at3_ok hir (tdiv_step_range n0 y _ _ hstep hborder (sRangeStep_range hy))
    (tdiv_step_range n1 x _ _ hstep hborder (sRangeStep_range hx))⟩

theorem pyramidAccesses_ok (n0 n1 noct nint init : Int) (hi : 1 ≤ init) :
    ∀ a ∈ pyramidAccesses n0 n1 noct nint init, SOk a := by
  simp only [pyramidAccesses, acc_forall, List.mem_range, SOk]
  exact fun o ho => ⟨⟨by omega, by omega⟩, pyramidOctave_ok n0 n1 nint init o hi⟩

theorem pyramidDone_ok (noct init : Int) (hi : 1 ≤ init) : pyramidDone noct init = true := by
  simp only [pyramidDone, List.all_eq_true, List.mem_range, decide_eq_true_eq]
  intro o _
  exact stepSize_pos init o hi

theorem checkPyramidParameters_iff (noct nint init : Int) :
    checkPyramidParameters noct nint init = true ↔
      0 < noct ∧ noct ≤ 30 ∧ 0 < nint ∧ 0 < init ∧
        init * pow2 (noct.toNat - 1) * (3 * (pow2 noct.toNat * (nint + 1) + 1) + 2) < 2 * 2147483647 := by
  simp only [checkPyramidParameters, Bool.and_eq_true, decide_eq_true_eq, and_assoc]

/-- each `int` of `pyramidInts` is at least 1 and at most the border `get_border_size * step_size`, the largest of them -/
theorem pyramidInts_le_border (nint init : Int) (o : Nat) (i : Int) (hinit : 1 ≤ init) (hi : 0 ≤ i ∧ i < nint) :
    ∀ v ∈ pyramidInts nint init o i, 1 ≤ v ∧ v ≤ borderSize o nint * stepSize init o := by
  have hs := stepSize_pos init o hinit
  have hb := borderSize_ge o nint (by omega)
  have hl := lobeSize_ge o i hi.1
  have hlb : lobeSize o i ≤ borderSize o nint := by
    have := Int.mul_le_mul_of_nonneg_left (show i + 1 ≤ nint + 1 by omega) (Int.le_trans (by decide) (pow2_pos o))
    rw [borderSize_eq] at hb ⊢
    unfold lobeSize
    rw [pow2_succ, Int.mul_assoc]
    omega
  have hbs : borderSize o nint ≤ borderSize o nint * stepSize init o := le_mul_of_one_le_right (by omega) hs
  have hss : stepSize init o ≤ borderSize o nint * stepSize init o := le_mul_of_one_le_left (by omega) (by omega)
  intro v hv
  simp only [pyramidInts, List.mem_cons, List.not_mem_nil, or_false] at hv
  rcases hv with rfl | rfl | rfl | rfl | rfl
  · exact ⟨hs, hss⟩
  · exact ⟨by omega, hbs⟩
  · exact ⟨by omega, le_refl _⟩
  · exact ⟨hl, by omega⟩
  · rw [Int.tdiv_eq_ediv_of_nonneg (by omega)]; omega

/-- the product `check_pyramid_parameters` tests, `max_step * max_border` at the last octave, dominates the border of
    every octave `o < nr_octaves` -/
theorem border_le_intMax (noct nint init : Int) (o : Nat) (hg : checkPyramidParameters noct nint init = true)
    (ho : (o : Int) < noct) : borderSize o nint * stepSize init o ≤ 2147483647 := by
  obtain ⟨h0, _, hn, hin, hG⟩ := (checkPyramidParameters_iff noct nint init).1 hg
  obtain ⟨k, hk⟩ : ∃ k, noct.toNat = k + 1 := ⟨noct.toNat - 1, by omega⟩
  rw [hk, Nat.add_sub_cancel, pow2_succ, Int.mul_assoc 2] at hG
  have hAP : pow2 o ≤ pow2 k := pow2_mono (by omega)
  have hb := borderSize_ge o nint (by omega)
  have h1 : 2 * borderSize o nint ≤ 3 * (2 * (pow2 k * (nint + 1)) + 1) + 2 := by
    have := Int.mul_le_mul_of_nonneg_right hAP (show 0 ≤ nint + 1 by omega)
    rw [borderSize_eq]
    omega
  have h2 : stepSize init o ≤ init * pow2 k := Int.mul_le_mul_of_nonneg_left hAP (by omega)
  have h3 := Int.mul_le_mul h1 h2 (by have := stepSize_pos init o (by omega); omega) (by omega)
  rw [Int.mul_comm _ (init * pow2 k), Int.mul_assoc] at h3
  omega

theorem ipInterpOffsets_range : ∀ d ∈ ipInterpOffsets,
    (-1 ≤ d.1 ∧ d.1 ≤ 1) ∧ (-1 ≤ d.2.1 ∧ d.2.1 ≤ 1) ∧ (-1 ≤ d.2.2 ∧ d.2.2 ≤ 1) := by decide

theorem ipCandidate_ok (nint nr nc i r c : Int) (hr : 1 ≤ r ∧ r + 1 < nr) (hc : 1 ≤ c ∧ c + 1 < nc) :
    ∀ a ∈ ipCandidate nint nr nc i r c, SOk a := by
  unfold ipCandidate
  split
  · nofun
  · rename_i hg
    simp only [acc_forall]
    refine ⟨⟨at3_ok (by omega) (by omega) (by omega),
      fun ii hii rr hrr cc hcc => at3_ok (by omega) (by omega) (by omega)⟩, fun d hd => ?_⟩
    have hd' := ipInterpOffsets_range d hd
    exact at3_ok (by omega) (by omega) (by omega)

theorem ipBlock_ok (nint nr nc bs i r c : Int) (hbs : 0 ≤ bs) (hi : 1 ≤ i ∧ i < nint - 1)
    (hr : bs + 1 ≤ r ∧ r < nr - bs - 1) (hc : bs + 1 ≤ c ∧ c < nc - bs - 1) :
    ∀ a ∈ ipBlock nint nr nc bs i r c, SOk a := by
  simp only [ipBlock, acc_forall, lt_min_iff]
  exact ⟨at3_ok (by omega) (by omega) (by omega), fun ii hii rr hrr cc hcc =>
    ⟨at3_ok (by omega) (by omega) (by omega), ipCandidate_ok nint nr nc ii rr cc (by omega) (by omega)⟩⟩

theorem ipScan_ok (nint nr nc bs : Int) (hbs : 0 ≤ bs) : ∀ a ∈ ipScanAccesses nint nr nc bs, SOk a := by
  simp only [ipScanAccesses, acc_forall]
  exact fun i hi r hr c hc =>
    ipBlock_ok nint nr nc bs i r c hbs (sRangeStep_range hi) (sRangeStep_range hr) (sRangeStep_range hc)

end Mahotas.C10Surf
