/-
C17 — the coefficient tables in an arbitrary ordered field: `coeffsOf code : List K` is the image of the rational
table under the cast `ℚ → K`, and so are the quadrature-mirror residuals and the error constant. This carries the
table bounds (`decide +kernel` over ℚ) to every linearly ordered field.
-/
import Mahotas.Proofs.C17Err
import Mathlib.Data.Rat.Cast.Order
import Mathlib.Algebra.BigOperators.Group.List.Basic
namespace Mahotas.C17
open Mahotas

section Cast
variable {K : Type} [Field K] [LinearOrder K] [IsStrictOrderedRing K]

theorem coef_cast (mk : Int × Nat) : (coef mk : K) = ((coef mk : ℚ) : K) := by
  unfold coef
  push_cast
  rfl

theorem coeffsOf_cast (code : Nat) : (coeffsOf code : List K) = (coeffsOf code : List ℚ).map (Rat.cast : ℚ → K) := by
  unfold coeffsOf
  rw [List.map_map]
  apply List.map_congr_left
  intro mk _
  exact coef_cast mk

omit [LinearOrder K] [IsStrictOrderedRing K] in
theorem getD_cast (l : List ℚ) (k : Nat) : (l.map (Rat.cast : ℚ → K)).getD k 0 = ((l.getD k 0 : ℚ) : K) := by
  simp only [List.getD_eq_getElem?_getD, List.getElem?_map]
  cases l[k]? <;> simp

theorem sum_cast (l : List ℚ) : ((l.sum : ℚ) : K) = (l.map (Rat.cast : ℚ → K)).sum :=
  map_list_sum (Rat.castHom K) l

theorem qdot_cast (l : List ℚ) (s : Nat) : qdot (l.map (Rat.cast : ℚ → K)) s = ((qdot l s : ℚ) : K) := by
  unfold qdot
  rw [sum_cast, List.map_map, List.length_map]
  congr 1
  apply List.map_congr_left
  intro k _
  simp only [Function.comp, getD_cast, Rat.cast_mul]

theorem resid_cast (l : List ℚ) (s : Nat) : resid (l.map (Rat.cast : ℚ → K)) s = ((resid l s : ℚ) : K) := by
  unfold resid
  rw [qdot_cast]
  by_cases h : s = 0 <;> simp [h]

theorem errConst_cast (l : List ℚ) : errConst (l.map (Rat.cast : ℚ → K)) = ((errConst l : ℚ) : K) := by
  unfold errConst
  rw [Rat.cast_div, sum_cast, List.map_map, List.length_map]
  congr 1
  · congr 1
    apply List.map_congr_left
    intro j _
    simp only [Function.comp, resid_cast, Rat.cast_abs]
  · simp

end Cast
end Mahotas.C17
