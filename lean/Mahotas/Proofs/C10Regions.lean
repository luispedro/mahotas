/-
C10 — B1, regions: the offsets stored for a border region are the offsets at every position that uses that region.

They are computed at the region's representative position (`tableOffset_rep`). Per axis the region
index and the representative position are the closed forms `FilterIter.regionIdx`, `FilterIter.rep` of the
foundation (F6); the facts about them come from `Proofs/FilterIterAxis.lean`.
-/
import Mahotas.Proofs.C10
import Mahotas.Proofs.FilterIterAxis
namespace Mahotas.C10
open Mahotas

theorem origin_eq (f : Nat) : origin f = (f : Int) / 2 := Int.natCast_ediv f 2

theorem regionIndex_eq (a f p : Nat) : regionIndex a f p = FilterIter.regionIdx a f p := by
  induction p with
  | zero => exact (FilterIter.regionIdx_zero a f).symm
  | succ p ih => rw [regionIndex, ih, FilterIter.regionIdx_succ, origin_eq]

theorem regionPos_eq (a f r : Nat) : regionPos a f r = (FilterIter.rep a f r : Nat) := by
  induction r with
  | zero => rw [FilterIter.rep_zero]; rfl
  | succ r ih => rw [regionPos, ih, ← FilterIter.posSucc_val a f r, nextRegionPos, origin_eq]

/-- closed form of the representative: the interior `[orgn, ashape - fshape + orgn]` shares the
    region whose `position` is `orgn`; every other coordinate has a region of its own. -/
theorem regionRep_eq (a f p : Nat) :
    regionPos a f (regionIndex a f p) =
      if origin f ≤ (p : Int) ∧ (p : Int) ≤ (a : Int) - f + origin f then origin f else (p : Int) := by
  have h1 := FilterIter.regionIdx_cases a f p
  have h2 := FilterIter.rep_cases a f (FilterIter.regionIdx a f p)
  rw [regionIndex_eq, regionPos_eq, origin_eq]
  by_cases h : (f : Int) / 2 ≤ (p : Int) ∧ (p : Int) ≤ (a : Int) - f + (f : Int) / 2
  · rw [if_pos h]; omega
  · rw [if_neg h]; omega

/-- one axis of the accumulation `offset += astride * (cc - position)` -/
theorem tableOffset_cons (m : Mode) (a : Nat) (as : List Nat) (s : Int) (ss : List Int) (f : Nat) (fs : List Nat)
    (p : Int) (ps : List Int) (k : Int) (ks : List Int) :
    tableOffset m (a :: as) (s :: ss) (f :: fs) (p :: ps) (k :: ks) =
      (FilterIter.axisOffset m a f k p).bind fun d => (tableOffset m as ss fs ps ks).map fun off => s * d + off := by
  rw [tableOffset, FilterIter.axisOffset, origin_eq]
  cases fixOffset m (k - (f : Int) / 2 + p) a with
  | none => rfl
  | some cc => cases tableOffset m as ss fs ps ks <;> rfl

theorem tableOffset_rep (m : Mode) (as : List Nat) (ss : List Int) (fs : List Nat) (p k : List Int)
    (hp : inside as p = true) (hk : inside fs k = true) :
    tableOffset m as ss fs (repPos as fs p) k = tableOffset m as ss fs p k := by
  induction as generalizing ss fs p k with
  | nil => cases p <;> simp_all [inside, tableOffset]
  | cons a as ih =>
    cases p with
    | nil => simp [inside] at hp
    | cons x xs =>
    cases fs with
    | nil => cases k <;> simp [tableOffset]
    | cons f fs =>
    cases k with
    | nil => simp [inside] at hk
    | cons y ys =>
    cases ss with
    | nil => simp [tableOffset]
    | cons s ss =>
      simp only [inside, Bool.and_eq_true, decide_eq_true_eq] at hp hk
      -- the entry of this axis is the same at the representative and at `x` (`FilterIter.axisOffset_rep`)
      have h := FilterIter.axisOffset_rep m (a := a) (p := x.toNat) hk.1.1 hk.1.2
      rw [Int.toNat_of_nonneg hp.1.1] at h
      rw [repPos, tableOffset_cons, tableOffset_cons, regionIndex_eq, regionPos_eq, h, ih ss fs xs ys hp.2 hk.2]

theorem regionIndex_lt (a f p : Nat) (hf : 0 < f) (hp : p < a) : regionIndex a f p < min a f := by
  have := FilterIter.regionIdx_lt hf hp
  have := FilterIter.nRegions_cases a f
  rw [regionIndex_eq]; omega

/-- the last coordinate of an axis uses the last region: the carry `cur_offsets_idx_ -= backstrides[d]`
    (`backstrides = (step-1)*strides`) of `iterate_both` returns exactly to region 0. -/
theorem regionIndex_last (a f : Nat) : regionIndex a f (a - 1) = min a f - 1 := by
  have := FilterIter.regionIdx_last a f
  have := FilterIter.nRegions_cases a f
  rw [regionIndex_eq]; omega

theorem regionIdxPos_inside (as fs : List Nat) (p : List Int) (hf : ∀ f ∈ fs, 0 < f)
    (hlen : fs.length = as.length) (hp : inside as p = true) :
    inside (minShape as fs) (regionIdxPos as fs p) = true := by
  have z := Zip₃.of_length hlen (C01.inside_length hp)
  clear hlen
  induction z with
  | nil => rfl
  | @cons a as f fs x xs _ ih =>
    simp only [inside, Bool.and_eq_true, decide_eq_true_eq] at hp
    have h1 := regionIndex_lt a f x.toNat (hf f (by simp)) (by omega)
    simp only [minShape, regionIdxPos, inside, ih (fun g hg => hf g (by simp [hg])) hp.2, Bool.and_eq_true,
      decide_eq_true_eq, and_true]
    omega

end Mahotas.C10
