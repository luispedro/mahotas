/-
F10: the saturating helpers of `_morph.cpp`, transliterated with two's-complement wrap-around,
equal exact arithmetic clamped to the dtype range — for every integer dtype at once
(generic in `lo`, `hi` with `lo = 0` or `lo = -(hi+1)`).
-/
import Mahotas.Proofs.Border
import Mahotas.Model.DType
namespace Mahotas

/-- the shapes of range numpy integer dtypes have -/
structure DT.WF (dt : DT) : Prop where
  hi_pos : 0 < dt.hi
  lo_cases : dt.lo = 0 ∨ dt.lo = -(dt.hi + 1)
  notBool : dt.isBool = false

def DT.InRange (dt : DT) (x : Int) : Prop := dt.lo ≤ x ∧ x ≤ dt.hi

theorem DT.WF.lo_nonpos {dt : DT} (wf : dt.WF) : dt.lo ≤ 0 := by
  have := wf.lo_cases; have := wf.hi_pos; omega

theorem DT.wrap_in (dt : DT) (x : Int) (h : dt.lo ≤ x ∧ x ≤ dt.hi) : dt.wrap x = x := by
  rw [DT.wrap, DT.card, Int.emod_eq_of_lt (by omega) (by omega), Int.sub_add_cancel]

theorem DT.wrap_below (dt : DT) (x : Int) (h : dt.lo - dt.card ≤ x ∧ x < dt.lo) :
    dt.wrap x = x + dt.card := by
  unfold DT.card at h
  rw [DT.wrap, DT.card, ← Int.add_emod_right, Int.emod_eq_of_lt (by omega) (by omega)]
  omega

theorem DT.wrap_above (dt : DT) (x : Int) (h : dt.hi < x ∧ x ≤ dt.hi + dt.card) :
    dt.wrap x = x - dt.card := by
  unfold DT.card at h
  rw [DT.wrap, DT.card, ← Int.sub_emod_right, Int.emod_eq_of_lt (by omega) (by omega)]
  omega

theorem DT.clamp_of_inRange (dt : DT) (x : Int) (h : dt.lo ≤ x ∧ x ≤ dt.hi) : dt.clamp x = x := by
  rw [DT.clamp, Int.min_eq_left h.2, Int.max_eq_right h.1]

theorem DT.clamp_of_le (dt : DT) (x : Int) (h : x ≤ dt.lo) (hlh : dt.lo ≤ dt.hi) : dt.clamp x = dt.lo := by
  rw [DT.clamp, Int.min_eq_left (by omega), Int.max_eq_left h]

theorem DT.clamp_of_ge (dt : DT) (x : Int) (h : dt.hi ≤ x) (hlh : dt.lo ≤ dt.hi) : dt.clamp x = dt.hi := by
  rw [DT.clamp, Int.min_eq_right h, Int.max_eq_right hlh]

theorem DT.clamp_mono (dt : DT) (x y : Int) (h : x ≤ y) : dt.clamp x ≤ dt.clamp y :=
  Int.max_le.mpr ⟨Int.le_max_left _ _,
    Int.le_trans (Int.le_min.mpr ⟨Int.le_trans (Int.min_le_left _ _) h, Int.min_le_right _ _⟩)
      (Int.le_max_right _ _)⟩

theorem DT.signed_iff (dt : DT) : dt.signed = true ↔ dt.lo < 0 := by
  unfold DT.signed; simp

theorem DT.signed_of_lo0 (dt : DT) (h : dt.lo = 0) : dt.signed = false := by
  rw [DT.signed, h]; rfl

theorem DT.signed_of_neg (dt : DT) (h : dt.lo < 0) : dt.signed = true := (DT.signed_iff dt).mpr h

/-- `erode_sub a b = max lo (a − b)` for a height `b ≥ 0` that is not the "absent" marker;
    the dtype minimum as a height means "absent" (identity of `min`). -/
theorem erodeSub_spec (dt : DT) (wf : dt.WF) (a b : Int) (ha : dt.InRange a) (hb : dt.InRange b)
    (hb0 : 0 ≤ b) :
    erodeSub dt a b = if b = dt.lo then dt.hi else dt.clamp (a - b) := by
  obtain ⟨hp, hlo, hnb⟩ := wf
  unfold DT.InRange at ha hb
  unfold erodeSub
  simp only [hnb, Bool.false_eq_true, if_false]
  by_cases hbl : b = dt.lo
  · rw [if_pos hbl, if_pos hbl]
  · rw [if_neg hbl, if_neg hbl]
    rcases hlo with hlo | hlo
    · -- unsigned: the comparison `b > a` catches the underflow
      rw [DT.signed_of_lo0 dt hlo]
      by_cases hba : b > a
      · rw [if_pos (by simpa using hba), DT.clamp_of_le dt _ (by omega) (by omega), hlo]
      · rw [if_neg (by simpa using hba), DT.wrap_in dt (a - b) (by omega)]
        exact (DT.clamp_of_inRange dt _ (by omega)).symm
    · -- signed: the wrapped difference exceeds `a` exactly when it underflowed
      rw [DT.signed_of_neg dt (by omega), if_neg (by simp)]
      by_cases hu : dt.lo ≤ a - b
      · rw [DT.wrap_in dt (a - b) (by omega), if_neg (by simp; omega)]
        exact (DT.clamp_of_inRange dt _ (by omega)).symm
      · rw [DT.wrap_below dt (a - b) (by unfold DT.card; omega), if_pos (by simp [DT.card]; omega)]
        exact (DT.clamp_of_le dt _ (by omega) (by omega)).symm

/-- `dilate_add a b = min hi (a + b)` for `a`, `b` not the dtype minimum and `b ≥ 0`;
    the dtype minimum is absorbing on either side. -/
theorem dilateAdd_spec (dt : DT) (wf : dt.WF) (a b : Int) (ha : dt.InRange a) (hb : dt.InRange b)
    (hb0 : 0 ≤ b) :
    dilateAdd dt a b = if a = dt.lo ∨ b = dt.lo then dt.lo else dt.clamp (a + b) := by
  obtain ⟨hp, hlo, hnb⟩ := wf
  unfold DT.InRange at ha hb
  unfold dilateAdd
  simp only [hnb, Bool.false_eq_true, if_false]
  by_cases hal : a = dt.lo
  · rw [if_pos hal, if_pos (Or.inl hal), hal]
  · rw [if_neg hal]
    by_cases hbl : b = dt.lo
    · rw [if_pos hbl, if_pos (Or.inr hbl), hbl]
    · rw [if_neg hbl, if_neg (show ¬ (a = dt.lo ∨ b = dt.lo) from fun h => h.elim hal hbl)]
      by_cases hu : a + b ≤ dt.hi
      · rw [DT.wrap_in dt (a + b) (by omega), if_neg (by omega)]
        exact (DT.clamp_of_inRange dt _ (by omega)).symm
      · rw [DT.wrap_above dt (a + b) (by unfold DT.card; omega), if_pos (by unfold DT.card; omega)]
        exact (DT.clamp_of_ge dt _ (by omega) (by omega)).symm

/-- `subm` is exact subtraction clamped to the dtype range, for every pair of values. -/
theorem submElem_spec (dt : DT) (wf : dt.WF) (a b : Int) (ha : dt.InRange a) (hb : dt.InRange b) :
    submElem dt a b = dt.clamp (a - b) := by
  obtain ⟨hp, hlo, hnb⟩ := wf
  unfold DT.InRange at ha hb
  unfold submElem
  rcases hlo with hlo | hlo
  · rw [DT.signed_of_lo0 dt hlo, if_neg Bool.false_ne_true]
    by_cases hba : b > a
    · rw [if_pos hba, DT.clamp_of_le dt _ (by omega) (by omega), hlo]
    · rw [if_neg hba, DT.clamp_of_inRange dt _ (by omega)]
  · rw [DT.signed_of_neg dt (by omega), if_pos rfl]
    simp only
    by_cases hu : dt.lo ≤ a - b
    · by_cases hv : a - b ≤ dt.hi
      · -- representable: stored as it is, and one of the two first tests accepts it
        rw [DT.wrap_in dt (a - b) ⟨hu, hv⟩, DT.clamp_of_inRange dt _ ⟨hu, hv⟩]
        by_cases hb0 : b ≥ 0
        · rw [if_pos ⟨hb0, by omega⟩]
        · rw [if_neg (fun h => hb0 h.1), if_pos ⟨by omega, by omega⟩]
      · -- overflow (only for `b < 0`): the wrapped value is not above `a`
        rw [DT.wrap_above dt (a - b) (by unfold DT.card; omega), DT.clamp_of_ge dt _ (by omega) (by omega),
          if_neg (fun h => by omega), if_neg (fun h => by unfold DT.card at h; omega), if_neg (by omega)]
    · -- underflow (only for `b ≥ 0`): the wrapped value is above `a`
      rw [DT.wrap_below dt (a - b) (by unfold DT.card; omega), DT.clamp_of_le dt _ (by omega) (by omega),
        if_neg (fun h => by unfold DT.card at h; omega), if_neg (fun h => by omega), if_pos (by omega)]

theorem wf_u8 : (dtU 8).WF := ⟨by decide, Or.inl rfl, rfl⟩
theorem wf_u16 : (dtU 16).WF := ⟨by decide, Or.inl rfl, rfl⟩
theorem wf_u32 : (dtU 32).WF := ⟨by decide, Or.inl rfl, rfl⟩
theorem wf_u64 : (dtU 64).WF := ⟨by decide, Or.inl rfl, rfl⟩
theorem wf_i8 : (dtI 8).WF := ⟨by decide, Or.inr (by decide), rfl⟩
theorem wf_i16 : (dtI 16).WF := ⟨by decide, Or.inr (by decide), rfl⟩
theorem wf_i32 : (dtI 32).WF := ⟨by decide, Or.inr (by decide), rfl⟩
theorem wf_i64 : (dtI 64).WF := ⟨by decide, Or.inr (by decide), rfl⟩

end Mahotas
