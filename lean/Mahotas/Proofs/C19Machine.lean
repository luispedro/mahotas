/-
C19 — `integral<T>` on machine integers.
A map that commutes with `+`, `−` and `0` commutes with the recurrence of `integral<T>`
(`integral_map`); `wrapTo` is such a map, so the recurrence run in machine arithmetic (`MInt`: every `+`/`-` reduced into
the dtype's range) is the exact prefix sum reduced once (`integralMachine_eq`).
-/
import Mahotas.Proofs.C19Integral
import Mahotas.Proofs.ListLemmas

namespace Mahotas.C19.Machine
open Mahotas Mahotas.C19 Mahotas.Generated

theorem wrapTo_congr (b : Nat) (s : Bool) {x y : Int} (h : x % 2 ^ b = y % 2 ^ b) :
    wrapTo b s x = wrapTo b s y := by
  unfold wrapTo
  simp only [h]

theorem wrapTo_emod (b : Nat) (s : Bool) (x : Int) : wrapTo b s x % 2 ^ b = x % 2 ^ b := by
  unfold wrapTo
  simp only
  split
  · rw [Int.sub_emod_right, Int.emod_emod]
  · rw [Int.emod_emod]

theorem wrapTo_add (b : Nat) (s : Bool) (x y : Int) :
    wrapTo b s (wrapTo b s x + wrapTo b s y) = wrapTo b s (x + y) := by
  apply wrapTo_congr
  rw [Int.add_emod, wrapTo_emod, wrapTo_emod, ← Int.add_emod]

theorem wrapTo_sub (b : Nat) (s : Bool) (x y : Int) :
    wrapTo b s (wrapTo b s x - wrapTo b s y) = wrapTo b s (x - y) := by
  apply wrapTo_congr
  rw [Int.sub_emod, wrapTo_emod, wrapTo_emod, ← Int.sub_emod]

theorem two_pow_eq {b : Nat} (hb : 0 < b) : (2 : Int) ^ b = 2 ^ (b - 1) * 2 := by
  obtain ⟨k, rfl⟩ := Nat.exists_eq_succ_of_ne_zero (Nat.pos_iff_ne_zero.1 hb)
  rfl

theorem two_pow_half {b : Nat} (hb : 0 < b) : (2 : Int) ^ b / 2 = 2 ^ (b - 1) := by
  rw [two_pow_eq hb, Int.mul_ediv_cancel _ (by decide)]

theorem wrapTo_zero (b : Nat) (s : Bool) (hb : 0 < b) : wrapTo b s 0 = 0 := by
  have hn : ¬ ((0 : Int) ≥ 2 ^ b / 2) := by
    rw [two_pow_half hb]
    exact Int.not_le.2 (Int.pow_pos (by decide))
  simp only [wrapTo, hn, decide_false, Bool.and_false, Bool.false_eq_true, if_false, Int.zero_emod]

theorem wrapTo_range_unsigned (b : Nat) (x : Int) : 0 ≤ wrapTo b false x ∧ wrapTo b false x < 2 ^ b := by
  have hp : (0 : Int) < 2 ^ b := Int.pow_pos (by decide)
  simp only [wrapTo, Bool.false_and, Bool.false_eq_true, if_false]
  exact ⟨Int.emod_nonneg _ (Int.ne_of_gt hp), Int.emod_lt_of_pos _ hp⟩

theorem wrapTo_range_signed (b : Nat) (hb : 0 < b) (x : Int) :
    -(2 ^ (b - 1)) ≤ wrapTo b true x ∧ wrapTo b true x < 2 ^ (b - 1) := by
  have hm : (0 : Int) < 2 ^ b := Int.pow_pos (by decide)
  have h0 := Int.emod_nonneg x (Int.ne_of_gt hm)
  have h1 := Int.emod_lt_of_pos x hm
  have h2 := two_pow_eq hb
  simp only [wrapTo, Bool.true_and, decide_eq_true_eq, two_pow_half hb]
  generalize x % 2 ^ b = r at h0 h1 ⊢
  generalize (2 : Int) ^ b = M at h1 h2 ⊢
  split <;> omega

section hom
variable {α β : Type} [Add α] [Sub α] [OfNat α 0] [Add β] [Sub β] [OfNat β 0] (φ : α → β)
  (hadd : ∀ a b, φ (a + b) = φ a + φ b) (hsub : ∀ a b, φ (a - b) = φ a - φ b) (h0 : φ 0 = 0)
include hadd hsub

omit [OfNat α 0] [OfNat β 0] in
theorem scanRow_map : ∀ (above row : List α) (L D : α),
    scanRow (φ L) (φ D) (above.map φ) (row.map φ) = (scanRow L D above row).map φ
  | [], _, _, _ => by simp [scanRow]
  | _ :: _, [], _, _ => by simp [scanRow]
  | a :: as, x :: xs, L, D => by
    simp only [List.map_cons, scanRow]
    rw [← hadd, ← hsub, ← hadd, scanRow_map as xs]

include h0

theorem integralAux_map : ∀ (rows : List (List α)) (prev : List α),
    integralAux (prev.map φ) (rows.map fun r => r.map φ) = (integralAux prev rows).map fun r => r.map φ
  | [], _ => by simp [integralAux]
  | row :: rest, prev => by
    simp only [List.map_cons, integralAux]
    have h := scanRow_map φ hadd hsub prev row 0 0
    rw [h0] at h
    rw [h, integralAux_map rest]

theorem integral_map (w : Nat) (rows : List (List α)) :
    integral w (rows.map fun r => r.map φ) = (integral w rows).map fun r => r.map φ := by
  unfold integral
  have h := integralAux_map φ hadd hsub h0 rows (List.replicate w 0)
  rw [List.map_replicate, h0] at h
  exact h

end hom

/-- **machine arithmetic = exact arithmetic reduced once**: the recurrence of `integral<T>` evaluated in the dtype's own
    wrap-around arithmetic returns, entry by entry, `wrapTo` of the recurrence evaluated over `ℤ`. -/
theorem integralMachine_eq (b : Nat) (s : Bool) (hb : 0 < b) (w : Nat) (rows : List (List Int)) :
    integralMachine b s w rows = (integral w rows).map fun r => r.map (wrapTo b s) := by
  unfold integralMachine
  rw [integral_map (MInt.ofInt b s)]
  · simp [List.map_map, Function.comp_def, MInt.ofInt]
  · intro x y
    show (⟨wrapTo b s (x + y)⟩ : MInt b s) = ⟨wrapTo b s (wrapTo b s x + wrapTo b s y)⟩
    rw [wrapTo_add]
  · intro x y
    show (⟨wrapTo b s (x - y)⟩ : MInt b s) = ⟨wrapTo b s (wrapTo b s x - wrapTo b s y)⟩
    rw [wrapTo_sub]
  · show (⟨wrapTo b s 0⟩ : MInt b s) = ⟨0⟩
    rw [wrapTo_zero b s hb]

theorem integralMachine_getD (b : Nat) (s : Bool) (hb : 0 < b) (w : Nat) (rows : List (List Int))
    (hw : ∀ r ∈ rows, r.length = w) (i j : Nat) (hi : i < rows.length) (hj : j < w) :
    ((integralMachine b s w rows).getD i []).getD j 0 = wrapTo b s (prefix2 rows i j) := by
  have hi' : i < (integral w rows).length := by rw [integral_length]; exact hi
  have hj' : j < ((integral w rows).getD i []).length := by
    rw [← List.getElem_eq_getD (h := hi'), integral_row_length w rows hw _ (List.getElem_mem hi')]; exact hj
  rw [integralMachine_eq b s hb, getD_map_of_lt _ _ i [] [] hi', getD_map_of_lt _ _ j 0 0 hj',
    integral_eq_prefix2 w rows hw i j hi hj]

end Mahotas.C19.Machine
