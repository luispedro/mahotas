/-
C13 — the float instances of `labeled_sum/max/min` and `center_of_mass`: the model run with any arithmetic equals
the image of the exact integer oracle under an embedding `emb : ℤ → α` (the driver: `k ↦ Float.ofInt k / scale`),
*conditionally* on explicitly stated exactness facts about that embedding (Lean's `Float` operations are opaque, so
at `Float` these facts cannot be proved; they are what the harness' choice of dyadic data is meant to guarantee).
One simulation lemma, `foldl_emb`, carries the sum, the extrema and the two accumulations of the centre of mass.
-/
import Mahotas.Proofs.C13OraclesNum
import Mahotas.Proofs.C13Com
namespace Mahotas.C13
open Mahotas

theorem valuesOf_map {α β : Type} (emb : β → α) (px : List (β × Int)) (l : Int) :
    valuesOf (px.map fun x => (emb x.1, x.2)) l = (valuesOf px l).map emb := by
  rw [valuesOf, valuesOf, List.filter_map, List.map_map, List.map_map]
  rfl

theorem zip_map_emb {α : Type} (emb : Int → α) (data labels : List Int) :
    (data.map emb).zip labels = (data.zip labels).map fun x => (emb x.1, x.2) := by
  rw [List.zip_map_left]
  rfl

/-- simulation of a fold along an embedding: the two steps need commute only on the states the lower fold reaches -/
theorem foldl_emb {α β ι : Type} (F : α → ι → α) (G : β → ι → β) (emb : β → α) : ∀ (is : List ι) (s : β),
    (∀ pre i rest, is = pre ++ i :: rest → F (emb (pre.foldl G s)) i = emb (G (pre.foldl G s) i)) →
    is.foldl F (emb s) = emb (is.foldl G s)
  | [], _, _ => rfl
  | i :: is, s, h => by
    rw [List.foldl_cons, List.foldl_cons, show F (emb s) i = emb (G s i) from h [] i is rfl]
    exact foldl_emb F G emb is (G s i) fun pre j rest e => h (i :: pre) j rest (by rw [e]; rfl)

/-- the case of `labeled_foldl`: every element against the running result of the elements before it (not core's
    `List.foldl_hom`, which this cluster uses for projections of a fold) -/
theorem foldl_hom {α β : Type} (f : α → α → α) (g : β → β → β) (emb : β → α) : ∀ (vs : List β) (s : β),
    (∀ pre a rest, vs = pre ++ a :: rest →
      f (emb a) (emb (pre.foldl (fun r a => g a r) s)) = emb (g a (pre.foldl (fun r a => g a r) s))) →
    (vs.map emb).foldl (fun r a => f a r) (emb s) = emb (vs.foldl (fun r a => g a r) s) := by
  intro vs s h
  rw [List.foldl_map]
  exact foldl_emb (fun r a => f (emb a) r) (fun r a => g a r) emb vs s h

theorem foldSpec_sum_map_slot {α : Type} (emb : Int → α) (n : Nat) (px : List (Int × Int)) (l : Nat) (hl : l < n) :
    ((foldSpec false "sum" n px).map emb)[l]? = some (emb (valuesOf px (l : Int)).sum) := by
  rw [List.getElem?_map, foldSpec_sum, if_neg Bool.false_ne_true, sumSpec_slot n px l hl, Option.map_some]

theorem labeledFold_sum_of_exact {α : Type} (add : α → α → α) (emb : Int → α) (n : Nat) (data labels : List Int)
    (l : Nat) (hl : l < n)
    (hexact : ∀ pre a rest, valuesOf (data.zip labels) (l : Int) = pre ++ a :: rest →
      add (emb a) (emb pre.sum) = emb (a + pre.sum)) :
    (labeledFold add (emb 0) n ((data.map emb).zip labels))[l]? =
      some (emb (valuesOf (data.zip labels) (l : Int)).sum) := by
  rw [zip_map_emb, labeledFold_slot _ _ n _ l hl, valuesOf_map,
    foldl_hom add (fun (a r : Int) => a + r) emb _ 0, foldl_add_comm_sum, Int.zero_add]
  intro pre a rest e
  rw [foldl_add_comm_sum, Int.zero_add]
  exact hexact pre a rest e

theorem sumFloat_slot_of_exact (emb : Int → Float) (n : Nat) (data labels : List Int) (l : Nat) (hl : l < n)
    (h0 : emb 0 = 0.0)
    (hexact : ∀ pre a rest, valuesOf (data.zip labels) (l : Int) = pre ++ a :: rest →
      emb a + emb pre.sum = emb (a + pre.sum)) :
    (sumFloat n ((data.map emb).zip labels))[l]? =
      ((foldSpec false "sum" n (data.zip labels))[l]?).map emb := by
  rw [foldSpec_sum, if_neg Bool.false_ne_true, sumSpec_slot n _ l hl, Option.map_some, sumFloat, ← h0]
  exact labeledFold_sum_of_exact (fun a r => a + r) emb n data labels l hl hexact

theorem stdMax_hom {α β : Type} [LT α] [DecidableRel (α := α) (· < ·)] [LT β] [DecidableRel (α := β) (· < ·)]
    (emb : β → α) {a r : β} (h : emb a < emb r ↔ a < r) : stdMax (emb a) (emb r) = emb (stdMax a r) := by
  unfold stdMax
  by_cases c : a < r
  · rw [if_pos c, if_pos (h.mpr c)]
  · rw [if_neg c, if_neg (mt h.mp c)]

/-- **the running maximum through an embedding that is strictly monotone on the values** and whose images the
    identity does not beat: the image of the oracle's maximum -/
theorem foldl_stdMax_of_monotone {α β : Type} [LT α] [DecidableRel (α := α) (· < ·)] [LinearOrder β] (emb : β → α)
    (lowest : α) (d : β) (vs : List β) (hne : vs ≠ []) (hlow : ∀ v ∈ vs, ¬ (emb v < lowest))
    (hmono : ∀ a ∈ vs, ∀ b ∈ vs, (emb a < emb b ↔ a < b)) :
    (vs.map emb).foldl (fun r a => stdMax a r) lowest = emb (vs.foldl max (vs.headD d)) := by
  match vs, hne with
  | v0 :: rest, _ =>
    have hv0 : v0 ∈ v0 :: rest := List.mem_cons_self
    rw [List.map_cons, List.foldl_cons, List.headD_cons, List.foldl_cons, max_self, ← foldl_stdMax_eq,
      show stdMax (emb v0) lowest = emb v0 by rw [stdMax, if_neg (hlow v0 hv0)], foldl_hom stdMax stdMax emb rest v0]
    intro pre a rest' e
    have hr : pre.foldl (fun r a => stdMax a r) v0 ∈ v0 :: rest := by
      rw [foldl_stdMax_eq]
      rcases (isGreatest_foldl_max pre v0).1 with h | h
      · rw [h]; exact hv0
      · rw [e]; exact List.mem_cons_of_mem _ (List.mem_append_left _ h)
    exact stdMax_hom emb (hmono a (by rw [e]; simp) _ hr)

/-- the same for the running minimum: it is the running maximum for the reversed orders -/
theorem foldl_stdMin_of_monotone {α β : Type} [LT α] [inst : DecidableRel (α := α) (· < ·)] [LinearOrder β]
    (emb : β → α) (highest : α) (d : β) (vs : List β) (hne : vs ≠ []) (hhigh : ∀ v ∈ vs, ¬ (highest < emb v))
    (hmono : ∀ a ∈ vs, ∀ b ∈ vs, (emb a < emb b ↔ a < b)) :
    (vs.map emb).foldl (fun r a => stdMin a r) highest = emb (vs.foldl min (vs.headD d)) :=
  @foldl_stdMax_of_monotone α βᵒᵈ ⟨fun a b => b < a⟩ (fun a b => inst b a) _ emb highest d vs hne hhigh
    (fun a ha b hb => hmono b hb a ha)

theorem maxMinFloat_slot_of_monotone (emb : Int → Float) (lowest highest : Float) (n : Nat)
    (data labels : List Int) (l : Nat) (hl : l < n)
    (hne : valuesOf (data.zip labels) (l : Int) ≠ [])
    (hlow : ∀ v ∈ valuesOf (data.zip labels) (l : Int), ¬ (emb v < lowest))
    (hhigh : ∀ v ∈ valuesOf (data.zip labels) (l : Int), ¬ (highest < emb v))
    (hmono : ∀ a ∈ valuesOf (data.zip labels) (l : Int), ∀ b ∈ valuesOf (data.zip labels) (l : Int),
      (emb a < emb b ↔ a < b)) :
    (maxFloat lowest n ((data.map emb).zip labels))[l]? =
      ((foldSpec false "max" n (data.zip labels))[l]?).map emb ∧
    (minFloat highest n ((data.map emb).zip labels))[l]? =
      ((foldSpec false "min" n (data.zip labels))[l]?).map emb := by
  rw [foldSpec_max, foldSpec_min, maxSpec_slot n _ l hl, minSpec_slot n _ l hl,
    Option.map_some, Option.map_some, zip_map_emb, maxFloat, minFloat, labeledFold_slot _ _ n _ l hl,
    labeledFold_slot _ _ n _ l hl, valuesOf_map, foldl_stdMax_of_monotone emb lowest 0 _ hne hlow hmono,
    foldl_stdMin_of_monotone emb highest 0 _ hne hhigh hmono]
  exact ⟨rfl, rfl⟩

/-- the case of an accumulation over a list of indices, from `emb 0` -/
theorem foldl_idx_hom {α : Type} (add : α → α → α) (emb : Int → α) (t : Nat → Int) (val : Nat → α) (is : List Nat)
    (h : ∀ pre i rest, is = pre ++ i :: rest → add (emb (pre.map t).sum) (val i) = emb ((pre.map t).sum + t i)) :
    is.foldl (fun acc i => add acc (val i)) (emb 0) = emb (is.map t).sum := by
  rw [foldl_emb (fun acc i => add acc (val i)) (fun s i => s + t i) emb is 0, foldl_add_map, Int.zero_add]
  intro pre i rest e
  rw [foldl_add_map, Int.zero_add]
  exact h pre i rest e

theorem comModelG_of_exact {α : Type} (ops : NumOps α) (emb : Int → α) (shape : List Nat) (ks labels : List Int)
    (hnn : ∀ v ∈ labels, 0 ≤ v) (h0 : emb 0 = ops.zero)
    (htot : ∀ (l : Nat) (pre : List Nat) (i : Nat) (rest : List Nat),
      ((List.range ks.length).filter fun i => labels.getD i 0 == (l : Int)) = pre ++ i :: rest →
      ops.add (emb (pre.map fun i => ks.getD i 0).sum) (emb (ks.getD i 0)) =
        emb ((pre.map fun i => ks.getD i 0).sum + ks.getD i 0))
    (hrow : ∀ (l j : Nat), j < shape.length → ∀ (pre : List Nat) (i : Nat) (rest : List Nat),
      ((List.range ks.length).filter fun i => labels.getD i 0 == (l : Int)) = pre ++ i :: rest →
      ops.add (emb (pre.map fun i => ks.getD i 0 * ((unravel shape i).getD j 0 : Nat)).sum)
          (ops.mul (emb (ks.getD i 0)) (ops.ofNat ((unravel shape i).getD j 0))) =
        emb ((pre.map fun i => ks.getD i 0 * ((unravel shape i).getD j 0 : Nat)).sum +
          ks.getD i 0 * ((unravel shape i).getD j 0 : Nat))) :
    comModelG ops shape (ks.map emb) labels =
      (comSpec shape ks labels).map fun nd => ops.div (emb nd.1) (emb nd.2) := by
  rw [comModelG_closed, comSpec]
  simp only [List.map_flatMap, List.map_map, List.length_map]
  apply List.flatMap_congr
  intro l _
  apply List.map_congr_left
  intro j hj
  -- the two ways of selecting the pixels of label `l` agree on non-negative labels
  have hf : ((List.range ks.length).filter fun i => decide ((labels.getD i 0).toNat = l)) =
      ((List.range ks.length).filter fun i => labels.getD i 0 == (l : Int)) := by
    apply List.filter_congr
    intro i _
    have h0' := getD_nonneg labels hnn i
    rw [Bool.eq_iff_iff, decide_eq_true_iff, beq_iff_eq]
    omega
  have hg : ∀ i, (ks.map emb).getD i ops.zero = emb (ks.getD i 0) := by
    intro i
    rw [List.getD_eq_getElem?_getD, List.getD_eq_getElem?_getD, List.getElem?_map]
    cases ks[i]? with
    | none => exact h0.symm
    | some v => rfl
  simp only [Function.comp, hg, hf]
  rw [← h0, foldl_add_sum, foldl_add_sum, Int.zero_add, Int.zero_add,
    foldl_idx_hom ops.add emb (fun i => ks.getD i 0) (fun i => emb (ks.getD i 0)) _ (htot l),
    foldl_idx_hom ops.add emb (fun i => ks.getD i 0 * ((unravel shape i).getD j 0 : Nat))
      (fun i => ops.mul (emb (ks.getD i 0)) (ops.ofNat ((unravel shape i).getD j 0))) _
      (hrow l j (List.mem_range.mp hj))]

/-- over a field the exactness hypotheses hold: the oracle's fractions, read in the field, are the model's output -/
theorem comSpec_eq_model {α : Type} [Field α] (shape : List Nat) (ks : List Int) (labels : List Int)
    (hnn : ∀ v ∈ labels, 0 ≤ v) :
    (comSpec shape ks labels).map (fun nd => ((nd.1 : Int) : α) / ((nd.2 : Int) : α)) =
      comModelG (fieldOps α) shape (ks.map fun k => ((k : Int) : α)) labels :=
  (comModelG_of_exact (fieldOps α) (fun k => ((k : Int) : α)) shape ks labels hnn Int.cast_zero
    (fun _ _ _ _ _ => (Int.cast_add _ _).symm)
    (fun _ _ _ _ _ _ _ => by rw [Int.cast_add, Int.cast_mul, Int.cast_natCast]; rfl)).symm

end Mahotas.C13
