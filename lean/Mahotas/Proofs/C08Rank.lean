/-
C08 — F15 of `rank_filter`: inside the wrapper's guard `0 ≤ rank < N2` a pixel whose gathered sample list is non-empty
receives a defined `nth_element` answer.

The list is non-empty in the five modes that deliver or replace every sample, and in `ignore` mode whenever the centre of
the neighbourhood is a member (`C08_defined_everywhere_rank_filter`).
-/
import Mahotas.Proofs.C08Kernels
import Mahotas.Proofs.C07Order
namespace Mahotas.C08
open Mahotas

theorem addPos_subPos_self (p c : List Int) (h : c.length = p.length) : addPos p (subPos c c) = p :=
  C01.addPos_zero p (subPos c c) ((C01.subPos_zero_iff c c rfl).2 rfl) ((C01.subPos_length_of_eq c c rfl).trans h)

/-- the gathered sample list is non-empty: `C07.gather_eq_nil_iff` leaves only `ignore` mode with every member outside
the image, and the centre, a member, is retrieved as the pixel itself -/
theorem gather_nonempty (m : Mode) (A : Img Int) (fshape : List Nat)
    (hf : ∀ f ∈ fshape, 1 ≤ f) (hl : A.shape.length = fshape.length) (w : List Int) (p : List Int)
    (hp : inside A.shape p = true)
    (hK : keptIdx fshape w (fun x => x != 0) 0 ≠ [])
    (hc : m ≠ .ignore ∨ w.getD (ravelI fshape (centreOf fshape)) 0 ≠ 0) :
    C07.gather m A ((keptIdx fshape w (fun x => x != 0) 0).map (offAt fshape)) p ≠ [] := by
  have hpl : p.length = fshape.length := (C01.inside_length hp).trans hl
  have hlen : ∀ k ∈ (keptIdx fshape w (fun x => x != 0) 0).map (offAt fshape),
      (addPos p k).length = A.shape.length := by
    intro k hk
    obtain ⟨kk, _, rfl⟩ := List.mem_map.1 hk
    rw [C01.addPos_length_of_eq _ _ (by rw [offAt_length, hpl]), C01.inside_length hp]
  intro e
  rcases (C07.gather_eq_nil_iff m A _ p hlen).1 e with h | ⟨hm, hall⟩
  · exact hK (List.map_eq_nil_iff.1 h)
  · have hcw : w.getD (ravelI fshape (centreOf fshape)) 0 ≠ 0 := hc.resolve_left fun h => h hm
    have hci := C01.centre_inside fshape (FilterIter.shapeSize_pos fshape hf)
    have hmemK : ravelI fshape (centreOf fshape) ∈ keptIdx fshape w (fun x => x != 0) 0 := by
      unfold keptIdx
      rw [List.mem_filter]
      exact ⟨List.mem_range.2 (C01.ravelI_lt fshape _ hci), by simpa using hcw⟩
    have hoff : addPos p (offAt fshape (ravelI fshape (centreOf fshape))) = p := by
      unfold offAt
      rw [C01.unravelI_ravelI _ _ hci]
      apply addPos_subPos_self
      rw [hpl]
      simp [centreOf]
    have hout := hall _ (List.mem_map.2 ⟨_, hmemK, rfl⟩)
    rw [hoff, hp] at hout
    cases hout

end Mahotas.C08
