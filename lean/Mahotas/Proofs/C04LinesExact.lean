/-
C04 — the exact characterisation of the `lines` output.

The *trace* of the kernel model (`modelTrace`, C04Run) is the list of neighbour visits it performs, in order: for every
popped queue entry and every neighbour that passes the bounds decision, the popped pixel, the neighbour, the
status and the two labels the kernel reads at that moment.  `lines[i]` is True in the end exactly when
some visit of the trace looked at `i` while `i` was grey (queued, not yet popped) from a popped pixel
carrying a different label — the condition of the C++ `case grey:`.  Labels of non-white pixels never
change, so the two labels read at such a visit are the final labels.
-/
import Mahotas.Proofs.C04Sim

namespace Mahotas.C04
open Mahotas

/-- the C++ condition under which the visit writes `lines[i] = true`:
    `status[npos] == grey && rdata[next.position] != rdata[npos]` with `npos == i` -/
def Ev.marks (ev : Ev) (i : Nat) : Prop := ev.npos = i ∧ ev.status = 1 ∧ ev.lab ≠ ev.nlab

theorem visit_lines (surf : Img Int) (e : QE) (acc : MSt × Int) (nb : Nb) (hs : Sized acc.1) (i : Nat) :
    (modelVisit surf e acc nb).1.lines.getD i false = true ↔
      acc.1.lines.getD i false = true ∨ ∃ ev ∈ (modelVisitEv surf e acc nb).toList, ev.marks i := by
  obtain ⟨st, margin⟩ := acc
  unfold modelVisitEv Ev.marks
  cases hc : nbCheck surf.shape e.pos margin nb with
  | none =>
    rw [modelVisit_none surf e st margin nb hc]
    simp only [Option.toList_none, List.not_mem_nil, false_and, exists_false, or_false]
  | some r =>
    simp only [Option.toList_some, List.mem_singleton, exists_eq_left]
    refine modelVisit_cases surf e st margin nb r.1 r.2 hc (fun x => x.1.lines.getD i false = true ↔ _) ?_ ?_ ?_
    · exact fun h0 => ⟨Or.inl, fun h => h.elim id fun h => absurd (h0.symm.trans h.2.1) Nat.zero_ne_one⟩
    · intro h1 hd
      have hlt : nposOf e nb < st.lines.size :=
        hs.lines ▸ lt_size_of_getD_ne _ _ 0 (h1 ▸ Nat.one_ne_zero)
      by_cases hi : nposOf e nb = i
      · exact iff_of_true (hi ▸ getD_setIfInBounds_self _ _ _ _ hlt) (Or.inr ⟨hi, h1, hd⟩)
      · show (st.lines.setIfInBounds _ true).getD i false = true ↔ _
        rw [getD_setIfInBounds_ne _ _ _ _ _ hi]
        exact ⟨Or.inl, fun h => h.elim id fun h => absurd h.1 hi⟩
    · exact fun _ h => ⟨Or.inl, fun h' => h'.elim id fun h' => absurd (h h'.2.1) h'.2.2⟩

/-- the lines of the run are the lines it started with plus the pixels marked along its trace -/
theorem run_lines (surf : Img Int) (nbs : List Nb) (i : Nat) (n : Nat) (st : MSt) (hs : Sized st) :
    (modelRun surf nbs n st).lines.getD i false = true ↔
      st.lines.getD i false = true ∨ ∃ ev ∈ modelTrace surf nbs n st, ev.marks i :=
  (modelRun_rule surf nbs
    (fun s tr => Sized s ∧ (s.lines.getD i false = true ↔ st.lines.getD i false = true ∨ ∃ ev ∈ tr, ev.marks i))
    (fun _ acc tr => Sized acc.1 ∧
      (acc.1.lines.getD i false = true ↔ st.lines.getD i false = true ∨ ∃ ev ∈ tr, ev.marks i))
    (fun _ _ e h _ => ⟨pop_sized h.1 e _, h.2⟩)
    (fun e acc tr nb _ h => ⟨visit_sized surf e acc nb h.1, by
      rw [visit_lines surf e acc nb h.1 i, h.2, exists_mem_append, or_assoc]⟩)
    (fun _ _ _ h => h) n st [] ⟨hs, (or_iff_left fun ⟨_, h, _⟩ => nomatch h).symm⟩).2

/-- **lines, exactly**: a pixel is True in the kernel's lines output iff some visit of the trace
    satisfies the C++ condition at that pixel -/
theorem cwatershed_lines_exact (surf markers : Img Int) (bshape : List Nat) (bc : Array Int) (i : Nat) :
    (cwatershedModel surf markers bshape bc).lines.getD i false = true ↔
      ∃ ev ∈ cwatershedTrace surf markers bshape bc, ev.marks i := by
  unfold cwatershedModel cwatershedTrace
  rw [run_lines surf _ i _ _ (modelInit_sized surf markers), modelInit_lines]
  simp

/-- the label of `i` cannot be written any more: `i` is not white (or lies beyond the buffers) -/
def Settled (st : MSt) (i : Nat) : Prop := st.status.getD i 0 ≠ 0 ∨ st.res.size ≤ i

theorem getD_set_oob {α : Type} (a : Array α) (i j : Nat) (v d : α) (h : a.size ≤ i) :
    (a.setIfInBounds j v).getD i d = a.getD i d := by
  rw [getD_setIfInBounds, if_neg fun e : j = i ∧ j < a.size => Nat.not_lt.2 h (e.1 ▸ e.2)]

theorem pop_settled (st : MSt) (e : QE) (rest : List QE) (hs : Sized st) :
    Settled { st with queue := rest, status := st.status.setIfInBounds e.pos 2 } e.pos ∧
    ∀ i, Settled st i → Settled { st with queue := rest, status := st.status.setIfInBounds e.pos 2 } i := by
  constructor
  · by_cases h : e.pos < st.status.size
    · exact Or.inl (by rw [getD_setIfInBounds_self _ _ _ _ h]; exact Nat.succ_ne_zero 1)
    · exact Or.inr (hs.res ▸ Nat.le_of_not_lt h)
  · rintro i (hi | hi)
    · by_cases hie : e.pos = i
      · exact Or.inl (by rw [← hie, getD_setIfInBounds_self _ _ _ _ (lt_size_of_getD_ne _ _ 0 (hie ▸ hi))]; exact Nat.succ_ne_zero 1)
      · exact Or.inl (by rw [getD_setIfInBounds_ne _ _ _ _ _ hie]; exact hi)
    · exact Or.inr hi

theorem visit_settled (surf : Img Int) (e : QE) (acc : MSt × Int) (nb : Nb) (i : Nat)
    (h : Settled acc.1 i) :
    Settled (modelVisit surf e acc nb).1 i ∧
    (modelVisit surf e acc nb).1.res.getD i 0 = acc.1.res.getD i 0 := by
  obtain ⟨st, margin⟩ := acc
  cases hc : nbCheck surf.shape e.pos margin nb with
  | none => rw [modelVisit_none surf e st margin nb hc]; exact ⟨h, rfl⟩
  | some r =>
    refine modelVisit_cases surf e st margin nb r.1 r.2 hc
      (fun x => Settled x.1 i ∧ x.1.res.getD i 0 = st.res.getD i 0) ?_ (fun _ _ => ⟨h, rfl⟩) (fun _ _ => ⟨h, rfl⟩)
    -- only a white pixel is written, and a settled one is not white
    intro h0
    rcases h with h | h
    · have hne : nposOf e nb ≠ i := fun hh => h (hh ▸ h0)
      exact ⟨Or.inl (by rw [getD_setIfInBounds_ne _ _ _ _ _ hne]; exact h), getD_setIfInBounds_ne _ _ _ _ _ hne⟩
    · exact ⟨Or.inr (Array.size_setIfInBounds.symm ▸ h), getD_set_oob _ _ _ _ _ h⟩

/-- the cells the visits made so far have read are settled and still hold the labels read -/
def Final (st : MSt) (tr : List Ev) : Prop :=
  ∀ ev ∈ tr, (Settled st ev.pos ∧ ev.lab = st.res.getD ev.pos 0) ∧
    (ev.status ≠ 0 → Settled st ev.npos ∧ ev.nlab = st.res.getD ev.npos 0)

theorem Final.mono {st st' : MSt} {tr : List Ev} (h : Final st tr)
    (hs : ∀ i, Settled st i → Settled st' i ∧ st'.res.getD i 0 = st.res.getD i 0) : Final st' tr :=
  fun ev hev =>
    ⟨⟨(hs _ (h ev hev).1.1).1, (h ev hev).1.2.trans (hs _ (h ev hev).1.1).2.symm⟩,
     fun h0 => ⟨(hs _ ((h ev hev).2 h0).1).1, ((h ev hev).2 h0).2.trans (hs _ ((h ev hev).2 h0).1).2.symm⟩⟩

/-- a visit reads the label of the popped pixel, which is black, and of a neighbour that, unless white, is settled too;
    settled cells are never written again -/
theorem run_final (surf : Img Int) (nbs : List Nb) (n : Nat) (st : MSt) (hs : Sized st) :
    Final (modelRun surf nbs n st) (modelTrace surf nbs n st) :=
  (modelRun_rule surf nbs (fun s tr => Sized s ∧ Final s tr)
    (fun e acc tr => Sized acc.1 ∧ Final acc.1 tr ∧ Settled acc.1 e.pos)
    (fun s _ e h _ => ⟨pop_sized h.1 e _, h.2.mono fun i hi => ⟨(pop_settled s e _ h.1).2 i hi, rfl⟩,
      (pop_settled s e _ h.1).1⟩)
    (fun e acc tr nb _ h => by
      refine ⟨visit_sized surf e acc nb h.1, fun ev hev => ?_, (visit_settled surf e acc nb _ h.2.2).1⟩
      rcases List.mem_append.mp hev with hev | hev
      · exact h.2.1.mono (fun i hi => visit_settled surf e acc nb i hi) ev hev
      · unfold modelVisitEv at hev
        split at hev
        · cases hev
        · rw [Option.toList_some, List.mem_singleton] at hev
          subst hev
          exact ⟨⟨(visit_settled surf e acc nb _ h.2.2).1, (visit_settled surf e acc nb _ h.2.2).2.symm⟩,
            fun h0 => ⟨(visit_settled surf e acc nb _ (Or.inl h0)).1, (visit_settled surf e acc nb _ (Or.inl h0)).2.symm⟩⟩)
    (fun _ _ _ h => ⟨h.1, h.2.1⟩) n st [] ⟨hs, fun _ h => nomatch h⟩).2

/-- what a visit of the run read is what the output holds -/
theorem modelTrace_final (surf : Img Int) (nbs : List Nb) (n : Nat) :
    ∀ st, Sized st → ∀ ev ∈ modelTrace surf nbs n st,
      ev.lab = (modelRun surf nbs n st).res.getD ev.pos 0 ∧
      (ev.status ≠ 0 → ev.nlab = (modelRun surf nbs n st).res.getD ev.npos 0) :=
  fun st hs ev hev => ⟨(run_final surf nbs n st hs ev hev).1.2, fun h => ((run_final surf nbs n st hs ev hev).2 h).2⟩

/-- **lines, exactly, in final labels**: a pixel is True in the lines output iff some visit of the trace
    looked at it while it was grey from a popped pixel whose *final* label differs from its *final* label -/
theorem cwatershed_lines_exact_final (surf markers : Img Int) (bshape : List Nat) (bc : Array Int) (i : Nat) :
    (cwatershedModel surf markers bshape bc).lines.getD i false = true ↔
      ∃ ev ∈ cwatershedTrace surf markers bshape bc, ev.npos = i ∧ ev.status = 1 ∧
        (cwatershedModel surf markers bshape bc).res.getD ev.pos 0
          ≠ (cwatershedModel surf markers bshape bc).res.getD i 0 := by
  rw [cwatershed_lines_exact]
  unfold Ev.marks
  refine exists_congr fun ev => and_congr_right fun hev => and_congr_right fun h1 => and_congr_right fun h2 => ?_
  obtain ⟨ha, hb⟩ := modelTrace_final surf _ _ _ (modelInit_sized surf markers) ev hev
  rw [ha, hb (h2 ▸ Nat.one_ne_zero), h1]
  rfl

/-- what the simulation relation says about a visit of the trace -/
structure Ev.Good (s : List Nat) (offs : List (List Int)) (ev : Ev) : Prop where
  /-- the popped pixel is a pixel of the image -/
  pos_lt : ev.pos < shapeSize s
  /-- the visited neighbour is a pixel of the image -/
  npos_lt : ev.npos < shapeSize s
  /-- … namely the popped pixel plus an offset of the neighbourhood -/
  nb : ∃ o ∈ offs, unravelI s ev.npos = addPos (unravelI s ev.pos) o
  /-- grey means: in the queue at this moment -/
  grey : ev.status = 1 ↔ ev.queued = true
  /-- white means: unlabelled at this moment -/
  white : ev.status = 0 ↔ ev.nlab = 0
  /-- the popped pixel is labelled -/
  lab : ev.lab ≠ 0

theorem visit_good (surf : Img Int) (e : QE) (offs : List (List Int))
    (hoffs : ∀ o ∈ offs, o.length = surf.shape.length) {acc : MSt × Int} {nb : Nb}
    (hnb : nb ∈ neighbours surf.shape offs) (h : VInv surf.shape e acc) :
    ∀ ev ∈ (modelVisitEv surf e acc nb).toList, ev.Good surf.shape offs := by
  obtain ⟨o, ho, rfl⟩ := mem_neighbours hnb
  have he := h.pos_lt
  obtain ⟨ms, margin⟩ := acc
  obtain ⟨⟨ss, hrel⟩, hmar, hres⟩ := h
  have hsound := nbCheck_sound surf.shape e.pos margin o (posToFlat surf.shape o) (hoffs o ho) hmar
  intro ev hev
  unfold modelVisitEv at hev
  dsimp only at hev
  cases hc : nbCheck surf.shape e.pos margin ⟨posToFlat surf.shape o, chebStep o, o⟩ with
  | none => rw [hc] at hev; cases hev
  | some r =>
    rw [hc] at hev hsound
    have hin := hsound.1
    have hnpN := C01.ravelI_lt _ _ hin
    simp only [Option.toList_some, List.mem_singleton, npos_eq surf.shape e.pos o he hin] at hev
    subst hev
    refine ⟨he, hnpN, ⟨o, ho, C01.unravelI_ravelI _ _ hin⟩, ?_, hrel.white _ hnpN, hres⟩
    dsimp only
    rw [hrel.grey _ hnpN, List.any_eq_true]
    exact exists_congr fun m => and_congr_right fun _ => beq_iff_eq.symm

theorem modelTrace_good (surf : Img Int) (offs : List (List Int))
    (hoffs : ∀ o ∈ offs, o.length = surf.shape.length) (n : Nat) (ms : MSt) (ss : SSt) (hrel : Rel surf.shape ms ss) :
    ∀ ev ∈ modelTrace surf (neighbours surf.shape offs) n ms, ev.Good surf.shape offs :=
  (modelRun_rule surf (neighbours surf.shape offs)
    (fun s tr => (∃ ss, Rel surf.shape s ss) ∧ ∀ ev ∈ tr, ev.Good surf.shape offs)
    (fun e acc tr => VInv surf.shape e acc ∧ ∀ ev ∈ tr, ev.Good surf.shape offs)
    (fun _ _ _ h he => h.1.elim fun _ hr => ⟨pop_vinv hr he, h.2⟩)
    (fun e _ _ _ hnb h => ⟨visit_vinv surf e offs hoffs hnb h.1, fun ev hev =>
      (List.mem_append.mp hev).elim (h.2 ev) (visit_good surf e offs hoffs hnb h.1 ev)⟩)
    (fun _ _ _ h => ⟨h.1.1, h.2⟩) n ms [] ⟨⟨ss, hrel⟩, fun _ h => nomatch h⟩).2

theorem cwatershedTrace_good (surf markers : Img Int) (bshape : List Nat) (bc : Array Int)
    (hm : markers.shape = surf.shape) (hb : bshape.length = surf.shape.length) :
    ∀ ev ∈ cwatershedTrace surf markers bshape bc, ev.Good surf.shape (offsets bshape bc) := by
  unfold cwatershedTrace
  apply modelTrace_good surf _ _ _ _ _ (init_rel surf markers hm)
  intro o ho; rw [offsets_length bshape bc o ho, hb]

/-- the visit makes `r` a line pixel: `r` is the neighbour, labelled, queued, and carries another label -/
def SEv.marks (ev : SEv) (r : List Int) : Prop := ev.q = r ∧ ev.lq ≠ 0 ∧ ev.queued = true ∧ ev.lp ≠ ev.lq

structure LSized (s : List Nat) (st : SSt) : Prop where
  nshape : st.lines.shape = s
  nsize : st.lines.data.size = shapeSize s

theorem svisit_lsized (surf : Img Int) (p : List Int) (st : SSt) (o : List Int) (h : LSized surf.shape st) :
    LSized surf.shape (specVisit surf p st o) :=
  specVisit_cases surf p st o (LSized surf.shape) (fun _ => h) (fun _ _ => ⟨h.nshape, h.nsize⟩)
    (fun _ _ _ _ => ⟨(imgSet_shape _ _ _).trans h.nshape, (imgSet_size _ _ _).trans h.nsize⟩) (fun _ _ _ => h)

theorem svisit_lines (surf : Img Int) (p : List Int) (st : SSt) (o : List Int) (h : LSized surf.shape st)
    (r : List Int) :
    (specVisit surf p st o).lines.getD r false = true ↔
      st.lines.getD r false = true ∨ ∃ ev ∈ (specVisitEv surf p st o).toList, ev.marks r := by
  unfold specVisitEv SEv.marks
  refine specVisit_cases surf p st o (fun s => s.lines.getD r false = true ↔ _) ?_ ?_ ?_ ?_
  · intro hin
    simp only [hin, Bool.not_false, if_true, Option.toList_none, List.not_mem_nil, false_and, exists_false,
      or_false]
  all_goals
    intro hin
    simp only [hin, Bool.not_true, Bool.false_eq_true, if_false, Option.toList_some, List.mem_singleton,
      exists_eq_left]
  · exact fun h0 => ⟨Or.inl, fun h' => h'.elim id fun h' => absurd h0 h'.2.1⟩
  · intro h0 hq hd
    have hin' : inside st.lines.shape (addPos p o) = true := by rw [h.nshape]; exact hin
    show (imgSet st.lines (addPos p o) true).getD r false = true ↔ _
    rw [imgSet_getD st.lines (by rw [h.nsize, h.nshape]) (addPos p o) true false hin' r]
    by_cases hr : r = addPos p o
    · exact iff_of_true (if_pos hr) (Or.inr ⟨hr.symm, h0, hq, hd⟩)
    · rw [if_neg hr]
      exact ⟨Or.inl, fun h' => h'.elim id fun h' => absurd h'.1.symm hr⟩
  · exact fun _ hs => ⟨Or.inl, fun h' => h'.elim id fun h' => absurd (hs h'.2.2.1) h'.2.2.2⟩

theorem srun_lines (surf : Img Int) (offs : List (List Int)) (r : List Int) (n : Nat) (st : SSt)
    (hs : LSized surf.shape st) :
    (specRun surf offs n st).lines.getD r false = true ↔
      st.lines.getD r false = true ∨ ∃ ev ∈ specTrace surf offs n st, ev.marks r :=
  (specRun_rule surf offs
    (fun s tr => LSized surf.shape s ∧
      (s.lines.getD r false = true ↔ st.lines.getD r false = true ∨ ∃ ev ∈ tr, ev.marks r))
    (fun _ s tr => LSized surf.shape s ∧
      (s.lines.getD r false = true ↔ st.lines.getD r false = true ∨ ∃ ev ∈ tr, ev.marks r))
    (fun _ _ _ h _ => ⟨⟨h.1.nshape, h.1.nsize⟩, h.2⟩)
    (fun e s tr o _ h => ⟨svisit_lsized surf e.pos s o h.1, by
      rw [svisit_lines surf e.pos s o h.1 r, h.2, exists_mem_append, or_assoc]⟩)
    (fun _ _ _ h => h) n st [] ⟨hs, (or_iff_left fun ⟨_, h, _⟩ => nomatch h).symm⟩).2

theorem stepS_lines (surf markers : Img Int) (st : SSt) (p : List Int) :
    (stepS surf markers st p).lines = st.lines := by
  unfold stepS; simp only; split_ifs <;> rfl

theorem specInit_lines (surf markers : Img Int) : (specInit surf markers).lines = (initS surf).lines := by
  rw [specInit_eq]
  exact foldl_range_rec _ _ (fun _ st => st.lines = (initS surf).lines) rfl
    fun _ st _ h => (stepS_lines surf markers st _).trans h

theorem cwatershedSpec_lines_exact (surf markers : Img Int) (bshape : List Nat) (bc : Array Int)
    (r : List Int) :
    (cwatershedSpec surf markers bshape bc).lines.getD r false = true ↔
      ∃ ev ∈ cwatershedSpecTrace surf markers bshape bc, ev.marks r := by
  have h0 : (specInit surf markers).lines.getD r false = false := by
    rw [specInit_lines]; exact replicateImg_getD _ _ _ r
  unfold cwatershedSpec cwatershedSpecTrace
  rw [srun_lines surf _ r _ _ ⟨by rw [specInit_lines]; rfl, by rw [specInit_lines]; exact Array.size_replicate⟩, h0]
  exact ⟨fun h => h.elim (fun h => nomatch h) id, Or.inr⟩

end Mahotas.C04
