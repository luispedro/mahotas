/-
C05 — the whole-image model with rounded abscissae.

Every value of every pass of `distanceCoord` stays in `[0, sentinel]` (read off the invariant `NdInv` of the passes), so
every line handed to the 1-D kernel is within the numeric bounds of `Proofs/C05Abscissa.lean`, where the kernel with
rounded abscissae selects the owners of the exact one. The passes run with the rounded kernel (`passCoordR`,
`distanceRounded`: proof-side definitions, the driver runs `distanceCoord`/`distanceModel`) therefore return the images
of the exact passes: under the general bound `4·N²·(sentinel + N²) < 2^53`, for the sizes that occur (sides `≤ 2^12`,
sentinel `≤ 2^26`), and at the concrete rounding `rne53` of `Proofs/C05Binary64.lean`.
-/
import Mahotas.Proofs.C05Nd
import Mahotas.Proofs.C05Abscissa
import Mahotas.Proofs.C05Binary64

namespace Mahotas.C05
open Mahotas

/-- all values (and the out-of-image default) lie in `[0, S]` -/
def Bounded (S : Int) (F : Img Int) : Prop := ∀ p, 0 ≤ F.getD p 0 ∧ F.getD p 0 ≤ S

theorem sumSq_nonneg (s : List Nat) : 0 ≤ sumSq s := by
  induction s with
  | nil => exact le_rfl
  | cons a as ih => exact add_nonneg (mul_self_nonneg _) ih

theorem sentinel_nonneg (s : List Nat) : 0 ≤ sentinel s :=
  (sumSq_nonneg s).trans (sumSq_lt_sentinel s).le

theorem line_bounds (S : Int) (hS : 0 ≤ S) (F : Img Int) (hF : Bounded S F) (p : List Int) (ax v : Nat) :
    0 ≤ (lineOf F p ax).getD v 0 ∧ (lineOf F p ax).getD v 0 ≤ S := by
  by_cases hv : v < F.shape.getD ax 0
  · rw [lineOf_getD F p ax v hv]; exact hF _
  · rw [Array.getD_eq_getD_getElem?, Array.getElem?_eq_none (by rw [lineOf_size]; omega)]
    exact ⟨le_rfl, hS⟩

/-- a value is a squared distance plus a start value and is at most the pixel's own start value: start values
    in `[0, S]` keep every value of every pass in `[0, S]` -/
theorem NdInv.bounded {shape : List Nat} {f0 : List Int → Int} {k : Nat} {fo : Img Int × Img Int}
    (h : NdInv shape f0 k fo) (S : Int) (hS : 0 ≤ S)
    (hf0 : ∀ q, inside shape q = true → 0 ≤ f0 q ∧ f0 q ≤ S) : Bounded S fo.1 := by
  intro p
  by_cases hp : inside shape p = true
  · obtain ⟨n, hn, -, -, hval, hlow⟩ := h.at_ p hp
    have h1 := hlow p hp rfl
    rw [sqDist_self, zero_add] at h1
    exact ⟨hval ▸ add_nonneg (sqDist_nonneg _ _) (hf0 _ (C01.inside_unravelI shape n hn)).1,
      h1.trans (hf0 p hp).2⟩
  · rw [getD_of_not_inside fo.1 p 0 (h.shape1 ▸ hp)]; exact ⟨le_rfl, hS⟩

theorem passes_bounded (shape : List Nat) (bw : Array Int) (k : Nat) (hk : k ≤ shape.length) :
    Bounded (sentinel shape) ((List.range k).foldl passCoord (initCoord shape bw)).1 ∧
    ((List.range k).foldl passCoord (initCoord shape bw)).1.shape = shape :=
  have h := passes_inv shape bw k hk
  ⟨h.bounded _ (sentinel_nonneg shape) fun q hq => by
      rw [f0_getD shape bw q hq]; split
      · exact ⟨le_rfl, sentinel_nonneg shape⟩
      · exact ⟨sentinel_nonneg shape, le_rfl⟩, h.shape1⟩

/-- every line the kernel is run on during `distance()` — any pass `k`, any pixel, the axis of that pass —
    is handled identically with rounded abscissae: sides at most `N + 1`, `4·N²·(sentinel + N²) < 2^53` -/
theorem lines_rounded_of_bound (rnd : ℚ → ℚ) (hr : Rounding rnd) (shape : List Nat) (bw : Array Int)
    (N : ℕ) (hside : ∀ d ∈ shape, d ≤ N + 1)
    (hB : 4 * (N : ℚ) ^ 2 * ((sentinel shape : ℚ) + (N : ℚ) ^ 2) < 2 ^ 53)
    (k : Nat) (hk : k < shape.length) (p : List Int) :
    owners1dR rnd (lineOf ((List.range k).foldl passCoord (initCoord shape bw)).1 p k) =
      owners1d (lineOf ((List.range k).foldl passCoord (initCoord shape bw)).1 p k) := by
  obtain ⟨hb, hs⟩ := passes_bounded shape bw k hk.le
  have hl := line_bounds _ (sentinel_nonneg shape) _ hb p k
  refine owners1dR_eq_of_bound rnd hr _ N (sentinel shape) ?_ (fun i => (hl i).1) (fun i => (hl i).2) hB
  rw [lineOf_size, hs]
  exact hside _ (getD_mem hk)

theorem lines_rounded_same (rnd : ℚ → ℚ) (hr : Rounding rnd) (shape : List Nat) (bw : Array Int)
    (hside : ∀ d ∈ shape, d ≤ 2 ^ 12) (hsent : sentinel shape ≤ 2 ^ 26)
    (k : Nat) (hk : k < shape.length) (p : List Int) :
    owners1dR rnd (lineOf ((List.range k).foldl passCoord (initCoord shape bw)).1 p k) =
      owners1d (lineOf ((List.range k).foldl passCoord (initCoord shape bw)).1 p k) := by
  have h : (sentinel shape : ℚ) ≤ 2 ^ 26 := by exact_mod_cast hsent
  refine lines_rounded_of_bound rnd hr shape bw 4095 (fun d hd => (hside d hd).trans (by norm_num)) ?_
    k hk p
  calc 4 * ((4095 : ℕ) : ℚ) ^ 2 * ((sentinel shape : ℚ) + ((4095 : ℕ) : ℚ) ^ 2)
      ≤ 4 * ((4095 : ℕ) : ℚ) ^ 2 * (2 ^ 26 + ((4095 : ℕ) : ℚ) ^ 2) :=
        mul_le_mul_of_nonneg_left (add_le_add h le_rfl) (by positivity)
    _ < 2 ^ 53 := by norm_num

/-- the root chosen by the read-out walk of the kernel with rounded abscissae for abscissa `q`
    (`ownerAt` with `owners1dR rnd` for `owners1d`) -/
def ownerAtR (rnd : ℚ → ℚ) (f : Array Int) (q : Nat) : Nat := (owners1dR rnd f).getD q 0

/-- `dist_transform` with rounded abscissae: `Df[q] = square(q - v[k]) + f[v[k]]`, the owners `v[k]` being
    those of `owners1dR rnd` (`dt1d` with `owners1dR rnd` for `owners1d`) -/
def dt1dR (rnd : ℚ → ℚ) (f : Array Int) : List Int :=
  (List.zip (List.range f.size) (owners1dR rnd f)).map fun qv => valueAt f qv.1 qv.2

/-- one pass along axis `ax`, every line transformed by the kernel with rounded abscissae: values and
    tracked origins (`passCoord` with `ownerAtR rnd` for `ownerAt`) -/
def passCoordR (rnd : ℚ → ℚ) (fo : Img Int × Img Int) (ax : Nat) : Img Int × Img Int :=
  (Img.tabulate fo.1.shape fun p =>
      let line := lineOf fo.1 p ax
      let q := (p.getD ax 0).toNat
      valueAt line q (ownerAtR rnd line q),
   Img.tabulate fo.1.shape fun p =>
      let line := lineOf fo.1 p ax
      let q := (p.getD ax 0).toNat
      fo.2.getD (p.set ax ((ownerAtR rnd line q : Nat) : Int)) 0)

/-- `distance(bw)` with the tracked origins, every abscissa of every kernel call rounded: the initial
    images of `distanceCoord` and the same fold over the axes, with `passCoordR rnd` for `passCoord` -/
def distanceRounded (rnd : ℚ → ℚ) (shape : List Nat) (bw : Array Int) : Img Int × Img Int :=
  (List.range shape.length).foldl (passCoordR rnd) (initCoord shape bw)

theorem dt1dR_eq (rnd : ℚ → ℚ) (f : Array Int) (h : owners1dR rnd f = owners1d f) :
    dt1dR rnd f = dt1d f := by
  unfold dt1dR dt1d
  rw [h]

theorem passCoordR_eq_of_owners (rnd : ℚ → ℚ) (fo : Img Int × Img Int) (ax : Nat)
    (h : ∀ p : List Int, owners1dR rnd (lineOf fo.1 p ax) = owners1d (lineOf fo.1 p ax)) :
    passCoordR rnd fo ax = passCoord fo ax := by
  unfold passCoordR passCoord ownerAtR ownerAt
  simp only [h]

theorem owners1dR_length (rnd : ℚ → ℚ) (f : Array Int) : (owners1dR rnd f).length = f.size := by
  unfold owners1dR
  cases f.size with
  | zero => rfl
  | succ m => exact readOwners_length _ _

theorem dt1dR_getD (rnd : ℚ → ℚ) (f : Array Int) (q : Nat) (hq : q < f.size) :
    (dt1dR rnd f).getD q 0 = valueAt f q (ownerAtR rnd f q) :=
  zip_range_valueAt_getD f _ (owners1dR_length rnd f) q hq

theorem passesR_eq_of_lines (rnd : ℚ → ℚ) (init : Img Int × Img Int) (K : Nat)
    (h : ∀ k < K, ∀ p : List Int,
      owners1dR rnd (lineOf ((List.range k).foldl passCoord init).1 p k) =
        owners1d (lineOf ((List.range k).foldl passCoord init).1 p k)) :
    (List.range K).foldl (passCoordR rnd) init = (List.range K).foldl passCoord init :=
  -- the two loops side by side: after `k` passes the states are equal, and are the exact images
  (foldl_range_rel (passCoordR rnd) passCoord K
    (fun k s t => s = t ∧ t = (List.range k).foldl passCoord init) ⟨rfl, rfl⟩
    fun k s t hk ⟨e1, e2⟩ => by
      subst e1 e2
      exact ⟨passCoordR_eq_of_owners rnd _ k (h k hk), by rw [List.range_succ, List.foldl_append]; rfl⟩).1

/-- For sides `≤ 2¹²` and sentinel `≤ 2²⁶`: on the line of every pass `k` through every pixel, the intersection
    abscissa of any two roots `u < v` is `0` or has magnitude between `2⁻¹³` and `2²⁷` (stated as
    `C05_abscissa_normal_range`). -/
theorem lines_abscissa_normal (shape : List Nat) (bw : Array Int)
    (hside : ∀ d ∈ shape, d ≤ 2 ^ 12) (hsent : sentinel shape ≤ 2 ^ 26)
    (k : Nat) (hk : k < shape.length) (p : List Int) (u v : ℕ) (huv : u < v)
    (hv : v < shape.getD k 0) :
    sInt (gOf (lineOf ((List.range k).foldl passCoord (initCoord shape bw)).1 p k)) u v = 0 ∨
    (1 / 2 ^ 13 ≤ |sInt (gOf (lineOf ((List.range k).foldl passCoord (initCoord shape bw)).1 p k)) u v| ∧
     |sInt (gOf (lineOf ((List.range k).foldl passCoord (initCoord shape bw)).1 p k)) u v| ≤ 2 ^ 27) := by
  obtain ⟨hb, hs⟩ := passes_bounded shape bw k hk.le
  have hd := hside _ (getD_mem hk)
  have hl := line_bounds _ (sentinel_nonneg shape) _ hb p k
  -- the line has at most `2^12` samples in `[0, 2^26]`: magnitudes lie in `[1/(2·4095), 2^26 + 4095²]`
  rcases sInt_zero_or_normal _ (fun i => (lineOf _ p k).getD i 0) 4095 (2 ^ 26 + ((4095 : ℕ) : ℚ) ^ 2)
      (fun _ _ => rfl)
      (abs_add_sq_le_of_range _ 4095 4095 (2 ^ 26) le_rfl (fun i _ => Int.cast_nonneg (hl i).1)
        (fun i _ => by exact_mod_cast (hl i).2.trans hsent))
      u v huv (by omega) with h0 | ⟨h1, h2⟩
  · exact Or.inl h0
  · exact Or.inr ⟨le_trans (by norm_num) h1, h2.trans (by norm_num)⟩

theorem distanceRounded_rne53_eq (shape : List Nat) (bw : Array Int)
    (hside : ∀ d ∈ shape, d ≤ 2 ^ 12) (hsent : sentinel shape ≤ 2 ^ 26) :
    distanceRounded rne53 shape bw = distanceCoord shape bw :=
  passesR_eq_of_lines rne53 _ _ (lines_rounded_same rne53 rne53_rounding shape bw hside hsent)

end Mahotas.C05
