/-
C15 — "the same number of 8-connected components", literally: `SameComps A B` yields a bijection
between the sets of components (quotients of the pixel sets by 8-connectivity), hence equal cardinalities.
-/
import Mahotas.Proofs.C15Model
import Mathlib.SetTheory.Cardinal.Finite
import Mathlib.Data.Set.Finite.Basic
import Mathlib.Data.Set.Finite.Lattice
import Mathlib.Order.Interval.Set.Basic
import Mathlib.Order.Interval.Finset.Defs
import Mathlib.Data.Int.Interval
import Mathlib.Data.Finite.Prod
namespace Mahotas.C15
open Mahotas

def compSetoid (A : Set Px) : Setoid A where
  r x y := Conn A x.1 y.1
  iseqv := ⟨fun x => Conn.refl x.1, fun h => Conn.symm h, fun h1 h2 => Conn.trans h1 h2⟩

/-- the set of 8-connected components of `A` -/
abbrev Comps (A : Set Px) := Quotient (compSetoid A)

/-- the map induced by the inclusion `B ⊆ A` on components -/
def compMap {A B : Set Px} (h : SameComps A B) : Comps B → Comps A :=
  Quotient.lift (fun y : B => (Quotient.mk (compSetoid A) ⟨y.1, h.1 y.2⟩ : Comps A))
    (fun x y hxy => Quotient.sound ((h.2.1 x.1 x.2 y.1 y.2).2 hxy))

theorem compMap_bijective {A B : Set Px} (h : SameComps A B) : Function.Bijective (compMap h) := by
  constructor
  · intro qx qy
    induction qx using Quotient.ind with
    | _ x =>
      induction qy using Quotient.ind with
      | _ y =>
        intro hxy
        have hc : Conn A x.1 y.1 := Quotient.exact hxy
        exact Quotient.sound ((h.2.1 x.1 x.2 y.1 y.2).1 hc)
  · intro qa
    induction qa using Quotient.ind with
    | _ a =>
      obtain ⟨y, hyB, hc⟩ := h.2.2 a.1 a.2
      refine ⟨Quotient.mk _ ⟨y, hyB⟩, ?_⟩
      exact Quotient.sound (Conn.symm hc)

theorem SameComps.card_eq {A B : Set Px} (h : SameComps A B) : Nat.card (Comps B) = Nat.card (Comps A) :=
  Nat.card_congr (Equiv.ofBijective _ (compMap_bijective h))

theorem bset_finite (b : Bin) : (bset b).Finite := by
  apply Set.Finite.subset ((Set.finite_Icc (0 : ℤ) (b.rows : ℤ)).prod (Set.finite_Icc (0 : ℤ) (b.cols : ℤ)))
  intro p hp
  have h := get_inrange b p.1 p.2 hp
  exact ⟨⟨h.1, by omega⟩, ⟨h.2.2.1, by omega⟩⟩

instance comps_finite (b : Bin) : Finite (Comps (bset b)) := by
  have : Finite (bset b) := (bset_finite b).to_subtype
  exact Quotient.finite _

end Mahotas.C15
