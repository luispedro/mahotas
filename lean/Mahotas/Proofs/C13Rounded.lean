/-
C13 — `labeled_sum` and `center_of_mass` over the rounding model of `Proofs/C05Binary64.lean`. The definitions the driver
runs at `Float` (`labeledFold`, `comModelG`) are run here with correctly rounded rational arithmetic, and the exactness
hypotheses of the `Float` theorems (`C13_labeled_sum_float_oracle_eq_model_of_exact`, `C13_com_float_oracle_eq_model_of_exact`;
Lean's `Float` is opaque) are proved: a rounding that leaves the dyadics `k / 2^s`, `|k| ≤ B`, unchanged (`ExactDyadicB`;
round-to-nearest with `p` bits and any tie rule for `B = 2^p`: `exactDyadicB_rndBinP`, declared with `rndBinP` and
`ExactDyadicB` beside `rndBin` in `Proofs/C05Binary64.lean`) accumulates data `k_i / 2^s` without error while the partial sums
stay within `B`. `labeled_sum` accumulates in the dtype of the image (`float` for float32 images, `p = 24`), `center_of_mass`
always in `double`.
-/
import Mahotas.Proofs.C13OraclesFloat
import Mahotas.Proofs.C05Binary64
import Mathlib.Tactic.Positivity
namespace Mahotas.C13
open Mahotas Mahotas.C05

/-- `rnd` leaves every dyadic rational `k / 2^s` with `|k| ≤ 2^53` unchanged (binary64: 53-bit significand,
    exponent range not modelled) -/
def ExactDyadic (rnd : ℚ → ℚ) (s : ℕ) : Prop :=
  ∀ k : ℤ, |(k : ℚ)| ≤ 2 ^ 53 → rnd ((k : ℚ) / 2 ^ s) = (k : ℚ) / 2 ^ s

theorem exactDyadicB_of_exactDyadic (rnd : ℚ → ℚ) (s : ℕ) (h : ExactDyadic rnd s) : ExactDyadicB rnd s (2 ^ 53) := h

theorem exactDyadic_rndBin (n : ℚ → ℤ) (hn : ∀ y, |(n y : ℚ) - y| ≤ 1 / 2) (s : ℕ) :
    ExactDyadic (rndBin n) s := by
  intro k hk
  rw [← rndBinP_53]
  exact exactDyadicB_rndBinP 53 (by norm_num) n hn s k hk

theorem exactDyadic_rne53 (s : ℕ) : ExactDyadic rne53 s := exactDyadic_rndBin roundEven roundEven_near s

/-- the model of `labeled_sum` (`labeledFold`, the definition the driver runs at `Float` with `a + r`)
    instantiated with rounded rational addition -/
def sumRounded (rnd : ℚ → ℚ) (n : Nat) (px : List (ℚ × Int)) : Array ℚ :=
  labeledFold (fun a r => rnd (a + r)) 0 n px

/-- the embedding of the scaled integer data: `k ↦ k / 2^s` (the harness: `s = 3`, data `k/8`) -/
def dy (s : ℕ) (k : Int) : ℚ := (k : ℚ) / 2 ^ s

theorem dy_add (s : ℕ) (a b : Int) : dy s a + dy s b = dy s (a + b) := by
  unfold dy; push_cast; ring

theorem dy_zero (s : ℕ) : dy s 0 = 0 := by simp [dy]

/-- one rounded addition of dyadics is exact while the sum of the numerators stays within the bound -/
theorem ExactDyadicB.add {rnd : ℚ → ℚ} {s : ℕ} {B : ℚ} (hr : ExactDyadicB rnd s B) (a b : Int)
    (h : |((a + b : Int) : ℚ)| ≤ B) : rnd (dy s a + dy s b) = dy s (a + b) := by
  rw [dy_add]; exact hr _ h

/-- `labeled_sum` accumulated with a rounding exact on the dyadics of scale `s` up to `B`: exact while the partial sums
    of the scaled integers stay within `B` -/
theorem sumRounded_exactB (rnd : ℚ → ℚ) (s : ℕ) (B : ℚ) (hr : ExactDyadicB rnd s B) (n : Nat)
    (data labels : List Int) (l : Nat) (hl : l < n)
    (hb : ∀ pre a rest, valuesOf (data.zip labels) (l : Int) = pre ++ a :: rest →
      |((a + pre.sum : Int) : ℚ)| ≤ B) :
    (sumRounded rnd n ((data.map (dy s)).zip labels))[l]? = some (dy s (valuesOf (data.zip labels) (l : Int)).sum) ∧
    (sumRounded rnd n ((data.map (dy s)).zip labels))[l]? =
      ((foldSpec false "sum" n (data.zip labels)).map (dy s))[l]? := by
  have key : (sumRounded rnd n ((data.map (dy s)).zip labels))[l]? =
      some (dy s (valuesOf (data.zip labels) (l : Int)).sum) := by
    rw [sumRounded, ← dy_zero s]
    apply labeledFold_sum_of_exact (fun a r => rnd (a + r)) (dy s) n data labels l hl
    exact fun pre a rest e => hr.add _ _ (hb pre a rest e)
  exact ⟨key, by rw [key, foldSpec_sum_map_slot _ _ _ _ hl]⟩

theorem abs_sum_le_sum_abs : ∀ vs : List Int, |vs.sum| ≤ (vs.map fun v => |v|).sum
  | [] => by simp
  | v :: vs => by
    rw [List.sum_cons, List.map_cons, List.sum_cons]
    exact (abs_add_le v vs.sum).trans (Int.add_le_add_left (abs_sum_le_sum_abs vs) _)

/-- a convenient sufficient bound: the absolute values of the label's data sum to at most `2^53` -/
theorem partial_sums_bounded (vs : List Int) (hb : (vs.map fun v => |v|).sum ≤ 2 ^ 53) :
    ∀ pre a rest, vs = pre ++ a :: rest → |((a + pre.sum : Int) : ℚ)| ≤ 2 ^ 53 := by
  intro pre a rest e
  have h1 : |a + pre.sum| ≤ (vs.map fun v => |v|).sum := by
    rw [e, List.map_append, List.map_cons, List.sum_append, List.sum_cons]
    have h3 := abs_sum_le_sum_abs pre
    have h4 : 0 ≤ (rest.map fun v => |v|).sum := List.sum_nonneg fun x hx => by
      obtain ⟨v, _, rfl⟩ := List.mem_map.mp hx; exact abs_nonneg v
    have h5 := abs_add_le a pre.sum
    omega
  rw [← Int.cast_abs]
  exact_mod_cast h1.trans hb

/-- `NumOps` of correctly rounded rational arithmetic (the kernel works in `double`) -/
def rndOps (rnd : ℚ → ℚ) : NumOps ℚ :=
  { zero := 0, add := fun a b => rnd (a + b), mul := fun a b => rnd (a * b), div := fun a b => rnd (a / b),
    ofNat := fun c => rnd (c : ℚ) }

theorem dy_div (s : ℕ) (a b : Int) : dy s a / dy s b = (a : ℚ) / (b : ℚ) := by
  unfold dy
  exact div_div_div_cancel_right₀ (by positivity) _ _

theorem dy_mul_natCast (s : ℕ) (k : Int) (c : Nat) : dy s k * (c : ℚ) = dy s (k * c) := by
  unfold dy; push_cast; ring

/-- `center_of_mass` accumulated with a rounding exact on the dyadics of scale `s` and on the integers up to `B`: both
    accumulations are exact and the only rounding is the final division. The bounds are asked of the pixels of the image
    (flat indices `i < ks.length`, axes `j < shape.length`) only. -/
theorem comRounded_exactB (rnd : ℚ → ℚ) (s : ℕ) (B : ℚ) (hr : ExactDyadicB rnd s B) (hr0 : ExactDyadicB rnd 0 B)
    (shape : List Nat) (ks labels : List Int) (hnn : ∀ v ∈ labels, 0 ≤ v)
    (hc : ∀ i < ks.length, ∀ j < shape.length, (((unravel shape i).getD j 0 : Nat) : ℚ) ≤ B)
    (hprod : ∀ i < ks.length, ∀ j < shape.length,
      |((ks.getD i 0 * ((unravel shape i).getD j 0 : Nat) : Int) : ℚ)| ≤ B)
    (htot : ∀ (l : Nat) (pre : List Nat) (i : Nat) (rest : List Nat),
      ((List.range ks.length).filter fun i => labels.getD i 0 == (l : Int)) = pre ++ i :: rest →
      |(((pre.map fun i => ks.getD i 0).sum + ks.getD i 0 : Int) : ℚ)| ≤ B)
    (hrow : ∀ (l j : Nat), j < shape.length → ∀ (pre : List Nat) (i : Nat) (rest : List Nat),
      ((List.range ks.length).filter fun i => labels.getD i 0 == (l : Int)) = pre ++ i :: rest →
      |(((pre.map fun i => ks.getD i 0 * ((unravel shape i).getD j 0 : Nat)).sum +
          ks.getD i 0 * ((unravel shape i).getD j 0 : Nat) : Int) : ℚ)| ≤ B) :
    comModelG (rndOps rnd) shape (ks.map (dy s)) labels =
      (comSpec shape ks labels).map fun nd => rnd ((nd.1 : ℚ) / (nd.2 : ℚ)) := by
  rw [comModelG_of_exact (rndOps rnd) (dy s) shape ks labels hnn (dy_zero s)]
  · exact List.map_congr_left fun nd _ => congrArg rnd (dy_div s nd.1 nd.2)
  · exact fun l pre i rest e => hr.add _ _ (htot l pre i rest e)
  · intro l j hj pre i rest e
    -- `i` is a pixel of the image
    have hi : i < ks.length := List.mem_range.1 (List.mem_filter.1 (e ▸ List.mem_append_right pre List.mem_cons_self :
      i ∈ (List.range ks.length).filter fun i => labels.getD i 0 == (l : Int))).1
    show rnd (dy s _ + rnd (dy s (ks.getD i 0) * rnd (((unravel shape i).getD j 0 : Nat) : ℚ))) = _
    -- the coordinate and the product are exact, then the sum is
    have h1 := hr0 (((unravel shape i).getD j 0 : Nat) : ℤ) (by
      rw [Int.cast_natCast, abs_of_nonneg (Nat.cast_nonneg _)]; exact hc i hi j hj)
    rw [pow_zero, div_one, Int.cast_natCast] at h1
    have h2 : rnd (dy s (ks.getD i 0 * ((unravel shape i).getD j 0 : Nat))) = dy s _ := hr _ (hprod i hi j hj)
    rw [h1, dy_mul_natCast, h2]
    exact hr.add _ _ (hrow l j hj pre i rest e)

end Mahotas.C13
