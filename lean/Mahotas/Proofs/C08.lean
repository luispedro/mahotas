/-
C08 — the accessor layer addresses the logical element, for any strides.

The iterator after `k` increments (`incrN_eq`), `at_flat(k)` and `flat_to_pos(k)` are at C-order position `unravel k`. The
C++ loops produce the coordinates fastest axis first (`unravelLE`); `unravelLE_reverse` turns them into `unravel`.
`toImg mem v` is the logical array a (memory, view) pair presents; a whole-array read through the iterator or `at_flat`
delivers it.
-/
import Mahotas.Model.C08Base
import Mahotas.Proofs.ListLemmas
import Mahotas.Proofs.FilterIterOdo
import Mathlib.Tactic.Ring
namespace Mahotas.C08
open Mahotas

-- `c = p % dim(d); p /= dim(d)`: the digits the accessor loops produce, fastest axis first; `unravelLE_eq`: the same function
-- as `FilterIter.unravelLE`
def unravelLE : List Nat → Nat → List Nat
  | [], _ => []
  | d :: ds, k => (k % d) :: unravelLE ds (k / d)

theorem shapeSize_cons_pos {d : Nat} {ds : List Nat} {k : Nat} (hk : k < shapeSize (d :: ds)) :
    0 < d ∧ 0 < shapeSize ds := by
  have := Nat.pos_of_ne_zero (Nat.ne_of_gt (Nat.lt_of_le_of_lt (Nat.zero_le k) hk))
  exact ⟨Nat.pos_of_mul_pos_right this, Nat.pos_of_mul_pos_left this⟩

theorem unravelLE_length (ds : List Nat) (k : Nat) : (unravelLE ds k).length = ds.length := by
  induction ds generalizing k with
  | nil => rfl
  | cons d ds ih => simp [unravelLE, ih]

theorem unravelLE_eq : ∀ (ds : List Nat) (k : Nat), unravelLE ds k = FilterIter.unravelLE ds k
  | [], _ => rfl
  | d :: ds, k => congrArg (k % d :: ·) (unravelLE_eq ds (k / d))

theorem unravelLE_reverse (shape : List Nat) (k : Nat) (hk : k < shapeSize shape) :
    unravelLE shape.reverse k = (unravel shape k).reverse := by
  rw [unravelLE_eq, ← FilterIter.unravelLE_reverse shape k hk, List.reverse_reverse]

theorem dot_nil_right (ss : List Int) : dot ss [] = 0 := by cases ss <;> rfl

theorem dot_append_one (a : List Int) (b : List Nat) (x : Int) (y : Nat) (h : a.length = b.length) :
    dot (a ++ [x]) (b ++ [y]) = dot a b + x * (y : Int) := by
  induction a generalizing b with
  | nil =>
    cases b with
    | nil => exact (Int.add_zero _).trans (Int.zero_add _).symm
    | cons _ _ => cases h
  | cons s ss ih =>
    cases b with
    | nil => cases h
    | cons p ps =>
      simp only [List.cons_append, dot]
      rw [ih ps (Nat.succ.inj h), Int.add_assoc]

theorem dot_reverse (a : List Int) (b : List Nat) (h : a.length = b.length) :
    dot a.reverse b.reverse = dot a b := by
  induction a generalizing b with
  | nil => cases b <;> rfl
  | cons s ss ih =>
    cases b with
    | nil => cases h
    | cons p ps =>
      have hl : ss.length = ps.length := Nat.succ.inj h
      rw [List.reverse_cons, List.reverse_cons,
        dot_append_one _ _ _ _ (by rw [List.length_reverse, List.length_reverse, hl]), ih ps hl]
      exact Int.add_comm _ _

theorem dot_cStrides (shape : List Nat) (k : Nat) (hk : k < shapeSize shape) :
    dot (cStrides shape) (unravel shape k) = (k : Int) := by
  induction shape generalizing k with
  | nil =>
    simp [shapeSize] at hk
    simp [cStrides, unravel, dot, hk]
  | cons d ds ih =>
    simp only [cStrides, unravel, dot]
    rw [ih _ (Nat.mod_lt _ (shapeSize_cons_pos hk).2)]
    exact_mod_cast Nat.div_add_mod k (shapeSize ds)

theorem addr_cStrides (v : View) (hs : v.strides = cStrides v.shape) (k : Nat) (hk : k < shapeSize v.shape) :
    v.addr (unravel v.shape k) = v.base + (k : Int) := by
  unfold View.addr
  rw [hs, dot_cStrides _ _ hk]

theorem atFlatGo_eq (ds : List Nat) (ss : List Int) (p : Nat) (b : Int) :
    atFlatGo ds ss p b = b + dot ss (unravelLE ds p) := by
  induction ds generalizing ss p b with
  | nil => cases ss <;> exact (Int.add_zero b).symm
  | cons d ds ih =>
    cases ss with
    | nil => exact (Int.add_zero b).symm
    | cons s ss =>
      simp only [atFlatGo, unravelLE, dot]
      rw [ih, Int.add_assoc, Int.mul_comm]

/-- a well-formed view: one stride per axis, and the `carray` flag only on C-contiguous strides. numpy also sets the flag
when an axis of length 1 carries another stride (`np.ones((4,3))[::2][:1]`: shape (1,3), strides (48,8)); such a view is
not `WF`, although its address map is as flat as `atFlat_eq_addr` needs. -/
structure View.WF (v : View) : Prop where
  len : v.strides.length = v.shape.length
  carray : v.carray = true → v.strides = cStrides v.shape

theorem unravelLE_addr (v : View) (h : v.strides.length = v.shape.length) (k : Nat) (hk : k < shapeSize v.shape) :
    v.base + dot v.strides.reverse (unravelLE v.shape.reverse k) = v.addr (unravel v.shape k) := by
  rw [unravelLE_reverse _ _ hk, dot_reverse _ _ (by rw [unravel_length]; exact h)]
  rfl

theorem atFlat_eq_addr (v : View) (wf : v.WF) (p : Nat) (hp : p < shapeSize v.shape) :
    v.atFlat p = v.addr (unravel v.shape p) := by
  unfold View.atFlat
  split
  · rename_i hc
    unfold View.addr
    rw [wf.carray hc, dot_cStrides _ _ hp]
  · rw [atFlatGo_eq, unravelLE_addr v wf.len p hp]

theorem unravelLE_zero (ds : List Nat) : unravelLE ds 0 = ds.map (fun _ => 0) := by
  induction ds with
  | nil => rfl
  | cons d ds ih => simp [unravelLE, ih]

theorem dot_zeros (ss : List Int) (ds : List Nat) : dot ss (ds.map (fun _ => 0)) = 0 := by
  induction ss generalizing ds with
  | nil => cases ds <;> rfl
  | cons s ss ih =>
    cases ds with
    | nil => rfl
    | cons d ds => simp [dot, ih]

/-- one `operator++`. `cum` is arbitrary: the induction over the axes meets the constructor loop started at any `cummul` -/
theorem incrGo_eq (ds : List Nat) (rs : List Int) (cum : Int) (k : Nat) (data : Int)
    (hl : rs.length = ds.length) (hk : k + 1 < shapeSize ds) :
    incrGo (mkSteps rs ds cum) ds (unravelLE ds k) data =
      (unravelLE ds (k + 1), data + dot rs (unravelLE ds (k + 1)) - dot rs (unravelLE ds k) - cum) := by
  induction ds generalizing rs cum k data with
  | nil => exact absurd hk (by simp [shapeSize])
  | cons d ds ih =>
    cases rs with
    | nil => simp at hl
    | cons s rs =>
      have hd := (shapeSize_cons_pos (Nat.lt_of_succ_lt hk)).1
      simp only [mkSteps, unravelLE, incrGo, dot]
      have hsd := FilterIter.succ_divmod k d hd
      by_cases hc : k % d + 1 = d
      · -- carry into the next axis
        obtain ⟨hm, hq⟩ := hsd.2 (by omega)
        have hcast : ((k % d : Nat) : Int) = (d : Int) - 1 := by omega
        rw [if_neg (not_not.2 hc), ih rs _ (k / d) _ (Nat.succ.inj hl) (hq ▸ Nat.div_lt_of_lt_mul hk), hm, hq, hcast]
        congr 1
        push_cast
        ring
      · obtain ⟨hm, hq⟩ := hsd.1 (by have := Nat.mod_lt k hd; omega)
        rw [if_pos hc, hm, hq]
        congr 1
        push_cast
        ring

theorem incrN_eq (v : View) (h : v.strides.length = v.shape.length) (k : Nat) (hk : k < shapeSize v.shape) :
    (Iter.begin v).incrN k =
      { data := v.base + dot v.strides.reverse (unravelLE v.shape.reverse k)
        steps := mkSteps v.strides.reverse v.shape.reverse 0
        dims := v.shape.reverse
        pos := unravelLE v.shape.reverse k } := by
  induction k with
  | zero =>
    simp only [Iter.incrN, Iter.begin, unravelLE_zero, dot_zeros, Int.add_zero]
  | succ k ih =>
    have hk' : k < shapeSize v.shape := by omega
    simp only [Iter.incrN, ih hk', Iter.incr]
    rw [incrGo_eq _ _ _ _ _ (by simpa using h) (by rw [shapeSize_reverse]; exact hk)]
    simp only [Iter.mk.injEq, and_true]
    ring

/-- F7 (`iterator_base`) -/
theorem incrN_data (v : View) (h : v.strides.length = v.shape.length) (k : Nat) (hk : k < shapeSize v.shape) :
    ((Iter.begin v).incrN k).data = v.addr (unravel v.shape k) := by
  rw [incrN_eq v h k hk]
  exact unravelLE_addr v h k hk

theorem incrN_position (v : View) (h : v.strides.length = v.shape.length) (k : Nat) (hk : k < shapeSize v.shape) :
    ((Iter.begin v).incrN k).position = unravel v.shape k := by
  rw [incrN_eq v h k hk]
  simp only [Iter.position]
  rw [unravelLE_reverse _ _ hk, List.reverse_reverse]

theorem flatToPosGo_eq (ds : List Nat) (k : Nat) :
    flatToPosGo ds (k : Int) = ((unravelLE ds k).map Int.ofNat, ((k / shapeSize ds : Nat) : Int)) := by
  induction ds generalizing k with
  | nil => simp [flatToPosGo, unravelLE, shapeSize]
  | cons d ds ih =>
    simp only [flatToPosGo, unravelLE, shapeSize, List.map_cons]
    have h1 : Int.tdiv (k : Int) (d : Int) = ((k / d : Nat) : Int) := by
      rw [Int.tdiv_eq_ediv_of_nonneg (by omega)]; rfl
    have h2 : Int.tmod (k : Int) (d : Int) = ((k % d : Nat) : Int) := by
      rw [Int.tmod_eq_emod_of_nonneg (by omega)]; rfl
    rw [h1, h2, ih, Nat.div_div_eq_div_mul]
    rfl

theorem reverse_unravelI (shape : List Nat) (k : Nat) (hk : k < shapeSize shape) :
    (unravelI shape k).reverse = (unravelLE shape.reverse k).map Int.ofNat := by
  unfold unravelI
  rw [← List.map_reverse, unravelLE_reverse _ _ hk]

theorem flatToPos_unravel (v : View) (k : Nat) (hk : k < shapeSize v.shape) :
    v.flatToPos (k : Int) = unravelI v.shape k := by
  unfold View.flatToPos
  rw [flatToPosGo_eq]
  simp only [shapeSize_reverse, Nat.div_eq_of_lt hk, ← reverse_unravelI _ _ hk, List.reverse_reverse]
  split
  · rename_i h _
    rw [if_neg (not_not.2 Int.natCast_zero), h]
  · rfl

/-- the logical array a (memory, view) pair presents -/
def toImg {α : Type} (mem : Int → α) (v : View) : Img α := { shape := v.shape, data := (logical mem v).toArray }

theorem readIter_eq {α} (mem : Int → α) (v : View) (h : v.strides.length = v.shape.length) (i : Nat)
    (hi : i < shapeSize v.shape) : readIter mem v i = mem (v.addr (unravel v.shape i)) :=
  congrArg mem (incrN_data v h i hi)

theorem readAtFlat_eq {α} (mem : Int → α) (v : View) (wf : v.WF) (i : Nat) (hi : i < shapeSize v.shape) :
    readAtFlat mem v i = mem (v.addr (unravel v.shape i)) :=
  congrArg mem (atFlat_eq_addr v wf i hi)

theorem filtVals_eq {α : Type} (mF : Int → α) (vF : View) (wf : vF.WF) : filtVals mF vF = logical mF vF :=
  List.map_congr_left fun k hk => readIter_eq mF vF wf.len k (List.mem_range.1 hk)

theorem flatImg_eq {α : Type} (mem : Int → α) (v : View) (wf : v.WF) : flatImg mem v = toImg mem v :=
  congrArg (fun l => Img.mk v.shape l.toArray)
    (List.map_congr_left fun k hk => readAtFlat_eq mem v wf k (List.mem_range.1 hk))

end Mahotas.C08
