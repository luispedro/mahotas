/-
C16 — Riddler–Calvard in rounded arithmetic.

`rcLoop`/`rcGen` instantiated with the rounded-rational arithmetic `Rd rnd` of `Proofs/C16Rd.lean`
(any `Rounding`, binary64 in particular).  Each midpoint is computed afresh from exact integer sums by
four operations, so its relative error is at most `4u` (`u = 2^-53`); the loop follows the stopping rule
on the ROUNDED midpoints; when every exact comparison `m(t) ≤ t+1` up to the exact stopping level has
a margin above `4u·m(t)` the rounded loop stops at the same level and returns the exact value up to `4u`
relative.
-/
import Mahotas.Proofs.C16Rc
import Mahotas.Proofs.C16Rd
namespace Mahotas.C16
open Mahotas Mahotas.C05

/-- the midpoint as the loop body computes it in rounded arithmetic (counts exact) -/
def rcMidR (rnd : ℚ → ℚ) (hist : List Nat) (t : Nat) : ℚ :=
  rnd (rnd (rnd ((sBOf hist t : ℚ) / (nBOf hist t : ℚ)) +
    rnd (((sBOf hist (hist.length - 1) - sBOf hist t : ℕ) : ℚ) / (nOOf hist t : ℚ))) / 2)

section
variable {rnd : ℚ → ℚ}

theorem rcMidR_err (hr : Rounding rnd) (hist : List Nat) (t : Nat) :
    |rcMidR rnd hist t - rcMid hist t| ≤ 4 * u53 * rcMid hist t :=
  rnd_midpoint hr _ _ (div_nonneg (Nat.cast_nonneg _) (Nat.cast_nonneg _))
    (div_nonneg (Nat.cast_nonneg _) (Nat.cast_nonneg _))

/-- **rc in rounded arithmetic follows the stopping rule on the rounded midpoints**: every count
    converted is exact, so the guard compares `t` itself and the body computes `rcMidR` -/
theorem rcGenR_spec (hr : Rounding rnd) (hist : List Nat) (hne : ∃ v ∈ hist, v ≠ 0)
    (hN : nBOf hist (hist.length - 1) ≤ 2 ^ 53)
    (hF : sBOf hist (hist.length - 1) ≤ 2 ^ 53) :
    RcRule (rcMidR rnd hist) hist (Rd.val rnd (rcGen (α := Rd rnd) (rdCast rnd) hist)) := by
  have hhF := hi_le_moment hist hne
  have cT : ∀ t, t ≤ lastNonzero hist → rnd ((t : ℕ) : ℚ) = (t : ℚ) := fun t ht =>
    rnd_nat hr t (by omega)
  refine rcLoop_rule (rdCast rnd) (Rd.val rnd) _ hist hne (fun t res ht => ?_) (cT _ le_rfl) (fun t ht h1 h2 => ?_)
  · rw [Rd.lt_iff, Rd.val_cast, cT t ht.le]
  · simp only [Rd.val_div, Rd.val_add, Rd.val_cast]
    rw [rnd_nat hr _ ((sB_le_total hist ht).trans hF),
      rnd_nat hr _ ((nB_le_total hist ht).trans hN), rnd_nat hr _ ((sO_le_total hist t).trans hF),
      rnd_nat hr _ ((nO_le_total hist t).trans hN), rnd_nat hr 2 (by norm_num), Nat.cast_ofNat]
    rfl

/-- **rc: same stopping level, value within `4u` relative**, when the exact comparisons have a margin.
    If every exact comparison `m(t) ≤ t + 1` made up to the exact stopping level `ts` (inclusive) is
    decided with a margin above `4u·m(t)`, the rounded loop stops at the same level and
    `|r̂ − r| ≤ 4u·r`. -/
theorem rcGenR_close (hr : Rounding rnd) (hist : List Nat) (hne : ∃ v ∈ hist, v ≠ 0)
    (hN : nBOf hist (hist.length - 1) ≤ 2 ^ 53)
    (hF : sBOf hist (hist.length - 1) ≤ 2 ^ 53)
    (hmargin : ∀ t, loOf hist ≤ t → t < lastNonzero hist →
      (∀ s, loOf hist ≤ s → s < t → (s : ℚ) + 1 < rcMid hist s) →
      4 * u53 * rcMid hist t < |rcMid hist t - ((t : ℚ) + 1)|) :
    |Rd.val rnd (rcGen (α := Rd rnd) (rdCast rnd) hist) - rcGen ratCast hist| ≤
      4 * u53 * rcGen ratCast hist := by
  have hR := rcGenR_spec hr hist hne hN hF
  have hE := rcGen_spec hist hne
  have hlh := lo_le_hi hist hne
  by_cases e : loOf hist = lastNonzero hist
  · rw [hR.1 e, hE.1 e, sub_self, abs_zero]
    exact mul_nonneg (mul_nonneg (by norm_num) u53_pos.le) (Nat.cast_nonneg _)
  · obtain ⟨ts, a1, a2, a3, a4, a5⟩ := hE.2 (by omega)
    obtain ⟨tr, b1, b2, b3, b4, b5⟩ := hR.2 (by omega)
    -- up to `ts` every decision on the rounded midpoint is the exact one
    have hdec : ∀ t, loOf hist ≤ t → t ≤ ts →
        ((t : ℚ) + 1 < rcMidR rnd hist t ↔ (t : ℚ) + 1 < rcMid hist t) := fun t h1 h2 =>
      Rounded.lt_iff_of_close (εa := 0) (by rw [sub_self, abs_zero]) (rcMidR_err hr hist t)
        (by rw [zero_add, abs_sub_comm]; exact hmargin t h1 (by omega) (fun s hs1 hs2 => a5 s hs1 (by omega)))
    have hts : tr = ts := by
      rcases Nat.lt_trichotomy tr ts with h | h | h
      · rcases b4 with b4 | b4
        · exact absurd ((hdec tr b1 h.le).2 (a5 tr b1 h)) (not_lt.2 b4)
        · omega
      · exact h
      · exact absurd ((hdec ts a1 le_rfl).1 (b5 ts a1 h)) (not_lt.2 a4)
    rw [b3, a3, hts]
    exact rcMidR_err hr hist ts

end
end Mahotas.C16
