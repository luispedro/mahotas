/-
C05 — a concrete rounding with the properties of the interface `Rounding` of `Proofs/Rounded.lean`: round to nearest
with a 53-bit significand, and the same with `p` bits.

`C13.rndBinP p n x` rounds the rational `x` to the nearest multiple of `ulpP p x = 2^(⌊log₂|x|⌋ − (p − 1))` — the spacing of
the `p`-bit binary numbers in the binade `[2^e, 2^(e+1))` of `|x|` — the integer `n (x / ulpP p x)` being chosen by a
nearest-integer function `n` (any tie rule). It is monotone (`rndBinP_mono`), has relative error at most `2^-p`
(`rndBinP_rel`) and leaves every `k / 2^s` with `|k| ≤ 2^p` unchanged (`exactDyadicB_rndBinP`). `rndBin` is the case
`p = 53` (`rndBinP_53`), a `Rounding` for every such `n` (`rndBin_rounding`). `rne53 = rndBin roundEven` is IEEE-754
binary64 `roundTiesToEven` with an UNBOUNDED exponent range: it agrees with the hardware rounding of a real number
whose magnitude lies in the normal range `[2^-1022, 2^1024)` (no overflow to infinity, no subnormal spacing) and maps 0
to 0. Bit patterns are not modelled. The `p`-bit family is in namespace `C13`, whose rounded centre of mass names it in
its statements.
-/
import Mahotas.Proofs.Rounded
import Mathlib.Data.Int.Log
import Mathlib.Data.Rat.Floor
import Mathlib.Algebra.Order.Floor.Ring
import Mathlib.Tactic.SplitIfs

namespace Mahotas.C05
open Mahotas

/-- nearest integer, ties to even -/
def roundEven (y : ℚ) : ℤ :=
  if y - (⌊y⌋ : ℚ) < 1 / 2 then ⌊y⌋
  else if 1 / 2 < y - (⌊y⌋ : ℚ) then ⌊y⌋ + 1
  else if ⌊y⌋ % 2 = 0 then ⌊y⌋ else ⌊y⌋ + 1

theorem roundEven_near (y : ℚ) : |(roundEven y : ℚ) - y| ≤ 1 / 2 := by
  have h0 : 0 ≤ y - ⌊y⌋ := sub_nonneg.2 (Int.floor_le y)
  have h1 : y - ⌊y⌋ < 1 := sub_lt_iff_lt_add'.2 (Int.lt_floor_add_one y)
  have lo : |(⌊y⌋ : ℚ) - y| = y - ⌊y⌋ := by rw [abs_sub_comm, abs_of_nonneg h0]
  have hi : |((⌊y⌋ + 1 : ℤ) : ℚ) - y| = 1 - (y - ⌊y⌋) := by
    rw [Int.cast_add, Int.cast_one, abs_of_nonneg (by linarith)]; ring
  unfold roundEven
  split_ifs with a b c
  · rw [lo]; exact a.le
  · rw [hi]; linarith
  · rw [lo]; exact not_lt.1 b
  · rw [hi]; linarith

theorem roundEven_tie_even (y : ℚ) (h : y - (⌊y⌋ : ℚ) = 1 / 2) : roundEven y % 2 = 0 := by
  unfold roundEven
  rw [h]
  simp only [lt_irrefl, if_false]
  split_ifs with h2
  · exact h2
  · omega

theorem eq_of_abs_sub_lt_one {a b : ℤ} (h : |(a : ℚ) - b| < 1) : a = b := by
  rw [← Int.cast_sub, ← Int.cast_abs, ← Int.cast_one, Int.cast_lt] at h
  exact sub_eq_zero.1 (Int.abs_lt_one_iff.1 h)

section
variable (n : ℚ → ℤ) (hn : ∀ y, |(n y : ℚ) - y| ≤ 1 / 2)
include hn

theorem nearest_int (k : ℤ) : n (k : ℚ) = k :=
  eq_of_abs_sub_lt_one ((hn k).trans_lt one_half_lt_one)

theorem nearest_mono (y y' : ℚ) (h : y ≤ y') :
    n y ≤ n y' := by
  rcases h.eq_or_lt with rfl | hlt
  · exact le_rfl
  · -- `n y ≤ y + 1/2 < y' + 1/2 ≤ n y' + 1`
    have a := (abs_le.1 (hn y)).2
    have b := (abs_le.1 (hn y')).1
    have : (n y : ℚ) < ((n y' + 1 : ℤ) : ℚ) := by push_cast; linarith
    exact Int.lt_add_one_iff.1 (Int.cast_lt.1 this)

/-- a nearest-integer function does not cross an integer -/
theorem nearest_ge (a : ℤ) (y : ℚ) (h : (a : ℚ) ≤ y) :
    a ≤ n y := by
  have := nearest_mono n hn _ _ h
  rwa [nearest_int n hn] at this

theorem nearest_le (b : ℤ) (y : ℚ) (h : y ≤ (b : ℚ)) :
    n y ≤ b := by
  have := nearest_mono n hn _ _ h
  rwa [nearest_int n hn] at this

end

/-- round `x` to the nearest multiple of `2^(⌊log₂|x|⌋ − 52)`, the integer quotient chosen by `n` -/
def rndBin (n : ℚ → ℤ) (x : ℚ) : ℚ :=
  (n (x / (2 : ℚ) ^ (Int.log 2 |x| - 52)) : ℚ) * (2 : ℚ) ^ (Int.log 2 |x| - 52)

/-- IEEE-754 binary64 `roundTiesToEven` of a rational, exponent range unbounded -/
def rne53 (x : ℚ) : ℚ := rndBin roundEven x

theorem binade (x : ℚ) (hx : x ≠ 0) :
    (2 : ℚ) ^ Int.log 2 |x| ≤ |x| ∧ |x| < (2 : ℚ) ^ (Int.log 2 |x| + 1) := by
  have hpos : 0 < |x| := abs_pos.2 hx
  have h1 := Int.zpow_log_le_self (b := 2) (r := |x|) (by norm_num) hpos
  have h2 := Int.lt_zpow_succ_log_self (b := 2) (by norm_num) |x|
  rw [Nat.cast_ofNat] at h1 h2
  exact ⟨h1, h2⟩

theorem two_zpow_mono (a b : ℤ) (h : a ≤ b) : (2 : ℚ) ^ a ≤ (2 : ℚ) ^ b :=
  zpow_le_zpow_right₀ (by norm_num) h

end Mahotas.C05

namespace Mahotas.C13
open Mahotas Mahotas.C05

/-- the spacing of the `p`-bit binary numbers in the binade of `|x|` -/
def ulpP (p : ℕ) (x : ℚ) : ℚ := (2 : ℚ) ^ (Int.log 2 |x| - ((p : ℤ) - 1))

/-- round `x` to the nearest multiple of `ulpP p x = 2^(⌊log₂|x|⌋ − (p − 1))`, the integer quotient chosen by `n`
    (`p` significand bits, exponent range unbounded); `rndBinP 53 = rndBin` -/
def rndBinP (p : ℕ) (n : ℚ → ℤ) (x : ℚ) : ℚ :=
  (n (x / (2 : ℚ) ^ (Int.log 2 |x| - ((p : ℤ) - 1))) : ℚ) * (2 : ℚ) ^ (Int.log 2 |x| - ((p : ℤ) - 1))

theorem rndBinP_eq (p : ℕ) (n : ℚ → ℤ) (x : ℚ) : rndBinP p n x = (n (x / ulpP p x) : ℚ) * ulpP p x := rfl

theorem rndBinP_53 (n : ℚ → ℤ) (x : ℚ) : rndBinP 53 n x = rndBin n x := by
  unfold rndBinP rndBin
  norm_num

theorem ulpP_pos (p : ℕ) (x : ℚ) : 0 < ulpP p x := zpow_pos (by norm_num) _

theorem ulpP_congr (p : ℕ) {x y : ℚ} (he : Int.log 2 |x| = Int.log 2 |y|) : ulpP p x = ulpP p y := by
  unfold ulpP; rw [he]

theorem two_pow_mul_ulpP (p : ℕ) (x : ℚ) : 2 ^ p * ulpP p x = (2 : ℚ) ^ (Int.log 2 |x| + 1) := by
  rw [ulpP, ← zpow_natCast, ← zpow_add₀ two_ne_zero]; congr 1; ring

theorem two_pow_pred_mul_ulpP (p : ℕ) (hp : 1 ≤ p) (x : ℚ) : 2 ^ (p - 1) * ulpP p x = (2 : ℚ) ^ Int.log 2 |x| := by
  rw [ulpP, ← zpow_natCast, ← zpow_add₀ two_ne_zero, Nat.cast_pred hp]; congr 1; ring

section
variable (p : ℕ) (hp : 1 ≤ p) (n : ℚ → ℤ) (hn : ∀ y, |(n y : ℚ) - y| ≤ 1 / 2)
include hn

theorem rndBinP_nonneg (x : ℚ) (hx : 0 ≤ x) : 0 ≤ rndBinP p n x :=
  have hU := ulpP_pos p x
  mul_nonneg (Int.cast_nonneg (nearest_ge n hn 0 _ (by rw [Int.cast_zero]; exact div_nonneg hx hU.le))) hU.le

theorem rndBinP_nonpos (x : ℚ) (hx : x ≤ 0) : rndBinP p n x ≤ 0 :=
  have hU := ulpP_pos p x
  mul_nonpos_of_nonpos_of_nonneg
    (Int.cast_nonpos.2 (nearest_le n hn 0 _ (by rw [Int.cast_zero]; exact div_nonpos_of_nonpos_of_nonneg hx hU.le)))
    hU.le

theorem rndBinP_mono_same (x y : ℚ) (h : x ≤ y)
    (he : Int.log 2 |x| = Int.log 2 |y|) : rndBinP p n x ≤ rndBinP p n y := by
  rw [rndBinP_eq, rndBinP_eq, ulpP_congr p he]
  have hU := ulpP_pos p y
  have := nearest_mono n hn _ _ (div_le_div_of_nonneg_right h hU.le)
  exact mul_le_mul_of_nonneg_right (by exact_mod_cast this) hU.le

theorem rndBinP_zero : rndBinP p n 0 = 0 := by
  rw [rndBinP_eq, zero_div, show n 0 = 0 by simpa using nearest_int n hn 0, Int.cast_zero, zero_mul]

theorem rndBinP_of_multiple (x : ℚ) (m : ℤ) (hm : x = (m : ℚ) * ulpP p x) : rndBinP p n x = x := by
  have hq : x / ulpP p x = (m : ℚ) := by
    rw [div_eq_iff (ulpP_pos p x).ne']; exact hm
  rw [rndBinP_eq, hq, nearest_int n hn, ← hm]

/-- **relative error at most `2^-p`** (half an ulp, the ulp being at most `|x|·2^-(p-1)`) -/
theorem rndBinP_rel (x : ℚ) :
    |rndBinP p n x - x| ≤ |x| / 2 ^ p := by
  rcases eq_or_ne x 0 with rfl | hx0
  · rw [rndBinP_zero p n hn, sub_self, abs_zero, zero_div]
  have hU := ulpP_pos p x
  have hdiff : rndBinP p n x - x = ((n (x / ulpP p x) : ℚ) - x / ulpP p x) * ulpP p x := by
    rw [sub_mul, div_mul_cancel₀ x hU.ne', rndBinP_eq]
  rw [hdiff, abs_mul, abs_of_pos hU, le_div_iff₀ (pow_pos two_pos p)]
  calc _ ≤ 1 / 2 * ulpP p x * 2 ^ p :=
        mul_le_mul_of_nonneg_right (mul_le_mul_of_nonneg_right (hn _) hU.le) (pow_pos two_pos p).le
    _ = (2 : ℚ) ^ Int.log 2 |x| := by
        rw [mul_assoc, mul_comm (ulpP p x), two_pow_mul_ulpP, zpow_add_one₀ two_ne_zero]; ring
    _ ≤ |x| := (binade x hx0).1

include hp

/-- for `x > 0` in the binade `e` the quotient `x / ulp` lies in `[2^(p-1), 2^p)`, so the integer nearest
    to it lies in `[2^(p-1), 2^p]`; for `x < 0` symmetrically -/
theorem signifP_pos (x : ℚ) (hx : 0 < x) : 2 ^ (p - 1) ≤ n (x / ulpP p x) ∧ n (x / ulpP p x) ≤ 2 ^ p := by
  have hU := ulpP_pos p x
  obtain ⟨h1, h2⟩ := binade x hx.ne'
  rw [← two_pow_pred_mul_ulpP p hp, abs_of_pos hx] at h1
  rw [← two_pow_mul_ulpP p, abs_of_pos hx] at h2
  exact ⟨nearest_ge n hn (2 ^ (p - 1)) _ ((le_div_iff₀ hU).2 (by push_cast; exact h1)),
    nearest_le n hn (2 ^ p) _ ((div_le_iff₀ hU).2 (by push_cast; exact h2.le))⟩

theorem signifP_neg (x : ℚ) (hx : x < 0) : -(2 ^ p) ≤ n (x / ulpP p x) ∧ n (x / ulpP p x) ≤ -(2 ^ (p - 1)) := by
  have hU := ulpP_pos p x
  obtain ⟨h1, h2⟩ := binade x hx.ne
  rw [← two_pow_pred_mul_ulpP p hp, abs_of_neg hx] at h1
  rw [← two_pow_mul_ulpP p, abs_of_neg hx] at h2
  exact ⟨nearest_ge n hn (-(2 ^ p)) _ ((le_div_iff₀ hU).2 (by push_cast; linarith)),
    nearest_le n hn (-(2 ^ (p - 1))) _ ((div_le_iff₀ hU).2 (by push_cast; linarith))⟩

theorem rndBinP_pos_range (x : ℚ) (hx : 0 < x) :
    (2 : ℚ) ^ Int.log 2 |x| ≤ rndBinP p n x ∧ rndBinP p n x ≤ (2 : ℚ) ^ (Int.log 2 |x| + 1) := by
  obtain ⟨a, b⟩ := signifP_pos p hp n hn x hx
  have hU := ulpP_pos p x
  rw [← two_pow_mul_ulpP p, ← two_pow_pred_mul_ulpP p hp, rndBinP_eq]
  exact ⟨mul_le_mul_of_nonneg_right (by exact_mod_cast a) hU.le,
    mul_le_mul_of_nonneg_right (by exact_mod_cast b) hU.le⟩

theorem rndBinP_neg_range (x : ℚ) (hx : x < 0) :
    -(2 : ℚ) ^ (Int.log 2 |x| + 1) ≤ rndBinP p n x ∧ rndBinP p n x ≤ -(2 : ℚ) ^ Int.log 2 |x| := by
  obtain ⟨a, b⟩ := signifP_neg p hp n hn x hx
  have hU := ulpP_pos p x
  rw [← two_pow_mul_ulpP p, ← two_pow_pred_mul_ulpP p hp, ← neg_mul, ← neg_mul, rndBinP_eq]
  exact ⟨mul_le_mul_of_nonneg_right (by exact_mod_cast a) hU.le,
    mul_le_mul_of_nonneg_right (by exact_mod_cast b) hU.le⟩

/-- **The result is a `p`-bit binary number nearest to `x`.** For `x ≠ 0` with `2^e ≤ |x| < 2^(e+1)` the rounding
    is `m · 2^(e−(p−1))` for an integer significand `m` with `2^(p−1) ≤ |m| ≤ 2^p` (`p` bits; `2^p` is the carry
    into the next binade) at distance at most half a unit from `x / 2^(e−(p−1))`. -/
theorem rndBinP_significand (x : ℚ) (hx : x ≠ 0) :
    ∃ m : ℤ, rndBinP p n x = (m : ℚ) * ulpP p x ∧ 2 ^ (p - 1) ≤ |m| ∧ |m| ≤ 2 ^ p ∧
      |(m : ℚ) - x / ulpP p x| ≤ 1 / 2 := by
  refine ⟨n (x / ulpP p x), rfl, ?_⟩
  have h0 : (0 : ℤ) ≤ 2 ^ (p - 1) := by positivity
  rcases lt_or_gt_of_ne hx with hneg | hpos
  · obtain ⟨a, b⟩ := signifP_neg p hp n hn x hneg
    exact ⟨le_abs.2 (Or.inr (by omega)), abs_le.2 ⟨a, by omega⟩, hn _⟩
  · obtain ⟨a, b⟩ := signifP_pos p hp n hn x hpos
    exact ⟨le_abs.2 (Or.inl a), abs_le.2 ⟨by omega, b⟩, hn _⟩

theorem rndBinP_mono (x y : ℚ) (h : x ≤ y) :
    rndBinP p n x ≤ rndBinP p n y := by
  rcases le_or_gt x 0 with hx0 | hx0
  · rcases le_or_gt 0 y with hy0 | hy0
    · exact le_trans (rndBinP_nonpos p n hn x hx0) (rndBinP_nonneg p n hn y hy0)
    · -- x ≤ y < 0
      have hxneg : x < 0 := lt_of_le_of_lt h hy0
      have habs : |y| ≤ |x| := by rw [abs_of_neg hy0, abs_of_neg hxneg]; linarith
      have hlog : Int.log 2 |y| ≤ Int.log 2 |x| := Int.log_mono_right (abs_pos.2 hy0.ne) habs
      rcases eq_or_lt_of_le hlog with he | hlt
      · exact rndBinP_mono_same p n hn x y h he.symm
      · have a := (rndBinP_neg_range p hp n hn x hxneg).2
        have b := (rndBinP_neg_range p hp n hn y hy0).1
        have c := two_zpow_mono (Int.log 2 |y| + 1) (Int.log 2 |x|) (by omega)
        linarith
  · -- 0 < x ≤ y
    have hy0 : 0 < y := lt_of_lt_of_le hx0 h
    have habs : |x| ≤ |y| := by rw [abs_of_pos hx0, abs_of_pos hy0]; exact h
    have hlog : Int.log 2 |x| ≤ Int.log 2 |y| := Int.log_mono_right (abs_pos.2 hx0.ne') habs
    rcases eq_or_lt_of_le hlog with he | hlt
    · exact rndBinP_mono_same p n hn x y h he
    · have a := (rndBinP_pos_range p hp n hn x hx0).2
      have b := (rndBinP_pos_range p hp n hn y hy0).1
      have c := two_zpow_mono (Int.log 2 |x| + 1) (Int.log 2 |y|) (by omega)
      linarith

end

/-- `rnd` leaves every `k / 2^s` with `|k| ≤ B` unchanged -/
def ExactDyadicB (rnd : ℚ → ℚ) (s : ℕ) (B : ℚ) : Prop :=
  ∀ k : ℤ, |(k : ℚ)| ≤ B → rnd ((k : ℚ) / 2 ^ s) = (k : ℚ) / 2 ^ s

/-- round-to-nearest with a `p`-bit significand (any tie rule) is exact on every `k / 2^s`, `|k| ≤ 2^p` -/
theorem exactDyadicB_rndBinP (p : ℕ) (hp : 1 ≤ p) (n : ℚ → ℤ) (hn : ∀ y, |(n y : ℚ) - y| ≤ 1 / 2) (s : ℕ) :
    ExactDyadicB (rndBinP p n) s (2 ^ p) := by
  intro k hk
  by_cases hk0 : (k : ℚ) = 0
  · rw [hk0, zero_div]; exact rndBinP_zero p n hn
  have hs : (0 : ℚ) < 2 ^ s := by positivity
  have hx0 : (k : ℚ) / 2 ^ s ≠ 0 := div_ne_zero hk0 hs.ne'
  obtain ⟨h1, h2⟩ := binade ((k : ℚ) / 2 ^ s) hx0
  have habs : |(k : ℚ) / 2 ^ s| = |(k : ℚ)| / 2 ^ s := by rw [abs_div, abs_of_pos hs]
  have hpow : (2 : ℚ) ^ ((p : ℤ) - s) = 2 ^ p / 2 ^ s := by
    rw [zpow_sub₀ two_ne_zero, zpow_natCast, zpow_natCast]
  -- the exponent of `k / 2^s` is at most `p - s`
  have he : Int.log 2 |(k : ℚ) / 2 ^ s| ≤ (p : ℤ) - s := by
    have hle : |(k : ℚ) / 2 ^ s| ≤ (2 : ℚ) ^ ((p : ℤ) - s) := by
      rw [habs, hpow]; exact div_le_div_of_nonneg_right hk hs.le
    exact (Int.log_mono_right (abs_pos.2 hx0) hle).trans_eq (Int.log_zpow (b := 2) (by norm_num) _)
  rcases lt_or_eq_of_le he with hlt | heq
  · -- below it the unit in the last place is `2^-(j+s)`: `k / 2^s` is `k·2^j` units
    obtain ⟨j, hj⟩ : ∃ j : ℕ, Int.log 2 |(k : ℚ) / 2 ^ s| - ((p : ℤ) - 1) = -(((j + s : ℕ)) : ℤ) :=
      ⟨((p : ℤ) - 1 - s - Int.log 2 |(k : ℚ) / 2 ^ s|).toNat, by push_cast; omega⟩
    apply rndBinP_of_multiple p n hn _ (k * 2 ^ j)
    rw [ulpP, hj, zpow_neg, zpow_natCast, pow_add, Int.cast_mul, Int.cast_pow, Int.cast_ofNat, mul_inv, mul_assoc,
      mul_inv_cancel_left₀ (pow_ne_zero _ two_ne_zero), div_eq_mul_inv]
  · -- at it `|k| = 2^p`, the unit is `2 / 2^s` and `k / 2^s` is `±2^(p-1)` units
    have hkp : |(k : ℚ)| = 2 ^ p := by
      apply le_antisymm hk
      have h4 : (2 : ℚ) ^ ((p : ℤ) - s) ≤ |(k : ℚ)| / 2 ^ s := by rw [← heq, ← habs]; exact h1
      rw [hpow] at h4
      exact (div_le_div_iff_of_pos_right hs).1 h4
    have hexp : Int.log 2 |(k : ℚ) / 2 ^ s| - ((p : ℤ) - 1) = 1 - (s : ℤ) := by omega
    have hpow1 : (2 : ℚ) ^ ((1 : ℤ) - s) = 2 / 2 ^ s := by
      rw [zpow_sub₀ two_ne_zero, zpow_natCast, zpow_one]
    obtain ⟨q, rfl⟩ : ∃ q : ℕ, p = q + 1 := ⟨p - 1, by omega⟩
    rcases (abs_eq (by positivity : (0 : ℚ) ≤ 2 ^ (q + 1))).1 hkp with hpos | hneg
    · apply rndBinP_of_multiple (q + 1) n hn _ (2 ^ q)
      rw [ulpP, hexp, hpow1, hpos, Int.cast_pow, Int.cast_ofNat, pow_succ, mul_div_assoc]
    · apply rndBinP_of_multiple (q + 1) n hn _ (-(2 ^ q))
      rw [ulpP, hexp, hpow1, hneg, Int.cast_neg, Int.cast_pow, Int.cast_ofNat, pow_succ, neg_mul, neg_div, mul_div_assoc]

end Mahotas.C13

namespace Mahotas.C05
open Mahotas

section
variable (n : ℚ → ℤ) (hn : ∀ y, |(n y : ℚ) - y| ≤ 1 / 2)
include hn

/-- **The result is a binary64 value nearest to `x`.** For `x ≠ 0` with `2^e ≤ |x| < 2^(e+1)` the rounding
    is `m · 2^(e−52)` for an integer significand `m` with `2^52 ≤ |m| ≤ 2^53` (53 bits; `2^53` is the carry
    into the next binade) at distance at most half a unit from `x / 2^(e−52)`. -/
theorem rndBin_significand (x : ℚ) (hx : x ≠ 0) :
    ∃ m : ℤ, rndBin n x = (m : ℚ) * (2 : ℚ) ^ (Int.log 2 |x| - 52) ∧ 2 ^ 52 ≤ |m| ∧ |m| ≤ 2 ^ 53 ∧
      |(m : ℚ) - x / (2 : ℚ) ^ (Int.log 2 |x| - 52)| ≤ 1 / 2 := by
  have h := C13.rndBinP_significand 53 (by norm_num) n hn x hx
  rwa [C13.rndBinP_53] at h

theorem rndBin_of_multiple (x : ℚ) (m : ℤ)
    (hm : x = (m : ℚ) * (2 : ℚ) ^ (Int.log 2 |x| - 52)) : rndBin n x = x :=
  (C13.rndBinP_53 n x).symm.trans (C13.rndBinP_of_multiple 53 n hn x m hm)

/-- **Every round-to-nearest with a 53-bit significand is a `Rounding`**, whatever its tie rule. -/
theorem rndBin_rounding : Rounding (rndBin n) := by
  rw [← funext (C13.rndBinP_53 n)]
  refine ⟨C13.rndBinP_mono 53 (by norm_num) n hn, C13.rndBinP_rel 53 n hn, fun k hk => ?_⟩
  have h := C13.exactDyadicB_rndBinP 53 (by norm_num) n hn 0 k hk
  rwa [pow_zero, div_one] at h

end

theorem rne53_rounding : Rounding rne53 := rndBin_rounding roundEven roundEven_near

theorem log_of_binade (x : ℚ) (e : ℤ) (h1 : (2 : ℚ) ^ e ≤ |x|) (h2 : |x| < (2 : ℚ) ^ (e + 1)) :
    Int.log 2 |x| = e := by
  have hpos : 0 < |x| := lt_of_lt_of_le (zpow_pos (by norm_num) _) h1
  apply le_antisymm
  · have := (Int.lt_zpow_iff_log_lt (b := 2) (by norm_num) hpos (x := e + 1)).1 (by
      rw [Nat.cast_ofNat]; exact h2)
    omega
  · exact (Int.zpow_le_iff_le_log (b := 2) (by norm_num) hpos).1 (by rw [Nat.cast_ofNat]; exact h1)

theorem roundEven_eq_of_near (y : ℚ) (k : ℤ) (h : |(k : ℚ) - y| < 1 / 2) : roundEven y = k := by
  apply eq_of_abs_sub_lt_one
  have := abs_sub_le (roundEven y : ℚ) y k
  rw [abs_sub_comm y] at this
  linarith [roundEven_near y]

/-- non-vacuity / sanity: `1/3` is rounded to the binary64 number `6004799503160661 · 2^-54` -/
theorem rne53_one_third : rne53 (1 / 3) = 6004799503160661 / 18014398509481984 := by
  have hlog : Int.log 2 |(1 / 3 : ℚ)| = -2 := by
    apply log_of_binade <;> norm_num [abs_of_pos]
  unfold rne53 rndBin
  rw [hlog]
  have hr : roundEven ((1 / 3 : ℚ) / (2 : ℚ) ^ ((-2 : ℤ) - 52)) = 6004799503160661 := by
    apply roundEven_eq_of_near
    norm_num [abs_lt]
  rw [hr]
  norm_num

end Mahotas.C05
