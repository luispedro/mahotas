/-
C16 — the occupied levels of a histogram.  `lo = loOf hist` and `hi = lastNonzero hist` are the smallest and the largest
occupied level; a class of the split `{0..T} | {T+1..}` is occupied exactly on its side of them (`nB_ne_zero_iff`,
`nO_ne_zero_iff`), so the proper splits — both classes occupied, `σ(T) > 0` — are those with `lo ≤ T < hi`, and there the class
means satisfy `lo ≤ μ_B ≤ T < T + 1 ≤ μ_O ≤ hi` (`class_means`).  Otsu and Riddler–Calvard both rest on this.
-/
import Mahotas.Proofs.C16Sums
import Mathlib.Algebra.BigOperators.Ring.Finset
namespace Mahotas.C16
open Mahotas

theorem hOf_of_lt (hist : List Nat) {i : Nat} (h : i < hist.length) : hOf hist i = hist[i] := by
  rw [hOf_eq, List.getD_eq_getElem?_getD, List.getElem?_eq_getElem h]; rfl

theorem hOf_of_ge (hist : List Nat) {i : Nat} (h : hist.length ≤ i) : hOf hist i = 0 := by
  rw [hOf_eq, List.getD_eq_getElem?_getD, List.getElem?_eq_none h]; rfl

theorem lt_length_of_hOf_ne {hist : List Nat} {i : Nat} (h : hOf hist i ≠ 0) : i < hist.length := by
  by_contra hc
  exact h (hOf_of_ge hist (by omega))

theorem hne_of_hOf {hist : List Nat} {i : Nat} (h : hOf hist i ≠ 0) : ∃ v ∈ hist, v ≠ 0 := by
  have hi := lt_length_of_hOf_ne h
  rw [hOf_of_lt hist hi] at h
  exact ⟨hist[i], List.getElem_mem hi, h⟩

theorem loOf_spec (hist : List Nat) (hne : ∃ v ∈ hist, v ≠ 0) :
    hOf hist (loOf hist) ≠ 0 ∧ ∀ i, i < loOf hist → hOf hist i = 0 := by
  unfold loOf
  cases hf : hist.zipIdx.find? (fun (v, _) => decide (v ≠ 0)) with
  | none =>
    exfalso
    rw [List.find?_eq_none] at hf
    obtain ⟨v, hv, hv0⟩ := hne
    obtain ⟨i, hi, rfl⟩ := List.mem_iff_getElem.1 hv
    have hm : (hist[i], i) ∈ hist.zipIdx := by
      rw [List.mem_iff_getElem]
      exact ⟨i, by simpa using hi, by simp [List.getElem_zipIdx]⟩
    have := hf _ hm
    simp at this
    exact hv0 this
  | some b =>
    rw [List.find?_eq_some_iff_getElem] at hf
    obtain ⟨hp, i, hi, hb, hj⟩ := hf
    have hi' : i < hist.length := by simpa using hi
    rw [List.getElem_zipIdx] at hb
    subst hb
    simp only [Option.map_some, Option.getD_some, Nat.zero_add]
    refine ⟨?_, ?_⟩
    · rw [hOf_of_lt hist hi']
      simpa using hp
    · intro j hji
      have := hj j hji
      rw [List.getElem_zipIdx] at this
      rw [hOf_of_lt hist (by omega)]
      simpa using this

theorem lastNonzero_aux (l : List Nat) (k m : Nat) :
    ((∀ v ∈ l, v = 0) ∧ (l.zipIdx k).foldl (fun m (v, i) => if v ≠ 0 then i else m) m = m) ∨
    (∃ j, (l.zipIdx k).foldl (fun m (v, i) => if v ≠ 0 then i else m) m = k + j ∧
      l.getD j 0 ≠ 0 ∧ ∀ j', j < j' → l.getD j' 0 = 0) := by
  induction l generalizing k m with
  | nil => left; simp
  | cons x xs ih =>
    simp only [List.zipIdx_cons, List.foldl_cons]
    rcases ih (k + 1) (if x ≠ 0 then k else m) with ⟨hall, hr⟩ | ⟨j, hr, hj, hj'⟩
    · by_cases hx : x = 0
      · left
        refine ⟨?_, ?_⟩
        · intro v hv
          rcases List.mem_cons.1 hv with rfl | hv
          · exact hx
          · exact hall v hv
        · rw [hr]; simp [hx]
      · right
        refine ⟨0, ?_, by simpa using hx, ?_⟩
        · rw [hr]; simp [hx]
        · intro j' hj'
          obtain ⟨j'', rfl⟩ : ∃ j'', j' = j'' + 1 := ⟨j' - 1, by omega⟩
          rw [List.getD_cons_succ, List.getD_eq_getElem?_getD]
          cases hg : xs[j'']? with
          | none => rfl
          | some v => exact hall v (List.mem_of_getElem? hg)
    · right
      refine ⟨j + 1, ?_, by simpa using hj, ?_⟩
      · rw [hr]; omega
      · intro j' hjj
        obtain ⟨j'', rfl⟩ : ∃ j'', j' = j'' + 1 := ⟨j' - 1, by omega⟩
        rw [List.getD_cons_succ]
        exact hj' j'' (by omega)

theorem lastNonzero_spec (hist : List Nat) (hne : ∃ v ∈ hist, v ≠ 0) :
    hOf hist (lastNonzero hist) ≠ 0 ∧ ∀ i, lastNonzero hist < i → hOf hist i = 0 := by
  unfold lastNonzero
  rcases lastNonzero_aux hist 0 0 with ⟨hall, _⟩ | ⟨j, hr, hj, hj'⟩
  · obtain ⟨v, hv, hv0⟩ := hne
    exact absurd (hall v hv) hv0
  · rw [Nat.zero_add] at hr
    rw [hr]
    simp only [hOf_eq]
    exact ⟨hj, hj'⟩

section sums
open Finset

theorem nB_eq_zero (hist : List Nat) {t : Nat} (ht : t < hist.length)
    (H : ∀ i, i ≤ t → hOf hist i = 0) : nBOf hist t = 0 := by
  rw [nBOf_sum hist ht]
  exact sum_eq_zero fun i hi => H i (Nat.lt_succ_iff.1 (mem_range.1 hi))

theorem weighted_sum_bounds (h : Nat → Nat) (s : Finset Nat) (a b : Nat)
    (H : ∀ i ∈ s, h i ≠ 0 → a ≤ i ∧ i ≤ b) :
    a * ∑ i ∈ s, h i ≤ ∑ i ∈ s, i * h i ∧ ∑ i ∈ s, i * h i ≤ b * ∑ i ∈ s, h i := by
  rw [mul_sum, mul_sum]
  constructor <;> refine sum_le_sum fun i hi => ?_ <;> by_cases h0 : h i = 0
  · rw [h0]; simp
  · exact Nat.mul_le_mul_right _ (H i hi h0).1
  · rw [h0]; simp
  · exact Nat.mul_le_mul_right _ (H i hi h0).2

end sums

section bounds
variable (hist : List Nat) (hne : ∃ v ∈ hist, v ≠ 0)
include hne

theorem hi_lt_length : lastNonzero hist < hist.length :=
  lt_length_of_hOf_ne (lastNonzero_spec hist hne).1

theorem lo_le_hi : loOf hist ≤ lastNonzero hist := by
  by_contra hc
  exact (lastNonzero_spec hist hne).1 ((loOf_spec hist hne).2 _ (by omega))

/-- so a bound on the first moment bounds the levels that the loop of `rc` converts -/
theorem hi_le_moment : lastNonzero hist ≤ sBOf hist (hist.length - 1) := by
  have hn := hi_lt_length hist hne
  rw [sBOf_sum hist (by omega)]
  exact (Nat.le_mul_of_pos_right _ (Nat.pos_of_ne_zero (lastNonzero_spec hist hne).1)).trans
    (Finset.single_le_sum (f := fun i => i * hOf hist i) (fun _ _ => Nat.zero_le _) (Finset.mem_range.2 (by omega)))

theorem nB_ne_zero_iff {T : Nat} (hT : T < hist.length) : nBOf hist T ≠ 0 ↔ loOf hist ≤ T := by
  obtain ⟨l1, l2⟩ := loOf_spec hist hne
  rw [nBOf_sum hist hT, Ne, Finset.sum_eq_zero_iff]
  constructor
  · intro h
    by_contra hc
    exact h fun i hi => l2 i (by have := Finset.mem_range.1 hi; omega)
  · intro h hz
    exact l1 (hz _ (Finset.mem_range.2 (by omega)))

theorem nO_ne_zero_iff {T : Nat} (hT : T < hist.length) : nOOf hist T ≠ 0 ↔ T < lastNonzero hist := by
  obtain ⟨u1, u2⟩ := lastNonzero_spec hist hne
  have hn := lt_length_of_hOf_ne u1
  rw [nOOf_sum hist hT, Ne, Finset.sum_eq_zero_iff]
  constructor
  · intro h
    by_contra hc
    exact h fun i hi => u2 i (by have := Finset.mem_Ico.1 hi; omega)
  · intro h hz
    exact u1 (hz _ (Finset.mem_Ico.2 ⟨by omega, hn⟩))

theorem nO_zero_of_hi : nOOf hist (lastNonzero hist) = 0 :=
  not_not.1 fun h => lt_irrefl _ ((nO_ne_zero_iff hist hne (hi_lt_length hist hne)).1 h)

/-- both classes are occupied exactly at the proper splits -/
theorem occupied_iff {T : Nat} (hT : T < hist.length) :
    nBOf hist T ≠ 0 ∧ nOOf hist T ≠ 0 ↔ loOf hist ≤ T ∧ T < lastNonzero hist :=
  and_congr (nB_ne_zero_iff hist hne hT) (nO_ne_zero_iff hist hne hT)

theorem class_bounds {t : Nat} (ht : t < hist.length) :
    loOf hist * nBOf hist t ≤ sBOf hist t ∧ sBOf hist t ≤ t * nBOf hist t ∧
      (t + 1) * nOOf hist t ≤ sOOf hist t ∧ sOOf hist t ≤ lastNonzero hist * nOOf hist t := by
  rw [sOOf_sum hist ht, nBOf_sum hist ht, sBOf_sum hist ht, nOOf_sum hist ht]
  obtain ⟨b1, b2⟩ := weighted_sum_bounds (hOf hist) (Finset.range (t + 1)) (loOf hist) t fun i hi h0 =>
    ⟨not_lt.1 fun hc => h0 ((loOf_spec hist hne).2 i hc), Nat.lt_succ_iff.1 (Finset.mem_range.1 hi)⟩
  obtain ⟨b3, b4⟩ := weighted_sum_bounds (hOf hist) (Finset.Ico (t + 1) hist.length) (t + 1) (lastNonzero hist)
    fun i hi h0 => ⟨(Finset.mem_Ico.1 hi).1, not_lt.1 fun hc => h0 ((lastNonzero_spec hist hne).2 i hc)⟩
  exact ⟨b1, b2, b3, b4⟩

/-- the means of two occupied classes: `lo ≤ μ_B ≤ t < t + 1 ≤ μ_O ≤ hi` -/
theorem class_means {t : Nat} (ht : t < hist.length) (h1 : nBOf hist t ≠ 0) (h2 : nOOf hist t ≠ 0) :
    (loOf hist : ℚ) ≤ muBOf hist t ∧ muBOf hist t ≤ (t : ℚ) ∧ (t : ℚ) + 1 ≤ muOOf hist t ∧
      muOOf hist t ≤ (lastNonzero hist : ℚ) := by
  obtain ⟨b1, b2, b3, b4⟩ := class_bounds hist hne ht
  have pB : (0 : ℚ) < (nBOf hist t : ℚ) := Nat.cast_pos.2 (Nat.pos_of_ne_zero h1)
  have pO : (0 : ℚ) < (nOOf hist t : ℚ) := Nat.cast_pos.2 (Nat.pos_of_ne_zero h2)
  rw [muBOf, muOOf, le_div_iff₀ pB, div_le_iff₀ pB, le_div_iff₀ pO, div_le_iff₀ pO]
  exact ⟨by exact_mod_cast b1, by exact_mod_cast b2, by exact_mod_cast b3, by exact_mod_cast b4⟩

/-- `|μ_B − μ_O| ≤ hi − lo`: the `Δ` of `sigma_err_at` -/
theorem means_apart {T : Nat} (hT : T < hist.length) (h1 : nBOf hist T ≠ 0) (h2 : nOOf hist T ≠ 0) :
    |muBOf hist T - muOOf hist T| ≤ ((lastNonzero hist - loOf hist : ℕ) : ℚ) := by
  obtain ⟨q1, q2, q3, q4⟩ := class_means hist hne hT h1 h2
  rw [Nat.cast_sub (lo_le_hi hist hne), abs_le]
  constructor <;> linarith

/-- the between-class variance is positive exactly at the proper splits (there `μ_B ≤ T < T + 1 ≤ μ_O`) -/
theorem otsuSigma_pos_iff {T : Nat} (hT : T < hist.length) :
    0 < otsuSigma hist T ↔ loOf hist ≤ T ∧ T < lastNonzero hist := by
  rw [← occupied_iff hist hne hT]
  constructor
  · intro h
    exact ⟨fun h0 => h.ne' (otsuSigma_of_empty (Or.inl h0)), fun h0 => h.ne' (otsuSigma_of_empty (Or.inr h0))⟩
  · rintro ⟨h1, h2⟩
    obtain ⟨_, q2, q3, _⟩ := class_means hist hne hT h1 h2
    rw [otsuSigma_eq h1 h2, mul_assoc]
    exact mul_pos (mul_pos (Nat.cast_pos.2 (Nat.pos_of_ne_zero h1)) (Nat.cast_pos.2 (Nat.pos_of_ne_zero h2)))
      (mul_self_pos.2 (by linarith))

end bounds

end Mahotas.C16
