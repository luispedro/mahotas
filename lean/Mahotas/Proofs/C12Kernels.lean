/-
C12 (T4) — calls with disjoint outputs compile to a confined family, and the solo run of a call is the run `runR` of its role-level steps.
Confinement asks nothing of the program: `Call.arrOf` resolves every role inside the call's footprint
(`mkStep_within`, `kcall_confined`, `compile_confined`). The value ties reason about `runR` alone (`solo_compile`):
frame lemmas; programs with one block or one step per pixel (`runR_block`, `runR_gather`; for the solo run `solo_block`, `solo_gather`); `Shows`
(an array of the memory shows a model array) with its two one-step rules; simulation along a log (`logFold_sim`,
`runR_flatMap_sim`), and for scatter kernels the cell-wise `runR_accumulate`. Also the value lemmas of erode and convolve, over
`ShowsSample` (the cells of the input array show the sample the border rule delivers for one position).
-/
import Mahotas.Proofs.C12
import Mahotas.Model.C12Kernels
import Mahotas.Proofs.C01
import Mahotas.Proofs.ListLemmas
import Mathlib.Data.Nat.Pairing
namespace Mahotas.C12
open Mahotas

theorem getD_mem_or {α : Type} (l : List α) (i : Nat) (d : α) : l.getD i d ∈ l ∨ l.getD i d = d := by
  rw [List.getD_eq_getElem?_getD]
  cases h : l[i]? with
  | none => right; rfl
  | some x => left; exact List.mem_of_getElem? h

theorem headD_mem {α : Type} (l : List α) (h : l ≠ []) (d : α) : l.headD d ∈ l := by
  cases l with
  | nil => exact absurd rfl h
  | cons x xs => simp

theorem arrOf_own_mem (c : Call) (h : c.outputs ≠ []) (i : Nat) : c.arrOf (.own i) ∈ c.outputs := by
  show c.outputs.getD i (c.outputs.headD 0) ∈ c.outputs
  rcases getD_mem_or c.outputs i (c.outputs.headD 0) with h1 | h1
  · exact h1
  · rw [h1]; exact headD_mem _ h 0

theorem arrOf_mem (c : Call) (h : c.outputs ≠ []) (r : Role) :
    c.arrOf r ∈ c.inputs ∨ c.arrOf r ∈ c.outputs := by
  cases r with
  | own i => exact Or.inr (arrOf_own_mem c h i)
  | inp i =>
    show c.inputs.getD i (c.outputs.headD 0) ∈ c.inputs ∨ c.inputs.getD i (c.outputs.headD 0) ∈ c.outputs
    rcases getD_mem_or c.inputs i (c.outputs.headD 0) with h1 | h1
    · exact Or.inl h1
    · rw [h1]; exact Or.inr (headD_mem _ h 0)

/-- confinement by construction: a role outside the arity resolves to the first owned array, so whatever the role-level
step is, the step stays inside the footprint of a call that owns an array -/
theorem mkStep_within (c : Call) (h : c.outputs ≠ []) (r : RStep) : (mkStep c r).Within c := by
  refine ⟨arrOf_own_mem c h r.dst, ?_⟩
  intro l hl
  simp only [mkStep, List.mem_map] at hl
  obtain ⟨x, _, rfl⟩ := hl
  exact arrOf_mem c h x.role

theorem prog_within (kc : KCall) (h : kc.call.outputs ≠ []) : ∀ s ∈ kc.prog, s.Within kc.call := by
  intro s hs
  simp only [KCall.prog, List.mem_map] at hs
  obtain ⟨r, _, rfl⟩ := hs
  exact mkStep_within kc.call h r

theorem withinB_iff (c : Call) (s : KStep) : s.withinB c = true ↔ s.Within c := by
  simp [KStep.withinB, KStep.Within]

theorem arrOf_inp (c : Call) (i : Nat) (h : i < c.inputs.length) : c.arrOf (.inp i) = c.inputs[i] := by
  simp [Call.arrOf, List.getD_eq_getElem?_getD, h]

theorem arrOf_own (c : Call) (i : Nat) (h : i < c.outputs.length) : c.arrOf (.own i) = c.outputs[i] := by
  simp [Call.arrOf, List.getD_eq_getElem?_getD, h]

theorem ownerFrom_some (cs : List Call) (t0 a u : Nat) (h : ownerFrom cs t0 a = some u) :
    ∃ i c, cs[i]? = some c ∧ u = t0 + i ∧ a ∈ c.outputs := by
  induction cs generalizing t0 with
  | nil => simp [ownerFrom] at h
  | cons c cs ih =>
    unfold ownerFrom at h
    by_cases ha : a ∈ c.outputs
    · rw [if_pos ha] at h
      injection h with h
      exact ⟨0, c, by simp, by omega, ha⟩
    · rw [if_neg ha] at h
      obtain ⟨i, ci, h1, h2, h3⟩ := ih (t0 + 1) h
      exact ⟨i + 1, ci, by simpa using h1, by omega, h3⟩

theorem ownerFrom_of_mem (cs : List Call) (t0 a i : Nat) (c : Call) (hc : cs[i]? = some c)
    (ha : a ∈ c.outputs) :
    ∃ j cj, cs[j]? = some cj ∧ a ∈ cj.outputs ∧ ownerFrom cs t0 a = some (t0 + j) := by
  induction cs generalizing t0 i with
  | nil => simp at hc
  | cons c0 cs ih =>
    unfold ownerFrom
    by_cases h0 : a ∈ c0.outputs
    · exact ⟨0, c0, by simp, h0, by rw [if_pos h0]; rfl⟩
    · rw [if_neg h0]
      cases i with
      | zero =>
        simp at hc; subst hc; exact absurd ha h0
      | succ i =>
        obtain ⟨j, cj, h1, h2, h3⟩ := ih (t0 + 1) i (by simpa using hc)
        exact ⟨j + 1, cj, by simpa using h1, h2, by rw [h3]; congr 1; omega⟩

theorem region_of_output (calls : List Call) (hd : DisjointOutputs calls) (t : Nat) (c : Call)
    (hc : calls[t]? = some c) (a : Nat) (ha : a ∈ c.outputs) : regionOfArr calls a = .priv t := by
  obtain ⟨j, cj, h1, h2, h3⟩ := ownerFrom_of_mem calls 0 a t c hc ha
  have : j = t := hd j t cj c h1 hc a h2 (Or.inl ha)
  subst this
  simp [regionOfArr, h3]

theorem region_of_input (calls : List Call) (hd : DisjointOutputs calls) (t : Nat) (c : Call)
    (hc : calls[t]? = some c) (a : Nat) (ha : a ∈ c.inputs) :
    regionOfArr calls a = .priv t ∨ regionOfArr calls a = .sharedRO := by
  unfold regionOfArr
  cases h : ownerFrom calls 0 a with
  | none => right; rfl
  | some u =>
    left
    obtain ⟨i, ci, h1, h2, h3⟩ := ownerFrom_some calls 0 a u h
    have : i = t := hd i t ci c h1 hc a h3 (Or.inr ha)
    subst this
    simp [h2]

theorem mem_outputs_of_region (calls : List Call) (a t : Nat) (h : regionOfArr calls a = .priv t) :
    ∃ c, calls[t]? = some c ∧ a ∈ c.outputs := by
  unfold regionOfArr at h
  cases ho : ownerFrom calls 0 a with
  | none => rw [ho] at h; cases h
  | some u =>
    rw [ho] at h
    obtain ⟨i, c, h1, h2, h3⟩ := ownerFrom_some calls 0 a u ho
    cases h
    exact ⟨c, by rwa [h2, Nat.zero_add], h3⟩

theorem region_unowned (calls : List Call) (a : Nat) (h : ∀ c ∈ calls, a ∉ c.outputs) :
    regionOfArr calls a = .sharedRO := by
  unfold regionOfArr
  cases ho : ownerFrom calls 0 a with
  | none => rfl
  | some u =>
    obtain ⟨i, ci, h1, _, h3⟩ := ownerFrom_some calls 0 a u ho
    exact absurd h3 (h ci (List.mem_of_getElem? h1))

theorem disjointOutputs_pair (c0 c1 : Call) (h01 : ∀ a ∈ c0.outputs, a ∉ c1.outputs ∧ a ∉ c1.inputs)
    (h10 : ∀ a ∈ c1.outputs, a ∉ c0.outputs ∧ a ∉ c0.inputs) : DisjointOutputs [c0, c1] := by
  intro i j ci cj hi hj a ha hb
  match i, j with
  | 0, 0 => rfl
  | 1, 1 => rfl
  | 0, 1 =>
    cases Option.some.inj hi
    cases Option.some.inj hj
    exact absurd hb (not_or.2 (h01 a ha))
  | 1, 0 =>
    cases Option.some.inj hi
    cases Option.some.inj hj
    exact absurd hb (not_or.2 (h10 a ha))
  | _ + 2, _ => cases hi
  | 0, _ + 2 => cases hj
  | 1, _ + 2 => cases hj

theorem compile_step_confined (calls : List Call) (hd : DisjointOutputs calls) (t : Nat) (c : Call)
    (hc : calls[t]? = some c) (s : KStep) (hw : s.Within c) : (s.compile calls).Confined t := by
  refine ⟨region_of_output calls hd t c hc _ hw.1, ?_⟩
  intro l hl
  simp only [KStep.compile, List.mem_map] at hl
  obtain ⟨x, hx, rfl⟩ := hl
  rcases hw.2 x hx with h | h
  · exact region_of_input calls hd t c hc _ h
  · exact Or.inl (region_of_output calls hd t c hc _ h)

theorem compile_confined (kcs : List KCall) (hne : ∀ kc ∈ kcs, kc.call.outputs ≠ [])
    (hd : DisjointOutputs (kcs.map (·.call))) : Confined (compile kcs) := by
  intro t s hs
  unfold compile at hs
  cases hk : kcs[t]? with
  | none => rw [hk] at hs; simp at hs
  | some kc =>
    rw [hk] at hs
    simp only [List.mem_map] at hs
    obtain ⟨ks, hks, rfl⟩ := hs
    have hc : (kcs.map (·.call))[t]? = some kc.call := by simp [hk]
    exact compile_step_confined _ hd t kc.call hc ks
      (prog_within kc (hne kc (List.mem_of_getElem? hk)) ks hks)

theorem kcall_confined (kc : KCall) (hne : kc.call.outputs ≠ []) :
    (∀ s ∈ kc.prog, s.Within kc.call) ∧
    (∀ l ∈ writeSet kc.prog, l.arr ∈ kc.call.outputs) ∧
    (∀ l ∈ readSet kc.prog, l.arr ∈ kc.call.inputs ∨ l.arr ∈ kc.call.outputs) ∧
    (∀ (kcs : List KCall) (t : Nat), kcs[t]? = some kc → DisjointOutputs (kcs.map (·.call)) →
      ∀ s ∈ compile kcs t, s.Confined t) := by
  have hw := prog_within kc hne
  refine ⟨hw, List.forall_mem_map.2 fun s hs => (hw s hs).1, fun l hl => ?_, fun kcs t ht hd s hs => ?_⟩
  · obtain ⟨s, hs, hl⟩ := List.mem_flatMap.1 hl
    exact (hw s hs).2 l hl
  · unfold compile at hs
    rw [ht] at hs
    obtain ⟨ks, hks, rfl⟩ := List.mem_map.1 hs
    exact compile_step_confined _ hd t kc.call (by rw [List.getElem?_map, ht]; rfl) ks (hw ks hks)

theorem encInt_inj (a b : Int) (h : encInt a = encInt b) : a = b := by
  cases a <;> cases b <;> simp only [encInt] at h <;> first | omega | (congr 1; omega)

theorem pairNat_eq (a b : Nat) : pairNat a b = Nat.pair a b := by
  simp [pairNat, Nat.pair]

theorem pairNat_inj (a b c d : Nat) (h : pairNat a b = pairNat c d) : a = c ∧ b = d := by
  rw [pairNat_eq, pairNat_eq] at h
  exact Nat.pair_eq_pair.1 h

theorem KLoc.idx_inj (l l' : KLoc) (h : l.idx = l'.idx) : l = l' := by
  obtain ⟨a, o⟩ := l
  obtain ⟨a', o'⟩ := l'
  obtain ⟨h1, h2⟩ := pairNat_inj _ _ _ _ h
  simp only at h1 h2
  rw [h1, encInt_inj _ _ h2]

theorem KLoc.toLoc_inj (calls : List Call) (l l' : KLoc) (h : l.toLoc calls = l'.toLoc calls) : l = l' := by
  apply KLoc.idx_inj
  have := congrArg Loc.idx h
  simpa [KLoc.toLoc] using this

def execAll (steps : List Step) (m : Mem) : Mem := steps.foldl (fun m s => s.exec m) m

theorem execAll_append (a b : List Step) (m : Mem) : execAll (a ++ b) m = execAll b (execAll a m) := by
  simp [execAll, List.foldl_append]

theorem run_replicate_mem (progs : Progs) (t : Nat) : ∀ (j : Nat) (s : State),
    s.pc t + j ≤ (progs t).length →
    (run progs (List.replicate j t) s).mem = execAll (((progs t).drop (s.pc t)).take j) s.mem := by
  intro j
  induction j with
  | zero => intro s _; simp [run, execAll]
  | succ j ih =>
    intro s h
    have hlt : s.pc t < (progs t).length := by omega
    simp only [List.replicate_succ, run]
    have hst : stepThread progs t s =
        ⟨fun u => if u = t then s.pc t + 1 else s.pc u, ((progs t)[s.pc t]).exec s.mem⟩ := by
      unfold stepThread; rw [List.getElem?_eq_getElem hlt]
    rw [hst]
    rw [ih _ (by simp; omega)]
    simp only [if_true]
    rw [List.drop_eq_getElem_cons hlt, List.take_succ_cons]
    simp [execAll]

theorem solo_eq_execAll (progs : Progs) (t : Nat) (m : Mem) : solo progs t m = execAll (progs t) m := by
  unfold solo soloSteps
  rw [run_replicate_mem progs t _ (init m) (by simp [init])]
  simp [init]

theorem execAll_frame (steps : List Step) (m : Mem) (l : Loc) (h : ∀ s ∈ steps, s.dst ≠ l) :
    execAll steps m l = m l := by
  induction steps generalizing m with
  | nil => rfl
  | cons s rest ih =>
    simp only [execAll, List.foldl_cons]
    have := ih (s.exec m) (fun s' hs' => h s' (by simp [hs']))
    simp only [execAll] at this
    rw [this]
    exact exec_frame s m l (fun heq => h s (by simp) heq.symm)

/-- location of element `off` of array `a` -/
def L (calls : List Call) (a : Nat) (off : Int) : Loc := (KLoc.mk a off).toLoc calls

theorem L_inj (calls : List Call) (a a' : Nat) (o o' : Int) (h : L calls a o = L calls a' o') :
    a = a' ∧ o = o' :=
  KLoc.mk.inj (KLoc.toLoc_inj calls _ _ h)

theorem L_ne_arr (calls : List Call) (a a' : Nat) (o o' : Int) (h : a ≠ a') : L calls a o ≠ L calls a' o' :=
  fun heq => h (L_inj calls a a' o o' heq).1

theorem L_ne_off (calls : List Call) (a a' : Nat) (o o' : Int) (h : o ≠ o') : L calls a o ≠ L calls a' o' :=
  fun heq => h (L_inj calls a a' o o' heq).2

def runR (calls : List Call) (c : Call) (steps : List RStep) (M : Mem) : Mem :=
  execAll (steps.map fun r => (mkStep c r).compile calls) M

theorem runR_nil (calls : List Call) (c : Call) (M : Mem) : runR calls c [] M = M := rfl

theorem runR_cons (calls : List Call) (c : Call) (r : RStep) (rs : List RStep) (M : Mem) :
    runR calls c (r :: rs) M = runR calls c rs (((mkStep c r).compile calls).exec M) := rfl

theorem runR_append (calls : List Call) (c : Call) (a b : List RStep) (M : Mem) :
    runR calls c (a ++ b) M = runR calls c b (runR calls c a M) := by
  unfold runR
  rw [List.map_append, execAll_append]

theorem exec_mkStep (calls : List Call) (c : Call) (r : RStep) (M : Mem) :
    ((mkStep c r).compile calls).exec M =
      M.set (L calls (c.arrOf (.own r.dst)) r.doff)
        (r.op (r.srcs.map fun l => M (L calls (c.arrOf l.role) l.off))) := by
  simp only [Step.exec, KStep.compile, mkStep, List.map_map]
  rfl

theorem solo_compile (kcs : List KCall) (t : Nat) (kc : KCall) (hk : kcs[t]? = some kc) (m : Mem) :
    solo (compile kcs) t m = runR (kcs.map (·.call)) kc.call kc.raw m := by
  rw [solo_eq_execAll]
  simp only [compile, hk, KCall.prog, runR, List.map_map]
  rfl

theorem runR_frame_loc (calls : List Call) (c : Call) (steps : List RStep) (M : Mem) (a : Nat) (off : Int)
    (h : ∀ r ∈ steps, c.arrOf (.own r.dst) = a → r.doff ≠ off) :
    runR calls c steps M (L calls a off) = M (L calls a off) := by
  apply execAll_frame
  intro s hs heq
  obtain ⟨r, hr, rfl⟩ := List.mem_map.1 hs
  obtain ⟨h1, h2⟩ := L_inj calls _ _ _ _ heq
  exact h r hr h1 h2

theorem runR_frame (calls : List Call) (c : Call) (steps : List RStep) (M : Mem) (a : Nat) (off : Int)
    (h : ∀ r ∈ steps, c.arrOf (.own r.dst) ≠ a) : runR calls c steps M (L calls a off) = M (L calls a off) :=
  runR_frame_loc calls c steps M a off fun r hr heq => absurd heq (h r hr)

theorem runR_unowned (calls : List Call) (c : Call) (hne : c.outputs ≠ []) (steps : List RStep) (M : Mem)
    (a : Nat) (off : Int) (h : a ∉ c.outputs) : runR calls c steps M (L calls a off) = M (L calls a off) :=
  runR_frame calls c steps M a off fun r _ heq => h (heq ▸ arrOf_own_mem c hne r.dst)

theorem runR_block (calls : List Call) (c : Call) (F : List RStep) (B : Nat → List RStep) (N k : Nat) (hk : k < N)
    (a : Nat) (off : Int)
    (hlater : ∀ i, k < i → i < N → ∀ r ∈ B i, c.arrOf (.own r.dst) = a → r.doff ≠ off) (M : Mem) :
    runR calls c (F ++ (List.range N).flatMap B) M (L calls a off) =
      runR calls c (B k) (runR calls c (F ++ (List.range k).flatMap B) M) (L calls a off) := by
  induction N with
  | zero => omega
  | succ N ih =>
    rw [List.range_succ, List.flatMap_append, ← List.append_assoc, runR_append, List.flatMap_singleton]
    by_cases hkN : k = N
    · subst hkN; rfl
    · rw [runR_frame_loc _ _ _ _ _ _ (hlater N (by omega) (by omega))]
      exact ih (by omega) fun i h1 h2 => hlater i h1 (by omega)

theorem runR_step (calls : List Call) (c : Call) (F : List RStep) (g : Nat → RStep) (N k : Nat) (hk : k < N)
    (a : Nat) (off : Int) (hlater : ∀ i, k < i → i < N → c.arrOf (.own (g i).dst) = a → (g i).doff ≠ off)
    (M : Mem) :
    runR calls c (F ++ (List.range N).map g) M (L calls a off) =
      ((mkStep c (g k)).compile calls).exec (runR calls c (F ++ (List.range k).map g) M) (L calls a off) := by
  have := runR_block calls c F (fun i => [g i]) N k hk a off
    (fun i h1 h2 r hr => by rw [List.mem_singleton.1 hr]; exact hlater i h1 h2) M
  rwa [← List.map_eq_flatMap, ← List.map_eq_flatMap] at this

theorem runR_gather (calls : List Call) (c : Call) (F : List RStep) (g : Nat → RStep) (n d : Nat)
    (hd : ∀ k, (g k).dst = d)
    (hinj : ∀ k k', k < n → k' < n → (g k).doff = (g k').doff → k = k') (M : Mem) (k : Nat) (hk : k < n) :
    runR calls c (F ++ (List.range n).map g) M (L calls (c.arrOf (.own d)) (g k).doff) =
      (g k).op ((g k).srcs.map fun l =>
        runR calls c (F ++ (List.range k).map g) M (L calls (c.arrOf l.role) l.off)) := by
  rw [runR_step calls c F g n k hk _ _ (fun i h1 h2 _ heq => by have := hinj i k h2 hk heq; omega), exec_mkStep,
    hd k]
  exact set_same _ _ _

/-- the solo run of a call whose program is a prefix `F`, then blocks `B 0 … B (n-1)`, seen at a cell that of these only
block `k` may write: the cell holds what block `k` leaves there, run on a memory `M` that agrees with the initial memory on
every array the call does not own, and on the cell itself unless the prefix writes it -/
theorem solo_block (kcs : List KCall) (t : Nat) (calls : List Call) (hcalls : kcs.map (·.call) = calls) (c : Call)
    (raw : List RStep) (hk : kcs[t]? = some ⟨c, raw⟩) (hne : c.outputs ≠ []) (F : List RStep) (B : Nat → List RStep)
    (n : Nat) (hraw : raw = F ++ (List.range n).flatMap B) (m : Mem) (k : Nat) (hkn : k < n) (a : Nat) (off : Int)
    (hother : ∀ i, i < n → i ≠ k → ∀ r ∈ B i, c.arrOf (.own r.dst) = a → r.doff ≠ off) :
    ∃ M : Mem,
      solo (compile kcs) t m (L calls a off) = runR calls c (B k) M (L calls a off) ∧
      (∀ a off, a ∉ c.outputs → M (L calls a off) = m (L calls a off)) ∧
      ((∀ r ∈ F, c.arrOf (.own r.dst) = a → r.doff ≠ off) → M (L calls a off) = m (L calls a off)) := by
  subst hcalls
  refine ⟨runR _ c (F ++ (List.range k).flatMap B) m, ?_, fun a off ha => runR_unowned _ c hne _ m a off ha, fun hF =>
    runR_frame_loc _ c _ m a off (List.forall_mem_append.2 ⟨hF, fun r hr => ?_⟩)⟩
  · rw [solo_compile kcs t _ hk, hraw]
    exact runR_block _ c F B n k hkn a off (fun i h1 h2 => hother i h2 (by omega)) m
  · obtain ⟨i, hi, hr⟩ := List.mem_flatMap.1 hr
    have := List.mem_range.1 hi
    exact hother i (by omega) (by omega) r hr

/-- `solo_block` for a gather call (one step `g i` per block; the steps write pairwise distinct cells of the owned array
`d`): the cell of `g k` holds `g k`'s operation on the memory `M` in which step `k` ran -/
theorem solo_gather (kcs : List KCall) (t : Nat) (calls : List Call) (hcalls : kcs.map (·.call) = calls) (c : Call)
    (raw : List RStep) (hk : kcs[t]? = some ⟨c, raw⟩) (hne : c.outputs ≠ []) (F : List RStep) (g : Nat → RStep)
    (n d : Nat) (hraw : raw = F ++ (List.range n).map g) (hd : ∀ k, (g k).dst = d)
    (hinj : ∀ k k', k < n → k' < n → (g k).doff = (g k').doff → k = k') (m : Mem) (k : Nat) (hkn : k < n) :
    ∃ M : Mem,
      solo (compile kcs) t m (L calls (c.arrOf (.own d)) (g k).doff) =
        (g k).op ((g k).srcs.map fun l => M (L calls (c.arrOf l.role) l.off)) ∧
      (∀ a off, a ∉ c.outputs → M (L calls a off) = m (L calls a off)) ∧
      ((∀ r ∈ F, c.arrOf (.own r.dst) = c.arrOf (.own d) → r.doff ≠ (g k).doff) →
        M (L calls (c.arrOf (.own d)) (g k).doff) = m (L calls (c.arrOf (.own d)) (g k).doff)) := by
  obtain ⟨M, h1, h2⟩ := solo_block kcs t calls hcalls c raw hk hne F (fun i => [g i]) n
    (hraw.trans (congrArg _ List.map_eq_flatMap)) m k hkn (c.arrOf (.own d)) (g k).doff
    fun i hi hik r hr _ e => hik (hinj i k hi hkn (List.mem_singleton.1 hr ▸ e))
  refine ⟨M, h1.trans ?_, h2⟩
  rw [runR_cons, runR_nil, exec_mkStep, hd k]
  exact set_same _ _ _

/-- cells `addr 0 … addr (n-1)` of array `a` show the entries of `arr` through `disp` -/
def Shows {α : Type} (calls : List Call) (a : Nat) (addr : Nat → Int) (n : Nat) (disp : α → Int) (d : α)
    (M : Mem) (arr : Array α) : Prop :=
  ∀ j, j < n → M (L calls a (addr j)) = disp (arr.getD j d)

abbrev reads (calls : List Call) (c : Call) (r : RStep) (M : Mem) : List Val :=
  r.srcs.map fun l => M (L calls (c.arrOf l.role) l.off)

theorem exec_eq_set (calls : List Call) (c : Call) (r : RStep) (M : Mem) (a : Nat) (off : Int) (x : Val)
    (hdst : c.arrOf (.own r.dst) = a) (hoff : r.doff = off) (hv : r.op (reads calls c r M) = x) :
    ((mkStep c r).compile calls).exec M = M.set (L calls a off) x := by
  rw [exec_mkStep, hdst, hoff, hv]

section Shows
variable {α : Type} {calls : List Call} {a : Nat} {addr : Nat → Int} {n : Nat} {disp : α → Int} {d : α}
  {M : Mem} {arr : Array α}

theorem Shows.exec_other (h : Shows calls a addr n disp d M arr) (c : Call) (r : RStep)
    (hr : c.arrOf (.own r.dst) = a → ∀ j, j < n → addr j ≠ r.doff) :
    Shows calls a addr n disp d (((mkStep c r).compile calls).exec M) arr := fun j hj => by
  rw [exec_mkStep, set_other _ _ _ _ fun heq => hr (L_inj calls _ _ _ _ heq).1.symm j hj (L_inj calls _ _ _ _ heq).2]
  exact h j hj

/-- the step is never rewritten into a store: the caller says what it computes from what it reads (`hv`). A model update
written otherwise (`modify`, a conditional store) is first brought into the form `setIfInBounds` (`setIfInBounds_getD`). -/
theorem Shows.exec_set (h : Shows calls a addr n disp d M arr) (hsz : arr.size = n) (c : Call) (r : RStep) (i : Nat)
    (x : α) (hdst : c.arrOf (.own r.dst) = a) (hoff : r.doff = addr i) (hinj : ∀ j, j < n → addr j = addr i → j = i)
    (hv : r.op (reads calls c r M) = disp x) :
    Shows calls a addr n disp d (((mkStep c r).compile calls).exec M) (arr.setIfInBounds i x) := fun j hj => by
  rw [exec_eq_set calls c r M a _ _ hdst hoff hv]
  by_cases hji : j = i
  · rw [hji, getD_setIfInBounds_self _ _ _ _ (hsz ▸ hji ▸ hj)]; exact set_same _ _ _
  · rw [set_other _ _ _ _ fun heq => hji (hinj j hj (L_inj calls _ _ _ _ heq).2),
      getD_setIfInBounds_ne _ _ _ _ _ (Ne.symm hji)]
    exact h j hj

end Shows

/-- the cells `val` of an array show, through view `v`, the sample of image `A` that border rule `md` delivers for
position `q` (nothing is asked where the rule flags `q`) -/
def ShowsSample (md : Mode) (v : C08.View) (A : Img Int) (val : Int → Val) (q : List Int) : Prop :=
  ∀ q', fixPos md v.shape q = some q' → val (v.addr (q'.map Int.toNat)) = A.getD q' 0

/-- cells that hold the pixel of every position inside show the sample for every position of the image's rank -/
theorem ShowsSample.of_inside {md : Mode} {v : C08.View} {A : Img Int} {val : Int → Val}
    (h : ∀ q, inside v.shape q = true → val (v.addr (q.map Int.toNat)) = A.getD q 0) (hpos : ∀ d ∈ v.shape, 0 < d)
    {q : List Int} (hl : q.length = v.shape.length) : ShowsSample md v A val q :=
  fun q' hfix => h q' (inside_fixPos md v.shape q q' hpos hl hfix)

theorem read_nbrAddr_nearest (vA : C08.View) (A : Img Int) (hshape : A.shape = vA.shape)
    (hpos : ∀ d ∈ vA.shape, 0 < d) (val : Int → Val) (q : List Int) (hA : ShowsSample .nearest vA A val q) :
    val ((nbrAddr .nearest vA q).getD vA.base) = C01.readNearest A q := by
  have hfix := C01.fixPos_nearest vA.shape q hpos
  unfold C01.readNearest nbrAddr
  rw [hshape, hfix]
  exact hA _ hfix

theorem erodeVals_eq (dt : DT) (A : Img Int) (p : List Int) (sup : List (List Int × Int))
    (extra : List Val) (acc : Int) :
    erodeVals dt (sup.map (·.2)) (sup.map (fun kh => C01.readNearest A (addPos p kh.1)) ++ extra) acc =
      C01.erodeAtExit.go dt A p sup acc := by
  induction sup generalizing acc with
  | nil => cases extra <;> simp [erodeVals, C01.erodeAtExit.go]
  | cons kh rest ih =>
    simp only [List.map_cons, List.cons_append, erodeVals, C01.erodeAtExit.go]
    split
    · rfl
    · exact ih _

theorem convVals_zip (l : List (Int × Int)) (val : Int → Val) (extra : List Val) (cur : Int) :
    convVals (l.map (·.2)) (l.map (fun aw => val aw.1) ++ extra) cur = l.foldl (fun c aw => c + val aw.1 * aw.2) cur := by
  induction l generalizing cur with
  | nil => cases extra <;> rfl
  | cons aw rest ih => exact ih _

theorem convVals_eq (md : Mode) (vA : C08.View) (f : Img Int) (hshape : f.shape = vA.shape) (val : Int → Val)
    (p : List Int) (sup : List (List Int × Int)) (hval : ∀ kw ∈ sup, ShowsSample md vA f val (addPos p kw.1))
    (extra : List Val) (cur : Int) :
    convVals ((convLive md vA sup p).map (·.2)) ((convLive md vA sup p).map (fun aw => val aw.1) ++ extra) cur =
      sup.foldl (fun cur kw => match C06.sample md f (addPos p kw.1) with
        | some v => cur + v * kw.2
        | none => cur) cur := by
  -- the live samples are a `filterMap` of the support: a flagged sample is skipped on both sides
  rw [convVals_zip, convLive, List.foldl_filterMap]
  refine foldl_congr_mem _ _ _ (fun c kw hkw => ?_) _
  unfold nbrAddr C06.sample
  rw [hshape]
  cases hfix : fixPos md vA.shape (addPos p kw.1) with
  | none => rfl
  | some q' => exact congrArg (c + · * kw.2) (hval kw hkw _ hfix)

theorem logFold_sim {σ ι : Type} (calls : List Call) (c : Call) (Inv : Mem → σ → Prop) (f : σ → ι → σ)
    (lg : σ → ι → List RStep) (P : ι → Prop)
    (h : ∀ M s x, P x → Inv M s → Inv (runR calls c (lg s x) M) (f s x)) :
    ∀ (xs : List ι) (M : Mem) (s : σ), (∀ x ∈ xs, P x) → Inv M s →
      Inv (runR calls c (logFold f lg s xs) M) (xs.foldl f s) := by
  intro xs
  induction xs with
  | nil => intro M s _ hi; exact hi
  | cons x xs ih =>
    intro M s hP hi
    simp only [logFold, runR_append, List.foldl_cons]
    exact ih _ _ (fun y hy => hP y (List.mem_cons_of_mem _ hy)) (h M s x (hP x (List.mem_cons_self ..)) hi)

theorem logFold_const {σ ι : Type} (f : σ → ι → σ) (B : ι → List RStep) (s : σ) (xs : List ι) :
    logFold f (fun _ x => B x) s xs = xs.flatMap B := by
  induction xs generalizing s with
  | nil => rfl
  | cons x xs ih => rw [logFold, ih, List.flatMap_cons]

/-- `logFold_sim` for a program with one block per element, where the blocks may use that the arrays the call does not
own still hold `M0` -/
theorem runR_flatMap_sim {σ ι : Type} (calls : List Call) (c : Call) (hne : c.outputs ≠ []) (M0 : Mem)
    (Inv : Mem → σ → Prop) (f : σ → ι → σ) (B : ι → List RStep) (P : ι → Prop)
    (h : ∀ M s x, P x → (∀ a off, a ∉ c.outputs → M (L calls a off) = M0 (L calls a off)) → Inv M s →
      Inv (runR calls c (B x) M) (f s x)) (xs : List ι) (s : σ) (hP : ∀ x ∈ xs, P x) (hi : Inv M0 s) :
    Inv (runR calls c (xs.flatMap B) M0) (xs.foldl f s) := by
  have := logFold_sim calls c
    (fun M s => (∀ a off, a ∉ c.outputs → M (L calls a off) = M0 (L calls a off)) ∧ Inv M s) f (fun _ x => B x) P
    (fun M s x hx hi => ⟨fun a off ha => (runR_unowned calls c hne _ M a off ha).trans (hi.1 a off ha),
      h M s x hx hi.1 hi.2⟩) xs M0 s hP ⟨fun _ _ _ => rfl, hi⟩
  rw [logFold_const] at this
  exact this.2

/-- a program with one step per element, run from `M0` by a call that owns an array. Let the steps that
hit cell `off` of array `a` store `h x` of what the cell holds (what else they read, from arrays the call does not own, is
in `h x`), and the others write elsewhere. Then the cell ends with the fold of the `h x` of the hits over what it held:
the program side of the owners' "slot" theorems about loops of stores (`foldl_modify_getD`). -/
theorem runR_accumulate {ι : Type} (calls : List Call) (c : Call) (hne : c.outputs ≠ []) (M0 : Mem) (a : Nat) (off : Int)
    (g : ι → RStep) (hit : ι → Bool) (h : ι → Val → Val) (xs : List ι)
    (hg : ∀ x ∈ xs, ∀ M, (∀ a' o, a' ∉ c.outputs → M (L calls a' o) = M0 (L calls a' o)) →
      if hit x = true then c.arrOf (.own (g x).dst) = a ∧ (g x).doff = off ∧
        (g x).op (reads calls c (g x) M) = h x (M (L calls a off))
      else c.arrOf (.own (g x).dst) = a → (g x).doff ≠ off) :
    runR calls c (xs.map g) M0 (L calls a off) = (xs.filter hit).foldl (fun v x => h x v) (M0 (L calls a off)) := by
  rw [List.foldl_filter, List.map_eq_flatMap]
  refine runR_flatMap_sim calls c hne M0 (fun M v => M (L calls a off) = v) _ (fun x => [g x]) (· ∈ xs)
    (fun M v x hx hM hv => ?_) xs _ (fun _ hx => hx) rfl
  have := hg x hx M hM
  rw [runR_cons, runR_nil]
  by_cases hx : hit x = true
  · rw [if_pos hx] at this ⊢
    rw [exec_eq_set calls c _ M a off _ this.1 this.2.1 this.2.2, hv]
    exact set_same _ _ _
  · rw [if_neg hx] at this ⊢
    rw [exec_mkStep, set_other _ _ _ _ fun e => this (L_inj calls _ _ _ _ e).1.symm (L_inj calls _ _ _ _ e).2.symm]
    exact hv

end Mahotas.C12
