/-
C10 — B1, odometers: `iterate_both` keeps the row pointer at `tableRow p`; `init_filter_offsets` fills row `n` at its representatives.

The pointer arithmetic of `iterate_both` moves the row pointer of the filter iterator by the change of `tableRow`
(`iterateBoth_step`); the array iterator is the carry loop of F6 in axis order (`succPos_eq`), so after `n` steps it stands
at flat index `n` with the pointer at `tableRow` of that position (`scanState_eq`). The position odometer of
`init_filter_offsets` fills row `n` at the representative positions of the region tuple with flat index `n`
(`fillPos_spec`): it is the same loop (`FilterIter.odoFwd`) over F6's per-axis rule `posSucc`, and one step of such a loop
takes flat index `i` to `i + 1` (`FilterIter.odoFwd_state`).
-/
import Mahotas.Proofs.C10Regions
import Mahotas.Proofs.FilterIterOdo
namespace Mahotas.C10
open Mahotas

/-- `tableRow` before the cast to `Nat`: the signed row index, linear in the region indices -/
def rowZ (as fs : List Nat) (p : List Int) : Int := ravelZ (minShape as fs) (regionIdxPos as fs p)

theorem rowZ_cons (a : Nat) (as : List Nat) (f : Nat) (fs : List Nat) (p : Int) (ps : List Int) :
    rowZ (a :: as) (f :: fs) (p :: ps) =
      (regionIndex a f p.toNat : Int) * (shapeSize (minShape as fs) : Int) + rowZ as fs ps := rfl

theorem rowZ_zeros {α : Type} (as fs : List Nat) (ps : List α) : rowZ as fs (ps.map (fun _ => 0)) = 0 := by
  induction as generalizing fs ps with
  | nil => cases fs <;> cases ps <;> rfl
  | cons a as ih =>
    cases fs with
    | nil => cases ps <;> rfl
    | cons f fs =>
      cases ps with
      | nil => rfl
      | cons x xs =>
        rw [List.map_cons, rowZ_cons, ih]
        exact (Int.add_zero _).trans (Int.zero_mul _)

theorem regionIndex_succ_int (a f : Nat) (p : Int) (hp : 0 ≤ p) :
    (regionIndex a f (p + 1).toNat : Int) =
      regionIndex a f p.toNat + (if p < origin f ∨ p ≥ (a : Int) - f + origin f then 1 else 0) := by
  obtain ⟨n, rfl⟩ := Int.eq_ofNat_of_zero_le hp
  rw [show ((n : Int) + 1).toNat = n + 1 from rfl, Int.toNat_natCast, regionIndex]
  split <;> simp

theorem iterateBoth_step (as fs : List Nat) (p : List Int) (hf : ∀ f ∈ fs, 0 < f)
    (hlen : fs.length = as.length) (hp : inside as p = true) :
    match succPos as p with
    | some p' => (iterateBothDelta as fs p).2 = false ∧ rowZ as fs p' = rowZ as fs p + (iterateBothDelta as fs p).1
    | none => (iterateBothDelta as fs p).2 = true ∧ rowZ as fs p + (iterateBothDelta as fs p).1 = 0 := by
  have z := Zip₃.of_length hlen (C01.inside_length hp)
  clear hlen
  induction z with
  | nil => exact ⟨rfl, rfl⟩
  | @cons a as f fs x xs _ ih =>
    simp only [inside, Bool.and_eq_true, decide_eq_true_eq] at hp
    obtain ⟨⟨p0, p1⟩, p2⟩ := hp
    have hrec := ih (fun g hg => hf g (by simp [hg])) p2
    cases hs : succPos as xs with
    | some xs' =>
      -- an inner axis advances: the pointer moves as it does for the inner axes
      rw [hs] at hrec
      obtain ⟨h1, h3⟩ := hrec
      have e1 : succPos (a :: as) (x :: xs) = some (x :: xs') := by simp only [succPos, hs]
      have e2 : iterateBothDelta (a :: as) (f :: fs) (x :: xs) = ((iterateBothDelta as fs xs).1, false) := by
        simp only [iterateBothDelta, h1, Bool.not_false, if_true]
      rw [e1, e2]
      refine ⟨rfl, ?_⟩
      rw [rowZ_cons, rowZ_cons, h3, Int.add_assoc]
    | none =>
      rw [hs] at hrec
      obtain ⟨h1, h2⟩ := hrec
      by_cases hx : x < (a : Int) - 1
      · -- this axis advances, the inner ones wrap to 0: `+= strides[d]` iff a region boundary is crossed
        have e1 : succPos (a :: as) (x :: xs) = some ((x + 1) :: xs.map fun _ => 0) := by
          simp only [succPos, hs, hx, if_true]
        have e2 : iterateBothDelta (a :: as) (f :: fs) (x :: xs) = ((iterateBothDelta as fs xs).1 +
            (if x < origin f ∨ x ≥ (a : Int) - f + origin f then (shapeSize (minShape as fs) : Int) else 0),
            false) := by
          simp only [iterateBothDelta, h1, Bool.not_true, Bool.false_eq_true, if_false, hx, if_true]
        rw [e1, e2]
        refine ⟨rfl, ?_⟩
        rw [rowZ_cons, rowZ_cons, rowZ_zeros, regionIndex_succ_int a f x p0]
        split
        · rw [Int.add_mul, Int.one_mul]; omega
        · rw [Int.add_zero, Int.add_zero]; omega
      · -- the last coordinate: `-= backstrides[d]` returns from the last region to region 0
        have e1 : succPos (a :: as) (x :: xs) = none := by simp only [succPos, hs, hx, if_false]
        have e2 : iterateBothDelta (a :: as) (f :: fs) (x :: xs) = ((iterateBothDelta as fs xs).1 -
            (((min a f : Nat) : Int) - 1) * (shapeSize (minShape as fs) : Int), true) := by
          simp only [iterateBothDelta, h1, Bool.not_true, Bool.false_eq_true, if_false, hx]
        rw [e1, e2]
        refine ⟨rfl, ?_⟩
        have hl := regionIndex_last a f
        rw [rowZ_cons, show x.toNat = a - 1 by omega, hl,
          show (((min a f - 1 : Nat)) : Int) = ((min a f : Nat) : Int) - 1 by have := hf f (by simp); omega]
        omega

theorem succPos_none_iff_delta (as fs : List Nat) (p : List Int) (hf : ∀ f ∈ fs, 0 < f)
    (hlen : fs.length = as.length) (hp : inside as p = true) :
    succPos as p = none ↔ (iterateBothDelta as fs p).2 = true := by
  have h := iterateBoth_step as fs p hf hlen hp
  cases hs : succPos as p with
  | some p' => rw [hs] at h; simp [h.1]
  | none => rw [hs] at h; simp [h.1]

theorem rowZ_eq (as fs : List Nat) (p : List Int) (hf : ∀ f ∈ fs, 0 < f) (hlen : fs.length = as.length)
    (hp : inside as p = true) : rowZ as fs p = (tableRow as fs p : Int) :=
  ravelZ_eq _ _ (regionIdxPos_inside as fs p hf hlen hp)

/-- `++iterator` is the forward odometer over the plain per-axis successor (`coordSucc` has the same test `x < n - 1`) -/
theorem succPos_eq (as : List Nat) (p : List Int) : succPos as p = FilterIter.odoFwd FilterIter.coordSucc as p := by
  induction as generalizing p with
  | nil => rfl
  | cons a as ih =>
    cases p with
    | nil => rfl
    | cons x xs =>
      rw [succPos, FilterIter.odoFwd, ih]
      cases FilterIter.odoFwd FilterIter.coordSucc as xs with
      | some r => rfl
      | none => simp only [FilterIter.coordSucc, apply_ite (Option.map _), Option.map_some, Option.map_none]

theorem odoState_nat (as : List Nat) (i : Nat) : FilterIter.odoState id FilterIter.natDig as i = unravelI as i := by
  rw [FilterIter.odoState, List.map_id]
  induction as generalizing i with
  | nil => rfl
  | cons a as ih => exact congrArg (List.cons _) (ih _)

theorem succPos_unravelI (as : List Nat) (hpos : ∀ d ∈ as, 0 < d) (i : Nat) (hi : i < shapeSize as) :
    succPos as (unravelI as i) = if i + 1 < shapeSize as then some (unravelI as (i + 1)) else none := by
  have h := FilterIter.odoFwd_state FilterIter.coordSucc id FilterIter.natDig as (fun _ _ => rfl) hpos
    (fun n _ r _ => FilterIter.coordSucc_natCast n r) i (by rwa [List.map_id])
  rwa [List.map_id, odoState_nat, odoState_nat, ← succPos_eq] at h

/-- the scan in closed form: after `n` steps the array iterator is at flat index `n` and the row pointer at `tableRow` of
    that position; there is no state past the last element -/
theorem scanState_eq (as fs : List Nat) (hpos : ∀ d ∈ as, 0 < d) (hf : ∀ f ∈ fs, 0 < f)
    (hlen : fs.length = as.length) (n : Nat) :
    scanState as fs n =
      if n < shapeSize as then some (unravelI as n, (tableRow as fs (unravelI as n) : Int)) else none := by
  induction n with
  | zero =>
    have hz : unravelI as 0 = as.map fun _ => 0 := by
      rw [← odoState_nat, FilterIter.odoState_zero_eq id FilterIter.natDig as fun _ _ => rfl]
    rw [if_pos (shapeSize_pos as hpos), scanState, hz,
      ← rowZ_eq as fs _ hf hlen (hz ▸ C01.inside_unravelI as 0 (shapeSize_pos as hpos)), rowZ_zeros]
  | succ n ih =>
    rw [scanState, ih]
    by_cases hn : n < shapeSize as
    · have hin := C01.inside_unravelI as n hn
      have hstep := iterateBoth_step as fs _ hf hlen hin
      rw [succPos_unravelI as hpos n hn] at hstep
      rw [if_pos hn]
      dsimp only
      rw [succPos_unravelI as hpos n hn]
      by_cases h1 : n + 1 < shapeSize as
      · rw [if_pos h1] at hstep
        rw [if_pos h1, if_pos h1, ← rowZ_eq as fs _ hf hlen hin, ← rowZ_eq as fs _ hf hlen (C01.inside_unravelI as _ h1), hstep.2]
      · rw [if_neg h1, if_neg h1]
    · rw [if_neg hn, if_neg (by omega)]

theorem nRegions_eq (a f : Nat) : FilterIter.nRegions a f = min a f := by
  have := FilterIter.nRegions_cases a f; omega

/-- "move to the next array region" over all axes is the forward odometer over F6's per-axis rule `posSucc` -/
theorem nextRegionPositions_eq (as fs : List Nat) (pos : List Int) :
    nextRegionPositions as fs pos = FilterIter.odoFwd FilterIter.posSucc (as.zip fs) pos := by
  induction as generalizing fs pos with
  | nil => rfl
  | cons a as ih =>
    cases fs with
    | nil => rfl
    | cons f fs =>
      cases pos with
      | nil => rfl
      | cons x xs =>
        rw [nextRegionPositions, List.zip_cons_cons, FilterIter.odoFwd, ih]
        cases FilterIter.odoFwd FilterIter.posSucc (as.zip fs) xs with
        | some r => rfl
        | none =>
          simp only [FilterIter.posSucc, nextRegionPos, origin_eq, apply_ite (Option.map _), Option.map_some,
            Option.map_none]

def regionPosTuple : List Nat → List Nat → List Int → List Int
  | a :: as, f :: fs, r :: rs => regionPos a f r.toNat :: regionPosTuple as fs rs
  | _, _, _ => []

theorem minShape_eq (as fs : List Nat) : minShape as fs = (as.zip fs).map fun x => min x.1 x.2 := by
  induction as generalizing fs with
  | nil => rfl
  | cons a as ih =>
    cases fs with
    | nil => rfl
    | cons f fs => rw [minShape, ih]; rfl

/-- the odometer state with index `l` holds the representatives of the region tuple with flat index `l` -/
theorem odoState_region (as fs : List Nat) (l : Nat) :
    FilterIter.odoState (fun x => min x.1 x.2) (fun x r => regionPos x.1 x.2 r) (as.zip fs) l =
      regionPosTuple as fs (unravelI (minShape as fs) l) := by
  rw [minShape_eq]
  induction as generalizing fs l with
  | nil => rfl
  | cons a as ih =>
    cases fs with
    | nil => rfl
    | cons f fs => exact congrArg _ (ih fs _)

/-- every row `n` of the table is filled at the representatives of the region tuple with flat index `n` -/
theorem fillPos_spec (as fs : List Nat) (hpos : ∀ d ∈ as, 0 < d) (hf : ∀ f ∈ fs, 0 < f)
    (hlen : fs.length = as.length) (n : Nat)
    (hn : n < shapeSize (minShape as fs)) :
    fillPos as fs n = some (regionPosTuple as fs (unravelI (minShape as fs) n)) := by
  -- `odoFwd_state` per axis `(a, f)`: radix `min a f` (its number of regions), digit `r ↦ regionPos a f r`, successor `posSucc`
  have hstep := FilterIter.odoFwd_state FilterIter.posSucc (fun x => min x.1 x.2) (fun x r => regionPos x.1 x.2 r) (as.zip fs)
    (fun _ _ => rfl) (fun x hx => Nat.lt_min.2 ⟨hpos _ (List.of_mem_zip hx).1, hf _ (List.of_mem_zip hx).2⟩)
    (fun x _ r _ => by
      rw [regionPos_eq, regionPos_eq, FilterIter.posSucc_rep, nRegions_eq])
  rw [← minShape_eq] at hstep
  induction n with
  | zero =>
    rw [fillPos, ← odoState_region, FilterIter.odoState_zero_eq]
    · simp [List.map_const', hlen]
    · exact fun _ _ => rfl
  | succ n ih =>
    rw [fillPos, ih (by omega), Option.bind_some, nextRegionPositions_eq, ← odoState_region, hstep n (by omega),
      if_pos hn, odoState_region]

theorem regionPosTuple_idx (as fs : List Nat) (p : List Int) :
    regionPosTuple as fs (regionIdxPos as fs p) = repPos as fs p := by
  induction as generalizing fs p with
  | nil => cases fs <;> cases p <;> rfl
  | cons a as ih =>
    cases fs with
    | nil => cases p <;> rfl
    | cons f fs =>
      cases p with
      | nil => rfl
      | cons x xs => simp only [regionPosTuple, regionIdxPos, repPos, ih, Int.toNat_natCast]

/-- the row in use at `p` was filled at `repPos p` -/
theorem fillPos_tableRow (as fs : List Nat) (p : List Int) (hf : ∀ f ∈ fs, 0 < f)
    (hlen : fs.length = as.length) (hp : inside as p = true) :
    fillPos as fs (tableRow as fs p) = some (repPos as fs p) := by
  have hin := regionIdxPos_inside as fs p hf hlen hp
  rw [tableRow, fillPos_spec as fs (C01.inside_dims_pos as p hp) hf hlen _ (C01.ravelI_lt _ _ hin),
    C01.unravelI_ravelI _ _ hin, regionPosTuple_idx]

end Mahotas.C10
