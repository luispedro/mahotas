/-
C20 — the transfer functions over the reals.

The generic definitions of `Model/C20.lean` (`srgbToLinearG`, `labFG`, `rgb2xyzG`, `xyz2labG`: the ones the
driver runs at `Float` with `Float.pow`) are instantiated here at `ℝ` with `Real.rpow` and the exact
rationals `…Q` of the extracted decimal literals. Each transfer function is a linear segment joined to a power law at a
knee: monotone because both branches are and a rational inequality between natural powers orders them at the knee; the
bounds for grey pixels are concavity of the power (`rpow_rel_le`, `rpow_sub_le`).
-/
import Mahotas.Proofs.C20
import Mathlib.Analysis.SpecialFunctions.Pow.Real
import Mathlib.Analysis.Convex.SpecificFunctions.Basic
namespace Mahotas.C20
open Mahotas Mahotas.Generated

noncomputable section

/-- the integer literals of `colors.py` at `ℝ` -/
def litsR : Lits ℝ := ⟨1, 3, 4, 6, 29, 16, 116, 200, 500⟩

def castM (m : List (List Rat)) : List (List ℝ) := m.map (fun r => r.map (fun q => (q : ℝ)))

theorem castM_rgb2xyzMQ : castM rgb2xyzMQ =
    [[1031 / 2500, 447 / 1250, 361 / 2000], [1063 / 5000, 447 / 625, 361 / 5000],
     [193 / 10000, 149 / 1250, 1901 / 2000]] := by
  simp [castM, rgb2xyzMQ]

theorem castM_rgb2xyzMQ_nonneg : ∀ row ∈ castM rgb2xyzMQ, ∀ a ∈ row, 0 ≤ a := by
  rw [castM_rgb2xyzMQ]
  simp only [List.forall_mem_cons, List.not_mem_nil, false_imp_iff, implies_true, and_true]
  norm_num

/-! ## powers: an inequality with `y ^ (m/n)` is the inequality between the natural powers; with exponent in `[0, 1]`
  the power is concave -/

theorem le_rpow_of_pow_le {x y e : ℝ} (m n : ℕ) [NeZero n] (he : e = m / n) (hx : 0 ≤ x) (hy : 0 ≤ y)
    (h : x ^ n ≤ y ^ m) : x ≤ y ^ e := by
  rw [he, div_eq_mul_inv, Real.rpow_natCast_mul hy,
    Real.le_rpow_inv_iff_of_pos hx (pow_nonneg hy m) (Nat.cast_pos.2 (NeZero.pos n)), Real.rpow_natCast]
  exact h

theorem rpow_le_of_pow_le {x y e : ℝ} (m n : ℕ) [NeZero n] (he : e = m / n) (hx : 0 ≤ x) (hy : 0 ≤ y)
    (h : y ^ m ≤ x ^ n) : y ^ e ≤ x := by
  rw [he, div_eq_mul_inv, Real.rpow_natCast_mul hy,
    Real.rpow_inv_le_iff_of_pos (pow_nonneg hy m) hx (Nat.cast_pos.2 (NeZero.pos n)), Real.rpow_natCast]
  exact h

/-- Bernoulli's inequality for an exponent in `[0, 1]`, scaled: a relative step `ε` of the argument raises the power
    by at most `p·ε` times its value -/
theorem rpow_rel_le {p x ε : ℝ} (hp0 : 0 ≤ p) (hp1 : p ≤ 1) (hx : 0 ≤ x) (hε : 0 ≤ ε) :
    (x * (1 + ε)) ^ p - x ^ p ≤ p * ε * x ^ p := by
  rw [Real.mul_rpow hx (by linarith only [hε])]
  have h := mul_le_mul_of_nonneg_left (rpow_one_add_le_one_add_mul_self (by linarith only [hε]) hp0 hp1)
    (Real.rpow_nonneg hx p)
  linarith only [h]

/-- a power with exponent in `[0, 1]` is concave: over `[x, y]` it rises by at most its slope `p·x^p/x` at `x`
    (`rpow_rel_le` for `y = x·(1 + (y − x)/x)`) -/
theorem rpow_sub_le {p x y : ℝ} (hp0 : 0 ≤ p) (hp1 : p ≤ 1) (hx : 0 < x) (hxy : x ≤ y) :
    y ^ p - x ^ p ≤ p * ((y - x) / x) * x ^ p := by
  have h := rpow_rel_le hp0 hp1 hx.le (div_nonneg (sub_nonneg.2 hxy) hx.le)
  rwa [show x * (1 + (y - x) / x) = y by field_simp; ring] at h

/-- above `k > 0` a power with exponent in `[0, 1]` has slope at most its slope `p·k^p/k` at `k`: the slope
    `p·x^p/x = p·x^(p−1)` at the left end (`rpow_sub_le`) falls as `x` grows -/
theorem rpow_lip_above {p k C x y : ℝ} (hp0 : 0 ≤ p) (hp1 : p ≤ 1) (hk : 0 < k) (hC : p * k ^ p ≤ C * k)
    (hx : k ≤ x) (hxy : x ≤ y) : y ^ p - x ^ p ≤ C * (y - x) := by
  have hx0 : 0 < x := hk.trans_le hx
  have hs := Real.rpow_le_rpow_of_nonpos hk hx (sub_nonpos.2 hp1)
  rw [Real.rpow_sub_one hx0.ne', Real.rpow_sub_one hk.ne', div_le_div_iff₀ hx0 hk] at hs
  have h1 : p * x ^ p ≤ C * x := by
    refine le_of_mul_le_mul_right ?_ hk
    linarith only [mul_le_mul_of_nonneg_left hs hp0, mul_le_mul_of_nonneg_right hC hx0.le]
  have h2 := mul_le_mul_of_nonneg_left h1 (div_nonneg (sub_nonneg.2 hxy) hx0.le)
  have h3 : (y - x) / x * (C * x) = C * (y - x) := by field_simp
  linarith only [rpow_sub_le hp0 hp1 hx0 hxy, h2, h3]

/-- the model's sRGB decoding (`srgbToLinearG`, selections and constants as extracted) at `ℝ` -/
def srgbR (c : ℝ) : ℝ :=
  srgbToLinearG Real.rpow litsR.one (srgbScaleQ : ℝ) (srgbAQ : ℝ) (srgbGammaQ : ℝ) (srgbSlopeQ : ℝ)
    (srgbKneeQ : ℝ) fwdLowWhenBelow c

theorem srgbR_eq (c : ℝ) :
    srgbR c = if c / 255 ≤ 809 / 20000 then c / 255 / (323 / 25)
      else ((c / 255 + 11 / 200) / (1 + 11 / 200)) ^ ((12 : ℝ) / 5) := by
  simp only [srgbR, srgbToLinearG, litsR, fwdLowWhenBelow, srgbScaleQ, srgbAQ, srgbGammaQ, srgbSlopeQ,
    srgbKneeQ, if_true]
  push_cast
  simp only [div_one, Real.rpow_eq_pow]

theorem srgbR_low_strict {c c' : ℝ} (h : c < c') (hk : c' / 255 ≤ 809 / 20000) : srgbR c < srgbR c' := by
  have hcc : c / 255 < c' / 255 := div_lt_div_of_pos_right h (by norm_num)
  rw [srgbR_eq, srgbR_eq, if_pos hk, if_pos (hcc.le.trans hk)]
  exact div_lt_div_of_pos_right hcc (by norm_num)

theorem srgb_pow_strict {x y : ℝ} (hx : 0 ≤ x + 11 / 200) (h : x < y) :
    ((x + 11 / 200) / (1 + 11 / 200)) ^ ((12 : ℝ) / 5) < ((y + 11 / 200) / (1 + 11 / 200)) ^ ((12 : ℝ) / 5) :=
  Real.rpow_lt_rpow (div_nonneg hx (by norm_num))
    (div_lt_div_of_pos_right (by linarith only [h]) (by norm_num)) (by norm_num)

theorem srgbR_high_strict {c c' : ℝ} (h : c < c') (hk : 809 / 20000 < c / 255) : srgbR c < srgbR c' := by
  have hcc : c / 255 < c' / 255 := div_lt_div_of_pos_right h (by norm_num)
  rw [srgbR_eq, srgbR_eq, if_neg (not_le.2 (hk.trans hcc)), if_neg (not_le.2 hk)]
  exact srgb_pow_strict (by linarith only [hk]) hcc

/-- across the knee: the end of the linear segment lies below the start of the power-law segment
    (`0.04045/12.92 ≤ ((0.04045+0.055)/1.055)^2.4`, from the rational inequality between the 5th and
    12th powers) -/
theorem srgbR_knee : (809 / 20000 : ℝ) / (323 / 25) ≤ (((809 / 20000 : ℝ) + 11 / 200) / (1 + 11 / 200)) ^ ((12 : ℝ) / 5) :=
  le_rpow_of_pow_le 12 5 (by norm_num) (by norm_num) (by norm_num) (by norm_num)

theorem srgbR_strictMono : StrictMono srgbR := by
  intro c c' h
  by_cases hk' : c' / 255 ≤ 809 / 20000
  · exact srgbR_low_strict h hk'
  · by_cases hk : c / 255 ≤ 809 / 20000
    · rw [srgbR_eq, srgbR_eq, if_pos hk, if_neg hk']
      have h1 : c / 255 / (323 / 25) ≤ (809 / 20000 : ℝ) / (323 / 25) :=
        div_le_div_of_nonneg_right hk (by norm_num)
      exact (h1.trans srgbR_knee).trans_lt (srgb_pow_strict (by norm_num) (not_le.1 hk'))
    · exact srgbR_high_strict h (not_le.1 hk)

theorem srgbR_zero : srgbR 0 = 0 := by
  rw [srgbR_eq, if_pos (by norm_num)]; norm_num

theorem srgbR_255 : srgbR 255 = 1 := by
  rw [srgbR_eq, if_neg (by norm_num)]
  have : (((255 : ℝ) / 255 + 11 / 200) / (1 + 11 / 200)) = 1 := by norm_num
  rw [this, Real.one_rpow]

theorem srgbR_unit {c : ℝ} (h0 : 0 ≤ c) (h1 : c ≤ 255) : 0 ≤ srgbR c ∧ srgbR c ≤ 1 := by
  constructor
  · rw [← srgbR_zero]; exact srgbR_strictMono.monotone h0
  · rw [← srgbR_255]; exact srgbR_strictMono.monotone h1

/-- the model's `rgb2xyz` (`rgb2xyzG`: transfer function on each channel, then the extracted matrix) at `ℝ` -/
def rgb2xyzR (rgb : List ℝ) : List ℝ := rgb2xyzG (castM rgb2xyzMQ) srgbR rgb

theorem rgb2xyzR_eq (r g b : ℝ) :
    rgb2xyzR [r, g, b] =
      [(1031 : ℝ) / 2500 * srgbR r + ((447 : ℝ) / 1250 * srgbR g + ((361 : ℝ) / 2000 * srgbR b + 0)),
       (1063 : ℝ) / 5000 * srgbR r + ((447 : ℝ) / 625 * srgbR g + ((361 : ℝ) / 5000 * srgbR b + 0)),
       (193 : ℝ) / 10000 * srgbR r + ((149 : ℝ) / 1250 * srgbR g + ((1901 : ℝ) / 2000 * srgbR b + 0))] := by
  rw [rgb2xyzR, rgb2xyzG, castM_rgb2xyzMQ]; rfl

theorem rgb2xyzR_mono {r g b r' g' b' : ℝ} (hr : r ≤ r') (hg : g ≤ g') (hb : b ≤ b') :
    List.Forall₂ (· ≤ ·) (rgb2xyzR [r, g, b]) (rgb2xyzR [r', g', b']) :=
  matVec_mono castM_rgb2xyzMQ_nonneg (.cons (srgbR_strictMono.monotone hr)
    (.cons (srgbR_strictMono.monotone hg) (.cons (srgbR_strictMono.monotone hb) .nil)))

/-- the model's `f` (`labFG`, selection, `δ` and exponent as extracted) at `ℝ` -/
def labFR (t : ℝ) : ℝ :=
  labFG Real.rpow (fun n => (n : ℝ)) litsR (labDeltaNumQ : ℝ) (labDeltaDenQ : ℝ) labSmallWhenBelow labKneeExp t

theorem labFR_eq (t : ℝ) :
    labFR t = if t ≤ (6 / 29 : ℝ) ^ 3 then (1 / 3 * (29 / 6) * (29 / 6)) * t + 4 / 29 else t ^ ((3 : ℝ)⁻¹) := by
  simp only [labFR, labFG, litsR, labSmallWhenBelow, labKneeExp, labDeltaNumQ, labDeltaDenQ, if_true]
  push_cast
  simp only [div_one, Real.rpow_eq_pow, one_div]
  rw [show ((3 : ℝ)) = ((3 : ℕ) : ℝ) by norm_num, Real.rpow_natCast]

/-- continuity at the knee, exactly: the linear branch at `δ³` is `δ`, the cube root of the knee -/
theorem lab_knee_linear : (1 / 3 * (29 / 6) * (29 / 6)) * (6 / 29 : ℝ) ^ 3 + 4 / 29 = 6 / 29 := by norm_num

theorem lab_knee_root : ((6 / 29 : ℝ) ^ 3) ^ ((3 : ℝ)⁻¹) = 6 / 29 := by
  have := Real.pow_rpow_inv_natCast (show (0 : ℝ) ≤ 6 / 29 by norm_num) (n := 3) (by norm_num)
  simpa using this

theorem labFR_mono : Monotone labFR := by
  intro t t' h
  have hK : (0 : ℝ) ≤ (6 / 29 : ℝ) ^ 3 := by norm_num
  rw [labFR_eq, labFR_eq]
  by_cases hk' : t' ≤ (6 / 29 : ℝ) ^ 3
  · rw [if_pos (h.trans hk'), if_pos hk']
    linarith only [h]
  · have h2 : (6 / 29 : ℝ) ≤ t' ^ ((3 : ℝ)⁻¹) := by
      rw [← lab_knee_root]
      exact Real.rpow_le_rpow hK (le_of_not_ge hk') (by norm_num)
    by_cases hk : t ≤ (6 / 29 : ℝ) ^ 3
    · rw [if_pos hk, if_neg hk']
      linarith only [hk, h2, lab_knee_linear]
    · rw [if_neg hk, if_neg hk']
      exact Real.rpow_le_rpow (hK.trans (le_of_not_ge hk)) h (by norm_num)

theorem labFR_one : labFR 1 = 1 := by
  rw [labFR_eq, if_neg (by norm_num), Real.one_rpow]

/-- the model's `xyz2lab` (`xyz2labG` with the extracted white point) at `ℝ` -/
def xyz2labR (xyz : List ℝ) : List ℝ := xyz2labG labFR litsR (labWhiteQ.map (fun q => (q : ℝ))) xyz

theorem xyz2labR_eq (x y z : ℝ) :
    xyz2labR [x, y, z] =
      [116 * labFR (y / 1) - 16, 500 * (labFR (x / (95047 / 100000)) - labFR (y / 1)),
       200 * (labFR (y / 1) - labFR (z / (108883 / 100000)))] := by
  simp [xyz2labR, xyz2labG, litsR, labWhiteQ]

theorem matVec_grey (a b c d e f g h i s : ℝ) :
    matVec [[a, b, c], [d, e, f], [g, h, i]] [s, s, s] = [(a + b + c) * s, (d + e + f) * s, (g + h + i) * s] := by
  rw [matVec_three]
  simp only [List.cons.injEq, and_true]
  refine ⟨?_, ?_, ?_⟩ <;> ring

/-! ## the actual white-point mismatch (4-digit matrix, 5-digit white point) -/

/-- relative perturbation of the argument: for a linear grey level `0 ≤ s ≤ 1` and `ε ≥ 0`,
    `0 ≤ f(s(1+ε)) − f(s) ≤ ε/3` (cube-root branch: slope at `s` times the step `sε` is `(ε/3)·s^(1/3)`; linear branch: slope
    `·δ³ = δ/3 = 2/29`; across the knee: the slope of the cube root at the knee is that of the linear branch) -/
theorem labFR_rel_bound {s ε : ℝ} (hs0 : 0 ≤ s) (hs1 : s ≤ 1) (hε : 0 ≤ ε) :
    labFR s ≤ labFR (s * (1 + ε)) ∧ labFR (s * (1 + ε)) - labFR s ≤ ε / 3 := by
  have hsε : 0 ≤ s * ε := mul_nonneg hs0 hε
  refine ⟨labFR_mono (by linarith only [hsε]), ?_⟩
  have hKv : (6 / 29 : ℝ) ^ 3 = 216 / 24389 := by norm_num
  have hroot := lab_knee_root
  rw [labFR_eq, labFR_eq, hKv] at *
  by_cases hk : s ≤ 216 / 24389
  · have hkε : s * ε ≤ 216 / 24389 * ε := mul_le_mul_of_nonneg_right hk hε
    rw [if_pos hk]
    by_cases hk' : s * (1 + ε) ≤ 216 / 24389
    · rw [if_pos hk']
      linarith only [hkε, hε]
    · rw [if_neg hk']
      have h := rpow_sub_le (p := (3 : ℝ)⁻¹) (by norm_num) (by norm_num) (by norm_num : (0 : ℝ) < 216 / 24389)
        (le_of_not_ge hk')
      rw [hroot] at h
      linarith only [h, hkε, hε]
  · have hk' : ¬ s * (1 + ε) ≤ 216 / 24389 := fun h => hk (by linarith only [h, hsε])
    rw [if_neg hk, if_neg hk']
    have h := rpow_rel_le (p := (3 : ℝ)⁻¹) (by norm_num) (by norm_num) hs0 hε
    have m2 := mul_le_mul_of_nonneg_left (Real.rpow_le_one hs0 hs1 (by norm_num : (0 : ℝ) ≤ 3⁻¹))
      (by linarith only [hε] : 0 ≤ 3⁻¹ * ε)
    linarith only [h, m2]

/-- `a* = 500·(f(s(1+ε)) − f(s))` with `ε = 3/95047`, `b* = −200·(f(s(1+ε')) − f(s))` with `ε' = 17/108883`, each difference in
    `[0, ε/3]` by `labFR_rel_bound`: `500/95047 = 500·ε/3`, `3400/326649 = 200·ε'/3` -/
theorem lab_grey_bound {s : ℝ} (hs0 : 0 ≤ s) (hs1 : s ≤ 1) :
    ∃ a b : ℝ, xyz2labR (matVec (castM rgb2xyzMQ) [s, s, s]) = [116 * labFR s - 16, a, b] ∧
      0 ≤ a ∧ a ≤ 500 / 95047 ∧ -(3400 / 326649) ≤ b ∧ b ≤ 0 := by
  rw [castM_rgb2xyzMQ, matVec_grey, xyz2labR_eq]
  have ex : (1031 / 2500 + 447 / 1250 + 361 / 2000) * s / (95047 / 100000) = s * (1 + 3 / 95047) := by ring
  have ey : (1063 / 5000 + 447 / 625 + 361 / 5000) * s / 1 = s := by ring
  have ez : (193 / 10000 + 149 / 1250 + 1901 / 2000) * s / (108883 / 100000) = s * (1 + 17 / 108883) := by ring
  rw [ex, ey, ez]
  obtain ⟨x1, x2⟩ := labFR_rel_bound hs0 hs1 (show (0 : ℝ) ≤ 3 / 95047 by norm_num)
  obtain ⟨z1, z2⟩ := labFR_rel_bound hs0 hs1 (show (0 : ℝ) ≤ 17 / 108883 by norm_num)
  exact ⟨_, _, rfl, by linarith only [x1], by linarith only [x2], by linarith only [z2], by linarith only [z1]⟩

end

end Mahotas.C20
