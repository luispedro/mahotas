/-
C04 — the flooding depends on the surface only through the *order* of its
values.  Two surfaces of one shape whose values compare alike at every pair of pixels drive the
specification flooding (`specRun`) through states that differ only in the costs stored in the queue:
every extract-min picks the entry with the same insertion index, every visit takes the same branch.
Hence the reduction of a surface to its dense ranks (what the harness does for floating surfaces)
changes neither the labels nor the lines.
-/
import Mahotas.Proofs.C04Flood
import Mathlib.Data.Finset.Card

namespace Mahotas.C04
open Mahotas

/-- the two surfaces have one shape and their values compare alike at every pair of pixels
    (equalities are then preserved as well, by trichotomy) -/
structure OrdEquiv (surf surf' : Img Int) : Prop where
  shape : surf'.shape = surf.shape
  lt : ∀ i j, i < shapeSize surf.shape → j < shapeSize surf.shape →
    (surf.data.getD i 0 < surf.data.getD j 0 ↔ surf'.data.getD i 0 < surf'.data.getD j 0)

theorem OrdEquiv.lt_pos {surf surf' : Img Int} (h : OrdEquiv surf surf') (p q : List Int)
    (hp : inside surf.shape p = true) (hq : inside surf.shape q = true) :
    (surf.getD p 0 < surf.getD q 0 ↔ surf'.getD p 0 < surf'.getD q 0) := by
  rw [Img.getD_inside surf p 0 hp, Img.getD_inside surf q 0 hq, Img.getD_inside surf' p 0 (by rw [h.shape]; exact hp),
    Img.getD_inside surf' q 0 (by rw [h.shape]; exact hq), h.shape]
  exact h.lt _ _ (C01.ravelI_lt _ _ hp) (C01.ravelI_lt _ _ hq)

/-- the queue entry for the same pixel, same insertion index, with its cost read from `surf'` -/
def recost (surf' : Img Int) (e : SQE) : SQE := ⟨surf'.getD e.pos 0, e.idx, e.pos⟩

theorem keyLt_iff (a b : Int × Nat) :
    keyLt a b = true ↔ (a.1 < b.1 ∨ a.1 = b.1 ∧ a.2 < b.2) := by
  unfold keyLt
  simp only [Bool.or_eq_true, Bool.and_eq_true, decide_eq_true_eq, beq_iff_eq]

theorem keyLt_recost {surf surf' : Img Int} (h : OrdEquiv surf surf') (a b : SQE)
    (ha : a.cost = surf.getD a.pos 0 ∧ inside surf.shape a.pos = true)
    (hb : b.cost = surf.getD b.pos 0 ∧ inside surf.shape b.pos = true) :
    keyLt (SQE.key (recost surf' a)) (SQE.key (recost surf' b)) = keyLt (SQE.key a) (SQE.key b) := by
  have h1 := h.lt_pos a.pos b.pos ha.2 hb.2
  have h2 := h.lt_pos b.pos a.pos hb.2 ha.2
  rw [Bool.eq_iff_iff, keyLt_iff, keyLt_iff]
  show (surf'.getD a.pos 0 < surf'.getD b.pos 0 ∨ surf'.getD a.pos 0 = surf'.getD b.pos 0 ∧ a.idx < b.idx)
    ↔ (a.cost < b.cost ∨ a.cost = b.cost ∧ a.idx < b.idx)
  rw [ha.1, hb.1]
  exact or_congr h1.symm (and_congr_left' (by omega))

/-- the states of the two floodings differ only in the costs stored in the queue -/
structure ORel (surf surf' : Img Int) (st st' : SSt) : Prop where
  idx : st'.idx = st.idx
  label : st'.label = st.label
  lines : st'.lines = st.lines
  queue : st'.queue = st.queue.map (recost surf')
  cost : ∀ e ∈ st.queue, e.cost = surf.getD e.pos 0 ∧ inside surf.shape e.pos = true

theorem visit_orel {surf surf' : Img Int} (hE : OrdEquiv surf surf') (p off : List Int) (st st' : SSt)
    (h : ORel surf surf' st st') :
    ORel surf surf' (specVisit surf p st off) (specVisit surf' p st' off) := by
  obtain ⟨hidx, hlab, hlin, hq, hc⟩ := h
  have hany : st'.queue.any (fun e => e.pos == addPos p off)
      = st.queue.any (fun e => e.pos == addPos p off) := by
    rw [hq, List.any_map]; rfl
  -- the second flooding takes the branch the first one takes
  refine specVisit_cases surf p st off (fun s => ORel surf surf' s (specVisit surf' p st' off)) ?_ ?_ ?_ ?_
  · intro hin
    rw [specVisit_out surf' p st' off (hE.shape ▸ hin)]
    exact ⟨hidx, hlab, hlin, hq, hc⟩
  · intro hin h0
    rw [specVisit_push surf' p st' off (hE.shape ▸ hin) (hlab ▸ h0), hidx, hlab, hq]
    refine ⟨rfl, rfl, hlin, by rw [List.map_append]; rfl, fun e he => ?_⟩
    rcases List.mem_append.mp he with he | he
    · exact hc e he
    · rw [List.mem_singleton.mp he]; exact ⟨rfl, hin⟩
  · intro hin h0 hqd hd
    rw [specVisit_line surf' p st' off (hE.shape ▸ hin) (hlab ▸ h0) (hany ▸ hqd) (hlab ▸ hd), hlin]
    exact ⟨hidx, hlab, rfl, hq, hc⟩
  · intro hin h0 hs
    rw [specVisit_same surf' p st' off (hE.shape ▸ hin) (hlab ▸ h0) (hlab ▸ hany ▸ hs)]
    exact ⟨hidx, hlab, hlin, hq, hc⟩

/-- one iteration: the same entry (same insertion index, same pixel) is popped on both sides -/
theorem step_orel {surf surf' : Img Int} (hE : OrdEquiv surf surf') (offs : List (List Int)) (st st' : SSt)
    (h : ORel surf surf' st st') :
    (specStep surf offs st = none ∧ specStep surf' offs st' = none) ∨
    ∃ s1 s1', specStep surf offs st = some s1 ∧ specStep surf' offs st' = some s1' ∧
      ORel surf surf' s1 s1' := by
  unfold specStep
  rw [h.queue, extractMin_map_on (recost surf') SQE.key SQE.key st.queue
    (fun x hx y hy => keyLt_recost hE x y (h.cost x hx) (h.cost y hy)) (fun x => rfl)]
  cases hx : extractMin SQE.key st.queue with
  | none => left; exact ⟨rfl, rfl⟩
  | some er =>
    obtain ⟨e, rest⟩ := er
    right
    obtain ⟨hmem, hrest⟩ := extractMin_some SQE.key st.queue e rest hx
    refine ⟨_, _, rfl, rfl, ?_⟩
    show ORel surf surf' _ (offs.foldl (specVisit surf' e.pos) _)
    refine foldl_rel_mem (ORel surf surf') _ _ offs (fun s t o _ h => visit_orel hE e.pos o s t h) _ _ ?_
    exact { idx := h.idx, label := h.label, lines := h.lines, queue := rfl,
            cost := by
              intro e' he'
              rw [hrest] at he'
              exact h.cost e' (List.mem_of_mem_filter he') }

theorem run_orel {surf surf' : Img Int} (hE : OrdEquiv surf surf') (offs : List (List Int)) (n : Nat) :
    ∀ st st', ORel surf surf' st st' →
      ORel surf surf' (specRun surf offs n st) (specRun surf' offs n st') := by
  induction n with
  | zero => intro st st' h; exact h
  | succ n ih =>
    intro st st' h
    simp only [specRun]
    rcases step_orel hE offs st st' h with ⟨h1, h2⟩ | ⟨s1, s1', h1, h2, h3⟩
    · rw [h1, h2]; exact h
    · rw [h1, h2]; exact ih s1 s1' h3

theorem stepS_orel {surf surf' : Img Int} (markers : Img Int) (p : List Int)
    (hp : inside surf.shape p = true) (st st' : SSt) (h : ORel surf surf' st st') :
    ORel surf surf' (stepS surf markers st p) (stepS surf' markers st' p) := by
  obtain ⟨hidx, hlab, hlin, hq, hc⟩ := h
  unfold stepS
  simp only [hidx, hlab]
  split_ifs
  · exact ⟨hidx, hlab, hlin, hq, hc⟩
  · refine ⟨rfl, rfl, hlin, ?_, ?_⟩
    · simp only [hq, List.map_append, List.map_cons, List.map_nil, recost]
    · intro e he
      simp only [List.mem_append, List.mem_singleton] at he
      rcases he with he | rfl
      · exact hc e he
      · exact ⟨rfl, hp⟩

theorem init_orel {surf surf' : Img Int} (hE : OrdEquiv surf surf') (markers : Img Int) :
    ORel surf surf' (specInit surf markers) (specInit surf' markers) := by
  rw [specInit_eq, specInit_eq, hE.shape]
  have hbase : ORel surf surf' (initS surf) (initS surf') := by
    refine ⟨rfl, ?_, ?_, rfl, ?_⟩
    · simp only [initS, hE.shape]
    · simp only [initS, hE.shape]
    · intro e he; simp [initS] at he
  exact foldl_range_rel _ _ _ (fun _ => ORel surf surf') hbase
    (fun k st st' hk h => stepS_orel markers _ (C01.inside_unravelI surf.shape k hk) st st' h)

theorem cwatershedSpec_orel {surf surf' : Img Int} (hE : OrdEquiv surf surf') (markers : Img Int)
    (bshape : List Nat) (bc : Array Int) :
    ORel surf surf' (cwatershedSpec surf markers bshape bc) (cwatershedSpec surf' markers bshape bc) := by
  unfold cwatershedSpec fuelOf
  rw [hE.shape]
  exact run_orel hE _ _ _ _ (init_orel hE markers)

/-- the surface with `phi` applied to every cost -/
def mapSurf (phi : Int → Int) (surf : Img Int) : Img Int := ⟨surf.shape, surf.data.map phi⟩

theorem mapSurf_ordEquiv (phi : Int → Int) (surf : Img Int)
    (hsz : shapeSize surf.shape ≤ surf.data.size)
    (hphi : ∀ a ∈ surf.data.toList, ∀ b ∈ surf.data.toList, a < b → phi a < phi b) :
    OrdEquiv surf (mapSurf phi surf) := by
  refine ⟨rfl, fun i j hi hj => ?_⟩
  have key : ∀ k, k < shapeSize surf.shape → surf.data.getD k 0 ∈ surf.data.toList ∧
      (mapSurf phi surf).data.getD k 0 = phi (surf.data.getD k 0) := by
    intro k hk
    have hk' : k < surf.data.size := Nat.lt_of_lt_of_le hk hsz
    simp [mapSurf, Array.getD_eq_getD_getElem?, hk']
  obtain ⟨mi, gi⟩ := key i hi
  obtain ⟨mj, gj⟩ := key j hj
  rw [gi, gj]
  refine ⟨hphi _ mi _ mj, fun hlt => ?_⟩
  -- `phi` reflects the order: it is increasing, and equal costs stay equal
  rcases lt_trichotomy (surf.data.getD i 0) (surf.data.getD j 0) with h | h | h
  · exact h
  · rw [h] at hlt; exact absurd hlt (lt_irrefl _)
  · exact absurd (hphi _ mj _ mi h) (not_lt.mpr hlt.le)

/-- dense rank of `v` among the values of `data`: the number of distinct values below `v`
    (`numpy.unique(data, return_inverse=True)[1]` at an occurrence of `v`) -/
def denseRank (data : Array Int) (v : Int) : Int :=
  (((data.toList.toFinset).filter (fun x => x < v)).card : Int)

theorem denseRank_strictMonoOn (data : Array Int) :
    ∀ a ∈ data.toList, ∀ b ∈ data.toList, a < b → denseRank data a < denseRank data b := by
  intro a ha b _ hab
  unfold denseRank
  have : ((data.toList.toFinset).filter (fun x => x < a)).card
      < ((data.toList.toFinset).filter (fun x => x < b)).card := by
    apply Finset.card_lt_card
    rw [Finset.ssubset_iff_of_subset]
    · refine ⟨a, ?_, ?_⟩
      · simp only [Finset.mem_filter, List.mem_toFinset]; exact ⟨ha, hab⟩
      · simp only [Finset.mem_filter, List.mem_toFinset, lt_irrefl, and_false, not_false_eq_true]
    · intro x hx
      simp only [Finset.mem_filter, List.mem_toFinset] at hx ⊢
      exact ⟨hx.1, lt_trans hx.2 hab⟩
  exact_mod_cast this

end Mahotas.C04
