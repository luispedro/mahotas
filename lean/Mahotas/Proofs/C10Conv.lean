/-
C10 — lemmas for `Model/C10Conv.lean`: the scratch vector of `rank_filter`, the Daubechies coefficient tables.
-/
import Mahotas.Model.C10Conv
namespace Mahotas.C10Conv
open Mahotas

theorem allOk_iff (l : List CAcc) : allOk l = true ↔ ∀ a ∈ l, 0 ≤ a.i ∧ a.i < a.size := by
  simp only [allOk, List.all_eq_true, CAcc.ok, Bool.and_eq_true, decide_eq_true_eq]

/-- the stores of one pixel are `n, n+1, …, final-1`; at most one per neighbour; exactly one per neighbour in constant mode -/
theorem rankStores_spec (c : Bool) (rs : List Bool) (n : Int) :
    n ≤ (rankStores c rs n).2 ∧ (rankStores c rs n).2 ≤ n + rs.length ∧
      (∀ i ∈ (rankStores c rs n).1, n ≤ i ∧ i < (rankStores c rs n).2) ∧
      (c = true → (rankStores c rs n).2 = n + rs.length) := by
  induction rs generalizing n with
  | nil => exact ⟨Int.le_refl n, Int.le_of_eq (Int.add_zero n).symm, nofun, fun _ => (Int.add_zero n).symm⟩
  | cons r rs ih =>
    have hlen : n + ((rs.length + 1 : Nat) : Int) = n + 1 + rs.length := by
      rw [Int.natCast_succ, Int.add_assoc, Int.add_comm 1]
    rw [List.length_cons, hlen]
    by_cases hrc : (r || c) = true
    · obtain ⟨h1, h2, h3, h4⟩ := ih (n + 1)
      have e : rankStores c (r :: rs) n = (n :: (rankStores c rs (n + 1)).1, (rankStores c rs (n + 1)).2) := if_pos hrc
      rw [e]
      -- on `Int`, `h1 : n + 1 ≤ _` is `n < _`
      exact ⟨Int.le_of_lt h1, h2,
        List.forall_mem_cons.mpr ⟨⟨Int.le_refl n, h1⟩, fun i hi => ⟨Int.le_of_lt (h3 i hi).1, (h3 i hi).2⟩⟩, h4⟩
    · obtain ⟨h1, h2, h3, h4⟩ := ih n
      have e : rankStores c (r :: rs) n = rankStores c rs n := if_neg hrc
      rw [e]
      exact ⟨h1, Int.le_trans h2 (Int.add_le_add_right (Int.le_add_one (Int.le_refl n)) _), h3,
        fun hc => absurd (Bool.or_eq_true_iff.mpr (Or.inr hc)) hrc⟩

theorem curRank_spec (n2 n rank : Int) (hr0 : 0 ≤ rank) (hr : rank < n2) (hn0 : 0 ≤ n) (hn : n ≤ n2) :
    0 ≤ curRank n2 n rank ∧ curRank n2 n rank ≤ n ∧ curRank n2 n rank < n2 ∧ (0 < n → curRank n2 n rank < n) := by
  by_cases hne : n ≠ n2
  · have hpos : 0 < n2 := Int.lt_of_le_of_lt hr0 hr
    have hnn : 0 ≤ n * rank := Int.mul_nonneg hn0 hr0
    have h2 : n * rank / n2 ≤ n :=
      Int.ediv_le_of_le_mul hpos (Int.mul_le_mul_of_nonneg_left (Int.le_of_lt hr) hn0)
    rw [curRank, if_pos hne, Int.tdiv_eq_ediv_of_nonneg hnn]
    exact ⟨Int.ediv_nonneg hnn (Int.le_of_lt hpos), h2, Int.lt_of_le_of_lt h2 (Int.lt_iff_le_and_ne.mpr ⟨hn, hne⟩),
      fun hp => Int.ediv_lt_of_lt_mul hpos (Int.mul_lt_mul_of_pos_left hr hp)⟩
  · obtain rfl : n = n2 := Decidable.not_not.mp hne
    rw [curRank, if_neg hne]
    exact ⟨hr0, Int.le_of_lt hr, hr, fun _ => hr⟩

/-- one pixel of `rank_filter` with `0 ≤ rank < N2` and `N2` neighbours: every store and the read `neighbours[currank]` is a
    cell of the scratch vector -/
theorem rankPixelAccesses_ok (n2 rank : Int) (isConst : Bool) (retr : List Bool) (hlen : (retr.length : Int) = n2)
    (hr0 : 0 ≤ rank) (hr : rank < n2) : allOk (rankPixelAccesses n2 rank isConst retr) = true := by
  obtain ⟨h1, h2, h3, -⟩ := rankStores_spec isConst retr 0
  rw [Int.zero_add, hlen] at h2
  obtain ⟨c1, -, c3, -⟩ := curRank_spec n2 _ rank hr0 hr h1 h2
  rw [rankPixelAccesses, if_neg (not_or.mpr ⟨Int.not_lt.mpr hr0, Int.not_le.mpr hr⟩), allOk_iff, List.forall_mem_append,
    List.forall_mem_map, List.forall_mem_singleton]
  exact ⟨fun i hi => ⟨(h3 i hi).1, Int.lt_of_lt_of_le (h3 i hi).2 h2⟩, c1, c3⟩

theorem dcoeffs_length : Generated.dcoeffs.length = 10 := by decide

/-- the table `dcoeffs(code)` selects has `2*(code+1)` entries -/
theorem dcoeffs_row_length : ∀ c < 10, (Generated.dcoeffs.getD c []).length = 2 * (c + 1) := by decide

theorem daubCoeffReads_eq_none (code : Int) : daubCoeffReads code = none ↔ code < 0 ∨ 9 < code := by
  rw [daubCoeffReads, dcoeffs_length, Int.ofNat_eq_natCast]
  split
  · exact ⟨nofun, fun h => by omega⟩
  · exact ⟨fun _ => by omega, fun _ => rfl⟩

theorem daubCoeffReads_ok (code : Int) (l : List CAcc) (h : daubCoeffReads code = some l) : allOk l = true := by
  simp only [daubCoeffReads, dcoeffs_length] at h
  split at h
  · rename_i hc
    obtain ⟨c, rfl⟩ := Int.eq_ofNat_of_zero_le hc.1
    have e : (2 * ((c : Int) + 1)).toNat = 2 * (c + 1) := Int.toNat_natCast _
    rw [Int.toNat_natCast, e, dcoeffs_row_length c (Int.ofNat_lt.mp hc.2)] at h
    rw [← Option.some.inj h, allOk_iff, List.forall_mem_map]
    exact fun j hj => ⟨Int.natCast_nonneg j, Int.ofNat_lt.mpr (List.mem_range.mp hj)⟩
  · cases h

end Mahotas.C10Conv
