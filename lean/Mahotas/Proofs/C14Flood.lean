/-
F14 for C14: the stack flood fill of `Model/C14.lean` (with fuel) clears exactly the flags of the
pixels reachable from the initial stack through available pixels.
-/
import Mahotas.Proofs.C14
namespace Mahotas.C14
open Mahotas

def cnt (av : Array Bool) : Nat := av.toList.countP id

theorem cnt_take (av : Array Bool) (i : Nat) (h : av.getD i false = true) :
    cnt (av.setIfInBounds i false) + 1 = cnt av :=
  countP_toList_clear av i h

theorem cnt_le_size (av : Array Bool) : cnt av ≤ av.size := by
  unfold cnt
  have := List.countP_le_length (p := id) (l := av.toList)
  simpa using this

/-- what a flood starts from, frozen: `Reach` and the invariants speak of the initial flags `avail0` and the initial
    stack `stack0`, while the flags and the stack of the loop change -/
structure Ctx where
  shape : List Nat
  nb : List (List Int)
  avail0 : Array Bool
  stack0 : List (List Int)

def Ctx.fl (c : Ctx) (av : Array Bool) (q : List Int) : Bool := av.getD (ravelI c.shape q) false

/-- `q` is reached from the initial stack by steps `p ↦ p + k` (`k` in the neighbourhood) through
    pixels inside the image that are initially available -/
inductive Reach (c : Ctx) : List Int → Prop
  | base (p q k : List Int) : p ∈ c.stack0 → k ∈ c.nb → q = addPos p k → inside c.shape q = true →
      c.fl c.avail0 q = true → Reach c q
  | step (p q k : List Int) : Reach c p → k ∈ c.nb → q = addPos p k → inside c.shape q = true →
      c.fl c.avail0 q = true → Reach c q

def Src (c : Ctx) (p : List Int) : Prop := p ∈ c.stack0 ∨ Reach c p

theorem Reach.of_src {c : Ctx} {p k : List Int} (hp : Src c p) (hk : k ∈ c.nb)
    (hin : inside c.shape (addPos p k) = true) (hav : c.fl c.avail0 (addPos p k) = true) :
    Reach c (addPos p k) := by
  rcases hp with hp | hp
  · exact Reach.base p _ k hp hk rfl hin hav
  · exact Reach.step p _ k hp hk rfl hin hav

theorem Reach.props {c : Ctx} {q : List Int} (h : Reach c q) :
    inside c.shape q = true ∧ c.fl c.avail0 q = true := by
  cases h with
  | base _ _ _ _ _ _ hin hav => exact ⟨hin, hav⟩
  | step _ _ _ _ _ _ hin hav => exact ⟨hin, hav⟩

/-- the sources are the closure of the initial stack under steps to available pixels inside the image -/
@[elab_as_elim]
theorem Src.induction {c : Ctx} {P : List Int → Prop} (h0 : ∀ p ∈ c.stack0, P p)
    (hs : ∀ p k, Src c p → P p → k ∈ c.nb → inside c.shape (addPos p k) = true →
      c.fl c.avail0 (addPos p k) = true → P (addPos p k)) {q : List Int} (h : Src c q) : P q := by
  rcases h with h | h
  · exact h0 q h
  · induction h with
    | base p q k hp hk hq hin hav => exact hq ▸ hs p k (Or.inl hp) (h0 p hp) hk (hq ▸ hin) (hq ▸ hav)
    | step p q k hp hk hq hin hav ih => exact hq ▸ hs p k (Or.inr hp) ih hk (hq ▸ hin) (hq ▸ hav)

/-- `p` is finished: each of its neighbours that is inside and was available has been taken -/
def Done (c : Ctx) (av : Array Bool) (p : List Int) : Prop :=
  ∀ k ∈ c.nb, inside c.shape (addPos p k) = true → c.fl c.avail0 (addPos p k) = true →
    c.fl av (addPos p k) = false

/-- invariant of the inner loop: `p` has been popped and the offsets `done` processed -/
structure InvIn (c : Ctx) (p : List Int) (done : List (List Int)) (av : Array Bool)
    (st : List (List Int)) : Prop where
  sub : ∀ q, inside c.shape q = true → c.fl av q = true → c.fl c.avail0 q = true
  taken : ∀ q, inside c.shape q = true → c.fl c.avail0 q = true → c.fl av q = false → Reach c q
  stk : ∀ p' ∈ st, Src c p'
  src : Src c p
  -- as `Inv.closed`, or the source is the pixel `p` being processed (finished as far as `part` says)
  closed : ∀ p', Src c p' → p' ∈ st ∨ (inside c.shape p' = true ∧ c.fl av p' = true) ∨ Done c av p' ∨ p' = p
  part : ∀ k ∈ done, inside c.shape (addPos p k) = true → c.fl c.avail0 (addPos p k) = true →
    c.fl av (addPos p k) = false

structure Inv (c : Ctx) (av : Array Bool) (st : List (List Int)) : Prop where
  sub : ∀ q, inside c.shape q = true → c.fl av q = true → c.fl c.avail0 q = true
  taken : ∀ q, inside c.shape q = true → c.fl c.avail0 q = true → c.fl av q = false → Reach c q
  stk : ∀ p' ∈ st, Src c p'
  -- every source is waiting on the stack, or has not been taken yet (its flag is still set), or is finished: all its
  -- available neighbours are taken
  closed : ∀ p', Src c p' → p' ∈ st ∨ (inside c.shape p' = true ∧ c.fl av p' = true) ∨ Done c av p'

theorem fl_set (c : Ctx) (av : Array Bool) (q q' : List Int) (hq : inside c.shape q = true)
    (hq' : inside c.shape q' = true) :
    c.fl (av.setIfInBounds (ravelI c.shape q) false) q' = (if q' = q then false else c.fl av q') := by
  unfold Ctx.fl
  rw [getD_setIfInBounds_default]
  by_cases h : q' = q
  · subst h; simp
  · have : ravelI c.shape q ≠ ravelI c.shape q' := fun he => h (C01.ravelI_inj c.shape q' q hq' hq he.symm)
    simp [this, h]

theorem invIn_take (c : Ctx) (p : List Int) (done : List (List Int)) (av : Array Bool)
    (st : List (List Int)) (k : List Int) (hk : k ∈ c.nb) (h : InvIn c p done av st)
    (hin : inside c.shape (addPos p k) = true) (hav : c.fl av (addPos p k) = true) :
    InvIn c p (done ++ [k]) (av.setIfInBounds (ravelI c.shape (addPos p k)) false) (addPos p k :: st) := by
  have hreach : Reach c (addPos p k) := Reach.of_src h.src hk hin (h.sub _ hin hav)
  have hfl := fun q' hq' => fl_set c av _ q' hin hq'
  have hF : ∀ q', inside c.shape q' = true → c.fl av q' = false →
      c.fl (av.setIfInBounds (ravelI c.shape (addPos p k)) false) q' = false := fun q' hq' hf => by
    rw [hfl q' hq', hf]; exact ite_self _
  refine ⟨?_, ?_, ?_, h.src, ?_, ?_⟩
  · intro q hq hf
    rw [hfl q hq] at hf
    split at hf
    · cases hf
    · exact h.sub q hq hf
  · intro q hq h0 hf
    rw [hfl q hq] at hf
    by_cases he : q = addPos p k
    · exact he ▸ hreach
    · exact h.taken q hq h0 (by rwa [if_neg he] at hf)
  · intro p' hp'
    rcases List.mem_cons.mp hp' with rfl | hp'
    · exact Or.inr hreach
    · exact h.stk p' hp'
  · intro p' hp'
    rcases h.closed p' hp' with h1 | ⟨h1, h2⟩ | h1 | h1
    · exact Or.inl (List.mem_cons_of_mem _ h1)
    · by_cases he : p' = addPos p k
      · exact Or.inl (he ▸ List.mem_cons_self)
      · exact Or.inr (Or.inl ⟨h1, by rw [hfl p' h1, if_neg he]; exact h2⟩)
    · exact Or.inr (Or.inr (Or.inl fun k' hk' hin' hav' => hF _ hin' (h1 k' hk' hin' hav')))
    · exact Or.inr (Or.inr (Or.inr h1))
  · intro k' hk' hin' hav'
    rcases List.mem_append.mp hk' with hk' | hk'
    · exact hF _ hin' (h.part k' hk' hin' hav')
    · rw [List.mem_singleton.mp hk', hfl _ hin, if_pos rfl]

theorem invIn_skip (c : Ctx) (p : List Int) (done : List (List Int)) (av : Array Bool)
    (st : List (List Int)) (k : List Int) (h : InvIn c p done av st)
    (hno : ¬ (inside c.shape (addPos p k) = true ∧ c.fl av (addPos p k) = true)) :
    InvIn c p (done ++ [k]) av st := by
  refine ⟨h.sub, h.taken, h.stk, h.src, h.closed, ?_⟩
  intro k' hk' hin' hav'
  rcases List.mem_append.mp hk' with hk' | hk'
  · exact h.part k' hk' hin' hav'
  · simp only [List.mem_singleton] at hk'
    subst hk'
    cases hf : c.fl av (addPos p k')
    · rfl
    · exact absurd ⟨hin', hf⟩ hno

/-- the body of the inner loop of `floodVisit` -/
def visitStep (shape : List Nat) (p : List Int) (acc : Array Bool × List (List Int)) (k : List Int) :
    Array Bool × List (List Int) :=
  let q := addPos p k
  if inside shape q && acc.1.getD (ravelI shape q) false then
    (acc.1.setIfInBounds (ravelI shape q) false, q :: acc.2)
  else acc

theorem floodVisit_eq (shape : List Nat) (nb : List (List Int)) (p : List Int)
    (st : Array Bool × List (List Int)) : floodVisit shape nb p st = nb.foldl (visitStep shape p) st := rfl

/-- one visit conserves `stack length + number of set flags`: a pixel is pushed exactly when its flag is cleared -/
theorem visit_measure (shape : List Nat) (p : List Int) (ks : List (List Int)) (av : Array Bool) (st : List (List Int)) :
    (ks.foldl (visitStep shape p) (av, st)).2.length + cnt (ks.foldl (visitStep shape p) (av, st)).1 =
      st.length + cnt av := by
  induction ks generalizing av st with
  | nil => rfl
  | cons k ks ih =>
    rw [List.foldl_cons, visitStep]
    split
    · next hc =>
      rw [ih, List.length_cons, Nat.add_right_comm, Nat.add_assoc, cnt_take av _ (Bool.and_eq_true_iff.mp hc).2]
    · exact ih av st

theorem visit_inv (c : Ctx) (p : List Int) (ks : List (List Int)) (hks : ∀ k ∈ ks, k ∈ c.nb)
    (done : List (List Int)) (av : Array Bool) (st : List (List Int)) (h : InvIn c p done av st) :
    InvIn c p (done ++ ks) (ks.foldl (visitStep c.shape p) (av, st)).1
      (ks.foldl (visitStep c.shape p) (av, st)).2 := by
  induction ks generalizing done av st with
  | nil => simpa using h
  | cons k t ih =>
    have ht : ∀ k' ∈ t, k' ∈ c.nb := fun k' hk' => hks k' (by simp [hk'])
    rw [List.foldl_cons, show done ++ k :: t = (done ++ [k]) ++ t by simp, visitStep]
    split
    · next hc =>
      rw [Bool.and_eq_true] at hc
      exact ih ht _ _ _ (invIn_take c p done av st k (hks k (by simp)) h hc.1 hc.2)
    · next hc => exact ih ht _ _ _ (invIn_skip c p done av st k h (by rwa [Bool.and_eq_true] at hc))

theorem flood_inv (c : Ctx) (fuel : Nat) (av : Array Bool) (st : List (List Int)) (h : Inv c av st)
    (hf : st.length + cnt av ≤ fuel) : Inv c (flood c.shape c.nb fuel av st) [] := by
  induction fuel generalizing av st with
  | zero =>
    obtain rfl : st = [] := List.eq_nil_of_length_eq_zero (by omega)
    unfold flood
    exact h
  | succ n ih =>
    cases st with
    | nil => unfold flood; exact h
    | cons p s =>
      unfold flood
      simp only []
      rw [floodVisit_eq]
      have hin : InvIn c p [] av s := by
        refine ⟨h.sub, h.taken, fun p' hp' => h.stk p' (List.mem_cons_of_mem _ hp'),
          h.stk p List.mem_cons_self, ?_, by simp⟩
        intro p' hp'
        rcases h.closed p' hp' with h1 | h1 | h1
        · rcases List.mem_cons.mp h1 with h1 | h1
          · exact Or.inr (Or.inr (Or.inr h1))
          · exact Or.inl h1
        · exact Or.inr (Or.inl h1)
        · exact Or.inr (Or.inr (Or.inl h1))
      have h1 := visit_inv c p c.nb (fun _ hk => hk) [] av s hin
      have h2 := visit_measure c.shape p c.nb av s
      simp only [List.nil_append] at h1
      apply ih
      · refine ⟨h1.sub, h1.taken, h1.stk, ?_⟩
        intro p' hp'
        rcases h1.closed p' hp' with h3 | h3 | h3 | h3
        · exact Or.inl h3
        · exact Or.inr (Or.inl h3)
        · exact Or.inr (Or.inr h3)
        · subst h3; exact Or.inr (Or.inr h1.part)
      · rw [h2]; simp only [List.length_cons] at hf; omega

/-- **F14**: with enough fuel, the flood clears exactly the flags of the pixels reachable from the
    initial stack through initially available pixels -/
theorem flood_final (c : Ctx) (fuel : Nat) (hfuel : c.stack0.length + cnt c.avail0 ≤ fuel)
    (h0 : ∀ p ∈ c.stack0, c.fl c.avail0 p = false) (q : List Int) (hq : inside c.shape q = true) :
    c.fl (flood c.shape c.nb fuel c.avail0 c.stack0) q = true ↔
      (c.fl c.avail0 q = true ∧ ¬ Reach c q) := by
  have hinit : Inv c c.avail0 c.stack0 := by
    refine ⟨fun _ _ h => h, ?_, fun p hp => Or.inl hp, ?_⟩
    · intro q _ h1 h2; rw [h1] at h2; cases h2
    · intro p hp
      rcases hp with hp | hp
      · exact Or.inl hp
      · exact Or.inr (Or.inl hp.props)
  have hI := flood_inv c fuel c.avail0 c.stack0 hinit hfuel
  generalize flood c.shape c.nb fuel c.avail0 c.stack0 = fin at hI
  -- no source inside the image keeps its flag
  have key : ∀ q, Src c q → ¬ (inside c.shape q = true ∧ c.fl fin q = true) := by
    intro q hs
    refine hs.induction ?_ ?_
    · rintro p hp ⟨h1, h2⟩
      have := hI.sub p h1 h2
      rw [h0 p hp] at this; cases this
    · rintro p k hp ih hk hin hav ⟨_, h2⟩
      rcases hI.closed p hp with h1 | h1 | h1
      · cases h1
      · exact ih h1
      · rw [h1 k hk hin hav] at h2; cases h2
  constructor
  · intro h
    exact ⟨hI.sub q hq h, fun hr => key q (Or.inr hr) ⟨hq, h⟩⟩
  · rintro ⟨h1, h2⟩
    cases hf : c.fl fin q
    · exact absurd (hI.taken q hq h1 hf) h2
    · rfl

theorem fl_foldl_set (c : Ctx) (ps : List (List Int)) (hps : ∀ p ∈ ps, inside c.shape p = true)
    (av : Array Bool) (q : List Int) (hq : inside c.shape q = true) :
    c.fl (ps.foldl (fun a p => a.setIfInBounds (ravelI c.shape p) false) av) q = true ↔
      (c.fl av q = true ∧ q ∉ ps) := by
  induction ps generalizing av with
  | nil => simp
  | cons p t ih =>
    simp only [List.foldl_cons, List.mem_cons, not_or]
    rw [ih (fun p' hp' => hps p' (by simp [hp'])), fl_set c av p q (hps p (by simp)) hq]
    by_cases h : q = p
    · simp [h]
    · simp [h]

/-- `flood_final` for a flood whose seeds have been cleared from the flags `av` and wait on the stack (in any order):
    a flag survives exactly when it was set and the pixel is no source -/
theorem flood_seeded (c : Ctx) (av : Array Bool) (seeds : List (List Int))
    (hav : c.avail0 = seeds.foldl (fun a p => a.setIfInBounds (ravelI c.shape p) false) av)
    (hst : ∀ p, p ∈ c.stack0 ↔ p ∈ seeds) (hin : ∀ p ∈ seeds, inside c.shape p = true) (fuel : Nat)
    (hfuel : c.stack0.length + av.size ≤ fuel) (q : List Int) (hq : inside c.shape q = true) :
    c.fl (flood c.shape c.nb fuel c.avail0 c.stack0) q = true ↔ (c.fl av q = true ∧ ¬ Src c q) := by
  have hfl : ∀ q, inside c.shape q = true → (c.fl c.avail0 q = true ↔ c.fl av q = true ∧ q ∉ seeds) :=
    fun q hq => hav ▸ fl_foldl_set c seeds hin av q hq
  have hsz : c.avail0.size = av.size := by rw [hav, foldl_set_size]
  rw [flood_final c fuel (Nat.le_trans (Nat.add_le_add_left (hsz ▸ cnt_le_size c.avail0) _) hfuel)
    (fun p hp => Bool.eq_false_iff.mpr fun h => ((hfl p (hin p ((hst p).mp hp))).mp h).2 ((hst p).mp hp)) q hq,
    hfl q hq, and_assoc]
  exact and_congr_right fun _ => (and_congr_left' (not_congr (hst q)).symm).trans not_or.symm

end Mahotas.C14
