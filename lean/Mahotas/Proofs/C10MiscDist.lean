/-
C10 — `distance_multi`: every dereferenced position is inside the array, for every shape, every list of
deltas (whatever `neighbours_delta` produced, whatever rank), every content of `res`, every step budget.
-/
import Mahotas.Proofs.C10Misc
import Mahotas.Proofs.C01Index
namespace Mahotas.C10Misc
open Mahotas

def POk (a : PAcc) : Prop := inside a.shape a.pos = true

/-- `validposition` is the foundation's `inside` -/
theorem validLoop_eq_inside : ∀ (shape : List Nat) (pos : List Int), shape.length = pos.length →
    validLoop shape pos = inside shape pos
  | [], [], _ => rfl
  | [], _ :: _, hl => by simp at hl
  | _ :: _, [], hl => by simp at hl
  | d :: ds, p :: ps, hl => by
    rw [validLoop, inside, ← validLoop_eq_inside ds ps (Nat.succ.inj hl)]
    by_cases h : p < 0 ∨ p ≥ (d : Int)
    · rw [if_pos h]; have : ¬ (0 ≤ p ∧ p < (d : Int)) := by omega
      simp [this]
    · rw [if_neg h]; have : 0 ≤ p ∧ p < (d : Int) := by omega
      simp [this]

theorem validPosition_eq_inside (shape : List Nat) (pos : List Int) : validPosition shape pos = inside shape pos := by
  unfold validPosition
  by_cases hl : shape.length = pos.length
  · rw [if_neg (not_not.2 hl), validLoop_eq_inside shape pos hl]
  · rw [if_pos hl]
    exact (Bool.eq_false_iff.2 fun h => hl (C01.inside_length h).symm).symm

/-- dereferenced positions inside the array, pushed queue entries inside the array -/
def ScanOk (shape : List Nat) : List PAcc × List Int × List DmEntry → Prop :=
  Run POk fun s => ∀ e ∈ s.2, inside shape e.1 = true

theorem dmScan_spec (first : Bool) (shape : List Nat) (img : List Bool) (orig : List Int) :
    ∀ (ds : List (List Int)) (nxt res : List Int), ScanOk shape (dmScan true first shape img orig ds nxt res)
  | [], nxt, res => ⟨by simp [dmScan], by simp [dmScan]⟩
  | d :: ds, nxt, res => by
    simp only [dmScan, Bool.not_true, Bool.false_or]
    by_cases hv : validPosition shape (posAdd nxt d) = true
    · rw [if_pos hv]
      have hp : POk (PAcc.mk (posAdd nxt d) shape) := ((validPosition_eq_inside _ _).symm.trans hv)
      have ha1 : ∀ a ∈ (if first = true then [PAcc.mk (posAdd nxt d) shape] else []), POk a := by
        split
        · exact List.forall_mem_singleton.2 hp
        · exact fun _ h => absurd h List.not_mem_nil
      by_cases hc : (!first || img.getD (ravelI shape (posAdd nxt d)) false) = true
      · rw [if_pos hc]
        by_cases hg : res.getD (ravelI shape (posAdd nxt d)) 0 > euc2 (posAdd nxt d) orig
        · rw [if_pos hg]
          have ih := dmScan_spec first shape img orig ds (posAdd nxt d)
            (res.set (ravelI shape (posAdd nxt d)) (euc2 (posAdd nxt d) orig))
          exact ⟨List.forall_mem_append.2 ⟨List.forall_mem_append.2 ⟨ha1,
            List.forall_mem_cons.2 ⟨hp, List.forall_mem_singleton.2 hp⟩⟩, ih.1⟩, List.forall_mem_cons.2 ⟨hp, ih.2⟩⟩
        · rw [if_neg hg]
          exact (dmScan_spec first shape img orig ds (posAdd nxt d) res).prepend
            (List.forall_mem_append.2 ⟨ha1, List.forall_mem_singleton.2 hp⟩)
      · rw [if_neg hc]
        exact (dmScan_spec first shape img orig ds (posAdd nxt d) res).prepend ha1
    · rw [if_neg hv]
      exact dmScan_spec first shape img orig ds (posAdd nxt d) res

theorem dmFirst_spec (shape : List Nat) (img : List Bool) (deltas : List (List Int)) :
    ∀ (is : List Nat) (res : List Int), (∀ i ∈ is, i < shapeSize shape) →
      ScanOk shape (dmFirst true shape img deltas is res)
  | [], res, _ => ⟨by simp [dmFirst], by simp [dmFirst]⟩
  | i :: is, res, hi => by
    have hp : POk (PAcc.mk (unravelI shape i) shape) :=
      C01.inside_unravelI shape i (hi i List.mem_cons_self)
    have hi' : ∀ j ∈ is, j < shapeSize shape := fun j hj => hi j (List.mem_cons_of_mem _ hj)
    simp only [dmFirst]
    split
    · have hs := dmScan_spec true shape img (unravelI shape i) deltas (unravelI shape i) (res.set i 0)
      have ih := dmFirst_spec shape img deltas is
        (dmScan true true shape img (unravelI shape i) deltas (unravelI shape i) (res.set i 0)).2.1 hi'
      exact ⟨List.forall_mem_append.2 ⟨List.forall_mem_cons.2 ⟨hp, List.forall_mem_cons.2 ⟨hp, hs.1⟩⟩, ih.1⟩,
        List.forall_mem_append.2 ⟨hs.2, ih.2⟩⟩
    · have ih := dmFirst_spec shape img deltas is res hi'
      exact ⟨List.forall_mem_cons.2 ⟨hp, ih.1⟩, ih.2⟩

theorem dmSecond_spec (shape : List Nat) (img : List Bool) (deltas : List (List Int)) :
    ∀ (f : Nat) (q : List DmEntry) (res : List Int), (∀ e ∈ q, inside shape e.1 = true) →
      ∀ a ∈ (dmSecond true shape img deltas f q res).1, POk a
  | 0, q, res, _ => by simp [dmSecond]
  | f + 1, [], res, _ => by simp [dmSecond]
  | f + 1, (cur, orig, dist) :: q, res, hq => by
    have hc : POk (PAcc.mk cur shape) := hq (cur, orig, dist) List.mem_cons_self
    have hq' : ∀ e ∈ q, inside shape e.1 = true := fun e he => hq e (List.mem_cons_of_mem _ he)
    simp only [dmSecond]
    split
    · exact List.forall_mem_cons.2 ⟨hc, dmSecond_spec shape img deltas f q res hq'⟩
    · have hs := dmScan_spec false shape img orig deltas cur res
      exact List.forall_mem_append.2 ⟨List.forall_mem_cons.2 ⟨hc, hs.1⟩,
        dmSecond_spec shape img deltas f _ _ (List.forall_mem_append.2 ⟨hq', hs.2⟩)⟩

theorem dmRun_ok (shape : List Nat) (img : List Bool) (res : List Int) (deltas : List (List Int)) (fuel : Nat) :
    ∀ a ∈ (dmRun true shape img res deltas fuel).1, POk a := by
  have h1 := dmFirst_spec shape img deltas (List.range (shapeSize shape)) res
    (fun i hi => List.mem_range.mp hi)
  exact List.forall_mem_append.2 ⟨h1.1, dmSecond_spec shape img deltas fuel _ _ h1.2⟩

end Mahotas.C10Misc
