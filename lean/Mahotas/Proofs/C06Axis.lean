/-
C06 — `convolve1d` along one axis. A line of length `N` is a function of the coordinate along it; `axisSum` is the
defining sum along a line, read through the border rule (`read1`), and a line is only read inside `[0, N)`
(`axisSum_congr`). The border loop of the row kernel is `axisSum` of its row (`fastBorder_eq_axisSum`), and so is the
n-D defining sum with the kernel embedded on an axis, for the line through the pixel (`convSpec_embed`); hence the
row kernel computes that defining sum on any array whose row holds that line (`fastBorder_of_row`): on `lineThrough`
(`fastAt_eq_spec`), on a 2-D image itself (`fastBorder_eq_spec`), on the transposed view (`viaTranspose_getD`).
-/
import Mahotas.Proofs.C06Fast
import Mahotas.Proofs.C01Index
namespace Mahotas.C06
open Mahotas

/-- an image of the right size is its shape and its values at the inside positions -/
theorem toList_eq_map_getD {β : Type} (im : Img β) (d : β) (s : List Nat) (F : List Int → β) (hsh : im.shape = s)
    (hsz : im.data.size = shapeSize s) (h : ∀ p, inside s p = true → im.getD p d = F p) :
    im.data.toList = (allPos s).map F := by
  subst hsh
  apply List.ext_getElem
  · simp [allPos, hsz]
  · intro i h1 h2
    have hi : i < shapeSize im.shape := by simpa [allPos] using h2
    simp only [allPos, List.getElem_map, List.getElem_range, ← h _ (C01.inside_unravelI _ _ hi), Img.getD,
      C01.inside_unravelI _ _ hi, if_true, C01.ravelI_unravelI _ _ hi]
    rw [Array.getD_eq_getD_getElem?]
    simp [hsz, hi]

theorem embedShape_zero (n Nf : Nat) : embedShape (n + 1) 0 Nf = Nf :: List.replicate n 1 := by
  unfold embedShape
  rw [List.range_succ_eq_map]
  simp [Function.comp_def, List.map_const']

theorem embedShape_succ (n a Nf : Nat) : embedShape (n + 1) (a + 1) Nf = 1 :: embedShape n a Nf := by
  unfold embedShape
  rw [List.range_succ_eq_map]
  simp [Function.comp_def]

theorem shapeSize_ones (n : Nat) : shapeSize (List.replicate n 1) = 1 := by
  induction n with
  | zero => simp [shapeSize]
  | succ n ih => simp [List.replicate_succ, shapeSize, ih]

theorem shapeSize_embedShape (n a Nf : Nat) (ha : a < n) : shapeSize (embedShape n a Nf) = Nf := by
  induction n generalizing a with
  | zero => exact absurd ha (Nat.not_lt_zero _)
  | succ n ih =>
    cases a with
    | zero => rw [embedShape_zero]; simp [shapeSize, shapeSize_ones]
    | succ a => rw [embedShape_succ]; simp [shapeSize, ih a (Nat.lt_of_succ_lt_succ ha)]

theorem offsetOf_cons (d : Nat) (ds : List Nat) (i : Nat) :
    offsetOf (d :: ds) i =
      (Int.ofNat (i / shapeSize ds) - ((d / 2 : Nat) : Int)) :: offsetOf ds (i % shapeSize ds) := rfl

theorem addPos_offsetOf_ones (ps : List Int) (n : Nat) (h : ps.length = n) :
    addPos ps (offsetOf (List.replicate n 1) 0) = ps := by
  induction ps generalizing n with
  | nil => subst h; rfl
  | cons x xs ih =>
    subst h
    rw [List.length_cons, List.replicate_succ, offsetOf_cons, Nat.zero_div, Nat.zero_mod]
    exact congrArg₂ List.cons (Int.add_zero x) (ih _ rfl)

theorem addPos_offsetOf_embed (n a Nf i : Nat) (p : List Int) (ha : a < n) (hi : i < Nf) (hp : p.length = n) :
    addPos p (offsetOf (embedShape n a Nf) i) =
      setAxis p a (p.getD a 0 + (i : Int) - ((Nf / 2 : Nat) : Int)) := by
  induction n generalizing a p with
  | zero => exact absurd ha (Nat.not_lt_zero _)
  | succ n ih =>
    cases p with
    | nil => simp at hp
    | cons x xs =>
      have hxs : xs.length = n := Nat.succ.inj hp
      cases a with
      | zero =>
        rw [embedShape_zero, offsetOf_cons, shapeSize_ones, Nat.mod_one, Nat.div_one]
        exact congrArg₂ List.cons (Int.add_sub_assoc _ _ _).symm (addPos_offsetOf_ones xs n hxs)
      | succ a =>
        rw [embedShape_succ, offsetOf_cons, shapeSize_embedShape n a Nf (Nat.lt_of_succ_lt_succ ha),
          Nat.div_eq_of_lt hi, Nat.mod_eq_of_lt hi]
        exact congrArg₂ List.cons (Int.add_zero x) (ih a xs (Nat.lt_of_succ_lt_succ ha) hxs)

theorem inside_pair (N0 N1 : Nat) (a b : Int) (ha0 : 0 ≤ a) (ha1 : a < N0) (hb0 : 0 ≤ b) (hb1 : b < N1) :
    inside [N0, N1] [a, b] = true := by
  simp only [inside, Bool.and_eq_true, decide_eq_true_eq, and_true]
  exact ⟨⟨ha0, ha1⟩, hb0, hb1⟩

theorem ravelI_pair (N0 N1 : Nat) (r : Nat) (x : Int) :
    ravelI [N0, N1] [(r : Int), x] = r * N1 + x.toNat := by
  simp [ravelI, shapeSize]

theorem dims_pos_pair (N0 N1 : Nat) (h0 : 0 < N0) (h1 : 0 < N1) : ∀ d ∈ [N0, N1], 0 < d := by
  intro d hd
  rcases List.mem_pair.1 hd with rfl | rfl
  · exact h0
  · exact h1

theorem specPos_setAxis (m : Mode) (shape : List Nat) (p : List Int) (a : Nat) (cc : Int)
    (hp : inside shape p = true) (ha : a < shape.length) :
    specPos m shape (setAxis p a cc) =
      (match borderSpec m cc ((shape.getD a 1 : Nat) : Int) with
       | some o => some (setAxis p a o)
       | none => none) := by
  induction shape generalizing p a with
  | nil => simp at ha
  | cons d ds ih =>
    cases p with
    | nil => exact absurd hp Bool.false_ne_true
    | cons x xs =>
      simp only [inside, Bool.and_eq_true, decide_eq_true_eq] at hp
      cases a with
      | zero =>
        simp only [setAxis, specPos, List.getD_cons_zero]
        rw [C01.specPos_of_inside m ds xs hp.2]
        cases borderSpec m cc d <;> rfl
      | succ a =>
        simp only [setAxis, specPos, List.getD_cons_succ]
        rw [borderSpec_inside m x d hp.1.1 hp.1.2, ih xs a hp.2 (by simpa using ha)]
        cases borderSpec m cc ((ds.getD a 1 : Nat) : Int) <;> rfl

theorem setAxis_eq_set : ∀ (p : List Int) (axis : Nat) (v : Int), setAxis p axis v = p.set axis v
  | [], _, _ => rfl
  | _ :: _, 0, _ => rfl
  | x :: xs, a + 1, v => congrArg (x :: ·) (setAxis_eq_set xs a v)

theorem getD_setAxis_ne (p : List Int) (axis b : Nat) (v : Int) (h : b ≠ axis) :
    (setAxis p axis v).getD b 0 = p.getD b 0 :=
  setAxis_eq_set p axis v ▸ C01.getD_set_ne p axis b v 0 h

theorem getD_setAxis_eq (p : List Int) (axis : Nat) (v : Int) (h : axis < p.length) :
    (setAxis p axis v).getD axis 0 = v :=
  setAxis_eq_set p axis v ▸ C01.getD_set_self p axis v 0 h

theorem setAxis_self (p : List Int) (axis : Nat) : setAxis p axis (p.getD axis 0) = p :=
  (setAxis_eq_set p axis _).trans (set_getD_self p axis)

theorem inside_setAxis (s : List Nat) (p : List Int) (axis : Nat) (v : Int) (hp : inside s p = true)
    (h0 : 0 ≤ v) (h1 : v < ((s.getD axis 1 : Nat) : Int)) : inside s (setAxis p axis v) = true :=
  setAxis_eq_set p axis v ▸ C01.inside_set_one s p axis v hp h0 h1

variable {R : Type} [CommSemiring R]

theorem specSample_inside (m : Mode) (f : Img R) (p : List Int) (hp : inside f.shape p = true) :
    specSample m f p = f.getD p 0 := by
  unfold specSample
  rw [C01.specPos_of_inside m f.shape p hp]

theorem lineThrough_getD (f : Img R) (axis : Nat) (p : List Int) (o : Int) (h0 : 0 ≤ o)
    (h1 : o < ((f.shape.getD axis 1 : Nat) : Int)) :
    (lineThrough f axis p).getD [((0 : Nat) : Int), o] 0 = f.getD (setAxis p axis o) 0 := by
  have hlt : o.toNat < f.shape.getD axis 1 := (Int.toNat_lt h0).2 h1
  refine (if_pos (inside_pair 1 _ _ o (Int.le_refl 0) Int.zero_lt_one h0 h1)).trans ?_
  show (List.toArray _).getD (ravelI [1, f.shape.getD axis 1] [((0 : Nat) : Int), o]) 0 = _
  rw [ravelI_pair, Nat.zero_mul, Nat.zero_add, Array.getD_eq_getD_getElem?, List.getElem?_toArray,
    List.getElem?_map, List.getElem?_range hlt]
  show f.getD (setAxis p axis (o.toNat : Int)) 0 = _
  rw [Int.toNat_of_nonneg h0]

/-- the sample of the line `g` at a coordinate that may lie outside: `g` at the index the border rule selects, 0 for a
    flagged sample -/
def read1 (m : Mode) (N : Nat) (g : Int → R) (cc : Int) : R :=
  match borderSpec m cc (N : Int) with
  | some o => g o
  | none => 0

/-- `Σ_j w[j] · g[border(x + j − c)]`, `c = len(w)/2` -/
def axisSum (m : Mode) (N : Nat) (w : Array R) (g : Int → R) (x : Int) : R :=
  ((List.range w.size).map fun (j : Nat) =>
    w.getD j 0 * read1 m N g (x + (j : Int) - ((w.size / 2 : Nat) : Int))).sum

theorem read1_congr (m : Mode) (N : Nat) (hN : 0 < N) (g g' : Int → R)
    (h : ∀ o : Int, 0 ≤ o → o < N → g o = g' o) (cc : Int) : read1 m N g cc = read1 m N g' cc := by
  unfold read1
  cases hb : borderSpec m cc (N : Int) with
  | none => rfl
  | some o =>
    have ho := borderSpec_range m cc _ (Int.natCast_pos.2 hN) o hb
    exact h o ho.1 ho.2

theorem axisSum_congr (m : Mode) (N : Nat) (hN : 0 < N) (w : Array R) (g g' : Int → R)
    (h : ∀ o : Int, 0 ≤ o → o < N → g o = g' o) (x : Int) : axisSum m N w g x = axisSum m N w g' x := by
  unfold axisSum
  simp only [read1_congr m N hN g g' h]

theorem fastBorder_eq_axisSum (m : Mode) (f : Img R) (w : Array R) (N1 : Nat) (hN : 0 < N1) (y x : Nat) :
    fastBorder m f w N1 y x = axisSum m N1 w (fun o => f.getD [(y : Int), o] 0) x := by
  unfold fastBorder axisSum read1
  rw [foldl_add_map, zero_add]
  refine congrArg List.sum (List.map_congr_left fun j _ => ?_)
  rw [fixOffset_eq_spec m _ _ (Int.natCast_pos.2 hN), mul_comm]
  rfl

theorem convSpec_embed (m : Mode) (f : Img R) (a : Nat) (w : Array R) (p : List Int)
    (hp : inside f.shape p = true) (ha : a < f.shape.length) :
    convSpec m f (embedShape f.shape.length a w.size) w p =
      axisSum m (f.shape.getD a 1) w (fun o => f.getD (setAxis p a o) 0) (p.getD a 0) := by
  unfold convSpec axisSum read1 specSample
  rw [shapeSize_embedShape _ _ _ ha]
  refine congrArg List.sum (List.map_congr_left fun j hj => ?_)
  rw [addPos_offsetOf_embed _ _ _ _ p ha (List.mem_range.1 hj) (C01.inside_length hp),
    specPos_setAxis m f.shape p a _ hp ha]
  cases borderSpec m (p.getD a 0 + (j : Int) - ((w.size / 2 : Nat) : Int)) ((f.shape.getD a 1 : Nat) : Int) <;> rfl

/-- the border loop on any 2-D array whose row `y` holds the line of `f` through `p` along `axis` leaves the defining
    sum at `p`; how the rows were obtained (`lineThrough`, the transposed view, `f` itself) enters only through `hrow` -/
theorem fastBorder_of_row (m : Mode) (f g : Img R) (axis : Nat) (w : Array R) (p : List Int) (y : Nat)
    (hp : inside f.shape p = true) (hax : axis < f.shape.length)
    (hrow : ∀ o : Int, 0 ≤ o → o < ((f.shape.getD axis 1 : Nat) : Int) →
      g.getD [(y : Int), o] 0 = f.getD (setAxis p axis o) 0) :
    fastBorder m g w (f.shape.getD axis 1) y (p.getD axis 0).toNat =
      convSpec m f (embedShape f.shape.length axis w.size) w p := by
  have hx := C01.getD_lt_of_inside f.shape p hp axis
  have hN : 0 < f.shape.getD axis 1 := Int.natCast_pos.1 (hx.elim Int.lt_of_le_of_lt)
  rw [fastBorder_eq_axisSum m _ w _ hN, convSpec_embed m f axis w p hp hax, Int.toNat_of_nonneg hx.1]
  exact axisSum_congr m _ hN w _ _ hrow _

/-- the 2-D row kernel: the case of rank 2, axis 1 -/
theorem fastBorder_eq_spec (m : Mode) (f : Img R) (N0 N1 : Nat) (hf : f.shape = [N0, N1])
    (w : Array R) (y x : Nat) (hy : y < N0) (hx : x < N1) :
    fastBorder m f w N1 y x = convSpec m f [1, w.size] w [(y : Int), (x : Int)] := by
  have hp : inside f.shape [(y : Int), (x : Int)] = true :=
    hf ▸ inside_pair N0 N1 y x (Int.natCast_nonneg _) (Int.ofNat_lt.2 hy) (Int.natCast_nonneg _) (Int.ofNat_lt.2 hx)
  have h := fastBorder_of_row m f f 1 w _ y hp (by rw [hf]; exact Nat.one_lt_two) (fun _ _ _ => rfl)
  rw [hf] at h
  exact h

theorem fastAt_eq_spec (m : Mode) (f : Img R) (axis : Nat) (w : Array R) (p : List Int)
    (hp : inside f.shape p = true) (hax : axis < f.shape.length) (hw : w.size < f.shape.getD axis 1) :
    fastAt m f axis w p = convSpec m f (embedShape f.shape.length axis w.size) w p := by
  have h := fastBorder_of_row m f _ axis w p 0 hp hax (lineThrough_getD f axis p)
  unfold fastAt
  simp only
  split
  · rename_i hc
    have hmem : (p.getD axis 0).toNat ∈ interiorXs w.size (f.shape.getD axis 1) := by
      simpa using hc
    rwa [fastInterior_eq_border m _ w _ 0 _ hmem hw]
  · exact h

end Mahotas.C06
