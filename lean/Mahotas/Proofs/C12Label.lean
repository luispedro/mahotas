/-
C12 (T4) — value tie of the `label` step program: the run `runR` of the compiled program (by `solo_compile`
the solo run) leaves `C03.labelModel` in the call's `labeled` buffer (`label_runR`).

The program (`labelRaw`) is generated along the run of the union-find model (the addresses are data
dependent), but every value stored is computed by the step from the values it reads.  The proof is a
simulation: the memory of array `own 0` *presents* the model's parent array after every block of steps
(`find`, `join`, one neighbour, one pixel, the compression loop), the register holds `find`'s return value,
and the renumbering loop is simulated against `C03.renumGo` with the `seen` map presented by array `own 3`.
-/
import Mahotas.Proofs.C12Roles
import Mahotas.Proofs.C03Label
namespace Mahotas.C12
open Mahotas

section label
variable (calls : List Call) (aBc aL aF aReg aSeen : Nat)

/-- the footprint of a `label` call: argument `Bc`; owned `labeled`, filter copy, registers, `seen` -/
abbrev lcall : Call := ⟨[aBc], [aL, aF, aReg, aSeen]⟩

/-- array `aL` holds the parent array -/
def Presents (n : Nat) (M : Mem) (par : Array Int) : Prop :=
  Shows calls aL (fun j => (j : Int)) n id (-1) M par

def WF (n : Nat) (par : Array Int) : Prop :=
  par.size = n ∧ ∀ j, j < n → par.getD j (-1) = -1 ∨ (0 ≤ par.getD j (-1) ∧ par.getD j (-1) < (n : Int))

def PInv (n : Nat) (M : Mem) (par : Array Int) : Prop := Presents calls aL n M par ∧ WF n par

theorem WF_set (n : Nat) (par : Array Int) (i r : Nat) (h : WF n par) (hr : r < n) :
    WF n (par.setIfInBounds i (r : Int)) := by
  refine ⟨by simp [h.1], ?_⟩
  intro j hj
  rw [getD_setIfInBounds]
  by_cases hc : i = j ∧ i < par.size
  · rw [if_pos hc]; right; omega
  · rw [if_neg hc]; exact h.2 j hj

theorem exec_rdS (M : Mem) (i : Int) :
    ((mkStep (lcall aBc aL aF aReg aSeen) (rdS 2 0 i)).compile calls).exec M =
      M.set (L calls aReg 0) (M (L calls aL i)) := rfl

theorem exec_stS (M : Mem) (i : Int) :
    ((mkStep (lcall aBc aL aF aReg aSeen) (stS 0 i)).compile calls).exec M =
      M.set (L calls aL i) (M (L calls aReg 0)) := rfl

variable {calls aBc aL aF aReg aSeen}

theorem PInv.exec_reg {n : Nat} {M : Mem} {par : Array Int} (h : PInv calls aL n M par) (hLR : aL ≠ aReg) (r : RStep)
    (hr : r.dst = 2) : PInv calls aL n (((mkStep (lcall aBc aL aF aReg aSeen) r).compile calls).exec M) par :=
  ⟨h.1.exec_other _ r fun e => absurd (by rw [hr] at e; exact e.symm) hLR, h.2⟩

theorem find_sim (hLR : aL ≠ aReg) (n : Nat) : ∀ (fuel : Nat) (par : Array Int) (i : Nat) (M : Mem),
    PInv calls aL n M par → i < n →
    PInv calls aL n (runR calls (lcall aBc aL aF aReg aSeen) (findLog fuel par i) M) (C03.find fuel par i).1 ∧
    runR calls (lcall aBc aL aF aReg aSeen) (findLog fuel par i) M (L calls aReg 0) = ((C03.find fuel par i).2 : Int) ∧
    (C03.find fuel par i).2 < n := by
  intro fuel
  induction fuel with
  | zero => intro par i M h hi; exact ⟨h.exec_reg hLR _ rfl, set_same _ _ _, hi⟩
  | succ fuel ih =>
    intro par i M h hi
    unfold findLog C03.find
    have h1 := h.exec_reg (aBc := aBc) (aF := aF) (aSeen := aSeen) hLR (rdS 2 0 i) rfl
    by_cases hpi : par.getD i (-1) = (i : Int)
    · simp only [hpi, if_true]
      exact ⟨h1, (set_same _ _ _).trans ((h.1 i hi).trans hpi), hi⟩
    · simp only [hpi, if_false, runR_cons, runR_append, runR_nil]
      have hpn : (par.getD i (-1)).toNat < n := by
        rcases h.2.2 i hi with e | e
        · rw [e]; simp; omega
        · omega
      obtain ⟨a1, a2, a3⟩ := ih par (par.getD i (-1)).toNat _ h1 hpn
      -- on the way back `data[i] = j`, with `j` still in the register
      exact ⟨⟨a1.1.exec_set a1.2.1 _ (stS 0 i) i _ rfl rfl (fun _ _ e => Int.ofNat.inj e) a2, WF_set n _ i _ a1.2 a3⟩,
        (exec_frame _ _ _ (L_ne_arr calls _ _ _ _ hLR.symm)).trans a2, a3⟩

theorem join_sim (hLR : aL ≠ aReg) (n fuel : Nat) (par : Array Int) (i j : Nat) (M : Mem)
    (hi : i < n) (hj : j < n) (h : PInv calls aL n M par) :
    PInv calls aL n (runR calls (lcall aBc aL aF aReg aSeen) (joinLog fuel par i j) M) (C03.join fuel par i j) := by
  simp only [joinLog, C03.join, runR_append, runR_cons, runR_nil]
  obtain ⟨a1, _, a3⟩ := find_sim hLR n fuel par i M h hi
  obtain ⟨b1, b2, b3⟩ := find_sim hLR n fuel _ j _ a1 hj
  exact ⟨b1.1.exec_set b1.2.1 _ (stS 0 _) _ _ rfl rfl (fun _ _ e => Int.ofNat.inj e) b2, WF_set n _ _ _ b1.2 b3⟩

theorem getD_toNat_lt (n : Nat) (par : Array Int) (hw : WF n par) (nb : Nat)
    (hv : par.getD nb (-1) ≠ -1) : (par.getD nb (-1)).toNat < n := by
  by_cases hnb : nb < n
  · rcases hw.2 nb hnb with h | h
    · exact absurd h hv
    · omega
  · exfalso
    apply hv
    simp [Array.getD_eq_getD_getElem?, hw.1, Nat.le_of_not_lt hnb]

theorem scanPixel_sim (hLR : aL ≠ aReg) (n fuel : Nat) (m : Mode) (shape : List Nat) (offs : List (List Int))
    (M : Mem) (par : Array Int) (i : Nat) (hi : i < n) (h : PInv calls aL n M par) :
    PInv calls aL n (runR calls (lcall aBc aL aF aReg aSeen) (scanPixelLog m shape offs fuel par i) M)
      (C03.scanPixel m shape offs fuel par i) := by
  unfold scanPixelLog C03.scanPixel
  rw [runR_cons]
  have h1 := h.exec_reg (aBc := aBc) (aF := aF) (aSeen := aSeen) hLR (rdS 2 0 i) rfl
  by_cases hbg : par.getD i (-1) = -1
  · simp only [hbg, if_true, runR_nil]
    exact h1
  · simp only [hbg, if_false]
    refine logFold_sim calls (lcall aBc aL aF aReg aSeen) (PInv calls aL n) (scanNbStep fuel i) _ (fun _ => True)
      (fun M' s nb _ hinv => ?_) (C03.neighbours m shape offs (unravelI shape i)) _ par (fun _ _ => trivial) h1
    rw [runR_cons]
    have h2 := hinv.exec_reg (aBc := aBc) (aF := aF) (aSeen := aSeen) hLR (rdS 2 0 nb) rfl
    unfold scanNbStep
    by_cases hv : s.getD nb (-1) = -1
    · simp only [hv, if_true, runR_nil]
      exact h2
    · simp only [hv, if_false]
      exact join_sim hLR n fuel s i _ _ hi (getD_toNat_lt n s hinv.2 nb hv) h2

theorem compress_sim (hLR : aL ≠ aReg) (n fuel : Nat) (M : Mem) (par : Array Int) (i : Nat) (hi : i < n)
    (h : PInv calls aL n M par) :
    PInv calls aL n (runR calls (lcall aBc aL aF aReg aSeen) (compressLog fuel par i) M) (compressStep fuel par i) := by
  unfold compressLog compressStep
  rw [runR_cons]
  have h1 := h.exec_reg (aBc := aBc) (aF := aF) (aSeen := aSeen) hLR (rdS 2 0 i) rfl
  by_cases hbg : par.getD i (-1) = -1
  · simp only [hbg, if_true, runR_nil]
    exact h1
  · simp only [hbg, if_false, C03.compress]
    exact (find_sim hLR n fuel par i _ h1 hi).1

theorem initParents_WF (data : List Int) : WF data.length (C03.initParents data) := by
  refine ⟨C03.initParents_size data, ?_⟩
  intro j hj
  rw [C03.initParents_getD]
  by_cases h : j < data.length ∧ data.getD j 0 ≠ 0
  · rw [if_pos h]; right; omega
  · rw [if_neg h]; left; rfl

/-- `data[i] = (data[i] ? i : -1)` -/
def initStep (i : Nat) : RStep :=
  ⟨0, (i : Int), [⟨.own 0, (i : Int)⟩], fun vs => if vs.headD 0 ≠ 0 then (i : Int) else -1⟩

theorem getD_append_cons (done vs : List Int) (x v : Int) (j : Nat) :
    (done ++ x :: vs).getD j 0 = if j = done.length then x else (done ++ v :: vs).getD j 0 := by
  simp only [List.getD_eq_getElem?_getD, List.getElem?_append]
  by_cases h1 : j < done.length
  · rw [if_pos h1, if_pos h1, if_neg (by omega)]
  · rw [if_neg h1, if_neg h1]
    by_cases h2 : j = done.length
    · rw [if_pos h2, h2, Nat.sub_self]; rfl
    · rw [if_neg h2]
      obtain ⟨k, hk⟩ : ∃ k, j - done.length = k + 1 := ⟨j - done.length - 1, by omega⟩
      rw [hk]; rfl

/-- the renumbering loop at position `done.length`: array `aL` holds the new labels `done`, then the values `vs` still to
be renumbered; array `aSeen` presents the association list; register 1 holds `next` -/
def RInv (calls : List Call) (aL aReg aSeen : Nat) (done vs : List Int) (seen : List (Int × Int)) (next : Int) (M : Mem) : Prop :=
  (∀ j, j < done.length + vs.length → M (L calls aL (j : Int)) = (done ++ vs).getD j 0) ∧
  (∀ k l, seen.lookup k = some l → M (L calls aSeen k) = l) ∧
  M (L calls aReg 1) = next

variable {done vs : List Int} {seen : List (Int × Int)} {next : Int} {M : Mem}

theorem RInv.reg0 (h : RInv calls aL aReg aSeen done vs seen next M) (hLR : aL ≠ aReg) (hRS : aReg ≠ aSeen) (x : Val) :
    RInv calls aL aReg aSeen done vs seen next (M.set (L calls aReg 0) x) :=
  ⟨fun j hj => (set_other _ _ _ _ (L_ne_arr calls _ _ _ _ hLR)).trans (h.1 j hj),
    fun k l hk => (set_other _ _ _ _ (L_ne_arr calls _ _ _ _ hRS.symm)).trans (h.2.1 k l hk),
    (set_other _ _ _ _ (L_ne_off calls _ _ _ _ (by decide))).trans h.2.2⟩

/-- `data[i] = x` -/
theorem RInv.store {v : Int} (h : RInv calls aL aReg aSeen done (v :: vs) seen next M) (hLR : aL ≠ aReg)
    (hLS : aL ≠ aSeen) (x : Val) :
    RInv calls aL aReg aSeen (done ++ [x]) vs seen next (M.set (L calls aL (done.length : Int)) x) := by
  refine ⟨fun j hj => ?_, fun k l hk => (set_other _ _ _ _ (L_ne_arr calls _ _ _ _ hLS.symm)).trans (h.2.1 k l hk),
    (set_other _ _ _ _ (L_ne_arr calls _ _ _ _ hLR.symm)).trans h.2.2⟩
  rw [List.append_assoc, List.singleton_append, getD_append_cons done vs x v j]
  by_cases hj' : j = done.length
  · rw [if_pos hj', hj']; exact set_same _ _ _
  · rw [if_neg hj', set_other _ _ _ _ (L_ne_off calls _ _ _ _ (by omega))]
    exact h.1 j (by simp at hj ⊢; omega)

/-- `seen[v] = y` -/
theorem RInv.bind (h : RInv calls aL aReg aSeen done vs seen next M) (hLS : aL ≠ aSeen) (hRS : aReg ≠ aSeen)
    (v y : Int) :
    RInv calls aL aReg aSeen done vs ((v, y) :: seen) next (M.set (L calls aSeen v) y) := by
  refine ⟨fun j hj => (set_other _ _ _ _ (L_ne_arr calls _ _ _ _ hLS)).trans (h.1 j hj), fun k l hk => ?_,
    (set_other _ _ _ _ (L_ne_arr calls _ _ _ _ hRS)).trans h.2.2⟩
  rw [List.lookup_cons] at hk
  by_cases hkv : k = v
  · subst hkv
    rw [beq_self_eq_true] at hk
    exact (set_same _ _ _).trans (Option.some.inj hk)
  · rw [show (k == v) = false by simpa using hkv] at hk
    exact (set_other _ _ _ _ (L_ne_off calls _ _ _ _ hkv)).trans (h.2.1 k l hk)

/-- `next = x` -/
theorem RInv.setNext (h : RInv calls aL aReg aSeen done vs seen next M) (hLR : aL ≠ aReg) (hRS : aReg ≠ aSeen)
    (x : Int) : RInv calls aL aReg aSeen done vs seen x (M.set (L calls aReg 1) x) :=
  ⟨fun j hj => (set_other _ _ _ _ (L_ne_arr calls _ _ _ _ hLR)).trans (h.1 j hj),
    fun k l hk => (set_other _ _ _ _ (L_ne_arr calls _ _ _ _ hRS.symm)).trans (h.2.1 k l hk), set_same _ _ _⟩

theorem renum_sim (hLR : aL ≠ aReg) (hLS : aL ≠ aSeen) (hRS : aReg ≠ aSeen) : ∀ (vs done : List Int) (seen : List (Int × Int)) (next : Int) (M : Mem),
    RInv calls aL aReg aSeen done vs seen next M →
    let M' := runR calls (lcall aBc aL aF aReg aSeen) (renumLog seen next done.length vs) M
    (∀ j, j < done.length + vs.length →
      M' (L calls aL (j : Int)) = (done ++ (C03.renumGo seen next vs).1).getD j 0) ∧
    M' (L calls aReg 1) = (C03.renumGo seen next vs).2 + 1 := by
  intro vs
  induction vs with
  | nil => intro done seen next M h; exact ⟨h.1, h.2.2.trans (Int.sub_add_cancel next 1).symm⟩
  | cons v vs ih =>
    intro done seen next M h
    let c := lcall aBc aL aF aReg aSeen
    -- the list after this round and the rest of the loop: `ih` at `done ++ [x]`
    have step : ∀ (x : Int) (seen' : List (Int × Int)) (next' : Int) (M2 : Mem),
        RInv calls aL aReg aSeen (done ++ [x]) vs seen' next' M2 →
        (∀ j, j < done.length + (v :: vs).length →
          runR calls c (renumLog seen' next' (done.length + 1) vs) M2 (L calls aL (j : Int)) =
            (done ++ x :: (C03.renumGo seen' next' vs).1).getD j 0) ∧
        runR calls c (renumLog seen' next' (done.length + 1) vs) M2 (L calls aReg 1) =
          (C03.renumGo seen' next' vs).2 + 1 := fun x seen' next' M2 h2 => by
      have := ih (done ++ [x]) seen' next' M2 h2
      rw [List.length_append, List.length_singleton, List.append_assoc, List.singleton_append] at this
      exact ⟨fun j hj => this.1 j (by rw [List.length_cons] at hj; omega), this.2⟩
    have h1 := h.reg0 hLR hRS (M (L calls aL (done.length : Int)))
    simp only [renumLog, C03.renumGo, runR_cons, exec_rdS]
    generalize M.set (L calls aReg 0) (M (L calls aL (done.length : Int))) = M1 at h1 ⊢
    cases hl : seen.lookup v with
    | some l =>
      -- known key: `data[i] = seen[val]`
      simp only [runR_cons]
      rw [exec_eq_set calls c _ M1 aL done.length l rfl rfl (h1.2.1 v l hl)]
      exact step l seen next _ (h1.store hLR hLS l)
    | none =>
      -- new key: `data[i] = next; seen[val] = next; ++next`
      simp only [List.cons_append, List.nil_append, runR_cons]
      have h2 := h1.store hLR hLS next
      have h3 := h2.bind hLS hRS v next
      rw [exec_eq_set calls c _ M1 aL done.length next rfl rfl h1.2.2,
        exec_eq_set calls c _ (M1.set _ _) aSeen v next rfl rfl h2.2.2,
        exec_eq_set calls c _ ((M1.set _ _).set _ _) aReg 1 (next + 1) rfl rfl (congrArg (· + 1) h3.2.2)]
      exact step next _ _ _ (h3.setNext hLR hRS (next + 1))

theorem toList_getD (par : Array Int) (j : Nat) (hj : j < par.size) : par.toList.getD j 0 = par.getD j (-1) := by
  simp [Array.getD_eq_getD_getElem?, List.getD_eq_getElem?_getD, hj]

theorem label_runR (hLF : aL ≠ aF) (hLR : aL ≠ aReg) (hLS : aL ≠ aSeen) (hRS : aReg ≠ aSeen)
    (m : Mode) (shape : List Nat) (data : List Int) (vBc : C08.View) (bc : Array Int) (M : Mem)
    (hM : ∀ j, j < data.length → M (L calls aL (j : Int)) = data.getD j 0) :
    let M' := runR calls (lcall aBc aL aF aReg aSeen) (labelRaw m shape data vBc bc) M
    (∀ j, j < data.length →
      M' (L calls aL (j : Int)) = (C03.labelModel m shape data vBc.shape bc).1.getD j 0) ∧
    M' (L calls aReg 1) = (C03.labelModel m shape data vBc.shape bc).2 + 1 := by
  intro M'
  let c := lcall aBc aL aF aReg aSeen
  let n := data.length
  let fuel := n + 1
  let offs := C03.offsets vBc.shape bc
  let par0 := C03.initParents data
  let par1 := (List.range n).foldl (C03.scanPixel m shape offs fuel) par0
  let par2 := (List.range n).foldl (compressStep fuel) par1
  let M1 := runR calls c ((List.range n).map initStep) M
  have h1 : PInv calls aL n M1 par0 :=
    ⟨fun j hj => by
      refine (runR_gather calls c [] initStep n 0 (fun _ => rfl) (fun _ _ _ _ e => Int.ofNat.inj e) M j hj).trans ?_
      have hfresh : runR calls c ([] ++ (List.range j).map initStep) M (L calls aL (j : Int)) = M (L calls aL (j : Int)) :=
        runR_frame_loc calls c _ M aL j (List.forall_mem_map.2 fun i hi _ e => by
          have := List.mem_range.1 hi; have := Int.ofNat.inj e; omega)
      show (if runR calls c ([] ++ (List.range j).map initStep) M (L calls aL (j : Int)) ≠ 0 then (j : Int) else -1) = _
      rw [hfresh, hM j hj, C03.initParents_getD, if_congr (and_iff_right hj) rfl rfl]
      rfl, initParents_WF data⟩
  -- the filter copy writes `own 1` only
  let M2 := runR calls c (filterCopyRaw 0 vBc) M1
  have h2 : PInv calls aL n M2 par0 :=
    ⟨fun j hj => (runR_frame calls c (filterCopyRaw 0 vBc) M1 aL _ (allOf_map fun _ => hLF.symm)).trans (h1.1 j hj), h1.2⟩
  let M3 := runR calls c (logFold (C03.scanPixel m shape offs fuel) (scanPixelLog m shape offs fuel) par0
    (List.range n)) M2
  have h3 : PInv calls aL n M3 par1 :=
    logFold_sim calls c (PInv calls aL n) _ _ (fun i => i < n)
      (fun M' s x hx hinv => scanPixel_sim hLR n fuel m shape offs M' s x hx hinv)
      (List.range n) M2 par0 (fun x hx => List.mem_range.1 hx) h2
  let M4 := runR calls c (logFold (compressStep fuel) (compressLog fuel) par1 (List.range n)) M3
  have h4 : PInv calls aL n M4 par2 :=
    logFold_sim calls c (PInv calls aL n) _ _ (fun i => i < n)
      (fun M' s x hx hinv => compress_sim hLR n fuel M' s x hx hinv)
      (List.range n) M3 par1 (fun x hx => List.mem_range.1 hx) h3
  -- `next = 1; seen[-1] = 0`
  let M5 := (M4.set (L calls aReg 1) 1).set (L calls aSeen (-1)) 0
  have h5 : runR calls c [ (⟨2, 1, [], fun _ => 1⟩ : RStep), ⟨3, -1, [], fun _ => 0⟩ ] M4 = M5 := rfl
  have hsize : par2.toList.length = n := by simp [h4.2.1]
  have h0 : RInv calls aL aReg aSeen [] par2.toList [] (M4 (L calls aReg 1)) M4 :=
    ⟨fun j hj => by
      rw [List.length_nil, Nat.zero_add, hsize] at hj
      rw [List.nil_append, toList_getD par2 j (by rw [h4.2.1]; exact hj)]
      exact h4.1 j hj, (fun _ _ hk => nomatch hk), rfl⟩
  have h6 := renum_sim (aBc := aBc) (aF := aF) hLR hLS hRS par2.toList [] [(-1, 0)] 1 M5
    ((h0.setNext hLR hRS 1).bind hLS hRS (-1) 0)
  have hprog : M' = runR calls c (renumLog [(-1, 0)] 1 0 par2.toList) M5 := by
    show runR calls c (labelRaw m shape data vBc bc) M = _
    rw [← h5]
    simp only [labelRaw, runR_append]
    rfl
  have hmodel : C03.labelModel m shape data vBc.shape bc = C03.renumGo [(-1, 0)] 1 par2.toList := rfl
  rw [hprog, hmodel]
  exact ⟨fun j hj => h6.1 j (by rw [List.length_nil, Nat.zero_add, hsize]; exact hj), h6.2⟩

end label

end Mahotas.C12
