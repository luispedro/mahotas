/-
Helper lemmas for C01: the 2-D boolean fast path (`fast_binary_dilate_erode_2d`).
* the positions read/written through the fast path's offset list (centre handled separately, `dx`
  clamped to `±Nx`) are those of the compressed support of the generic kernel;
* erosion branch = lattice definition; dilation branch (scatter with clamp) = generic scatter kernel.
-/
import Mahotas.Proofs.C01Scatter
namespace Mahotas.C01
open Mahotas

theorem mem_support2 (By Bx : Nat) (bc : Array Int) (kh : List Int × Int) :
    kh ∈ support [By, Bx] bc true ↔
      ∃ i, i < By * Bx ∧ bc.getD i 0 ≠ 0 ∧
        kh = ([((i / Bx : Nat) : Int) - ((By / 2 : Nat) : Int), ((i % Bx : Nat) : Int) - ((Bx / 2 : Nat) : Int)], bc.getD i 0) := by
  rw [mem_support]
  simp only [shapeSize, Nat.mul_one, forall_const, centreOf, List.map_cons, List.map_nil,
    unravelI, unravel, subPos, Nat.div_one, Int.ofNat_eq_natCast]

theorem mem_fastPositions (Nx : Int) (By Bx : Nat) (bc : Array Int) (d : Int × Int) :
    d ∈ fastPositions Nx [By, Bx] bc true ↔
      ∃ i, i < By * Bx ∧ bc.getD i 0 ≠ 0 ∧
        ¬ (((i / Bx : Nat) : Int) - ((By / 2 : Nat) : Int) = 0 ∧ ((i % Bx : Nat) : Int) - ((Bx / 2 : Nat) : Int) = 0) ∧
        d = (((i / Bx : Nat) : Int) - ((By / 2 : Nat) : Int),
             (let dx := ((i % Bx : Nat) : Int) - ((Bx / 2 : Nat) : Int)
              if dx > Nx then Nx else if dx < -Nx then -Nx else dx)) := by
  simp only [fastPositions, List.mem_filterMap, List.mem_range, if_true]
  refine exists_congr fun i => and_congr_right fun _ => ?_
  by_cases h0 : bc.getD i 0 = 0
  · simp only [h0, beq_self_eq_true, if_true, reduceCtorEq, ne_eq, not_true, false_and]
  · rw [if_neg (by simpa using h0)]
    by_cases hc : ((i / Bx : Nat) : Int) - ((By / 2 : Nat) : Int) = 0 ∧ ((i % Bx : Nat) : Int) - ((Bx / 2 : Nat) : Int) = 0
    · rw [if_pos (by simpa using hc)]
      simp only [reduceCtorEq, hc, and_self, not_true, false_and, and_false]
    · rw [if_neg (by simpa using hc), Option.some.injEq, eq_comm]
      simp only [ne_eq, h0, not_false_eq_true, hc, true_and]

theorem centre_index (By Bx i : Nat) (h1 : i / Bx = By / 2) (h2 : i % Bx = Bx / 2) :
    i = By / 2 * Bx + Bx / 2 := by
  have := Nat.div_add_mod' i Bx
  rw [h1, h2] at this; exact this.symm

theorem centre_index_div (By Bx : Nat) (h : By / 2 * Bx + Bx / 2 < By * Bx) :
    (By / 2 * Bx + Bx / 2) / Bx = By / 2 ∧ (By / 2 * Bx + Bx / 2) % Bx = Bx / 2 := by
  have h2 : Bx / 2 < Bx := by
    rcases Nat.eq_zero_or_pos Bx with h0 | h0
    · subst h0; simp at h
    · omega
  exact ⟨rowMajor_div _ h2, rowMajor_mod _ h2⟩

theorem centreSet_iff (By Bx : Nat) (bc : Array Int) :
    centreSet [By, Bx] bc = true ↔ bc.getD (By / 2 * Bx + Bx / 2) 0 ≠ 0 := by
  simp [centreSet]

theorem clamp_dx (Nx x dx : Int) (hx : 0 ≤ x ∧ x < Nx) :
    clampSpec (x + (if dx > Nx then Nx else if dx < -Nx then -Nx else dx)) Nx = clampSpec (x + dx) Nx := by
  unfold clampSpec
  by_cases h1 : dx > Nx
  · rw [if_pos h1, Int.min_eq_right (by omega), Int.min_eq_right (by omega)]
  · rw [if_neg h1]
    by_cases h2 : dx < -Nx
    · rw [if_pos h2, Int.max_eq_left (by omega), Int.max_eq_left (by omega)]
    · rw [if_neg h2]

/-- the positions reached from `(y, x)` through the compressed support are `(y, x)` itself (if the centre is set) and
    those reached through the fast path's offset list; `f` is what is asked of such a position (erosion: that it holds
    a zero; dilation: that it is a given cell) -/
theorem fast_targets (Ny Nx By Bx : Nat) (bc : Array Int) (hbc : bc.size = By * Bx) (y x : Int)
    (hy : 0 ≤ y ∧ y < Ny) (hx : 0 ≤ x ∧ x < Nx) (f : List Int → Prop) :
    (∃ kh ∈ support [By, Bx] bc true, f (clampPos [Ny, Nx] (addPos [y, x] kh.1))) ↔
    ((centreSet [By, Bx] bc = true ∧ f [y, x]) ∨
      ∃ d ∈ fastPositions Nx [By, Bx] bc true, f (clampPos [Ny, Nx] [y + d.1, x + d.2])) := by
  have h0 : clampPos [Ny, Nx] [y + 0, x + 0] = [y, x] := by
    simp only [clampPos, Int.add_zero]
    rw [clampSpec_of_inside hy.1 hy.2, clampSpec_of_inside hx.1 hx.2]
  have hd : ∀ dy dx : Int, clampPos [Ny, Nx] [y + dy, x + (if dx > (Nx : Int) then (Nx : Int) else if dx < -Nx then -Nx else dx)] =
      clampPos [Ny, Nx] [y + dy, x + dx] := fun dy dx => by
    simp only [clampPos, List.cons.injEq, and_true, true_and]
    exact clamp_dx Nx x _ hx
  constructor
  · rintro ⟨kh, hkh, hf⟩
    obtain ⟨i, hi, hne, rfl⟩ := (mem_support2 By Bx bc kh).mp hkh
    by_cases hc : ((i / Bx : Nat) : Int) - ((By / 2 : Nat) : Int) = 0 ∧ ((i % Bx : Nat) : Int) - ((Bx / 2 : Nat) : Int) = 0
    · have e := centre_index By Bx i (by omega) (by omega)
      simp only [addPos, hc.1, hc.2, h0] at hf
      exact Or.inl ⟨by rw [centreSet_iff, ← e]; exact hne, hf⟩
    · exact Or.inr ⟨_, (mem_fastPositions Nx By Bx bc _).mpr ⟨i, hi, hne, hc, rfl⟩, by rw [hd]; exact hf⟩
  · rintro (⟨hc, hf⟩ | ⟨d, hd', hf⟩)
    · rw [centreSet_iff] at hc
      have hlt := lt_size_of_getD_ne bc _ 0 hc
      rw [hbc] at hlt
      obtain ⟨e1, e2⟩ := centre_index_div By Bx hlt
      refine ⟨_, (mem_support2 By Bx bc _).mpr ⟨_, hlt, hc, rfl⟩, ?_⟩
      simp only [addPos, e1, e2, Int.sub_self, h0]
      exact hf
    · obtain ⟨i, hi, hne, hc, rfl⟩ := (mem_fastPositions Nx By Bx bc d).mp hd'
      rw [hd] at hf
      exact ⟨_, (mem_support2 By Bx bc _).mpr ⟨i, hi, hne, rfl⟩, hf⟩

theorem foldl_and_eq_all {α : Type} (g : α → Bool) (l : List α) (init : Bool) :
    l.foldl (fun v d => v && g d) init = (init && l.all g) := by
  induction l generalizing init with
  | nil => simp
  | cons a t ih => simp only [List.foldl_cons, ih, List.all_cons, Bool.and_assoc]

theorem fastErodeAt_cell (Ny Nx : Nat) (data : Array Int) (bshape : List Nat) (bc : Array Int) (y x : Int) :
    Is01 (fastErodeAt ⟨[Ny, Nx], data⟩ bshape bc [y, x])
      ((centreSet bshape bc = true → (Img.mk [Ny, Nx] data).getD [y, x] 0 ≠ 0) ∧
        ∀ d ∈ fastPositions Nx bshape bc true,
          (Img.mk [Ny, Nx] data).getD (clampPos [Ny, Nx] [y + d.1, x + d.2]) 0 ≠ 0) := by
  simp only [fastErodeAt, foldl_and_eq_all]
  refine (Is01.ite _).congr ?_
  simp only [Bool.and_eq_true, List.all_eq_true, bne_iff_ne, ne_eq]
  refine and_congr ?_ Iff.rfl
  split <;> simp [*]

theorem erodeSpec_bool_cell (A : Img Int) (sup : List (List Int × Int)) (p : List Int)
    (hA : ∀ q, A.getD q 0 = 0 ∨ A.getD q 0 = 1) :
    Is01 (erodeSpecAt dtBool A sup p)
      (∀ kh ∈ sup, isMember dtBool kh = true → A.getD (clampPos A.shape (addPos p kh.1)) 0 ≠ 0) := by
  refine (foldl_min_Is01 (fun kh : List Int × Int => A.getD (clampPos A.shape (addPos p kh.1)) 0)
    (sup.filter (isMember dtBool)) (fun kh _ => hA _) 1 (Or.inr rfl)).congr ?_
  simp only [List.mem_filter, and_imp]
  exact ⟨fun h => h.2, fun h => ⟨by decide, h⟩⟩

theorem fastErodeAt_eq_spec (Ny Nx : Nat) (data : Array Int) (By Bx : Nat) (bc : Array Int) (y x : Int)
    (hA : ∀ q, (Img.mk [Ny, Nx] data).getD q 0 = 0 ∨ (Img.mk [Ny, Nx] data).getD q 0 = 1)
    (hbc : bc.size = By * Bx) (hy : 0 ≤ y ∧ y < Ny) (hx : 0 ≤ x ∧ x < Nx) :
    fastErodeAt ⟨[Ny, Nx], data⟩ [By, Bx] bc [y, x] =
      erodeSpecAt dtBool ⟨[Ny, Nx], data⟩ (support [By, Bx] bc true) [y, x] := by
  refine ((fastErodeAt_cell Ny Nx data [By, Bx] bc y x).congr ?_).eq (erodeSpec_bool_cell _ _ _ hA)
  -- both say: no pixel reached from `(y, x)` holds a zero
  have ft := not_congr (fast_targets Ny Nx By Bx bc hbc y x hy hx fun t => (Img.mk [Ny, Nx] data).getD t 0 = 0)
  simp only [not_exists, not_and, not_or] at ft
  exact ⟨fun h kh hkh _ => ft.mpr h kh hkh,
    fun h => ft.mp fun kh hkh => h kh hkh (isMember_support_true [By, Bx] bc kh hkh)⟩

theorem fold_set1_size (js : List Nat) (out : Array Int) :
    (js.foldl (fun out j => out.setIfInBounds j 1) out).size = out.size :=
  foldl_set_size (fun j => j) (fun _ => (1 : Int)) js out

theorem fold_set1 (js : List Nat) (out : Array Int) (i : Nat) (hi : i < out.size) :
    (js.foldl (fun out j => out.setIfInBounds j 1) out).getD i 0 =
      if i ∈ js then 1 else out.getD i 0 := by
  rw [Array.getD_eq_getD_getElem?, foldl_set_getElem? (fun j => j) (fun _ => (1 : Int)), Array.getD_eq_getD_getElem?,
    Array.getElem?_eq_getElem hi]
  by_cases h : i ∈ js
  · have hne : js.filter (fun j => j = i) ≠ [] := List.ne_nil_of_mem (List.mem_filter.2 ⟨h, by simp⟩)
    rw [if_pos h, List.getLast?_eq_some_getLast hne]; rfl
  · rw [if_neg h, List.filter_eq_nil_iff.2 fun j hj => by simpa using fun e : j = i => h (e ▸ hj)]; rfl

theorem inside2 (Ny Nx : Nat) (p : List Int) (h : inside [Ny, Nx] p = true) :
    ∃ y x, p = [y, x] ∧ (0 ≤ y ∧ y < Ny) ∧ (0 ≤ x ∧ x < Nx) := by
  match p, h with
  | [y, x], h =>
    simp only [inside, Bool.and_eq_true, decide_eq_true_eq, and_true] at h
    exact ⟨y, x, rfl, h.1, h.2⟩
  | [], h => simp [inside] at h
  | [_], h => simp [inside] at h
  | _ :: _ :: _ :: _, h => simp [inside] at h

/-- fast erosion = generic erosion, as arrays (every 2-D shape, empty ones included) -/
theorem fastErode_eq (Ny Nx : Nat) (data : Array Int) (By Bx : Nat) (bc : Array Int)
    (hA : ∀ q, (Img.mk [Ny, Nx] data).getD q 0 = 0 ∨ (Img.mk [Ny, Nx] data).getD q 0 = 1)
    (hbc : bc.size = By * Bx) (hbc01 : ∀ i, bc.getD i 0 = 0 ∨ bc.getD i 0 = 1) :
    ((allPos [Ny, Nx]).map (fastErodeAt ⟨[Ny, Nx], data⟩ [By, Bx] bc)).toArray =
      erodeModel dtBool ⟨[Ny, Nx], data⟩ (support [By, Bx] bc true) := by
  rw [erodeModel_eq_spec dtBool (Or.inr rfl) _ _ ((image01_iff _).mpr hA)
    (admissible_of_ones _ (support_ones _ bc hbc01))]
  congr 1
  refine List.map_congr_left fun p hp => ?_
  obtain ⟨y, x, rfl, hy, hx⟩ := inside2 Ny Nx p ((mem_allPos _ _).mp hp)
  exact fastErodeAt_eq_spec Ny Nx data By Bx bc y x hA hbc hy hx

/-- flat targets of the fast dilation branch from pixel `p` -/
def fastTg (shape : List Nat) (pos : List (Int × Int)) (p : List Int) : List Nat :=
  match p with
  | [y, x] => pos.map fun d => ravelI shape (clampPos shape [y + d.1, x + d.2])
  | _ => []

/-- raw 0/1 data from the 0/1 image -/
theorem data01_of_img (shape : List Nat) (data : Array Int) (hdata : data.size = shapeSize shape)
    (hA : ∀ q, (Img.mk shape data).getD q 0 = 0 ∨ (Img.mk shape data).getD q 0 = 1) (i : Nat) :
    data.getD i 0 = 0 ∨ data.getD i 0 = 1 := by
  by_cases hi : i < shapeSize shape
  · have := hA (unravelI shape i)
    rwa [Img.getD_unravelI (Img.mk shape data) i 0 hi] at this
  · left
    rw [Array.getD_eq_getD_getElem?, Array.getElem?_eq_none (by omega)]; rfl

/-- the initial output of either branch: a copy of the input, or the constant `c` (0 or 1) -/
theorem init01 (cond : Bool) (data : Array Int) (n : Nat) (c : Int) (hc : c = 0 ∨ c = 1)
    (hdata : data.size = n) (h01 : ∀ i, data.getD i 0 = 0 ∨ data.getD i 0 = 1) :
    (if cond = true then data else Array.replicate n c).size = n ∧
    ∀ j, (if cond = true then data else Array.replicate n c).getD j 0 = 0 ∨
      (if cond = true then data else Array.replicate n c).getD j 0 = 1 := by
  split
  · exact ⟨hdata, h01⟩
  · refine ⟨by simp, fun j => ?_⟩
    rw [Array.getD_eq_getD_getElem?, Array.getElem?_replicate]
    split
    · exact hc
    · exact Or.inl rfl

/-- the stores of the pointwise fast dilation: a 1 to every target of every non-zero pixel -/
def fdStores (A : Img Int) (pos : List (Int × Int)) : List (Nat × Int) :=
  (allPos A.shape).flatMap fun p =>
    if (A.getD p 0 == 0) = true then [] else (fastTg A.shape pos p).map fun j => (j, 1)

theorem mem_fdStores (A : Img Int) (pos : List (Int × Int)) (i : Nat) :
    (∃ w ∈ fdStores A pos, w.1 = i ∧ w.2 ≠ 0) ↔
      ∃ p, inside A.shape p = true ∧ A.getD p 0 ≠ 0 ∧ i ∈ fastTg A.shape pos p := by
  simp only [fdStores, List.mem_flatMap, mem_allPos]
  constructor
  · rintro ⟨w, ⟨p, hp, hw⟩, rfl, _⟩
    by_cases hv : (A.getD p 0 == 0) = true
    · rw [if_pos hv] at hw; cases hw
    · rw [if_neg hv] at hw
      obtain ⟨j, hj, rfl⟩ := List.mem_map.mp hw
      exact ⟨p, hp, by simpa using hv, hj⟩
  · rintro ⟨p, hp, hv, hj⟩
    exact ⟨(i, 1), ⟨p, hp, by rw [if_neg (by simpa using hv)]; exact List.mem_map.mpr ⟨i, hj, rfl⟩⟩,
      rfl, Int.one_ne_zero⟩

/-- the dilation branch is one sequence of `|=` stores (a store of 1 is `out[j] |= 1`) -/
theorem fastDilate_eq_orProg (Ny Nx : Nat) (data : Array Int) (bshape : List Nat) (bc : Array Int) :
    fastDilate ⟨[Ny, Nx], data⟩ bshape bc =
      (fdStores ⟨[Ny, Nx], data⟩ (fastPositions Nx bshape bc true)).foldl (fun o w => orInto o w.1 w.2)
        (if centreSet bshape bc = true then data else Array.replicate (shapeSize [Ny, Nx]) 0) := by
  have h1 : ∀ (o : Array Int) (j : Nat), orInto o j 1 = o.setIfInBounds j 1 := fun o j => by simp [orInto]
  simp only [fastDilate, Img.size, fdStores, List.foldl_flatMap]
  congr 1
  funext out p
  split
  · rfl
  · unfold fastTg
    match p with
    | [y, x] => simp only [List.foldl_map, h1]
    | [] => rfl
    | [_] => rfl
    | _ :: _ :: _ :: _ => rfl

/-- fast dilation = generic dilation, as arrays (every 2-D shape, empty ones included) -/
theorem fastDilate_eq (Ny Nx : Nat) (data : Array Int) (By Bx : Nat) (bc : Array Int)
    (hdata : data.size = shapeSize [Ny, Nx])
    (hA : ∀ q, (Img.mk [Ny, Nx] data).getD q 0 = 0 ∨ (Img.mk [Ny, Nx] data).getD q 0 = 1)
    (hbc : bc.size = By * Bx) :
    fastDilate ⟨[Ny, Nx], data⟩ [By, Bx] bc =
      dilateModel dtBool ⟨[Ny, Nx], data⟩ (support [By, Bx] bc true) := by
  have hsup : ∀ kh ∈ support [By, Bx] bc true, kh.2 ≠ 0 := fun kh hkh => by
    obtain ⟨j, _, hne, rfl⟩ := (mem_support2 By Bx bc kh).mp hkh
    exact hne
  obtain ⟨hisz, hi01⟩ := init01 (centreSet [By, Bx] bc) data _ 0 (Or.inl rfl) hdata
    (data01_of_img [Ny, Nx] data hdata hA)
  rw [fastDilate_eq_orProg]
  refine array_eq_of_Is01 _ _ (shapeSize [Ny, Nx]) ((orProg_size _ _).trans hisz)
    (dilateModel_size dtBool ⟨[Ny, Nx], data⟩ _) _
    (fun i hi => orProg_cell _ _ i (by rw [hisz]; exact hi) (hi01 i))
    (fun i hi => (dilateModel_bool_cell ⟨[Ny, Nx], data⟩ _ hsup i hi).congr ?_)
  -- a pixel reaches cell `i` through the support iff it is the pixel of `i` and the centre is set (the initial copy),
  -- or it reaches `i` through the offset list (`fast_targets`, asked of a position that its cell be `i`)
  have hq : inside [Ny, Nx] (unravelI [Ny, Nx] i) = true := inside_unravelI _ i hi
  have hinit : (if centreSet [By, Bx] bc = true then data else Array.replicate (shapeSize [Ny, Nx]) 0).getD i 0 ≠ 0 ↔
      centreSet [By, Bx] bc = true ∧ (Img.mk [Ny, Nx] data).getD (unravelI [Ny, Nx] i) 0 ≠ 0 := by
    rw [Img.getD_unravelI ⟨[Ny, Nx], data⟩ i 0 hi]
    split
    · next hc => simp only [hc, true_and]
    · next hc => simp [Array.getD_eq_getD_getElem?, hi, hc]
  have ft : ∀ p, inside [Ny, Nx] p = true →
      ((∃ kh ∈ support [By, Bx] bc true, ravelI [Ny, Nx] (clampPos [Ny, Nx] (addPos p kh.1)) = i) ↔
        (centreSet [By, Bx] bc = true ∧ ravelI [Ny, Nx] p = i) ∨
          i ∈ fastTg [Ny, Nx] (fastPositions Nx [By, Bx] bc true) p) := fun p hp => by
    obtain ⟨y, x, rfl, hy, hx⟩ := inside2 Ny Nx p hp
    simpa only [fastTg, List.mem_map] using
      fast_targets Ny Nx By Bx bc hbc y x hy hx fun t => ravelI [Ny, Nx] t = i
  rw [hinit, mem_fdStores]
  constructor
  · rintro ⟨p, hp, hv, h⟩
    rcases (ft p hp).mp h with ⟨hc, e⟩ | h
    · exact Or.inl ⟨hc, by rw [← e, unravelI_ravelI _ _ hp]; exact hv⟩
    · exact Or.inr ⟨p, hp, hv, h⟩
  · rintro (⟨hc, hv⟩ | ⟨p, hp, hv, h⟩)
    · exact ⟨_, hq, hv, (ft _ hq).mpr (Or.inl ⟨hc, ravelI_unravelI _ i hi⟩)⟩
    · exact ⟨p, hp, hv, (ft p hp).mpr (Or.inr h)⟩

end Mahotas.C01
