/-
C10 — `Model/C10Flood.lean`: the position containers, the seeding of `close_holes`, and the stack flood (accesses, termination).

`position_queue` / `position_stack` hold a whole number of positions (`QInv`); the seeding
odometer of `close_holes` stays inside as long as it does not carry (any rank; ranks 1 and 2 follow); the stack flood
dereferences only behind `validposition` and drains within `stack + available` pops, because a visit conserves that
sum (`floodVisit_measure`).
-/
import Mahotas.Model.C10Flood
import Mahotas.Proofs.C01Index
import Mahotas.Proofs.ListLemmas
import Mahotas.Proofs.C14Flood
namespace Mahotas.C10Flood
open Mahotas

def VOk (a : VAcc) : Prop := 0 ≤ a.i ∧ a.i < a.size

def POk (a : PAcc) : Prop := inside a.shape a.pos = true

theorem vAllOk_iff (l : List VAcc) : vAllOk l = true ↔ ∀ a ∈ l, VOk a := by
  simp only [vAllOk, List.all_eq_true, VAcc.ok, Bool.and_eq_true, decide_eq_true_eq, VOk]

theorem pAllOk_iff (l : List PAcc) : pAllOk l = true ↔ ∀ a ∈ l, POk a := by
  simp only [pAllOk, List.all_eq_true, PAcc.ok, POk]

/-- the reads of one position: `n` cells `f 0 … f (n-1)` of a vector of `size` cells -/
theorem reads_ok (n : Nat) (f : Nat → Int) (size : Int) (h : ∀ d < n, 0 ≤ f d ∧ f d < size) :
    ∀ a ∈ (List.range n).map fun d => VAcc.mk (f d) size, VOk a :=
  List.forall_mem_map.2 fun d hd => h d (List.mem_range.mp hd)

/-- the representation invariant: `store_` holds a whole number `m` of positions, `next_ ≤ m` -/
def QInv (sz : Nat) (s : QState) : Prop := ∃ m : Nat, s.len = m * sz ∧ s.next ≤ m

theorem qEmpty_iff (sz : Nat) (hsz : 0 < sz) (s : QState) (m : Nat) (hl : s.len = m * sz) :
    qEmpty sz s = true ↔ m = s.next := by
  rw [qEmpty, decide_eq_true_eq, hl, Int.natCast_mul, Int.mul_ediv_cancel _ (by omega)]
  omega

theorem qTopPop_ok (limit sz : Nat) (s : QState) (m : Nat) (hl : s.len = m * sz) (hn : s.next < m) :
    (∀ a ∈ (qTopPop limit sz s).1, VOk a) ∧ QInv sz (qTopPop limit sz s).2 := by
  have hle : (s.next + 1) * sz ≤ s.len := hl ▸ Nat.mul_le_mul_right sz hn
  have hreads := reads_ok sz (fun d => Int.ofNat (s.next * sz + d)) (Int.ofNat s.len) fun d hd =>
    ⟨Int.natCast_nonneg _, Int.ofNat_lt.mpr (Nat.lt_of_lt_of_le (Nat.add_lt_add_left hd _) (Nat.succ_mul _ _ ▸ hle))⟩
  by_cases hlim : s.next + 1 = limit
  · have e : qTopPop limit sz s = _ := if_pos hlim
    rw [e]
    refine ⟨List.forall_mem_append.2 ⟨hreads, ?_⟩, m - (s.next + 1), ?_, Nat.zero_le _⟩
    · by_cases h0 : (s.next + 1) * sz = 0
      · rw [if_pos h0]
        nofun
      · -- the last erased index `next_*size_ - 1`
        rw [if_neg h0, List.forall_mem_singleton]
        exact ⟨Int.sub_nonneg_of_le (Int.natCast_pos.mpr (Nat.pos_of_ne_zero h0)),
          Int.lt_of_lt_of_le (Int.sub_one_lt_of_le (Int.le_refl _)) (Int.ofNat_le.mpr hle)⟩
    · rw [Nat.sub_mul, ← hl]
  · have e : qTopPop limit sz s = _ := if_neg hlim
    rw [e]
    exact ⟨hreads, m, hl, hn⟩

theorem qRun_ok (limit sz : Nat) (hsz : 0 < sz) (ops : List Bool) (s : QState) (h : QInv sz s) :
    (∀ a ∈ (qRun limit sz ops s).1, VOk a) ∧ QInv sz (qRun limit sz ops s).2.1 := by
  induction ops generalizing s with
  | nil => exact ⟨nofun, h⟩
  | cons o ops ih =>
    obtain ⟨m, hl, hn⟩ := h
    cases o
    · by_cases he : qEmpty sz s = true
      · have e : qRun limit sz (false :: ops) s = _ := if_pos he
        rw [e]
        exact ih s ⟨m, hl, hn⟩
      · have e : qRun limit sz (false :: ops) s = _ := if_neg he
        rw [e]
        obtain ⟨h1, h2⟩ := qTopPop_ok limit sz s m hl
          (Nat.lt_of_le_of_ne hn fun h => he ((qEmpty_iff sz hsz s m hl).mpr h.symm))
        obtain ⟨h3, h4⟩ := ih _ h2
        exact ⟨List.forall_mem_append.2 ⟨h1, h3⟩, h4⟩
    · exact ih _ ⟨m + 1, by rw [qPush, hl, Nat.succ_mul], Nat.le_succ_of_le hn⟩

theorem sTopPop_ok (sz len : Nat) (h : sz ≤ len) : ∀ a ∈ (sTopPop sz len).1, VOk a :=
  reads_ok sz _ _ fun d hd => by
    simp only [Int.ofNat_eq_natCast]
    omega

theorem sRun_ok (sz : Nat) (ops : List Bool) (len : Nat) (h : ∃ m : Nat, len = m * sz) :
    (∀ a ∈ (sRun sz ops len).1, VOk a) ∧ ∃ m : Nat, (sRun sz ops len).2.1 = m * sz := by
  induction ops generalizing len with
  | nil => exact ⟨nofun, h⟩
  | cons o ops ih =>
    obtain ⟨m, hl⟩ := h
    cases o
    · by_cases hne : len = 0
      · have e : sRun sz (false :: ops) len = _ := if_pos hne
        rw [e]
        exact ih len ⟨m, hl⟩
      · have e : sRun sz (false :: ops) len = _ := if_neg hne
        rw [e]
        have hle : sz ≤ len := Nat.le_of_dvd (Nat.pos_of_ne_zero hne) ⟨m, by rw [hl, Nat.mul_comm]⟩
        obtain ⟨h3, h4⟩ := ih (len - sz) ⟨m - 1, by rw [hl, Nat.sub_one_mul]⟩
        exact ⟨List.forall_mem_append.2 ⟨sTopPop_ok sz len hle, h3⟩, h4⟩
    · exact ih _ ⟨m + 1, by rw [hl, Nat.succ_mul]⟩

theorem inside_iff_getD (shape : List Nat) (p : List Int) : inside shape p = true ↔
    p.length = shape.length ∧ ∀ j < shape.length, 0 ≤ p.getD j 0 ∧ p.getD j 0 < (shape.getD j 0 : Nat) := by
  induction shape generalizing p with
  | nil =>
    cases p with
    | nil => exact ⟨fun _ => ⟨rfl, nofun⟩, fun _ => rfl⟩
    | cons _ _ => exact ⟨nofun, nofun⟩
  | cons n ns ih =>
    cases p with
    | nil => exact ⟨nofun, nofun⟩
    | cons x xs =>
      rw [C01.inside_cons, ih xs, List.length_cons, List.length_cons, Nat.add_right_cancel_iff, Nat.forall_lt_succ_left]
      exact and_left_comm

theorem length_setAt (p : List Int) (d : Nat) (v : Int) : (setAt p d v).length = p.length := List.length_set

theorem getD_setAt_self (p : List Int) (d : Nat) (v : Int) (h : d < p.length) : (setAt p d v).getD d 0 = v := by
  rw [setAt, List.getD_eq_getElem?_getD, List.getElem?_set_self h, Option.getD_some]

theorem getD_setAt_ne (p : List Int) (d j : Nat) (v : Int) (h : d ≠ j) : (setAt p d v).getD j 0 = p.getD j 0 := by
  rw [setAt, List.getD_eq_getElem?_getD, List.getElem?_set_ne h, List.getD_eq_getElem?_getD]

/-- `pos` has the rank of the box and every coordinate other than `d` is in range -/
def InsideOff (shape : List Nat) (d : Nat) (pos : List Int) : Prop :=
  pos.length = shape.length ∧ ∀ j < shape.length, j ≠ d → 0 ≤ pos.getD j 0 ∧ pos.getD j 0 < (shape.getD j 0 : Nat)

theorem inside_setAt {shape : List Nat} {d : Nat} {pos : List Int} (h : InsideOff shape d pos) (hd : d < shape.length)
    (v : Int) (hv0 : 0 ≤ v) (hv : v < (shape.getD d 0 : Nat)) : inside shape (setAt pos d v) = true := by
  rw [inside_iff_getD, length_setAt]
  refine ⟨h.1, fun j hj => ?_⟩
  by_cases hjd : j = d
  · rw [hjd, getD_setAt_self _ _ _ (h.1 ▸ hd)]
    exact ⟨hv0, hv⟩
  · rw [getD_setAt_ne _ _ _ _ (Ne.symm hjd)]
    exact h.2 j hj hjd

/-- one iteration of the seeding loop along axis `d` dereferences `pos[d] = 0` and `pos[d] = dim(d) - 1` -/
theorem chSeedAxis_succ {shape : List Nat} {d : Nat} {pos : List Int} (h : InsideOff shape d pos) (hd : d < shape.length)
    (hnd : 0 < shape.getD d 0) (k : Nat) :
    (∀ a ∈ chSeedAxis shape d (k + 1) pos, POk a) ↔ ∀ a ∈ chSeedAxis shape d k
      (chAdvance shape d (shape.length + 1) 0 (setAt pos d (Int.ofNat (shape.getD d 0) - 1))), POk a := by
  have hpos : (0 : Int) < (shape.getD d 0 : Nat) := Int.natCast_pos.mpr hnd
  rw [chSeedAxis, List.forall_mem_append, List.forall_mem_cons, List.forall_mem_singleton]
  exact and_iff_right ⟨inside_setAt h hd 0 (Int.le_refl 0) hpos,
    inside_setAt h hd _ (Int.sub_nonneg_of_le hpos) (Int.sub_lt_self _ Int.one_pos)⟩

/-- the axis the odometer of `chAdvance` steps first: the lowest-numbered axis other than `d` -/
def chFast (d : Nat) : Nat := if 0 = d then 1 else 0

theorem chFast_ne (d : Nat) : chFast d ≠ d := by
  unfold chFast
  split <;> omega

theorem chFast_le (d : Nat) : chFast d ≤ 1 := by
  unfold chFast
  split <;> omega

/-- in rank 2 there is no axis besides `d` and `chFast d`: the hypothesis `hrest` of `chSeedAxis_ok` is then empty -/
theorem chFast_cover : ∀ d < 2, ∀ j < 2, j ≠ d → j = chFast d := by decide

theorem chAdvance_step (shape : List Nat) (d k : Nat) (pos : List Int) (h2 : 1 < shape.length)
    (hlt : pos.getD (chFast d) 0 < (shape.getD (chFast d) 0 : Nat)) :
    chAdvance shape d (k + 1) 0 pos = setAt pos (chFast d) (pos.getD (chFast d) 0 + 1) := by
  rw [chAdvance, if_neg (Nat.ne_of_lt (Nat.sub_pos_of_lt h2))]
  exact if_pos hlt

/-- Seeding along axis `d` stays inside the box as long as the odometer does not carry: with `e = chFast d` the first axis other
    than `d`, the coordinates other than `d` and `e` are in range and `pos[e] + k ≤ dim(e)`. (In rank 2 the loop makes
    `N/dim(d) = dim(e)` steps from `pos[e] = 0`; in higher rank it makes more, and the `<` of the odometer lets `pos[e]`
    reach `dim(e)`.) -/
theorem chSeedAxis_ok (shape : List Nat) (d : Nat) (hd : d < shape.length) (h2 : 1 < shape.length)
    (hnd : 0 < shape.getD d 0) (k : Nat) (pos : List Int) (hlen : pos.length = shape.length)
    (hrest : ∀ j < shape.length, j ≠ d → j ≠ chFast d → 0 ≤ pos.getD j 0 ∧ pos.getD j 0 < (shape.getD j 0 : Nat))
    (x : Nat) (hx : pos.getD (chFast d) 0 = x) (hxk : x + k ≤ shape.getD (chFast d) 0) :
    ∀ a ∈ chSeedAxis shape d k pos, POk a := by
  induction k generalizing pos x with
  | zero => nofun
  | succ k ih =>
    have hel : chFast d < shape.length := Nat.lt_of_le_of_lt (chFast_le d) h2
    have hlt : pos.getD (chFast d) 0 < (shape.getD (chFast d) 0 : Nat) :=
      hx ▸ Int.ofNat_lt.mpr (Nat.lt_of_lt_of_le (Nat.lt_add_of_pos_right k.succ_pos) hxk)
    have hoff : InsideOff shape d pos := by
      refine ⟨hlen, fun j hj hjd => ?_⟩
      by_cases hje : j = chFast d
      · rw [hje]
        exact ⟨hx ▸ Int.natCast_nonneg x, hlt⟩
      · exact hrest j hj hjd hje
    have hget : (setAt pos d (Int.ofNat (shape.getD d 0) - 1)).getD (chFast d) 0 = pos.getD (chFast d) 0 :=
      getD_setAt_ne _ _ _ _ (chFast_ne d).symm
    rw [chSeedAxis_succ hoff hd hnd, chAdvance_step shape d _ _ h2 (hget ▸ hlt), hget]
    refine ih _ ?_ ?_ (x + 1) ?_ (Nat.add_right_comm x 1 k ▸ hxk)
    · rw [length_setAt, length_setAt, hlen]
    · intro j hj hjd hje
      rw [getD_setAt_ne _ _ _ _ (Ne.symm hje), getD_setAt_ne _ _ _ _ (Ne.symm hjd)]
      exact hrest j hj hjd hje
    · rw [getD_setAt_self _ _ _ (by rw [length_setAt, hlen]; exact hel), hx, Int.natCast_succ]

/-- rank 1: the odometer has nothing to advance, and `N/dim(0) = 1` iteration is made -/
theorem chSeed_rank1 (n : Nat) : ∀ a ∈ chSeedAccesses [n], POk a := by
  rw [chSeedAccesses, List.forall_mem_flatMap]
  intro d hd
  obtain rfl : d = 0 := Nat.lt_one_iff.mp (List.mem_range.mp hd)
  split
  · nofun
  · rename_i hn
    have hpos : 0 < n := Nat.pos_of_ne_zero hn
    have hk : shapeSize [n] / n = 1 := by rw [shapeSize, shapeSize, Nat.mul_one, Nat.div_self hpos]
    have hoff : InsideOff [n] 0 [0] := ⟨rfl, fun j hj hj0 => absurd (Nat.lt_one_iff.mp hj) hj0⟩
    rw [List.getD_cons_zero, hk]
    exact (chSeedAxis_succ hoff Nat.one_pos hpos 0).mpr nofun

theorem shapeSize_rank2 (n0 n1 d : Nat) (hd : d < 2) :
    shapeSize [n0, n1] = [n0, n1].getD d 0 * [n0, n1].getD (chFast d) 0 := by
  rw [shapeSize, shapeSize, shapeSize, Nat.mul_one]
  match d, hd with
  | 0, _ => rfl
  | 1, _ => exact Nat.mul_comm n0 n1

theorem chSeed_rank2 (n0 n1 : Nat) : ∀ a ∈ chSeedAccesses [n0, n1], POk a := by
  rw [chSeedAccesses, List.forall_mem_flatMap]
  intro d hd
  have hd : d < 2 := List.mem_range.mp hd
  split
  · nofun
  · rename_i hnd
    have hpos : 0 < [n0, n1].getD d 0 := Nat.pos_of_ne_zero hnd
    rw [shapeSize_rank2 n0 n1 d hd, Nat.mul_div_cancel_left _ hpos]
    refine chSeedAxis_ok [n0, n1] d hd Nat.one_lt_two hpos _ _ rfl (fun j hj hjd hje => ?_) 0 ?_
      (Nat.le_of_eq (Nat.zero_add _))
    · exact absurd (chFast_cover d hd j hj hjd) hje
    · rw [List.getD_eq_getElem?_getD, List.getElem?_map]
      cases [n0, n1][chFast d]? <;> rfl

theorem visitAccesses_ok (shape : List Nat) (nb : List (List Int)) (p : List Int) :
    ∀ a ∈ visitAccesses shape nb p, POk a := by
  intro a ha
  obtain ⟨q, _, hq⟩ := List.mem_filterMap.mp ha
  split at hq
  · rename_i hin
    rw [← Option.some.inj hq]
    exact hin
  · cases hq

/-- one visit conserves `stack length + number of available pixels`: a pixel is pushed exactly when its flag is cleared
    (`cntTrue` is `C14.cnt`, `C14.floodVisit` the fold of `C14.visitStep`) -/
theorem floodVisit_measure (shape : List Nat) (nb : List (List Int)) (p : List Int) (av : Array Bool) (st : List (List Int)) :
    (C14.floodVisit shape nb p (av, st)).2.length + cntTrue (C14.floodVisit shape nb p (av, st)).1 =
      st.length + cntTrue av :=
  C14.visit_measure shape p nb av st

theorem floodRun_ok (shape : List Nat) (nb : List (List Int)) (fuel : Nat) (av : Array Bool) (st : List (List Int))
    (hf : st.length + cntTrue av ≤ fuel) :
    (∀ a ∈ (floodRun shape nb fuel av st).1, POk a) ∧ (floodRun shape nb fuel av st).2.1 = true ∧
      (floodRun shape nb fuel av st).2.2.1 ≤ st.length + cntTrue av ∧
      (floodRun shape nb fuel av st).2.2.2.1 ≤ st.length + cntTrue av := by
  induction fuel generalizing av st with
  | zero =>
    obtain rfl : st = [] := List.eq_nil_of_length_eq_zero (Nat.eq_zero_of_add_eq_zero_right (Nat.le_zero.mp hf))
    exact ⟨nofun, rfl, Nat.zero_le _, Nat.zero_le _⟩
  | succ n ih =>
    cases st with
    | nil => exact ⟨nofun, rfl, Nat.zero_le _, Nat.zero_le _⟩
    | cons p s =>
      -- the measure of the state after the visit is that of `(av, s)`, one less than that of `(av, p :: s)`
      have hm := floodVisit_measure shape nb p av s
      rw [List.length_cons, Nat.add_right_comm] at hf ⊢
      obtain ⟨h1, h2, h3, h4⟩ := ih (C14.floodVisit shape nb p (av, s)).1 (C14.floodVisit shape nb p (av, s)).2
        (hm ▸ Nat.le_of_succ_le_succ hf)
      rw [hm] at h3 h4
      exact ⟨List.forall_mem_append.2 ⟨visitAccesses_ok shape nb p, h1⟩, h2, Nat.succ_le_succ h3,
        Nat.max_le.mpr ⟨Nat.succ_le_succ (Nat.le_add_right _ _), Nat.le_succ_of_le h4⟩⟩

/-- `C14.closeHoles` starts its flood with at most `size` available pixels -/
theorem cntTrue_chAvail1_le (ref : Img Int) (hwf : ref.data.size = ref.size) : cntTrue (C14.chAvail1 ref) ≤ ref.size := by
  refine Nat.le_trans (C14.cnt_le_size _) (Nat.le_of_eq ?_)
  rw [C14.chAvail1, foldl_set_size, C14.chAvail0, List.size_toArray, List.length_map, Array.length_toList, hwf]

theorem regScan_ok (shape : List Nat) (nb : List (List Int)) (witness : List Int → Array Bool → Bool)
    (ps : List (List Int)) (av : Array Bool) (hin : ∀ p ∈ ps, inside shape p = true) :
    (∀ a ∈ (regScan shape nb witness ps av).1, POk a) ∧ (regScan shape nb witness ps av).2.1 = true := by
  induction ps generalizing av with
  | nil => exact ⟨nofun, rfl⟩
  | cons p ps ih =>
    obtain ⟨hp, hps⟩ := List.forall_mem_cons.mp hin
    have hprobe : ∀ a ∈ PAcc.mk p shape :: visitAccesses shape nb p, POk a :=
      List.forall_mem_cons.2 ⟨hp, visitAccesses_ok shape nb p⟩
    by_cases hm : av.getD (ravelI shape p) false = true
    · by_cases hw : witness p av = true
      · have e : regScan shape nb witness (p :: ps) av = _ := (if_pos hm).trans (if_pos hw)
        rw [e]
        have hf := floodRun_ok shape nb (1 + cntTrue (av.setIfInBounds (ravelI shape p) false)) _ [p] (Nat.le_refl _)
        exact ⟨List.forall_mem_append.2 ⟨List.forall_mem_append.2 ⟨hprobe, hf.1⟩, (ih _ hps).1⟩,
          Bool.and_eq_true_iff.mpr ⟨hf.2.1, (ih _ hps).2⟩⟩
      · have e : regScan shape nb witness (p :: ps) av = _ := (if_pos hm).trans (if_neg hw)
        rw [e]
        exact ⟨List.forall_mem_append.2 ⟨hprobe, (ih av hps).1⟩, (ih av hps).2⟩
    · have e : regScan shape nb witness (p :: ps) av = _ := if_neg hm
      rw [e]
      exact ih av hps

end Mahotas.C10Flood
