/-
The `slack` loop of `hitmiss` (`hmLoop`) evaluates exactly the positions of its closed form `hmEvaluated`, for every
image shape and every template of the same rank whose last side is positive.

The loop is followed block by block, by recursion on the shape: a block is the range of flat indices that share
the coordinates on the leading axes, all of them with a sufficient margin. On such a block the loop, entered with
`slack = 0`, leaves with `slack = 0` at the end of the block: a slice whose own coordinate has a small margin is
zeroed in one step, any other slice is a block of the remaining axes; on the last axis the counter is loaded
once, at `x = ⌊b/2⌋`, and has run out when the margin becomes small again.

The fuel of `hmLoop` is carried inside the relation `Runs`: two steps per remaining position and one to load the
counter (`need`) are enough at the start of a run, and a run leaves enough for what follows it, so runs compose
(`Runs.trans`).
-/
import Mahotas.Model.C14
namespace Mahotas.C14
open Mahotas

theorem unravelI_slice (n : Nat) (ns : List Nat) (x j : Nat) (hj : j < shapeSize ns) :
    unravelI (n :: ns) (x * shapeSize ns + j) = (x : Int) :: unravelI ns j := by
  have hm : 0 < shapeSize ns := by omega
  simp only [unravelI, unravel, List.map_cons]
  rw [Nat.add_comm, Nat.add_mul_div_right _ _ hm, Nat.add_mul_mod_self_right, Nat.div_eq_of_lt hj,
    Nat.mod_eq_of_lt hj, Nat.zero_add]
  rfl

section
variable (S B : List Nat) (N : Nat) (L : Int)

/-- steps that suffice from `(i, sl)` to the end of the loop: two per remaining position (load, evaluate), one more
    when the counter has yet to be loaded -/
def need (N i : Nat) (sl : Int) : Nat := 2 * (N - i) + if sl = 0 then 1 else 0

/-- from flat index `i` with counter `sl` the loop reaches `i'` with counter `sl'` and has written the flags `fl` by
    then; fuel that suffices at `(i, sl)` leaves fuel that suffices at `(i', sl')` -/
def Runs (i : Nat) (sl : Int) (i' : Nat) (sl' : Int) (fl : List Bool) : Prop :=
  ∀ fuel acc, need N i sl ≤ fuel → ∃ fuel', need N i' sl' ≤ fuel' ∧
    hmLoop S B N L fuel i sl acc = hmLoop S B N L fuel' i' sl' (fl.reverse ++ acc)

variable {S B N L}

theorem need_zero (i : Nat) : need N i 0 = 2 * (N - i) + 1 := rfl

theorem need_ne (i : Nat) {sl : Int} (h : sl ≠ 0) : need N i sl = 2 * (N - i) := by
  rw [need, if_neg h, Nat.add_zero]

theorem need_le (i : Nat) (sl : Int) : need N i sl ≤ 2 * (N - i) + 1 := by
  unfold need; split <;> omega

theorem Runs.refl (i : Nat) (sl : Int) : Runs S B N L i sl i sl [] :=
  fun fuel _ h => ⟨fuel, h, rfl⟩

theorem Runs.trans {i i' i'' : Nat} {sl sl' sl'' : Int} {fl fl' : List Bool}
    (h : Runs S B N L i sl i' sl' fl) (h' : Runs S B N L i' sl' i'' sl'' fl') :
    Runs S B N L i sl i'' sl'' (fl ++ fl') := by
  intro fuel acc hf
  obtain ⟨f1, hf1, e1⟩ := h fuel acc hf
  obtain ⟨f2, hf2, e2⟩ := h' f1 _ hf1
  exact ⟨f2, hf2, by rw [e1, e2, List.reverse_append, List.append_assoc]⟩

/-- a slice with a small margin on its own axis is zeroed as a whole -/
theorem Runs.skip {i size : Nat} (hs : i + size ≤ N) (h0 : 0 < size)
    (hfb : hmFirstBad S B (unravelI S i) = some size) :
    Runs S B N L i 0 (i + size) 0 (List.replicate size false) := by
  intro fuel acc hf
  rw [need_zero] at hf
  cases fuel with
  | zero => exact absurd hf (Nat.not_succ_le_zero _)
  | succ f =>
    refine ⟨f, by rw [need_zero]; omega, ?_⟩
    rw [hmLoop, if_neg (show ¬N ≤ i by omega), if_pos (beq_self_eq_true 0), hfb]
    simp only [Nat.min_eq_left (show size ≤ N - i by omega), List.reverse_replicate]

/-- no axis has a small margin: the counter is loaded -/
theorem Runs.load {i : Nat} (hi : i < N) (hL : L ≠ 0) (hfb : hmFirstBad S B (unravelI S i) = none) :
    Runs S B N L i 0 i L [] := by
  intro fuel acc hf
  rw [need_zero] at hf
  cases fuel with
  | zero => exact absurd hf (Nat.not_succ_le_zero _)
  | succ f =>
    refine ⟨f, by rw [need_ne i hL]; omega, ?_⟩
    rw [hmLoop, if_neg (Nat.not_le.mpr hi), if_pos (beq_self_eq_true 0), hfb]
    rfl

/-- while the counter runs, positions are evaluated without a look at the margins -/
theorem Runs.eval {i : Nat} {sl : Int} (hi : i < N) (hsl : sl ≠ 0) :
    Runs S B N L i sl (i + 1) (sl - 1) [true] := by
  intro fuel acc hf
  rw [need_ne i hsl] at hf
  cases fuel with
  | zero => omega
  | succ f =>
    refine ⟨f, Nat.le_trans (need_le _ _) (by omega), ?_⟩
    rw [hmLoop, if_neg (Nat.not_le.mpr hi), if_neg (by simpa using hsl)]
    rfl

/-- `n` consecutive runs over `m` flat indices each -/
theorem Runs.seq (i0 m : Nat) (sl : Nat → Int) (g : Nat → Bool) (n : Nat)
    (h : ∀ x < n, Runs S B N L (i0 + x * m) (sl x) (i0 + (x + 1) * m) (sl (x + 1))
      ((List.range m).map fun j => g (x * m + j))) :
    Runs S B N L i0 (sl 0) (i0 + n * m) (sl n) ((List.range (n * m)).map g) := by
  induction n with
  | zero => simpa using Runs.refl i0 (sl 0)
  | succ n ih =>
    have hn := h n (by omega)
    rw [Nat.succ_mul] at hn
    rw [Nat.succ_mul, List.range_add, List.map_append, List.map_map]
    exact (ih fun x hx => h x (by omega)).trans hn

/-- the last axis: positions before `⌊b/2⌋` are zeroed one by one, there the counter is loaded with
    `n - b + 1`, and when it has run out the margin on the right is too small -/
theorem Runs.row {n b : Nat} (hb : 0 < b) (hL : L = (n : Int) - (b : Int) + 1) (i0 : Nat)
    (hi : i0 + n ≤ N)
    (hfb : ∀ j < n, hmFirstBad S B (unravelI S (i0 + j)) =
      if min (j : Int) ((n : Int) - j - 1) < ((b / 2 : Nat) : Int) then some 1 else none) :
    Runs S B N L i0 0 (i0 + n) 0
      ((List.range n).map fun j : Nat => hmEvaluated [n] [b] [(j : Int)]) := by
  subst hL
  -- position `j` is evaluated
  let ev : Nat → Prop := fun j => 2 * (b / 2) + 1 ≤ n ∧ b / 2 ≤ j ∧ j + b < b / 2 + n + 1
  -- the counter on entering position `j`
  let sl : Nat → Int := fun j => if b / 2 < j ∧ j + b < b / 2 + n + 1 then ((b / 2 : Nat) : Int) + n + 1 - b - j else 0
  have hev : ∀ j : Nat, hmEvaluated [n] [b] [(j : Int)] = decide (ev j) := by
    intro j
    rw [Bool.eq_iff_iff]
    simp only [hmEvaluated, List.isEmpty_nil, if_true, Bool.true_and, Bool.and_eq_true, decide_eq_true_eq, ev]
    omega
  have key := Runs.seq (S := S) (B := B) (N := N) (L := (n : Int) - (b : Int) + 1) i0 1 sl
    (fun j : Nat => hmEvaluated [n] [b] [(j : Int)]) n ?_
  · have h0 : sl 0 = 0 := if_neg (by omega)
    have hn : sl n = 0 := if_neg (by omega)
    rwa [h0, hn, Nat.mul_one] at key
  · intro j hj
    have hfbj := hfb j hj
    have hiN : i0 + j < N := Nat.lt_of_lt_of_le (Nat.add_lt_add_left hj i0) hi
    simp only [Nat.mul_one, List.range_one, List.map_cons, List.map_nil, Nat.add_zero, hev, ← Nat.add_assoc]
    by_cases hs : sl j = 0
    · rw [hs]
      by_cases hbad : min (j : Int) ((n : Int) - j - 1) < ((b / 2 : Nat) : Int)
      · obtain ⟨h1, h2⟩ : sl (j + 1) = 0 ∧ ¬ ev j := by simp only [sl, ev] at hs ⊢; omega
        rw [if_pos hbad] at hfbj
        rw [h1, decide_eq_false h2]
        exact Runs.skip hiN Nat.one_pos hfbj
      · obtain ⟨h1, h2, h3⟩ : sl (j + 1) = (n : Int) - b + 1 - 1 ∧ ev j ∧ (n : Int) - b + 1 ≠ 0 := by
          simp only [sl, ev] at hs ⊢; omega
        rw [if_neg hbad] at hfbj
        rw [h1, decide_eq_true h2]
        exact (Runs.load hiN h3 hfbj).trans (Runs.eval hiN h3)
    · obtain ⟨h1, h2⟩ : sl (j + 1) = sl j - 1 ∧ ev j := by simp only [sl, ev] at hs ⊢; omega
      rw [h1, decide_eq_true h2]
      exact Runs.eval hiN hs

/-- a block of the axes `n :: ns` is run through from `slack = 0` to `slack = 0` and gets the flags of
    `hmEvaluated (n :: ns) (b :: bs)` -/
theorem Runs.block (ns : List Nat) : ∀ (n b : Nat) (bs : List Nat), ns.length = bs.length →
    0 < shapeSize (n :: ns) → 0 < (b :: bs).getLastD 0 →
    L = ((n :: ns).getLastD 0 : Int) - ((b :: bs).getLastD 0 : Int) + 1 → ∀ i0, i0 + shapeSize (n :: ns) ≤ N →
    (∀ j < shapeSize (n :: ns),
      hmFirstBad S B (unravelI S (i0 + j)) = hmFirstBad (n :: ns) (b :: bs) (unravelI (n :: ns) j)) →
    Runs S B N L i0 0 (i0 + shapeSize (n :: ns)) 0
      ((List.range (shapeSize (n :: ns))).map fun j => hmEvaluated (n :: ns) (b :: bs) (unravelI (n :: ns) j)) := by
  induction ns with
  | nil =>
    intro n b bs hlen _ hb hL i0 hi hfb
    cases bs with
    | cons _ _ => cases hlen
    | nil =>
      have e : shapeSize [n] = n := Nat.mul_one n
      have eu : ∀ j, unravelI [n] j = [(j : Int)] := fun j => by
        simp only [unravelI, unravel, shapeSize, Nat.div_one, List.map_cons, List.map_nil]; rfl
      simp only [e, eu] at hi hfb ⊢
      refine Runs.row hb hL i0 hi fun j hj => ?_
      rw [hfb j hj]
      rfl
  | cons n' ns ih =>
    intro n b bs hlen hpos hb hL i0 hi hfb
    obtain _ | ⟨b', bs⟩ := bs
    · cases hlen
    have hm : 0 < shapeSize (n' :: ns) := Nat.pos_of_mul_pos_left hpos
    change i0 + n * shapeSize (n' :: ns) ≤ N at hi
    refine Runs.seq i0 (shapeSize (n' :: ns)) (fun _ => 0) _ n fun x hx => ?_
    -- the slice `x` of the block: flat indices `x * m + j`
    have hxm : x * shapeSize (n' :: ns) + shapeSize (n' :: ns) ≤ n * shapeSize (n' :: ns) :=
      Nat.succ_mul x _ ▸ Nat.mul_le_mul_right _ hx
    have hfbx : ∀ j < shapeSize (n' :: ns),
        hmFirstBad S B (unravelI S (i0 + x * shapeSize (n' :: ns) + j)) =
          if min (x : Int) ((n : Int) - x - 1) < ((b / 2 : Nat) : Int) then some (shapeSize (n' :: ns))
          else hmFirstBad (n' :: ns) (b' :: bs) (unravelI (n' :: ns) j) := fun j hj => by
      rw [Nat.add_assoc, hfb _ (show _ < n * shapeSize (n' :: ns) by omega), unravelI_slice n _ x j hj, hmFirstBad]
    rw [Nat.succ_mul, ← Nat.add_assoc, List.map_congr_left (g := fun j =>
      decide (min (x : Int) ((n : Int) - x - 1) ≥ ((b / 2 : Nat) : Int)) &&
        hmEvaluated (n' :: ns) (b' :: bs) (unravelI (n' :: ns) j)) fun j hj => by
          rw [unravelI_slice n _ x j (List.mem_range.mp hj), hmEvaluated]; rfl]
    by_cases hbad : min (x : Int) ((n : Int) - x - 1) < ((b / 2 : Nat) : Int)
    · have h0 := hfbx 0 hm
      rw [if_pos hbad, Nat.add_zero] at h0
      rw [decide_eq_false (by omega)]
      simp only [Bool.false_and, List.map_const', List.length_range]
      exact Runs.skip (by omega) hm h0
    · rw [decide_eq_true (by omega)]
      simp only [Bool.true_and]
      exact ih n' b' bs (Nat.succ.inj hlen) hm hb hL _ (by omega)
        fun j hj => by rw [hfbx j hj, if_neg hbad]

end

/-- **the `slack` loop and its closed form agree** on every image shape of rank ≥ 1 and every template of that
    rank whose last side is positive: only the last axis has the counter, on the others a zero side merely never fails
    the margin test (with a zero last side the counter `n - 0 + 1` runs on into the next row) -/
theorem hmLoopOk_of_last_pos (S B : List Nat) (hne : S ≠ []) (hlen : S.length = B.length) (hb : 0 < B.getLastD 0) :
    hmLoopOk S B = true := by
  obtain _ | ⟨n, ns⟩ := S
  · exact absurd rfl hne
  obtain _ | ⟨b, bs⟩ := B
  · cases hlen
  unfold hmLoopOk hmLoopFlags allPos
  simp only [List.map_map, beq_iff_eq]
  by_cases hN : shapeSize (n :: ns) = 0
  · rw [hN, hmLoop, if_pos (Nat.le_refl 0)]
    rfl
  · obtain ⟨f, -, e⟩ := Runs.block (S := n :: ns) (B := b :: bs) (N := shapeSize (n :: ns)) ns n b bs
      (Nat.succ.inj hlen) (by omega) hb rfl 0 (by omega) (fun j _ => by rw [Nat.zero_add]) (2 * shapeSize (n :: ns) + 2) []
      (by unfold need; simp only [if_true]; omega)
    rw [e, Nat.zero_add, List.append_nil]
    cases f with
    | zero => rw [hmLoop, List.reverse_reverse]; rfl
    | succ f => rw [hmLoop, if_pos (Nat.le_refl _), List.reverse_reverse]; rfl

theorem hmLoopOk_all (S B : List Nat) (hne : S ≠ []) (hlen : S.length = B.length) (hb : ∀ b ∈ B, 0 < b) :
    hmLoopOk S B = true :=
  hmLoopOk_of_last_pos S B hne hlen (by
    obtain _ | ⟨b, bs⟩ := B
    · exact absurd (List.length_eq_zero_iff.mp hlen) hne
    · rw [List.getLastD_cons]; exact hb _ List.getLastD_mem_cons)

end Mahotas.C14

