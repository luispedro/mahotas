/-
C07 in floating point, part 2: forward error bounds for arbitrary (rational) data, for any rounding `rnd` with
relative error at most `u` (`u = 2^-53` for binary64, `2^-24` for binary32).

* `template_match`: with `N` template entries, `(1−u)^(N+3) · S ≤ computed ≤ (1+u)^(N+3) · S`, `S` the exact sum of
  squared differences of the same data. Every term is non-negative, so the bound is relative to `S` itself: the
  difference is rounded once (factor `1±u`), squared (two factors), the product rounded (third factor), and each of
  the at most `N` additions rounds once more. `Within u n S s` counts the roundings: `s` is `S` times a factor between
  `(1−u)^n` and `(1+u)^n`; a rounding adds one, a product adds the counts, a sum takes the larger.
* `mean_filter`: the samples have both signs, so the bound is relative to the sum `A` of their magnitudes:
  `|computed − exact mean| ≤ ((1+u)^(n+1) − 1) · A / n` (`absSumQ`; the summation bound is `Rounded.foldl_fl_add`, used
  in `Properties/C07.lean`).
-/
import Mahotas.Proofs.C07Float
import Mathlib.Tactic.Ring
import Mathlib.Tactic.Positivity

namespace Mahotas.C07
open Mahotas Mahotas.C05

def exactTmOps : TmOps ℚ := ⟨0, (· - ·), (· * ·), (· + ·), fun a b => decide (a > b)⟩

def exactMeanOps : MeanOps ℚ := ⟨0, (· + ·), (· / ·), fun n => (n : ℚ)⟩

/-- the unit roundoff of binary64 -/
def uRnd : ℚ := 1 / 2 ^ 53

theorem uRnd_pos : 0 < uRnd := by unfold uRnd; positivity
theorem uRnd_lt_one : uRnd < 1 := by unfold uRnd; norm_num

theorem rel_of_rounding (rnd : ℚ → ℚ) (hr : Rounding rnd) (x : ℚ) : |rnd x - x| ≤ |x| * uRnd :=
  (hr.rel x).trans_eq (mul_one_div _ _).symm

theorem exactTm_step (S a b : ℚ) : exactTmOps.add S (exactTmOps.sq a b) = S + |a - b| * |a - b| :=
  congrArg (fun d => S + d * d) (ite_gt_sub a b)

/-- `s` is `S ≥ 0` after at most `n` roundings: `S` times a factor between `(1−u)^n` and `(1+u)^n` -/
def Within (u : ℚ) (n : ℕ) (S s : ℚ) : Prop := 0 ≤ S ∧ (1 - u) ^ n * S ≤ s ∧ s ≤ (1 + u) ^ n * S

theorem Within.refl (u : ℚ) {S : ℚ} (hS : 0 ≤ S) : Within u 0 S S :=
  ⟨hS, by rw [pow_zero, one_mul], by rw [pow_zero, one_mul]⟩

theorem Within.add {u : ℚ} {n : ℕ} {S s T t : ℚ} (h : Within u n S s) (h' : Within u n T t) : Within u n (S + T) (s + t) :=
  ⟨add_nonneg h.1 h'.1, (mul_add _ S T).trans_le (add_le_add h.2.1 h'.2.1),
    (add_le_add h.2.2 h'.2.2).trans_eq (mul_add _ S T).symm⟩

section
variable {rnd : ℚ → ℚ} {u : ℚ} (hu0 : 0 ≤ u) (hu1 : u ≤ 1)
include hu1

theorem Within.nonneg {n : ℕ} {S s : ℚ} (h : Within u n S s) : 0 ≤ s :=
  (mul_nonneg (pow_nonneg (sub_nonneg.2 hu1) n) h.1).trans h.2.1

theorem Within.mul {n m : ℕ} {S s T t : ℚ} (h : Within u n S s) (h' : Within u m T t) :
    Within u (n + m) (S * T) (s * t) :=
  have hl := pow_nonneg (sub_nonneg.2 hu1)
  ⟨mul_nonneg h.1 h'.1,
   calc (1 - u) ^ (n + m) * (S * T) = (1 - u) ^ n * S * ((1 - u) ^ m * T) := by ring
      _ ≤ s * t := mul_le_mul h.2.1 h'.2.1 (mul_nonneg (hl m) h'.1) (h.nonneg hu1),
   calc s * t ≤ (1 + u) ^ n * S * ((1 + u) ^ m * T) :=
        mul_le_mul h.2.2 h'.2.2 (h'.nonneg hu1) ((h.nonneg hu1).trans h.2.2)
      _ = (1 + u) ^ (n + m) * (S * T) := by ring⟩

include hu0

theorem Within.mono {n m : ℕ} {S s : ℚ} (hnm : n ≤ m) (h : Within u n S s) : Within u m S s :=
  ⟨h.1, (mul_le_mul_of_nonneg_right (pow_le_pow_of_le_one (sub_nonneg.2 hu1) (sub_le_self 1 hu0) hnm) h.1).trans h.2.1,
   h.2.2.trans (mul_le_mul_of_nonneg_right (pow_le_pow_right₀ (le_add_of_nonneg_right hu0) hnm) h.1)⟩

variable (hrel : ∀ x : ℚ, |rnd x - x| ≤ |x| * u)
include hrel

theorem Within.round {n : ℕ} {S s : ℚ} (h : Within u n S s) : Within u (n + 1) S (rnd s) := by
  have hr := abs_le.1 ((hrel s).trans_eq (congrArg (· * u) (abs_of_nonneg (h.nonneg hu1))))
  exact ⟨h.1, calc (1 - u) ^ (n + 1) * S = (1 - u) * ((1 - u) ^ n * S) := by ring
      _ ≤ (1 - u) * s := mul_le_mul_of_nonneg_left h.2.1 (sub_nonneg.2 hu1)
      _ ≤ rnd s := by linarith [hr.1],
    calc rnd s ≤ (1 + u) * s := by linarith [hr.2]
      _ ≤ (1 + u) * ((1 + u) ^ n * S) := mul_le_mul_of_nonneg_left h.2.2 (add_nonneg zero_le_one hu0)
      _ = (1 + u) ^ (n + 1) * S := by ring⟩

/-- one step of `template_match`: the difference rounds once, its square carries that twice and rounds once more, then
    the sum rounds -/
theorem tm_step_bound {k : ℕ} {S s d : ℚ} (hd : 0 ≤ d) (hI : Within u (3 + k) S s) :
    Within u (3 + k + 1) (S + d * d) (rnd (s + rnd (rnd d * rnd d))) := by
  have w1 := (Within.refl u hd).round hu0 hu1 hrel
  have w3 := (w1.mul hu1 w1).round hu0 hu1 hrel
  exact (hI.add (w3.mono hu0 hu1 (Nat.le_add_right 3 k))).round hu0 hu1 hrel

/-- **Forward error bound of `template_match<T>`** for a rounding with relative error at most `u`
    (`u = 2^-53` for binary64, `2^-24` for binary32): after `k` template entries the computed partial sum is the exact one
    within `3 + k` roundings. -/
theorem tmAtG_rat_bound_u (m : Mode) (f : Img ℚ) (tshape : List Nat) (t : Array ℚ) (p : List Int) :
    0 ≤ tmAtG exactTmOps m f tshape t p ∧
    (1 - u) ^ (shapeSize tshape + 3) * tmAtG exactTmOps m f tshape t p ≤ tmAtG (ratTmOps rnd) m f tshape t p ∧
    tmAtG (ratTmOps rnd) m f tshape t p ≤ (1 + u) ^ (shapeSize tshape + 3) * tmAtG exactTmOps m f tshape t p := by
  have h := tmAtG_rel exactTmOps (ratTmOps rnd) (fun k => Within u (3 + k)) m f f rfl tshape t t p
    ((Within.refl u le_rfl).mono hu0 hu1 (Nat.zero_le _)) (fun k S s hI => hI.mono hu0 hu1 (Nat.le_succ _))
    (fun k S s q j hI => by
      rw [exactTm_step, ratTm_step]
      exact tm_step_bound hu0 hu1 hrel (abs_nonneg _) hI)
  rwa [Nat.add_comm 3] at h

end

/-- sum of the magnitudes: the samples of `mean_filter` have both signs, so cancellation is possible and the bound of
    `C07_float_error_bounds_any_precision` is relative to this quantity -/
def absSumQ (xs : List ℚ) : ℚ := (xs.map fun x => |x|).sum

end Mahotas.C07
