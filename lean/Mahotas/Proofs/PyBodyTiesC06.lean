/-
Tie between the body of `convolve.py: gaussian_filter1d` (regenerated on every run into `Generated/PyBodiesC06.lean`)
and the weights `C06.gaussWeightsG` the driver evaluates at `Float`.
-/
import Mahotas.Generated.PyBodiesC06
import Mahotas.Model.C06

namespace Mahotas
open Mahotas.Generated.Py Mahotas.C06

section
variable {K : Type}

theorem pybody_zipWith_map_right_zip (f : K → K → K) (h : K → K) :
    ∀ (xs ws : List K), List.zipWith f ws (xs.map h) = (List.zip xs ws).map (fun p => f p.2 (h p.1)) :=
  fun xs ws => by rw [List.zipWith_map_right, List.zip_eq_zipWith, List.map_zipWith, List.zipWith_comm]

variable [Add K] [Sub K] [Mul K] [Div K] [Neg K] [Zero K]

/-- `convolve.gaussian_filter1d` = `convolve1d` with the model weights `gaussWeightsG` at
    `lw = int(4σ + 0.5)`, `s2 = σ²`, samples `exp(x·x / (−2·s2))`; `none` (= the two `raise`) exactly when `lw ≤ 0` or
    the order exceeds 3. For every scalar type with its embeddings (`hInt`: `ofInt` extends `ofNat`), every
    primitive instantiation and all arguments. The driver's `C06.gaussWeights` is the right-hand side at `K := Float`,
    `ofNat := Float.ofNat`, `P.exp := Float.exp`, `P.trunc x := ⌊x⌋` with the literals `4.0`, `0.5`, `-2.0` written as
    literals (`Float.ofNat 4 = 4.0` is opaque to the kernel: trusted). -/
theorem pybody_convolve_gaussian_filter1d_eq_model {A M : Type} (ofNat : Nat → K) (ofInt : Int → K) (flit : Nat → Nat → K)
    (P : ConvPrims K A M) (hInt : ∀ n : Nat, ofInt (n : Int) = ofNat n)
    (array : A) (sigma : K) (axis : Int) (order : Nat) (mode : M) (cval : K) :
    convolve_gaussian_filter1d ofNat ofInt flit P array sigma axis order mode cval =
      (let lw := P.trunc (ofNat 4 * sigma + flit 5 1)
       if lw ≤ 0 ∨ 3 < order then none
       else some (P.convolve1d array
          (gaussWeightsG ofNat (fun x => P.exp (x * x / (-(ofNat 2) * (sigma * sigma)))) (sigma * sigma) lw.toNat order).toList
          axis mode cval)) := by
  unfold convolve_gaussian_filter1d
  simp only []
  generalize hlw : P.trunc (ofNat 4 * sigma + flit 5 1) = lw
  by_cases h0 : lw ≤ 0
  · simp [h0]
  · have hpos : 0 < lw := by omega
    obtain ⟨n, rfl⟩ : ∃ n : Nat, lw = (n : Int) := ⟨lw.toNat, by omega⟩
    have hn : Int.toNat (2 * (n : Int) + 1) = 2 * n + 1 := by omega
    simp only [h0, decide_false, Bool.false_eq_true, if_false, false_or, hn, hInt, Int.toNat_natCast]
    rcases order with _ | _ | _ | _ | m <;>
      simp [gaussWeightsG, gaussTerm, List.zipWith_self, List.zipWith_map_left, List.zipWith_map_right, List.map_map,
        Function.comp_def, List.zip_map']
end

/-- non-vacuity: an instance over the integers (three-valued "exponential", `lw = 2`) where the first-derivative weights are
    antisymmetric, reversed, and differ from the second-derivative ones -/
example :
    let P : ConvPrims Int (List Int) Unit :=
      { exp := fun x => if x = -2 then 3 else -1, trunc := fun _ => 2, convolve1d := fun _ w _ _ _ => w }
    convolve_gaussian_filter1d Int.ofNat id (fun m _ => m) P [] 1 (-1) 1 () 0 = some [-2, 1, 0, -1, 2] ∧
    convolve_gaussian_filter1d Int.ofNat id (fun m _ => m) P [] 1 (-1) 2 () 0 = some [3, 0, 1, 0, 3] ∧
    convolve_gaussian_filter1d Int.ofNat id (fun m _ => m) P [] 1 (-1) 4 () 0 = none := by decide

section laplacian
variable {K : Type} [Add K] [Sub K] [Div K] [Neg K] [LT K] [DecidableLT K] [LE K] [DecidableLE K]

/-- `alpha = max(0, min(alpha, 1))` as Python evaluates it; `C06.clampAlpha` is this at `Float` -/
def pyClamp01 (ofNat : Nat → K) (a : K) : K :=
  let y := if ofNat 1 < a then ofNat 1 else a
  if ofNat 0 < y then y else ofNat 0

/-- `convolve.laplacian_2D` = `convolve(array as double, W, mode='nearest')` where the rows of `W`
    are the model's `laplacianWeightsG` at the clamped `alpha`; `none` (= `raise`) exactly when the array is not 2-D.
    For every ordered scalar type, every primitive instantiation and all arguments. -/
theorem pybody_convolve_laplacian_2D_eq_model {A : Type} (ofNat : Nat → K) (ofInt : Int → K) (flit : Nat → Nat → K)
    (P : LaplPrims K A) (array : A) (alpha : K) :
    convolve_laplacian_2D ofNat ofInt flit P array alpha =
      (if P.ndim (P.as_float array) ≠ 2 then none
       else
        let w := (laplacianWeightsG ofNat (pyClamp01 ofNat alpha)).toList
        some (P.convolve (P.as_float array) [w.take 3, (w.drop 3).take 3, w.drop 6] "nearest")) := by
  unfold convolve_laplacian_2D pyClamp01 laplacianWeightsG
  by_cases h : P.ndim (P.as_float array) = 2 <;> simp [h]

end laplacian

/-- non-vacuity (integers): `alpha = 5` is clamped to 1, the centre weight is `-4 / 2`, the 1-D input is refused -/
example :
    let P : LaplPrims Int (List Int × Nat) := { as_float := id, ndim := fun a => a.2, convolve := fun _ w _ => (w.flatten, 2) }
    convolve_laplacian_2D Int.ofNat id (fun m _ => m) P ([], 2) 5 = some ([0, 0, 0, 0, -2, 0, 0, 0, 0], 2) ∧
    convolve_laplacian_2D Int.ofNat id (fun m _ => m) P ([], 2) 0 = some ([0, 1, 0, 1, -4, 1, 0, 1, 0], 2) ∧
    convolve_laplacian_2D Int.ofNat id (fun m _ => m) P ([], 1) 0 = none := by decide

end Mahotas
