/-
`hitmiss`: the answer as a conjunction over the template, and the positions the `slack` rule evaluates
(`hmEvaluated`) in closed form, axis by axis — for every template shape: odd sides, even sides, templates larger
than the image.
-/
import Mahotas.Proofs.C14
namespace Mahotas.C14
open Mahotas

theorem hmEntries_eq_map (S : List Nat) (bc : Array Int) :
    hmEntries S bc = ((List.range (shapeSize S)).filter fun i => !(bc.getD i 0 == 2)).map
      fun i => (subPos (unravelI S i) (centreOf S), bc.getD i 0) := filterMap_ite _ _ _

theorem hmEntries_all (bshape : List Nat) (bc : Array Int) (g : List Int × Int → Bool) :
    (hmEntries bshape bc).all g =
    (List.range (shapeSize bshape)).all fun i =>
      bc.getD i 0 == 2 || g (subPos (unravelI bshape i) (centreOf bshape), bc.getD i 0) := by
  rw [hmEntries_eq_map, List.all_map, List.all_filter]
  exact List.all_congr rfl fun i => by simp [Bool.not_not]

theorem hitmissAt_entries (A : Img Int) (bshape : List Nat) (bc : Array Int) (p : List Int) :
    hitmissAt A bshape (hmEntries bshape bc) p =
      if hmEvaluated A.shape bshape p && ((List.range (shapeSize bshape)).all fun i =>
        bc.getD i 0 == 2 ||
        A.getD (addPos p (subPos (unravelI bshape i) (centreOf bshape))) 0 == bc.getD i 0)
      then 1 else 0 := by
  unfold hitmissAt
  rw [hmEntries_all]
  cases hmEvaluated A.shape bshape p <;> rfl

theorem band_band_band_comm : ∀ a b c d : Bool, ((a && b) && (c && d)) = ((a && c) && (b && d)) := by decide

/-- on one axis: the template of side `b`, centred at `x`, lies inside the side `n` (both ends) -/
def fits (n b : Nat) (x : Int) : Bool :=
  (decide (0 ≤ x - ((b / 2 : Nat) : Int)) && decide (x - ((b / 2 : Nat) : Int) < n)) &&
    (decide (0 ≤ x - ((b / 2 : Nat) : Int) + ((b : Int) - 1)) && decide (x - ((b / 2 : Nat) : Int) + ((b : Int) - 1) < n))

theorem fits_iff (n b : Nat) (x : Int) : fits n b x = true ↔
    (0 ≤ x - ((b / 2 : Nat) : Int) ∧ x - ((b / 2 : Nat) : Int) < n) ∧
      0 ≤ x - ((b / 2 : Nat) : Int) + ((b : Int) - 1) ∧ x - ((b / 2 : Nat) : Int) + ((b : Int) - 1) < n := by
  simp only [fits, Bool.and_eq_true, decide_eq_true_eq]

theorem templateInside_cons (n : Nat) (ns : List Nat) (b : Nat) (bs : List Nat) (x : Int) (xs : List Int) :
    templateInside (n :: ns) (b :: bs) (x :: xs) = (fits n b x && templateInside ns bs xs) := by
  simp only [templateInside, centreOf, List.map_cons, subPos, addPos, inside, fits]
  exact band_band_band_comm _ _ _ _

/-- the margin rule of an axis before the last: the template fits, and `x` is not the last fitting position of an
    even side -/
theorem margin_inner (n b : Nat) (x : Int) (hb : 0 < b) :
    decide (min x ((n : Int) - x - 1) ≥ ((b / 2 : Nat) : Int)) =
      (fits n b x && !(b % 2 == 0 && x == (n : Int) - ((b / 2 : Nat) : Int))) := by
  rw [Bool.eq_iff_iff]
  simp only [fits_iff, Bool.and_eq_true, decide_eq_true_eq, Bool.not_eq_true', Bool.and_eq_false_iff,
    beq_eq_false_iff_ne, ne_eq]
  omega

/-- the `slack` rule of the last axis: the template fits, unless an even side equals the image side -/
theorem margin_last (n b : Nat) (x : Int) (hb : 0 < b) :
    (decide (min ((b / 2 : Nat) : Int) ((n : Int) - ((b / 2 : Nat) : Int) - 1) ≥ ((b / 2 : Nat) : Int)) &&
      decide (((b / 2 : Nat) : Int) ≤ x) && decide (x < ((b / 2 : Nat) : Int) + ((n : Int) - (b : Int) + 1))) =
      (fits n b x && !(b % 2 == 0 && n == b)) := by
  rw [Bool.eq_iff_iff]
  simp only [fits_iff, Bool.and_eq_true, decide_eq_true_eq, Bool.not_eq_true', Bool.and_eq_false_iff,
    beq_eq_false_iff_ne, ne_eq]
  omega

theorem margin_small (n : Nat) (c x : Int) (h : (n : Int) < 2 * c + 1) :
    decide (min x ((n : Int) - x - 1) ≥ c) = false :=
  decide_eq_false (by omega)

/-- the positions the kernel evaluates = the positions at which the template fits, minus the ones the
    even-side rule skips (`hmEvenExcluded`) — for every template with positive sides -/
theorem hmEvaluated_closed (shape bshape : List Nat) (p : List Int) (hpos : ∀ b ∈ bshape, 0 < b)
    (hne : shape ≠ []) (hl1 : bshape.length = shape.length) (hl2 : p.length = shape.length) :
    hmEvaluated shape bshape p = (templateInside shape bshape p && !hmEvenExcluded shape bshape p) := by
  induction shape generalizing bshape p with
  | nil => exact absurd rfl hne
  | cons n ns ih =>
    obtain _ | ⟨b, bs⟩ := bshape
    · cases hl1
    obtain _ | ⟨x, xs⟩ := p
    · cases hl2
    have hb := margin_inner n b x (hpos b (by simp))
    have hb' := margin_last n b x (hpos b (by simp))
    rw [templateInside_cons, hmEvaluated, hmEvenExcluded]
    obtain _ | ⟨n', ns⟩ := ns
    · obtain rfl := List.length_eq_zero_iff.mp (Nat.succ.inj hl1)
      obtain rfl := List.length_eq_zero_iff.mp (Nat.succ.inj hl2)
      exact hb'.trans (by simp [templateInside, hmEvenExcluded, inside, subPos, addPos])
    · simp only [List.isEmpty_cons, Bool.false_eq_true, if_false]
      rw [hb, ih bs xs (fun b hb => hpos b (by simp [hb])) (by simp) (Nat.succ.inj hl1) (Nat.succ.inj hl2),
        Bool.not_or, band_band_band_comm]

/-- if on some axis the image side is smaller than `2 ⌊b/2⌋ + 1` (in particular smaller than the
    template side `b`, or equal to an even `b`) the kernel evaluates no position at all -/
theorem hmEvaluated_false_of_small (shape bshape : List Nat) (p : List Int) (i : Nat)
    (hi : i < shape.length) (h : shape.getD i 0 < 2 * (bshape.getD i 0 / 2) + 1) :
    hmEvaluated shape bshape p = false := by
  fun_induction hmEvaluated shape bshape p generalizing i with
  | case1 n ns b bs x xs c hns =>
    rw [List.isEmpty_iff.mp hns] at hi
    rw [Nat.lt_one_iff.mp hi] at h
    rw [margin_small n c c (by simp only [List.getD_cons_zero] at h; omega)]
    simp
  | case2 n ns b bs x xs c _ ih =>
    cases i with
    | zero => rw [margin_small n c x (by simp only [List.getD_cons_zero] at h; omega)]; rfl
    | succ j => rw [ih j (Nat.succ_lt_succ_iff.mp hi) h, Bool.and_false]
  | case3 => rfl

theorem hmEvenExcluded_odd (shape bshape : List Nat) (p : List Int) (hodd : ∀ b ∈ bshape, b % 2 = 1) :
    hmEvenExcluded shape bshape p = false := by
  fun_induction hmEvenExcluded shape bshape p with
  | case1 n ns b bs x xs ih =>
    rw [ih fun b hb => hodd b (by simp [hb]), hodd b (by simp)]
    rfl
  | case2 => rfl

/-- when the template fits at `p`, every entry of the template lies over a pixel of the image -/
theorem templateInside_reads (shape bshape : List Nat) (p u : List Int)
    (hl1 : bshape.length = shape.length) (hl2 : p.length = shape.length)
    (ht : templateInside shape bshape p = true) (hu : inside bshape u = true) :
    inside shape (addPos p (subPos u (centreOf bshape))) = true := by
  induction shape generalizing bshape p u with
  | nil =>
    obtain rfl := List.length_eq_zero_iff.mp hl1
    obtain rfl := List.length_eq_zero_iff.mp hl2
    cases u <;> simp_all [inside, addPos]
  | cons n ns ih =>
    obtain _ | ⟨b, bs⟩ := bshape
    · cases hl1
    obtain _ | ⟨x, xs⟩ := p
    · cases hl2
    obtain _ | ⟨y, ys⟩ := u
    · simp [inside] at hu
    rw [templateInside_cons, Bool.and_eq_true, fits_iff] at ht
    simp only [inside, Bool.and_eq_true, decide_eq_true_eq] at hu
    have := ih bs xs ys (Nat.succ.inj hl1) (Nat.succ.inj hl2) ht.2 hu.2
    simp only [centreOf] at this
    simp only [centreOf, List.map_cons, subPos, addPos, inside, this, Bool.and_true,
      Bool.and_eq_true, decide_eq_true_eq]
    omega

end Mahotas.C14
