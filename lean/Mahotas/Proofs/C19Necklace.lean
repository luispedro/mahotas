/-
C19 — the bins of the compressed LBP histogram are the rotation classes (binary necklaces).

`pivots P` (the codes `c = map c` among all `2^P` codes: one bin each in `lbpCompress`) is a system of
distinct representatives of the rotation classes of `P`-bit codes, for every `P ≥ 1`; hence the number
of bins is the number of classes (counted in `Proofs/C19Burnside.lean`).
-/
import Mahotas.Proofs.C19Lbp
import Mathlib.SetTheory.Cardinal.Finite
import Mathlib.Data.Fintype.Card
import Mathlib.Data.Finset.Card
namespace Mahotas.C19

/-- the pivot codes: the bins `lbp` keeps -/
def pivots (P : Nat) : List Nat := (List.range (2 ^ P)).filter fun c => lbpMap P c == c

theorem lbpCompress_length (P : Nat) (mapped : List Nat) :
    (lbpCompress P mapped).length = (pivots P).length := by
  simp [lbpCompress, pivots]

theorem pivots_nodup (P : Nat) : (pivots P).Nodup := List.Pairwise.filter _ List.nodup_range

theorem mem_pivots_iff (P c : Nat) : c ∈ pivots P ↔ c < 2 ^ P ∧ lbpMap P c = c := by
  simp [pivots]

theorem mem_pivots (P : Nat) (hP : 1 ≤ P) (v : Nat) (hv : v < 2 ^ P) : lbpMap P v ∈ pivots P :=
  (mem_pivots_iff P _).2 ⟨lbpMap_lt P v hP hv, lbpMap_idem P v hP hv⟩

theorem RotEq.lt {P v w : Nat} (hP : 1 ≤ P) (hv : v < 2 ^ P) (h : RotEq P v w) : w < 2 ^ P := by
  obtain ⟨k, rfl⟩ := h
  exact iter_rollRight_lt P v hP hv k

theorem pivot_unique (P v : Nat) (hP : 1 ≤ P) (hv : v < 2 ^ P) : ∃! c, c ∈ pivots P ∧ RotEq P v c := by
  refine ⟨lbpMap P v, ⟨mem_pivots P hP v hv, rotEq_lbpMap P v⟩, ?_⟩
  rintro c ⟨hc, hr⟩
  obtain ⟨hc1, hc2⟩ := (mem_pivots_iff P c).1 hc
  rw [← hc2]
  exact ((lbpMap_eq_iff P v c hP hv hc1).2 hr).symm

def rotSetoid (P : Nat) (hP : 1 ≤ P) : Setoid {v : Nat // v < 2 ^ P} where
  r a b := RotEq P a.1 b.1
  iseqv := ⟨fun a => RotEq.refl P a.1, fun {a _} h => h.symm hP a.2, fun h1 h2 => h1.trans h2⟩

def classEquiv (P : Nat) (hP : 1 ≤ P) : Quotient (rotSetoid P hP) ≃ {c : Nat // c ∈ pivots P} where
  toFun := Quotient.lift (fun a => ⟨lbpMap P a.1, mem_pivots P hP a.1 a.2⟩)
    (fun a b h => Subtype.ext ((lbpMap_eq_iff P a.1 b.1 hP a.2 b.2).2 h))
  invFun c := Quotient.mk _ ⟨c.1, ((mem_pivots_iff P c.1).1 c.2).1⟩
  left_inv := by
    intro q
    induction q using Quotient.ind with
    | _ a =>
      apply Quotient.sound
      exact (rotEq_lbpMap P a.1).symm hP a.2
  right_inv := by
    intro c
    apply Subtype.ext
    exact ((mem_pivots_iff P c.1).1 c.2).2

theorem natCard_mem_list (l : List Nat) (h : l.Nodup) : Nat.card {c : Nat // c ∈ l} = l.length := by
  rw [← List.toFinset_card_of_nodup h, ← Fintype.card_coe, ← Nat.card_eq_fintype_card]
  exact Nat.card_congr (Equiv.subtypeEquivRight (by simp))

theorem card_classes (P : Nat) (hP : 1 ≤ P) : Nat.card (Quotient (rotSetoid P hP)) = (pivots P).length := by
  rw [Nat.card_congr (classEquiv P hP), natCard_mem_list _ (pivots_nodup P)]

end Mahotas.C19
