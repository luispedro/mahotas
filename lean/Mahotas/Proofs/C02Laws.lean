/-
C02: the lattice laws of the model operators, derived from the universal properties of
`Proofs/C02.lean` and a small interface of scalar facts about `erode_sub(·, h)` / `dilate_add(·, h)`.
Each law is proved once, from `ScalarsG dt sup` (nothing assumed of `dt.lo`: negative for a signed dtype, and still
the absorbing "−∞" of `dilate_add` and the "not in the element" marker) and, where an image is dilated, from
`Dflt dt F` (inside the image, reading with default `dt.lo` or `0` agree): free when `dt.lo = 0` (`Scalars`: bool and
unsigned; `Scalars.toG`, `dflt_of_lo0`), true of well-formed images of any dtype (`dflt_of_wf`).
-/
import Mahotas.Proofs.C02
namespace Mahotas.C02
open Mahotas Mahotas.C01

-- All images of a law share one shape, and `(erodeImg dt G sup).shape = G.shape` holds by unfolding. Before it
-- unfolds, Lean tries to identify the two images themselves, and would evaluate their data on the way.
attribute [local irreducible] allPos

/-- every datum of the image is representable -/
def RangeImg (dt : DT) (A : Img Int) : Prop := ∀ j, j < shapeSize A.shape → dt.InRange (A.data.getD j 0)

/-- pointwise order of two images of the same shape -/
def LeImg (A B : Img Int) : Prop := ∀ j, j < shapeSize A.shape → A.data.getD j 0 ≤ B.data.getD j 0

/-- the pair `(a, b)` meets under height `h` without saturating: the image is boolean, or `b` is
    below the dtype maximum, or `a + h` does not exceed it. -/
def NoSat (dt : DT) (a b h : Int) : Prop := dt.isBool = true ∨ b < dt.hi ∨ a + h ≤ dt.hi

/-- the scalar facts about `erode_sub(·, h)` / `dilate_add(·, h)` for the heights of an element -/
structure Scalars (dt : DT) (sup : List (List Int × Int)) : Prop where
  lo0 : dt.lo = 0
  hi_pos : 0 < dt.hi
  e_range : ∀ kh ∈ sup, ∀ a, dt.InRange a → dt.InRange (erodeSub dt a kh.2)
  d_range : ∀ kh ∈ sup, ∀ a, dt.InRange a → dt.InRange (dilateAdd dt a kh.2)
  e_mono : ∀ kh ∈ sup, ∀ a a', dt.InRange a → dt.InRange a' → a ≤ a' → erodeSub dt a kh.2 ≤ erodeSub dt a' kh.2
  d_mono : ∀ kh ∈ sup, ∀ a a', dt.InRange a → dt.InRange a' → a ≤ a' → dilateAdd dt a kh.2 ≤ dilateAdd dt a' kh.2
  adj : ∀ kh ∈ sup, ∀ a b, dt.InRange a → dt.InRange b → a ≠ dt.lo → NoSat dt a b kh.2 →
    (dilateAdd dt a kh.2 ≤ b ↔ a ≤ erodeSub dt b kh.2)

theorem bool_cases {a : Int} (ha : dtBool.InRange a) : a = 0 ∨ a = 1 := by
  obtain ⟨h0, h1⟩ := ha
  simp only [dtBool] at h0 h1
  omega

theorem bool_scalar {h : Int} (hh : h ≠ 0) {a : Int} (ha : a = 0 ∨ a = 1) :
    erodeSub dtBool a h = a ∧ dilateAdd dtBool a h = a := by
  unfold erodeSub dilateAdd
  rcases ha with rfl | rfl <;> simp [dtBool, hh]

theorem scalars_bool (sup : List (List Int × Int)) (hsup : ∀ kh ∈ sup, kh.2 ≠ 0) : Scalars dtBool sup := by
  have key : ∀ kh ∈ sup, ∀ a, dtBool.InRange a →
      erodeSub dtBool a kh.2 = a ∧ dilateAdd dtBool a kh.2 = a :=
    fun kh hkh a ha => bool_scalar (hsup kh hkh) (bool_cases ha)
  refine ⟨rfl, by decide, ?_, ?_, ?_, ?_, ?_⟩
  · intro kh hkh a ha; rw [(key kh hkh a ha).1]; exact ha
  · intro kh hkh a ha; rw [(key kh hkh a ha).2]; exact ha
  · intro kh hkh a a' ha ha' hle; rw [(key kh hkh a ha).1, (key kh hkh a' ha').1]; exact hle
  · intro kh hkh a a' ha ha' hle; rw [(key kh hkh a ha).2, (key kh hkh a' ha').2]; exact hle
  · intro kh hkh a b ha hb _ _; rw [(key kh hkh a ha).2, (key kh hkh b hb).1]

/-- flat index of the pixel reached from the `i`-th pixel through the offset `k` -/
def tgt (shape : List Nat) (i : Nat) (k : List Int) : Nat := target shape (unravelI shape i) k

theorem tgt_lt (shape : List Nat) (i : Nat) (hi : i < shapeSize shape)
    (k : List Int) (hk : k.length = shape.length) : tgt shape i k < shapeSize shape :=
  target_lt shape _ k (inside_unravelI shape i hi) hk

theorem erodeImg_getD (dt : DT) (G : Img Int) (sup : List (List Int × Int)) (i : Nat)
    (hi : i < shapeSize G.shape) :
    (erodeImg dt G sup).data.getD i 0 = erodeAt dt G sup (unravelI G.shape i) := by
  simp only [erodeImg]
  exact getD_map_allPos G.shape _ i 0 hi

/-- (E'): (E) at a flat index -/
theorem le_erode_iff (dt : DT) (G : Img Int) (sup : List (List Int × Int))
    (hlen : ∀ kh ∈ sup, kh.1.length = G.shape.length)
    (i : Nat) (hi : i < shapeSize G.shape) (v : Int) :
    v ≤ (erodeImg dt G sup).data.getD i 0 ↔
      v ≤ dt.hi ∧ ∀ kh ∈ sup, v ≤ erodeSub dt (G.data.getD (tgt G.shape i kh.1) 0) kh.2 := by
  rw [erodeImg_getD dt G sup i hi, le_erodeAt_iff]
  refine and_congr_right fun _ => forall₂_congr fun kh hkh => ?_
  rw [readNearest_target G _ kh.1 (inside_unravelI _ i hi) (hlen kh hkh)]; rfl

/-- a well-formed image: as many data as the shape says -/
def WFImg (A : Img Int) : Prop := A.data.size = shapeSize A.shape

/-- the scalar facts about `erode_sub(·, h)` / `dilate_add(·, h)` for the heights of an element,
    for a dtype whose smallest value need not be 0 (`Scalars` without `lo = 0`) -/
structure ScalarsG (dt : DT) (sup : List (List Int × Int)) : Prop where
  lo_lt_hi : dt.lo < dt.hi
  e_range : ∀ kh ∈ sup, ∀ a, dt.InRange a → dt.InRange (erodeSub dt a kh.2)
  d_range : ∀ kh ∈ sup, ∀ a, dt.InRange a → dt.InRange (dilateAdd dt a kh.2)
  e_mono : ∀ kh ∈ sup, ∀ a a', dt.InRange a → dt.InRange a' → a ≤ a' → erodeSub dt a kh.2 ≤ erodeSub dt a' kh.2
  d_mono : ∀ kh ∈ sup, ∀ a a', dt.InRange a → dt.InRange a' → a ≤ a' → dilateAdd dt a kh.2 ≤ dilateAdd dt a' kh.2
  adj : ∀ kh ∈ sup, ∀ a b, dt.InRange a → dt.InRange b → a ≠ dt.lo → NoSat dt a b kh.2 →
    (dilateAdd dt a kh.2 ≤ b ↔ a ≤ erodeSub dt b kh.2)

theorem Scalars.toG {dt : DT} {sup : List (List Int × Int)} (sc : Scalars dt sup) : ScalarsG dt sup :=
  ⟨by rw [sc.lo0]; exact sc.hi_pos, sc.e_range, sc.d_range, sc.e_mono, sc.d_mono, sc.adj⟩

theorem ScalarsG.ofLo0 {dt : DT} {sup : List (List Int × Int)} (sc : ScalarsG dt sup) (h : dt.lo = 0) : Scalars dt sup :=
  ⟨h, by rw [← h]; exact sc.lo_lt_hi, sc.e_range, sc.d_range, sc.e_mono, sc.d_mono, sc.adj⟩

/-- reading the data with the default `dt.lo` or with `0` gives the same value inside the image: all that the laws
    need of a well-formed image, and free when `dt.lo = 0`. The two defaults come from the model: `dilateModel` (and
    `dilateSpecAt`) read with default `dt.lo`, `readNearest` (erosion) and the statements of the laws with `0`. -/
def Dflt (dt : DT) (A : Img Int) : Prop := ∀ i, i < shapeSize A.shape → A.data.getD i dt.lo = A.data.getD i 0

theorem dflt_of_lo0 {dt : DT} (h : dt.lo = 0) (A : Img Int) : Dflt dt A := fun _ _ => by rw [h]

theorem dflt_of_wf (dt : DT) {A : Img Int} (wf : WFImg A) : Dflt dt A := fun _ hi =>
  getD_default _ _ (by rw [wf]; exact hi)

theorem wfImg_erode (dt : DT) (G : Img Int) (sup : List (List Int × Int)) : WFImg (erodeImg dt G sup) :=
  size_map_allPos _ _

theorem wfImg_dilate (dt : DT) (F : Img Int) (sup : List (List Int × Int)) : WFImg (dilateImg dt F sup) :=
  dilateModel_size dt F sup

theorem wfImg_map2 (op : Int → Int → Int) (A B : Img Int) : WFImg (map2 op A B) := by
  simp [WFImg, map2, Img.size]

/-- (D'): (D) for the data read with default `0` -/
theorem dilate_le_iff (dt : DT) (F : Img Int) (wfF : Dflt dt F) (sup : List (List Int × Int))
    (j : Nat) (hj : j < shapeSize F.shape) (w : Int) :
    (dilateImg dt F sup).data.getD j 0 ≤ w ↔
      dt.lo ≤ w ∧ ∀ i, i < shapeSize F.shape → F.data.getD i 0 ≠ dt.lo → ∀ kh ∈ sup,
        tgt F.shape i kh.1 = j → dilateAdd dt (F.data.getD i 0) kh.2 ≤ w := by
  simp only [dilateImg]
  rw [getD_default 0 dt.lo ((dilateModel_size dt F sup).symm ▸ hj), dilateModel_le_iff dt F sup j hj w,
    forall_mem_allPos]
  refine and_congr_right fun _ => forall₂_congr fun i hi => ?_
  rw [Img.getD_unravelI F i dt.lo hi, wfF i hi]; rfl

/-- no datum of the image sits at the dtype maximum (bool images: no condition) -/
def HiClear (dt : DT) (G : Img Int) : Prop :=
  ∀ j, j < shapeSize G.shape → dt.isBool = true ∨ G.data.getD j 0 < dt.hi

section laws
variable (dt : DT) (sup : List (List Int × Int)) (sc : ScalarsG dt sup)
include sc

theorem range_erode (G : Img Int) (hlen : ∀ kh ∈ sup, kh.1.length = G.shape.length) (hG : RangeImg dt G) :
    RangeImg dt (erodeImg dt G sup) := by
  intro i hi
  have hi' : i < shapeSize G.shape := hi
  constructor
  · rw [le_erode_iff dt G sup hlen i hi']
    refine ⟨by have := sc.lo_lt_hi; omega, fun kh hkh => ?_⟩
    exact (sc.e_range kh hkh _ (hG _ (tgt_lt G.shape i hi' kh.1 (hlen kh hkh)))).1
  · exact ((le_erode_iff dt G sup hlen i hi' _).mp (Int.le_refl _)).1

theorem range_dilate (F : Img Int) (wfF : Dflt dt F) (hF : RangeImg dt F) :
    RangeImg dt (dilateImg dt F sup) := by
  intro j hj
  have hj' : j < shapeSize F.shape := hj
  constructor
  · exact ((dilate_le_iff dt F wfF sup j hj' _).mp (Int.le_refl _)).1
  · rw [dilate_le_iff dt F wfF sup j hj']
    refine ⟨by have := sc.lo_lt_hi; omega, fun i hi _ kh hkh _ => ?_⟩
    exact (sc.d_range kh hkh _ (hF i hi)).2

theorem range_open (G : Img Int) (hlen : ∀ kh ∈ sup, kh.1.length = G.shape.length) (hG : RangeImg dt G) :
    RangeImg dt (openModel dt G sup) :=
  range_dilate dt sup sc _ (dflt_of_wf dt (wfImg_erode dt G sup)) (range_erode dt sup sc G hlen hG)

theorem range_close (F : Img Int) (wfF : Dflt dt F)
    (hlen : ∀ kh ∈ sup, kh.1.length = F.shape.length) (hF : RangeImg dt F) :
    RangeImg dt (closeModel dt F sup) :=
  range_erode dt sup sc _ hlen (range_dilate dt sup sc F wfF hF)

theorem erode_mono (G G' : Img Int) (hshape : G'.shape = G.shape)
    (hlen : ∀ kh ∈ sup, kh.1.length = G.shape.length) (hG : RangeImg dt G) (hG' : RangeImg dt G')
    (hle : LeImg G G') : LeImg (erodeImg dt G sup) (erodeImg dt G' sup) := by
  obtain ⟨s, a⟩ := G
  obtain ⟨_, b⟩ := G'
  cases hshape
  intro i hi
  have hi' : i < shapeSize s := hi
  have hE := (le_erode_iff dt ⟨s, a⟩ sup hlen i hi' _).mp (Int.le_refl _)
  rw [le_erode_iff dt ⟨s, b⟩ sup hlen i hi']
  refine ⟨hE.1, fun kh hkh => ?_⟩
  have ht := tgt_lt s i hi' kh.1 (hlen kh hkh)
  exact Int.le_trans (hE.2 kh hkh) (sc.e_mono kh hkh _ _ (hG _ ht) (hG' _ ht) (hle _ ht))

theorem dilate_mono (F F' : Img Int) (wfF : Dflt dt F) (wfF' : Dflt dt F') (hshape : F'.shape = F.shape)
    (hF : RangeImg dt F) (hF' : RangeImg dt F') (hle : LeImg F F') :
    LeImg (dilateImg dt F sup) (dilateImg dt F' sup) := by
  obtain ⟨s, a⟩ := F
  obtain ⟨_, b⟩ := F'
  cases hshape
  intro j hj
  have hj' : j < shapeSize s := hj
  have hD := (dilate_le_iff dt ⟨s, b⟩ wfF' sup j hj' _).mp (Int.le_refl _)
  rw [dilate_le_iff dt ⟨s, a⟩ wfF sup j hj']
  refine ⟨hD.1, fun i hi hne kh hkh ht => ?_⟩
  have hne' : (⟨s, b⟩ : Img Int).data.getD i 0 ≠ dt.lo := by
    have := (hF i hi).1; have := hle i hi; omega
  exact Int.le_trans (sc.d_mono kh hkh _ _ (hF i hi) (hF' i hi) (hle i hi)) (hD.2 i hi hne' kh hkh ht)

/-- `δ F ≤ G ↔ F ≤ ε G` on the model, for the pairs of values that meet without saturating -/
theorem adjunction_dflt (F G : Img Int) (wfF : Dflt dt F) (hshape : G.shape = F.shape)
    (hlen : ∀ kh ∈ sup, kh.1.length = F.shape.length) (hF : RangeImg dt F) (hG : RangeImg dt G)
    (hns : ∀ i, i < shapeSize F.shape → ∀ kh ∈ sup,
      NoSat dt (F.data.getD i 0) (G.data.getD (tgt F.shape i kh.1) 0) kh.2) :
    LeImg (dilateImg dt F sup) G ↔ LeImg F (erodeImg dt G sup) := by
  obtain ⟨s, a⟩ := F
  obtain ⟨_, b⟩ := G
  cases hshape
  constructor
  · intro h i hi
    have hi' : i < shapeSize s := hi
    rw [le_erode_iff dt ⟨s, b⟩ sup hlen i hi']
    refine ⟨(hF i hi).2, fun kh hkh => ?_⟩
    have ht := tgt_lt s i hi' kh.1 (hlen kh hkh)
    by_cases hv : (⟨s, a⟩ : Img Int).data.getD i 0 = dt.lo
    · rw [hv]; exact (sc.e_range kh hkh _ (hG _ ht)).1
    · have hD := ((dilate_le_iff dt ⟨s, a⟩ wfF sup _ ht _).mp (h _ ht)).2 i hi' hv kh hkh rfl
      exact (sc.adj kh hkh _ _ (hF i hi) (hG _ ht) hv (hns i hi kh hkh)).mp hD
  · intro h j hj
    have hj' : j < shapeSize s := hj
    rw [dilate_le_iff dt ⟨s, a⟩ wfF sup j hj']
    refine ⟨(hG j hj').1, fun i hi hv kh hkh ht => ?_⟩
    have hE := ((le_erode_iff dt ⟨s, b⟩ sup hlen i hi _).mp (h i hi)).2 kh hkh
    have hn := hns i hi kh hkh
    dsimp only at ht hn hE
    rw [ht] at hn hE
    exact (sc.adj kh hkh _ _ (hF i hi) (hG j hj') hv hn).mpr hE

omit sc in
theorem noSat_of_hiClear (F G : Img Int) (hshape : G.shape = F.shape)
    (hlen : ∀ kh ∈ sup, kh.1.length = F.shape.length) (hc : HiClear dt G) :
    ∀ i, i < shapeSize F.shape → ∀ kh ∈ sup,
      NoSat dt (F.data.getD i 0) (G.data.getD (tgt F.shape i kh.1) 0) kh.2 := by
  intro i hi kh hkh
  have ht := tgt_lt F.shape i hi kh.1 (hlen kh hkh)
  rcases hc _ (by rw [hshape]; exact ht) with h | h
  · exact Or.inl h
  · exact Or.inr (Or.inl h)

omit sc in
theorem hiClear_of_le (A B : Img Int) (hshape : A.shape = B.shape) (hle : LeImg A B) (hc : HiClear dt B) :
    HiClear dt A := by
  intro j hj
  rcases hc j (by rw [← hshape]; exact hj) with h | h
  · exact Or.inl h
  · exact Or.inr (Int.lt_of_le_of_lt (hle j hj) h)

-- `erode_sub(hi, h) = hi - h`, not `hi`: the erosion does not keep the top, so `δ F ≤ G ↔ F ≤ ε G` needs `G` below the
-- maximum (`HiClear G`, a lower set: `hiClear_of_le`). `δ ⊣ ε` is a Galois connection between the images with
-- `HiClear (δ F)` and those with `HiClear G` (`ε` maps the second into the first by `open_le`); the hypotheses of the
-- four laws below are membership in these two sets. Monotonicity (`open_mono`, `close_mono`) holds outside them too.
theorem open_le (G : Img Int) (hlen : ∀ kh ∈ sup, kh.1.length = G.shape.length) (hG : RangeImg dt G) (hc : HiClear dt G) :
    LeImg (openModel dt G sup) G := by
  have hE := range_erode dt sup sc G hlen hG
  exact (adjunction_dflt dt sup sc (erodeImg dt G sup) G (dflt_of_wf dt (wfImg_erode dt G sup)) rfl hlen hE hG
    (noSat_of_hiClear dt sup (erodeImg dt G sup) G rfl hlen hc)).mpr (fun _ _ => Int.le_refl _)

theorem le_close (F : Img Int) (wfF : Dflt dt F)
    (hlen : ∀ kh ∈ sup, kh.1.length = F.shape.length) (hF : RangeImg dt F)
    (hc : HiClear dt (dilateImg dt F sup)) : LeImg F (closeModel dt F sup) :=
  (adjunction_dflt dt sup sc F (dilateImg dt F sup) wfF rfl hlen hF (range_dilate dt sup sc F wfF hF)
    (noSat_of_hiClear dt sup F (dilateImg dt F sup) rfl hlen hc)).mp (fun _ _ => Int.le_refl _)

theorem open_idem (G : Img Int) (hlen : ∀ kh ∈ sup, kh.1.length = G.shape.length) (hG : RangeImg dt G) (hc : HiClear dt G) :
    ∀ j, j < shapeSize G.shape →
      (openModel dt (openModel dt G sup) sup).data.getD j 0 = (openModel dt G sup).data.getD j 0 := by
  have hE := range_erode dt sup sc G hlen hG
  have wE := dflt_of_wf dt (wfImg_erode dt G sup)
  have hO := range_open dt sup sc G hlen hG
  have hle := open_le dt sup sc G hlen hG hc
  have hcO : HiClear dt (openModel dt G sup) := hiClear_of_le dt _ G rfl hle hc
  have h1 := open_le dt sup sc (openModel dt G sup) hlen hO hcO
  have h2 : LeImg (erodeImg dt G sup) (erodeImg dt (openModel dt G sup) sup) :=
    le_close dt sup sc (erodeImg dt G sup) wE hlen hE hcO
  have h3 := dilate_mono dt sup sc (erodeImg dt G sup) (erodeImg dt (openModel dt G sup) sup) wE
    (dflt_of_wf dt (wfImg_erode dt _ sup)) rfl hE (range_erode dt sup sc _ hlen hO) h2
  intro j hj
  exact Int.le_antisymm (h1 j hj) (h3 j hj)

theorem close_idem (F : Img Int) (wfF : Dflt dt F)
    (hlen : ∀ kh ∈ sup, kh.1.length = F.shape.length) (hF : RangeImg dt F)
    (hc : HiClear dt (dilateImg dt F sup)) :
    ∀ j, j < shapeSize F.shape →
      (closeModel dt (closeModel dt F sup) sup).data.getD j 0 = (closeModel dt F sup).data.getD j 0 := by
  have hD := range_dilate dt sup sc F wfF hF
  have hC := range_close dt sup sc F wfF hlen hF
  have wC : Dflt dt (closeModel dt F sup) := dflt_of_wf dt (wfImg_erode dt _ sup)
  have h1 : LeImg (dilateImg dt (closeModel dt F sup) sup) (dilateImg dt F sup) :=
    open_le dt sup sc (dilateImg dt F sup) hlen hD hc
  have h2 := erode_mono dt sup sc (dilateImg dt (closeModel dt F sup) sup) (dilateImg dt F sup) rfl hlen
    (range_dilate dt sup sc _ wC hC) hD h1
  have hcc : HiClear dt (dilateImg dt (closeModel dt F sup) sup) :=
    hiClear_of_le dt _ (dilateImg dt F sup) rfl h1 hc
  have h3 : LeImg (closeModel dt F sup) (closeModel dt (closeModel dt F sup) sup) :=
    le_close dt sup sc (closeModel dt F sup) wC hlen hC hcc
  intro j hj
  exact Int.le_antisymm (h2 j hj) (h3 j hj)

theorem open_mono (G G' : Img Int) (hshape : G'.shape = G.shape)
    (hlen : ∀ kh ∈ sup, kh.1.length = G.shape.length) (hG : RangeImg dt G) (hG' : RangeImg dt G')
    (hle : LeImg G G') : LeImg (openModel dt G sup) (openModel dt G' sup) :=
  dilate_mono dt sup sc _ _ (dflt_of_wf dt (wfImg_erode dt G sup)) (dflt_of_wf dt (wfImg_erode dt G' sup)) hshape
    (range_erode dt sup sc G hlen hG)
    (range_erode dt sup sc G' (by rw [hshape]; exact hlen) hG')
    (erode_mono dt sup sc G G' hshape hlen hG hG' hle)

theorem close_mono (F F' : Img Int) (wfF : Dflt dt F) (wfF' : Dflt dt F') (hshape : F'.shape = F.shape)
    (hlen : ∀ kh ∈ sup, kh.1.length = F.shape.length) (hF : RangeImg dt F) (hF' : RangeImg dt F')
    (hle : LeImg F F') : LeImg (closeModel dt F sup) (closeModel dt F' sup) :=
  erode_mono dt sup sc _ _ hshape hlen (range_dilate dt sup sc F wfF hF)
    (range_dilate dt sup sc F' wfF' hF')
    (dilate_mono dt sup sc F F' wfF wfF' hshape hF hF' hle)

end laws

section
variable (dt : DT) (sup : List (List Int × Int)) (sc : Scalars dt sup)
include sc

/-- the `lo = 0` reading of `adjunction_dflt` (bool and unsigned dtypes, where every image is `Dflt`) -/
theorem adjunction (F G : Img Int) (hshape : G.shape = F.shape) (hs : ∀ d ∈ F.shape, 0 < d)
    (hlen : ∀ kh ∈ sup, kh.1.length = F.shape.length) (hF : RangeImg dt F) (hG : RangeImg dt G)
    (hns : ∀ i, i < shapeSize F.shape → ∀ kh ∈ sup,
      NoSat dt (F.data.getD i 0) (G.data.getD (tgt F.shape i kh.1) 0) kh.2) :
    LeImg (dilateImg dt F sup) G ↔ LeImg F (erodeImg dt G sup) :=
  adjunction_dflt dt sup sc.toG F G (dflt_of_lo0 sc.lo0 F) hshape hlen hF hG hns

end

theorem map2_getD (op : Int → Int → Int) (A B : Img Int) (i : Nat) (hi : i < shapeSize A.shape) :
    (map2 op A B).data.getD i 0 = op (A.data.getD i 0) (B.data.getD i 0) :=
  getD_map_range_toArray _ _ i hi

theorem range_map2 (dt : DT) (op : Int → Int → Int)
    (hop : ∀ a b, dt.InRange a → dt.InRange b → dt.InRange (op a b)) (A B : Img Int) (hshape : B.shape = A.shape)
    (hA : RangeImg dt A) (hB : RangeImg dt B) : RangeImg dt (map2 op A B) := by
  intro j hj
  rw [map2_getD op A B j hj]
  exact hop _ _ (hA j hj) (hB j (by rw [hshape]; exact hj))

theorem inRange_max {dt : DT} (a b : Int) (ha : dt.InRange a) (hb : dt.InRange b) : dt.InRange (max a b) :=
  ⟨Int.le_trans ha.1 (Int.le_max_left a b), Int.max_le.mpr ⟨ha.2, hb.2⟩⟩

theorem inRange_min {dt : DT} (a b : Int) (ha : dt.InRange a) (hb : dt.InRange b) : dt.InRange (min a b) :=
  ⟨Int.le_min.mpr ⟨ha.1, hb.1⟩, Int.le_trans (Int.min_le_left a b) ha.2⟩

/-- the centre of the element is a member whose height neither raises an eroded value nor lowers
    a dilated one (any height `≥ 0` other than the "absent" marker; for bool: a set entry) -/
def CentreMember (dt : DT) (sup : List (List Int × Int)) : Prop :=
  ∃ kh ∈ sup, C14.isZeroPos kh.1 = true ∧
    (∀ a, dt.InRange a → erodeSub dt a kh.2 ≤ a) ∧
    (∀ a, dt.InRange a → a ≠ dt.lo → a ≤ dilateAdd dt a kh.2)

theorem centreMember_bool (sup : List (List Int × Int)) (kh : List Int × Int) (hkh : kh ∈ sup)
    (hz : C14.isZeroPos kh.1 = true) (hne : kh.2 ≠ 0) : CentreMember dtBool sup :=
  ⟨kh, hkh, hz, fun _ ha => Int.le_of_eq (bool_scalar hne (bool_cases ha)).1,
    fun _ ha _ => Int.le_of_eq (bool_scalar hne (bool_cases ha)).2.symm⟩

theorem tgt_zero (shape : List Nat) (i : Nat) (hi : i < shapeSize shape) (k : List Int)
    (hz : C14.isZeroPos k = true) (hk : k.length = shape.length) : tgt shape i k = i := by
  unfold tgt target
  rw [addPos_zero _ k hz (by rw [hk, unravelI_length]),
    C01.clampPos_of_inside _ _ (inside_unravelI shape i hi), ravelI_unravelI shape i hi]

section cond
variable (dt : DT) (sup : List (List Int × Int)) (sc : ScalarsG dt sup) (cm : CentreMember dt sup)
include sc cm

omit sc in
theorem erode_le_self (G : Img Int) (hlen : ∀ kh ∈ sup, kh.1.length = G.shape.length) (hG : RangeImg dt G) :
    LeImg (erodeImg dt G sup) G := by
  obtain ⟨kh, hkh, hz, he, _⟩ := cm
  intro i hi
  have hi' : i < shapeSize G.shape := hi
  have := ((le_erode_iff dt G sup hlen i hi' _).mp (Int.le_refl _)).2 kh hkh
  rw [tgt_zero G.shape i hi' kh.1 hz (hlen kh hkh)] at this
  exact Int.le_trans this (he _ (hG i hi'))

theorem self_le_dilate (F : Img Int) (wfF : Dflt dt F)
    (hlen : ∀ kh ∈ sup, kh.1.length = F.shape.length) (hF : RangeImg dt F) :
    LeImg F (dilateImg dt F sup) := by
  obtain ⟨kh, hkh, hz, _, hd⟩ := cm
  intro i hi
  by_cases hv : F.data.getD i 0 = dt.lo
  · rw [hv]
    exact (range_dilate dt sup sc F wfF hF i hi).1
  · have := ((dilate_le_iff dt F wfF sup i hi _).mp (Int.le_refl _)).2 i hi hv kh hkh
      (tgt_zero F.shape i hi kh.1 hz (hlen kh hkh))
    exact Int.le_trans (hd _ (hF i hi) hv) this

omit sc in
theorem cerode_bounds (f g : Img Int) (hshape : g.shape = f.shape)
    (hlen : ∀ kh ∈ sup, kh.1.length = f.shape.length) (hf : RangeImg dt f) (hg : RangeImg dt g) :
    ∀ i, i < shapeSize f.shape →
      g.data.getD i 0 ≤ (cerodeModel dt f g sup).data.getD i 0 ∧
      (cerodeModel dt f g sup).data.getD i 0 ≤ max (f.data.getD i 0) (g.data.getD i 0) := by
  intro i hi
  have hle := erode_le_self dt sup cm (map2 max f g) hlen
    (range_map2 dt max inRange_max f g hshape hf hg) i hi
  rw [map2_getD max f g i hi] at hle
  unfold cerodeModel
  rw [map2_getD max (erodeImg dt (map2 max f g) sup) g i hi]
  exact ⟨Int.le_max_right _ _, Int.max_le.mpr ⟨hle, Int.le_max_right _ _⟩⟩

theorem cdilateLoop_bounds (g : Img Int)
    (hlen : ∀ kh ∈ sup, kh.1.length = g.shape.length) (hg : RangeImg dt g) (n : Nat) (f : Img Int)
    (wff : Dflt dt f) (hshape : f.shape = g.shape) (hf : RangeImg dt f) (hfg : LeImg f g) :
    (cdilateLoop dt g sup n f).shape = g.shape ∧
    LeImg f (cdilateLoop dt g sup n f) ∧ LeImg (cdilateLoop dt g sup n f) g := by
  induction n generalizing f with
  | zero => exact ⟨hshape, fun _ _ => Int.le_refl _, hfg⟩
  | succ n ih =>
    unfold cdilateLoop
    simp only []
    have hlenf : ∀ kh ∈ sup, kh.1.length = f.shape.length := by rw [hshape]; exact hlen
    have hD := range_dilate dt sup sc f wff hf
    have hext := self_le_dilate dt sup sc cm f wff hlenf hf
    have hget : ∀ j, j < shapeSize f.shape →
        (map2 min (dilateImg dt f sup) g).data.getD j 0 =
          min ((dilateImg dt f sup).data.getD j 0) (g.data.getD j 0) :=
      fun j hj => map2_getD min (dilateImg dt f sup) g j hj
    have hshape' : (map2 min (dilateImg dt f sup) g).shape = g.shape := hshape
    have hf' : RangeImg dt (map2 min (dilateImg dt f sup) g) :=
      range_map2 dt min inRange_min (dilateImg dt f sup) g hshape.symm hD hg
    have hle' : LeImg f (map2 min (dilateImg dt f sup) g) := fun j hj => by
      rw [hget j hj]; exact Int.le_min.mpr ⟨hext j hj, hfg j hj⟩
    have hfg' : LeImg (map2 min (dilateImg dt f sup) g) g := fun j hj => by
      rw [hget j hj]; exact Int.min_le_right _ _
    split
    · exact ⟨hshape', hle', hfg'⟩
    · obtain ⟨h1, h2, h3⟩ := ih _ (dflt_of_wf dt (wfImg_map2 _ _ _)) hshape' hf' hfg'
      exact ⟨h1, fun j hj => Int.le_trans (hle' j hj) (h2 j hj), h3⟩

theorem cdilate_bounds (f g : Img Int) (hshape : g.shape = f.shape)
    (hlen : ∀ kh ∈ sup, kh.1.length = f.shape.length) (hf : RangeImg dt f) (hg : RangeImg dt g) (n : Nat) :
    ∀ i, i < shapeSize f.shape →
      min (f.data.getD i 0) (g.data.getD i 0) ≤ (cdilateModel dt f g sup n).data.getD i 0 ∧
      (cdilateModel dt f g sup n).data.getD i 0 ≤ g.data.getD i 0 := by
  have hm : RangeImg dt (map2 min f g) := range_map2 dt min inRange_min f g hshape hf hg
  have hmg : LeImg (map2 min f g) g := fun j hj => by
    rw [map2_getD min f g j hj]; exact Int.min_le_right _ _
  obtain ⟨h1, h2, h3⟩ := cdilateLoop_bounds dt sup sc cm g
    (by rw [hshape]; exact hlen) hg n (map2 min f g) (dflt_of_wf dt (wfImg_map2 _ _ _)) hshape.symm hm hmg
  intro i hi
  have := h2 i hi
  rw [map2_getD min f g i hi] at this
  exact ⟨this, h3 i (by rw [h1, hshape]; exact hi)⟩

end cond

theorem submElem_of_le (dt : DT) (hlo : dt.lo = 0) (a b : Int) (h : b ≤ a) : submElem dt a b = a - b := by
  unfold submElem DT.signed
  simp only [hlo, Int.lt_irrefl, decide_false, Bool.false_eq_true, if_false]
  have : ¬ b > a := by omega
  simp only [this, if_false]

theorem tophatOpen_getD (dt : DT) (f : Img Int) (sup : List (List Int × Int)) (i : Nat) (hi : i < shapeSize f.shape) :
    (tophatOpenModel dt f sup).data.getD i 0 =
      submElem dt (f.data.getD i 0) ((openModel dt f sup).data.getD i 0) :=
  map2_getD _ f _ i hi

theorem tophatClose_getD (dt : DT) (f : Img Int) (sup : List (List Int × Int)) (i : Nat) (hi : i < shapeSize f.shape) :
    (tophatCloseModel dt f sup).data.getD i 0 =
      submElem dt ((closeModel dt f sup).data.getD i 0) (f.data.getD i 0) :=
  map2_getD _ (closeModel dt f sup) f i hi

/-- scatter/gather symmetry of the element on an image shape: pixel `i` reaches `j` through some
    offset iff `j` reaches `i`. True of symmetric, coordinate-wise star-shaped elements (centred
    cross, box, disk): `scatterGatherSym_of_symStar` (F12 of the design). -/
def ScatterGatherSym (shape : List Nat) (sup : List (List Int × Int)) : Prop :=
  ∀ i j, i < shapeSize shape → j < shapeSize shape →
    ((∃ kh ∈ sup, tgt shape i kh.1 = j) ↔ (∃ kh ∈ sup, tgt shape j kh.1 = i))

/-- the offsets of the element are closed under "between 0 and a member" (coordinate-wise star-shaped,
    centre included) and under negation -/
structure SymStar (sup : List (List Int × Int)) : Prop where
  star : ∀ kh ∈ sup, ∀ k', C01.between k' kh.1 = true → ∃ kh' ∈ sup, kh'.1 = k'
  neg : ∀ kh ∈ sup, ∃ kh' ∈ sup, kh'.1 = negPos kh.1

theorem sg_dir (shape : List Nat) (sup : List (List Int × Int))
    (hlen : ∀ kh ∈ sup, kh.1.length = shape.length) (hss : SymStar sup) (i j : Nat)
    (hi : i < shapeSize shape) (hj : j < shapeSize shape) (h : ∃ kh ∈ sup, tgt shape i kh.1 = j) :
    ∃ kh ∈ sup, tgt shape j kh.1 = i := by
  obtain ⟨kh, hkh, ht⟩ := h
  have hp := inside_unravelI shape i hi
  have hq := inside_unravelI shape j hj
  have hkl : kh.1.length = (unravelI shape i).length := by rw [hlen kh hkh, unravelI_length]
  -- `clamp(p + k) = p + k'` with `k'` between 0 and `k`: `k'` is a member (star), so is `−k'` (neg), and `−k'` leads
  -- from `p + k'` back to `p` without clamping
  obtain ⟨k', hb, hc, hin⟩ := clamp_between shape (unravelI shape i) kh.1 hp hkl
  have hq' : addPos (unravelI shape i) k' = unravelI shape j := by
    apply C01.ravelI_inj shape _ _ hin hq
    rw [ravelI_unravelI shape j hj, ← hc]
    exact ht
  obtain ⟨kh1, hkh1, hk1⟩ := hss.star kh hkh k' hb
  obtain ⟨kh2, hkh2, hk2⟩ := hss.neg kh1 hkh1
  refine ⟨kh2, hkh2, ?_⟩
  unfold tgt target
  rw [hk2, hk1, ← hq', C01.addPos_negPos _ k' (by rw [between_length k' kh.1 hb, hkl]),
    C01.clampPos_of_inside _ _ hp, ravelI_unravelI shape i hi]

/-- F12 in the model's coordinates: symmetric star-shaped elements are scatter/gather symmetric on
    every image shape -/
theorem scatterGatherSym_of_symStar (shape : List Nat) (sup : List (List Int × Int))
    (hlen : ∀ kh ∈ sup, kh.1.length = shape.length) (hss : SymStar sup) :
    ScatterGatherSym shape sup :=
  fun i j hi hj => ⟨sg_dir shape sup hlen hss i j hi hj, sg_dir shape sup hlen hss j i hj hi⟩

/-- the complement of a boolean image -/
def notImg (F : Img Int) : Img Int := map2 (fun a _ => 1 - a) F F

theorem bool_duality (F : Img Int) (sup : List (List Int × Int)) (hsup : ∀ kh ∈ sup, kh.2 ≠ 0)
    (hs : ∀ d ∈ F.shape, 0 < d) (hlen : ∀ kh ∈ sup, kh.1.length = F.shape.length)
    (hF : RangeImg dtBool F) (hsg : ScatterGatherSym F.shape sup) :
    ∀ j, j < shapeSize F.shape →
      (dilateImg dtBool F sup).data.getD j 0 = 1 - (erodeImg dtBool (notImg F) sup).data.getD j 0 := by
  intro j hj
  have h01 : ∀ i, i < shapeSize F.shape → F.data.getD i 0 = 0 ∨ F.data.getD i 0 = 1 :=
    fun i hi => bool_cases (hF i hi)
  rw [erodeImg_getD dtBool (notImg F) sup j hj]
  refine (dilateModel_bool_cell F sup hsup j hj).eq_one_sub
    (erodeAt_bool_cell (notImg F) sup hsup (unravelI F.shape j)) ?_
  -- a set pixel reaches `j`  ⇔  `j` reaches a set pixel (the symmetry)  ⇔  some read of the complement from `j` is 0
  have hread : ∀ kh ∈ sup, readNearest (notImg F) (addPos (unravelI F.shape j) kh.1) =
      1 - F.data.getD (tgt F.shape j kh.1) 0 := fun kh hkh => by
    exact (readNearest_target (notImg F) _ kh.1 (inside_unravelI F.shape j hj) (hlen kh hkh)).trans
      (map2_getD _ F F _ (tgt_lt F.shape j hj kh.1 (hlen kh hkh)))
  constructor
  · rintro ⟨p, hp, hv, kh, hkh, ht⟩ hQ
    obtain ⟨i, hi, rfl⟩ : ∃ i, i < shapeSize F.shape ∧ p = unravelI F.shape i :=
      ⟨_, C01.ravelI_lt _ p hp, (C01.unravelI_ravelI _ p hp).symm⟩
    rw [Img.getD_unravelI F i 0 hi] at hv
    obtain ⟨kh', hkh', ht'⟩ := (hsg i j hi hj).mp ⟨kh, hkh, ht⟩
    have := hQ kh' hkh'
    rw [hread kh' hkh', ht'] at this
    rcases h01 i hi with h | h <;> omega
  · intro hQ
    obtain ⟨kh, hkh, hk⟩ : ∃ kh ∈ sup, F.data.getD (tgt F.shape j kh.1) 0 ≠ 0 := by
      refine Classical.byContradiction fun hne => hQ fun kh hkh => ?_
      rw [hread kh hkh, Classical.not_not.mp fun h => hne ⟨kh, hkh, h⟩]; decide
    have ht := tgt_lt F.shape j hj kh.1 (hlen kh hkh)
    obtain ⟨kh', hkh', ht'⟩ := (hsg j _ hj ht).mp ⟨kh, hkh, rfl⟩
    exact ⟨_, inside_unravelI _ _ ht, by rw [Img.getD_unravelI F _ 0 ht]; exact hk, kh', hkh', ht'⟩

end Mahotas.C02
