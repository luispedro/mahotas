/-
C03 — the executable oracle `specLabels` is the labelling the Prop-level theorems characterise, hence equal
to `labelModel .constant` on every input.
-/
import Mahotas.Proofs.C03Sweep
import Mahotas.Proofs.C03Rank
namespace Mahotas.C03
open Relation


/-- the boolean foreground array `specLabels` builds -/
def fgArr (data : List Int) : Array Bool := (data.map fun v => decide (v ≠ 0)).toArray

theorem fgArr_size (data : List Int) : (fgArr data).size = data.length := by simp [fgArr]

theorem FgA_fgArr (data : List Int) (i : Nat) : FgA (fgArr data) i ↔ Fg data i := by
  unfold FgA Fg fgArr
  simp only [Array.getD_eq_getD_getElem?, List.getElem?_toArray, List.getElem?_map, List.getD_eq_getElem?_getD]
  by_cases h : i < data.length
  · simp [h]
  · simp [h]

theorem mem_symNeighbours_raw (shape : List Nat) (fg : Array Bool) (offs : List (List Int)) (i j : Nat) :
    j ∈ symNeighbours shape fg offs i ↔
      ∃ k ∈ offs ++ offs.map negPos, inside shape (addPos (unravelI shape i) k) = true ∧
        fg.getD (ravelI shape (addPos (unravelI shape i) k)) false = true ∧
        j = ravelI shape (addPos (unravelI shape i) k) := by
  unfold symNeighbours
  simp only [List.mem_filterMap]
  constructor
  · rintro ⟨k, hk, h⟩
    by_cases h1 : inside shape (addPos (unravelI shape i) k) = true
    · by_cases h2 : fg.getD (ravelI shape (addPos (unravelI shape i) k)) false = true
      · simp only [h1, h2, if_true] at h
        exact ⟨k, hk, h1, h2, (Option.some.inj h).symm⟩
      · simp [h1, h2] at h
    · simp [h1] at h
  · rintro ⟨k, hk, h1, h2, rfl⟩
    exact ⟨k, hk, by simp [h1, h2]⟩

/-- stepping back by `k` from `i` lands on `j` exactly when stepping by `k` from `j` lands on `i` -/
theorem off_neg (shape : List Nat) (k : List Int) (hk : k.length = shape.length) (i j : Nat)
    (hi : i < shapeSize shape) (h1 : inside shape (addPos (unravelI shape i) (negPos k)) = true)
    (hj : j = ravelI shape (addPos (unravelI shape i) (negPos k))) :
    inside shape (addPos (unravelI shape j) k) = true ∧ i = ravelI shape (addPos (unravelI shape j) k) := by
  have e : addPos (addPos (unravelI shape i) (negPos k)) k = unravelI shape i := by
    have := C01.addPos_negPos (unravelI shape i) (negPos k)
      ((C01.negPos_length k).trans (hk.trans (unravelI_length shape i).symm))
    rw [C01.negPos_negPos] at this
    exact this
  rw [hj, C01.unravelI_ravelI shape _ h1, e]
  exact ⟨C01.inside_unravelI shape i hi, (C01.ravelI_unravelI shape i hi).symm⟩

/-- neighbours of the oracle = foreground pixels one offset (or one reflected offset) away, inside the image -/
theorem mem_symNeighbours (shape : List Nat) (data : List Int) (offs : List (List Int))
    (hlen : data.length = shapeSize shape) (hk : ∀ k ∈ offs, k.length = shape.length) (i j : Nat)
    (hi : Fg data i) :
    j ∈ symNeighbours shape (fgArr data) offs i ↔ Fg data j ∧ (Off shape offs i j ∨ Off shape offs j i) := by
  rw [mem_symNeighbours_raw]
  constructor
  · rintro ⟨k, hk', h1, h2, hj⟩
    have hfj : Fg data j := (FgA_fgArr data _).mp (hj ▸ h2)
    refine ⟨hfj, ?_⟩
    rcases List.mem_append.mp hk' with hk' | hk'
    · exact Or.inl ⟨k, hk', h1, hj⟩
    · obtain ⟨k', hk'', rfl⟩ := List.mem_map.mp hk'
      exact Or.inr ⟨k', hk'', off_neg shape k' (hk k' hk'') i j (hlen ▸ hi.1) h1 hj⟩
  · rintro ⟨hfj, ⟨k, hk', h1, rfl⟩ | ⟨k, hk', h1, e⟩⟩
    · exact ⟨k, List.mem_append_left _ hk', h1, (FgA_fgArr data _).mpr hfj, rfl⟩
    · rw [← C01.negPos_negPos k] at h1 e
      obtain ⟨a, b⟩ := off_neg shape (negPos k) ((C01.negPos_length k).trans (hk k hk')) j i (hlen ▸ hfj.1) h1 e
      exact ⟨negPos k, List.mem_append_right _ (List.mem_map.mpr ⟨k, hk', rfl⟩), a,
        (FgA_fgArr data _).mpr (b ▸ hfj), b⟩

section withData
variable (shape : List Nat) (data : List Int) (offs : List (List Int))
  (hlen : data.length = shapeSize shape) (hk : ∀ k ∈ offs, k.length = shape.length)
include hlen hk

/-- one step of the oracle's relaxation is an edge of the scan in `ExtendConstant` mode, in either direction -/
theorem relA_eq_symmGen :
    RelA (fgArr data) (symNeighbours shape (fgArr data) offs) = SymmGen (Edge .constant shape offs data) := by
  funext a b
  refine propext ⟨fun ⟨fa, hb⟩ => ?_, fun h => ?_⟩
  · have fa := (FgA_fgArr data a).mp fa
    obtain ⟨fb, h⟩ := (mem_symNeighbours shape data offs hlen hk a b fa).mp hb
    exact h.imp (fun h => ⟨fa, fb, (mem_neighbours_constant shape offs a b hk).mpr h⟩)
      fun h => ⟨fb, fa, (mem_neighbours_constant shape offs b a hk).mpr h⟩
  · rcases h with ⟨fa, fb, h⟩ | ⟨fb, fa, h⟩
    · exact ⟨(FgA_fgArr data a).mpr fa, (mem_symNeighbours shape data offs hlen hk a b fa).mpr
        ⟨fb, Or.inl ((mem_neighbours_constant shape offs a b hk).mp h)⟩⟩
    · exact ⟨(FgA_fgArr data a).mpr fa, (mem_symNeighbours shape data offs hlen hk a b fa).mpr
        ⟨fb, Or.inr ((mem_neighbours_constant shape offs b a hk).mp h)⟩⟩

theorem relA_symm (a b : Nat) (h : RelA (fgArr data) (symNeighbours shape (fgArr data) offs) a b) :
    RelA (fgArr data) (symNeighbours shape (fgArr data) offs) b a := by
  rw [relA_eq_symmGen shape data offs hlen hk] at h ⊢
  exact h.symm

/-- connectivity of the oracle = the equivalence closure of the edges the scan processes in `ExtendConstant` mode -/
theorem connA_eq_eqvGen :
    ConnA (fgArr data) (symNeighbours shape (fgArr data) offs) = EqvGen (Edge .constant shape offs data) := by
  unfold ConnA
  rw [relA_eq_symmGen shape data offs hlen hk, EqvGen.reflTransGen_symmGen]

end withData

/-- the representative array `specLabels` computes -/
def repStar (shape : List Nat) (data : List Int) (offs : List (List Int)) : Array Nat :=
  fixRep shape (fgArr data) offs data.length (2 * data.length + 2) ((List.range data.length).toArray)

theorem specLabels_eq (shape : List Nat) (data : List Int) (bshape : List Nat) (bc : Array Int) :
    specLabels shape data bshape bc =
      ((List.range data.length).map (rankLabel (fun i => (fgArr data).getD i false)
          fun i => (repStar shape data (offsets bshape bc)).getD i i),
       ((rootCount (fun i => (fgArr data).getD i false)
          (fun i => (repStar shape data (offsets bshape bc)).getD i i) data.length : Nat) : Int)) := rfl

section star
variable (shape : List Nat) (data : List Int) (offs : List (List Int))
  (hlen : data.length = shapeSize shape) (hk : ∀ k ∈ offs, k.length = shape.length)
include hlen hk

/-- the state `specLabels` reads the labels from: sound and everywhere correct -/
theorem repStar_spec :
    RInv (fgArr data) (symNeighbours shape (fgArr data) offs) (repStar shape data offs) ∧
    ∀ i, FgA (fgArr data) i →
      Correct (fgArr data) (symNeighbours shape (fgArr data) offs) (repStar shape data offs) i := by
  unfold repStar
  rw [fixRep_eq_iterate, ← fgArr_size data]
  -- at most `n` pixels are incorrect at the start and every round repairs one: the `2 * n + 2` rounds of the model suffice
  refine iterate_roundG (relA_symm shape data offs hlen hk) _ _ ⟨by simp, fun i hi => ?_⟩
    (Nat.le_trans (Bad_card_le _) (by omega))
  have : ((List.range (fgArr data).size).toArray).getD i i = i := by
    simp only [Array.getD_eq_getD_getElem?, List.getElem?_toArray]
    rw [List.getElem?_range hi.lt]; rfl
  rw [this]
  exact ⟨Nat.le_refl _, hi, ReflTransGen.refl⟩

end star

/-- **the oracle, characterised** (in terms of the edges the scan processes in `ExtendConstant` mode) -/
theorem specLabels_isLabelling (shape : List Nat) (data : List Int) (bshape : List Nat) (bc : Array Int)
    (hnd : bshape.length = shape.length) (hlen : data.length = shapeSize shape) :
    IsLabelling data (Edge .constant shape (offsets bshape bc) data) (specLabels shape data bshape bc) := by
  have hk : ∀ k ∈ offsets bshape bc, k.length = shape.length := by
    intro k hk; rw [offsets_length bshape bc k hk, hnd]
  obtain ⟨hinv, hc⟩ := repStar_spec shape data _ hlen hk
  have hC := connA_eq_eqvGen shape data _ hlen hk
  rw [specLabels_eq]
  refine rank_isLabelling (FgA_fgArr data) (fun i fi => ?_) fun i j fi fj =>
    hC ▸ hinv.eq_iff (relA_symm shape data _ hlen hk) hc ((FgA_fgArr data i).mpr fi) ((FgA_fgArr data j).mpr fj)
  obtain ⟨a, b, c⟩ := hinv.ok i ((FgA_fgArr data i).mpr fi)
  exact ⟨a, (FgA_fgArr data _).mp b, hC ▸ c⟩

end Mahotas.C03
