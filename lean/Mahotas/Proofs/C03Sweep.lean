/-
C03 — the relaxation sweeps of the executable oracle `specLabels` (`sweep`, `fixRep`), analysed over an abstract
neighbour function `nbs` whose one-step relation `RelA` is symmetric. `fixRep` leaves its loop early only at a fixed point
of the round, so it is the iterate of the round (`fixRep_eq_iterate`); every round makes at least one more pixel carry the
least index of its connected class (`Bad_card_lt`), so the fuel `specLabels` passes is enough (`iterate_roundG`).
-/
import Mahotas.Proofs.C03Label
import Mahotas.Proofs.ListLemmas
import Mahotas.Proofs.FoldOrder
import Mahotas.Proofs.Iterate
import Mathlib.Data.Finset.Card
namespace Mahotas.C03
open Relation

/-- body of the fold in `sweep`, over an arbitrary neighbour function -/
def stepG (fg : Array Bool) (nbs : Nat → List Nat) (st : Array Nat × Bool) (i : Nat) : Array Nat × Bool :=
  if !fg.getD i false then st else
  let cur := st.1.getD i i
  let best := (nbs i).foldl (fun b j => min b (st.1.getD j j)) cur
  if best < cur then (st.1.setIfInBounds i best, true) else st

def sweepG (fg : Array Bool) (nbs : Nat → List Nat) (order : List Nat) (st : Array Nat × Bool) : Array Nat × Bool :=
  order.foldl (stepG fg nbs) st

/-- one round of `fixRep`: a forward and a backward sweep -/
def roundG (fg : Array Bool) (nbs : Nat → List Nat) (n : Nat) (rep : Array Nat) : Array Nat :=
  (sweepG fg nbs (List.range n).reverse ((sweepG fg nbs (List.range n) (rep, false)).1, false)).1

theorem sweep_eq_sweepG (shape : List Nat) (fg : Array Bool) (offs : List (List Int)) (order : List Nat)
    (rep : Array Nat) :
    sweep shape fg offs order rep = sweepG fg (symNeighbours shape fg offs) order (rep, false) := rfl

theorem minFold_spec (f : Nat → Nat) (l : List Nat) (c : Nat) :
    l.foldl (fun b j => min b (f j)) c ≤ c ∧ (∀ j ∈ l, l.foldl (fun b j => min b (f j)) c ≤ f j) ∧
    (l.foldl (fun b j => min b (f j)) c = c ∨ ∃ j ∈ l, l.foldl (fun b j => min b (f j)) c = f j) := by
  rw [← List.foldl_map (g := min)]
  obtain ⟨h1, h2, h3⟩ := foldl_min_spec (l.map f) c
  exact ⟨h1, fun j hj => h2 _ (List.mem_map_of_mem hj), h3.imp_right fun h =>
    (List.mem_map.mp h).elim fun j hj => ⟨j, hj.1, hj.2.symm⟩⟩

/-- somewhere on a chain from a point with `P` to a point without, `P` is lost along one edge -/
theorem boundary_pair {α : Type} {r : α → α → Prop} {P : α → Prop} {a b : α} (h : ReflTransGen r a b) (ha : P a)
    (hb : ¬ P b) : ∃ x y, r x y ∧ P x ∧ ¬ P y := by
  induction h with
  | refl => exact absurd ha hb
  | @tail b' c _ hbc ih => exact (Classical.em (P b')).elim (fun h' => ⟨b', c, hbc, h', hb⟩) ih

section generic
variable (fg : Array Bool) (nbs : Nat → List Nat)

def FgA (i : Nat) : Prop := fg.getD i false = true

theorem FgA.lt {fg : Array Bool} {i : Nat} (h : FgA fg i) : i < fg.size :=
  lt_size_of_getD_ne fg i false (by rw [show fg.getD i false = true from h]; decide)

/-- one step of the relation the sweeps relax over -/
def RelA (a b : Nat) : Prop := FgA fg a ∧ b ∈ nbs a

def ConnA : Nat → Nat → Prop := ReflTransGen (RelA fg nbs)

/-- the representative array is sound: every foreground pixel points to a foreground pixel of its own
    class that is not later in scan order -/
structure RInv (rep : Array Nat) : Prop where
  size : rep.size = fg.size
  ok : ∀ i, FgA fg i → rep.getD i i ≤ i ∧ FgA fg (rep.getD i i) ∧ ConnA fg nbs i (rep.getD i i)

/-- pixel `i` already carries the least index of its class -/
def Correct (rep : Array Nat) (i : Nat) : Prop := ∀ t, ConnA fg nbs i t → rep.getD i i ≤ t

variable {fg nbs}

theorem stepG_bg {st : Array Nat × Bool} {i : Nat} (h : ¬ FgA fg i) : stepG fg nbs st i = st := by
  unfold stepG
  have : fg.getD i false = false := by
    unfold FgA at h
    cases hb : fg.getD i false
    · rfl
    · exact absurd hb h
  simp [this]

/-- the candidate value of pixel `i`: minimum over itself and its neighbours -/
def bestG (nbs : Nat → List Nat) (rep : Array Nat) (i : Nat) : Nat :=
  (nbs i).foldl (fun b j => min b (rep.getD j j)) (rep.getD i i)

theorem bestG_spec (nbs : Nat → List Nat) (rep : Array Nat) (i : Nat) :
    bestG nbs rep i ≤ rep.getD i i ∧ (∀ j ∈ nbs i, bestG nbs rep i ≤ rep.getD j j) ∧
    (bestG nbs rep i = rep.getD i i ∨ ∃ j ∈ nbs i, bestG nbs rep i = rep.getD j j) :=
  minFold_spec (fun j => rep.getD j j) (nbs i) (rep.getD i i)

theorem stepG_fg {st : Array Nat × Bool} {i : Nat} (h : FgA fg i) :
    stepG fg nbs st i =
      if bestG nbs st.1 i < st.1.getD i i then (st.1.setIfInBounds i (bestG nbs st.1 i), true) else st := by
  unfold stepG bestG
  simp only [show fg.getD i false = true from h, Bool.not_true, Bool.false_eq_true, if_false]

/-- a step either leaves the state alone (background pixel, or nothing smaller in sight) or stores the candidate -/
theorem stepG_cases (st : Array Nat × Bool) (i : Nat) (P : Array Nat × Bool → Prop)
    (skip : (FgA fg i → st.1.getD i i ≤ bestG nbs st.1 i) → P st)
    (store : FgA fg i → bestG nbs st.1 i < st.1.getD i i → P (st.1.setIfInBounds i (bestG nbs st.1 i), true)) :
    P (stepG fg nbs st i) := by
  by_cases h : FgA fg i
  · rw [stepG_fg h]
    by_cases hlt : bestG nbs st.1 i < st.1.getD i i
    · rw [if_pos hlt]; exact store h hlt
    · rw [if_neg hlt]; exact skip fun _ => Nat.le_of_not_lt hlt
  · rw [stepG_bg h]; exact skip fun hh => absurd hh h

theorem stepG_size (st : Array Nat × Bool) (i : Nat) : (stepG fg nbs st i).1.size = st.1.size :=
  stepG_cases st i (fun s => s.1.size = st.1.size) (fun _ => rfl) fun _ _ => Array.size_setIfInBounds

theorem stepG_le (st : Array Nat × Bool) (i x : Nat) : (stepG fg nbs st i).1.getD x x ≤ st.1.getD x x := by
  refine stepG_cases st i (fun s => s.1.getD x x ≤ st.1.getD x x) (fun _ => Nat.le_refl _) fun _ hlt => ?_
  dsimp only
  rw [getD_setIfInBounds]
  split
  · next he => exact he.1 ▸ Nat.le_of_lt hlt
  · exact Nat.le_refl _

theorem stepG_target (st : Array Nat × Bool) (i j : Nat) (h : FgA fg i) (hi : i < st.1.size) (hj : j ∈ nbs i) :
    (stepG fg nbs st i).1.getD i i ≤ st.1.getD j j := by
  have h2 := (bestG_spec nbs st.1 i).2.1 j hj
  refine stepG_cases st i (fun s => s.1.getD i i ≤ st.1.getD j j) (fun hs => Nat.le_trans (hs h) h2) fun _ _ => ?_
  dsimp only
  rw [getD_setIfInBounds, if_pos ⟨rfl, hi⟩]
  exact h2

theorem stepG_flag (st : Array Nat × Bool) (i : Nat) (hf : (stepG fg nbs st i).2 = false) :
    st.2 = false ∧ stepG fg nbs st i = st :=
  stepG_cases st i (fun s => s.2 = false → st.2 = false ∧ s = st) (fun _ hf => ⟨hf, rfl⟩) (fun _ _ hf => nomatch hf) hf

theorem sweepG_size : ∀ (order : List Nat) (st : Array Nat × Bool),
    (sweepG fg nbs order st).1.size = st.1.size :=
  fun order st => foldl_inv (fun s => s.1.size = st.1.size) _ (fun s i h => (stepG_size s i).trans h) order st rfl

theorem sweepG_le : ∀ (order : List Nat) (st : Array Nat × Bool) (x : Nat),
    (sweepG fg nbs order st).1.getD x x ≤ st.1.getD x x :=
  fun order st x => foldl_inv (fun s => s.1.getD x x ≤ st.1.getD x x) _
    (fun s i h => Nat.le_trans (stepG_le s i x) h) order st (Nat.le_refl _)

/-- the step at `i` stores at most what `j` holds then, which is at most what `j` held at the start; later steps only lower `i` -/
theorem sweepG_target (order : List Nat) (st : Array Nat × Bool) (i j : Nat) (hi : i ∈ order) (hf : FgA fg i)
    (hsz : i < st.1.size) (hj : j ∈ nbs i) : (sweepG fg nbs order st).1.getD i i ≤ st.1.getD j j := by
  obtain ⟨l1, l2, rfl⟩ := List.append_of_mem hi
  rw [sweepG, List.foldl_append, List.foldl_cons]
  exact Nat.le_trans (sweepG_le l2 _ i) (Nat.le_trans
    (stepG_target _ i j hf (by rw [← sweepG, sweepG_size]; exact hsz) hj) (sweepG_le l1 st j))

/-- a sweep that reports no change has made none -/
theorem sweepG_unchanged (order : List Nat) (st : Array Nat × Bool) (hf : (sweepG fg nbs order st).2 = false) :
    sweepG fg nbs order st = st :=
  foldl_inv (fun s => s.2 = false → s = st) _
    (fun s i hs hf => (stepG_flag s i hf).elim fun h1 h2 => h2.trans (hs h1)) order st (fun _ => rfl) hf

theorem roundG_le (n : Nat) (rep : Array Nat) (x : Nat) : (roundG fg nbs n rep).getD x x ≤ rep.getD x x :=
  Nat.le_trans (sweepG_le _ _ x) (sweepG_le _ (rep, false) x)

/-- `fixRep` leaves its loop early only when a round has changed nothing, and then no later round would: it is the
    `fuel`-fold iterate of the round -/
theorem fixRep_eq_iterate (shape : List Nat) (fg : Array Bool) (offs : List (List Int)) (n : Nat) :
    ∀ (fuel : Nat) (rep : Array Nat),
      fixRep shape fg offs n fuel rep = (roundG fg (symNeighbours shape fg offs) n)^[fuel] rep
  | 0, _ => rfl
  | fuel + 1, rep => by
    rw [fixRep, Function.iterate_succ_apply]
    split
    · exact fixRep_eq_iterate shape fg offs n fuel _
    · next h =>
      simp only [Bool.or_eq_true, not_or, Bool.not_eq_true, sweep_eq_sweepG] at h
      have h1 := sweepG_unchanged _ _ h.1
      rw [h1] at h
      have hfix : roundG fg (symNeighbours shape fg offs) n rep = rep := by
        unfold roundG
        rw [h1, sweepG_unchanged _ _ h.2]
      rw [hfix, Function.iterate_fixed hfix]
      exact hfix

theorem Correct.mono {rep rep' : Array Nat} {i : Nat} (h : Correct fg nbs rep i)
    (hle : rep'.getD i i ≤ rep.getD i i) : Correct fg nbs rep' i :=
  fun t ht => Nat.le_trans hle (h t ht)

open Classical in
/-- the foreground pixels that do not yet carry the least index of their class -/
noncomputable def Bad (fg : Array Bool) (nbs : Nat → List Nat) (rep : Array Nat) : Finset Nat :=
  (Finset.range fg.size).filter fun i => FgA fg i ∧ ¬ Correct fg nbs rep i

theorem mem_Bad {rep : Array Nat} {i : Nat} : i ∈ Bad fg nbs rep ↔ FgA fg i ∧ ¬ Correct fg nbs rep i := by
  unfold Bad
  simp only [Finset.mem_filter, Finset.mem_range]
  exact ⟨fun h => h.2, fun h => ⟨h.1.lt, h⟩⟩

open Classical in
theorem Bad_card_le (rep : Array Nat) : (Bad fg nbs rep).card ≤ fg.size := by
  have h1 : (Bad fg nbs rep).card ≤ (Finset.range fg.size).card := by
    unfold Bad
    exact Finset.card_filter_le _ _
  rwa [Finset.card_range] at h1

variable (hsym : ∀ a b, RelA fg nbs a b → RelA fg nbs b a)
include hsym

theorem ConnA.symm {a b : Nat} (h : ConnA fg nbs a b) : ConnA fg nbs b a :=
  (@ReflTransGen.stdSymm _ _ ⟨hsym⟩).symm a b h

theorem ConnA.isFg {a b : Nat} (h : ConnA fg nbs a b) (ha : FgA fg a) : FgA fg b := by
  induction h with
  | refl => exact ha
  | tail _ hbc _ => exact (hsym _ _ hbc).1

theorem stepG_inv (st : Array Nat × Bool) (i : Nat) (h : RInv fg nbs st.1) : RInv fg nbs (stepG fg nbs st i).1 := by
  refine stepG_cases st i (fun s => RInv fg nbs s.1) (fun _ => h) fun hi hlt => ?_
  refine ⟨Array.size_setIfInBounds.trans h.size, fun x hx => ?_⟩
  dsimp only
  rw [getD_setIfInBounds]
  split
  · next he =>
    -- the stored candidate is the representative of a neighbour (it is smaller than the pixel's own)
    obtain ⟨e, _⟩ := he
    subst e
    obtain ⟨_, _, h3⟩ := bestG_spec nbs st.1 i
    rcases h3 with h3 | ⟨j, hj, h3⟩
    · omega
    · obtain ⟨_, b, c⟩ := h.ok j (hsym _ _ ⟨hi, hj⟩).1
      obtain ⟨a', _, _⟩ := h.ok i hi
      exact ⟨by omega, h3 ▸ b, h3 ▸ ReflTransGen.head ⟨hi, hj⟩ c⟩
  · exact h.ok x hx

theorem roundG_inv (n : Nat) (rep : Array Nat) (h : RInv fg nbs rep) : RInv fg nbs (roundG fg nbs n rep) :=
  foldl_inv (fun s : Array Nat × Bool => RInv fg nbs s.1) _ (stepG_inv hsym) _ _
    (foldl_inv (fun s : Array Nat × Bool => RInv fg nbs s.1) _ (stepG_inv hsym) _ (rep, false) h)

/-- the least member of the class of a foreground pixel is correct -/
theorem exists_correct (rep : Array Nat) (hinv : RInv fg nbs rep) (i : Nat) (hi : FgA fg i) :
    ∃ m, ConnA fg nbs m i ∧ Correct fg nbs rep m := by
  classical
  have hex : ∃ t, ConnA fg nbs i t := ⟨i, ReflTransGen.refl⟩
  refine ⟨Nat.find hex, (Nat.find_spec hex).symm hsym, ?_⟩
  intro t ht
  have hm := Nat.find_spec hex
  obtain ⟨a, _, c⟩ := hinv.ok _ (hm.isFg hsym hi)
  have h1 : Nat.find hex ≤ rep.getD (Nat.find hex) (Nat.find hex) := Nat.find_min' hex (hm.trans c)
  have h2 : Nat.find hex ≤ t := Nat.find_min' hex (hm.trans ht)
  omega

/-- a round strictly shrinks the set of incorrect pixels (when there is one): on a chain from the least member of its
    class to an incorrect pixel some edge goes from a correct `x` to an incorrect `y`, and the forward sweep lowers `y`
    to the representative of `x` at least -/
theorem Bad_card_lt (rep : Array Nat) (hinv : RInv fg nbs rep) (i : Nat) (hi : FgA fg i) (hb : ¬ Correct fg nbs rep i) :
    (Bad fg nbs (roundG fg nbs fg.size rep)).card < (Bad fg nbs rep).card := by
  obtain ⟨m, hm, hmc⟩ := exists_correct hsym rep hinv i hi
  obtain ⟨x, y, hxy, hx, hy⟩ := boundary_pair hm hmc hb
  obtain ⟨hyf, hyx⟩ := hsym _ _ hxy
  refine Finset.card_lt_card ⟨fun j hj => ?_, fun hsub => (mem_Bad.mp (hsub (mem_Bad.mpr ⟨hyf, hy⟩))).2 fun t ht => ?_⟩
  · rw [mem_Bad] at hj ⊢
    exact ⟨hj.1, fun hc => hj.2 (hc.mono (roundG_le _ rep j))⟩
  · have h1 := sweepG_target (List.range fg.size) (rep, false) y x (List.mem_range.mpr hyf.lt) hyf
      (by rw [hinv.size]; exact hyf.lt) hyx
    exact Nat.le_trans (Nat.le_trans (sweepG_le _ _ y) h1) (hx t ((ReflTransGen.single hxy).trans ht))

/-- **the fixpoint.** With one round of fuel for every incorrect pixel, the iteration ends in a sound state in which
    every foreground pixel is correct. -/
theorem iterate_roundG (fuel : Nat) (rep : Array Nat) (hinv : RInv fg nbs rep) (hc : (Bad fg nbs rep).card ≤ fuel) :
    RInv fg nbs ((roundG fg nbs fg.size)^[fuel] rep) ∧
      ∀ i, FgA fg i → Correct fg nbs ((roundG fg nbs fg.size)^[fuel] rep) i :=
  iterate_measure (roundG fg nbs fg.size) (RInv fg nbs) (fun rep => ∀ i, FgA fg i → Correct fg nbs rep i)
    (fun rep => (Bad fg nbs rep).card) (roundG_inv hsym _)
    (fun rep _ hq i hi => (hq i hi).mono (roundG_le _ rep i))
    (fun rep hinv hq => (Classical.not_forall.mp hq).elim fun i hi =>
      Bad_card_lt hsym rep hinv i (Classical.not_imp.mp hi).1 (Classical.not_imp.mp hi).2)
    fuel rep hinv (Or.inr hc)

/-- in a sound and everywhere correct state two foreground pixels have the same representative exactly when they are
    connected -/
theorem RInv.eq_iff {rep : Array Nat} (hinv : RInv fg nbs rep) (hc : ∀ i, FgA fg i → Correct fg nbs rep i)
    {i j : Nat} (hi : FgA fg i) (hj : FgA fg j) : rep.getD i i = rep.getD j j ↔ ConnA fg nbs i j := by
  obtain ⟨_, _, ci⟩ := hinv.ok i hi
  obtain ⟨_, _, cj⟩ := hinv.ok j hj
  refine ⟨fun e => ci.trans ((e ▸ cj).symm hsym), fun h => ?_⟩
  have h1 := hc i hi _ (ReflTransGen.trans h cj)
  have h2 := hc j hj _ (ReflTransGen.trans (h.symm hsym) ci)
  omega

end generic

end Mahotas.C03
