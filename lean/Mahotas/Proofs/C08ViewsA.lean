/-
C08 — lemmas for the `at(pos)` kernels over views (`Model/C08ViewsA.lean`).

`at(pos)` is the address map, so `atImg = toImg` by `rfl` and
regmax / close_holes are their owners' models; `majority_filter` is given pointwise (`majorityLoops_eq`); the joint loop
state of `iterate_both` (`bothAfter`) is the array iterator plus the table pointer of `FilterIter.stateAfter`.
-/
import Mahotas.Model.C08ViewsA
import Mahotas.Proofs.C08Kernels
import Mahotas.Proofs.FilterIter
namespace Mahotas.C08
open Mahotas

theorem atImg_eq_toImg {α : Type} (mem : Int → α) (v : View) : atImg mem v = toImg mem v := rfl

theorem nbView_eq (mB : Int → Int) (vB : View) (wf : vB.WF) :
    nbView mB vB = C14.neighbours vB.shape (logical mB vB).toArray := by
  unfold nbView
  rw [filtVals_eq mB vB wf]

theorem map_some_all_isSome {β : Type} (x : Array β) : (x.map some).all Option.isSome = true := by
  simp [Array.all_eq_true]

theorem map_some_map_getD {β : Type} (x : Array β) (d : β) : (x.map some).map (fun o => o.getD d) = x := by
  simp

theorem majorityCount_congr (n : Nat) (px px' : Nat → Nat → Bool) (y x : Nat)
    (h : ∀ dy dx, dy < n → dx < n → px (y + dy) (x + dx) = px' (y + dy) (x + dx)) :
    majorityCount n px y x = majorityCount n px' y x := by
  unfold majorityCount
  rw [List.flatMap_def, List.flatMap_def]
  congr 2
  apply List.map_congr_left
  intro dy hdy
  apply List.map_congr_left
  intro dx hdx
  exact h dy dx (List.mem_range.1 hdy) (List.mem_range.1 hdx)

theorem majorityLoops_congr (rows cols n : Nat) (px px' : Nat → Nat → Bool)
    (h : ∀ y x, y < rows → x < cols → px y x = px' y x) :
    majorityLoops rows cols n px = majorityLoops rows cols n px' := by
  unfold majorityLoops
  by_cases hc : (rows < n || cols < n) = true
  · simp only [hc, if_true]
  · simp only [hc]
    have hr : ¬ rows < n := by intro hh; apply hc; simp [hh]
    have hcl : ¬ cols < n := by intro hh; apply hc; simp [hh]
    apply foldl_congr_mem
    intro res y hy
    apply foldl_congr_mem
    intro res' x hx
    have hy' := List.mem_range.mp hy
    have hx' := List.mem_range.mp hx
    rw [majorityCount_congr n px px' y x]
    intro dy dx hdy hdx
    exact h _ _ (by omega) (by omega)

theorem readAt_eq_toImg_getD {α : Type} (mem : Int → α) (v : View) (p : List Nat) (d : α)
    (hp : inside v.shape (p.map Int.ofNat) = true) :
    readAt mem v p = (toImg mem v).getD (p.map Int.ofNat) d := by
  rw [toImg_getD mem v _ d hp, elemOffset_ofNat]
  rfl

theorem bothAfter_it (fi : FilterIter.FIter) (v : View) (i : Nat) : (bothAfter fi v i).it = (Iter.begin v).incrN i := by
  induction i with
  | zero => rfl
  | succ k ih => simp only [bothAfter, iterateBothV, Iter.incrN, ih]

/-- the two odometers agree: the private position of `Model/FilterIter.lean` is the array iterator's (reversed) position -/
theorem posRev_eq_iter_pos (m : Mode) (v : View) (wf : v.WF) (fshape : List Nat) (fp : Array Bool)
    (hlen : v.shape.length = fshape.length) (ha : v.Pos) (hf : ∀ f ∈ fshape, 1 ≤ f)
    (i : Nat) (hi : i < shapeSize v.shape) :
    (FilterIter.stateAfter (FilterIter.mkFIter m v.shape fshape fp) v.shape i).posRev =
      ((Iter.begin v).incrN i).pos.map Int.ofNat := by
  have h1 := filterIter_position m v.shape fshape fp hlen ha hf i hi
  have h2 := position_eq v wf.len i hi
  simp only [Iter.position] at h2
  rw [← h2] at h1
  have := congrArg List.reverse h1
  simpa [List.map_reverse] using this

theorem bothAfter_cur (m : Mode) (v : View) (wf : v.WF) (fshape : List Nat) (fp : Array Bool)
    (hlen : v.shape.length = fshape.length) (ha : v.Pos) (hf : ∀ f ∈ fshape, 1 ≤ f)
    (i : Nat) (hi : i ≤ shapeSize v.shape) :
    (bothAfter (FilterIter.mkFIter m v.shape fshape fp) v i).cur =
      (FilterIter.stateAfter (FilterIter.mkFIter m v.shape fshape fp) v.shape i).cur := by
  induction i with
  | zero => rfl
  | succ k ih =>
    have hk : k < shapeSize v.shape := by omega
    simp only [bothAfter, iterateBothV, FilterIter.stateAfter, FilterIter.step]
    rw [ih (by omega), bothAfter_it, posRev_eq_iter_pos m v wf fshape fp hlen ha hf k hk, incrN_eq v wf.len k hk]

theorem foldl_pairs {σ ι κ : Type} (f : σ → ι → κ → σ) (l₁ : List ι) (l₂ : List κ) (init : σ) :
    l₁.foldl (fun s y => l₂.foldl (fun s x => f s y x) s) init =
      (l₁.flatMap fun y => l₂.map fun x => (y, x)).foldl (fun s a => f s a.1 a.2) init := by
  rw [List.foldl_flatMap]
  congr
  funext s y
  rw [List.foldl_map]

/-- **pointwise form of `py_majority_filter`**, F15 included (`PyArray_FILLWBYTE` in front of the loops): cell `i` of the
output is `true` iff some visited window `(y, x)` (`y < rows−N`, `x < cols−N`) whose count reaches `N*N/2` has its output
position `(y+N/2)*cols + N/2 + x` equal to `i`; every other cell is `false` (the zero fill) -/
theorem majorityLoops_eq (rows cols n : Nat) (px : Nat → Nat → Bool) :
    majorityLoops rows cols n px = pixelLoop (rows * cols) fun i =>
      (List.range (rows - n)).any fun y => (List.range (cols - n)).any fun x =>
        decide (majorityCount n px y x ≥ n * n / 2) && ((y + n / 2) * cols + n / 2 + x == i) := by
  -- the early return is what the loops do on empty ranges
  have hloops : majorityLoops rows cols n px =
      (List.range (rows - n)).foldl (fun res y =>
        (List.range (cols - n)).foldl (fun res x =>
          if majorityCount n px y x ≥ n * n / 2 then res.setIfInBounds ((y + n / 2) * cols + n / 2 + x) (some true)
          else res) res) (Array.replicate (rows * cols) (some false)) := by
    unfold majorityLoops
    split
    · rename_i h
      rcases Bool.or_eq_true_iff.1 h with h | h
      · rw [Nat.sub_eq_zero_of_le (Nat.le_of_lt (of_decide_eq_true h))]; rfl
      · rw [Nat.sub_eq_zero_of_le (Nat.le_of_lt (of_decide_eq_true h)), List.range_zero]
        exact (foldl_fixed _ _ (fun _ => rfl) _).symm
    · rfl
  rw [hloops, foldl_pairs, foldl_mark (fun a : Nat × Nat => (a.1 + n / 2) * cols + n / 2 + a.2)
    (fun a : Nat × Nat => majorityCount n px a.1 a.2 ≥ n * n / 2)]
  simp only [List.any_flatMap, List.any_map, Function.comp_def]

end Mahotas.C08
