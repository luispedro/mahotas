/-
C16 — the class statistics of a histogram: `n_B(T) = Σ_{i ≤ T} h i`, `s_B(T) = Σ_{i ≤ T} i·h i`, the upper class `n_O`, `s_O`,
the class means `μ_B = s_B / n_B`, `μ_O = s_O / n_O`, and the between-class variance `σ(T) = n_B n_O (μ_B − μ_O)²` of the split
`{0..T} | {T+1..}`. The model keeps them as arrays of running sums; here they are read as sums over the levels, which is how Otsu
and Riddler–Calvard use them.
-/
import Mahotas.Proofs.C16
import Mathlib.Algebra.Order.Field.Rat
import Mathlib.Tactic.Positivity
import Mathlib.Algebra.BigOperators.Intervals
import Mathlib.Algebra.Order.BigOperators.Group.Finset
namespace Mahotas.C16
open Mahotas

/-- `hist[i]` (0 outside) -/
def hOf (hist : List Nat) (i : Nat) : Nat := hist.toArray.getD i 0
/-- `Σ_{i ≤ T} hist[i]` -/
def nBOf (hist : List Nat) (T : Nat) : Nat := (cumsum hist 0).toArray.getD T 0
/-- `Σ_{i ≤ T} i·hist[i]` -/
def sBOf (hist : List Nat) (T : Nat) : Nat := (cumsum (weighted hist) 0).toArray.getD T 0
/-- `Σ_{i > T} hist[i]` -/
def nOOf (hist : List Nat) (T : Nat) : Nat := nBOf hist (hist.length - 1) - nBOf hist T
/-- between-class variance of the split `{0..T} | {T+1..}` -/
def otsuSigma (hist : List Nat) (T : Nat) : Rat :=
  sigmaOf (nBOf hist T) (nOOf hist T) (sBOf hist T) (sBOf hist (hist.length - 1) - sBOf hist T)

/-- `Σ_{i > T} i·hist[i]` -/
def sOOf (hist : List Nat) (T : Nat) : Nat := sBOf hist (hist.length - 1) - sBOf hist T
/-- mean level of the class `{0..T}` -/
def muBOf (hist : List Nat) (T : Nat) : ℚ := (sBOf hist T : ℚ) / (nBOf hist T : ℚ)
/-- mean level of the class `{T+1..}` -/
def muOOf (hist : List Nat) (T : Nat) : ℚ := (sOOf hist T : ℚ) / (nOOf hist T : ℚ)

theorem cumsum_length (l : List Nat) (acc : Nat) : (cumsum l acc).length = l.length := by
  induction l generalizing acc with
  | nil => rfl
  | cons x xs ih => simp [cumsum, ih]

theorem weighted_length (l : List Nat) : (weighted l).length = l.length := by
  simp [weighted]

theorem weighted_getD (l : List Nat) (i : Nat) : (weighted l).getD i 0 = i * l.getD i 0 := by
  unfold weighted
  simp only [List.getD_eq_getElem?_getD, List.getElem?_map, List.getElem?_zipIdx]
  cases h : l[i]? <;> simp

theorem nBOf_eq (hist : List Nat) (T : Nat) : nBOf hist T = (cumsum hist 0).getD T 0 := by
  simp [nBOf]

theorem sBOf_eq (hist : List Nat) (T : Nat) : sBOf hist T = (cumsum (weighted hist) 0).getD T 0 := by
  simp [sBOf]

theorem hOf_eq (hist : List Nat) (T : Nat) : hOf hist T = hist.getD T 0 := by
  simp [hOf]

section sums
open Finset

theorem cumsum_getD_sum (l : List Nat) (acc j : Nat) (hj : j < l.length) :
    (cumsum l acc).getD j 0 = acc + ∑ i ∈ range (j + 1), l.getD i 0 := by
  induction l generalizing acc j with
  | nil => simp at hj
  | cons x xs ih =>
    rw [sum_range_succ']
    cases j with
    | zero => simp [cumsum]
    | succ j =>
      simp only [cumsum, List.getD_cons_succ, List.getD_cons_zero]
      rw [ih (acc + x) j (by simpa using hj)]
      omega

theorem cumsum_sub_sum (l : List Nat) {T : Nat} (hT : T < l.length) :
    (cumsum l 0).getD (l.length - 1) 0 - (cumsum l 0).getD T 0 = ∑ i ∈ Ico (T + 1) l.length, l.getD i 0 := by
  rw [cumsum_getD_sum l 0 _ (by omega), cumsum_getD_sum l 0 _ hT, Nat.zero_add, Nat.zero_add,
    ← sum_range_add_sum_Ico _ (by omega : T + 1 ≤ l.length - 1 + 1), Nat.add_sub_cancel_left,
    Nat.sub_add_cancel (by omega)]

theorem nBOf_sum (hist : List Nat) {T : Nat} (hT : T < hist.length) :
    nBOf hist T = ∑ i ∈ range (T + 1), hOf hist i := by
  rw [nBOf_eq, cumsum_getD_sum _ _ _ hT, Nat.zero_add]
  simp only [hOf_eq]

theorem sBOf_sum (hist : List Nat) {T : Nat} (hT : T < hist.length) :
    sBOf hist T = ∑ i ∈ range (T + 1), i * hOf hist i := by
  rw [sBOf_eq, cumsum_getD_sum _ _ _ (by rwa [weighted_length]), Nat.zero_add]
  simp only [hOf_eq, weighted_getD]

theorem nOOf_sum (hist : List Nat) {T : Nat} (hT : T < hist.length) :
    nOOf hist T = ∑ i ∈ Ico (T + 1) hist.length, hOf hist i := by
  simp only [nOOf, nBOf_eq, hOf_eq]
  exact cumsum_sub_sum hist hT

theorem sOOf_sum (hist : List Nat) {T : Nat} (hT : T < hist.length) :
    sOOf hist T = ∑ i ∈ Ico (T + 1) hist.length, i * hOf hist i := by
  have := cumsum_sub_sum (weighted hist) (by rwa [weighted_length] : T < (weighted hist).length)
  simpa only [sOOf, sBOf_eq, hOf_eq, weighted_length, weighted_getD] using this

theorem nB_succ (hist : List Nat) (T : Nat) (h : T + 1 < hist.length) :
    nBOf hist (T + 1) = nBOf hist T + hOf hist (T + 1) := by
  rw [nBOf_sum hist h, nBOf_sum hist (Nat.lt_of_succ_lt h), sum_range_succ]

theorem sB_succ (hist : List Nat) (T : Nat) (h : T + 1 < hist.length) :
    sBOf hist (T + 1) = sBOf hist T + (T + 1) * hOf hist (T + 1) := by
  rw [sBOf_sum hist h, sBOf_sum hist (Nat.lt_of_succ_lt h), sum_range_succ]

theorem sO_succ (hist : List Nat) (T : Nat) (h : T + 1 < hist.length) :
    sOOf hist T = (T + 1) * hOf hist (T + 1) + sOOf hist (T + 1) := by
  rw [sOOf_sum hist h, sOOf_sum hist (Nat.lt_of_succ_lt h), sum_eq_sum_Ico_succ_bot h]

theorem sB_zero (hist : List Nat) : sBOf hist 0 = 0 := by
  cases hist with
  | nil => simp [sBOf, weighted, cumsum]
  | cons x xs => rw [sBOf_sum _ (Nat.succ_pos _), sum_range_one, Nat.zero_mul]

theorem sO_zero (hist : List Nat) : sOOf hist 0 = sBOf hist (hist.length - 1) := by
  rw [sOOf, sB_zero, Nat.sub_zero]

theorem nB_mono (hist : List Nat) {T T' : Nat} (h : T ≤ T') (h' : T' < hist.length) :
    nBOf hist T ≤ nBOf hist T' := by
  rw [nBOf_sum hist (Nat.lt_of_le_of_lt h h'), nBOf_sum hist h']
  exact sum_le_sum_of_subset (range_mono (Nat.succ_le_succ h))

theorem sB_mono (hist : List Nat) {T T' : Nat} (h : T ≤ T') (h' : T' < hist.length) :
    sBOf hist T ≤ sBOf hist T' := by
  rw [sBOf_sum hist (Nat.lt_of_le_of_lt h h'), sBOf_sum hist h']
  exact sum_le_sum_of_subset (range_mono (Nat.succ_le_succ h))

theorem sB_eq_zero_of_nB (hist : List Nat) {T : Nat} (h' : T < hist.length)
    (h : nBOf hist T = 0) : sBOf hist T = 0 := by
  rw [nBOf_sum hist h', sum_eq_zero_iff] at h
  rw [sBOf_sum hist h']
  exact sum_eq_zero fun i hi => by rw [h i hi, Nat.mul_zero]

theorem sumL_eq_sum (l : List Nat) : sumL l = ∑ i ∈ range l.length, l.getD i 0 := by
  rw [sumL, foldl_add_sum, Nat.zero_add]
  -- a `Finset` sum over `range n` is by definition the list sum over `List.range n`
  exact congrArg List.sum (range_map_getD l 0).symm

theorem sumL_weighted (hist : List Nat) :
    sumL (weighted hist) = sBOf hist (hist.length - 1) := by
  cases hist with
  | nil => simp [sumL, sBOf, weighted, cumsum]
  | cons x xs =>
    rw [sumL_eq_sum, weighted_length, sBOf_sum _ (by simp), List.length_cons,
      Nat.add_sub_cancel]
    simp only [weighted_getD, hOf_eq]

theorem sumL_drop (hist : List Nat) (hn : 2 ≤ hist.length) :
    sumL (hist.drop 1) = nOOf hist 0 := by
  rw [nOOf_sum hist (by omega), sumL_eq_sum, sum_Ico_eq_sum_range, List.length_drop]
  refine sum_congr rfl fun i _ => ?_
  rw [hOf_eq, List.getD_eq_getElem?_getD, List.getElem?_drop, ← List.getD_eq_getElem?_getD, Nat.add_comm]

end sums

theorem sigmaOf_nonneg (a b c d : Nat) : 0 ≤ sigmaOf a b c d := by
  unfold sigmaOf
  split_ifs
  · exact le_refl 0
  · have : (0 : ℚ) ≤ (a : ℚ) * (b : ℚ) := by positivity
    rw [mul_assoc]
    exact mul_nonneg this (mul_self_nonneg _)

theorem otsuSigma_nonneg (hist : List Nat) (T : Nat) : 0 ≤ otsuSigma hist T :=
  sigmaOf_nonneg _ _ _ _

theorem otsuSigma_of_empty {hist : List Nat} {T : Nat} (h : nBOf hist T = 0 ∨ nOOf hist T = 0) :
    otsuSigma hist T = 0 :=
  if_pos h

theorem nO_zero_mono (hist : List Nat) {T T' : Nat} (h : T ≤ T') (h' : T' < hist.length)
    (h0 : nOOf hist T = 0) : nOOf hist T' = 0 := by
  unfold nOOf at h0 ⊢
  have := nB_mono hist h h'
  omega

theorem nB_le_total (hist : List Nat) {T : Nat} (h : T < hist.length) :
    nBOf hist T ≤ nBOf hist (hist.length - 1) :=
  nB_mono hist (by omega) (by omega)

theorem sB_le_total (hist : List Nat) {T : Nat} (h : T < hist.length) :
    sBOf hist T ≤ sBOf hist (hist.length - 1) :=
  sB_mono hist (by omega) (by omega)

theorem nB_add_nO (hist : List Nat) {T : Nat} (h : T < hist.length) :
    nBOf hist T + nOOf hist T = nBOf hist (hist.length - 1) :=
  Nat.add_sub_cancel' (nB_le_total hist h)

theorem nO_le_total (hist : List Nat) (T : Nat) : nOOf hist T ≤ nBOf hist (hist.length - 1) :=
  Nat.sub_le _ _

theorem sO_le_total (hist : List Nat) (T : Nat) : sOOf hist T ≤ sBOf hist (hist.length - 1) :=
  Nat.sub_le _ _

/-- the loop `continue`s: no pixel up to level `t + 1`, so no sum has moved -/
theorem empty_lower (hist : List Nat) {t : Nat} (ht : t + 1 < hist.length) (h1 : nBOf hist (t + 1) = 0) :
    nBOf hist t = 0 ∧ sBOf hist t = 0 ∧ sBOf hist (t + 1) = 0 ∧ nOOf hist (t + 1) = nOOf hist t ∧
      sOOf hist (t + 1) = sOOf hist t := by
  have h0 : nBOf hist t = 0 := Nat.le_zero.1 (h1 ▸ nB_mono hist (Nat.le_succ t) ht)
  have s0 := sB_eq_zero_of_nB hist (by omega) h0
  have s1 := sB_eq_zero_of_nB hist ht h1
  refine ⟨h0, s0, s1, ?_, ?_⟩
  · rw [nOOf, nOOf, h1, h0]
  · rw [sOOf, sOOf, s1, s0]

theorem otsuSigma_eq {hist : List Nat} {T : Nat} (h1 : nBOf hist T ≠ 0) (h2 : nOOf hist T ≠ 0) :
    otsuSigma hist T =
      (nBOf hist T : ℚ) * (nOOf hist T : ℚ) * (muBOf hist T - muOOf hist T) * (muBOf hist T - muOOf hist T) :=
  if_neg (not_or.2 ⟨h1, h2⟩)

/-- the value `s` computed in the loop body is `σ(T)` once the running means are the class means -/
theorem sigma_step {hist : List Nat} {T : Nat} {mB mO : ℚ} (h1 : nBOf hist T ≠ 0) (h2 : nOOf hist T ≠ 0)
    (hB : mB * (nBOf hist T : ℚ) = (sBOf hist T : ℚ)) (hO : mO * (nOOf hist T : ℚ) = (sOOf hist T : ℚ)) :
    (nBOf hist T : ℚ) * (nOOf hist T : ℚ) * (mB - mO) * (mB - mO) = otsuSigma hist T := by
  rw [otsuSigma_eq h1 h2, muBOf, muOOf, eq_div_of_mul_eq (Nat.cast_ne_zero.2 h1) hB,
    eq_div_of_mul_eq (Nat.cast_ne_zero.2 h2) hO]

end Mahotas.C16
