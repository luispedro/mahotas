/-
What the morphology kernels add to `Proofs/Index.lean`: offsets between 0 and an offset and what clamping does to a
neighbour (`clamp_between`), the entries of `support`, cells of flat arrays and loops of stores into them.
-/
import Mahotas.Model.C01
import Mahotas.Proofs.Border
import Mahotas.Proofs.ListLemmas
namespace Mahotas.C01
open Mahotas

/-! ### offsets between 0 and an offset; what clamping does to a neighbour -/

theorem between_cons (a : Int) (as : List Int) (b : Int) (bs : List Int) :
    between (a :: as) (b :: bs) = true ↔
      ((0 ≤ a ∧ a ≤ b) ∨ (b ≤ a ∧ a ≤ 0)) ∧ between as bs = true := by
  simp [between]

theorem between_length (k' k : List Int) (h : between k' k = true) : k'.length = k.length := by
  induction k' generalizing k with
  | nil => cases k <;> simp_all [between]
  | cons a as ih =>
    cases k with
    | nil => simp [between] at h
    | cons b bs =>
      rw [between_cons] at h
      simp [ih bs h.2]

theorem between_negPos (k' k : List Int) (h : between k' (negPos k) = true) : between (negPos k') k = true := by
  induction k' generalizing k with
  | nil => cases k <;> simp_all [between, negPos]
  | cons a as ih =>
    cases k with
    | nil => simp [between, negPos] at h
    | cons b bs =>
      simp only [negPos, List.map_cons, between_cons] at h ⊢
      exact ⟨by omega, ih bs h.2⟩

/-- one coordinate: clamping `x + a` moves `x` by an amount between `0` and `a`, and ends inside -/
theorem clampSpec_between (x a : Int) (d : Nat) (h0 : 0 ≤ x) (hd : x < d) :
    ((0 ≤ clampSpec (x + a) d - x ∧ clampSpec (x + a) d - x ≤ a) ∨
      (a ≤ clampSpec (x + a) d - x ∧ clampSpec (x + a) d - x ≤ 0)) ∧
    0 ≤ x + (clampSpec (x + a) d - x) ∧ x + (clampSpec (x + a) d - x) < d ∧
    clampSpec (x + a) d = x + (clampSpec (x + a) d - x) := by
  unfold clampSpec
  omega

/-- a clamped neighbour `clamp(p + k)` of an inside pixel is `p + k'` for an offset `k'`
    between `0` and `k` (coordinate-wise), and lies inside the image -/
theorem clamp_between (shape : List Nat) (p k : List Int) (hp : inside shape p = true)
    (hl : k.length = p.length) :
    ∃ k', between k' k = true ∧ clampPos shape (addPos p k) = addPos p k' ∧
      inside shape (addPos p k') = true := by
  induction shape generalizing p k with
  | nil =>
    obtain rfl : p = [] := by cases p <;> simp_all [inside]
    obtain rfl := List.length_eq_zero_iff.mp hl
    exact ⟨[], rfl, rfl, rfl⟩
  | cons d ds ih =>
    obtain _ | ⟨x, xs⟩ := p
    · simp [inside] at hp
    obtain _ | ⟨a, as⟩ := k
    · cases hl
    rw [inside_cons] at hp
    obtain ⟨k'', hb, hc, hi⟩ := ih xs as hp.2 (Nat.succ.inj hl)
    obtain ⟨h1, h2, h3, h4⟩ := clampSpec_between x a d hp.1.1 hp.1.2
    refine ⟨(clampSpec (x + a) d - x) :: k'', ?_, ?_, (inside_cons _ _ _ _).mpr ⟨⟨h2, h3⟩, hi⟩⟩
    · simpa only [between, hb, Bool.and_true, Bool.or_eq_true, Bool.and_eq_true, decide_eq_true_eq] using h1
    · rw [addPos, clampPos, hc, addPos, ← h4]

/-! ### the support of a structuring element -/

/-- the entries of `support`: one per cell of the element box, zero entries dropped under `compress` -/
theorem mem_support (S : List Nat) (bc : Array Int) (c : Bool) (kh : List Int × Int) :
    kh ∈ support S bc c ↔ ∃ i, i < shapeSize S ∧ (c = true → bc.getD i 0 ≠ 0) ∧
      kh = (subPos (unravelI S i) (centreOf S), bc.getD i 0) := by
  unfold support
  rw [filterMap_ite _ (fun i => c && bc.getD i 0 == 0)]
  simp only [List.mem_map, List.mem_filter, List.mem_range, and_assoc]
  exact exists_congr fun i => and_congr_right fun _ => and_congr (by cases c <;> simp) eq_comm

theorem isMember_support_true (S : List Nat) (bc : Array Int) (kh : List Int × Int)
    (h : kh ∈ support S bc true) : isMember dtBool kh = true := by
  obtain ⟨i, _, hne, rfl⟩ := (mem_support S bc true kh).mp h
  simp only [isMember, dtBool, if_true]
  exact decide_eq_true (hne rfl)

theorem support_ones (S : List Nat) (bc : Array Int) (h01 : ∀ i, bc.getD i 0 = 0 ∨ bc.getD i 0 = 1) :
    ∀ kh ∈ support S bc true, kh.2 = 1 := by
  intro kh hkh
  obtain ⟨i, _, hne, rfl⟩ := (mem_support S bc true kh).mp hkh
  exact (h01 i).resolve_left (hne rfl)

/-- the compressed support (what bool images see, and the members for unsigned dtypes) is either support without
    its zero entries -/
theorem mem_support_true_iff (S : List Nat) (bc : Array Int) (c : Bool) (kh : List Int × Int) :
    kh ∈ support S bc true ↔ kh ∈ support S bc c ∧ kh.2 ≠ 0 := by
  constructor
  · intro h
    obtain ⟨i, hi, hne, rfl⟩ := (mem_support S bc true kh).mp h
    exact ⟨(mem_support S bc c _).mpr ⟨i, hi, fun _ => hne rfl, rfl⟩, hne rfl⟩
  · rintro ⟨h, hne⟩
    obtain ⟨i, hi, _, rfl⟩ := (mem_support S bc c kh).mp h
    exact (mem_support S bc true _).mpr ⟨i, hi, fun _ => hne, rfl⟩

/-! ### cells of a flat array -/

theorem setIfInBounds_getD_self (out : Array Int) (j : Nat) (d : Int) :
    out.setIfInBounds j (out.getD j d) = out := by
  apply Array.ext_getElem?
  intro i
  rw [Array.getElem?_setIfInBounds]
  split
  · next e =>
    subst e
    split
    · next h => exact (Array.getElem?_eq_getElem h).symm
    · next h => rw [Array.getElem?_eq_none (by omega)]
  · rfl

/-! read-modify-write stores `out[w.1] = g out[w.1] w.2` applied in order -/

theorem foldl_storePair_size (g : Int → Int → Int) (d : Int) (ws : List (Nat × Int)) (o : Array Int) :
    (ws.foldl (fun o w => o.setIfInBounds w.1 (g (o.getD w.1 d) w.2)) o).size = o.size :=
  foldl_store_size (·.1) (fun w v => g v w.2) d ws o

/-- the stores leave in cell `i` the fold of `g` over the values stored to `i` -/
theorem foldl_storePair_getD (g : Int → Int → Int) (d : Int) (ws : List (Nat × Int)) (o : Array Int) (i : Nat)
    (hi : i < o.size) :
    (ws.foldl (fun o w => o.setIfInBounds w.1 (g (o.getD w.1 d) w.2)) o).getD i d =
      ((ws.filter (·.1 == i)).map (·.2)).foldl g (o.getD i d) := by
  rw [Array.getD_eq_getD_getElem?, foldl_store_getElem? (·.1) (fun w v => g v w.2) d i ws o,
    Array.getD_eq_getD_getElem?, Array.getElem?_eq_getElem hi, List.foldl_map]
  rfl

theorem array_eq_of_cells (a b : Array Int) (n : Nat) (ha : a.size = n) (hb : b.size = n)
    (h : ∀ i, i < n → a.getD i 0 = b.getD i 0) : a = b :=
  array_ext_getD 0 a b (ha.trans hb.symm) fun i hi => h i (ha ▸ hi)

end Mahotas.C01
