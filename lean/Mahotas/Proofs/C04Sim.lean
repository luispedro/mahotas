/-
C04 — the transliterated kernel (`modelRun`: flat deltas, margins, statuses) simulates the specification flooding over
coordinates (`specRun`) step for step. `Rel` relates the two states; `visit_rel` matches what one neighbour visit can do
on either side (`specVisit_cases` / `modelVisit_cases`, C04Run) case by case; the marker scan establishes `Rel`
(`init_rel`) and the run keeps it (`run_rel`, hence `cwatershed_rel`).
-/
import Mahotas.Proofs.C04Run
import Mahotas.Proofs.ListLemmas
import Mathlib.Data.List.Nodup

namespace Mahotas.C04
open Mahotas

theorem getD_set {α : Type} (a : Array α) (i j : Nat) (v d : α) (h : i < a.size) :
    (a.setIfInBounds i v).getD j d = if i = j then v else a.getD j d := by
  simp only [getD_setIfInBounds, h, and_true]

theorem nodup_map_push {α β : Type} (f : α → β) {l : List α} {a : α} (hl : (l.map f).Nodup)
    (ha : ∀ x ∈ l, f x ≠ f a) : ((l ++ [a]).map f).Nodup := by
  rw [List.map_append, List.map_singleton, ← List.concat_eq_append]
  exact hl.concat fun h => by obtain ⟨x, hx, e⟩ := List.mem_map.mp h; exact ha x hx e

def toS (s : List Nat) (m : QE) : SQE := ⟨m.cost, m.idx, unravelI s m.pos⟩

/-- the kernel state and the specification state describe the same flooding: same labels, lines, counter and queue
    (positions unravelled), and the kernel's bookkeeping is consistent: buffers of the image's size, queued = grey,
    white = unlabelled, a stored margin is a lower bound of the true one, one queue entry per pixel and per index -/
structure Rel (s : List Nat) (ms : MSt) (ss : SSt) : Prop where
  lshape : ss.label.shape = s
  ldata : ss.label.data = ms.res
  rsize : ms.res.size = shapeSize s
  nshape : ss.lines.shape = s
  ndata : ss.lines.data = ms.lines
  idx : ss.idx = ms.idx
  queue : ss.queue = ms.queue.map (toS s)
  qpos : ∀ m ∈ ms.queue, m.pos < shapeSize s ∧ m.margin ≤ marginOf s (unravelI s m.pos) ∧ m.idx < ms.idx
  qidx : (ms.queue.map QE.idx).Nodup
  qposu : (ms.queue.map QE.pos).Nodup
  ssize : ms.status.size = shapeSize s
  white : ∀ i < shapeSize s, (ms.status.getD i 0 = 0 ↔ ms.res.getD i 0 = 0)
  grey : ∀ i < shapeSize s, (ms.status.getD i 0 = 1 ↔ ∃ m ∈ ms.queue, m.pos = i)

theorem Rel.label_get {s : List Nat} {ms : MSt} {ss : SSt} (h : Rel s ms ss) (q : List Int)
    (hq : inside s q = true) : ss.label.getD q 0 = ms.res.getD (ravelI s q) 0 := by
  unfold Img.getD
  rw [h.lshape, hq, h.ldata]; rfl

theorem Rel.queued_iff {s : List Nat} {ms : MSt} {ss : SSt} (h : Rel s ms ss) (q : List Int)
    (hq : inside s q = true) :
    ss.queue.any (fun e => e.pos == q) = true ↔ ∃ m ∈ ms.queue, m.pos = ravelI s q := by
  rw [h.queue, List.any_map, List.any_eq_true]
  constructor
  · rintro ⟨m, hm, hmq⟩
    refine ⟨m, hm, ?_⟩
    have : unravelI s m.pos = q := by simpa [toS] using hmq
    rw [← this, C01.ravelI_unravelI s m.pos (h.qpos m hm).1]
  · rintro ⟨m, hm, hmq⟩
    refine ⟨m, hm, ?_⟩
    simp only [Function.comp, toS, beq_iff_eq]
    rw [hmq, C01.unravelI_ravelI s q hq]

theorem imgSet_shape {α : Type} (im : Img α) (p : List Int) (v : α) : (imgSet im p v).shape = im.shape := by
  unfold imgSet; split_ifs <;> rfl

theorem imgSet_data {α : Type} (im : Img α) (p : List Int) (v : α) (h : inside im.shape p = true) :
    (imgSet im p v).data = im.data.setIfInBounds (ravelI im.shape p) v := by
  unfold imgSet; rw [if_pos h]

theorem imgSet_size {α : Type} (im : Img α) (p : List Int) (v : α) :
    (imgSet im p v).data.size = im.data.size := by
  unfold imgSet; split_ifs
  · exact Array.size_setIfInBounds
  · rfl

theorem imgSet_getD {α : Type} (im : Img α) (hsz : im.data.size = shapeSize im.shape) (q : List Int) (v d : α)
    (hq : inside im.shape q = true) (r : List Int) :
    (imgSet im q v).getD r d = if r = q then v else im.getD r d := by
  unfold Img.getD
  rw [imgSet_shape, imgSet_data _ _ _ hq]
  by_cases h : r = q
  · rw [if_pos h, h, if_pos hq]
    exact getD_setIfInBounds_self _ _ _ _ (hsz ▸ C01.ravelI_lt _ _ hq)
  · rw [if_neg h]
    split
    · exact getD_setIfInBounds_ne _ _ _ _ _ fun he => h (C01.ravelI_inj _ _ _ ‹_› hq he.symm)
    · rfl

theorem npos_eq (s : List Nat) (i : Nat) (o : List Int) (hi : i < shapeSize s)
    (hq : inside s (addPos (unravelI s i) o) = true) :
    ((i : Int) + posToFlat s o).toNat = ravelI s (addPos (unravelI s i) o) := by
  have h := ravelI_addPos s (unravelI s i) o (C01.inside_unravelI s i hi) hq
  rw [C01.ravelI_unravelI s i hi] at h
  rw [← h]; exact Int.toNat_natCast _

/-- the white case: the neighbour receives the label and is queued -/
theorem rel_push (s : List Nat) (ms : MSt) (ss : SSt) (hrel : Rel s ms ss) (q : List Int)
    (hin : inside s q = true) (h0 : ms.status.getD (ravelI s q) 0 = 0) (c v nm : Int) (hv : v ≠ 0)
    (hnm : nm ≤ marginOf s q) :
    Rel s { ms with queue := ms.queue ++ [⟨c, ms.idx, ravelI s q, nm⟩], idx := ms.idx + 1,
                    res := ms.res.setIfInBounds (ravelI s q) v,
                    status := ms.status.setIfInBounds (ravelI s q) 1 }
          { ss with queue := ss.queue ++ [⟨c, ss.idx, q⟩], idx := ss.idx + 1,
                    label := imgSet ss.label q v } := by
  have hnpN : ravelI s q < shapeSize s := C01.ravelI_lt s q hin
  have hS : ravelI s q < ms.status.size := hrel.ssize ▸ hnpN
  have hR : ravelI s q < ms.res.size := hrel.rsize ▸ hnpN
  -- a white pixel is not in the queue
  have hnq : ∀ m ∈ ms.queue, m.pos ≠ ravelI s q := fun m hm h =>
    absurd (h0.symm.trans ((hrel.grey _ hnpN).2 ⟨m, hm, h⟩)) Nat.zero_ne_one
  constructor
  · exact (imgSet_shape _ _ _).trans hrel.lshape
  · dsimp only
    rw [imgSet_data _ _ _ (hrel.lshape.symm ▸ hin), hrel.lshape, hrel.ldata]
  · dsimp only; rw [Array.size_setIfInBounds]; exact hrel.rsize
  · exact hrel.nshape
  · exact hrel.ndata
  · exact congrArg (· + 1) hrel.idx
  · dsimp only
    rw [List.map_append, hrel.queue, hrel.idx, List.map_singleton, toS, C01.unravelI_ravelI s q hin]
  · intro m hm
    rcases List.mem_append.mp hm with hm | hm
    · exact (hrel.qpos m hm).imp_right (And.imp_right Nat.lt_succ_of_lt)
    · rw [List.mem_singleton.mp hm]
      exact ⟨hnpN, (C01.unravelI_ravelI s q hin).symm ▸ hnm, Nat.lt_succ_self _⟩
  · exact nodup_map_push _ hrel.qidx fun m hm => Nat.ne_of_lt (hrel.qpos m hm).2.2
  · exact nodup_map_push _ hrel.qposu hnq
  · dsimp only; rw [Array.size_setIfInBounds]; exact hrel.ssize
  · intro i hi
    dsimp only
    rw [getD_set _ _ _ _ _ hS, getD_set _ _ _ _ _ hR]
    by_cases e : ravelI s q = i
    · rw [if_pos e, if_pos e]; exact iff_of_false Nat.one_ne_zero hv
    · rw [if_neg e, if_neg e]; exact hrel.white i hi
  · intro i hi
    dsimp only
    rw [getD_set _ _ _ _ _ hS, exists_mem_append]
    by_cases e : ravelI s q = i
    · rw [if_pos e]; exact iff_of_true rfl (Or.inr ⟨_, List.mem_singleton_self _, e⟩)
    · rw [if_neg e, hrel.grey i hi]
      exact ⟨Or.inl, fun h => h.elim id fun ⟨m, hm, hmi⟩ => absurd (by rw [← hmi, List.mem_singleton.mp hm]) e⟩

/-- the grey case: only `lines` changes -/
theorem rel_line (s : List Nat) (ms : MSt) (ss : SSt) (hrel : Rel s ms ss) (q : List Int)
    (hin : inside s q = true) :
    Rel s { ms with lines := ms.lines.setIfInBounds (ravelI s q) true }
          { ss with lines := imgSet ss.lines q true } := by
  have hin' : inside ss.lines.shape q = true := by rw [hrel.nshape]; exact hin
  exact { hrel with
    nshape := by simp only [imgSet_shape]; exact hrel.nshape
    ndata := by simp only; rw [imgSet_data _ _ _ hin', hrel.nshape, hrel.ndata] }

/-- one neighbour visit of the kernel = one neighbour visit of the specification -/
theorem visit_rel (surf : Img Int) (e : QE) (ms : MSt) (ss : SSt) (margin : Int) (o : List Int)
    (he : e.pos < shapeSize surf.shape) (hrel : Rel surf.shape ms ss)
    (hmar : margin ≤ marginOf surf.shape (unravelI surf.shape e.pos))
    (hres : ms.res.getD e.pos 0 ≠ 0) (ho : o.length = surf.shape.length) :
    Rel surf.shape (modelVisit surf e (ms, margin) ⟨posToFlat surf.shape o, chebStep o, o⟩).1
        (specVisit surf (unravelI surf.shape e.pos) ss o) ∧
    (modelVisit surf e (ms, margin) ⟨posToFlat surf.shape o, chebStep o, o⟩).2
        ≤ marginOf surf.shape (unravelI surf.shape e.pos) ∧
    (modelVisit surf e (ms, margin) ⟨posToFlat surf.shape o, chebStep o, o⟩).1.res.getD e.pos 0 ≠ 0 := by
  have hsound := nbCheck_sound surf.shape e.pos margin o (posToFlat surf.shape o) ho hmar
  cases hc : nbCheck surf.shape e.pos margin ⟨posToFlat surf.shape o, chebStep o, o⟩ with
  | none =>
    rw [hc] at hsound
    rw [modelVisit_none surf e ms margin _ hc, specVisit_out surf _ ss o hsound]
    exact ⟨hrel, hmar, hres⟩
  | some r =>
    obtain ⟨nm, m'⟩ := r
    rw [hc] at hsound
    obtain ⟨hin, hnm, _, hm'⟩ := hsound
    have hnp : nposOf e ⟨posToFlat surf.shape o, chebStep o, o⟩ =
        ravelI surf.shape (addPos (unravelI surf.shape e.pos) o) := npos_eq surf.shape e.pos o he hin
    have hnpN := C01.ravelI_lt _ _ hin
    have hp_in := C01.inside_unravelI surf.shape e.pos he
    have hp_rav := C01.ravelI_unravelI surf.shape e.pos he
    have hlp : ss.label.getD (unravelI surf.shape e.pos) 0 = ms.res.getD e.pos 0 := by
      rw [hrel.label_get _ hp_in, hp_rav]
    have hlq := hrel.label_get _ hin
    refine modelVisit_cases surf e ms margin _ nm m' hc (fun r =>
      Rel surf.shape r.1 (specVisit surf (unravelI surf.shape e.pos) ss o) ∧
        r.2 ≤ marginOf surf.shape (unravelI surf.shape e.pos) ∧ r.1.res.getD e.pos 0 ≠ 0) ?_ ?_ ?_ <;>
      rw [hnp] <;> dsimp only
    · intro h0
      have hr0 := (hrel.white _ hnpN).1 h0
      rw [specVisit_push surf _ ss o hin (hlq.trans hr0), hlp, Img.getD_inside surf _ 0 hin]
      refine ⟨rel_push surf.shape ms ss hrel _ hin h0 _ _ nm hres hnm, hm', ?_⟩
      rw [getD_setIfInBounds_ne _ _ _ _ _ fun h => hres (by rw [← h]; exact hr0)]
      exact hres
    · intro h1 hd
      rw [specVisit_line surf _ ss o hin (fun h => absurd ((hrel.white _ hnpN).2 (hlq.symm.trans h)) (by omega))
        ((hrel.queued_iff _ hin).2 ((hrel.grey _ hnpN).1 h1)) (by rw [hlp, hlq]; exact hd)]
      exact ⟨rel_line surf.shape ms ss hrel _ hin, hm', hres⟩
    · intro h0 h
      rw [specVisit_same surf _ ss o hin (fun hz => h0 ((hrel.white _ hnpN).2 (hlq.symm.trans hz))) fun hq => by
        rw [hlp, hlq]; exact h ((hrel.grey _ hnpN).2 ((hrel.queued_iff _ hin).1 hq))]
      exact ⟨hrel, hm', hres⟩

/-- an offset whose flat delta is zero (skipped by the kernel) changes nothing in the specification:
    it is the centre or leads outside the image -/
theorem spec_skip (surf : Img Int) (i : Nat) (ms : MSt) (ss : SSt) (o : List Int)
    (hi : i < shapeSize surf.shape) (hrel : Rel surf.shape ms ss) (hres : ms.res.getD i 0 ≠ 0)
    (hd : posToFlat surf.shape o = 0) :
    specVisit surf (unravelI surf.shape i) ss o = ss := by
  cases hin : inside surf.shape (addPos (unravelI surf.shape i) o)
  · exact specVisit_out surf _ ss o hin
  · have hp_in := C01.inside_unravelI surf.shape i hi
    have hp_rav := C01.ravelI_unravelI surf.shape i hi
    have hlp : ss.label.getD (unravelI surf.shape i) 0 ≠ 0 := by rw [hrel.label_get _ hp_in, hp_rav]; exact hres
    have hsame := zero_delta_same surf.shape _ o hp_in hin hd
    exact specVisit_same surf _ ss o hin (by rw [hsame]; exact hlp) fun _ => by rw [hsame]

theorem fold_rel (surf : Img Int) (e : QE) (offs : List (List Int))
    (he : e.pos < shapeSize surf.shape) (hoffs : ∀ o ∈ offs, o.length = surf.shape.length)
    (ms : MSt) (ss : SSt) (margin : Int) (hrel : Rel surf.shape ms ss)
    (hmar : margin ≤ marginOf surf.shape (unravelI surf.shape e.pos)) (hres : ms.res.getD e.pos 0 ≠ 0) :
    Rel surf.shape ((neighbours surf.shape offs).foldl (modelVisit surf e) (ms, margin)).1
      (offs.foldl (specVisit surf (unravelI surf.shape e.pos)) ss) := by
  -- the kernel's fold over the table is the fold over the offsets that skips those with a zero delta
  unfold neighbours
  rw [List.foldl_filterMap]
  refine (foldl_rel_mem (fun a t => Rel surf.shape a.1 t ∧ a.2 ≤ marginOf surf.shape (unravelI surf.shape e.pos) ∧
    a.1.res.getD e.pos 0 ≠ 0) _ _ offs (fun a t o ho h => ?_) (ms, margin) ss ⟨hrel, hmar, hres⟩).1
  unfold nbOf
  dsimp only
  by_cases hd : posToFlat surf.shape o = 0
  · rw [if_pos (beq_iff_eq.mpr hd), spec_skip surf e.pos a.1 t o he h.1 h.2.2 hd]
    exact h
  · rw [if_neg (mt beq_iff_eq.mp hd)]
    exact visit_rel surf e a.1 t a.2 o he h.1 h.2.1 h.2.2 (hoffs o ho)

theorem rel_pop (s : List Nat) (ms : MSt) (ss : SSt) (hrel : Rel s ms ss) (e : QE) (he : e ∈ ms.queue) :
    Rel s { ms with queue := ms.queue.filter (fun m => (QE.key m).2 != (QE.key e).2),
                    status := ms.status.setIfInBounds e.pos 2 }
          { ss with queue := (ms.queue.filter (fun m => (QE.key m).2 != (QE.key e).2)).map (toS s) } ∧
    ms.res.getD e.pos 0 ≠ 0 := by
  obtain ⟨heN, _, _⟩ := hrel.qpos e he
  have hS : e.pos < ms.status.size := hrel.ssize ▸ heN
  -- a queued pixel is grey, hence not white, hence labelled
  have hres : ms.res.getD e.pos 0 ≠ 0 := fun h =>
    absurd (((hrel.white _ heN).2 h).symm.trans ((hrel.grey _ heN).2 ⟨e, he, rfl⟩)) Nat.zero_ne_one
  have hsub : (ms.queue.filter (fun m => (QE.key m).2 != (QE.key e).2)).Sublist ms.queue :=
    List.filter_sublist
  have hmem : ∀ m, m ∈ ms.queue.filter (fun m => (QE.key m).2 != (QE.key e).2) ↔ m ∈ ms.queue ∧ m.idx ≠ e.idx := by
    intro m; simp [List.mem_filter, QE.key]
  refine ⟨{ hrel with
    queue := rfl
    qpos := fun m hm => hrel.qpos m ((hmem m).1 hm).1
    qidx := hrel.qidx.sublist (hsub.map _)
    qposu := hrel.qposu.sublist (hsub.map _)
    ssize := Array.size_setIfInBounds.trans hrel.ssize
    white := fun i hi => ?_
    grey := fun i hi => ?_ }, hres⟩
  · dsimp only
    rw [getD_set _ _ _ _ _ hS]
    by_cases hii : e.pos = i
    · rw [if_pos hii]; exact iff_of_false (Nat.succ_ne_zero 1) (hii ▸ hres)
    · rw [if_neg hii]; exact hrel.white i hi
  · dsimp only
    rw [getD_set _ _ _ _ _ hS]
    by_cases hii : e.pos = i
    · -- the popped entry was the only one at its pixel
      rw [if_pos hii]
      refine iff_of_false (Nat.succ_ne_succ_iff.mpr Nat.one_ne_zero) ?_
      rintro ⟨m, hm, hmp⟩
      obtain ⟨hmq, hne⟩ := (hmem m).1 hm
      exact hne (congrArg QE.idx (List.inj_on_of_nodup_map hrel.qposu hmq he (hmp.trans hii.symm)))
    · rw [if_neg hii, hrel.grey i hi]
      constructor
      · rintro ⟨m, hm, hmp⟩
        exact ⟨m, (hmem m).2 ⟨hm, fun hidx => hii (List.inj_on_of_nodup_map hrel.qidx hm he hidx ▸ hmp)⟩, hmp⟩
      · rintro ⟨m, hm, hmp⟩
        exact ⟨m, ((hmem m).1 hm).1, hmp⟩

theorem mem_neighbours {s : List Nat} {offs : List (List Int)} {nb : Nb} (h : nb ∈ neighbours s offs) :
    ∃ o ∈ offs, nb = ⟨posToFlat s o, chebStep o, o⟩ := by
  obtain ⟨o, ho, hn⟩ := List.mem_filterMap.mp h
  unfold nbOf at hn
  dsimp only at hn
  split at hn
  · cases hn
  · exact ⟨o, ho, (Option.some.inj hn).symm⟩

/-- while the popped entry `e` is being finalised: the kernel state is related to some state of the
    specification, the running margin is a lower bound for the pixel of `e`, and that pixel is labelled -/
def VInv (s : List Nat) (e : QE) (acc : MSt × Int) : Prop :=
  (∃ ss, Rel s acc.1 ss) ∧ acc.2 ≤ marginOf s (unravelI s e.pos) ∧ acc.1.res.getD e.pos 0 ≠ 0

theorem pop_vinv {s : List Nat} {ms : MSt} {ss : SSt} (hrel : Rel s ms ss) {e : QE} (he : e ∈ ms.queue) :
    VInv s e ({ ms with queue := ms.queue.filter (fun m => (QE.key m).2 != (QE.key e).2),
                        status := ms.status.setIfInBounds e.pos 2 }, e.margin) :=
  ⟨⟨_, (rel_pop s ms ss hrel e he).1⟩, (hrel.qpos e he).2.1, (rel_pop s ms ss hrel e he).2⟩

/-- the pixel being finalised is labelled, hence a pixel of the image -/
theorem VInv.pos_lt {s : List Nat} {e : QE} {acc : MSt × Int} (h : VInv s e acc) : e.pos < shapeSize s :=
  h.1.elim fun _ hrel => hrel.rsize ▸ lt_size_of_getD_ne _ _ 0 h.2.2

theorem visit_vinv (surf : Img Int) (e : QE) (offs : List (List Int))
    (hoffs : ∀ o ∈ offs, o.length = surf.shape.length) {acc : MSt × Int} {nb : Nb}
    (hnb : nb ∈ neighbours surf.shape offs) (h : VInv surf.shape e acc) :
    VInv surf.shape e (modelVisit surf e acc nb) := by
  obtain ⟨o, ho, rfl⟩ := mem_neighbours hnb
  have he := h.pos_lt
  obtain ⟨⟨ss, hrel⟩, hmar, hres⟩ := h
  obtain ⟨h1, h2, h3⟩ := visit_rel surf e acc.1 ss acc.2 o he hrel hmar hres (hoffs o ho)
  exact ⟨⟨_, h1⟩, h2, h3⟩

/-- one iteration of the `while (!hqueue.empty())` loop -/
theorem step_rel (surf : Img Int) (offs : List (List Int)) (ms : MSt) (ss : SSt)
    (hoffs : ∀ o ∈ offs, o.length = surf.shape.length) (hrel : Rel surf.shape ms ss) :
    (modelStep surf (neighbours surf.shape offs) ms = none ∧ specStep surf offs ss = none) ∨
    ∃ ms' ss', modelStep surf (neighbours surf.shape offs) ms = some ms' ∧ specStep surf offs ss = some ss' ∧
      Rel surf.shape ms' ss' := by
  unfold modelStep specStep
  rw [hrel.queue, extractMin_map_on (toS surf.shape) QE.key SQE.key ms.queue (fun _ _ _ _ => rfl) fun _ => rfl]
  cases hx : extractMin QE.key ms.queue with
  | none => left; exact ⟨rfl, rfl⟩
  | some er =>
    obtain ⟨e, rest⟩ := er
    right
    obtain ⟨hmem, hrest⟩ := extractMin_some QE.key ms.queue e rest hx
    subst hrest
    obtain ⟨hpop, hres⟩ := rel_pop surf.shape ms ss hrel e hmem
    obtain ⟨heN, hmar, _⟩ := hrel.qpos e hmem
    refine ⟨_, _, rfl, rfl, ?_⟩
    exact fold_rel surf e offs heN hoffs _ _ e.margin hpop hmar hres

theorem run_rel (surf : Img Int) (offs : List (List Int))
    (hoffs : ∀ o ∈ offs, o.length = surf.shape.length) (n : Nat) :
    ∀ (ms : MSt) (ss : SSt), Rel surf.shape ms ss →
      Rel surf.shape (modelRun surf (neighbours surf.shape offs) n ms) (specRun surf offs n ss) := by
  induction n with
  | zero => intro ms ss h; exact h
  | succ n ih =>
    intro ms ss h
    simp only [modelRun, specRun]
    rcases step_rel surf offs ms ss hoffs h with ⟨h1, h2⟩ | ⟨ms', ss', h1, h2, h3⟩
    · rw [h1, h2]; exact h
    · rw [h1, h2]; exact ih ms' ss' h3

def initM (surf : Img Int) : MSt :=
  { queue := [], idx := 0, status := Array.replicate (shapeSize surf.shape) 0,
    res := Array.replicate (shapeSize surf.shape) 0, lines := Array.replicate (shapeSize surf.shape) false }

def initS (surf : Img Int) : SSt :=
  { queue := [], idx := 0,
    label := ⟨surf.shape, Array.replicate (shapeSize surf.shape) 0⟩,
    lines := ⟨surf.shape, Array.replicate (shapeSize surf.shape) false⟩ }

def stepM (surf markers : Img Int) (st : MSt) (i : Nat) : MSt :=
  let m := markers.data.getD i 0
  if m == 0 then st else
    let mpos := unravelI surf.shape i
    { st with queue := st.queue ++ [⟨surf.data.getD i 0, st.idx, i, marginOf surf.shape mpos⟩],
              idx := st.idx + 1,
              res := st.res.setIfInBounds i m,
              status := st.status.setIfInBounds i 1 }

def stepS (surf markers : Img Int) (st : SSt) (p : List Int) : SSt :=
  let m := markers.getD p 0
  if m == 0 then st else
    { st with queue := st.queue ++ [⟨surf.getD p 0, st.idx, p⟩], idx := st.idx + 1,
              label := imgSet st.label p m }

theorem modelInit_eq (surf markers : Img Int) :
    modelInit surf markers = (List.range (shapeSize surf.shape)).foldl (stepM surf markers) (initM surf) := rfl

theorem specInit_eq (surf markers : Img Int) :
    specInit surf markers = (List.range (shapeSize surf.shape)).foldl
      (fun st i => stepS surf markers st (unravelI surf.shape i)) (initS surf) := by
  unfold specInit allPos
  rw [List.foldl_map]
  rfl

theorem replicate_getD {α : Type} (n i : Nat) (v : α) : (Array.replicate n v).getD i v = v := by
  simp only [Array.getD_eq_getD_getElem?, Array.getElem?_replicate]
  split_ifs <;> rfl

/-- the marker scan before pixel `k`: the two states are related and the pixels from `k` on are still white -/
def ScanRel (surf : Img Int) (k : Nat) (ms : MSt) (ss : SSt) : Prop :=
  Rel surf.shape ms ss ∧ ∀ i, k ≤ i → i < shapeSize surf.shape → ms.status.getD i 0 = 0

theorem replicateImg_getD {α : Type} (s : List Nat) (n : Nat) (v : α) (p : List Int) :
    (⟨s, Array.replicate n v⟩ : Img α).getD p v = v := by
  unfold Img.getD; split_ifs; exacts [replicate_getD _ _ _, rfl]

theorem scan_base (surf : Img Int) : ScanRel surf 0 (initM surf) (initS surf) := by
  refine ⟨⟨rfl, rfl, Array.size_replicate, rfl, rfl, rfl, rfl, (fun m hm => nomatch hm), List.nodup_nil,
    List.nodup_nil, Array.size_replicate, fun i _ => ?_, fun i _ => ?_⟩, fun i _ _ => replicate_getD _ _ _⟩
  · exact iff_of_true (replicate_getD _ _ _) (replicate_getD _ _ _)
  · exact iff_of_false (fun h => Nat.zero_ne_one ((replicate_getD _ i 0).symm.trans h)) fun ⟨m, hm, _⟩ => nomatch hm

theorem scan_step (surf markers : Img Int) (hm : markers.shape = surf.shape) (k : Nat) (ms : MSt) (ss : SSt)
    (hk : k < shapeSize surf.shape) (h : ScanRel surf k ms ss) :
    ScanRel surf (k + 1) (stepM surf markers ms k) (stepS surf markers ss (unravelI surf.shape k)) := by
  obtain ⟨hrel, hwhite⟩ := h
  have hin := C01.inside_unravelI surf.shape k hk
  have hrav := C01.ravelI_unravelI surf.shape k hk
  have hmk : markers.getD (unravelI surf.shape k) 0 = markers.data.getD k 0 := by
    rw [Img.getD_inside markers _ 0 (hm ▸ hin), hm, hrav]
  unfold stepM stepS
  simp only [hmk]
  by_cases h0 : markers.data.getD k 0 = 0
  · rw [if_pos (beq_iff_eq.mpr h0), if_pos (beq_iff_eq.mpr h0)]
    exact ⟨hrel, fun i hi => hwhite i (Nat.le_of_succ_le hi)⟩
  · rw [if_neg (mt beq_iff_eq.mp h0), if_neg (mt beq_iff_eq.mp h0), Img.getD_inside surf _ 0 hin, hrav]
    have hpush := rel_push surf.shape _ _ hrel (unravelI surf.shape k) hin
      (hrav.symm ▸ hwhite k (le_refl _) hk) (surf.data.getD k 0) (markers.data.getD k 0)
      (marginOf surf.shape (unravelI surf.shape k)) h0 (le_refl _)
    rw [hrav] at hpush
    exact ⟨hpush, fun i hi hiN =>
      (getD_setIfInBounds_ne _ _ _ _ _ (Nat.ne_of_lt hi)).trans (hwhite i (Nat.le_of_succ_le hi) hiN)⟩

theorem init_rel (surf markers : Img Int) (hm : markers.shape = surf.shape) :
    Rel surf.shape (modelInit surf markers) (specInit surf markers) := by
  rw [modelInit_eq, specInit_eq]
  exact (foldl_range_rel _ _ _ (ScanRel surf) (scan_base surf) (scan_step surf markers hm)).1

theorem stepM_lines (surf markers : Img Int) (st : MSt) (i : Nat) :
    (stepM surf markers st i).lines = st.lines := by
  unfold stepM; simp only; split_ifs <;> rfl

theorem stepM_sized (surf markers : Img Int) (st : MSt) (i : Nat) (h : Sized st) :
    Sized (stepM surf markers st i) := by
  unfold stepM; simp only
  split_ifs
  · exact h
  · exact ⟨h.lines.trans Array.size_setIfInBounds.symm,
      Array.size_setIfInBounds.trans (h.res.trans Array.size_setIfInBounds.symm)⟩

theorem modelInit_lines_sized (surf markers : Img Int) :
    (modelInit surf markers).lines = (initM surf).lines ∧ Sized (modelInit surf markers) := by
  rw [modelInit_eq]
  exact foldl_range_rec _ _ (fun _ st => st.lines = (initM surf).lines ∧ Sized st)
    ⟨rfl, Array.size_replicate.trans Array.size_replicate.symm, Array.size_replicate.trans Array.size_replicate.symm⟩
    fun k st _ h => ⟨(stepM_lines surf markers st k).trans h.1, stepM_sized _ _ _ _ h.2⟩

theorem modelInit_lines (surf markers : Img Int) (i : Nat) :
    (modelInit surf markers).lines.getD i false = false := by
  rw [(modelInit_lines_sized surf markers).1]
  exact replicate_getD _ _ _

theorem modelInit_sized (surf markers : Img Int) : Sized (modelInit surf markers) :=
  (modelInit_lines_sized surf markers).2

/-- the transliterated kernel and the specification flooding stay in the simulation relation
    from the marker scan to the end -/
theorem cwatershed_rel (surf markers : Img Int) (bshape : List Nat) (bc : Array Int)
    (hm : markers.shape = surf.shape) (hb : bshape.length = surf.shape.length) :
    Rel surf.shape (cwatershedModel surf markers bshape bc) (cwatershedSpec surf markers bshape bc) := by
  unfold cwatershedModel cwatershedSpec
  apply run_rel
  · intro o ho; rw [offsets_length bshape bc o ho, hb]
  · exact init_rel surf markers hm

end Mahotas.C04
