/-
The extremum of a running `min` / `max`: the fold is the least (greatest) of its start value and the values folded in;
`max` / `min` written as a comparison and an assignment.
-/
import Mathlib.Order.Bounds.Defs
import Mathlib.Order.MinMax
namespace Mahotas

/-- `max` and `min` as the models spell them: `if (a < b) a = b;` -/
theorem ite_lt_max {α : Type} [LinearOrder α] (a b : α) : (if a < b then b else a) = max a b := by
  split
  · exact (max_eq_right (le_of_lt ‹_›)).symm
  · exact (max_eq_left (not_lt.1 ‹_›)).symm

theorem ite_lt_min {α : Type} [LinearOrder α] (a b : α) : (if b < a then b else a) = min a b :=
  ite_lt_max (α := αᵒᵈ) a b

theorem isLeast_foldl_min {α : Type} [LinearOrder α] (l : List α) (m : α) :
    IsLeast (insert m {x | x ∈ l}) (l.foldl min m) := by
  induction l generalizing m with
  | nil => exact ⟨Or.inl rfl, fun x hx => hx.elim (fun e => le_of_eq e.symm) (fun h => nomatch h)⟩
  | cons v l ih =>
    obtain ⟨hmem, hle⟩ := ih (min m v)
    have hm : min m v ∈ insert m {x | x ∈ v :: l} := by
      rcases min_choice m v with e | e
      · rw [e]; exact Or.inl rfl
      · rw [e]; exact Or.inr List.mem_cons_self
    refine ⟨?_, ?_⟩
    · rcases hmem with e | h
      · rw [List.foldl_cons, e]; exact hm
      · exact Or.inr (List.mem_cons_of_mem _ h)
    · rintro x (rfl | hx)
      · exact (hle (Or.inl rfl)).trans (min_le_left _ _)
      · rcases List.mem_cons.mp hx with rfl | hx
        · exact (hle (Or.inl rfl)).trans (min_le_right _ _)
        · exact hle (Or.inr hx)

theorem isGreatest_foldl_max {α : Type} [LinearOrder α] (l : List α) (m : α) :
    IsGreatest (insert m {x | x ∈ l}) (l.foldl max m) :=
  isLeast_foldl_min (α := αᵒᵈ) l m

theorem isLeast_foldl_min_head {α : Type} [LinearOrder α] (vs : List α) (d : α) (hne : vs ≠ []) :
    IsLeast {x | x ∈ vs} (vs.foldl min (vs.headD d)) := by
  match vs, hne with
  | v0 :: rest, _ =>
    have h := isLeast_foldl_min rest v0
    rw [List.headD_cons, List.foldl_cons, min_self]
    exact ⟨List.mem_cons.mpr h.1, fun x hx => h.2 (List.mem_cons.mp hx)⟩

theorem isGreatest_foldl_max_head {α : Type} [LinearOrder α] (vs : List α) (d : α) (hne : vs ≠ []) :
    IsGreatest {x | x ∈ vs} (vs.foldl max (vs.headD d)) :=
  isLeast_foldl_min_head (α := αᵒᵈ) vs d hne

/-- the same, spelt out: the running maximum dominates the start and every value, and is one of them -/
theorem foldl_max_spec {α : Type} [LinearOrder α] (l : List α) (a : α) :
    a ≤ l.foldl max a ∧ (∀ v ∈ l, v ≤ l.foldl max a) ∧ (l.foldl max a = a ∨ l.foldl max a ∈ l) :=
  have h := isGreatest_foldl_max l a
  ⟨h.2 (Or.inl rfl), fun _ hv => h.2 (Or.inr hv), h.1⟩

theorem foldl_min_spec {α : Type} [LinearOrder α] (l : List α) (a : α) :
    l.foldl min a ≤ a ∧ (∀ v ∈ l, l.foldl min a ≤ v) ∧ (l.foldl min a = a ∨ l.foldl min a ∈ l) :=
  foldl_max_spec (α := αᵒᵈ) l a

end Mahotas
