/-
C15 — the flood-fill counting oracle (`neigh`, `flood`, `countComps`, `components`, `holes`) counts the connected
components of the pixel-adjacency graph on flat indices (`tgt_eq_some_iff`, `adjIdx_iff`: the graph in coordinates).
-/
import Mahotas.Proofs.C15Basic
import Mahotas.Proofs.ListLemmas
import Mathlib.Logic.Relation
import Mathlib.Logic.ExistsUnique
namespace Mahotas.C15
open Mahotas

/-- the reads of `flood` with their defaults: past the end of the arrays an index is not set and counts as already seen -/
def mk (mask : Array Bool) (k : Nat) : Bool := mask.getD k false
def sn (seen : Array Bool) (k : Nat) : Bool := seen.getD k true

theorem sn_mark (seen : Array Bool) (j k : Nat) :
    sn (seen.setIfInBounds j true) k = (decide (k = j) || sn seen k) := by
  unfold sn
  rw [getD_setIfInBounds_default]
  by_cases h : j = k
  · simp [h]
  · simp [h, Ne.symm h]

theorem sn_mark_iff {seen : Array Bool} {j k : Nat} :
    sn (seen.setIfInBounds j true) k = true ↔ k = j ∨ sn seen k = true := by
  rw [sn_mark, Bool.or_eq_true, decide_eq_true_eq]

theorem sn_replicate (n k : Nat) : sn (Array.replicate n false) k = decide (n ≤ k) := by
  unfold sn
  by_cases h : k < n
  · simp [Array.getD_eq_getD_getElem?, h, Nat.not_le.mpr h]
  · simp [Array.getD_eq_getD_getElem?, h, Nat.le_of_not_lt h]

/-- the in-box target of offset `d` from flat index `i` (the model's own index arithmetic) -/
def tgt (rows cols : Nat) (i : Nat) (d : Int × Int) : Option Nat :=
  if 0 ≤ ((i / cols : Nat) : Int) + d.1 ∧ ((i / cols : Nat) : Int) + d.1 < (rows : Int) ∧
      0 ≤ ((i % cols : Nat) : Int) + d.2 ∧ ((i % cols : Nat) : Int) + d.2 < (cols : Int) then
    some ((((i / cols : Nat) : Int) + d.1).toNat * cols + (((i % cols : Nat) : Int) + d.2).toNat)
  else none

/-- the body of the inner loop of `flood` -/
def pushF (rows cols : Nat) (mask : Array Bool) (i : Nat) (acc : List Nat × Array Bool) (d : Int × Int) :
    List Nat × Array Bool :=
  match tgt rows cols i d with
  | some j => if mask.getD j false && !acc.2.getD j true then (j :: acc.1, acc.2.setIfInBounds j true) else acc
  | none => acc

/-- the pixel with flat index `k` lies on the image border -/
def bdr (rows cols : Nat) (k : Nat) : Bool :=
  ((k / cols : Nat) : Int) == 0 || ((k % cols : Nat) : Int) == 0 ||
    ((k / cols : Nat) : Int) == (rows : Int) - 1 || ((k % cols : Nat) : Int) == (cols : Int) - 1

theorem flood_cons (rows cols : Nat) (mask : Array Bool) (conn8 : Bool) (fuel i : Nat) (st : List Nat)
    (seen : Array Bool) (tb : Bool) :
    flood rows cols mask conn8 (fuel + 1) (i :: st) seen tb =
      flood rows cols mask conn8 fuel ((neigh conn8).foldl (pushF rows cols mask i) (st, seen)).1
        ((neigh conn8).foldl (pushF rows cols mask i) (st, seen)).2 (tb || bdr rows cols i) := by
  have hf : (fun (acc : List Nat × Array Bool) (d : Int × Int) =>
        let yy := ((i / cols : Nat) : Int) + d.1
        let xx := ((i % cols : Nat) : Int) + d.2
        if 0 ≤ yy ∧ yy < (rows : Int) ∧ 0 ≤ xx ∧ xx < (cols : Int) then
          let j := yy.toNat * cols + xx.toNat
          if mask.getD j false && !acc.2.getD j true then (j :: acc.1, acc.2.setIfInBounds j true) else acc
        else acc) = pushF rows cols mask i := by
    funext acc d
    unfold pushF tgt
    by_cases h : 0 ≤ ((i / cols : Nat) : Int) + d.1 ∧ ((i / cols : Nat) : Int) + d.1 < (rows : Int) ∧
      0 ≤ ((i % cols : Nat) : Int) + d.2 ∧ ((i % cols : Nat) : Int) + d.2 < (cols : Int)
    · simp only [h, if_true, and_self]
    · simp only [h, if_false]
  rw [flood]
  simp only [hf, bdr, Bool.or_assoc]

theorem flood_nil (rows cols : Nat) (mask : Array Bool) (conn8 : Bool) (fuel : Nat)
    (seen : Array Bool) (tb : Bool) :
    flood rows cols mask conn8 fuel [] seen tb = (seen, tb) := by
  cases fuel <;> simp [flood]

theorem flood_zero (rows cols : Nat) (mask : Array Bool) (conn8 : Bool) (st : List Nat)
    (seen : Array Bool) (tb : Bool) :
    flood rows cols mask conn8 0 st seen tb = (seen, tb) := by
  simp [flood]

/-- the number of set pixels below `n` not yet seen; stack length + `U` is what the fuel of `flood` has to cover -/
def U (n : Nat) (mask seen : Array Bool) : Nat := (List.range n).countP fun k => mk mask k && !sn seen k

theorem U_mark (n : Nat) (mask seen : Array Bool) (j : Nat) (hj : j < n) (hm : mk mask j = true)
    (hs : sn seen j = false) : U n mask (seen.setIfInBounds j true) + 1 = U n mask seen := by
  unfold U
  apply countP_range_update n j _ _ hj
  · simp [hm, hs]
  · simp [sn_mark]
  · intro k hk
    simp [sn_mark, hk]

/-- integer coordinates inside the box: their row-major index is inside the box and has these coordinates -/
theorem rowMajor_cast {rows cols : Nat} {y x : Int} (h : 0 ≤ y ∧ y < (rows : Int) ∧ 0 ≤ x ∧ x < (cols : Int)) :
    y.toNat * cols + x.toNat < rows * cols ∧ (((y.toNat * cols + x.toNat) / cols : Nat) : Int) = y ∧
      (((y.toNat * cols + x.toNat) % cols : Nat) : Int) = x := by
  obtain ⟨h0, h1, h2, h3⟩ := h
  have hx : x.toNat < cols := by omega
  rw [rowMajor_div _ hx, rowMajor_mod _ hx, Int.toNat_of_nonneg h0, Int.toNat_of_nonneg h2]
  exact ⟨rowMajor_lt (by omega) hx, rfl, rfl⟩

theorem tgt_eq_some_iff {rows cols i : Nat} (d : Int × Int) (j : Nat) :
    tgt rows cols i d = some j ↔
      (j < rows * cols ∧ ((j / cols : Nat) : Int) = ((i / cols : Nat) : Int) + d.1 ∧
        ((j % cols : Nat) : Int) = ((i % cols : Nat) : Int) + d.2) := by
  constructor
  · intro ht
    unfold tgt at ht
    split at ht
    · next hb =>
      cases ht
      exact rowMajor_cast hb
    · cases ht
  · rintro ⟨hj, h1, h2⟩
    unfold tgt
    rw [← h1, ← h2, if_pos (divmod_box hj), Int.toNat_natCast, Int.toNat_natCast, Nat.div_add_mod']

theorem tgt_lt {rows cols i : Nat} {d : Int × Int} {j : Nat} (h : tgt rows cols i d = some j) :
    j < rows * cols :=
  ((tgt_eq_some_iff d j).mp h).1

theorem pushF_cases (rows cols : Nat) (mask : Array Bool) (i : Nat) (acc : List Nat × Array Bool) (d : Int × Int) :
    (∃ j, tgt rows cols i d = some j ∧ mk mask j = true ∧ sn acc.2 j = false ∧
        pushF rows cols mask i acc d = (j :: acc.1, acc.2.setIfInBounds j true)) ∨
    (pushF rows cols mask i acc d = acc ∧ ∀ j, tgt rows cols i d = some j → mk mask j = true → sn acc.2 j = true) := by
  unfold pushF
  cases ht : tgt rows cols i d with
  | none => right; simp
  | some j =>
    by_cases hc : (mask.getD j false && !acc.2.getD j true) = true
    · left
      refine ⟨j, rfl, ?_, ?_, ?_⟩
      · simp only [Bool.and_eq_true] at hc; exact hc.1
      · simp only [Bool.and_eq_true, Bool.not_eq_true'] at hc; exact hc.2
      · simp only [hc, if_true]
    · right
      simp only [hc]
      refine ⟨by simp, ?_⟩
      intro j' hj' hm
      injection hj' with hj'
      subst hj'
      simp only [Bool.and_eq_true, Bool.not_eq_true', not_and, Bool.not_eq_false] at hc
      exact hc hm

/-- what the inner loop over the offsets `ds` does to `(stack, seen)` -/
structure FoldRel (rows cols : Nat) (mask : Array Bool) (i : Nat) (ds : List (Int × Int)) (st : List Nat)
    (seen : Array Bool) (r : List Nat × Array Bool) : Prop where
  mono : ∀ k, sn seen k = true → sn r.2 k = true
  new : ∀ k, sn r.2 k = true → sn seen k = true ∨ (mk mask k = true ∧ ∃ d ∈ ds, tgt rows cols i d = some k)
  stack : ∀ k, k ∈ r.1 ↔ k ∈ st ∨ (sn r.2 k = true ∧ sn seen k = false)
  complete : ∀ d ∈ ds, ∀ k, tgt rows cols i d = some k → mk mask k = true → sn r.2 k = true
  meas : r.1.length + U (rows * cols) mask r.2 ≤ st.length + U (rows * cols) mask seen

theorem foldRel (rows cols : Nat) (mask : Array Bool) (i : Nat) (ds : List (Int × Int)) :
    ∀ (st : List Nat) (seen : Array Bool),
      FoldRel rows cols mask i ds st seen (ds.foldl (pushF rows cols mask i) (st, seen)) := by
  induction ds with
  | nil =>
    intro st seen
    refine ⟨fun k h => h, fun k h => Or.inl h, ?_, ?_, Nat.le_refl _⟩
    · intro k
      simp only [List.foldl_nil]
      constructor
      · exact Or.inl
      · rintro (h | ⟨h1, h2⟩)
        · exact h
        · rw [h1] at h2; cases h2
    · intro d hd; cases hd
  | cons d ds ih =>
    intro st seen
    rw [List.foldl_cons]
    rcases pushF_cases rows cols mask i (st, seen) d with ⟨j, hj, hm, hs, he⟩ | ⟨he, hc⟩
    · rw [he]
      have R := ih (j :: st) (seen.setIfInBounds j true)
      simp only at hs
      refine ⟨?_, ?_, ?_, ?_, ?_⟩
      · exact fun k hk => R.mono k (sn_mark_iff.mpr (Or.inr hk))
      · intro k hk
        rcases R.new k hk with h | ⟨h1, d', hd', h2⟩
        · rcases sn_mark_iff.mp h with rfl | h
          · exact Or.inr ⟨hm, d, List.mem_cons_self, hj⟩
          · exact Or.inl h
        · exact Or.inr ⟨h1, d', List.mem_cons_of_mem _ hd', h2⟩
      · intro k
        rw [R.stack k]
        have hjj := R.mono j (sn_mark_iff.mpr (Or.inl rfl))
        simp only [sn_mark, Bool.or_eq_false_iff, decide_eq_false_iff_not, List.mem_cons]
        constructor
        · rintro ((h | h) | ⟨h1, h2, h3⟩)
          · subst h; exact Or.inr ⟨hjj, hs⟩
          · exact Or.inl h
          · exact Or.inr ⟨h1, h3⟩
        · rintro (h | ⟨h1, h2⟩)
          · exact Or.inl (Or.inr h)
          · by_cases hk : k = j
            · exact Or.inl (Or.inl hk)
            · exact Or.inr ⟨h1, hk, h2⟩
      · intro d' hd' k hk hmk
        rcases List.mem_cons.mp hd' with e | e
        · subst e
          rw [hj] at hk
          injection hk with hk
          subst hk
          exact R.mono _ (sn_mark_iff.mpr (Or.inl rfl))
        · exact R.complete d' e k hk hmk
      · have := R.meas
        have := U_mark (rows * cols) mask seen j (tgt_lt hj) hm hs
        simp only [List.length_cons] at *
        omega
    · rw [he]
      have R := ih st seen
      refine ⟨R.mono, ?_, R.stack, ?_, R.meas⟩
      · intro k hk
        rcases R.new k hk with h | ⟨h1, d', hd', h2⟩
        · exact Or.inl h
        · exact Or.inr ⟨h1, d', List.mem_cons_of_mem _ hd', h2⟩
      · intro d' hd' k hk hmk
        rcases List.mem_cons.mp hd' with e | e
        · subst e
          apply R.mono
          exact hc k hk hmk
        · exact R.complete d' e k hk hmk

/-- a vertex of the counted graph: a flat index inside the box whose pixel is set -/
def IsV (rows cols : Nat) (mask : Array Bool) (k : Nat) : Prop := k < rows * cols ∧ mk mask k = true

/-- `j`'s (row, column) is `i`'s (row, column) plus an offset of `neigh conn8`, inside the box -/
def adjIdx (rows cols : Nat) (conn8 : Bool) (i j : Nat) : Prop := ∃ d ∈ neigh conn8, tgt rows cols i d = some j

def istep (rows cols : Nat) (mask : Array Bool) (conn8 : Bool) (a b : Nat) : Prop :=
  IsV rows cols mask a ∧ IsV rows cols mask b ∧ adjIdx rows cols conn8 a b

def IConn (rows cols : Nat) (mask : Array Bool) (conn8 : Bool) : Nat → Nat → Prop :=
  Relation.ReflTransGen (istep rows cols mask conn8)

theorem neigh_neg (c : Bool) : ∀ d ∈ neigh c, (-d.1, -d.2) ∈ neigh c := by
  cases c <;> decide

theorem adjIdx_iff {rows cols : Nat} {conn8 : Bool} {i j : Nat} (hj : j < rows * cols) :
    adjIdx rows cols conn8 i j ↔
      (((j / cols : Nat) : Int) - ((i / cols : Nat) : Int), ((j % cols : Nat) : Int) - ((i % cols : Nat) : Int))
        ∈ neigh conn8 := by
  unfold adjIdx
  constructor
  · rintro ⟨d, hd, ht⟩
    obtain ⟨_, h1, h2⟩ := (tgt_eq_some_iff d j).mp ht
    have : (((j / cols : Nat) : Int) - ((i / cols : Nat) : Int),
        ((j % cols : Nat) : Int) - ((i % cols : Nat) : Int)) = d := by
      apply Prod.ext
      · simp only; omega
      · simp only; omega
    rw [this]; exact hd
  · intro h
    refine ⟨_, h, (tgt_eq_some_iff _ j).mpr ⟨hj, ?_, ?_⟩⟩
    · simp only; omega
    · simp only; omega

theorem adjIdx_symm {rows cols : Nat} {conn8 : Bool} {i j : Nat} (hi : i < rows * cols)
    (h : adjIdx rows cols conn8 i j) : adjIdx rows cols conn8 j i := by
  obtain ⟨d, hd, ht⟩ := h
  obtain ⟨_, h1, h2⟩ := (tgt_eq_some_iff d j).mp ht
  exact ⟨(-d.1, -d.2), neigh_neg conn8 d hd, (tgt_eq_some_iff _ i).mpr ⟨hi, by omega, by omega⟩⟩

theorem IConn.symm {rows cols : Nat} {mask : Array Bool} {conn8 : Bool} {a b : Nat}
    (h : IConn rows cols mask conn8 a b) : IConn rows cols mask conn8 b a := by
  induction h with
  | refl => exact Relation.ReflTransGen.refl
  | tail _ hbc ih =>
    exact Relation.ReflTransGen.head ⟨hbc.2.1, hbc.1, adjIdx_symm hbc.1.1 hbc.2.2⟩ ih

theorem IConn.isV {rows cols : Nat} {mask : Array Bool} {conn8 : Bool} {a b : Nat}
    (h : IConn rows cols mask conn8 a b) (ha : IsV rows cols mask a) : IsV rows cols mask b := by
  cases h with
  | refl => exact ha
  | tail _ hbc => exact hbc.2.1

/-- invariant of the flood from `seed`; `S0` is what was marked before it started. Whatever has been marked since is connected
    to the seed (`snd`, `stk`); an index marked since that has left the stack has all its set neighbours marked (`closed`),
    which at the empty stack makes the new marks the whole component; the flag is set iff such an index lies on the border
    (`tbs`, `tbc`). -/
structure Inv (rows cols : Nat) (mask : Array Bool) (conn8 : Bool) (S0 : Nat → Prop) (seed : Nat)
    (st : List Nat) (seen : Array Bool) (tb : Bool) : Prop where
  sd : sn seen seed = true
  stk : ∀ k ∈ st, IsV rows cols mask k ∧ sn seen k = true ∧ ¬ S0 k ∧ IConn rows cols mask conn8 seed k
  snd : ∀ k, sn seen k = true → S0 k ∨ IConn rows cols mask conn8 seed k
  mono : ∀ k, S0 k → sn seen k = true
  closed : ∀ k, sn seen k = true → ¬ S0 k → k ∉ st →
    ∀ j, adjIdx rows cols conn8 k j → IsV rows cols mask j → sn seen j = true
  tbs : tb = true → ∃ k, sn seen k = true ∧ ¬ S0 k ∧ bdr rows cols k = true
  tbc : ∀ k, sn seen k = true → ¬ S0 k → k ∉ st → bdr rows cols k = true → tb = true

theorem Inv.step {rows cols : Nat} {mask : Array Bool} {conn8 : Bool} {S0 : Nat → Prop} {seed i : Nat}
    {st : List Nat} {seen : Array Bool} {tb : Bool} {r : List Nat × Array Bool}
    (I : Inv rows cols mask conn8 S0 seed (i :: st) seen tb) (R : FoldRel rows cols mask i (neigh conn8) st seen r) :
    Inv rows cols mask conn8 S0 seed r.1 r.2 (tb || bdr rows cols i) := by
  obtain ⟨hVi, hsi, hS0i, hci⟩ := I.stk i List.mem_cons_self
  have hnew : ∀ k, sn r.2 k = true → sn seen k = false →
      IsV rows cols mask k ∧ ¬ S0 k ∧ IConn rows cols mask conn8 seed k := by
    intro k h1 h2
    rcases R.new k h1 with h | ⟨hm, d, hd, ht⟩
    · rw [h] at h2; cases h2
    · have hV : IsV rows cols mask k := ⟨tgt_lt ht, hm⟩
      refine ⟨hV, ?_, Relation.ReflTransGen.tail hci ⟨hVi, hV, d, hd, ht⟩⟩
      intro h0
      rw [I.mono k h0] at h2; cases h2
  -- a marked index that is not on the new stack was marked before, and was not on the old stack unless it is `i`
  have hold : ∀ k, sn r.2 k = true → k ∉ r.1 → sn seen k = true ∧ (k ≠ i → k ∉ i :: st) := by
    intro k h1 h2
    rw [R.stack k] at h2
    refine ⟨?_, fun hki hmem => ?_⟩
    · cases hs : sn seen k with
      | true => rfl
      | false => exact absurd (Or.inr ⟨h1, hs⟩) h2
    · rcases List.mem_cons.mp hmem with e | e
      · exact hki e
      · exact h2 (Or.inl e)
  refine ⟨R.mono _ I.sd, ?_, ?_, fun k h => R.mono k (I.mono k h), ?_, ?_, ?_⟩
  · intro k hk
    rcases (R.stack k).mp hk with h | ⟨h1, h2⟩
    · obtain ⟨a, b, c, d⟩ := I.stk k (List.mem_cons_of_mem _ h)
      exact ⟨a, R.mono k b, c, d⟩
    · obtain ⟨a, c, d⟩ := hnew k h1 h2
      exact ⟨a, h1, c, d⟩
  · intro k hk
    cases hs : sn seen k with
    | true => exact I.snd k hs
    | false => exact Or.inr (hnew k hk hs).2.2
  · intro k h1 h2 h3 j hadj hVj
    obtain ⟨h4, h5⟩ := hold k h1 h3
    by_cases hki : k = i
    · subst hki
      obtain ⟨d, hd, ht⟩ := hadj
      exact R.complete d hd j ht hVj.2
    · exact R.mono j (I.closed k h4 h2 (h5 hki) j hadj hVj)
  · intro h
    rw [Bool.or_eq_true] at h
    rcases h with h | h
    · obtain ⟨k, a, b, c⟩ := I.tbs h
      exact ⟨k, R.mono k a, b, c⟩
    · exact ⟨i, R.mono i hsi, hS0i, h⟩
  · intro k h1 h2 h3 hb
    obtain ⟨h4, h5⟩ := hold k h1 h3
    rw [Bool.or_eq_true]
    by_cases hki : k = i
    · subst hki
      exact Or.inr hb
    · exact Or.inl (I.tbc k h4 h2 (h5 hki) hb)

theorem flood_inv {rows cols : Nat} {mask : Array Bool} {conn8 : Bool} {S0 : Nat → Prop} {seed : Nat} :
    ∀ (fuel : Nat) (st : List Nat) (seen : Array Bool) (tb : Bool),
      Inv rows cols mask conn8 S0 seed st seen tb → st.length + U (rows * cols) mask seen ≤ fuel →
      Inv rows cols mask conn8 S0 seed [] (flood rows cols mask conn8 fuel st seen tb).1
        (flood rows cols mask conn8 fuel st seen tb).2 := by
  intro fuel
  induction fuel with
  | zero =>
    intro st seen tb I h
    have : st = [] := List.length_eq_zero_iff.mp (by omega)
    subst this
    rw [flood_zero]; exact I
  | succ fuel ih =>
    intro st seen tb I h
    cases st with
    | nil => rw [flood_nil]; exact I
    | cons i st =>
      have R := foldRel rows cols mask i (neigh conn8) st seen
      rw [flood_cons]
      apply ih _ _ _ (I.step R)
      have := R.meas
      simp only [List.length_cons] at h
      omega

theorem U_le (n : Nat) (mask seen : Array Bool) : U n mask seen ≤ n := by
  unfold U
  exact Nat.le_trans List.countP_le_length (by simp)

/-- the component of `s` has a pixel on the border of the box -/
def Touches (rows cols : Nat) (mask : Array Bool) (conn8 : Bool) (s : Nat) : Prop :=
  ∃ k, IConn rows cols mask conn8 s k ∧ bdr rows cols k = true

/-- **one flood from a fresh seed marks exactly the seed's component** (and reports whether it meets the border),
    provided the set visited before is a union of components -/
theorem flood_seed {rows cols : Nat} {mask : Array Bool} {conn8 : Bool} {seed : Nat} (seen0 : Array Bool)
    (hV : IsV rows cols mask seed) (hs : sn seen0 seed = false)
    (H0 : ∀ a b, IsV rows cols mask a → sn seen0 a = true → IConn rows cols mask conn8 a b → sn seen0 b = true) :
    (∀ k, sn (flood rows cols mask conn8 (rows * cols + 1) [seed] (seen0.setIfInBounds seed true) false).1 k = true ↔
        (sn seen0 k = true ∨ IConn rows cols mask conn8 seed k)) ∧
    ((flood rows cols mask conn8 (rows * cols + 1) [seed] (seen0.setIfInBounds seed true) false).2 = true ↔
        Touches rows cols mask conn8 seed) := by
  have I0 : Inv rows cols mask conn8 (fun k => sn seen0 k = true) seed [seed]
      (seen0.setIfInBounds seed true) false := by
    -- nothing marked since the start has left the stack yet
    have hcontra : ∀ k, sn (seen0.setIfInBounds seed true) k = true → ¬ sn seen0 k = true → k ∉ [seed] → False :=
      fun k h1 h2 h3 => (sn_mark_iff.mp h1).elim (fun h => h3 (List.mem_singleton.mpr h)) h2
    refine ⟨sn_mark_iff.mpr (Or.inl rfl), ?_, ?_, fun k hk => sn_mark_iff.mpr (Or.inr hk),
      fun k h1 h2 h3 => (hcontra k h1 h2 h3).elim, nofun, fun k h1 h2 h3 => (hcontra k h1 h2 h3).elim⟩
    · intro k hk
      obtain rfl := List.mem_singleton.mp hk
      exact ⟨hV, sn_mark_iff.mpr (Or.inl rfl), by simp [hs], Relation.ReflTransGen.refl⟩
    · intro k hk
      rcases sn_mark_iff.mp hk with rfl | h
      · exact Or.inr Relation.ReflTransGen.refl
      · exact Or.inl h
  have hfuel : [seed].length + U (rows * cols) mask (seen0.setIfInBounds seed true) ≤ rows * cols + 1 := by
    have := U_mark (rows * cols) mask seen0 seed hV.1 hV.2 hs
    have := U_le (rows * cols) mask seen0
    simp only [List.length_cons, List.length_nil]
    omega
  have I := flood_inv _ _ _ _ I0 hfuel
  generalize flood rows cols mask conn8 (rows * cols + 1) [seed] (seen0.setIfInBounds seed true) false = r at I ⊢
  -- the seed's component was not visited before: else the seed would have been
  have hnew : ∀ k, IConn rows cols mask conn8 seed k → ¬ sn seen0 k = true := fun k hk h => by
    rw [H0 k seed (hk.isV hV) h hk.symm] at hs
    cases hs
  have key : ∀ k, IConn rows cols mask conn8 seed k → sn r.1 k = true := by
    intro k hk
    induction hk with
    | refl => exact I.sd
    | tail hab hbc ih => exact I.closed _ ih (hnew _ hab) (by simp) _ hbc.2.2 hbc.2.1
  refine ⟨fun k => ⟨I.snd k, fun h => h.elim (I.mono k) (key k)⟩, fun h => ?_,
    fun ⟨k, h1, h2⟩ => I.tbc k (key k h1) (hnew k h1) (by simp) h2⟩
  obtain ⟨k, h1, h2, h3⟩ := I.tbs h
  exact ⟨k, (I.snd k h1).resolve_left h2, h3⟩

/-- the body of the outer loop -/
def outF (rows cols : Nat) (mask : Array Bool) (conn8 : Bool) (acc : Array Bool × Nat × Nat) (i : Nat) :
    Array Bool × Nat × Nat :=
  if (mk mask i && !sn acc.1 i) = true then
    ((flood rows cols mask conn8 (rows * cols + 1) [i] (acc.1.setIfInBounds i true) false).1, acc.2.1 + 1,
      acc.2.2 + (if (flood rows cols mask conn8 (rows * cols + 1) [i] (acc.1.setIfInBounds i true) false).2 then 1 else 0))
  else acc

theorem countComps_eq (rows cols : Nat) (mask : Array Bool) (conn8 : Bool) :
    countComps rows cols mask conn8 =
      (((List.range (rows * cols)).foldl (outF rows cols mask conn8) (Array.replicate (rows * cols) false, 0, 0)).2.1,
       ((List.range (rows * cols)).foldl (outF rows cols mask conn8) (Array.replicate (rows * cols) false, 0, 0)).2.2) := rfl

/-- `i` is the least flat index of its component: the index at which the scan of `countComps` starts the flood -/
def IsRep (rows cols : Nat) (mask : Array Bool) (conn8 : Bool) (i : Nat) : Prop :=
  IsV rows cols mask i ∧ ∀ j, IConn rows cols mask conn8 i j → i ≤ j

theorem existsUnique_rep {rows cols : Nat} {mask : Array Bool} {conn8 : Bool} {k : Nat} (hk : IsV rows cols mask k) :
    ∃! s, IsRep rows cols mask conn8 s ∧ IConn rows cols mask conn8 s k := by
  classical
  have hex : ∃ j, IConn rows cols mask conn8 k j := ⟨k, Relation.ReflTransGen.refl⟩
  refine ⟨Nat.find hex, ⟨⟨(Nat.find_spec hex).isV hk, fun j hj => ?_⟩, (Nat.find_spec hex).symm⟩, ?_⟩
  · exact Nat.find_min' hex ((Nat.find_spec hex).trans hj)
  · rintro s ⟨hs, hsk⟩
    exact Nat.le_antisymm (hs.2 _ (hsk.trans (Nat.find_spec hex))) (Nat.find_min' hex hsk.symm)

open Classical in
noncomputable def repsBelow (rows cols : Nat) (mask : Array Bool) (conn8 : Bool) (m : Nat) : List Nat :=
  (List.range m).filter fun i => decide (IsRep rows cols mask conn8 i)

open Classical in
theorem repsBelow_succ {rows cols : Nat} {mask : Array Bool} {conn8 : Bool} (m : Nat) : repsBelow rows cols mask conn8 (m + 1) =
    repsBelow rows cols mask conn8 m ++ if IsRep rows cols mask conn8 m then [m] else [] := by
  unfold repsBelow
  rw [List.range_succ, List.filter_append]
  by_cases h : IsRep rows cols mask conn8 m <;> simp [h]

open Classical in
/-- state of the outer loop before index `m`: marked are the components of the set pixels below `m`; the counters count the
    representatives below `m`, and those of them whose component touches the border -/
structure OInv (rows cols : Nat) (mask : Array Bool) (conn8 : Bool) (m : Nat) (acc : Array Bool × Nat × Nat) : Prop where
  seen : ∀ k, sn acc.1 k = true ↔
    (rows * cols ≤ k ∨ ∃ s, s < m ∧ IsV rows cols mask s ∧ IConn rows cols mask conn8 s k)
  cnt : acc.2.1 = (repsBelow rows cols mask conn8 m).length
  cnt2 : acc.2.2 = (repsBelow rows cols mask conn8 m).countP fun s => decide (Touches rows cols mask conn8 s)

/-- the loop's test at `m` succeeds exactly at the representatives: a set pixel is unmarked iff no smaller set pixel is
    connected to it (`Mahotas.C15.mk` in full: inside the namespace `OInv` the bare name is the structure's constructor) -/
theorem OInv.test {rows cols : Nat} {mask : Array Bool} {conn8 : Bool} {m : Nat} {acc : Array Bool × Nat × Nat} (O : OInv rows cols mask conn8 m acc)
    (hm : m < rows * cols) : (Mahotas.C15.mk mask m && !sn acc.1 m) = true ↔ IsRep rows cols mask conn8 m := by
  rw [Bool.and_eq_true, Bool.not_eq_true', ← Bool.not_eq_true, O.seen]
  constructor
  · rintro ⟨hmk, hns⟩
    exact ⟨⟨hm, hmk⟩, fun j hj => Nat.le_of_not_lt fun hlt => hns (Or.inr ⟨j, hlt, hj.isV ⟨hm, hmk⟩, hj.symm⟩)⟩
  · rintro ⟨hV, hmin⟩
    refine ⟨hV.2, ?_⟩
    rintro (h | ⟨s, hs, _, hc⟩)
    · omega
    · have := hmin s hc.symm
      omega

/-- the marked set is a union of components -/
theorem OInv.conn {rows cols : Nat} {mask : Array Bool} {conn8 : Bool} {m : Nat} {acc : Array Bool × Nat × Nat} (O : OInv rows cols mask conn8 m acc)
    (a b : Nat) (ha : IsV rows cols mask a) (h : sn acc.1 a = true) (hab : IConn rows cols mask conn8 a b) :
    sn acc.1 b = true := by
  rcases (O.seen a).mp h with h | ⟨s, h1, h2, h3⟩
  · exact absurd ha.1 (Nat.not_lt.mpr h)
  · exact (O.seen b).mpr (Or.inr ⟨s, h1, h2, h3.trans hab⟩)

theorem OInv.next {rows cols : Nat} {mask : Array Bool} {conn8 : Bool} {m : Nat} {acc : Array Bool × Nat × Nat} (O : OInv rows cols mask conn8 m acc)
    (hm : m < rows * cols) : OInv rows cols mask conn8 (m + 1) (outF rows cols mask conn8 acc m) := by
  classical
  have htest := O.test hm
  -- either way the marks after the step are the marks before it and the component of `m` where `m` is set
  have hseen : ∀ k, (rows * cols ≤ k ∨ ∃ s, s < m + 1 ∧ IsV rows cols mask s ∧ IConn rows cols mask conn8 s k) ↔
      (sn acc.1 k = true ∨ (IsV rows cols mask m ∧ IConn rows cols mask conn8 m k)) := fun k => by
    rw [O.seen k, or_assoc, Nat.exists_lt_succ_right]
  unfold outF
  by_cases hc : (Mahotas.C15.mk mask m && !sn acc.1 m) = true
  · have hrep := htest.1 hc
    rw [if_pos hc]
    simp only [Bool.and_eq_true, Bool.not_eq_true'] at hc
    obtain ⟨F1, F3⟩ := flood_seed (conn8 := conn8) acc.1 hrep.1 hc.2 O.conn
    generalize flood rows cols mask conn8 (rows * cols + 1) [m] (acc.1.setIfInBounds m true) false = r at F1 F3 ⊢
    refine ⟨fun k => ?_, ?_, ?_⟩
    · rw [F1 k, hseen k]
      simp only [hrep.1, true_and]
    · simp only [repsBelow_succ, if_pos hrep, List.length_append, List.length_singleton, O.cnt]
    · simp only [repsBelow_succ, if_pos hrep, List.countP_append, List.countP_singleton, O.cnt2, F3, decide_eq_true_eq]
  · have hrep : ¬ IsRep rows cols mask conn8 m := fun h => hc (htest.2 h)
    rw [if_neg hc]
    simp only [Bool.and_eq_true, Bool.not_eq_true', not_and, Bool.not_eq_false] at hc
    refine ⟨fun k => ?_, ?_, ?_⟩
    · -- a set pixel that fails the test is marked, and its component with it
      rw [hseen k]
      exact (or_iff_left_of_imp fun ⟨hV, hck⟩ => O.conn m k hV (hc hV.2) hck).symm
    · simp only [repsBelow_succ, if_neg hrep, List.append_nil, O.cnt]
    · simp only [repsBelow_succ, if_neg hrep, List.append_nil, O.cnt2]

theorem outer_inv (rows cols : Nat) (mask : Array Bool) (conn8 : Bool) :
    OInv rows cols mask conn8 (rows * cols)
      ((List.range (rows * cols)).foldl (outF rows cols mask conn8) (Array.replicate (rows * cols) false, 0, 0)) :=
  foldl_range_rec _ _ (OInv rows cols mask conn8) ⟨fun k => by simp [sn_replicate], rfl, rfl⟩ fun _ _ hk O => O.next hk

open Classical in
theorem countComps_seeds (rows cols : Nat) (mask : Array Bool) (conn8 : Bool) :
    ∃ seeds : List Nat,
      seeds.Nodup ∧ seeds.length = (countComps rows cols mask conn8).1 ∧
      (∀ i, i ∈ seeds ↔ IsRep rows cols mask conn8 i) ∧
      (∀ k, IsV rows cols mask k → ∃! s, s ∈ seeds ∧ IConn rows cols mask conn8 s k) ∧
      (seeds.countP fun s => decide (Touches rows cols mask conn8 s)) = (countComps rows cols mask conn8).2 := by
  have O := outer_inv rows cols mask conn8
  rw [countComps_eq]
  generalize (List.range (rows * cols)).foldl (outF rows cols mask conn8)
    (Array.replicate (rows * cols) false, 0, 0) = acc at O ⊢
  have hmem : ∀ i, i ∈ repsBelow rows cols mask conn8 (rows * cols) ↔ IsRep rows cols mask conn8 i := fun i => by
    unfold repsBelow
    rw [List.mem_filter, List.mem_range, decide_eq_true_eq]
    exact and_iff_right_of_imp fun h => h.1.1
  refine ⟨repsBelow rows cols mask conn8 (rows * cols), List.nodup_range.filter _, O.cnt.symm, hmem, fun k hk => ?_,
    O.cnt2.symm⟩
  simp only [hmem]
  exact existsUnique_rep hk

theorem countComps_spec (rows cols : Nat) (mask : Array Bool) (conn8 : Bool) :
    ∃ seeds seeds2 : List Nat,
      seeds.Nodup ∧ seeds.length = (countComps rows cols mask conn8).1 ∧
      (∀ i, i ∈ seeds ↔ IsRep rows cols mask conn8 i) ∧
      (∀ k, IsV rows cols mask k → ∃! s, s ∈ seeds ∧ IConn rows cols mask conn8 s k) ∧
      seeds2.Nodup ∧ seeds2.length = (countComps rows cols mask conn8).2 ∧
      (∀ s, s ∈ seeds2 ↔ (IsRep rows cols mask conn8 s ∧ Touches rows cols mask conn8 s)) := by
  classical
  obtain ⟨seeds, h1, h2, h3, h4, h5⟩ := countComps_seeds rows cols mask conn8
  refine ⟨seeds, _, h1, h2, h3, h4, h1.filter _, List.countP_eq_length_filter ▸ h5, fun s => ?_⟩
  rw [List.mem_filter, decide_eq_true_eq, h3]

theorem countComps_inner (rows cols : Nat) (mask : Array Bool) (conn8 : Bool) :
    ∃ inner : List Nat, inner.Nodup ∧
      inner.length = (countComps rows cols mask conn8).1 - (countComps rows cols mask conn8).2 ∧
      (∀ s, s ∈ inner ↔ (IsRep rows cols mask conn8 s ∧ ¬ Touches rows cols mask conn8 s)) := by
  classical
  obtain ⟨seeds, h1, h2, h3, _, h5⟩ := countComps_seeds rows cols mask conn8
  refine ⟨seeds.filter fun s => ¬ decide (Touches rows cols mask conn8 s), h1.filter _, ?_, fun s => ?_⟩
  · have := List.length_eq_countP_add_countP (fun s => decide (Touches rows cols mask conn8 s)) (l := seeds)
    rw [← List.countP_eq_length_filter]
    omega
  · simp only [List.mem_filter, decide_eq_true_eq, h3]

end Mahotas.C15
