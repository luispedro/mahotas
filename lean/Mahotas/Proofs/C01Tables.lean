/-
The structuring elements of C01 as sets of offsets: those produced by `get_structuring_elem` (ℓ1 balls in
`{0,1,2}^d`) and `disk` (open Euclidean balls in `{0..2r}^d`), and all-ones boxes;
all of them pass the driver's regularity test (`starShaped`, `flatHeights`). At the end the predicates
`CrossBoxDisk`, `CentredCrossBoxDisk`, `RegularElem` through which C01, C02 and C14 speak of these families.
-/
import Mahotas.Proofs.C01Star
namespace Mahotas.C01
open Mahotas

theorem tab_getD_ge (S : List Nat) (f : List Int → Int) (i : Nat) (hi : ¬ i < shapeSize S) :
    ((allPos S).map f).toArray.getD i 0 = 0 := by
  unfold allPos
  simp [Array.getD_eq_getD_getElem?, hi]

/-! ### elements given by a predicate on the offsets of their box -/

/-- a 0/1 element whose entry at the offset `k` says whether `g k`: its members are the offsets of the
    box that satisfy `g`, all of height 1 -/
theorem mem_support_indicator (S : List Nat) (bc : Array Int) (P : List Int → Prop) [DecidablePred P]
    (hbc : ∀ i, i < shapeSize S → bc.getD i 0 = if P (subPos (unravelI S i) (centreOf S)) then 1 else 0)
    (kh : List Int × Int) :
    kh ∈ support S bc true ↔ kh.1 ∈ boxOffsets S ∧ P kh.1 ∧ kh.2 = 1 := by
  rw [mem_support, mem_boxOffsets]
  constructor
  · rintro ⟨i, hi, hne, rfl⟩
    have e := hbc i hi
    by_cases hg : P (subPos (unravelI S i) (centreOf S))
    · rw [if_pos hg] at e
      exact ⟨⟨unravelI S i, inside_unravelI S i hi, rfl⟩, hg, e⟩
    · rw [if_neg hg] at e
      exact absurd e (hne rfl)
  · rintro ⟨⟨p, hp, hk⟩, hg, h1⟩
    have hi := ravelI_lt S p hp
    have e := hbc _ hi
    rw [unravelI_ravelI S p hp, ← hk, if_pos hg] at e
    exact ⟨ravelI S p, hi, fun _ => by rw [e]; decide, by
      rw [e, unravelI_ravelI S p hp]; exact Prod.ext hk h1⟩

theorem flatHeights_of_const (hs : List Int) (c : Int) (h : ∀ x ∈ hs, x = c) : flatHeights hs = true := by
  cases hs with
  | nil => rfl
  | cons a t =>
    simp only [flatHeights, List.all_eq_true, beq_iff_eq]
    intro x hx
    rw [h x (by simp [hx]), h a (by simp)]

/-- such an element passes the driver's regularity test as soon as the predicate is inherited by every
    offset between `0` and a member; it is flat -/
theorem indicator_regular (S : List Nat) (bc : Array Int) (P : List Int → Prop) [DecidablePred P]
    (hbc : ∀ i, i < shapeSize S → bc.getD i 0 = if P (subPos (unravelI S i) (centreOf S)) then 1 else 0)
    (hg : ∀ k' k, between k' k = true → P k → P k') :
    let sup := support S bc true
    starShaped S (sup.map (·.1)) = true ∧ flatHeights (sup.map (·.2)) = true ∧ (∀ kh ∈ sup, kh.2 = 1) := by
  intro sup
  have hones : ∀ kh ∈ sup, kh.2 = 1 := fun kh hkh => ((mem_support_indicator S bc P hbc kh).mp hkh).2.2
  refine ⟨?_, ?_, hones⟩
  · rw [starShaped_iff]
    intro k hk k' hk' hb
    obtain ⟨kh, hkh, rfl⟩ := List.mem_map.mp hk
    exact List.mem_map.mpr ⟨(k', 1), (mem_support_indicator S bc P hbc _).mpr
      ⟨hk', hg k' kh.1 hb ((mem_support_indicator S bc P hbc kh).mp hkh).2.1, rfl⟩, rfl⟩
  · apply flatHeights_of_const _ 1
    intro x hx
    obtain ⟨kh, hkh, rfl⟩ := List.mem_map.mp hx
    exact hones kh hkh

/-! ### the symmetric box `{-r..r}^d` -/

theorem centreOf_replicate (d r : Nat) : centreOf (List.replicate d (2 * r + 1)) = List.replicate d (r : Int) := by
  unfold centreOf
  rw [List.map_replicate]
  congr 1
  have : (2 * r + 1) / 2 = r := by omega
  rw [this]

theorem subPos_replicate (d : Nat) (r : Int) (p : List Int) (h : p.length = d) :
    subPos p (List.replicate d r) = p.map (· - r) := by
  induction d generalizing p with
  | zero => cases p <;> simp_all [subPos]
  | succ d ih =>
    cases p with
    | nil => simp at h
    | cons c cs => simp only [List.replicate_succ, subPos, List.map_cons, ih cs (by simpa using h)]

/-- offsets of the centred odd box: all coordinates in `[-r, r]` -/
theorem mem_boxOffsets_sym (d r : Nat) (k : List Int) :
    k ∈ boxOffsets (List.replicate d (2 * r + 1)) ↔
      k.length = d ∧ ∀ x ∈ k, -(r : Int) ≤ x ∧ x ≤ r := by
  induction d generalizing k with
  | zero =>
    rw [List.replicate_zero, mem_boxOffsets_nil]
    exact ⟨fun h => h ▸ ⟨rfl, fun _ hx => by cases hx⟩, fun h => List.length_eq_zero_iff.mp h.1⟩
  | succ d ih =>
    rw [List.replicate_succ, mem_boxOffsets_cons]
    constructor
    · rintro ⟨a, as, rfl, ha, has⟩
      obtain ⟨hl, hx⟩ := (ih as).mp has
      exact ⟨by rw [List.length_cons, hl], List.forall_mem_cons.mpr ⟨by omega, hx⟩⟩
    · rintro ⟨hl, hx⟩
      obtain _ | ⟨a, as⟩ := k
      · cases hl
      have := List.forall_mem_cons.mp hx
      exact ⟨a, as, rfl, by omega, (ih as).mpr ⟨Nat.succ.inj hl, this.2⟩⟩

/-! ### norms -/

def l1N : List Int → Int
  | [] => 0
  | x :: xs => (x.natAbs : Int) + l1N xs

def sqN : List Int → Int
  | [] => 0
  | x :: xs => x * x + sqN xs

theorem l1_fold (p : List Int) (c : Int) :
    (p.map fun x => ((x - c).natAbs : Int)).foldl (· + ·) 0 = l1N (p.map (· - c)) := by
  induction p with
  | nil => rfl
  | cons x t ih =>
    rw [foldl_add_sum] at ih
    simp only [List.map_cons, List.foldl_cons, l1N]; rw [foldl_add_sum]; omega

theorem sq_fold (p : List Int) (c : Int) :
    (p.map fun x => (x - c) * (x - c)).foldl (· + ·) 0 = sqN (p.map (· - c)) := by
  induction p with
  | nil => rfl
  | cons x t ih =>
    rw [foldl_add_sum] at ih
    simp only [List.map_cons, List.foldl_cons, sqN]; rw [foldl_add_sum]; omega

theorem sq_le_of_between (a b : Int) (h : (0 ≤ a ∧ a ≤ b) ∨ (b ≤ a ∧ a ≤ 0)) : a * a ≤ b * b := by
  rcases h with ⟨h0, h1⟩ | ⟨h1, h0⟩
  · exact Int.mul_le_mul h1 h1 h0 (by omega)
  · have := Int.mul_le_mul (show -a ≤ -b by omega) (show -a ≤ -b by omega) (by omega) (by omega)
    rwa [Int.neg_mul_neg, Int.neg_mul_neg] at this

theorem sqN_nonneg (k : List Int) : 0 ≤ sqN k := by
  induction k with
  | nil => simp [sqN]
  | cons a t ih =>
    have := sq_le_of_between 0 a (by omega)
    simp only [sqN]; omega

theorem norms_between (k' k : List Int) (h : between k' k = true) : l1N k' ≤ l1N k ∧ sqN k' ≤ sqN k := by
  induction k' generalizing k with
  | nil => cases k with
    | nil => simp [l1N, sqN]
    | cons _ _ => simp [between] at h
  | cons a as ih =>
    cases k with
    | nil => simp [between] at h
    | cons b bs =>
      rw [between_cons] at h
      obtain ⟨h1, h2⟩ := ih bs h.2
      have := sq_le_of_between a b h.1
      simp only [l1N, sqN]
      constructor <;> omega

theorem norms_neg (k : List Int) : l1N (negPos k) = l1N k ∧ sqN (negPos k) = sqN k := by
  induction k with
  | nil => simp [negPos, l1N, sqN]
  | cons a as ih =>
    simp only [negPos, List.map_cons, l1N, sqN] at ih ⊢
    rw [ih.1, ih.2, Int.neg_mul_neg]
    constructor <;> omega

theorem norms_zero (d : Nat) : l1N (List.replicate d 0) = 0 ∧ sqN (List.replicate d 0) = 0 := by
  induction d with
  | zero => simp [l1N, sqN]
  | succ d ih => simp [List.replicate_succ, l1N, sqN, ih.1, ih.2]


/-! ### ball-shaped elements in the centred odd box -/

/-- the 0/1 table of `{k ∈ {-ρ..ρ}^d | P k}` in C order -/
def ballElem (d ρ : Nat) (P : List Int → Prop) [DecidablePred P] : Array Int :=
  ((allPos (List.replicate d (2 * ρ + 1))).map fun p =>
    if P (p.map (· - (ρ : Int))) then (1 : Int) else 0).toArray

section
variable (d ρ : Nat) (P : List Int → Prop) [DecidablePred P]

theorem ballElem_indicator (i : Nat) (hi : i < shapeSize (List.replicate d (2 * ρ + 1))) :
    (ballElem d ρ P).getD i 0 =
      if P (subPos (unravelI (List.replicate d (2 * ρ + 1)) i) (centreOf (List.replicate d (2 * ρ + 1))))
      then 1 else 0 := by
  rw [ballElem, getD_map_allPos _ _ i 0 hi, centreOf_replicate,
    subPos_replicate d ρ _ (by rw [unravelI_length, List.length_replicate])]

theorem mem_ball_support (kh : List Int × Int) :
    kh ∈ support (List.replicate d (2 * ρ + 1)) (ballElem d ρ P) true ↔
      kh.1 ∈ boxOffsets (List.replicate d (2 * ρ + 1)) ∧ P kh.1 ∧ kh.2 = 1 :=
  mem_support_indicator _ _ P (ballElem_indicator d ρ P) kh

theorem mem_ball_members (k : List Int) :
    k ∈ (support (List.replicate d (2 * ρ + 1)) (ballElem d ρ P) true).map (·.1) ↔
      k ∈ boxOffsets (List.replicate d (2 * ρ + 1)) ∧ P k := by
  rw [List.mem_map]
  constructor
  · rintro ⟨kh, hkh, rfl⟩
    have := (mem_ball_support d ρ P kh).mp hkh
    exact ⟨this.1, this.2.1⟩
  · rintro ⟨h1, h2⟩
    exact ⟨(k, 1), (mem_ball_support d ρ P (k, 1)).mpr ⟨h1, h2, rfl⟩, rfl⟩

theorem ballElem_entries (i : Nat) (hi : i < shapeSize (List.replicate d (2 * ρ + 1))) :
    (ballElem d ρ P).getD i 0 = 0 ∨ (ballElem d ρ P).getD i 0 = 1 := by
  rw [ballElem_indicator d ρ P i hi]
  split
  · right; rfl
  · left; rfl

end

theorem replicate_odd (d ρ : Nat) : ∀ b ∈ List.replicate d (2 * ρ + 1), b % 2 = 1 :=
  fun b hb => by rw [(List.mem_replicate.mp hb).2]; omega

theorem negPos_boxOffsets_odd (S : List Nat) (hodd : ∀ b ∈ S, b % 2 = 1) (k : List Int)
    (h : k ∈ boxOffsets S) : negPos k ∈ boxOffsets S := by
  induction S generalizing k with
  | nil => rw [(mem_boxOffsets_nil k).mp h]; exact (mem_boxOffsets_nil _).mpr rfl
  | cons b bs ih =>
    obtain ⟨a, as, rfl, ha, has⟩ := (mem_boxOffsets_cons b bs k).mp h
    have hb := hodd b List.mem_cons_self
    exact (mem_boxOffsets_cons b bs _).mpr ⟨-a, negPos as, rfl, by omega,
      ih (fun b hb => hodd b (List.mem_cons_of_mem _ hb)) as has⟩

theorem zero_boxOffsets_pos (S : List Nat) (hpos : ∀ b ∈ S, 0 < b) :
    List.replicate S.length (0 : Int) ∈ boxOffsets S := by
  induction S with
  | nil => exact (mem_boxOffsets_nil _).mpr rfl
  | cons b bs ih =>
    have hb := hpos b List.mem_cons_self
    exact (mem_boxOffsets_cons b bs _).mpr
      ⟨0, _, rfl, by omega, ih fun b hb => hpos b (List.mem_cons_of_mem _ hb)⟩

/-- what `C01_se_tables` says of crosses and disks, for the ball `ballElem d ρ P` of any set `P` of offsets that
    contains, with a member, every offset between `0` and it and its reflection -/
theorem ball_props (d ρ : Nat) (P : List Int → Prop) [DecidablePred P]
    (hP : ∀ k' k, between k' k = true → P k → P k') (hneg : ∀ k, P k → P (negPos k)) :
    let M := support (List.replicate d (2 * ρ + 1)) (ballElem d ρ P) true
    (∀ k, k ∈ M.map (·.1) ↔ (k.length = d ∧ ∀ x ∈ k, -(ρ : Int) ≤ x ∧ x ≤ ρ) ∧ P k) ∧
    (∀ kh ∈ M, kh.2 = 1) ∧
    starShaped (List.replicate d (2 * ρ + 1)) (M.map (·.1)) = true ∧
    flatHeights (M.map (·.2)) = true ∧
    (∀ k ∈ M.map (·.1), negPos k ∈ M.map (·.1)) ∧
    (P (List.replicate d 0) → List.replicate d 0 ∈ M.map (·.1)) ∧
    ((∀ k, ¬ P k) → M = []) := by
  intro M
  obtain ⟨h1, h2, h3⟩ := indicator_regular _ _ P (ballElem_indicator d ρ P) hP
  refine ⟨?_, h3, h1, h2, ?_, ?_, ?_⟩
  · intro k; rw [mem_ball_members, mem_boxOffsets_sym]
  · intro k hk
    rw [mem_ball_members] at hk ⊢
    exact ⟨negPos_boxOffsets_odd _ (replicate_odd d ρ) k hk.1, hneg k hk.2⟩
  · intro h0
    rw [mem_ball_members]
    refine ⟨?_, h0⟩
    simpa using zero_boxOffsets_pos (List.replicate d (2 * ρ + 1)) fun b hb => by
      have := replicate_odd d ρ b hb; omega
  · intro hnone
    apply List.eq_nil_iff_forall_not_mem.mpr
    intro kh hkh
    exact hnone _ ((mem_ball_support d ρ P kh).mp hkh).2.1

/-! ### `crossElem`, `diskElem` are such balls: the ℓ1 ball of radius `r` in `{-1,0,1}^d`, the open Euclidean ball of
    radius `r` in `{-r..r}^d`; neither norm grows towards `0` or under reflection (`norms_between`, `norms_neg`) -/

theorem crossElem_eq (d : Nat) (r : Int) : crossElem d r = ballElem d 1 (l1N · ≤ r) := by
  unfold crossElem ballElem
  simp only [l1_fold]
  rfl

theorem diskElem_eq (d r : Nat) : diskElem d r = ballElem d r (sqN · < (r : Int) * r) := by
  unfold diskElem ballElem
  simp only [sq_fold, Int.natCast_mul]

theorem cross_props (d : Nat) (r : Int) :
    let M := support (List.replicate d 3) (crossElem d r) true
    (∀ k, k ∈ M.map (·.1) ↔ (k.length = d ∧ ∀ x ∈ k, -1 ≤ x ∧ x ≤ 1) ∧ l1N k ≤ r) ∧
    (∀ kh ∈ M, kh.2 = 1) ∧
    starShaped (List.replicate d 3) (M.map (·.1)) = true ∧ flatHeights (M.map (·.2)) = true ∧
    (∀ k ∈ M.map (·.1), negPos k ∈ M.map (·.1)) ∧
    (0 ≤ r → List.replicate d 0 ∈ M.map (·.1)) := by
  have h := ball_props d 1 (l1N · ≤ r) (fun k' k hb => Int.le_trans (norms_between k' k hb).1)
    fun k hk => (norms_neg k).1 ▸ hk
  rw [← crossElem_eq] at h
  obtain ⟨h1, h2, h3, h4, h5, h6, _⟩ := h
  exact ⟨h1, h2, h3, h4, h5, fun hr => h6 (by rw [(norms_zero d).1]; exact hr)⟩

theorem disk_props (d r : Nat) :
    let M := support (List.replicate d (2 * r + 1)) (diskElem d r) true
    (∀ k, k ∈ M.map (·.1) ↔ (k.length = d ∧ ∀ x ∈ k, -(r : Int) ≤ x ∧ x ≤ r) ∧ sqN k < (r : Int) * r) ∧
    (∀ kh ∈ M, kh.2 = 1) ∧
    starShaped (List.replicate d (2 * r + 1)) (M.map (·.1)) = true ∧ flatHeights (M.map (·.2)) = true ∧
    (∀ k ∈ M.map (·.1), negPos k ∈ M.map (·.1)) ∧
    (1 ≤ r → List.replicate d 0 ∈ M.map (·.1)) ∧
    (r = 0 → M = []) := by
  have h := ball_props d r (sqN · < (r : Int) * r) (fun k' k hb => Int.lt_of_le_of_lt (norms_between k' k hb).2)
    fun k hk => (norms_neg k).2 ▸ hk
  rw [← diskElem_eq] at h
  obtain ⟨h1, h2, h3, h4, h5, h6, h7⟩ := h
  refine ⟨h1, h2, h3, h4, h5, fun hr => h6 ?_, fun hr => h7 fun k => ?_⟩
  · rw [(norms_zero d).2]; exact Int.mul_pos (by omega) (by omega)
  · have := sqN_nonneg k
    subst hr; omega

theorem crossElem_size (d : Nat) (r : Int) : (crossElem d r).size = shapeSize (List.replicate d 3) := by
  simp [crossElem, allPos]

theorem crossElem_01 (d : Nat) (r : Int) (i : Nat) :
    (crossElem d r).getD i 0 = 0 ∨ (crossElem d r).getD i 0 = 1 := by
  by_cases hi : i < shapeSize (List.replicate d 3)
  · rw [crossElem_eq]; exact ballElem_entries _ 1 _ i hi
  · left
    rw [Array.getD_eq_getD_getElem?, Array.getElem?_eq_none (by rw [crossElem_size]; omega)]; rfl

/-! ### members as the kernels see them -/

/-- bool images: the compressed support consists of members only -/
theorem support_filter_bool (S : List Nat) (bc : Array Int) :
    (support S bc true).filter (isMember dtBool) = support S bc true :=
  List.filter_eq_self.mpr (isMember_support_true S bc)

/-- unsigned images: the members of the uncompressed support are the non-zero entries -/
theorem support_filter_unsigned (dt : DT) (hlo : dt.lo = 0) (hnb : dt.isBool = false) (S : List Nat)
    (bc : Array Int) :
    (support S bc false).filter (isMember dt) = support S bc true := by
  unfold support
  rw [List.filter_filterMap]
  congr 1
  funext i
  simp only [Bool.false_and, Bool.true_and, Bool.false_eq_true, if_false, Option.filter_some,
    isMember, hnb, hlo]
  by_cases h : bc.getD i 0 = 0
  · simp [h]
  · simp

/-- all-ones box: every box offset is a member (the element of the predicate that is always true) -/
theorem mem_box_members (S : List Nat) (bc : Array Int) (hbc : ∀ i, i < shapeSize S → bc.getD i 0 = 1)
    (kh : List Int × Int) :
    kh ∈ support S bc true ↔ kh.1 ∈ boxOffsets S ∧ kh.2 = 1 :=
  (mem_support_indicator S bc (fun _ => True) (fun i hi => by rw [hbc i hi]; rfl) kh).trans
    ⟨fun h => ⟨h.1, h.2.2⟩, fun h => ⟨h.1, trivial, h.2⟩⟩

theorem box_regular (S : List Nat) (bc : Array Int) (hbc : ∀ i, i < shapeSize S → bc.getD i 0 = 1) :
    let sup := support S bc true
    starShaped S (sup.map (·.1)) = true ∧ flatHeights (sup.map (·.2)) = true ∧ (∀ kh ∈ sup, kh.2 = 1) :=
  indicator_regular S bc (fun _ => True) (fun i hi => by rw [hbc i hi]; rfl) (fun _ _ _ _ => trivial)

theorem support_heights (S : List Nat) (bc : Array Int) (c : Bool) (kh : List Int × Int)
    (h : kh ∈ support S bc c) : ∃ i, i < shapeSize S ∧ kh.2 = bc.getD i 0 := by
  obtain ⟨i, hi, _, rfl⟩ := (mem_support S bc c kh).mp h
  exact ⟨i, hi, rfl⟩

/-- cross, disk and all-ones box (of any sides): rank, 0/1 entries, star-shaped footprint -/
theorem family_star01 (d : Nat) (S : List Nat) (bc : Array Int)
    (h : (∃ r : Int, S = List.replicate d 3 ∧ bc = crossElem d r) ∨
         (∃ r : Nat, S = List.replicate d (2 * r + 1) ∧ bc = diskElem d r) ∨
         (S.length = d ∧ ∀ i, i < shapeSize S → bc.getD i 0 = 1)) :
    S.length = d ∧ (∀ i, i < shapeSize S → bc.getD i 0 = 0 ∨ bc.getD i 0 = 1) ∧
      starShaped S ((support S bc true).map (·.1)) = true := by
  rcases h with ⟨r, rfl, rfl⟩ | ⟨r, rfl, rfl⟩ | ⟨hl, h1⟩
  · exact ⟨by simp, fun i _ => crossElem_01 d r i, (cross_props d r).2.2.1⟩
  · exact ⟨by simp, diskElem_eq d r ▸ ballElem_entries d r _, (disk_props d r).2.2.1⟩
  · exact ⟨hl, fun i hi => Or.inr (h1 i hi), (box_regular S bc h1).1⟩

/-! ### the three families of elements the wrappers build -/

/-- `(S, bc)` is a cross `crossElem d r` (any radius), a disk `diskElem d r` (any radius), or an
    all-ones box of rank `d` whose sides are all odd -/
def CrossBoxDisk (d : Nat) (S : List Nat) (bc : Array Int) : Prop :=
  (∃ r : Int, S = List.replicate d 3 ∧ bc = crossElem d r) ∨
  (∃ r : Nat, S = List.replicate d (2 * r + 1) ∧ bc = diskElem d r) ∨
  (S.length = d ∧ (∀ b ∈ S, b % 2 = 1) ∧ ∀ i, i < shapeSize S → bc.getD i 0 = 1)

/-- the same families with the centre present: cross of radius `r ≥ 0`, disk of radius `r ≥ 1`
    (`disk(0)` is the empty element), any all-ones odd box -/
def CentredCrossBoxDisk (d : Nat) (S : List Nat) (bc : Array Int) : Prop :=
  (∃ r : Int, 0 ≤ r ∧ S = List.replicate d 3 ∧ bc = crossElem d r) ∨
  (∃ r : Nat, 1 ≤ r ∧ S = List.replicate d (2 * r + 1) ∧ bc = diskElem d r) ∨
  (S.length = d ∧ (∀ b ∈ S, b % 2 = 1) ∧ ∀ i, i < shapeSize S → bc.getD i 0 = 1)

/-- what the three families share -/
structure RegularElem (d : Nat) (S : List Nat) (bc : Array Int) : Prop where
  rank : S.length = d
  odd : ∀ b ∈ S, b % 2 = 1
  entries : ∀ i, i < shapeSize S → bc.getD i 0 = 0 ∨ bc.getD i 0 = 1
  star : starShaped S ((support S bc true).map (·.1)) = true
  neg : ∀ k ∈ (support S bc true).map (·.1), negPos k ∈ (support S bc true).map (·.1)

end Mahotas.C01
