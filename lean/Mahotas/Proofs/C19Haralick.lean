/-
C19 — sanity of the normalised co-occurrence matrix and its marginals (over any ordered field).
The definitions (`gsum`, `normMat`, `matAt`, `pplusG`, `pminusG`, `asmG`) are the generic ones of
`Model/C19.lean` that the driver runs at `Float`.

The four marginals of `haralick13` are distributions of a statistic `h(i,j)` under the matrix `P`:
`p_x` (`h = j`), `p_y` (`h = i`), `p_{x+y}` (`h = i + j`), `p_{x−y}` (`h = |i − j|`). `fiberSum m h P k` is entry `k` of
such a distribution; sums against it regroup into double sums over the matrix (`sum_mul_fiberSum`).

The file opens with `gsum` as a list sum and list sums as `Finset` sums (`gsum_eq_sum` … `sum_toList_matAt`), which
`C19Zernike` imports this file for; the list sums themselves are in `Proofs/Sums.lean`.
-/
import Mahotas.Model.C19
import Mahotas.Proofs.Sums
import Mathlib.Algebra.BigOperators.Group.Finset.Basic
import Mathlib.Algebra.BigOperators.Group.Finset.Piecewise
import Mathlib.Algebra.BigOperators.Group.Finset.Sigma
import Mathlib.Algebra.BigOperators.Ring.Finset
import Mathlib.Algebra.BigOperators.Field
import Mathlib.Algebra.Order.BigOperators.Group.Finset
import Mathlib.Algebra.Order.BigOperators.Group.List
import Mathlib.Algebra.Order.Field.Basic
import Mathlib.Tactic.Ring
namespace Mahotas.C19
open Mahotas
open Finset (range)

theorem gsum_eq_sum {β : Type} [AddMonoid β] (xs : List β) : gsum 0 xs = xs.sum := by
  rw [gsum, foldl_add_sum, zero_add]

/-- the `Finset` sum over `range n` is, by definition, the list sum over `List.range n` -/
theorem sum_map_range {β : Type} [AddCommMonoid β] (f : ℕ → β) (n : ℕ) :
    ((List.range n).map f).sum = ∑ i ∈ range n, f i := rfl

theorem sum_map_getD {β γ : Type} [AddCommMonoid γ] (l : List β) (f : β → γ) (d : β) :
    (l.map f).sum = ∑ k ∈ range l.length, f (l.getD k d) :=
  congrArg List.sum (range_map_getD_comp l d f).symm

theorem gsum_map_range {β : Type} [AddCommMonoid β] (f : ℕ → β) (n : ℕ) :
    gsum 0 ((List.range n).map f) = ∑ i ∈ range n, f i := by
  rw [gsum_eq_sum, sum_map_range]

theorem gsum_allPairs {β : Type} [AddCommMonoid β] (m : ℕ) (F : ℕ × ℕ → β) :
    gsum 0 ((allPairs m).map F) = ∑ i ∈ range m, ∑ j ∈ range m, F (i, j) := by
  rw [gsum_eq_sum, allPairs, List.map_flatMap, sum_flatMap', sum_map_range]
  refine Finset.sum_congr rfl fun i _ => ?_
  rw [List.map_map, sum_map_range]
  rfl

theorem sum_pairs {β : Type} [AddCommMonoid β] (f : ℕ → β) (n m : ℕ) :
    ∑ i ∈ range n, ∑ j ∈ range m, f (i * m + j) = ∑ k ∈ range (n * m), f k := by
  induction n with
  | zero => rw [Nat.zero_mul, Finset.sum_range_zero, Finset.sum_range_zero]
  | succ n ih =>
    rw [Finset.sum_range_succ, ih, Nat.succ_mul, Finset.sum_range_add]

theorem sum_toList_matAt {α β : Type} [AddCommMonoid β] (zero : α) (m : ℕ) (p : Array α) (hsz : p.size = m * m)
    (g : α → β) : (p.toList.map g).sum = ∑ i ∈ range m, ∑ j ∈ range m, g (matAt zero m p i j) := by
  unfold matAt
  rw [sum_pairs (fun k => g (p.getD k zero)), sum_map_getD _ _ zero, Array.length_toList, hsz]
  refine Finset.sum_congr rfl fun k _ => ?_
  rw [Array.getD_eq_getD_getElem?, List.getD_eq_getElem?_getD, Array.getElem?_toList]

section field
variable {α : Type} [Field α] [LinearOrder α] [IsStrictOrderedRing α]

omit [LinearOrder α] [IsStrictOrderedRing α] in
theorem normMat_size (c : List ℕ) : (normMat (Nat.cast : ℕ → α) c).size = c.length := by
  simp [normMat]

omit [LinearOrder α] [IsStrictOrderedRing α] in
theorem normMat_getD (c : List ℕ) (k : ℕ) :
    (normMat (Nat.cast : ℕ → α) c).getD k 0 = ((c.getD k 0 : ℕ) : α) / ((c.sum : ℕ) : α) := by
  unfold normMat
  rw [← gsum, gsum_eq_sum]
  by_cases hk : k < c.length
  · simp [Array.getD, hk, List.getD_eq_getElem?_getD]
  · simp [Array.getD, hk, List.getD_eq_getElem?_getD]

omit [LinearOrder α] [IsStrictOrderedRing α] in
theorem normMat_toList (c : List ℕ) :
    (normMat (Nat.cast : ℕ → α) c).toList = c.map fun (v : ℕ) => (v : α) / ((c.sum : ℕ) : α) := by
  rw [normMat, ← gsum, gsum_eq_sum, List.toList_toArray]

/-- a count divided by the total of its list lies in `[0, 1]` (also when the total is 0: `x / 0 = 0`) -/
theorem count_div_sum_mem (c : List ℕ) {v : ℕ} (hv : v ∈ c) :
    (0 : α) ≤ (v : α) / ((c.sum : ℕ) : α) ∧ (v : α) / ((c.sum : ℕ) : α) ≤ 1 :=
  ⟨div_nonneg (Nat.cast_nonneg _) (Nat.cast_nonneg _),
   div_le_one_of_le₀ (Nat.cast_le.2 (List.single_le_sum (fun _ _ => Nat.zero_le _) v hv)) (Nat.cast_nonneg _)⟩

theorem sum_count_div_sum (c : List ℕ) (hT : c.sum ≠ 0) :
    (c.map fun (v : ℕ) => (v : α) / ((c.sum : ℕ) : α)).sum = 1 := by
  have e : (fun v : ℕ => (v : α) / ((c.sum : ℕ) : α)) = (· / ((c.sum : ℕ) : α)) ∘ Nat.cast := rfl
  rw [e, ← List.map_map, sum_map_div, ← Nat.cast_list_sum]
  exact div_self (Nat.cast_ne_zero.2 hT)

theorem normMat_sum (c : List ℕ) (hT : c.sum ≠ 0) :
    gsum 0 (normMat (Nat.cast : ℕ → α) c).toList = 1 := by
  rw [gsum_eq_sum, normMat_toList]
  exact sum_count_div_sum c hT

theorem normMat_nonneg (c : List ℕ) (k : ℕ) : (0 : α) ≤ (normMat (Nat.cast : ℕ → α) c).getD k 0 := by
  rw [normMat_getD]
  exact div_nonneg (Nat.cast_nonneg _) (Nat.cast_nonneg _)

theorem matAt_nonneg (m : ℕ) (c : List ℕ) (i j : ℕ) : (0 : α) ≤ matAt 0 m (normMat (Nat.cast : ℕ → α) c) i j :=
  normMat_nonneg c _

theorem normMat_le_one (c : List ℕ) (k : ℕ) :
    (normMat (Nat.cast : ℕ → α) c).getD k 0 ≤ 1 := by
  rw [normMat_getD, List.getD_eq_getElem?_getD]
  cases h : c[k]? with
  | none => rw [Option.getD_none, Nat.cast_zero, zero_div]; exact zero_le_one
  | some v => exact (count_div_sum_mem c (List.mem_of_getElem? h)).2

theorem matAt_total (m : ℕ) (c : List ℕ) (hlen : c.length = m * m) (hT : c.sum ≠ 0) :
    ∑ i ∈ range m, ∑ j ∈ range m, matAt (0 : α) m (normMat (Nat.cast : ℕ → α) c) i j = 1 := by
  have h := sum_toList_matAt (0 : α) m (normMat Nat.cast c) ((normMat_size c).trans hlen) id
  rw [List.map_id, ← gsum_eq_sum, normMat_sum c hT] at h
  exact h.symm

theorem asm_bounds (m : ℕ) (c : List ℕ) (hlen : c.length = m * m) (hT : c.sum ≠ 0) :
    0 ≤ asmG (0 : α) m (matAt 0 m (normMat (Nat.cast : ℕ → α) c)) ∧
    asmG (0 : α) m (matAt 0 m (normMat (Nat.cast : ℕ → α) c)) ≤ 1 := by
  unfold asmG
  rw [gsum_allPairs]
  constructor
  · exact Finset.sum_nonneg fun i _ => Finset.sum_nonneg fun j _ => mul_self_nonneg _
  · rw [← matAt_total (α := α) m c hlen hT]
    refine Finset.sum_le_sum fun i _ => Finset.sum_le_sum fun j _ => ?_
    exact mul_le_of_le_one_right (matAt_nonneg m c i j) (normMat_le_one c _)

end field

section fiber
variable {α : Type} [Field α] (m n : ℕ) (h : ℕ → ℕ → ℕ) (P : ℕ → ℕ → α)

/-- `Σ_{h(i,j)=k} P(i,j)` -/
def fiberSum (k : ℕ) : α := ∑ i ∈ range m, ∑ j ∈ range m, if h i j = k then P i j else 0

theorem sum_mul_fiberSum (hh : ∀ i < m, ∀ j < m, h i j < n) (g : ℕ → α) :
    ∑ k ∈ range n, g k * fiberSum m h P k = ∑ i ∈ range m, ∑ j ∈ range m, g (h i j) * P i j := by
  unfold fiberSum
  simp only [Finset.mul_sum, mul_ite, mul_zero]
  rw [Finset.sum_comm]
  refine Finset.sum_congr rfl fun i hi => ?_
  rw [Finset.sum_comm]
  refine Finset.sum_congr rfl fun j hj => ?_
  rw [Finset.sum_ite_eq, if_pos (Finset.mem_range.2 (hh i (Finset.mem_range.1 hi) j (Finset.mem_range.1 hj)))]

/-- the same for the list of the entries `k < n`, as the features read it -/
theorem gsum_mul_fiber (hh : ∀ i < m, ∀ j < m, h i j < n) (g : ℕ → α) :
    gsum 0 ((List.range n).map fun k => g k * ((List.range n).map (fiberSum m h P)).getD k 0) =
      ∑ i ∈ range m, ∑ j ∈ range m, g (h i j) * P i j := by
  rw [gsum_map_range, ← sum_mul_fiberSum m n h P hh g]
  exact Finset.sum_congr rfl fun k hk => by rw [getD_map_range _ _ _ _ (Finset.mem_range.1 hk)]

theorem sum_fiberSum (hh : ∀ i < m, ∀ j < m, h i j < n) :
    ∑ k ∈ range n, fiberSum m h P k = ∑ i ∈ range m, ∑ j ∈ range m, P i j := by
  simpa only [one_mul] using sum_mul_fiberSum m n h P hh fun _ => 1

theorem gsum_fiber (hh : ∀ i < m, ∀ j < m, h i j < n) :
    gsum 0 ((List.range n).map (fiberSum m h P)) = ∑ i ∈ range m, ∑ j ∈ range m, P i j :=
  (gsum_map_range _ n).trans (sum_fiberSum m n h P hh)

theorem fiberSum_nonneg [LinearOrder α] [IsStrictOrderedRing α] (h0 : ∀ i j, 0 ≤ P i j) (k : ℕ) :
    0 ≤ fiberSum m h P k :=
  Finset.sum_nonneg fun i _ => Finset.sum_nonneg fun j _ => by split; exacts [h0 i j, le_refl _]

/-- a marginal of a non-negative matrix of total 1 is a probability vector -/
theorem fiber_prob [LinearOrder α] [IsStrictOrderedRing α] (hh : ∀ i < m, ∀ j < m, h i j < n) (h0 : ∀ i j, 0 ≤ P i j)
    (h1 : ∑ i ∈ range m, ∑ j ∈ range m, P i j = 1) :
    ∑ k ∈ range n, fiberSum m h P k = 1 ∧ ∀ k < n, 0 ≤ fiberSum m h P k ∧ fiberSum m h P k ≤ 1 := by
  have hs := (sum_fiberSum m n h P hh).trans h1
  exact ⟨hs, fun k hk => ⟨fiberSum_nonneg m h P h0 k,
    hs ▸ Finset.single_le_sum (fun k _ => fiberSum_nonneg m h P h0 k) (Finset.mem_range.2 hk)⟩⟩

end fiber

section marginals
variable {α : Type} [Field α] (m : ℕ) (P : ℕ → ℕ → α)

theorem add_lt_two_mul {m i j : ℕ} (hi : i < m) (hj : j < m) : i + j < 2 * m := by omega

theorem absDiff_lt {i j m : ℕ} (hi : i < m) (hj : j < m) : absDiff i j < m := by
  unfold absDiff; split <;> omega

theorem colSum_getD (k : ℕ) (hk : k < m) : (colSumG (0 : α) m P).getD k 0 = ∑ i ∈ range m, P i k := by
  rw [colSumG, getD_map_range _ _ _ _ hk, gsum_map_range]

theorem rowSum_getD (k : ℕ) (hk : k < m) : (rowSumG (0 : α) m P).getD k 0 = ∑ j ∈ range m, P k j := by
  rw [rowSumG, getD_map_range _ _ _ _ hk, gsum_map_range]

theorem colSumG_eq : colSumG (0 : α) m P = (List.range m).map (fiberSum m (fun _ j => j) P) := by
  refine List.map_congr_left fun k hk => ?_
  rw [gsum_map_range]
  refine Finset.sum_congr rfl fun i _ => ?_
  rw [Finset.sum_ite_eq', if_pos (Finset.mem_range.2 (List.mem_range.1 hk))]

theorem rowSumG_eq : rowSumG (0 : α) m P = (List.range m).map (fiberSum m (fun i _ => i) P) := by
  refine List.map_congr_left fun k hk => ?_
  rw [gsum_map_range]
  show _ = ∑ i ∈ range m, ∑ j ∈ range m, if i = k then P i j else 0
  rw [Finset.sum_eq_single_of_mem k (Finset.mem_range.2 (List.mem_range.1 hk)) fun i _ hik =>
    Finset.sum_eq_zero fun j _ => if_neg hik]
  exact Finset.sum_congr rfl fun j _ => (if_pos rfl).symm

/-- `p_{x+y}` is the distribution of `i + j`: the fold of the code (one term per row) written over all pairs -/
theorem pplusG_eq : pplusG (0 : α) m P = (List.range (2 * m)).map (fiberSum m (· + ·) P) := by
  refine List.map_congr_left fun k _ => ?_
  rw [gsum_map_range]
  refine Finset.sum_congr rfl fun i _ => ?_
  by_cases hik : i ≤ k
  · have e : ∀ j, (i + j = k ↔ j = k - i) := fun j => by omega
    simp only [e, Finset.sum_ite_eq', Finset.mem_range, hik, true_and]
  · have e : ∀ j, ¬ (i + j = k) := fun j => by omega
    simp only [e, hik, false_and, if_false, Finset.sum_const_zero]

theorem pminusG_eq : pminusG (0 : α) m P = (List.range m).map (fiberSum m absDiff P) := by
  refine List.map_congr_left fun k _ => ?_
  rw [gsum_eq_sum, sum_flatMap', sum_map_range]
  refine Finset.sum_congr rfl fun i _ => ?_
  rw [sum_filterMap_ite (List.range m) (fun j => absDiff i j == k) (fun j => P i j), sum_map_range]
  simp only [beq_iff_eq]

theorem pplus_getD (k : ℕ) (hk : k < 2 * m) :
    (pplusG (0 : α) m P).getD k 0 =
      gsum 0 ((allPairs m).map fun (ij : ℕ × ℕ) => if ij.1 + ij.2 = k then P ij.1 ij.2 else 0) := by
  rw [pplusG_eq, getD_map_range _ _ _ _ hk, gsum_allPairs]
  rfl

theorem pminus_getD (k : ℕ) (hk : k < m) :
    (pminusG (0 : α) m P).getD k 0 =
      gsum 0 ((allPairs m).map fun (ij : ℕ × ℕ) => if absDiff ij.1 ij.2 = k then P ij.1 ij.2 else 0) := by
  rw [pminusG_eq, getD_map_range _ _ _ _ hk, gsum_allPairs]
  rfl

theorem pplus_sum : gsum 0 (pplusG (0 : α) m P) = ∑ i ∈ range m, ∑ j ∈ range m, P i j := by
  rw [pplusG_eq]
  exact gsum_fiber m _ _ P fun _ hi _ hj => add_lt_two_mul hi hj

theorem pminus_sum : gsum 0 (pminusG (0 : α) m P) = ∑ i ∈ range m, ∑ j ∈ range m, P i j := by
  rw [pminusG_eq]
  exact gsum_fiber m _ _ P fun _ hi _ hj => absDiff_lt hi hj

end marginals

end Mahotas.C19
