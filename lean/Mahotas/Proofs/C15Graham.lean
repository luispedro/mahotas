/-
C15 — convex hull model, one monotone-chain scan (`inPlaceScan`): for distinct input points the
prefix it returns is a strictly monotone, strictly convex chain from the first to the last sorted
point, and every input point lies on or to the right of every chain edge (`HullChain`). Then the two scans of
`grahamModel` together: the closed polygon is one-sided, contains the two extreme points, and
satisfies `hullOK` (`grahamModel_hullOK`).
-/
import Mahotas.Model.C15
import Mahotas.Proofs.C15Hull
import Mathlib.Data.List.GetD
import Mathlib.Data.List.Induction
import Mathlib.Data.List.Perm.Basic
import Mathlib.Data.List.Nodup
import Mathlib.Tactic.Linarith
import Mathlib.Tactic.Ring
namespace Mahotas.C15
open Mahotas

def lexLt (a b : Pt) : Prop := a.1 < b.1 ∨ (a.1 = b.1 ∧ a.2 < b.2)

/-- the strict order of the scan: lexicographic, reversed for the second scan -/
def ltR (rev : Bool) (a b : Pt) : Prop := if rev then lexLt b a else lexLt a b

theorem lexLt_irrefl (a : Pt) : ¬ lexLt a a := by
  unfold lexLt; omega

theorem lexLt_asymm {a b : Pt} (h1 : lexLt a b) (h2 : lexLt b a) : False := by
  unfold lexLt at h1 h2; omega

theorem lexLt_trans {a b c : Pt} (h1 : lexLt a b) (h2 : lexLt b c) : lexLt a c := by
  unfold lexLt at h1 h2 ⊢; omega

theorem lexLt_total (a b : Pt) : a = b ∨ lexLt a b ∨ lexLt b a := by
  by_cases e : a = b
  · exact Or.inl e
  · have : a.1 ≠ b.1 ∨ a.2 ≠ b.2 := by
      by_contra hc
      exact e (Prod.ext (by omega) (by omega))
    unfold lexLt
    omega

theorem ltR_irrefl (rev : Bool) (a : Pt) : ¬ ltR rev a a := by
  cases rev <;> exact lexLt_irrefl a

theorem ltR_asymm (rev : Bool) {a b : Pt} (h : ltR rev a b) : ¬ ltR rev b a := by
  cases rev <;> exact lexLt_asymm h

theorem ltR_trans (rev : Bool) {a b c : Pt} (h1 : ltR rev a b) (h2 : ltR rev b c) : ltR rev a c := by
  cases rev
  · exact lexLt_trans h1 h2
  · exact lexLt_trans h2 h1

theorem ltR_total (rev : Bool) (a b : Pt) : a = b ∨ ltR rev a b ∨ ltR rev b a := by
  cases rev
  · exact lexLt_total a b
  · exact (lexLt_total a b).imp_right Or.symm

theorem ltR_least_unique (rev : Bool) {X : List Pt} {a b : Pt} (ha : a ∈ X) (hb : b ∈ X)
    (hamin : ∀ p ∈ X, p = a ∨ ltR rev a p) (hbmin : ∀ p ∈ X, p = b ∨ ltR rev b p) : a = b := by
  rcases hamin b hb with e | h1
  · exact e.symm
  · rcases hbmin a ha with e | h2
    · exact e
    · exact absurd h2 (ltR_asymm rev h1)

/-- three vectors of the (lexicographically) positive half-plane: if `u` is clockwise of `v` and
    `w` counter-clockwise of `v` (both weakly) then `u` is weakly clockwise of `w` -/
theorem halfplane_trans (u1 u2 v1 v2 w1 w2 : ℤ)
    (hu : 0 < u1 ∨ (u1 = 0 ∧ 0 < u2)) (hv : 0 < v1 ∨ (v1 = 0 ∧ 0 < v2))
    (hw : 0 < w1 ∨ (w1 = 0 ∧ 0 < w2))
    (h1 : v1 * u2 - v2 * u1 ≤ 0) (h2 : 0 ≤ v1 * w2 - v2 * w1) : w1 * u2 - w2 * u1 ≤ 0 := by
  have hu1 : 0 ≤ u1 := by omega
  have hw1 : 0 ≤ w1 := by omega
  rcases hv with hv | ⟨hv, hv2⟩
  · have id : (w1 * u2 - w2 * u1) * v1 = (v1 * u2 - v2 * u1) * w1 - (v1 * w2 - v2 * w1) * u1 := by
      ring
    have r1 : (v1 * u2 - v2 * u1) * w1 ≤ 0 := mul_nonpos_of_nonpos_of_nonneg h1 hw1
    have r2 : 0 ≤ (v1 * w2 - v2 * w1) * u1 := mul_nonneg h2 hu1
    by_contra hc
    have : 0 < (w1 * u2 - w2 * u1) * v1 := mul_pos (by omega) hv
    omega
  · subst hv
    have hw0 : w1 = 0 := by
      by_contra hc
      have : 0 < v2 * w1 := mul_pos hv2 (by omega)
      omega
    subst hw0
    have : 0 < w2 := by omega
    have : 0 ≤ w2 * u1 := mul_nonneg (by omega) hu1
    omega

/-- the same for the steps `x → x'`, `y → y'`, `z → z'` between points in lexicographic order: the
    slope order of such steps is transitive -/
theorem slope_trans {x x' y y' z z' : Pt} (hu : lexLt x x') (hv : lexLt y y') (hw : lexLt z z')
    (h1 : (y'.1 - y.1) * (x'.2 - x.2) - (y'.2 - y.2) * (x'.1 - x.1) ≤ 0)
    (h2 : 0 ≤ (y'.1 - y.1) * (z'.2 - z.2) - (y'.2 - y.2) * (z'.1 - z.1)) :
    (z'.1 - z.1) * (x'.2 - x.2) - (z'.2 - z.2) * (x'.1 - x.1) ≤ 0 := by
  unfold lexLt at hu hv hw
  exact halfplane_trans _ _ _ _ _ _ (by omega) (by omega) (by omega) h1 h2

/-- and in either scan order: reversing all three steps changes no cross product -/
theorem slope_transR (rev : Bool) {x x' y y' z z' : Pt} (hu : ltR rev x x') (hv : ltR rev y y') (hw : ltR rev z z')
    (h1 : (y'.1 - y.1) * (x'.2 - x.2) - (y'.2 - y.2) * (x'.1 - x.1) ≤ 0)
    (h2 : 0 ≤ (y'.1 - y.1) * (z'.2 - z.2) - (y'.2 - y.2) * (z'.1 - z.1)) :
    (z'.1 - z.1) * (x'.2 - x.2) - (z'.2 - z.2) * (x'.1 - x.1) ≤ 0 := by
  cases rev
  · exact slope_trans hu hv hw h1 h2
  · have := slope_trans (x := x') (x' := x) (y := y') (y' := y) (z := z') (z' := z) hu hv hw
      (by linarith only [h1]) (by linarith only [h2])
    linarith only [this]

/-! ## four orientation lemmas for points in scan order: instances of `slope_transR` -/

/-- `b` is about to be popped (`p` is weakly left of `a → b`): whatever lies weakly right of
    `a → b` and after `a` lies weakly right of `a → p` -/
theorem turn_pop (rev : Bool) {a b p q : Pt} (hab : ltR rev a b) (hap : ltR rev a p)
    (haq : ltR rev a q) (h1 : 0 ≤ isLeft a b p) (h2 : isLeft a b q ≤ 0) : isLeft a p q ≤ 0 := by
  unfold isLeft at h1 h2 ⊢
  rw [mul_comm (p.1 - a.1)] at h1
  rw [mul_comm (q.1 - a.1)] at h2 ⊢
  exact slope_transR rev haq hab hap h2 h1

/-- a right turn at `a` (from `a' → a` to `a → p`): whatever lies weakly right of `a' → a` and
    before `a` lies weakly right of `a → p` -/
theorem turn_back (rev : Bool) {a' a p q : Pt} (h1 : ltR rev a' a) (h2 : ltR rev a p)
    (h3 : ltR rev q a) (t1 : isLeft a' a p ≤ 0) (t2 : isLeft a' a q ≤ 0) : isLeft a p q ≤ 0 := by
  unfold isLeft at t1 t2 ⊢
  have := slope_transR rev h2 h1 h3 (by linarith only [t1]) (by linarith only [t2])
  linarith only [this]

/-- two consecutive weak right turns `a b c`, `b c p` in scan order: `p` is weakly right of `a → b` -/
theorem turn_chain (rev : Bool) {a b c p : Pt} (h1 : ltR rev a b) (h2 : ltR rev b c)
    (h3 : ltR rev c p) (t1 : isLeft a b c ≤ 0) (t2 : isLeft b c p ≤ 0) : isLeft a b p ≤ 0 := by
  unfold isLeft at t1 t2 ⊢
  have := slope_transR rev h3 h2 h1 (by linarith only [t2]) (by linarith only [t1])
  linarith only [this, t1]

/-- along a strict right turn `c0 c1 c2` (in scan order) the height `isLeft a b ·` over a backward
    edge `a → b` has no weak local maximum at `c1` -/
theorem no_local_max (rev : Bool) {c0 c1 c2 a b : Pt} (h1 : ltR rev c0 c1) (h2 : ltR rev c1 c2)
    (ht : isLeft c0 c1 c2 < 0) (hab : ltR rev b a) :
    ¬ (isLeft a b c0 ≤ isLeft a b c1 ∧ isLeft a b c2 ≤ isLeft a b c1) := by
  rintro ⟨m1, m2⟩
  unfold isLeft at ht m1 m2
  have := slope_transR rev h1 hab h2 (by linarith only [m1]) (by linarith only [m2])
  linarith only [this, ht]

theorem isLeft_self_right (a p : Pt) : isLeft a p p = 0 := by unfold isLeft; ring
theorem isLeft_self_left (a p : Pt) : isLeft a p a = 0 := by unfold isLeft; ring

/-- `P[k]` as the model reads it -/
def rd (A : Array Pt) (k : Nat) : Pt := A.getD k (0, 0)

theorem rd_swapIfInBounds (A : Array Pt) {m i : Nat} (hm : m < A.size) (hi : i < A.size) (k : Nat) :
    rd (A.swapIfInBounds m i) k = if k = m then rd A i else if k = i then rd A m else rd A k := by
  unfold Array.swapIfInBounds
  rw [dif_pos hm, dif_pos hi]
  unfold rd
  simp only [Array.getD_eq_getD_getElem?, Array.getElem?_swap]
  by_cases h1 : k = m
  · subst h1
    by_cases h2 : i = k
    · subst h2; simp [hi]
    · simp [h2, hi]
  · by_cases h2 : k = i
    · subst h2; simp [h1, hm]
    · have h1' : ¬ m = k := fun e => h1 e.symm
      have h2' : ¬ i = k := fun e => h2 e.symm
      simp [h1, h2, h1', h2']

theorem popWhile_zero (A : Array Pt) (p : Pt) : popWhile A p 0 = 0 := by simp [popWhile]
theorem popWhile_one (A : Array Pt) (p : Pt) : popWhile A p 1 = 1 := by simp [popWhile]
theorem popWhile_succ_succ (A : Array Pt) (p : Pt) (n : Nat) : popWhile A p (n + 2) =
    if 0 ≤ isLeft (rd A n) (rd A (n + 1)) p then popWhile A p (n + 1) else n + 2 := by
  simp [popWhile, rd]

/-- `popWhile` only lowers the height, never below 1; the surviving top edge makes a strict right
    turn with `p`, and the last popped edge did not -/
theorem popWhile_spec (A : Array Pt) (p : Pt) (h : Nat) :
    popWhile A p h ≤ h ∧ (1 ≤ h → 1 ≤ popWhile A p h) ∧
      (∀ k, k + 2 = popWhile A p h → isLeft (rd A k) (rd A (k + 1)) p < 0) ∧
      (∀ k, k + 1 = popWhile A p h → popWhile A p h < h → 0 ≤ isLeft (rd A k) (rd A (k + 1)) p) := by
  induction h with
  | zero => rw [popWhile_zero]; simp
  | succ n ih =>
    cases n with
    | zero => rw [popWhile_one]; simp
    | succ n =>
      rw [popWhile_succ_succ]
      by_cases hc : 0 ≤ isLeft (rd A n) (rd A (n + 1)) p
      · rw [if_pos hc]
        obtain ⟨i1, i2, i3, i4⟩ := ih
        refine ⟨by omega, fun _ => i2 (by omega), i3, fun k hk _ => ?_⟩
        by_cases hlt : popWhile A p (n + 1) < n + 1
        · exact i4 k hk hlt
        · obtain rfl : k = n := by omega
          exact hc
      · rw [if_neg hc]
        refine ⟨Nat.le_refl _, fun _ => by omega, fun k hk => ?_, fun _ _ h => by omega⟩
        obtain rfl : k = n := by omega
        exact not_le.1 hc

/-- state of `for (i = 1; …)` before iteration `i`: `S` is the sorted array, `A` the current array,
    `h` the height of the stack kept in `A[0..h)` -/
structure ScanInv (rev : Bool) (S : Array Pt) (i : Nat) (A : Array Pt) (h : Nat) : Prop where
  size : A.size = S.size
  h1 : 1 ≤ h
  hi : h ≤ i
  rest : ∀ j, i ≤ j → rd A j = rd S j
  bot : rd A 0 = rd S 0
  top : rd A (h - 1) = rd S (i - 1)
  mem : ∀ k, k < h → ∃ j, j < i ∧ rd A k = rd S j
  mono : ∀ k, k + 1 < h → ltR rev (rd A k) (rd A (k + 1))
  conv : ∀ k, k + 2 < h → isLeft (rd A k) (rd A (k + 1)) (rd A (k + 2)) < 0
  under : ∀ k, k + 1 < h → ∀ j, j < i → isLeft (rd A k) (rd A (k + 1)) (rd S j) ≤ 0

/-- a later point `p` that makes a strict right turn with the top edge of the chain `A[0..m)` lies
    weakly right of every edge of the chain -/
theorem ScanInv.old_edges {rev : Bool} {S A : Array Pt} {i h : Nat} (inv : ScanInv rev S i A h) {p : Pt}
    (hlt : ∀ k, k < h → ltR rev (rd A k) p) {m : Nat} (hm : m ≤ h)
    (m_turn : ∀ k, k + 2 = m → isLeft (rd A k) (rd A (k + 1)) p < 0) :
    ∀ d k, k + 2 + d = m → isLeft (rd A k) (rd A (k + 1)) p ≤ 0 := by
  intro d
  induction d with
  | zero => exact fun k hk => le_of_lt (m_turn k hk)
  | succ d ih =>
    intro k hk
    exact turn_chain rev (inv.mono k (by omega)) (inv.mono (k + 1) (by omega)) (hlt (k + 2) (by omega))
      (le_of_lt (inv.conv k (by omega))) (ih (k + 1) (by omega))

/-- every point processed so far lies weakly right of the new top edge `A[m-1] → p`: a point after
    `A[m-1]` was right of the edge popped last, a point before it is right of the edge below -/
theorem ScanInv.new_edge {rev : Bool} {S A : Array Pt} {i h : Nat} (inv : ScanInv rev S i A h)
    (hS : ∀ j1 j2, j1 < j2 → j2 < S.size → ltR rev (rd S j1) (rd S j2)) (hiN : i < S.size) {p : Pt}
    (hlt : ∀ k, k < h → ltR rev (rd A k) p) {m : Nat} (hm : m ≤ h)
    (m_turn : ∀ k, k + 2 = m → isLeft (rd A k) (rd A (k + 1)) p < 0)
    (m_pop : ∀ k, k + 1 = m → m < h → 0 ≤ isLeft (rd A k) (rd A (k + 1)) p)
    {k : Nat} (e : k + 1 = m) {j : Nat} (hj : j < i) : isLeft (rd A k) p (rd S j) ≤ 0 := by
  rcases ltR_total rev (rd A k) (rd S j) with heq | hlt' | hgt
  · rw [← heq]; exact le_of_eq (isLeft_self_left _ _)
  · have hmh : m < h := by
      by_contra hc
      have ea : rd A k = rd S (i - 1) := by rw [show k = h - 1 by omega]; exact inv.top
      rw [ea] at hlt'
      by_cases ej2 : j = i - 1
      · rw [ej2] at hlt'; exact ltR_irrefl rev _ hlt'
      · exact ltR_asymm rev hlt' (hS j (i - 1) (by omega) (by omega))
    exact turn_pop rev (inv.mono k (by omega)) (hlt k (by omega)) hlt' (m_pop k e hmh)
      (inv.under k (by omega) j hj)
  · have hk1 : 1 ≤ k := by
      by_contra hc
      rw [show k = 0 by omega, inv.bot] at hgt
      by_cases ej0 : j = 0
      · rw [ej0] at hgt; exact ltR_irrefl rev _ hgt
      · exact ltR_asymm rev hgt (hS 0 j (by omega) (by omega))
    obtain ⟨k', rfl⟩ : ∃ k', k = k' + 1 := ⟨k - 1, by omega⟩
    exact turn_back rev (inv.mono k' (by omega)) (hlt (k' + 1) (by omega)) hgt
      (le_of_lt (m_turn k' (by omega))) (inv.under k' (by omega) j hj)

/-- one iteration of the scan: pop while the top edge does not turn strictly right towards `S[i]`, then push it. Only the
    new top edge needs geometry (`old_edges` for the new point against the old edges, `new_edge` for the old points against
    the new edge); everything below the new top is the old invariant restricted. -/
theorem scan_step (rev : Bool) (S A : Array Pt) (i h : Nat)
    (hS : ∀ j1 j2, j1 < j2 → j2 < S.size → ltR rev (rd S j1) (rd S j2))
    (inv : ScanInv rev S i A h) (hiN : i < S.size) :
    ScanInv rev S (i + 1) (A.swapIfInBounds (popWhile A (rd A i) h) i)
      (popWhile A (rd A i) h + 1) := by
  have hpS : rd A i = rd S i := inv.rest i (Nat.le_refl i)
  generalize hp : rd A i = p at hpS ⊢
  obtain ⟨m_le, m_ge, m_turn, m_pop⟩ := popWhile_spec A p h
  generalize popWhile A p h = m at m_le m_ge m_turn m_pop ⊢
  have hm1 : 1 ≤ m := m_ge inv.h1
  have hhi := inv.hi
  have hsize := inv.size
  have rdA' : ∀ k, rd (A.swapIfInBounds m i) k =
      if k = m then p else if k = i then rd A m else rd A k := by
    intro k; rw [rd_swapIfInBounds A (by omega) (by omega) k, hp]
  have low : ∀ k, k < m → rd (A.swapIfInBounds m i) k = rd A k := by
    intro k hk; rw [rdA', if_neg (by omega), if_neg (by omega)]
  have topA' : rd (A.swapIfInBounds m i) m = p := by rw [rdA', if_pos rfl]
  have mem_lt_p : ∀ k, k < h → ltR rev (rd A k) p := by
    intro k hk
    obtain ⟨j, hj, e⟩ := inv.mem k hk
    rw [e, hpS]; exact hS j i hj hiN
  refine ⟨?_, by omega, by omega, ?_, ?_, ?_, ?_, ?_, ?_, ?_⟩
  · rw [Array.size_swapIfInBounds]; exact hsize
  · intro j hj
    rw [rdA', if_neg (by omega), if_neg (by omega)]
    exact inv.rest j (by omega)
  · rw [low 0 (by omega)]; exact inv.bot
  · rw [Nat.add_sub_cancel, Nat.add_sub_cancel, topA', hpS]
  · intro k hk
    by_cases e : k = m
    · subst e; exact ⟨i, by omega, topA'.trans hpS⟩
    · rw [low k (by omega)]
      obtain ⟨j, hj, e⟩ := inv.mem k (by omega)
      exact ⟨j, by omega, e⟩
  · intro k hk
    by_cases e : k + 1 = m
    · rw [low k (by omega), e, topA']
      exact mem_lt_p k (by omega)
    · rw [low k (by omega), low (k + 1) (by omega)]
      exact inv.mono k (by omega)
  · intro k hk
    by_cases e : k + 2 = m
    · rw [low k (by omega), low (k + 1) (by omega), e, topA']
      exact m_turn k e
    · rw [low k (by omega), low (k + 1) (by omega), low (k + 2) (by omega)]
      exact inv.conv k (by omega)
  · intro k hk j hj
    by_cases ej : j = i
    · subst ej
      rw [← hpS]
      by_cases e : k + 1 = m
      · rw [low k (by omega), e, topA']; exact le_of_eq (isLeft_self_right _ _)
      · rw [low k (by omega), low (k + 1) (by omega)]
        exact inv.old_edges mem_lt_p m_le m_turn (m - (k + 2)) k (by omega)
    · by_cases e : k + 1 = m
      · rw [low k (by omega), e, topA']
        exact inv.new_edge hS hiN mem_lt_p m_le m_turn m_pop e (by omega)
      · rw [low k (by omega), low (k + 1) (by omega)]
        exact inv.under k (by omega) j (by omega)

theorem scan_fold (rev : Bool) (S : Array Pt)
    (hS : ∀ j1 j2, j1 < j2 → j2 < S.size → ltR rev (rd S j1) (rd S j2)) (k : Nat) :
    ∀ (i : Nat) (A : Array Pt) (h : Nat), i + k = S.size → ScanInv rev S i A h →
      ScanInv rev S S.size
        ((List.range' i k).foldl (fun (acc : Array Pt × Nat) j =>
          let h := popWhile acc.1 (acc.1.getD j (0, 0)) acc.2
          (acc.1.swapIfInBounds h j, h + 1)) (A, h)).1
        ((List.range' i k).foldl (fun (acc : Array Pt × Nat) j =>
          let h := popWhile acc.1 (acc.1.getD j (0, 0)) acc.2
          (acc.1.swapIfInBounds h j, h + 1)) (A, h)).2 := by
  induction k with
  | zero =>
    intro i A h hik inv
    have : i = S.size := by omega
    subst this
    exact inv
  | succ k ih =>
    intro i A h hik inv
    rw [List.range'_succ, List.foldl_cons]
    exact ih (i + 1) _ _ (by omega) (scan_step rev S A i h hS inv (by omega))

/-- the comparison handed to `mergeSort` -/
def scanLe (rev : Bool) (a b : Pt) : Bool :=
  a == b || (if rev then reverseCmp a b else forwardCmp a b)

/-- the sorted array of `inPlaceScan` -/
def sortedOf (P : Array Pt) (rev : Bool) : Array Pt := (P.toList.mergeSort (scanLe rev)).toArray

theorem inPlaceScan_eq (P : Array Pt) (rev : Bool) : inPlaceScan P rev =
    (List.range' 1 ((sortedOf P rev).size - 1)).foldl (fun (acc : Array Pt × Nat) j =>
      let h := popWhile acc.1 (acc.1.getD j (0, 0)) acc.2
      (acc.1.swapIfInBounds h j, h + 1)) (sortedOf P rev, 1) := rfl

theorem forwardCmp_iff (a b : Pt) : forwardCmp a b = true ↔ lexLt a b := by
  obtain ⟨a1, a2⟩ := a
  obtain ⟨b1, b2⟩ := b
  simp only [forwardCmp, lexLt]
  by_cases e : a1 = b1
  · simp [e]
  · simp [e]

theorem reverseCmp_eq (a b : Pt) : reverseCmp a b = forwardCmp b a := by
  simp only [reverseCmp, forwardCmp, gt_iff_lt, eq_comm (a := a.1), beq_iff_eq]

theorem scanLe_iff (rev : Bool) (a b : Pt) : scanLe rev a b = true ↔ a = b ∨ ltR rev a b := by
  cases rev
  · simp only [scanLe, ltR, Bool.or_eq_true, beq_iff_eq, forwardCmp_iff, Bool.false_eq_true, if_false]
  · simp only [scanLe, ltR, Bool.or_eq_true, beq_iff_eq, reverseCmp_eq, forwardCmp_iff, if_true]

theorem sortedOf_perm (P : Array Pt) (rev : Bool) : (sortedOf P rev).toList.Perm P.toList := by
  unfold sortedOf
  exact List.mergeSort_perm _ _

theorem sortedOf_size (P : Array Pt) (rev : Bool) : (sortedOf P rev).size = P.size := by
  have := (sortedOf_perm P rev).length_eq
  simpa using this

theorem rd_of_lt (A : Array Pt) {j : Nat} (h : j < A.size) : rd A j = A.toList[j]'(by simpa using h) := by
  unfold rd
  simp [Array.getD_eq_getD_getElem?, h]

theorem sortedOf_strict (P : Array Pt) (rev : Bool) (hnd : P.toList.Nodup) :
    ∀ j1 j2, j1 < j2 → j2 < (sortedOf P rev).size →
      ltR rev (rd (sortedOf P rev) j1) (rd (sortedOf P rev) j2) := by
  have hpw : (P.toList.mergeSort (scanLe rev)).Pairwise (fun a b => scanLe rev a b = true) := by
    apply List.pairwise_mergeSort
    · intro a b c h1 h2
      rw [scanLe_iff] at h1 h2 ⊢
      rcases h1 with rfl | h1
      · exact h2
      · rcases h2 with rfl | h2
        · exact Or.inr h1
        · exact Or.inr (ltR_trans rev h1 h2)
    · intro a b
      rw [Bool.or_eq_true, scanLe_iff, scanLe_iff]
      rcases ltR_total rev a b with h | h | h
      · exact Or.inl (Or.inl h)
      · exact Or.inl (Or.inr h)
      · exact Or.inr (Or.inr h)
  have hnd' : (P.toList.mergeSort (scanLe rev)).Nodup :=
    (List.mergeSort_perm _ _).nodup_iff.2 hnd
  have hlt : (P.toList.mergeSort (scanLe rev)).Pairwise (ltR rev) := by
    refine (hpw.and hnd').imp ?_
    rintro a b ⟨h1, h2⟩
    rcases (scanLe_iff rev a b).1 h1 with h | h
    · exact absurd h h2
    · exact h
  intro j1 j2 h12 h2
  rw [rd_of_lt _ (by omega), rd_of_lt _ h2]
  have := List.pairwise_iff_getElem.1 hlt j1 j2 (by simpa [sortedOf] using (show j1 < (sortedOf P rev).size by omega))
    (by simpa [sortedOf] using h2) h12
  simpa [sortedOf] using this

theorem scanInv_init (rev : Bool) (S : Array Pt) : ScanInv rev S 1 S 1 := by
  refine ⟨rfl, Nat.le_refl 1, Nat.le_refl 1, fun _ _ => rfl, rfl, rfl, ?_, ?_, ?_, ?_⟩
  · intro k hk
    have : k = 0 := by omega
    subst this
    exact ⟨0, by omega, rfl⟩
  · intro k hk; omega
  · intro k hk; omega
  · intro k hk; omega

theorem inPlaceScan_inv (P : Array Pt) (rev : Bool) (hnd : P.toList.Nodup) (hN : 1 ≤ P.size) :
    ScanInv rev (sortedOf P rev) P.size (inPlaceScan P rev).1 (inPlaceScan P rev).2 := by
  have hsz := sortedOf_size P rev
  have hS := sortedOf_strict P rev hnd
  rw [inPlaceScan_eq, show P.size = (sortedOf P rev).size from hsz.symm]
  exact scan_fold rev (sortedOf P rev) hS ((sortedOf P rev).size - 1) 1 (sortedOf P rev) 1
    (by omega) (scanInv_init rev _)

theorem mem_iff_rd (A : Array Pt) (p : Pt) : p ∈ A.toList ↔ ∃ j, j < A.size ∧ rd A j = p := by
  rw [List.mem_iff_getElem]
  constructor
  · rintro ⟨j, hj, e⟩
    have hj' : j < A.size := by simpa using hj
    exact ⟨j, hj', by rw [rd_of_lt A hj']; exact e⟩
  · rintro ⟨j, hj, e⟩
    exact ⟨j, by simpa using hj, by rw [← rd_of_lt A hj]; exact e⟩

theorem mem_sortedOf (P : Array Pt) (rev : Bool) (p : Pt) :
    p ∈ P.toList ↔ ∃ j, j < P.size ∧ rd (sortedOf P rev) j = p := by
  rw [← (sortedOf_perm P rev).mem_iff, mem_iff_rd, sortedOf_size]

theorem sortedOf_first (P : Array Pt) (rev : Bool) (hnd : P.toList.Nodup) (p : Pt)
    (hp : p ∈ P.toList) : p = rd (sortedOf P rev) 0 ∨ ltR rev (rd (sortedOf P rev) 0) p := by
  obtain ⟨j, hj, rfl⟩ := (mem_sortedOf P rev p).1 hp
  by_cases e : j = 0
  · left; rw [e]
  · right; exact sortedOf_strict P rev hnd 0 j (by omega) (by rw [sortedOf_size]; exact hj)

theorem sortedOf_last (P : Array Pt) (rev : Bool) (hnd : P.toList.Nodup) (p : Pt)
    (hp : p ∈ P.toList) :
    p = rd (sortedOf P rev) (P.size - 1) ∨ ltR rev p (rd (sortedOf P rev) (P.size - 1)) := by
  obtain ⟨j, hj, rfl⟩ := (mem_sortedOf P rev p).1 hp
  by_cases e : j = P.size - 1
  · left; rw [e]
  · right
    exact sortedOf_strict P rev hnd j (P.size - 1) (by omega) (by rw [sortedOf_size]; omega)

/-- the chain of one scan: height between 1 and `N`; the prefix starts at the first and ends
    at the last sorted point, is strictly monotone in the scan order, consists of input points, and
    every three consecutive entries make a strict right turn -/
theorem inPlaceScan_chain (P : Array Pt) (rev : Bool) (hnd : P.toList.Nodup) (hN : 1 ≤ P.size) :
    1 ≤ (inPlaceScan P rev).2 ∧ (inPlaceScan P rev).2 ≤ P.size ∧
    (inPlaceScan P rev).1.size = P.size ∧
    rd (inPlaceScan P rev).1 0 = rd (sortedOf P rev) 0 ∧
    rd (inPlaceScan P rev).1 ((inPlaceScan P rev).2 - 1) = rd (sortedOf P rev) (P.size - 1) ∧
    (∀ k, k < (inPlaceScan P rev).2 → rd (inPlaceScan P rev).1 k ∈ P.toList) ∧
    (∀ k, k + 1 < (inPlaceScan P rev).2 →
      ltR rev (rd (inPlaceScan P rev).1 k) (rd (inPlaceScan P rev).1 (k + 1))) ∧
    (∀ k, k + 2 < (inPlaceScan P rev).2 →
      isLeft (rd (inPlaceScan P rev).1 k) (rd (inPlaceScan P rev).1 (k + 1))
        (rd (inPlaceScan P rev).1 (k + 2)) < 0) := by
  have inv := inPlaceScan_inv P rev hnd hN
  refine ⟨inv.h1, inv.hi, inv.size.trans (sortedOf_size P rev), inv.bot, inv.top, ?_, inv.mono,
    inv.conv⟩
  intro k hk
  obtain ⟨j, hj, e⟩ := inv.mem k hk
  rw [e]
  exact (mem_sortedOf P rev _).2 ⟨j, hj, rfl⟩

/-- what the two-scan assembly uses of one scan: `A[0..h)` is a strictly monotone, strictly convex chain of points of `X`
    from the least to the greatest in scan order, and every point of `X` lies on or to the right of every chain edge -/
structure HullChain (rev : Bool) (X : List Pt) (A : Array Pt) (h : Nat) : Prop where
  h1 : 1 ≤ h
  hN : h ≤ X.length
  perm : A.toList.Perm X
  mem : ∀ k, k < h → rd A k ∈ X
  first : ∀ p ∈ X, p = rd A 0 ∨ ltR rev (rd A 0) p
  last : ∀ p ∈ X, p = rd A (h - 1) ∨ ltR rev p (rd A (h - 1))
  ends : 1 < X.length → ltR rev (rd A 0) (rd A (h - 1))
  mono : ∀ k, k + 1 < h → ltR rev (rd A k) (rd A (k + 1))
  conv : ∀ k, k + 2 < h → isLeft (rd A k) (rd A (k + 1)) (rd A (k + 2)) < 0
  under : ∀ k, k + 1 < h → ∀ p ∈ X, isLeft (rd A k) (rd A (k + 1)) p ≤ 0

theorem inPlaceScan_hullChain (P : Array Pt) (rev : Bool) (hnd : P.toList.Nodup) (hN : 1 ≤ P.size) :
    HullChain rev P.toList (inPlaceScan P rev).1 (inPlaceScan P rev).2 := by
  have inv := inPlaceScan_inv P rev hnd hN
  obtain ⟨-, -, -, -, -, hmem, -, -⟩ := inPlaceScan_chain P rev hnd hN
  refine ⟨inv.h1, by rw [Array.length_toList]; exact inv.hi, inPlaceScan_perm P rev, hmem, ?_, ?_, fun h => ?_,
    inv.mono, inv.conv, fun k hk p hp => ?_⟩
  · rw [inv.bot]; exact sortedOf_first P rev hnd
  · rw [inv.top]; exact sortedOf_last P rev hnd
  · rw [inv.bot, inv.top]
    rw [Array.length_toList] at h
    exact sortedOf_strict P rev hnd 0 (P.size - 1) (by omega) (by rw [sortedOf_size]; omega)
  · obtain ⟨j, hj, rfl⟩ := (mem_sortedOf P rev p).1 hp
    exact inv.under k hk j hj

/-- a finite integer sequence without interior weak local maximum is bounded by its two ends: once it
    has risen it rises strictly to the end -/
theorem valley (x : Nat → ℤ) (m : Nat)
    (hloc : ∀ i, i + 1 < m → ¬ (x i ≤ x (i + 1) ∧ x (i + 2) ≤ x (i + 1))) :
    ∀ i, i ≤ m → x i ≤ x 0 ∨ x i ≤ x m := by
  -- after a rise at `i → i + 1` the sequence rises strictly up to `m`
  have up : ∀ d i, i + 1 + d = m → x i ≤ x (i + 1) → x (i + 1) ≤ x m := by
    intro d
    induction d with
    | zero => rintro i rfl _; exact le_refl _
    | succ d ih =>
      intro i hd hx
      have hlt : x (i + 1) < x (i + 2) := lt_of_not_ge fun hc => hloc i (by omega) ⟨hx, hc⟩
      exact le_trans (le_of_lt hlt) (ih (i + 1) (by omega) (le_of_lt hlt))
  intro i
  induction i with
  | zero => exact fun _ => Or.inl (le_refl _)
  | succ i ih =>
    intro hi
    by_cases hc : x i ≤ x (i + 1)
    · exact Or.inr (up (m - (i + 1)) i (by omega) hc)
    · rcases ih (by omega) with h | h
      · exact Or.inl (by omega)
      · exact Or.inr (by omega)

/-- all vertices of the chain lie on or to the right of a backward edge `a → b` as soon as the two
    ends of the chain do -/
theorem chain_right_of_backward_edge {rev : Bool} {X : List Pt} {A : Array Pt} {h : Nat}
    (ch : HullChain rev X A h) {a b : Pt} (hab : ltR rev b a)
    (h0 : isLeft a b (rd A 0) ≤ 0) (hl : isLeft a b (rd A (h - 1)) ≤ 0) :
    ∀ k, k < h → isLeft a b (rd A k) ≤ 0 := by
  intro k hk
  have hv := valley (fun i => isLeft a b (rd A i)) (h - 1) (fun i hi =>
    no_local_max rev (ch.mono i (by omega)) (ch.mono (i + 1) (by omega)) (ch.conv i (by omega)) hab)
    k (by omega)
  rcases hv with h | h
  · exact le_trans h h0
  · exact le_trans h hl

/-- **the two chains together**: the second (reverse) scan runs on points `X2` of `pts` among which are the two ends of the
    first chain and every point that the first chain left out. Then the second chain leads from the end of the first back
    to its start, and every point of `pts` lies on or to the right of every edge of the second chain: the points of `X2` by
    `under`, the vertices of the first chain because its two ends do -/
theorem two_chains {pts X2 : List Pt} {P Q : Array Pt} {h h' : Nat} (ch1 : HullChain false pts P h)
    (ch2 : HullChain true X2 Q h') (hsub : ∀ p ∈ X2, p ∈ pts) (m_in : rd P (h - 1) ∈ X2) (l_in : rd P 0 ∈ X2)
    (hrest : ∀ j, h ≤ j → j < pts.length → rd P j ∈ X2) :
    rd Q 0 = rd P (h - 1) ∧ rd Q (h' - 1) = rd P 0 ∧
      ∀ k, k + 1 < h' → ∀ p ∈ pts, isLeft (rd Q k) (rd Q (k + 1)) p ≤ 0 := by
  refine ⟨ltR_least_unique true (ch2.mem 0 ch2.h1) m_in ch2.first fun p hp => ch1.last p (hsub p hp),
    ltR_least_unique false (ch2.mem (h' - 1) (Nat.sub_lt ch2.h1 Nat.one_pos)) l_in ch2.last
      fun p hp => ch1.first p (hsub p hp), fun k hk p hp => ?_⟩
  obtain ⟨j, hj, rfl⟩ := (mem_iff_rd P p).1 (ch1.perm.mem_iff.2 hp)
  by_cases hjh : j < h
  · exact chain_right_of_backward_edge ch1 (ch2.mono k hk) (ch2.under k hk _ l_in) (ch2.under k hk _ m_in) j hjh
  · exact ch2.under k hk _ (hrest j (by omega) (by rw [← ch1.perm.length_eq, Array.length_toList]; exact hj))

/-- `for (i = 0; i != t; ++i) swap(P[i], P[i+1])` -/
def rotFold (P : Array Pt) (t : Nat) : Array Pt :=
  (List.range t).foldl (fun (P : Array Pt) i => P.swapIfInBounds i (i + 1)) P

theorem rotFold_spec (P : Array Pt) (t : Nat) (ht : t < P.size) :
    (rotFold P t).size = P.size ∧ (∀ k, k < t → rd (rotFold P t) k = rd P (k + 1)) ∧
      rd (rotFold P t) t = rd P 0 ∧ (∀ k, t < k → rd (rotFold P t) k = rd P k) := by
  induction t with
  | zero => exact ⟨rfl, fun k hk => by omega, rfl, fun _ _ => rfl⟩
  | succ t ih =>
    obtain ⟨i1, i2, i3, i4⟩ := ih (by omega)
    have e : rotFold P (t + 1) = (rotFold P t).swapIfInBounds t (t + 1) := by
      unfold rotFold
      rw [List.range_succ, List.foldl_append]
      rfl
    have hr := rd_swapIfInBounds (rotFold P t) (m := t) (i := t + 1) (by omega) (by omega)
    rw [e]
    refine ⟨by rw [Array.size_swapIfInBounds]; exact i1, ?_, ?_, ?_⟩
    · intro k hk
      rw [hr]
      by_cases e1 : k = t
      · rw [if_pos e1, i4 (t + 1) (by omega), e1]
      · rw [if_neg e1, if_neg (by omega)]; exact i2 k (by omega)
    · rw [hr, if_neg (by omega), if_pos rfl]; exact i3
    · intro k hk
      rw [hr, if_neg (by omega), if_neg (by omega)]; exact i4 k (by omega)

theorem rd_extract (A : Array Pt) (s e k : Nat) (he : e ≤ A.size) (hk : s + k < e) :
    rd (A.extract s e) k = rd A (s + k) := by
  unfold rd
  simp only [Array.getD_eq_getD_getElem?, Array.getElem?_extract]
  have : k < min e A.size - s := by omega
  simp [this]

theorem size_extract' (A : Array Pt) (s e : Nat) (he : e ≤ A.size) : (A.extract s e).size = e - s := by
  simp [Array.size_extract, Nat.min_eq_left he]

theorem rd_toList (A : Array Pt) (t : Nat) : A.toList.getD t (0, 0) = rd A t := by
  unfold rd
  simp [Array.getD_eq_getD_getElem?, List.getD_eq_getElem?_getD]

theorem mem_cyclicPairs {v : List Pt} {e : Pt × Pt} (he : e ∈ cyclicPairs v) :
    ∃ t, t < v.length ∧ e.1 = v.getD t (0, 0) ∧
      e.2 = (if t + 1 < v.length then v.getD (t + 1) (0, 0) else v.getD 0 (0, 0)) := by
  cases v with
  | nil => simp [cyclicPairs] at he
  | cons a w =>
    simp only [cyclicPairs, List.drop_succ_cons, List.drop_zero] at he
    obtain ⟨t, ht, rfl⟩ := List.mem_iff_getElem.1 he
    have ht' : t < w.length + 1 := by
      simp only [List.length_zip, List.length_cons, List.length_append, List.length_nil] at ht
      omega
    refine ⟨t, by simpa using ht', ?_, ?_⟩
    · rw [List.getElem_zip]
      simp only [List.getD_eq_getElem?_getD]
      rw [List.getElem?_eq_getElem (by simpa using ht')]; rfl
    · rw [List.getElem_zip]
      simp only [List.length_cons, Nat.add_lt_add_iff_right, List.getD_cons_succ, List.getD_cons_zero]
      by_cases h1 : t < w.length
      · rw [if_pos h1, List.getElem_append_left h1, List.getD_eq_getElem?_getD,
          List.getElem?_eq_getElem h1]; rfl
      · rw [if_neg h1, List.getElem_append_right (by omega)]
        simp

/-- assembling the closed polygon `P[1..h-1) ++ Q[0..h')` from the two chains
    `P[0..h)` (from `L` to `M`) and `Q[0..h')` (from `M` back to `L`) -/
theorem polygon_onesided (pts : List Pt) (P Q : Array Pt) (h h' : Nat) (hh : 2 ≤ h) (hh' : 1 ≤ h')
    (v : List Pt) (hlen : v.length = (h - 2) + h')
    (hv1 : ∀ t, t < h - 2 → v.getD t (0, 0) = rd P (t + 1))
    (hv2 : ∀ t, t < h' → v.getD (h - 2 + t) (0, 0) = rd Q t)
    (hQ0 : rd Q 0 = rd P (h - 1)) (hQl : rd Q (h' - 1) = rd P 0)
    (c1 : ∀ k, k + 1 < h → ∀ p ∈ pts, isLeft (rd P k) (rd P (k + 1)) p ≤ 0)
    (c2 : ∀ k, k + 1 < h' → ∀ p ∈ pts, isLeft (rd Q k) (rd Q (k + 1)) p ≤ 0) :
    ∀ e ∈ cyclicPairs v, ∀ p ∈ pts, isLeft e.1 e.2 p ≤ 0 := by
  -- `Q[0] = P[h-1]` extends the description of the `P` part by one entry
  have hv1' : ∀ t, t + 2 ≤ h → v.getD t (0, 0) = rd P (t + 1) := by
    intro t ht
    by_cases h2 : t + 2 = h
    · have := hv2 0 hh'
      rw [Nat.add_zero, show h - 2 = t by omega] at this
      rw [this, hQ0, show h - 1 = t + 1 by omega]
    · exact hv1 t (by omega)
  intro e he p hp
  obtain ⟨t, ht, e1, e2⟩ := mem_cyclicPairs he
  rw [e1, e2]
  by_cases hA : t + 3 ≤ h
  · rw [if_pos (by omega), hv1' t (by omega), hv1' (t + 1) (by omega)]
    exact c1 (t + 1) (by omega) p hp
  · obtain ⟨s, rfl⟩ : ∃ s, t = h - 2 + s := ⟨t - (h - 2), by omega⟩
    by_cases hC : s + 1 < h'
    · rw [if_pos (by omega), hv2 s (by omega), Nat.add_assoc, hv2 (s + 1) hC]
      exact c2 s hC p hp
    · -- the closing edge `Q[h'-1] = P[0] → P[1]`
      rw [if_neg (by omega), hv2 s (by omega), show s = h' - 1 by omega, hQl, hv1' 0 (by omega)]
      exact c1 0 (by omega) p hp

theorem getD_extract_append (A B : Array Pt) (a b : Nat) (ha : a ≤ A.size) (hb : b ≤ B.size) :
    ((A.extract 0 a).toList ++ (B.extract 0 b).toList).length = a + b ∧
    (∀ t, t < a → ((A.extract 0 a).toList ++ (B.extract 0 b).toList).getD t (0, 0) = rd A t) ∧
    (∀ t, t < b → ((A.extract 0 a).toList ++ (B.extract 0 b).toList).getD (a + t) (0, 0) = rd B t) := by
  have hl : (A.extract 0 a).toList.length = a := by
    rw [Array.length_toList, size_extract' _ _ _ ha, Nat.sub_zero]
  refine ⟨?_, fun t ht => ?_, fun t ht => ?_⟩
  · rw [List.length_append, hl, Array.length_toList, size_extract' _ _ _ hb, Nat.sub_zero]
  · rw [List.getD_append _ _ _ _ (by omega), rd_toList, rd_extract _ _ _ _ ha (by omega), Nat.zero_add]
  · rw [List.getD_append_right _ _ _ _ (by omega), hl, Nat.add_sub_cancel_left, rd_toList,
      rd_extract _ _ _ _ hb (by omega), Nat.zero_add]

theorem extract_tail (A : Array Pt) (pts : List Pt) (hperm : A.toList.Perm pts) (hnd : pts.Nodup)
    (s : Nat) :
    (A.extract s pts.length).size = pts.length - s ∧
    (∀ k, k < pts.length - s → rd (A.extract s pts.length) k = rd A (s + k)) ∧
    (∀ p ∈ (A.extract s pts.length).toList, p ∈ pts) ∧ (A.extract s pts.length).toList.Nodup := by
  have hsz : pts.length ≤ A.size := by rw [← Array.length_toList, hperm.length_eq]
  refine ⟨size_extract' _ _ _ hsz, fun k hk => rd_extract _ _ _ _ hsz (by omega), fun p hp => ?_, ?_⟩
  · rw [Array.toList_extract] at hp
    exact hperm.subset (List.mem_of_mem_drop (List.mem_of_mem_take hp))
  · rw [Array.toList_extract]
    exact (hperm.nodup_iff.2 hnd).sublist ((List.take_sublist _ _).trans (List.drop_sublist _ _))

/-- **structure of the result** (more than three distinct points): `grahamModel pts` is
    `P[1..h-1) ++ Q[0..h')` for two chains `P[0..h)` (first scan, from the lexicographic minimum `P[0]`
    to the maximum `P[h-1]`) and `Q[0..h')` (second scan, from the maximum back to the minimum), and
    every input point lies on or to the right of every edge of either chain (of `P` by `HullChain.under`) -/
theorem grahamModel_structure (pts : List Pt) (hnd : pts.Nodup) (hN : 3 < pts.length) :
    ∃ (P Q : Array Pt) (h h' : Nat), HullChain false pts P h ∧ 2 ≤ h ∧ 1 ≤ h' ∧
      (grahamModel pts).length = (h - 2) + h' ∧
      (∀ t, t < h - 2 → (grahamModel pts).getD t (0, 0) = rd P (t + 1)) ∧
      (∀ t, t < h' → (grahamModel pts).getD (h - 2 + t) (0, 0) = rd Q t) ∧
      rd Q 0 = rd P (h - 1) ∧ rd Q (h' - 1) = rd P 0 ∧
      (∀ k, k + 1 < h' → ∀ p ∈ pts, isLeft (rd Q k) (rd Q (k + 1)) p ≤ 0) := by
  unfold grahamModel
  simp only
  rw [if_neg (by omega)]
  -- the first scan: the chain `P[0..h)` from the least to the greatest point
  have ch1 : HullChain false pts _ _ := inPlaceScan_hullChain pts.toArray false hnd (by rw [List.size_toArray]; omega)
  generalize inPlaceScan pts.toArray false = r1 at ch1 ⊢
  obtain ⟨P, h⟩ := r1
  simp only at ch1 ⊢
  have hh : 2 ≤ h := by
    by_contra hc
    have e := ch1.ends (by omega)
    rw [show h - 1 = 0 by have := ch1.h1; omega] at e
    exact ltR_irrefl false _ e
  have hhN := ch1.hN
  have perm1 := ch1.perm
  -- the rotated array and the input of the second scan
  obtain ⟨_, r2, r3, r4⟩ := rotFold_spec P (h - 1) (by rw [← Array.length_toList, perm1.length_eq]; omega)
  have permP1 : (rotFold P (h - 1)).toList.Perm pts := (rotate_perm _ _).trans perm1
  generalize hP1 : rotFold P (h - 1) = P1 at r2 r3 r4 permP1
  unfold rotFold at hP1
  rw [hP1]
  obtain ⟨hXsz, hXrd, hXsub, hXnd⟩ := extract_tail P1 pts permP1 hnd (h - 2)
  have hP1sz : pts.length ≤ P1.size := by rw [← Array.length_toList, permP1.length_eq]
  generalize P1.extract (h - 2) pts.length = X2 at hXsz hXrd hXsub hXnd ⊢
  have m_in : rd P (h - 1) ∈ X2.toList := (mem_iff_rd X2 _).2 ⟨0, by omega, by
    rw [hXrd 0 (by omega), Nat.add_zero, r2 (h - 2) (by omega)]; congr 1; omega⟩
  have l_in : rd P 0 ∈ X2.toList := (mem_iff_rd X2 _).2 ⟨1, by omega, by
    rw [hXrd 1 (by omega), show h - 2 + 1 = h - 1 by omega]; exact r3⟩
  -- the second scan: the chain `Q[0..h')` from the greatest point back to the least
  have ch2 := inPlaceScan_hullChain X2 true hXnd (by omega)
  have hQsz : (inPlaceScan X2 true).2 ≤ (inPlaceScan X2 true).1.size := by
    rw [← Array.length_toList, ch2.perm.length_eq]; exact ch2.hN
  generalize inPlaceScan X2 true = r2' at ch2 hQsz ⊢
  obtain ⟨Q, h'⟩ := r2'
  simp only at ch2 hQsz ⊢
  obtain ⟨hQ0, hQl, c2⟩ := two_chains ch1 ch2 hXsub m_in l_in fun j hjh hjN =>
    (mem_iff_rd X2 _).2 ⟨j - (h - 2), by omega, by
      rw [hXrd _ (by omega), show h - 2 + (j - (h - 2)) = j by omega, r4 j (by omega)]⟩
  obtain ⟨hlen, hv1, hv2⟩ := getD_extract_append P1 Q (h - 2) h' (by omega) hQsz
  exact ⟨P, Q, h, h', ch1, hh, ch2.h1, hlen, fun t ht => (hv1 t ht).trans (r2 t (by omega)), hv2, hQ0, hQl, c2⟩

theorem grahamModel_onesided (pts : List Pt) (hnd : pts.Nodup) (hN : 3 < pts.length) :
    ∀ e ∈ cyclicPairs (grahamModel pts), ∀ p ∈ pts, isLeft e.1 e.2 p ≤ 0 := by
  obtain ⟨P, Q, h, h', ch1, hh, hh', hlen, hv1, hv2, hQ0, hQl, c2⟩ := grahamModel_structure pts hnd hN
  exact polygon_onesided pts P Q h h' hh hh' _ hlen hv1 hv2 hQ0 hQl ch1.under c2

theorem grahamModel_extremes (pts : List Pt) (hnd : pts.Nodup) (hN : 3 < pts.length) :
    ∃ L M, L ∈ grahamModel pts ∧ M ∈ grahamModel pts ∧
      (∀ p ∈ pts, p = L ∨ lexLt L p) ∧ (∀ p ∈ pts, p = M ∨ lexLt p M) := by
  obtain ⟨P, Q, h, h', ch1, hh, hh', hlen, hv1, hv2, hQ0, hQl, -⟩ := grahamModel_structure pts hnd hN
  have mem_of_getD : ∀ t, t < (grahamModel pts).length →
      (grahamModel pts).getD t (0, 0) ∈ grahamModel pts :=
    fun t ht => List.getD_eq_getElem _ _ ht ▸ List.getElem_mem ht
  refine ⟨rd P 0, rd P (h - 1), ?_, ?_, ch1.first, ch1.last⟩
  · rw [← hQl, ← hv2 (h' - 1) (by omega)]
    exact mem_of_getD _ (by omega)
  · rw [← hQ0, ← hv2 0 hh']
    exact mem_of_getD _ (by omega)

theorem eraseDups_of_nodup (l : List Pt) (h : l.Nodup) : l.eraseDups = l := by
  induction l with
  | nil => exact List.eraseDups_nil
  | cons a as ih =>
    rw [List.eraseDups_cons]
    have hn := List.nodup_cons.1 h
    have : List.filter (fun b => !b == a) as = as := by
      rw [List.filter_eq_self]
      intro b hb
      have : b ≠ a := fun e => hn.1 (e ▸ hb)
      simp [this]
    rw [this, ih hn.2]

/-- the running best of a fold that keeps the candidate preferred by a strict total order -/
theorem foldBest_spec {lt : Pt → Pt → Prop} {cmp : Pt → Pt → Bool} (hcmp : ∀ a b, cmp a b = true ↔ lt a b)
    (htrans : ∀ {a b c}, lt a b → lt b c → lt a c) (htot : ∀ a b, a = b ∨ lt a b ∨ lt b a)
    (xs : List Pt) (x : Pt) : ∃ m,
      xs.foldl (fun (m : Option Pt) p => match m with
        | none => some p | some q => if cmp p q then some p else some q) (some x) = some m ∧
      m ∈ x :: xs ∧ ∀ p ∈ x :: xs, p = m ∨ lt m p := by
  induction xs using List.reverseRecOn with
  | nil => exact ⟨x, rfl, List.mem_singleton_self x, fun p hp => Or.inl (List.mem_singleton.mp hp)⟩
  | append_singleton ys y ih =>
    obtain ⟨m, e, hm, hall⟩ := ih
    rw [List.foldl_append, e, ← List.cons_append]
    simp only [List.foldl_cons, List.foldl_nil, List.mem_append, List.mem_singleton]
    by_cases hc : cmp y m = true
    · refine ⟨y, by rw [if_pos hc], Or.inr rfl, ?_⟩
      rintro p (hp | rfl)
      · exact Or.inr ((hall p hp).elim (fun e => e ▸ (hcmp _ _).1 hc) (htrans ((hcmp _ _).1 hc)))
      · exact Or.inl rfl
    · refine ⟨m, by rw [if_neg hc], Or.inl hm, ?_⟩
      rintro p (hp | rfl)
      · exact hall p hp
      · exact (htot p m).imp_right fun h => h.elim (fun h => absurd ((hcmp _ _).2 h) hc) id

theorem lexMin_spec (x : Pt) (xs : List Pt) : ∃ m, lexMin (x :: xs) = some m ∧ m ∈ x :: xs ∧
    ∀ p ∈ x :: xs, p = m ∨ lexLt m p :=
  foldBest_spec forwardCmp_iff lexLt_trans lexLt_total xs x

theorem lexMax_spec (x : Pt) (xs : List Pt) : ∃ m, lexMax (x :: xs) = some m ∧ m ∈ x :: xs ∧
    ∀ p ∈ x :: xs, p = m ∨ lexLt p m :=
  foldBest_spec (lt := fun a b => lexLt b a) (cmp := fun a b => forwardCmp b a)
    (fun a b => forwardCmp_iff b a) (fun h1 h2 => lexLt_trans h2 h1)
    (fun a b => (lexLt_total a b).imp_right Or.symm) xs x

/-- the last conjunct of `hullOK`: the extreme points found by `lexMin`/`lexMax` are corners, as soon
    as every lexicographically minimal / maximal point of `fg` belongs to `v` -/
theorem hullOK_extremes (fg v : List Pt)
    (hmin : ∀ a, a ∈ fg → (∀ p ∈ fg, p = a ∨ lexLt a p) → a ∈ v)
    (hmax : ∀ z, z ∈ fg → (∀ p ∈ fg, p = z ∨ lexLt p z) → z ∈ v) :
    (match lexMin fg, lexMax fg with
      | some a, some z => v.contains a && v.contains z
      | _, _ => true) = true := by
  cases fg with
  | nil => rfl
  | cons x xs =>
    obtain ⟨a, ea, ha1, ha2⟩ := lexMin_spec x xs
    obtain ⟨z, ez, hz1, hz2⟩ := lexMax_spec x xs
    rw [ea, ez]
    simp only [Bool.and_eq_true, List.contains_iff_mem]
    exact ⟨hmin a ha1 ha2, hmax z hz1 hz2⟩

theorem isLeft_aab (a p : Pt) : isLeft a a p = 0 := by unfold isLeft; ring
theorem isLeft_rot1 (a b c : Pt) : isLeft b c a = isLeft a b c := by unfold isLeft; ring
theorem isLeft_rot2 (a b c : Pt) : isLeft c a b = isLeft a b c := by unfold isLeft; ring

/-- at most three points: the polygon is degenerate or a triangle, which is one-sided -/
theorem small_onesided (pts : List Pt) (hN : pts.length ≤ 3) :
    ((cyclicPairs pts).all (fun e => pts.all fun p => isLeft e.1 e.2 p ≤ 0) ||
      (cyclicPairs pts).all (fun e => pts.all fun p => isLeft e.1 e.2 p ≥ 0)) = true := by
  rcases pts with _ | ⟨a, _ | ⟨b, _ | ⟨c, _ | ⟨d, r⟩⟩⟩⟩
  · rfl
  · simp [cyclicPairs, isLeft_aab]
  · simp [cyclicPairs, isLeft_self_left, isLeft_self_right]
  · -- a triangle: every value is `0` or the orientation of `a b c`
    simp only [cyclicPairs, List.drop_succ_cons, List.drop_zero, List.cons_append, List.nil_append,
      List.zip_cons_cons, List.zip_nil_right, List.all_cons, List.all_nil, Bool.and_true,
      isLeft_self_left, isLeft_self_right, isLeft_rot1 a b c, isLeft_rot2 a b c, Int.le_refl, ge_iff_le,
      decide_true, Bool.true_and, Bool.and_self, Bool.or_eq_true, decide_eq_true_eq]
    exact le_total _ _
  · simp at hN

theorem grahamModel_small {pts : List Pt} (h : pts.length ≤ 3) : grahamModel pts = pts := by
  unfold grahamModel
  simp only
  rw [if_pos h]

theorem grahamModel_hullOK (pts : List Pt) (hnd : pts.Nodup) : hullOK pts (grahamModel pts) = true := by
  unfold hullOK
  simp only [Bool.and_eq_true, Bool.or_eq_true, List.all_eq_true, List.contains_iff_mem, decide_eq_true_eq,
    beq_iff_eq]
  by_cases hN : 3 < pts.length
  · obtain ⟨L, M, hL, hM, hmin, hmax⟩ := grahamModel_extremes pts hnd hN
    refine ⟨⟨⟨⟨grahamModel_subset pts, by rw [eraseDups_of_nodup _ (grahamModel_nodup pts hnd)]⟩, ?_⟩,
      Or.inl (grahamModel_onesided pts hnd hN)⟩, hullOK_extremes _ _ ?_ ?_⟩
    · cases pts with
      | nil => simp at hN
      | cons _ _ =>
        cases hg : grahamModel _ with
        | nil => rw [hg] at hL; cases hL
        | cons _ _ => rfl
    · intro a ha hamin
      rw [ltR_least_unique false ha (grahamModel_subset pts L hL) hamin hmin]; exact hL
    · intro z hz hzmax
      rw [ltR_least_unique true hz (grahamModel_subset pts M hM) hzmax hmax]; exact hM
  · rw [grahamModel_small (by omega)]
    have hs := small_onesided pts (by omega)
    simp only [Bool.or_eq_true, List.all_eq_true, decide_eq_true_eq] at hs
    exact ⟨⟨⟨⟨fun _ h => h, by rw [eraseDups_of_nodup _ hnd]⟩, rfl⟩, hs⟩,
      hullOK_extremes pts pts (fun a ha _ => ha) (fun z hz _ => hz)⟩
end Mahotas.C15
