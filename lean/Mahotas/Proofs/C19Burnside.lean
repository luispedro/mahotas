/-
C19 — the number of LBP bins for every `P ≥ 1`: Burnside's lemma for the cyclic group.

`ZMod P` acts on the `P`-bit codes by `k +ᵥ v = rollRight^k v`; its orbits are the rotation classes of
`Proofs/C19Necklace.lean` (whose number is the number of pivots = bins). A code is fixed by `k` iff its bit
pattern is `k`-periodic, i.e. a pattern on `ZMod P ⧸ ⟨k⟩`; `⟨k⟩` has `P / gcd(k,P)` elements, so by Lagrange the
quotient has `gcd(k,P)` and `k` has `2^gcd(k,P)` fixed points, and Burnside's lemma
(`AddAction.sum_card_fixedBy_eq_card_orbits_mul_card_addGroup`) gives
`#bins · P = Σ_{k < P} 2^{gcd(k,P)} = Σ_{d ∣ P} φ(d) 2^{P/d}`. The last section restates the sum with the list-level
`phiN` and `necklaceSum`, which evaluate.
-/
import Mahotas.Proofs.C19Necklace
import Mathlib.GroupTheory.GroupAction.Quotient
import Mathlib.Data.ZMod.Basic
import Mathlib.Data.Nat.Totient
import Mathlib.NumberTheory.Divisors
import Mathlib.Data.Fintype.BigOperators
import Mathlib.Algebra.Ring.Periodic
namespace Mahotas.C19
open Finset

/-- Group `k < P` by `d = gcd(P, k)`: `#{k < P | gcd(P, k) = d} = φ(P/d)`; then reindex `d ↦ P/d`. -/
theorem sum_pow_gcd (P : ℕ) (hP : 0 < P) :
    ∑ k ∈ range P, 2 ^ Nat.gcd P k = ∑ d ∈ P.divisors, Nat.totient d * 2 ^ (P / d) := by
  have hmaps : ∀ k ∈ range P, Nat.gcd P k ∈ P.divisors := fun k _ =>
    Nat.mem_divisors.2 ⟨Nat.gcd_dvd_left P k, by omega⟩
  rw [← Finset.sum_fiberwise_of_maps_to' hmaps (fun d => 2 ^ d)]
  rw [← Nat.sum_div_divisors P (fun d => Nat.totient d * 2 ^ (P / d))]
  refine Finset.sum_congr rfl fun d hd => ?_
  have hd' := (Nat.mem_divisors.1 hd).1
  rw [Finset.sum_const, smul_eq_mul, ← Nat.totient_div_of_dvd hd', Nat.div_div_self hd' (by omega)]

abbrev Code (P : ℕ) := {v : ℕ // v < 2 ^ P}

theorem one_le_of_neZero (P : ℕ) [NeZero P] : 1 ≤ P := Nat.one_le_iff_ne_zero.2 (NeZero.ne P)

variable {P : ℕ} [NeZero P]

instance rotAction : AddAction (ZMod P) (Code P) where
  vadd g v := ⟨iter (rollRight P) g.val v.1, iter_rollRight_lt P v.1 (one_le_of_neZero P) v.2 g.val⟩
  zero_vadd v := by
    apply Subtype.ext
    show iter (rollRight P) (0 : ZMod P).val v.1 = v.1
    rw [ZMod.val_zero]; rfl
  add_vadd g h v := by
    apply Subtype.ext
    show iter (rollRight P) (g + h).val v.1 = iter (rollRight P) g.val (iter (rollRight P) h.val v.1)
    -- `iter_add` applies the first summand first, `add_vadd` wants the second: hence `Nat.add_comm`
    rw [ZMod.val_add, ← iter_rollRight_mod P v.1 (one_le_of_neZero P) v.2, Nat.add_comm, iter_add]

theorem vadd_val (g : ZMod P) (v : Code P) : (g +ᵥ v).1 = iter (rollRight P) g.val v.1 := rfl

/-- the orbits are the rotation classes -/
theorem orbitRel_iff (a b : Code P) :
    (AddAction.orbitRel (ZMod P) (Code P)).r a b ↔ (rotSetoid P (one_le_of_neZero P)).r a b := by
  have hP := one_le_of_neZero P
  show a ∈ AddAction.orbit (ZMod P) b ↔ RotEq P a.1 b.1
  rw [AddAction.mem_orbit_iff]
  constructor
  · rintro ⟨g, hg⟩
    have : RotEq P b.1 a.1 := ⟨g.val, by rw [← vadd_val, hg]⟩
    exact this.symm hP b.2
  · intro h
    obtain ⟨k, hk⟩ := h.symm hP a.2
    refine ⟨(k : ZMod P), Subtype.ext ?_⟩
    rw [vadd_val, ZMod.val_natCast, ← iter_rollRight_mod P b.1 hP b.2]
    exact hk

theorem card_orbits :
    Nat.card (Quotient (AddAction.orbitRel (ZMod P) (Code P))) = (pivots P).length := by
  rw [← card_classes P (one_le_of_neZero P)]
  exact Nat.card_congr (Quotient.congr (Equiv.refl _) (fun a b => orbitRel_iff a b))

/-- bit `t` of the code, `t ∈ ZMod P` -/
def bitsEquiv : Code P ≃ (ZMod P → Bool) where
  toFun v t := v.1.testBit t.val
  invFun F := ⟨Nat.ofBits (fun i : Fin P => F (i.val : ZMod P)), Nat.ofBits_lt_two_pow _⟩
  left_inv v := by
    apply Subtype.ext
    show Nat.ofBits (fun i : Fin P => v.1.testBit ((i.val : ZMod P)).val) = v.1
    have : (fun i : Fin P => v.1.testBit ((i.val : ZMod P)).val) = fun i : Fin P => v.1.testBit i := by
      funext i; rw [ZMod.val_natCast, Nat.mod_eq_of_lt i.2]
    rw [this, Nat.ofBits_testBit, Nat.mod_eq_of_lt v.2]
  right_inv F := by
    funext t
    show (Nat.ofBits fun i : Fin P => F (i.val : ZMod P)).testBit t.val = F t
    rw [Nat.testBit_ofBits_lt _ _ (ZMod.val_lt t)]
    simp

theorem bits_vadd (g : ZMod P) (v : Code P) (t : ZMod P) : bitsEquiv (g +ᵥ v) t = bitsEquiv v (t + g) := by
  show (iter (rollRight P) g.val v.1).testBit t.val = v.1.testBit (t + g).val
  rw [testBit_iter_rollRight P v.1 (one_le_of_neZero P) v.2, ZMod.val_add]
  simp [ZMod.val_lt t]

theorem fixed_iff (g : ZMod P) (v : Code P) :
    g +ᵥ v = v ↔ ∀ t, bitsEquiv v (t + g) = bitsEquiv v t := by
  constructor
  · intro h t
    rw [← bits_vadd, h]
  · intro h
    apply bitsEquiv.injective
    funext t
    rw [bits_vadd, h]

/-- the `g`-periodic functions on a group are the functions on its quotient by `⟨g⟩` -/
def perEquiv {G β : Type} [AddGroup G] (g : G) :
    {F : G → β // Function.Periodic F g} ≃ (G ⧸ AddSubgroup.zmultiples g → β) where
  toFun F := F.2.lift
  invFun h := ⟨fun t => h t,
    fun t => congrArg h (QuotientAddGroup.mk_add_of_mem t (AddSubgroup.mem_zmultiples g))⟩
  left_inv _ := rfl
  right_inv _ := funext fun q => Quotient.inductionOn' q fun _ => rfl

/-- Lagrange: `⟨g⟩` has `P / gcd(P, g)` elements (`ZMod.addOrderOf_coe`), hence index `gcd(P, g)` -/
theorem index_zmultiples (g : ZMod P) : (AddSubgroup.zmultiples g).index = Nat.gcd P g.val := by
  have h := (AddSubgroup.zmultiples g).index_mul_card
  have e : addOrderOf g = P / Nat.gcd P g.val :=
    (congrArg addOrderOf (ZMod.natCast_zmod_val g)).symm.trans (ZMod.addOrderOf_coe g.val (NeZero.ne P))
  rw [Nat.card_eq_fintype_card, Fintype.card_zmultiples, Nat.card_eq_fintype_card, ZMod.card, e] at h
  exact Nat.eq_of_mul_eq_mul_right (e ▸ addOrderOf_pos g)
    (h.trans (Nat.mul_div_cancel' (Nat.gcd_dvd_left P g.val)).symm)

theorem card_fixedBy (g : ZMod P) :
    Nat.card (AddAction.fixedBy (Code P) g) = 2 ^ Nat.gcd P g.val := by
  have e1 : AddAction.fixedBy (Code P) g ≃ {F : ZMod P → Bool // Function.Periodic F g} :=
    bitsEquiv.subtypeEquiv (fun v => by rw [AddAction.mem_fixedBy]; exact fixed_iff g v)
  rw [Nat.card_congr (e1.trans (perEquiv g)), Nat.card_fun, Nat.card_eq_fintype_card, Fintype.card_bool,
    ← index_zmultiples g, AddSubgroup.index]

theorem sum_zmod_val (P : ℕ) [NeZero P] (f : ℕ → ℕ) : ∑ g : ZMod P, f g.val = ∑ k ∈ range P, f k := by
  obtain ⟨n, rfl⟩ := Nat.exists_eq_succ_of_ne_zero (NeZero.ne P)
  exact Fin.sum_univ_eq_sum_range f (n + 1)

theorem pivots_burnside (P : ℕ) (hP : 1 ≤ P) :
    (pivots P).length * P = ∑ d ∈ P.divisors, Nat.totient d * 2 ^ (P / d) := by
  have : NeZero P := ⟨by omega⟩
  classical
  have : Fintype (Code P) := Fintype.ofEquiv _ Fin.equivSubtype
  have hb := AddAction.sum_card_fixedBy_eq_card_orbits_mul_card_addGroup (ZMod P) (Code P)
  rw [← Nat.card_eq_fintype_card, card_orbits, ZMod.card] at hb
  rw [← hb, ← sum_pow_gcd P (by omega), ← sum_zmod_val P (fun k => 2 ^ Nat.gcd P k)]
  refine Finset.sum_congr rfl fun g _ => ?_
  rw [← Nat.card_eq_fintype_card, card_fixedBy]

/-- Euler's `φ` by counting (kernel-friendly) -/
def phiN (n : Nat) : Nat := ((List.range n).filter fun k => Nat.gcd n k == 1).length

/-- `Σ_{d | P} φ(d) 2^{P/d}` (= `P ·` number of binary necklaces of length `P`, Burnside) -/
def necklaceSum (P : Nat) : Nat :=
  (((List.range (P + 1)).filter fun d => decide (1 ≤ d) && P % d == 0).map fun d => phiN d * 2 ^ (P / d)).sum

theorem phiN_eq_totient (n : ℕ) : phiN n = Nat.totient n := by
  rw [Nat.totient_eq_card_coprime, phiN, ← List.toFinset_card_of_nodup (List.nodup_range.filter _)]
  congr 1
  ext k
  simp [Nat.Coprime]

theorem necklaceSum_eq (P : ℕ) : necklaceSum P = ∑ d ∈ P.divisors, Nat.totient d * 2 ^ (P / d) := by
  rw [necklaceSum, ← List.sum_toFinset _ (List.nodup_range.filter _)]
  refine Finset.sum_congr ?_ fun d _ => by rw [phiN_eq_totient]
  ext d
  simp only [List.mem_toFinset, List.mem_filter, List.mem_range, Bool.and_eq_true, decide_eq_true_eq,
    beq_iff_eq, Nat.mem_divisors, ← Nat.dvd_iff_mod_eq_zero]
  constructor
  · rintro ⟨hd, h1, hdvd⟩
    exact ⟨hdvd, by omega⟩
  · rintro ⟨hdvd, hP⟩
    exact ⟨Nat.lt_succ_of_le (Nat.le_of_dvd (Nat.pos_of_ne_zero hP) hdvd),
      Nat.pos_of_dvd_of_pos hdvd (Nat.pos_of_ne_zero hP), hdvd⟩

theorem pivots_closed_form : ∀ P, 1 ≤ P → P ≤ 12 → (pivots P).length * P = necklaceSum P :=
  fun P hP _ => (pivots_burnside P hP).trans (necklaceSum_eq P).symm

theorem necklaceSum_mathlib : ∀ P, 1 ≤ P → P ≤ 12 →
    necklaceSum P = ∑ d ∈ P.divisors, Nat.totient d * 2 ^ (P / d) :=
  fun P _ _ => necklaceSum_eq P

end Mahotas.C19
