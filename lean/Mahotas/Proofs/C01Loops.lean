/-
Helper lemmas for C01: the erosion branch of `fast_binary_dilate_erode_2d` loop by loop
(`fastErodeLoops`: rows, offsets, border loop of `|dx|` iterations, main loop of `Nx − |dx|` iterations
over a flat 0/1 array) equals the pointwise form `fastErodeAt`; likewise the dilation branch
(`fastDilateLoops`, OR-writes) equals the pointwise scatter `fastDilate`.
Method: every loop is a fold of `out[j] &= b` (`out[j] |= b`) stores; such a fold leaves cell `i` non-zero iff its
initial value and all (or some) values stored to `i` are (`andProg_cell`, `orProg_cell`), whatever the order; and the two loops of one
(row, offset) pass pair every column `x` of the row exactly once with the clamped column `clamp(x + dx)`
(`rowPairs`) — erosion reads the clamped column and writes `x`, dilation reads `x` and writes the clamped one.
-/
import Mahotas.Proofs.C01Fast
namespace Mahotas.C01
open Mahotas

/-- `dx > 0`, `k = dx`: the border loop pairs the last `k` columns with the last one, the main loop
    column `i` with `k + i` -/
def pairsPos (Nx k : Nat) : List (Nat × Nat) :=
  (List.range k).map (fun i => (Nx - i - 1, Nx - 1)) ++ (List.range (Nx - k)).map (fun i => (i, k + i))

/-- `dx < 0`, `k = −dx`: the border loop pairs the first `k` columns with the first one, the main loop
    column `k + i` with `i` -/
def pairsNeg (Nx k : Nat) : List (Nat × Nat) :=
  (List.range k).map (fun i => (i, 0)) ++ (List.range (Nx - k)).map (fun i => (k + i, i))

/-- the (column, clamped shifted column) pairs of one pass, in the order the two loops visit them -/
def rowPairs (Nx : Nat) (dx : Int) : List (Nat × Nat) :=
  if dx > 0 then pairsPos Nx dx.toNat
  else if dx < 0 then pairsNeg Nx (-dx).toNat
  else (List.range Nx).map (fun i => (i, i))

theorem mem_pairsPos (Nx k : Nat) (hk : k ≤ Nx) (c : Nat × Nat) :
    c ∈ pairsPos Nx k ↔ c.1 < Nx ∧ c.2 = min (c.1 + k) (Nx - 1) := by
  obtain ⟨a, b⟩ := c
  simp only [pairsPos, List.mem_append, List.mem_map, List.mem_range, Prod.mk.injEq]
  constructor
  · rintro (⟨i, hi, rfl, rfl⟩ | ⟨i, hi, rfl, rfl⟩) <;> omega
  · rintro ⟨ha, rfl⟩
    by_cases h : a < Nx - k
    · exact Or.inr ⟨a, h, rfl, by omega⟩
    · exact Or.inl ⟨Nx - 1 - a, by omega, by omega, by omega⟩

theorem mem_pairsNeg (Nx k : Nat) (hk : k ≤ Nx) (c : Nat × Nat) :
    c ∈ pairsNeg Nx k ↔ c.1 < Nx ∧ c.2 = c.1 - k := by
  obtain ⟨a, b⟩ := c
  simp only [pairsNeg, List.mem_append, List.mem_map, List.mem_range, Prod.mk.injEq]
  constructor
  · rintro (⟨i, hi, rfl, rfl⟩ | ⟨i, hi, rfl, rfl⟩) <;> omega
  · rintro ⟨ha, rfl⟩
    by_cases h : a < k
    · exact Or.inl ⟨a, h, rfl, by omega⟩
    · exact Or.inr ⟨a - k, by omega, by omega, rfl⟩

/-- the clamp of a non-negative coordinate -/
theorem clampSpec_natCast (x n : Nat) : (clampSpec (x : Int) n).toNat = min x (n - 1) := by
  unfold clampSpec; omega

/-- the clamp of `x − k` for a column `x` of the row -/
theorem clampSpec_natCast_sub (x k n : Nat) (hx : x < n) : (clampSpec ((x : Int) - k) n).toNat = x - k := by
  unfold clampSpec; omega

/-- every column occurs, paired with the clamped shifted column -/
theorem mem_rowPairs (Nx : Nat) (dx : Int) (hdx : -(Nx : Int) ≤ dx ∧ dx ≤ Nx) (c : Nat × Nat) :
    c ∈ rowPairs Nx dx ↔ c.1 < Nx ∧ c.2 = (clampSpec ((c.1 : Int) + dx) Nx).toNat := by
  unfold rowPairs
  split
  · rw [mem_pairsPos Nx _ (by omega)]
    refine and_congr_right fun hc => ?_
    rw [← clampSpec_natCast _ Nx, Int.natCast_add, Int.toNat_of_nonneg (by omega)]
  · split
    · rw [mem_pairsNeg Nx _ (by omega)]
      refine and_congr_right fun hc => ?_
      rw [← clampSpec_natCast_sub _ _ Nx hc, Int.toNat_of_nonneg (by omega), Int.sub_neg]
    · obtain ⟨a, b⟩ := c
      have e : ∀ i : Nat, i < Nx → (clampSpec ((i : Int) + dx) Nx).toNat = i := fun i hi => by
        rw [show dx = 0 by omega, Int.add_zero, clampSpec_of_inside (by omega) (by omega), Int.toNat_natCast]
      simp only [List.mem_map, List.mem_range, Prod.mk.injEq]
      constructor
      · rintro ⟨i, hi, rfl, rfl⟩; exact ⟨hi, (e i hi).symm⟩
      · rintro ⟨ha, rfl⟩; exact ⟨a, ha, rfl, (e a ha).symm⟩

theorem fastErodeRow_eq (data : Array Int) (Nx orow irow : Nat) (dx : Int) (res : Array Int) :
    fastErodeRow data Nx orow irow dx res =
      (rowPairs Nx dx).foldl (fun res c => andInto res (orow + c.1) (data.getD (irow + c.2) 0)) res := by
  unfold fastErodeRow rowPairs
  simp only
  split
  · rw [show dx.natAbs = dx.toNat by omega, pairsPos, List.foldl_append, List.foldl_map, List.foldl_map]
    simp only [Nat.add_assoc]
  · split
    · rw [show dx.natAbs = (-dx).toNat by omega, pairsNeg, List.foldl_append, List.foldl_map,
        List.foldl_map]
      simp only [Nat.add_assoc, Nat.add_zero]
    · rw [show dx.natAbs = 0 by omega, List.foldl_map]; rfl

theorem fastDilateRow_eq (data : Array Int) (Nx orow irow : Nat) (dx : Int) (res : Array Int) :
    fastDilateRow data Nx orow irow dx res =
      (rowPairs Nx dx).foldl (fun res c => orInto res (orow + c.2) (data.getD (irow + c.1) 0)) res := by
  unfold fastDilateRow rowPairs
  simp only
  split
  · rw [show dx.natAbs = dx.toNat by omega, pairsPos, List.foldl_append, List.foldl_map, List.foldl_map]
    simp only [Nat.add_assoc]
  · split
    · rw [show dx.natAbs = (-dx).toNat by omega, pairsNeg, List.foldl_append, List.foldl_map,
        List.foldl_map]
      simp only [Nat.add_assoc, Nat.add_zero]
    · rw [show dx.natAbs = 0 by omega, List.foldl_map]; rfl

theorem fastRow_eq (Ny y : Nat) (dy : Int) (hy : y < Ny) :
    fastRow Ny y dy = (clampSpec ((y : Int) + dy) Ny).toNat := by
  unfold fastRow
  simp only
  rcases clampSpec_cases ((y : Int) + dy) Ny (by omega) with ⟨h, e⟩ | ⟨h0, h1, e⟩ | ⟨h, e⟩ <;> rw [e]
  · rw [if_pos h, if_neg (by omega)]; congr 1; omega
  · rw [if_neg (show ¬ (y : Int) + dy < 0 by omega), if_neg (by omega)]
  · rw [if_neg (show ¬ (y : Int) + dy < 0 by omega), if_pos h]; congr 1; omega

theorem fastPositions_dx (Nx : Nat) (bshape : List Nat) (bc : Array Int) (d : Int × Int)
    (h : d ∈ fastPositions Nx bshape bc true) : -(Nx : Int) ≤ d.2 ∧ d.2 ≤ Nx := by
  match bshape, h with
  | [By, Bx], h =>
    obtain ⟨i, _, _, _, rfl⟩ := (mem_fastPositions Nx By Bx bc d).mp h
    simp only
    split
    · omega
    · split <;> omega
  | [], h => simp [fastPositions] at h
  | [_], h => simp [fastPositions] at h
  | _ :: _ :: _ :: _, h => simp [fastPositions] at h

theorem flat_index_unique (Nx y x y' x' : Nat) (hx : x < Nx) (hx' : x' < Nx)
    (h : y * Nx + x = y' * Nx + x') : y = y' ∧ x = x' := by
  have : y = y' := by rw [← rowMajor_div y hx, ← rowMajor_div y' hx', h]
  subst this
  exact ⟨rfl, by omega⟩

theorem flat_index_lt (Ny Nx y x : Nat) (hy : y < Ny) (hx : x < Nx) : y * Nx + x < Ny * Nx :=
  calc y * Nx + x < y * Nx + Nx := by omega
    _ = (y + 1) * Nx := by rw [Nat.add_mul, Nat.one_mul]
    _ ≤ Ny * Nx := Nat.mul_le_mul_right _ hy

theorem getD_flat (Ny Nx : Nat) (data : Array Int) (a b : Int) (ha : 0 ≤ a ∧ a < Ny) (hb : 0 ≤ b ∧ b < Nx) :
    (Img.mk [Ny, Nx] data).getD [a, b] 0 = data.getD (a.toNat * Nx + b.toNat) 0 := by
  have : inside [Ny, Nx] [a, b] = true := by simp [inside, ha, hb]
  simp [Img.getD, this, ravelI, shapeSize]

theorem ravelI_clamp2 (Ny Nx : Nat) (a b : Int) :
    ravelI [Ny, Nx] (clampPos [Ny, Nx] [a, b]) = (clampSpec a Ny).toNat * Nx + (clampSpec b Nx).toNat := by
  simp [clampPos, ravelI, shapeSize]

/-- the datum a pass reads in row `clamp(y + dy)`, column `clamp(x + dx)` is the clamped read of the image -/
theorem getD_clamp2 (Ny Nx : Nat) (data : Array Int) (hNy : 0 < Ny) (hNx : 0 < Nx) (a b : Int) :
    (Img.mk [Ny, Nx] data).getD (clampPos [Ny, Nx] [a, b]) 0 =
      data.getD ((clampSpec a Ny).toNat * Nx + (clampSpec b Nx).toNat) 0 := by
  simp only [clampPos]
  exact getD_flat Ny Nx data _ _ (clampSpec_range a Ny (by omega)) (clampSpec_range b Nx (by omega))

/-- all stores of the erosion branch in program order: (flat cell, value ANDed into it) -/
def erodeWrites (data : Array Int) (Ny Nx : Nat) (pos : List (Int × Int)) : List (Nat × Int) :=
  (List.range Ny).flatMap fun y => pos.flatMap fun d =>
    (rowPairs Nx d.2).map fun c => (y * Nx + c.1, data.getD (fastRow Ny y d.1 * Nx + c.2) 0)

theorem fastErodeLoops_eq_writes (Ny Nx : Nat) (data : Array Int) (bshape : List Nat) (bc : Array Int) :
    fastErodeLoops ⟨[Ny, Nx], data⟩ bshape bc =
      (erodeWrites data Ny Nx (fastPositions Nx bshape bc true)).foldl (fun o w => andInto o w.1 w.2)
        (if centreSet bshape bc = true then data else Array.replicate (shapeSize [Ny, Nx]) 1) := by
  simp only [fastErodeLoops, Img.size, erodeWrites, List.foldl_flatMap, List.foldl_map, fastErodeRow_eq]

theorem fastErodeLoops_size (Ny Nx : Nat) (data : Array Int) (bshape : List Nat) (bc : Array Int)
    (hdata : data.size = shapeSize [Ny, Nx]) :
    (fastErodeLoops ⟨[Ny, Nx], data⟩ bshape bc).size = shapeSize [Ny, Nx] := by
  rw [fastErodeLoops_eq_writes]
  refine (andProg_size _ _).trans ?_
  split
  · exact hdata
  · simp

theorem fastErodeLoops_cell (Ny Nx : Nat) (data : Array Int) (bshape : List Nat) (bc : Array Int)
    (hdata : data.size = shapeSize [Ny, Nx]) (h01 : ∀ i, data.getD i 0 = 0 ∨ data.getD i 0 = 1)
    (y x : Nat) (hy : y < Ny) (hx : x < Nx) :
    (fastErodeLoops ⟨[Ny, Nx], data⟩ bshape bc).getD (y * Nx + x) 0 =
      fastErodeAt ⟨[Ny, Nx], data⟩ bshape bc [(y : Int), (x : Int)] := by
  have hsize : shapeSize [Ny, Nx] = Ny * Nx := by simp [shapeSize]
  have hi : y * Nx + x < Ny * Nx := flat_index_lt Ny Nx y x hy hx
  obtain ⟨hisz, hi01⟩ := init01 (centreSet bshape bc) data _ 1 (Or.inr rfl) hdata h01
  have hpos := fastPositions_dx Nx bshape bc
  rw [fastErodeLoops_eq_writes]
  refine ((andProg_cell _ _ _ (by rw [hisz, hsize]; exact hi) (hi01 _)).congr ?_).eq
    (fastErodeAt_cell Ny Nx data bshape bc y x)
  generalize fastPositions (Nx : Int) bshape bc true = pos at hpos ⊢
  refine and_congr ?_ ?_
  · split
    · rw [getD_flat Ny Nx data y x (by omega) (by omega)]; simp [*]
    · simp [Array.getD_eq_getD_getElem?, *]
  -- a store into cell (y, x) through the offset `d` carries the clamped read of the image
  · have hval : ∀ d ∈ pos, (Img.mk [Ny, Nx] data).getD (clampPos [Ny, Nx] [(y : Int) + d.1, (x : Int) + d.2]) 0 =
        data.getD (fastRow Ny y d.1 * Nx + (clampSpec ((x : Int) + d.2) Nx).toNat) 0 := fun d _ => by
      rw [getD_clamp2 Ny Nx data (by omega) (by omega), fastRow_eq Ny y d.1 hy]
    simp only [erodeWrites, List.mem_flatMap, List.mem_map, List.mem_range]
    constructor
    · intro hall d hd
      rw [hval d hd]
      exact hall _ ⟨y, hy, d, hd, _, (mem_rowPairs Nx d.2 (hpos d hd) (x, _)).mpr ⟨hx, rfl⟩, rfl⟩ rfl
    · rintro hall _ ⟨y', _, d, hd, c, hc, rfl⟩ hw
      obtain ⟨hc1, hc2⟩ := (mem_rowPairs Nx d.2 (hpos d hd) c).mp hc
      obtain ⟨rfl, rfl⟩ := flat_index_unique Nx y' c.1 y x hc1 hx hw
      rw [hc2, ← hval d hd]
      exact hall d hd

/-- loops = pointwise form, as arrays -/
theorem fastErodeLoops_eq (Ny Nx : Nat) (data : Array Int) (bshape : List Nat) (bc : Array Int)
    (hdata : data.size = shapeSize [Ny, Nx]) (h01 : ∀ i, data.getD i 0 = 0 ∨ data.getD i 0 = 1) :
    fastErodeLoops ⟨[Ny, Nx], data⟩ bshape bc =
      ((allPos [Ny, Nx]).map (fastErodeAt ⟨[Ny, Nx], data⟩ bshape bc)).toArray := by
  apply array_eq_of_cells _ _ _ (fastErodeLoops_size Ny Nx data bshape bc hdata) (size_map_allPos _ _)
  intro i hi
  have hsz : shapeSize [Ny, Nx] = Nx * Ny := by simp [shapeSize, Nat.mul_comm]
  have hNx : 0 < Nx := Nat.pos_of_ne_zero (by rintro rfl; simp [shapeSize] at hi)
  have hu : unravelI [Ny, Nx] i = [((i / Nx : Nat) : Int), ((i % Nx : Nat) : Int)] := by
    simp [unravelI, unravel, shapeSize]
  rw [getD_map_allPos _ _ i 0 hi, hu, ← fastErodeLoops_cell Ny Nx data bshape bc hdata h01 (i / Nx) (i % Nx)
    (Nat.div_lt_of_lt_mul (hsz ▸ hi)) (Nat.mod_lt _ hNx), Nat.div_add_mod' i Nx]

/-- all stores of the dilation branch in program order: (flat cell, value ORed into it) -/
def dilateWrites (data : Array Int) (Ny Nx : Nat) (pos : List (Int × Int)) : List (Nat × Int) :=
  (List.range Ny).flatMap fun y => pos.flatMap fun d =>
    (rowPairs Nx d.2).map fun c => (fastRow Ny y d.1 * Nx + c.2, data.getD (y * Nx + c.1) 0)

theorem fastDilateLoops_eq_writes (Ny Nx : Nat) (data : Array Int) (bshape : List Nat) (bc : Array Int) :
    fastDilateLoops ⟨[Ny, Nx], data⟩ bshape bc =
      (dilateWrites data Ny Nx (fastPositions Nx bshape bc true)).foldl (fun o w => orInto o w.1 w.2)
        (if centreSet bshape bc = true then data else Array.replicate (shapeSize [Ny, Nx]) 0) := by
  simp only [fastDilateLoops, Img.size, dilateWrites, List.foldl_flatMap, List.foldl_map, fastDilateRow_eq]

/-- loops = pointwise form, as arrays (every 2-D shape, empty ones included) -/
theorem fastDilateLoops_eq (Ny Nx : Nat) (data : Array Int) (bshape : List Nat) (bc : Array Int)
    (hdata : data.size = shapeSize [Ny, Nx]) (h01 : ∀ i, data.getD i 0 = 0 ∨ data.getD i 0 = 1) :
    fastDilateLoops ⟨[Ny, Nx], data⟩ bshape bc = fastDilate ⟨[Ny, Nx], data⟩ bshape bc := by
  obtain ⟨_, hi01⟩ := init01 (centreSet bshape bc) data _ 0 (Or.inl rfl) hdata h01
  have hpos := fastPositions_dx Nx bshape bc
  rw [fastDilateLoops_eq_writes, fastDilate_eq_orProg]
  generalize fastPositions (Nx : Int) bshape bc true = pos at hpos ⊢
  refine orProg_ext _ _ _ hi01 fun i _ => ?_
  -- the row loops store a non-zero value into cell `i` iff a non-zero pixel scatters onto `i`
  rw [mem_fdStores]
  simp only [dilateWrites, List.mem_flatMap, List.mem_map, List.mem_range]
  constructor
  · rintro ⟨_, ⟨y, hy, d, hd, c, hc, rfl⟩, hw, hne⟩
    obtain ⟨hc1, hc2⟩ := (mem_rowPairs Nx d.2 (hpos d hd) c).mp hc
    have hp : inside [Ny, Nx] [(y : Int), (c.1 : Int)] = true := by simp [inside]; omega
    refine ⟨_, hp, ?_, List.mem_map.mpr ⟨d, hd, ?_⟩⟩
    · rw [getD_flat Ny Nx data y c.1 (by omega) (by omega)]; simpa using hne
    · rw [ravelI_clamp2, ← fastRow_eq Ny y d.1 hy, ← hc2]; exact hw
  · rintro ⟨p, hp, hv, hj⟩
    obtain ⟨y, x, rfl, hy, hx⟩ := inside2 Ny Nx p hp
    obtain ⟨y, rfl⟩ : ∃ n : Nat, y = n := ⟨y.toNat, by omega⟩
    obtain ⟨x, rfl⟩ : ∃ n : Nat, x = n := ⟨x.toNat, by omega⟩
    obtain ⟨d, hd, ht⟩ := List.mem_map.mp hj
    rw [getD_flat Ny Nx data y x hy hx, Int.toNat_natCast, Int.toNat_natCast] at hv
    refine ⟨_, ⟨y, by omega, d, hd, (x, (clampSpec ((x : Int) + d.2) Nx).toNat),
      (mem_rowPairs Nx d.2 (hpos d hd) _).mpr ⟨by omega, rfl⟩, rfl⟩, ?_, hv⟩
    rw [fastRow_eq Ny y d.1 (by omega), ← ravelI_clamp2, ht]

end Mahotas.C01
