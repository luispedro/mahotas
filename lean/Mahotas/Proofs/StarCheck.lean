/-
A decidable check for "coordinate-wise star-shaped (and symmetric)" offset sets: enumerate every
offset between 0 and a member. Used to discharge `C14.StarShaped`, `C14.SymNb`, `C02.SymStar` for
concrete structuring elements by `decide +kernel`.
-/
import Mahotas.Proofs.C02Laws
import Mahotas.Proofs.C14Reg
namespace Mahotas
open Mahotas Mahotas.C14

theorem mem_intRange (a a' : Int) (h : (0 ≤ a' ∧ a' ≤ a) ∨ (a ≤ a' ∧ a' ≤ 0)) : a' ∈ intRange a := by
  unfold intRange
  by_cases ha : 0 ≤ a
  · rw [if_pos ha, List.mem_map]
    exact ⟨a'.toNat, List.mem_range.mpr (by omega), Int.toNat_of_nonneg (by omega)⟩
  · rw [if_neg ha, List.mem_map]
    refine ⟨(-a').toNat, List.mem_range.mpr (by omega), ?_⟩
    show -(((-a').toNat : Nat) : Int) = a'
    rw [Int.toNat_of_nonneg (by omega), Int.neg_neg]

theorem mem_betweens (k' k : List Int) (h : C01.between k' k = true) : k' ∈ betweens k := by
  induction k generalizing k' with
  | nil => cases k' <;> simp_all [C01.between, betweens]
  | cons a as ih =>
    cases k' with
    | nil => simp [C01.between] at h
    | cons a' as' =>
      simp only [C01.between, Bool.and_eq_true, Bool.or_eq_true, decide_eq_true_eq] at h
      simp only [betweens, List.mem_flatMap, List.mem_map]
      exact ⟨a', mem_intRange a a' h.1, as', ih as' h.2, rfl⟩

theorem starShaped_of_check (nb : List (List Int)) (h : starShapedB nb = true) : C14.StarShaped nb := by
  intro k hk k' hb
  unfold starShapedB at h
  rw [List.all_eq_true] at h
  have := List.all_eq_true.mp (h k hk) k' (mem_betweens k' k hb)
  simp only [Bool.or_eq_true, List.contains_iff_mem] at this
  exact this

theorem symNb_of_check (A : Img Int) (nb : List (List Int)) (h : symNbB A.shape.length nb = true) :
    C14.SymNb A nb := by
  unfold symNbB at h
  rw [List.all_eq_true] at h
  constructor
  · intro k hk
    have := h k hk
    simp only [Bool.and_eq_true, List.contains_iff_mem] at this
    exact this.1
  · intro k hk
    have := h k hk
    simp only [Bool.and_eq_true, beq_iff_eq] at this
    exact this.2

theorem symStar_of_check (sup : List (List Int × Int)) (h : symStarB sup = true) : C02.SymStar sup := by
  unfold symStarB at h
  rw [List.all_eq_true] at h
  constructor
  · intro kh hkh k' hb
    have := h kh hkh
    simp only [Bool.and_eq_true] at this
    have := List.all_eq_true.mp this.1 k' (mem_betweens k' kh.1 hb)
    simp only [List.contains_iff_mem, List.mem_map] at this
    obtain ⟨kh', h1, h2⟩ := this
    exact ⟨kh', h1, h2⟩
  · intro kh hkh
    have := h kh hkh
    simp only [Bool.and_eq_true, List.contains_iff_mem, List.mem_map] at this
    obtain ⟨kh', h1, h2⟩ := this.2
    exact ⟨kh', h1, h2⟩

end Mahotas
