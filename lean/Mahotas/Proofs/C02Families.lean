/-
C02 (and C14): the hypotheses the lattice laws put on the structuring element, proved for whole families —
`crossElem d r` (what `get_structuring_elem` builds), `diskElem d r` (`disk(r, d)`), all-ones boxes of odd sides; every
rank and radius. `CrossBoxDisk` says "(S, bc) is one of those", `RegularElem` what the three share (both in
`Proofs/C01Tables.lean`). Here the families are shown regular (from `cross_props`, `disk_props`, `box_regular`), and
`SymStar`, lengths, heights, `Scalars`, `CentreMember`, `HiClear` of the dilation follow from `RegularElem` for the supports as the drivers build them (`support S bc dt.isBool`).
-/
import Mahotas.Proofs.C01Tables
import Mahotas.Proofs.C02Signed

namespace Mahotas.C01
open Mahotas

theorem CentredCrossBoxDisk.toFamily {d : Nat} {S : List Nat} {bc : Array Int}
    (h : CentredCrossBoxDisk d S bc) : CrossBoxDisk d S bc := by
  rcases h with ⟨r, _, h1, h2⟩ | ⟨r, _, h1, h2⟩ | h
  · exact Or.inl ⟨r, h1, h2⟩
  · exact Or.inr (Or.inl ⟨r, h1, h2⟩)
  · exact Or.inr (Or.inr h)

theorem regular_cross (d : Nat) (r : Int) :
    RegularElem d (List.replicate d 3) (crossElem d r) ∧
    (0 ≤ r → List.replicate d 0 ∈ (support (List.replicate d 3) (crossElem d r) true).map (·.1)) := by
  obtain ⟨_, _, h3, _, h5, h6⟩ := cross_props d r
  exact ⟨⟨by simp, replicate_odd d 1, fun i _ => crossElem_01 d r i, h3, h5⟩, h6⟩

theorem regular_disk (d r : Nat) :
    RegularElem d (List.replicate d (2 * r + 1)) (diskElem d r) ∧
    (1 ≤ r → List.replicate d 0 ∈ (support (List.replicate d (2 * r + 1)) (diskElem d r) true).map (·.1)) := by
  obtain ⟨_, _, h3, _, h5, h6, _⟩ := disk_props d r
  exact ⟨⟨by simp, replicate_odd d r, diskElem_eq d r ▸ ballElem_entries d r _, h3, h5⟩, h6⟩

theorem regular_box (S : List Nat) (bc : Array Int) (hodd : ∀ b ∈ S, b % 2 = 1)
    (hbc : ∀ i, i < shapeSize S → bc.getD i 0 = 1) : RegularElem S.length S bc := by
  refine ⟨rfl, hodd, fun i hi => Or.inr (hbc i hi), (box_regular S bc hbc).1, ?_⟩
  intro k hk
  obtain ⟨kh, hkh, rfl⟩ := List.mem_map.mp hk
  have := (mem_box_members S bc hbc kh).mp hkh
  exact List.mem_map.mpr ⟨(negPos kh.1, 1),
    (mem_box_members S bc hbc _).mpr ⟨negPos_boxOffsets_odd S hodd _ this.1, rfl⟩, rfl⟩

theorem CrossBoxDisk.regular {d : Nat} {S : List Nat} {bc : Array Int} (h : CrossBoxDisk d S bc) :
    RegularElem d S bc := by
  rcases h with ⟨r, rfl, rfl⟩ | ⟨r, rfl, rfl⟩ | ⟨rfl, hodd, hbc⟩
  · exact (regular_cross d r).1
  · exact (regular_disk d r).1
  · exact regular_box S bc hodd hbc

section
variable {d : Nat} {S : List Nat} {bc : Array Int}

theorem RegularElem.len (h : RegularElem d S bc) (c : Bool) :
    ∀ kh ∈ support S bc c, kh.1.length = d := by
  intro kh hkh
  rw [boxOffsets_length S kh.1 (support_mem_boxOffsets S bc c kh hkh), h.rank]

theorem RegularElem.heights (h : RegularElem d S bc) (c : Bool) :
    ∀ kh ∈ support S bc c, kh.2 = 0 ∨ kh.2 = 1 := by
  intro kh hkh
  obtain ⟨i, hi, e⟩ := support_heights S bc c kh hkh
  rw [e]; exact h.entries i hi

theorem RegularElem.ones (h : RegularElem d S bc) : ∀ kh ∈ support S bc true, kh.2 = 1 := by
  intro kh hkh
  have h2 := ((mem_support_true_iff S bc true kh).mp hkh).2
  rcases h.heights true kh hkh with h0 | h1
  · exact absurd h0 h2
  · exact h1

theorem RegularElem.mem_of_fst (h : RegularElem d S bc) {k : List Int}
    (hk : k ∈ (support S bc true).map (·.1)) : (k, (1 : Int)) ∈ support S bc true := by
  obtain ⟨kh, hkh, rfl⟩ := List.mem_map.mp hk
  rw [← h.ones kh hkh]; exact hkh

theorem RegularElem.neg_entry (h : RegularElem d S bc) (kh : List Int × Int) (hkh : kh ∈ support S bc true) :
    ∃ kh' ∈ support S bc true, kh'.1 = negPos kh.1 :=
  List.mem_map.mp (h.neg kh.1 (List.mem_map.mpr ⟨kh, hkh, rfl⟩))

end

theorem CentredCrossBoxDisk.centre {d : Nat} {S : List Nat} {bc : Array Int}
    (h : CentredCrossBoxDisk d S bc) : (List.replicate d (0 : Int), (1 : Int)) ∈ support S bc true := by
  have key : List.replicate d (0 : Int) ∈ (support S bc true).map (·.1) := by
    rcases h with ⟨r, hr, rfl, rfl⟩ | ⟨r, hr, rfl, rfl⟩ | ⟨rfl, hodd, hbc⟩
    · exact (regular_cross d r).2 hr
    · exact (regular_disk d r).2 hr
    · exact List.mem_map.mpr ⟨(_, 1), (mem_box_members S bc hbc _).mpr
        ⟨zero_boxOffsets_pos S (fun b hb => by have := hodd b hb; omega), rfl⟩, rfl⟩
  exact h.toFamily.regular.mem_of_fst key

end Mahotas.C01

namespace Mahotas.C02
open Mahotas Mahotas.C01

/-- the dtypes of the C02 laws: an unsigned integer dtype (range `[0, hi]`, `hi ≥ 1`) or bool -/
def UnsignedOrBool (dt : DT) : Prop := (dt.WF ∧ dt.lo = 0) ∨ dt = dtBool

section
variable {d : Nat} {S : List Nat} {bc : Array Int}

theorem symStar_true (h : RegularElem d S bc) : SymStar (support S bc true) :=
  ⟨starShaped_entry S _ (support_mem_boxOffsets S bc true) h.star, h.neg_entry⟩

/-- `SymStar` of the uncompressed support (non-bool images: every box entry is kept): the box of
    odd sides is symmetric and star-shaped -/
theorem symStar_false (h : RegularElem d S bc) : SymStar (support S bc false) :=
  ⟨fun kh hkh k' hb => (mem_support_false_fst S bc k').mpr
      (between_mem_boxOffsets S k' kh.1 (support_mem_boxOffsets S bc false kh hkh) hb),
   fun kh hkh => (mem_support_false_fst S bc _).mpr
      (negPos_boxOffsets_odd S h.odd _ (support_mem_boxOffsets S bc false kh hkh))⟩

theorem symStar_family (h : RegularElem d S bc) (c : Bool) : SymStar (support S bc c) := by
  cases c
  · exact symStar_false h
  · exact symStar_true h

theorem admissible_family (dt : DT) (wf : dt.WF) (h : RegularElem d S bc) (c : Bool) :
    ∀ kh ∈ support S bc c, AdmissibleEntry dt kh.2 := by
  intro kh hkh
  have := wf.hi_pos
  rcases h.heights c kh hkh with h0 | h1
  · exact Or.inr (by omega)
  · exact Or.inr (by omega)

theorem scalars_family (dt : DT) (hdt : UnsignedOrBool dt) (h : RegularElem d S bc) :
    Scalars dt (support S bc dt.isBool) := by
  rcases hdt with ⟨wf, hlo⟩ | rfl
  · exact (scalars_int dt wf _ (admissible_family dt wf h _)).ofLo0 hlo
  · apply scalars_bool
    intro kh hkh
    rw [h.ones kh hkh]
    decide

theorem isZeroPos_replicate (d : Nat) : C14.isZeroPos (List.replicate d (0 : Int)) = true := by
  simp [C14.isZeroPos]

/-- the centre is a member in the sense of `cerode`/`cdilate` for every integer dtype: its height 1 is not the
    marker -/
theorem centreMember_family_int (dt : DT) (wf : dt.WF) (h : CentredCrossBoxDisk d S bc) :
    CentreMember dt (support S bc false) := by
  have := wf.hi_pos
  have := wf.lo_nonpos
  exact centreMember_int dt wf _ _ ((mem_support_true_iff S bc false _).mp h.centre).1 (isZeroPos_replicate d)
    (show (0 : Int) ≤ 1 by decide) (show (1 : Int) ≤ dt.hi by omega) (show (1 : Int) ≠ dt.lo by omega)

theorem centreMember_family (dt : DT) (hdt : UnsignedOrBool dt) (h : CentredCrossBoxDisk d S bc) :
    CentreMember dt (support S bc dt.isBool) := by
  rcases hdt with ⟨wf, _⟩ | rfl
  · rw [wf.notBool]; exact centreMember_family_int dt wf h
  · exact centreMember_bool _ _ h.centre (isZeroPos_replicate d) (show (1 : Int) ≠ 0 by decide)

/-- for the families every height is 0 or 1, so "f + h < hi for every height" follows from
    "f + 1 < hi", a hypothesis about the image only -/
theorem hiClear_dilate_family_int (dt : DT) (wf : dt.WF) (h : RegularElem d S bc) (c : Bool) (F : Img Int)
    (wfF : Dflt dt F) (hF : RangeImg dt F)
    (hcl : ∀ i, i < shapeSize F.shape → F.data.getD i 0 + 1 < dt.hi) :
    HiClear dt (dilateImg dt F (support S bc c)) := by
  apply hiClear_dilate_int dt wf _ (admissible_family dt wf h c) F wfF hF
  intro i hi kh hkh _
  have := hcl i hi
  rcases h.heights c kh hkh with h0 | h1 <;> omega

theorem hiClear_dilate_family (dt : DT) (hdt : UnsignedOrBool dt) (h : RegularElem d S bc) (F : Img Int)
    (hF : RangeImg dt F)
    (hcl : dt.isBool = true ∨ ∀ i, i < shapeSize F.shape → F.data.getD i 0 + 1 < dt.hi) :
    HiClear dt (dilateImg dt F (support S bc dt.isBool)) := by
  rcases hdt with ⟨wf, hlo⟩ | rfl
  · exact hiClear_dilate_family_int dt wf h _ F (dflt_of_lo0 hlo F) hF
      (hcl.resolve_left (by rw [wf.notBool]; exact Bool.false_ne_true))
  · intro j _; exact Or.inl rfl

theorem hiClear_of_below (dt : DT) (F : Img Int)
    (hcl : dt.isBool = true ∨ ∀ i, i < shapeSize F.shape → F.data.getD i 0 + 1 < dt.hi) :
    HiClear dt F := by
  intro j hj
  rcases hcl with hb | hcl
  · exact Or.inl hb
  · have := hcl j hj; exact Or.inr (by omega)

/-- `NoSat` for every pixel/entry pair from a hypothesis about the images only -/
theorem noSat_family (dt : DT) (h : RegularElem d S bc) (F G : Img Int) (hshape : G.shape = F.shape)
    (hd : F.shape.length = d) (c : Bool)
    (hc : HiClear dt F ∨ HiClear dt G) :
    ∀ i, i < shapeSize F.shape → ∀ kh ∈ support S bc c,
      NoSat dt (F.data.getD i 0) (G.data.getD (tgt F.shape i kh.1) 0) kh.2 := by
  rcases hc with hc | hc
  · intro i hi kh hkh
    rcases hc i hi with hb | hlt
    · exact Or.inl hb
    · refine Or.inr (Or.inr ?_)
      rcases h.heights c kh hkh with h0 | h1 <;> omega
  · exact noSat_of_hiClear dt _ F G hshape (fun kh hkh => by rw [h.len c kh hkh, hd]) hc

end

end Mahotas.C02
