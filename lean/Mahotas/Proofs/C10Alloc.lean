/-
C10 — `Model/C10Alloc.lean`: every mechanism stores exactly the cells of its buffer.

Each write list gets one characterisation `i ∈ xxxWrites … ↔ 0 ≤ i ∧ i < size`; `defined_of_mem` turns it into `within` and `covers`.
The scratch arrays of `dist_transform` are read only below a watermark of stored cells (`dtScratchReads_ok`).
-/
import Mahotas.Model.C10Alloc
import Mahotas.Generated.Guards
import Mahotas.Proofs.C10Base
namespace Mahotas.C10Alloc
open Mahotas

theorem within_iff (n : Nat) (ws : List Int) : within n ws = true ↔ ∀ i ∈ ws, 0 ≤ i ∧ i < (n : Int) := by
  simp only [within, List.all_eq_true, Bool.and_eq_true, decide_eq_true_eq]

theorem covers_iff (n : Nat) (ws : List Int) : covers n ws = true ↔ ∀ i : Nat, i < n → (i : Int) ∈ ws := by
  simp only [covers, List.all_eq_true, List.mem_range, List.contains_iff_mem, Int.ofNat_eq_natCast]

theorem readsDefined_iff (ws rs : List Int) : readsDefined ws rs = true ↔ ∀ i ∈ rs, i ∈ ws := by
  simp only [readsDefined, List.all_eq_true, List.contains_iff_mem]

/-- a write list whose members are exactly the cells `0 … n-1` stays inside the buffer and leaves no cell out -/
theorem defined_of_mem {n : Nat} {ws : List Int} (h : ∀ i, i ∈ ws ↔ 0 ≤ i ∧ i < (n : Int)) :
    within n ws = true ∧ covers n ws = true :=
  ⟨(within_iff n ws).mpr fun i hi => (h i).mp hi,
    (covers_iff n ws).mpr fun i hi => (h i).mpr ⟨Int.natCast_nonneg i, Int.ofNat_lt.mpr hi⟩⟩

theorem readsDefined_self (ws : List Int) : readsDefined ws ws = true :=
  (readsDefined_iff ws ws).mpr fun _ h => h

theorem mem_fillWrites (n : Nat) (i : Int) : i ∈ fillWrites n ↔ 0 ≤ i ∧ i < (n : Int) :=
  mem_natRange n i

theorem mem_gmIndices (n l i : Int) : i ∈ gmIndices n l ↔ 0 ≤ i ∧ i < ((gmSize n l).toNat : Int) :=
  (mem_natRange (gmSize n l) i).trans (by omega)

theorem mem_pixelGo (k : Nat) (r i : Int) : i ∈ pixelGo k r ↔ r ≤ i ∧ i < r + k := by
  induction k generalizing r with
  | zero => exact iff_of_false List.not_mem_nil (by omega)
  | succ k ih => rw [pixelGo, List.mem_cons, ih]; omega

theorem mem_pixelWrites (n : Nat) (i : Int) : i ∈ pixelWrites n ↔ 0 ≤ i ∧ i < (n : Int) := by
  rw [pixelWrites, mem_pixelGo, Int.zero_add]

/-- two stores per iteration -/
theorem pairsGo_eq (k : Nat) (o : Int) : pairsGo k o = pixelGo (k * 2) o := by
  induction k generalizing o with
  | zero => rfl
  | succ k ih => rw [pairsGo, ih, Nat.succ_mul, pixelGo, pixelGo, Int.add_assoc]; rfl

theorem mem_pairsWrites (h : Nat) (i : Int) : i ∈ pairsWrites h ↔ 0 ≤ i ∧ i < ((h * 2 : Nat) : Int) := by
  rw [pairsWrites, pairsGo_eq]
  exact mem_pixelWrites (h * 2) i

theorem compressSize_false (ms : List Bool) : compressSize (false :: ms) = compressSize ms := rfl
theorem compressSize_true (ms : List Bool) : compressSize (true :: ms) = compressSize ms + 1 := rfl

/-- one store per set cell of the mask -/
theorem compressGo_eq (mask : List Bool) (j : Int) : compressGo mask j = pixelGo (compressSize mask) j := by
  induction mask generalizing j with
  | nil => rfl
  | cons b ms ih =>
    cases b
    · rw [compressGo, compressSize_false, ih]
    · rw [compressGo, compressSize_true, pixelGo, ih]

theorem mem_compressWrites (mask : List Bool) (i : Int) :
    i ∈ compressWrites mask ↔ 0 ≤ i ∧ i < (compressSize mask : Int) := by
  rw [compressWrites, compressGo_eq]
  exact mem_pixelWrites (compressSize mask) i

theorem mem_rowsWrites (n0 n1 : Nat) (i : Int) : i ∈ rowsWrites n0 n1 ↔ 0 ≤ i ∧ i < ((n0 * n1 : Nat) : Int) := by
  simp only [rowsWrites, List.mem_flatMap, List.mem_map, List.mem_range, Int.ofNat_eq_natCast, Int.natCast_mul]
  constructor
  · rintro ⟨y, hy, x, hx, rfl⟩
    exact flat2_range y x n0 n1 (Int.natCast_nonneg y) (Int.ofNat_lt.mpr hy) (Int.natCast_nonneg x) (Int.ofNat_lt.mpr hx)
  · rintro ⟨h0, h⟩
    obtain ⟨m, rfl⟩ := Int.eq_ofNat_of_zero_le h0
    have hm : m < n0 * n1 := Int.ofNat_lt.mp (Int.natCast_mul .. ▸ h)
    have h1 : 0 < n1 := Nat.pos_of_lt_mul_left hm
    refine ⟨m / n1, (Nat.div_lt_iff_lt_mul h1).mpr hm, m % n1, Nat.mod_lt m h1, ?_⟩
    rw [← Int.natCast_mul, ← Int.natCast_add, Nat.div_add_mod']

theorem mem_recordsWrites (n k : Nat) (i : Int) : i ∈ recordsWrites n k ↔ 0 ≤ i ∧ i < ((n * k : Nat) : Int) :=
  mem_rowsWrites n k i

theorem add_half_lt {n win v : Nat} (hv : v < n - win) : v + win / 2 < n :=
  Nat.lt_of_le_of_lt (Nat.add_le_add_left (Nat.div_le_self win 2) v) (Nat.add_lt_of_lt_sub hv)

/-- `majority_filter`: the window stores at `(y + N/2, N/2 + x)` only repeat cells of the fill -/
theorem mem_windowWrites (rows cols win : Nat) (i : Int) :
    i ∈ windowWrites rows cols win ↔ 0 ≤ i ∧ i < ((rows * cols : Nat) : Int) := by
  rw [windowWrites, List.mem_append, mem_fillWrites]
  refine or_iff_left_of_imp fun hi => ?_
  split at hi
  · exact absurd hi List.not_mem_nil
  · simp only [List.mem_flatMap, List.mem_map, List.mem_range, Int.ofNat_eq_natCast] at hi
    obtain ⟨y, hy, x, hx, rfl⟩ := hi
    rw [Int.add_assoc, Int.natCast_mul]
    exact flat2_range _ _ _ _ (Int.natCast_nonneg (y + win / 2)) (Int.ofNat_lt.mpr (add_half_lt hy))
      (Int.natCast_nonneg (win / 2 + x)) (Int.ofNat_lt.mpr (Nat.add_comm .. ▸ add_half_lt hx))

/-- the cells `2j`, `2j+1`, `j < n`, taken together are `[0, 2n)`: what `bboxInitWrites` and `complexHalvesWrites` both store -/
theorem pair_cells (n : Nat) (i : Int) :
    (∃ j : Nat, j < n ∧ (i = 2 * (j : Int) ∨ i = 2 * (j : Int) + 1)) ↔ 0 ≤ i ∧ i < ((2 * n : Nat) : Int) := by
  induction n with
  | zero => exact iff_of_false (fun ⟨j, hj, _⟩ => Nat.not_lt_zero j hj) (by omega)
  | succ n ih => rw [Nat.exists_lt_succ_right, ih]; omega

theorem mem_bboxInitWrites (nd : Nat) (i : Int) : i ∈ bboxInitWrites nd ↔ 0 ≤ i ∧ i < ((2 * nd : Nat) : Int) := by
  rw [← pair_cells]
  simp only [bboxInitWrites, List.mem_flatMap, List.mem_range, List.mem_cons, List.not_mem_nil, or_false,
    Int.ofNat_eq_natCast]

theorem mem_complexHalvesWrites (n : Nat) (i : Int) :
    i ∈ complexHalvesWrites n ↔ 0 ≤ i ∧ i < ((2 * n : Nat) : Int) := by
  rw [← pair_cells]
  simp only [complexHalvesWrites, List.mem_append, List.mem_map, List.mem_range, Int.ofNat_eq_natCast, eq_comm,
    ← exists_or, ← and_or_left]

def DOk (l : List DRead) : Prop := ∀ r ∈ l, r.idx < r.stored

theorem dOk_iff (l : List DRead) : l.all DRead.ok = true ↔ DOk l := by
  simp only [DOk, DRead.ok, List.all_eq_true, decide_eq_true_eq]

theorem DOk.nil : DOk [] := fun _ h => absurd h List.not_mem_nil

theorem DOk.cons {i s : Nat} {l : List DRead} (h : i < s) (hl : DOk l) : DOk (⟨i, s⟩ :: l) :=
  List.forall_mem_cons.mpr ⟨h, hl⟩

/-- the reads `v[k]`, `z[k]` with `k` below the watermark -/
theorem DOk.vz {k W : Nat} {l : List DRead} (h : k < W) (hl : DOk l) : DOk (⟨k, W⟩ :: ⟨k, W + 1⟩ :: l) :=
  .cons h (.cons (Nat.lt_succ_of_lt h) hl)

theorem DOk.append {a b : List DRead} (ha : DOk a) (hb : DOk b) : DOk (a ++ b) :=
  List.forall_mem_append.mpr ⟨ha, hb⟩

/-- the do-while leaves through `break` (at `k = 0` at the latest) and reads `v[j]`, `z[j]` for `j ≤ k < W` only -/
theorem dtPopD_ok (cmp : Nat → Nat → Bool) (q W : Nat) (hcmp : cmp q 0 = true) : ∀ k, k < W →
    ∃ a kb, dtPopD cmp q W k = (a, some kb) ∧ DOk a := by
  intro k
  induction k with
  | zero =>
    intro hk
    exact ⟨_, 0, by rw [dtPopD, if_pos hcmp], .vz hk .nil⟩
  | succ k ih =>
    intro hk
    rw [dtPopD]
    split
    · exact ⟨_, k + 1, rfl, .vz hk .nil⟩
    · obtain ⟨a, kb, e, ha⟩ := ih (Nat.lt_of_succ_lt hk)
      rw [e]
      exact ⟨_, kb, rfl, .vz hk ha⟩

/-- the first loop keeps `k` below the watermark: after a pop to `kb` it stores `v[kb+1]`, `z[kb+1]`, `z[kb+2]` -/
theorem dtFirstD_ok (cmp : Nat → Nat → Bool) (hcmp : ∀ q, cmp q 0 = true) : ∀ (c q k W : Nat), k < W →
    ∃ a k' W', dtFirstD cmp c q k W = (a, some (k', W')) ∧ DOk a ∧ k' < W' := by
  intro c
  induction c with
  | zero => exact fun q k W h => ⟨_, k, W, rfl, .nil, h⟩
  | succ c ih =>
    intro q k W h
    obtain ⟨a, kb, e, ha⟩ := dtPopD_ok cmp q W (hcmp q) k h
    obtain ⟨b, k', W', e', hb, hk'⟩ :=
      ih (q + 1) (kb + 1) (max W (kb + 2)) (Nat.lt_of_lt_of_le (Nat.lt_succ_self _) (Nat.le_max_right _ _))
    exact ⟨_, k', W', by simp only [dtFirstD, e, e'], ha.append hb, hk'⟩

/-- the second loop stops at the sentinel `z[kfin+1]`: `k` never passes `kfin < W` -/
theorem dtAdvanceD_ok (lt2 : Nat → Nat → Bool) (q W kfin : Nat) (hW : kfin < W) (hlt : lt2 q kfin = false) :
    ∀ (f k : Nat), k ≤ kfin → DOk (dtAdvanceD lt2 q W f k).1 ∧ (dtAdvanceD lt2 q W f k).2 ≤ kfin := by
  intro f
  induction f with
  | zero => exact fun k hk => ⟨.nil, hk⟩
  | succ f ih =>
    intro k hk
    have hkW : k < W := Nat.lt_of_le_of_lt hk hW
    rw [dtAdvanceD]
    split
    · rename_i hl
      have hne : k ≠ kfin := fun e => by rw [e, hlt] at hl; cases hl
      obtain ⟨h1, h2⟩ := ih (k + 1) (Nat.lt_of_le_of_ne hk hne)
      exact ⟨.cons (Nat.succ_lt_succ hkW) h1, h2⟩
    · exact ⟨.cons (Nat.succ_lt_succ hkW) (.cons hkW .nil), hk⟩

theorem dtSecondD_ok (lt2 : Nat → Nat → Bool) (n W kfin : Nat) (hW : kfin < W) (hlt : ∀ q, lt2 q kfin = false) :
    ∀ (c q k : Nat), k ≤ kfin → DOk (dtSecondD lt2 n W c q k) := by
  intro c
  induction c with
  | zero => exact fun _ _ _ => .nil
  | succ c ih =>
    intro q k hk
    obtain ⟨h1, h2⟩ := dtAdvanceD_ok lt2 q W kfin hW (hlt q) (n + 2) k hk
    exact h1.append (ih (q + 1) _ h2)

/-- the `k` the first loop ends with (`z[k+1] = inf` is the sentinel of the second loop) -/
def dtKfin (cmp : Nat → Nat → Bool) (n : Nat) : Nat :=
  match (dtFirstD cmp (n - 1) 1 0 1).2 with
  | some (k, _) => k
  | none => 0

/-- `hcmp`, `hlt` are the two sentinels `z[0] = -inf`, `z[kfin+1] = +inf`. The fuel `n + 2` of `dtAdvanceD` plays no part
(`dtAdvanceD_ok` holds for every fuel; running out would end the trace early without a flag): that it suffices, `kfin < n`, is
not stated. -/
theorem dtScratchReads_ok (cmp lt2 : Nat → Nat → Bool) (n : Nat) (hcmp : ∀ q, cmp q 0 = true)
    (hlt : ∀ q, lt2 q (dtKfin cmp n) = false) :
    (dtScratchReads cmp lt2 n).1.all DRead.ok = true ∧ (dtScratchReads cmp lt2 n).2.isSome = true := by
  obtain ⟨a, k', W', e, ha, hk⟩ := dtFirstD_ok cmp hcmp (n - 1) 1 0 1 Nat.zero_lt_one
  simp only [dtKfin, e] at hlt
  simp only [dtScratchReads, e]
  exact ⟨(dOk_iff _).mpr (ha.append (dtSecondD_ok lt2 n W' k' hk hlt n 0 0 (Nat.zero_le _))), rfl⟩

end Mahotas.C10Alloc
