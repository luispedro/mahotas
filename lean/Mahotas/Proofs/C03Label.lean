/-
C03 — the loops of `label`. The scan keeps the invariant of `C03Scan` (`Inv.foldl`: a loop adds the edges of its rounds),
the final compression leaves every foreground cell holding its root (`parents_spec`). `IsLabelling` says what the renumbering
then has to yield: the first-appearance labelling of the partition, of which there is one (`IsLabelling.unique`); that it does
is `labelModel_isLabelling` in `Proofs/C03Rank.lean`.
-/
import Mahotas.Proofs.C03Scan
import Mahotas.Proofs.C03Renum
import Mahotas.Proofs.C04Index
namespace Mahotas.C03
open Relation

/-- `C03.offsets` and `C04.offsets` are the same text in the two models -/
theorem offsets_length (bshape : List Nat) (bc : Array Int) : ∀ o ∈ offsets bshape bc, o.length = bshape.length :=
  C04.offsets_length bshape bc

theorem initParents_size (data : List Int) : (initParents data).size = data.length := by
  simp [initParents]

theorem initParents_getD (data : List Int) (i : Nat) :
    (initParents data).getD i (-1) = if i < data.length ∧ data.getD i 0 ≠ 0 then (i : Int) else -1 := by
  unfold initParents
  simp only [Array.getD_eq_getD_getElem?, List.getElem?_toArray, List.getElem?_map]
  by_cases h : i < data.length
  · simp [h]
  · simp [h]

/-- the buffer after binarisation: every foreground cell is its own root -/
theorem roots_init (data : List Int) : Roots data (initParents data) id := by
  refine ⟨initParents_size data, fun i hi => ?_, fun i hi => ⟨0, RootN.base (by rw [initParents_size]; exact hi.1) ?_⟩⟩
  · rw [initParents_getD, if_neg (show ¬ (_ ∧ _) from hi)]
  · rw [initParents_getD, if_pos (show _ ∧ _ from hi)]

theorem init_inv (data : List Int) : Inv data (initParents data) (fun _ _ => False) := by
  refine ⟨id, roots_init data, fun x y => ⟨fun h => ?_, fun h => (show x = y from h) ▸ EqvGen.refl _⟩⟩
  induction h with
  | rel _ _ h => exact h.elim
  | refl => rfl
  | symm _ _ _ ih => exact ih.symm
  | trans _ _ _ _ _ a b => exact a.trans b

/-- a foreground cell holds a cell number, never `-1`: `v.toNat` in `scanPixel` loses nothing -/
theorem Inv.fg_value {data : List Int} {par : Array Int} {E : Nat → Nat → Prop} (h : Inv data par E)
    {x : Nat} (hx : Fg data x) : ∃ p : Nat, par.getD x (-1) = (p : Int) :=
  h.elim fun _ h => (h.1.fg x hx).elim fun _ hr => hr.value

/-- a loop whose body adds the edges `R a` adds the edges of all its rounds -/
theorem Inv.foldl {α : Type} {data : List Int} (f : Array Int → α → Array Int) (R : α → Nat → Nat → Prop)
    (hstep : ∀ par E a, Inv data par E → Inv data (f par a) (fun x y => E x y ∨ R a x y)) :
    ∀ (l : List α) (par : Array Int) (E : Nat → Nat → Prop), Inv data par E →
      Inv data (l.foldl f par) (fun x y => E x y ∨ ∃ a ∈ l, R a x y)
  | [], _, _, h => h.congr fun x y => by simp
  | a :: l, par, E, h => (Inv.foldl f R hstep l _ _ (hstep par E a h)).congr fun x y => by
      simp only [List.mem_cons, exists_eq_or_imp, or_assoc]

/-- the inner loop `if (retrieve(…, arr_val) && arr_val != -1) join(data, i, arr_val)` at a foreground pixel `i` -/
theorem inner_inv (data : List Int) (i : Nat) (hfi : Fg data i) (nbs : List Nat) (par : Array Int)
    (E : Nat → Nat → Prop) (h : Inv data par E) :
    Inv data (nbs.foldl (fun par nb =>
        let v := par.getD nb (-1)
        if v = -1 then par else join (data.length + 1) par i v.toNat) par)
      (fun x y => E x y ∨ ∃ nb ∈ nbs, x = i ∧ y = nb ∧ Fg data nb) := by
  refine Inv.foldl _ (fun nb x y => x = i ∧ y = nb ∧ Fg data nb) (fun par E nb h => ?_) nbs par E h
  dsimp only
  by_cases hv : par.getD nb (-1) = -1
  · rw [if_pos hv]
    exact h.congr fun x y => (or_iff_left fun hr => (h.neg_one_iff nb).mp hv hr.2.2).symm
  · rw [if_neg hv]
    have hnb : Fg data nb := not_not.mp fun hc => hv ((h.neg_one_iff nb).mpr hc)
    obtain ⟨p, hp⟩ := h.fg_value hnb
    rw [hp, Int.toNat_natCast]
    exact (join_inv h hfi hnb hp).congr fun x y => or_congr_right (by simp [hnb])

theorem scan_inv (m : Mode) (shape : List Nat) (offs : List (List Int)) (data : List Int) (l : List Nat)
    (par : Array Int) (E : Nat → Nat → Prop) (h : Inv data par E) :
    Inv data (l.foldl (scanPixel m shape offs (data.length + 1)) par)
      (fun x y => E x y ∨ ∃ i ∈ l, x = i ∧ Fg data i ∧ y ∈ neighbours m shape offs (unravelI shape i) ∧ Fg data y) := by
  refine Inv.foldl _ (fun i x y => x = i ∧ Fg data i ∧ y ∈ neighbours m shape offs (unravelI shape i) ∧ Fg data y)
    (fun par E i h => ?_) l par E h
  unfold scanPixel
  by_cases hv : par.getD i (-1) = -1
  · rw [if_pos hv]
    exact h.congr fun x y => (or_iff_left fun hr => (h.neg_one_iff i).mp hv hr.2.1).symm
  · rw [if_neg hv]
    have hfi : Fg data i := not_not.mp fun hc => hv ((h.neg_one_iff i).mpr hc)
    refine (inner_inv data i hfi _ par E h).congr fun x y => or_congr_right ?_
    constructor
    · rintro ⟨nb, hnb, rfl, rfl, f⟩; exact ⟨rfl, hfi, hnb, f⟩
    · rintro ⟨rfl, _, hnb, f⟩; exact ⟨y, hnb, rfl, rfl, f⟩

/-- cell `x` points directly at its root -/
def FlatAt (par : Array Int) (x : Nat) : Prop := ∃ r d, RootN par x r d ∧ par.getD x (-1) = (r : Int)

/-- the loop `if (data[i] != -1) compress(data, i)` after the scan -/
theorem compress_inv (data : List Int) (ρ : Nat → Nat) : ∀ (l : List Nat) (par : Array Int), Roots data par ρ →
    Roots data (l.foldl (fun par i => if par.getD i (-1) = -1 then par else compress (data.length + 1) par i) par) ρ ∧
    ∀ x, Fg data x → FlatAt par x ∨ x ∈ l →
      FlatAt (l.foldl (fun par i => if par.getD i (-1) = -1 then par else compress (data.length + 1) par i) par) x
  | [], par, h => ⟨h, fun x _ hx => hx.resolve_right List.not_mem_nil⟩
  | i :: l, par, h => by
    rw [List.foldl_cons]
    by_cases hv : par.getD i (-1) = -1
    · rw [if_pos hv]
      obtain ⟨a, b⟩ := compress_inv data ρ l par h
      exact ⟨a, fun x fx hx => b x fx (hx.imp_right fun hm => (List.mem_cons.mp hm).resolve_left
        fun e : x = i => (h.neg_one_iff i).mp hv (e ▸ fx))⟩
    · rw [if_neg hv]
      obtain ⟨d, hr⟩ := h.fg i (not_not.mp fun hc => hv (h.bg i hc))
      obtain ⟨_, hsz, hri, hc⟩ := find_cells _ par i _ d hr (h.fuel hr)
      have h3 := fun x rx dx (hx : RootN par x rx dx) => redirect_root hsz hc hx
      obtain ⟨a, b⟩ := compress_inv data ρ l _ (h.find hr)
      refine ⟨a, fun x fx hx => b x fx ?_⟩
      rcases hx with ⟨rx, dx, hxr, hxv⟩ | hx
      · obtain ⟨dx', _, hx'⟩ := h3 x rx dx hxr
        exact Or.inl ⟨rx, dx', hx', find_flat _ par i _ d hr (h.fuel hr) x rx dx hxr hxv⟩
      · rcases List.mem_cons.mp hx with rfl | hx
        · obtain ⟨dx', _, hx'⟩ := h3 x _ d hr
          exact Or.inl ⟨_, dx', hx', hri⟩
        · exact Or.inr hx

/-- the adjacency the scan processes: `y` is retrieved as a neighbour of the foreground pixel `x` -/
def Edge (m : Mode) (shape : List Nat) (offs : List (List Int)) (data : List Int) (x y : Nat) : Prop :=
  Fg data x ∧ Fg data y ∧ y ∈ neighbours m shape offs (unravelI shape x)

/-- **state of the buffer before renumbering**: background cells hold `-1`, a foreground cell `x` holds `ρ x`, and
    `ρ` is constant exactly on the classes of the equivalence generated by the edges of the scan -/
theorem parents_spec (m : Mode) (shape : List Nat) (data : List Int) (offs : List (List Int)) :
    ∃ ρ : Nat → Nat, (parents m shape data offs).size = data.length ∧
      (∀ x, ¬ Fg data x → (parents m shape data offs).getD x (-1) = -1) ∧
      (∀ x, Fg data x → (parents m shape data offs).getD x (-1) = (ρ x : Int)) ∧
      ∀ x y, EqvGen (Edge m shape offs data) x y ↔ ρ x = ρ y := by
  obtain ⟨ρ, h0, hcls⟩ := (scan_inv m shape offs data (List.range data.length) _ _ (init_inv data)).congr
    (E' := Edge m shape offs data) fun x y => by
      constructor
      · rintro (hF | ⟨_, _, rfl, fx, hy, fy⟩)
        · exact hF.elim
        · exact ⟨fx, fy, hy⟩
      · rintro ⟨fx, fy, hy⟩
        exact Or.inr ⟨x, List.mem_range.mpr fx.1, rfl, fx, hy, fy⟩
  obtain ⟨a, b⟩ := compress_inv data ρ (List.range data.length) _ h0
  refine ⟨ρ, a.size, a.bg, fun x fx => ?_, hcls⟩
  obtain ⟨r, d, hr, hv⟩ := b x fx (Or.inr (List.mem_range.mpr fx.1))
  obtain ⟨d', hr'⟩ := a.fg x fx
  exact hv.trans (congrArg Nat.cast (hr.det hr').1)

/-- `ExtendConstant`: a neighbour is retrieved exactly when it lies inside the image, and then unchanged -/
theorem fixPos_constant_inside (shape : List Nat) (p : List Int) (hp : p.length = shape.length) (q : List Int) :
    fixPos .constant shape p = some q ↔ (inside shape p = true ∧ q = p) := by
  rw [fixPos_constant_eq shape p hp]
  split
  · next h => exact ⟨fun e => ⟨h, (Option.some.inj e).symm⟩, fun e => e.2 ▸ rfl⟩
  · next h => exact ⟨fun e => (nomatch e), fun e => absurd e.1 h⟩

/-- the adjacency of `label` (one direction): `y` is the in-image pixel at `position(x) + k` for an offset `k` -/
def Off (shape : List Nat) (offs : List (List Int)) (x y : Nat) : Prop :=
  ∃ k ∈ offs, inside shape (addPos (unravelI shape x) k) = true ∧ y = ravelI shape (addPos (unravelI shape x) k)

/-- `ExtendConstant`, one neighbour of the scan: retrieved exactly when `position(x) + k` lies inside the image -/
theorem neighbour_constant (shape : List Nat) (x : Nat) (k : List Int) (hk : k.length = shape.length) :
    (fixPos .constant shape (addPos (unravelI shape x) k)).map (ravelI shape) =
      if inside shape (addPos (unravelI shape x) k) then some (ravelI shape (addPos (unravelI shape x) k)) else none := by
  rw [fixPos_constant_eq shape _
    (by rw [C01.addPos_length_of_eq _ _ (by rw [unravelI_length, hk]), unravelI_length])]
  split <;> rfl

theorem mem_neighbours_constant (shape : List Nat) (offs : List (List Int)) (x y : Nat)
    (hk : ∀ k ∈ offs, k.length = shape.length) :
    y ∈ neighbours .constant shape offs (unravelI shape x) ↔ Off shape offs x y := by
  unfold Off neighbours
  rw [List.mem_filterMap]
  refine exists_congr fun k => and_congr_right fun hko => ?_
  rw [neighbour_constant shape x k (hk k hko)]
  split
  · next h => exact ⟨fun e => ⟨h, (Option.some.inj e).symm⟩, fun e => e.2 ▸ rfl⟩
  · next h => exact ⟨fun e => (nomatch e), fun e => absurd e.1 h⟩

/-- `r` is the first-appearance labelling, with its count, of the partition of the foreground generated by `E`:
    0 exactly on the background, equal labels exactly on linked pixels, labels numbered `1, 2, …` in order of first
    appearance, and the count is the largest label -/
structure IsLabelling (data : List Int) (E : Nat → Nat → Prop) (r : List Int × Int) : Prop where
  length : r.1.length = data.length
  zero : ∀ i, i < data.length → (r.1.getD i 0 = 0 ↔ data.getD i 0 = 0)
  same : ∀ i j, Fg data i → Fg data j → (r.1.getD i 0 = r.1.getD j 0 ↔ EqvGen E i j)
  consec : Consec 1 r.1
  range : ∀ l ∈ r.1, 0 ≤ l ∧ l ≤ r.2
  count : 0 ≤ r.2 ∧ (1 ≤ r.2 → r.2 ∈ r.1)

section
variable {data : List Int} {E : Nat → Nat → Prop} {r s : List Int × Int}

theorem IsLabelling.eq_iff (h : IsLabelling data E r) {i j : Nat} (hi : i < data.length) (hj : j < data.length) :
    r.1.getD i 0 = r.1.getD j 0 ↔
      (data.getD i 0 = 0 ∧ data.getD j 0 = 0) ∨ (Fg data i ∧ Fg data j ∧ EqvGen E i j) := by
  by_cases zi : data.getD i 0 = 0
  · rw [(h.zero i hi).mpr zi, eq_comm, h.zero j hj]
    exact ⟨fun zj => Or.inl ⟨zi, zj⟩, fun c => c.elim And.right fun c => absurd zi c.1.2⟩
  · by_cases zj : data.getD j 0 = 0
    · rw [(h.zero j hj).mpr zj, h.zero i hi]
      exact ⟨fun c => absurd c zi, fun c => c.elim And.left fun c => absurd zj c.2.1.2⟩
    · rw [h.same i j ⟨hi, zi⟩ ⟨hj, zj⟩]
      exact ⟨fun c => Or.inr ⟨⟨hi, zi⟩, ⟨hj, zj⟩, c⟩, fun c => c.elim (fun c => absurd c.1 zi) fun c => c.2.2⟩

theorem IsLabelling.lt_one (h : IsLabelling data E r) {i : Nat} (hi : i < data.length) (hlt : r.1.getD i 0 < 1) :
    data.getD i 0 = 0 := by
  have hm : r.1.getD i 0 ∈ r.1 := by
    rw [List.getD_eq_getElem?_getD, List.getElem?_eq_getElem (h.length ▸ hi)]
    exact List.getElem_mem _
  exact (h.zero i hi).mp (by have := (h.range _ hm).1; omega)

/-- a partition has one first-appearance labelling -/
theorem IsLabelling.unique (hr : IsLabelling data E r) (hs : IsLabelling data E s) : r = s := by
  have hL : r.1 = s.1 := by
    refine consec_unique _ _ 1 (hr.length.trans hs.length.symm) hr.consec hs.consec
      (fun i j hi hj => (hr.eq_iff (hr.length ▸ hi) (hr.length ▸ hj)).trans
        (hs.eq_iff (hr.length ▸ hi) (hr.length ▸ hj)).symm) fun i hi h => ?_
    have z : data.getD i 0 = 0 := h.elim (hr.lt_one (hr.length ▸ hi)) (hs.lt_one (hr.length ▸ hi))
    rw [(hr.zero i (hr.length ▸ hi)).mpr z, (hs.zero i (hr.length ▸ hi)).mpr z]
  exact Prod.ext hL (count_unique s.1 _ _ (fun l hl => (hr.range l (hL ▸ hl)).2) (fun l hl => (hs.range l hl).2)
    (fun h => hL ▸ hr.count.2 h) hs.count.2 hr.count.1 hs.count.1)

/-- every label from 1 up to the count occurs: the count does, and before it every smaller one -/
theorem IsLabelling.all_occur (h : IsLabelling data E r) (k : Int) (hk1 : 1 ≤ k) (hk2 : k ≤ r.2) : k ∈ r.1 := by
  have hmem : r.2 ∈ r.1 := h.count.2 (Int.le_trans hk1 hk2)
  by_cases e : k = r.2
  · rw [e]; exact hmem
  · obtain ⟨i, hi⟩ := List.getElem?_of_mem hmem
    obtain ⟨j, _, hj⟩ := Consec.earlier r.1 1 h.consec i r.2 hi k hk1 (by omega)
    exact List.mem_of_getElem? hj

end

end Mahotas.C03
