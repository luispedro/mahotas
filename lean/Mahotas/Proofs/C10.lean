/-
C10 — the shared base of the C10 proofs: the `!=` loops and the coordinates of B1.

A loop `for (x = start; x != stop; ++x)` of the models visits exactly `[start, stop)` and leaves through its test when
`start ≤ stop` and the budget covers `stop - start` (`iterNe_spec`); what `fix_offset` returns is inside the array
(`neighbourIndex_inside`), and the stored table entry is the address difference to that element (`tableOffset_eq`).
-/
import Mahotas.Model.C10
import Mahotas.Proofs.Border
import Mahotas.Proofs.C01Index
import Mahotas.Proofs.C10Index
import Mahotas.Proofs.C10Base
import Mathlib.Tactic.Ring
namespace Mahotas.C10
open Mahotas

@[acc_forall] theorem mem_rangeI (n v : Int) : v ∈ rangeI n ↔ 0 ≤ v ∧ v < n := mem_natRange n v

theorem iterNe_spec (x stop : Int) (f : Nat) (h : x ≤ stop) (hf : stop - x ≤ f) :
    (∀ v, v ∈ iterNe x stop f ↔ x ≤ v ∧ v < stop) ∧ iterNeDone x stop f = true := by
  induction f generalizing x with
  | zero =>
    obtain rfl : x = stop := by omega
    exact ⟨fun v => by simp only [iterNe, List.not_mem_nil, false_iff]; omega, by simp only [iterNeDone, decide_true]⟩
  | succ f ih =>
    rw [iterNe, iterNeDone]
    split
    · next e => exact ⟨fun v => by simp only [List.not_mem_nil, false_iff]; omega, rfl⟩
    · obtain ⟨m, d⟩ := ih (x + 1) (by omega) (by omega)
      exact ⟨fun v => by rw [List.mem_cons, m]; omega, d⟩

/-- `for (x = 0; x != n; ++x)` over a size `n`, with the budget `n + 1` the models give it -/
theorem iterNe_count (n : Int) (h : 0 ≤ n) :
    (∀ v, v ∈ iterNe 0 n (n.toNat + 1) ↔ 0 ≤ v ∧ v < n) ∧ iterNeDone 0 n (n.toNat + 1) = true :=
  iterNe_spec 0 n _ h (by omega)

/-- `a.ok = true` as a proposition, definitionally the `0 ≤ a.i ∧ a.i < a.size` that the `C10_*` statements spell out, so a
lemma stated with `AccOk` proves such a statement as it stands. -/
def AccOk (a : Acc) : Prop := 0 ≤ a.i ∧ a.i < a.size

theorem allOk_iff (l : List Acc) : allOk l = true ↔ ∀ a ∈ l, 0 ≤ a.i ∧ a.i < a.size := by
  simp [allOk, Acc.ok, List.all_eq_true]

theorem neighbourIndex_inside (m : Mode) (as fs : List Nat) (p k q : List Int)
    (hpos : ∀ d ∈ as, 0 < d) (hf : fs.length = as.length) (hp : p.length = as.length)
    (hk : k.length = as.length) (h : neighbourIndex m as fs p k = some q) :
    inside as q = true := by
  have z := Zip₄.of_length hf hp hk
  clear hf hp hk
  induction z generalizing q with
  | nil => cases h; rfl
  | @cons a as f fs x xs y ys _ ih =>
    rw [neighbourIndex] at h
    cases h1 : fixOffset m (y - origin f + x) a with
    | none => simp [h1] at h
    | some c =>
      cases h2 : neighbourIndex m as fs xs ys with
      | none => simp [h1, h2] at h
      | some cs =>
        simp only [h1, h2, Option.some.injEq] at h
        subst h
        have ha : 0 < (a : Int) := by
          have := hpos a (by simp); omega
        obtain ⟨r0, r1⟩ := fixOffset_range m _ (a : Int) ha c h1
        have := ih cs (fun d hd => hpos d (by simp [hd])) h2
        simp [inside, r0, r1, this]

theorem tableOffset_eq (m : Mode) (as : List Nat) (ss : List Int) (fs : List Nat) (p k : List Int)
    (hs : ss.length = as.length) (hf : fs.length = as.length) (hp : p.length = as.length)
    (hk : k.length = as.length) :
    tableOffset m as ss fs p k = (neighbourIndex m as fs p k).map (fun q => dot ss q - dot ss p) := by
  have z := Zip₅.of_length hs hf hp hk
  clear hs hf hp hk
  induction z with
  | nil => rfl
  | @cons a as s ss f fs x xs y ys _ ih =>
    simp only [neighbourIndex, tableOffset, ih]
    cases fixOffset m (y - origin f + x) a with
    | none => simp
    | some c =>
      cases neighbourIndex m as fs xs ys with
      | none => simp
      | some cs =>
        simp only [Option.map_some, dot, Option.some.injEq]
        ring

theorem filterReads_inside (m : Mode) (shape fshape : List Nat) (hpos : ∀ d ∈ shape, 0 < d)
    (hf : fshape.length = shape.length) (q : List Int)
    (h : some q ∈ filterReads m shape fshape) : inside shape q = true := by
  simp only [filterReads, List.mem_flatMap, List.mem_map] at h
  obtain ⟨p, hp, k, hk, e⟩ := h
  exact neighbourIndex_inside m shape fshape p k q hpos hf (C01.inside_length ((C01.mem_allPos _ _).mp hp))
    (by rw [C01.inside_length ((C01.mem_allPos _ _).mp hk), hf]) e

end Mahotas.C10
