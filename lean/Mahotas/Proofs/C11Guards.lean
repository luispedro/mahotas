/-
C11 — the guard atoms, argument links and check flows read as propositions.

`Atom.rejects`, `NAtom.rejects`, `Link.holds` and `flowHolds` are Boolean interpreters (the driver runs them on descriptors of
real arguments); here each constructor gets the statement about the descriptors that "this atom does not reject" / "this
link holds" / "this value flows" amounts to,
proved equivalent once. A list of guards that passes then unfolds, by definition, into the conjunction of the readings of
its atoms, which is how Properties/C11.lean takes the extracted guard lists apart.
-/
import Mahotas.Model.C11Base
namespace Mahotas.C11
open Mahotas

theorem foldr_and_iff {α : Type} (q : α → Prop) (l : List α) :
    l.foldr (fun a P => q a ∧ P) True ↔ ∀ a ∈ l, q a := by
  induction l with
  | nil => simp
  | cons a l ih => simp [ih]

theorem foldr_imp_iff {α : Type} (q : α → Prop) (R : Prop) (l : List α) :
    l.foldr (fun a P => q a → P) R ↔ ((∀ a ∈ l, q a) → R) := by
  induction l with
  | nil => simp
  | cons a l ih => simp [ih]

/-- the wrapper guard does not raise -/
def Atom.Passes (env : Env) : Atom → Prop
  | .intLt a c => (env a).kind = 2 → c ≤ (env a).ival
  | .intLe a c => (env a).kind = 2 → c < (env a).ival
  | .ndimNe a n => (env a).kind = 1 → (env a).ndim = n
  | .dimNe a ax n => (env a).kind = 1 → ax < (env a).shape.length → (env a).shape.getD ax 0 = n
  | .ndimsDiffer a b => (env a).kind = 1 → (env b).kind = 1 → (env a).ndim = (env b).ndim
  | .shapesDiffer a b => (env a).kind = 1 → (env b).kind = 1 → (env a).shape = (env b).shape
  | .minDim2LeHalf a s => (env a).kind = 1 → (env s).kind = 2 → 2 ≤ (env a).shape.length →
      (env s).ival / 2 < (min ((env a).shape.getD 0 0) ((env a).shape.getD 1 0) : Int)
  | .opaque _ => True
  | .ndimEq a n => (env a).kind = 1 → (env a).ndim ≠ n
  | .sizeZero a => (env a).kind = 1 → (env a).size ≠ 0
  | .minNeg a => (env a).kind = 1 → (env a).hasNeg = false
  | .notAllFinite a => (env a).hasNonFinite = false
  | .lenNeNdim z a => (env z).kind = 1 → (env a).kind = 1 → (env z).ndim = 1 → (env z).shape.getD 0 0 = (env a).ndim
  | .rankOutside r bc => (env r).kind = 2 → (env bc).kind = 1 → 0 ≤ (env r).ival ∧ (env r).ival < ((env bc).nnz : Int)
  | .minDimLeMax o f => (env o).kind = 1 → (env f).kind = 1 → (env o).shape.length = 2 →
      (env f).ival < (min ((env o).shape.getD 0 0) ((env o).shape.getD 1 0) : Int)
  | .lenGeDimAt w f ax => (env w).kind = 1 ∧ (env f).kind = 1 ∧ (env ax).kind = 2 ∧ 0 ≤ (env ax).ival ∧
      (env ax).ival.toNat < (env f).shape.length ∧
      (env w).shape.getD 0 0 < (env f).shape.getD (env ax).ival.toNat 0
  | .whenArr x inner => (env x).kind = 1 → inner.Passes env
  | .intGe a c => (env a).kind = 2 → (env a).ival < c

theorem Atom.rejects_eq_false (env : Env) (g : Atom) : g.rejects env = false ↔ g.Passes env := by
  induction g with
  | whenArr x inner ih => simp [Atom.rejects, Atom.Passes, isArr, ih]
  | dimNe a ax n => simp [Atom.rejects, Atom.Passes, isArr]; omega
  | _ => simp [Atom.rejects, Atom.Passes, isArr, isInt, and_assoc]

theorem passes_iff {gs : List Atom} {env : Env} :
    passes gs env = true ↔ gs.foldr (fun g P => g.Passes env ∧ P) True := by
  simp [passes, foldr_and_iff, Atom.rejects_eq_false]

/-- the native guard does not take its exit -/
def NAtom.Passes (env : Env) : NAtom → Prop
  | .parse _ => True
  | .notArrays as => as.foldr (fun a P => (env a).kind = 1 ∧ P) True
  | .shapesDiffer a b => (env a).kind = 1 → (env b).kind = 1 → (env a).shape = (env b).shape
  | .typesDiffer as => as.foldr (fun a P => (env a).kind = 1 → P)
      (match as with
       | [] => True
       | a :: rest => rest.foldr (fun b P => canonT (env b).tnum = canonT (env a).tnum ∧ P) True)
  | .typeNotEquiv a t => (env a).kind = 1 → canonT (env a).tnum = canonT t
  | .typeNe a t => (env a).kind = 1 → (env a).tnum = t
  | .ndimNe a n => (env a).kind = 1 → (env a).ndim = n
  | .ndimEq a n => (env a).kind = 1 → (env a).ndim ≠ n
  | .ndimsDiffer a b => (env a).kind = 1 → (env b).kind = 1 → (env a).ndim = (env b).ndim
  | .notCArray a => (env a).kind = 1 → (env a).isCArray = true
  | .notCArrayRO a => (env a).kind = 1 → (env a).isCArrayRO = true
  | .notContig a => (env a).kind = 1 → (env a).isContig = true
  | .sizeZero a => (env a).kind = 1 → (env a).size ≠ 0
  | .dimsDiffer a i b j => (env a).kind = 1 → (env b).kind = 1 → i < (env a).shape.length → j < (env b).shape.length →
      (env a).shape.getD i 0 = (env b).shape.getD j 0
  | .dimNeNdim a i b => (env a).kind = 1 → (env b).kind = 1 → i < (env a).shape.length →
      (env a).shape.getD i 0 = (env b).ndim
  | .dimNe a i n => (env a).kind = 1 → i < (env a).shape.length → (env a).shape.getD i 0 = n
  | .intLt x c => (env x).kind = 2 → c ≤ (env x).ival
  | .intLe x c => (env x).kind = 2 → c < (env x).ival
  | .intGt x c => (env x).kind = 2 → (env x).ival ≤ c
  | .intGe x c => (env x).kind = 2 → (env x).ival < c
  | .opaque _ => True
  | .whenArr x inner => (env x).kind = 1 → inner.Passes env
  | .whenNotNone x inner => (env x).kind ≠ 0 → inner.Passes env

theorem NAtom.rejects_eq_false (env : Env) (g : NAtom) : g.rejects env = false ↔ g.Passes env := by
  induction g with
  | whenArr x inner ih => simp [NAtom.rejects, NAtom.Passes, isArr, ih]
  | whenNotNone x inner ih => simp [NAtom.rejects, NAtom.Passes, ih]
  | notArrays as => simp [NAtom.rejects, NAtom.Passes, isArr, foldr_and_iff]
  | typesDiffer as =>
    cases as <;> simp [NAtom.rejects, NAtom.Passes, isArr, foldr_and_iff, foldr_imp_iff]
  | _ => simp [NAtom.rejects, NAtom.Passes, isArr, isInt]

theorem npasses_iff {gs : List NAtom} {env : Env} :
    npasses gs env = true ↔ gs.foldr (fun g P => g.Passes env ∧ P) True := by
  simp [npasses, foldr_and_iff, NAtom.rejects_eq_false]

/-- what a link says about the descriptor `d` the native entry point receives -/
def Link.Holds (tables : List (String × List Int)) (envW : Env) (d : Desc) : Link → Prop
  | .pass p => d = envW p
  | .norm p => (envW p).kind = 1 → d.kind = 1 ∧ d.ndim = (envW p).ndim ∧ d.shape = (envW p).shape
  | .norm1 p => (envW p).kind = 1 →
      d.kind = 1 ∧ (1 ≤ (envW p).ndim → d.ndim = (envW p).ndim ∧ d.shape = (envW p).shape)
  | .view p => (envW p).kind = 1 → d.kind = 1 ∧ d.ndim = (envW p).ndim
  | .output l _ => (envW l).kind = 1 →
      d.kind = 1 ∧ d.ndim = (envW l).ndim ∧ d.shape = (envW l).shape ∧ d.isContig = true
  | .fresh l => (envW l).kind = 1 →
      d.kind = 1 ∧ d.ndim = (envW l).ndim ∧ d.shape = (envW l).shape ∧ d.isCArray = true
  | .structElem a _ => (envW a).kind = 1 →
      d.kind = 1 ∧ d.ndim = (envW a).ndim ∧ d.ndim = d.shape.length ∧ 0 < d.size
  | .const v => d.kind = 2 ∧ d.ival = v
  | .noneLit => d.kind = 0
  | .intOf p => (envW p).kind = 2 → d.kind = 2 ∧ d.ival = (envW p).ival
  | .lookup t _ => d.kind = 2 ∧ ∃ e ∈ tables, e.1 = t ∧ d.ival ∈ e.2
  | .zeroFrame _ _ => d.kind = 1 ∧ d.ndim = 2 ∧ d.shape.length = 2 ∧ 2 ≤ d.shape.getD 0 0 ∧ 2 ≤ d.shape.getD 1 0
  | .other _ => True

theorem Link.holds_eq_true {tables : List (String × List Int)} {envW : Env} {d : Desc} {l : Link} :
    l.holds tables envW d = true ↔ l.Holds tables envW d := by
  cases l <;> simp [Link.holds, Link.Holds, isArr, isInt, and_assoc, Nat.one_le_iff_ne_zero,
    Decidable.or_iff_not_imp_left]

/-- the links of one call site, read one by one (by recursion with the pair taken apart, so that the reading of a concrete
    list speaks of `envN "array"` and not of a projection of the pair `("array", link)`) -/
def LinksHold (tables : List (String × List Int)) (envW envN : Env) : List (String × Link) → Prop
  | [] => True
  | (n, l) :: links => l.Holds tables envW (envN n) ∧ LinksHold tables envW envN links

theorem linked_iff {tables : List (String × List Int)} {links : List (String × Link)} {envW envN : Env} :
    Linked tables links envW envN = true ↔ LinksHold tables envW envN links := by
  induction links with
  | nil => simp [Linked, LinksHold]
  | cons pl links ih => simpa [Linked, LinksHold, Link.holds_eq_true] using fun _ => ih

/-- the check flows of one call site, read one by one: the native parameter `n` is the very object the helper checked as
    `h` (kind 0), or `int(·)` of it -/
def FlowsHold (envH envN : Env) : List (String × String × Nat) → Prop
  | [] => True
  | (h, n, 0) :: flows => envN n = envH h ∧ FlowsHold envH envN flows
  | (h, n, _ + 1) :: flows =>
    ((envH h).kind = 2 → (envN n).kind = 2 ∧ (envN n).ival = (envH h).ival) ∧ FlowsHold envH envN flows

theorem flows_iff {flows : List (String × String × Nat)} {envH envN : Env} :
    Flows flows envH envN = true ↔ FlowsHold envH envN flows := by
  induction flows with
  | nil => simp [Flows, FlowsHold]
  | cons f flows ih =>
    obtain ⟨h, n, k⟩ := f
    simp only [Flows] at ih
    cases k <;> simp [Flows, FlowsHold, flowHolds, isInt, ih, Decidable.or_iff_not_imp_left]

end Mahotas.C11
