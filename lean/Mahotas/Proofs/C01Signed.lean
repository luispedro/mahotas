/-
C01: dilation at **every** pixel for non-flat elements whose heights do not increase away from the
centre ("height-monotone star-shaped") — in particular every 0/1 table with a star-shaped footprint (cross, box,
disk) on every dtype; on a **signed** dtype a 0 entry is a member of height 0.

Scatter with clamp vs gather with clamp (`clamp_between`): `clamp(p + k) = p + k'` with `k'` between 0 and `k`, so `k'` is
a member of height `≥ h(k)` and the gather from `q = p + k'` through `k'` reads `p` unclamped, giving a value
`≥ dilate_add(A p, h(k))`; conversely the gather through `k` reads `clamp(q − k) = q − k'` with `k'` between 0
and `k`, and the scatter from there through `k'` lands on `q`, giving a value `≥` the gathered one.
-/
import Mahotas.Proofs.C01Tables
namespace Mahotas.C01
open Mahotas

/-- the members of the element are coordinate-wise star-shaped and their heights do not increase away from
    the centre: with a member `(k, h)` every offset `k'` between 0 and `k` is a member of height `≥ h` -/
def HeightMonotoneStar (dt : DT) (sup : List (List Int × Int)) : Prop :=
  ∀ kh ∈ sup, isMember dt kh = true → ∀ k', between k' kh.1 = true →
    ∃ kh' ∈ sup, isMember dt kh' = true ∧ kh.2 ≤ kh'.2 ∧ kh'.1 = k'

/-- the executable test `starMonotone` of the driver is sound for `HeightMonotoneStar` -/
theorem heightMonotone_of_check (dt : DT) (bshape : List Nat) (sup : List (List Int × Int))
    (hbox : ∀ kh ∈ sup, kh.1 ∈ boxOffsets bshape)
    (h : starMonotone bshape (sup.filter (isMember dt)) = true) : HeightMonotoneStar dt sup := by
  intro kh hkh hm k' hb
  unfold starMonotone at h
  simp only [List.all_eq_true, Bool.or_eq_true, Bool.not_eq_true', List.any_eq_true, Bool.and_eq_true,
    beq_iff_eq, decide_eq_true_eq] at h
  rcases h kh (List.mem_filter.mpr ⟨hkh, hm⟩) k' (between_mem_boxOffsets bshape k' kh.1 (hbox kh hkh) hb)
    with h1 | ⟨kh', hkh', e, hle⟩
  · rw [hb] at h1; cases h1
  · exact ⟨kh', (List.mem_filter.mp hkh').1, (List.mem_filter.mp hkh').2, hle, e⟩

/-- what the executable test `starShaped … && flatHeights …` of the driver gives: flat star-shaped
    elements are height-monotone (a member between `0` and a member is a member, of the same height) -/
theorem heightMonotone_of_flat_star (dt : DT) (bshape : List Nat) (sup : List (List Int × Int))
    (hbox : ∀ kh ∈ sup, kh.1 ∈ boxOffsets bshape)
    (hstar : starShaped bshape ((sup.filter (isMember dt)).map (·.1)) = true)
    (hflat : flatHeights ((sup.filter (isMember dt)).map (·.2)) = true) : HeightMonotoneStar dt sup := by
  intro kh hkh hm k' hb
  have hmem : kh ∈ sup.filter (isMember dt) := List.mem_filter.mpr ⟨hkh, hm⟩
  obtain ⟨kh', hkh', e⟩ :=
    starShaped_entry bshape _ (fun kh h => hbox kh (List.mem_filter.mp h).1) hstar kh hmem k' hb
  exact ⟨kh', (List.mem_filter.mp hkh').1, (List.mem_filter.mp hkh').2, Int.le_of_eq
    (flatHeights_eq _ hflat _ (List.mem_map.mpr ⟨kh, hmem, rfl⟩) _ (List.mem_map.mpr ⟨kh', hkh', rfl⟩)), e⟩

theorem dilate_heightMonotone_everywhere (dt : DT) (A : Img Int) (sup : List (List Int × Int)) (q : List Int)
    (hlen : ∀ kh ∈ sup, kh.1.length = A.shape.length)
    (hval : ValOK dt A sup) (hmono : HeightMonotoneStar dt sup) (hq : inside A.shape q = true) :
    (dilateModel dt A sup).getD (ravelI A.shape q) dt.lo = dilateSpecAt dt A sup q := by
  apply scatter_eq_gather_at dt A sup q hq hlen hval
  · intro p kh hp hkh hm ht
    have hkl : kh.1.length = p.length := by rw [hlen kh hkh, inside_length hp]
    obtain ⟨k', hb, hc, _⟩ := clamp_between A.shape p kh.1 hp hkl
    obtain ⟨kh', hkh', hm', hh, rfl⟩ := hmono kh hkh hm k' hb
    refine ⟨kh', hkh', hm', hh, ?_⟩
    rw [← ht, hc, subPos_addPos_cancel p kh'.1 (by rw [between_length _ _ hb, hkl]), clampPos_of_inside _ _ hp]
  · intro kh hkh hm
    have hkl : (negPos kh.1).length = q.length := by simp [negPos, hlen kh hkh, inside_length hq]
    obtain ⟨k', hb, hc, _⟩ := clamp_between A.shape q (negPos kh.1) hq hkl
    obtain ⟨kh', hkh', hm', hh, e⟩ := hmono kh hkh hm (negPos k') (between_negPos k' kh.1 hb)
    refine ⟨kh', hkh', hm', hh, ?_⟩
    rw [e, subPos_eq_addPos_neg, hc, addPos_negPos q k' (by rw [between_length _ _ hb, hkl]),
      clampPos_of_inside _ _ hq]

/-- **a 0/1 table whose footprint is star-shaped is height-monotone on every dtype**: on bool and unsigned
    dtypes its members are the footprint (height 1); on a signed dtype every cell of the box is a member, of
    height 1 on the footprint and 0 off it, and below a footprint cell there are only footprint cells -/
theorem heightMonotone_of_star01 (dt : DT) (hdt : DTypeOK dt) (S : List Nat) (bc : Array Int)
    (h01 : ∀ i, i < shapeSize S → bc.getD i 0 = 0 ∨ bc.getD i 0 = 1)
    (hstar : starShaped S ((support S bc true).map (·.1)) = true) :
    HeightMonotoneStar dt (support S bc dt.isBool) := by
  have hh : ∀ c, ∀ kh ∈ support S bc c, kh.2 = 0 ∨ kh.2 = 1 := fun c kh hkh => by
    obtain ⟨i, hi, e⟩ := support_heights S bc c kh hkh
    rw [e]; exact h01 i hi
  have hlo : dt.lo ≤ 0 := by
    rcases hdt with wf | rfl
    · exact wf.lo_nonpos
    · decide
  intro kh hkh hm k' hb
  rcases hh _ kh hkh with h0 | h1
  · -- height 0 is a member on a signed dtype only; there every cell of the box is one
    have hnb : dt.isBool = false := by
      cases hbq : dt.isBool
      · rfl
      · simp [isMember, hbq, h0] at hm
    have hneg : dt.lo < 0 := by
      have : kh.2 ≠ dt.lo := by simpa [isMember, hnb] using hm
      omega
    rw [hnb] at hkh ⊢
    obtain ⟨kh', hkh', e⟩ := (mem_support_false_fst S bc k').mpr
      (between_mem_boxOffsets S k' kh.1 (support_mem_boxOffsets S bc _ kh hkh) hb)
    have hc := hh false kh' hkh'
    refine ⟨kh', hkh', ?_, by omega, e⟩
    simp only [isMember, hnb, Bool.false_eq_true, if_false, decide_eq_true_eq]; omega
  · -- height 1: a footprint cell; the footprint is star-shaped
    obtain ⟨kh', hkh', e⟩ := starShaped_entry S _ (support_mem_boxOffsets S bc true) hstar kh
      ((mem_support_true_iff S bc _ kh).mpr ⟨hkh, by omega⟩) k' hb
    obtain ⟨hkc, hne⟩ := (mem_support_true_iff S bc dt.isBool kh').mp hkh'
    have h1' : kh'.2 = 1 := (hh true kh' hkh').resolve_left hne
    refine ⟨kh', hkc, ?_, by omega, e⟩
    unfold isMember
    split <;> simp [h1'] <;> omega

/-- a 0/1 element is admissible for every dtype of the statement (for bool the kernel sees the compressed footprint) -/
theorem admissible_of_01 (dt : DT) (hdt : DTypeOK dt) (bshape : List Nat) (bc : Array Int)
    (h01 : ∀ i, i < shapeSize bshape → bc.getD i 0 = 0 ∨ bc.getD i 0 = 1) :
    AdmissibleElem dt (support bshape bc dt.isBool) := by
  intro kh hkh
  rcases hdt with wf | rfl
  · obtain ⟨i, hi, he⟩ := support_heights bshape bc _ kh hkh
    have := wf.hi_pos
    have hlo := wf.lo_nonpos
    rcases h01 i hi with h | h
    · rw [he, h]; exact ⟨⟨hlo, by omega⟩, Or.inl (Int.le_refl _), by simp [wf.notBool]⟩
    · rw [he, h]; exact ⟨⟨by omega, by omega⟩, Or.inl (by decide), by simp [wf.notBool]⟩
  · refine admissible_of_ones _ (fun kh hkh => ?_) kh hkh
    obtain ⟨i, hi, hne, rfl⟩ := (mem_support bshape bc true kh).mp hkh
    exact (h01 i hi).resolve_left (hne rfl)

theorem dilate_star01_everywhere (dt : DT) (hdt : DTypeOK dt) (A : Img Int) (S : List Nat) (bc : Array Int)
    (q : List Int) (hA : ImageInRange dt A) (hq : inside A.shape q = true)
    (hl : S.length = A.shape.length)
    (h01 : ∀ i, i < shapeSize S → bc.getD i 0 = 0 ∨ bc.getD i 0 = 1)
    (hstar : starShaped S ((support S bc true).map (·.1)) = true) :
    (dilateModel dt A (support S bc dt.isBool)).getD (ravelI A.shape q) dt.lo =
      dilateSpecAt dt A (support S bc dt.isBool) q :=
  dilate_heightMonotone_everywhere dt A _ q
    (fun kh hkh => by rw [boxOffsets_length S kh.1 (support_mem_boxOffsets S bc _ kh hkh), hl])
    (valOK_of dt hdt A _ hA (admissible_of_01 dt hdt S bc h01))
    (heightMonotone_of_star01 dt hdt S bc h01 hstar) hq

end Mahotas.C01
