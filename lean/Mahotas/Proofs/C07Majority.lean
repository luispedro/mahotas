/-
C07 — `majority_filter` (`_morph.cpp: py_majority_filter`).
`majorityMarks` (the loops as written) marks exactly the pixels of the closed form `majoritySpecB`.
-/
import Mahotas.Model.C07
import Mathlib.Algebra.Order.BigOperators.Group.List
import Mathlib.Algebra.Order.Group.Nat

namespace Mahotas.C07
open Mahotas

theorem mem_majorityMarks (f : Img Int) (rows cols N Y X : Nat) (hf : f.shape = [rows, cols]) :
    (Y, X) ∈ majorityMarks f N ↔
      (N / 2 ≤ Y ∧ Y - N / 2 + N < rows ∧ N / 2 ≤ X ∧ X - N / 2 + N < cols ∧
        N * N / 2 ≤ windowCount f N (Y - N / 2) (X - N / 2)) := by
  unfold majorityMarks
  rw [hf]
  simp only
  generalize N / 2 = c
  split
  · rename_i hsmall
    refine ⟨fun h => absurd h List.not_mem_nil, fun ⟨_, h2, _, h4, _⟩ => ?_⟩
    rcases hsmall with h | h
    · exact absurd (Nat.lt_of_le_of_lt (Nat.le_add_left N _) h2) (Nat.lt_asymm h)
    · exact absurd (Nat.lt_of_le_of_lt (Nat.le_add_left N _) h4) (Nat.lt_asymm h)
  · simp only [List.mem_flatMap, List.mem_map, List.mem_filter, List.mem_range, decide_eq_true_eq, Prod.mk.injEq]
    constructor
    · rintro ⟨y, hy, x, ⟨hx, hc⟩, rfl, rfl⟩
      rw [Nat.add_sub_cancel, Nat.add_sub_cancel]
      exact ⟨Nat.le_add_left .., Nat.add_lt_of_lt_sub hy, Nat.le_add_left .., Nat.add_lt_of_lt_sub hx, hc⟩
    · rintro ⟨h1, h2, h3, h4, h5⟩
      exact ⟨Y - c, Nat.lt_sub_of_add_lt h2, X - c, ⟨Nat.lt_sub_of_add_lt h4, h5⟩,
        Nat.sub_add_cancel h1, Nat.sub_add_cancel h3⟩

theorem majoritySpecB_iff (f : Img Int) (rows cols N Y X : Nat) (hf : f.shape = [rows, cols]) :
    majoritySpecB f N Y X = true ↔
      (N / 2 ≤ Y ∧ Y - N / 2 + N < rows ∧ N / 2 ≤ X ∧ X - N / 2 + N < cols ∧
        N * N / 2 ≤ windowCount f N (Y - N / 2) (X - N / 2)) := by
  unfold majoritySpecB
  rw [hf]
  simp only [Bool.and_eq_true, decide_eq_true_eq, and_assoc]

theorem windowCount_le (f : Img Int) (N y x : Nat) : windowCount f N y x ≤ N * N := by
  refine (List.sum_le_card_nsmul _ N fun c hc => ?_).trans_eq ?_
  · obtain ⟨dy, _, rfl⟩ := List.mem_map.1 hc
    exact (List.length_filter_le _ _).trans_eq List.length_range
  · rw [List.length_map, List.length_range]; rfl

end Mahotas.C07
