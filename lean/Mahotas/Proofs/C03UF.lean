/-
C03 — union–find on the label buffer: `find` (with path compression) and `join` of the model refine
"root of the class" and "merge two classes". Roots are described by the depth-indexed relation `RootN`.
-/
import Mahotas.Model.C03
import Mahotas.Proofs.ListLemmas
namespace Mahotas.C03

/-- `RootN par i r d`: following the parents stored in the buffer from `i` reaches, after exactly `d`
    steps, the self-parent `r`. All visited cells are inside the buffer. -/
inductive RootN (par : Array Int) : Nat → Nat → Nat → Prop
  | base {i : Nat} : i < par.size → par.getD i (-1) = (i : Int) → RootN par i i 0
  | step {i p r d : Nat} : i < par.size → par.getD i (-1) = (p : Int) → p ≠ i → RootN par p r d →
      RootN par i r (d + 1)

theorem RootN.isRoot {par : Array Int} {i r d : Nat} (h : RootN par i r d) :
    r < par.size ∧ par.getD r (-1) = (r : Int) := by
  induction h with
  | base h1 h2 => exact ⟨h1, h2⟩
  | step _ _ _ _ ih => exact ih

theorem RootN.lt {par : Array Int} {i r d : Nat} (h : RootN par i r d) : i < par.size := by
  cases h with
  | base h1 _ => exact h1
  | step h1 _ _ _ => exact h1

theorem find_root {par : Array Int} {i : Nat} (fuel : Nat) (hb : par.getD i (-1) = (i : Int)) :
    find (fuel + 1) par i = (par, i) := by
  rw [find, if_pos hb]

theorem find_step {par : Array Int} {i p : Nat} (fuel : Nat) (hp : par.getD i (-1) = (p : Int)) (hne : p ≠ i) :
    find (fuel + 1) par i =
      ((find fuel par p).1.setIfInBounds i ((find fuel par p).2 : Int), (find fuel par p).2) := by
  rw [find, hp, if_neg fun e : (p : Int) = (i : Int) => hne (Int.ofNat.inj e), Int.toNat_natCast]

theorem RootN.det {par : Array Int} {i r d r' d' : Nat} (h : RootN par i r d) (h' : RootN par i r' d') :
    r = r' ∧ d = d' := by
  induction h generalizing r' d' with
  | base _ hb =>
    cases h' with
    | base _ _ => exact ⟨rfl, rfl⟩
    | step _ hp hne _ =>
      rw [hb] at hp
      exact absurd (Int.ofNat.inj hp).symm hne
  | step _ hp hne _ ih =>
    cases h' with
    | base _ hb =>
      rw [hb] at hp
      exact absurd (Int.ofNat.inj hp).symm hne
    | step _ hp' _ h2 =>
      rw [hp] at hp'
      have e := Int.ofNat.inj hp'
      subst e
      obtain ⟨a, b⟩ := ih h2
      exact ⟨a, by omega⟩

theorem RootN.value {par : Array Int} {i r d : Nat} (h : RootN par i r d) : ∃ p : Nat, par.getD i (-1) = (p : Int) := by
  cases h with
  | base _ hb => exact ⟨_, hb⟩
  | step _ hp _ _ => exact ⟨_, hp⟩

theorem RootN.parent {par : Array Int} {i p r d : Nat} (h : RootN par i r d) (hp : par.getD i (-1) = (p : Int)) :
    ∃ dp, RootN par p r dp := by
  cases h with
  | base hlt hb => exact ⟨0, Int.ofNat.inj (hb.symm.trans hp) ▸ RootN.base hlt hb⟩
  | step _ hp' _ hrest => exact ⟨_, Int.ofNat.inj (hp'.symm.trans hp) ▸ hrest⟩

/-- a buffer `par'` in which every cell keeps its parent or points at its root `r` (the shape in which `find_cells`
    describes the buffer `find` leaves) has the roots of `par`, and no path got longer -/
theorem redirect_root {par par' : Array Int} {r : Nat} (hs : par'.size = par.size)
    (h : ∀ x, par'.getD x (-1) = par.getD x (-1) ∨ (par'.getD x (-1) = (r : Int) ∧ ∃ dx, RootN par x r dx))
    {x rx dx : Nat} (hx : RootN par x rx dx) : ∃ dx', dx' ≤ dx ∧ RootN par' x rx dx' := by
  induction hx with
  | @base x hlt hb =>
    refine ⟨0, Nat.le_refl _, RootN.base (hs ▸ hlt) ?_⟩
    rcases h x with e | ⟨e, _, hr⟩
    · exact e.trans hb
    · rw [e, (hr.det (RootN.base hlt hb)).1]
  | @step x p r0 d hlt hp hne hrest ih =>
    obtain ⟨d', hd', ih⟩ := ih
    rcases h x with e | ⟨e, _, hr⟩
    · exact ⟨d' + 1, Nat.succ_le_succ hd', RootN.step (hs ▸ hlt) (e.trans hp) hne ih⟩
    · -- in `par'` the cell `x` points at its root, which is still a root
      have er := (hr.det (RootN.step hlt hp hne hrest)).1
      subst er
      obtain ⟨hrlt, hroot⟩ := hrest.isRoot
      have hrx : r ≠ x := fun e2 => hne (Int.ofNat.inj ((e2 ▸ hroot : par.getD x (-1) = (x : Int)).symm.trans hp)).symm
      exact ⟨1, Nat.succ_le_succ (Nat.zero_le d), RootN.step (hs ▸ hlt) e hrx
        (RootN.base (hs ▸ hrlt) ((h r).elim (fun e => e.trans hroot) fun e => e.1))⟩

/-- one store `par[i] = ri` of the root of `i`, as the compression of `find` writes it -/
theorem compress_root {par : Array Int} {i ri di : Nat} (hi : RootN par i ri di)
    {x r d : Nat} (h : RootN par x r d) :
    ∃ d', d' ≤ d ∧ RootN (par.setIfInBounds i (ri : Int)) x r d' :=
  redirect_root Array.size_setIfInBounds (fun y => by
    by_cases e : i = y
    · subst e; exact Or.inr ⟨getD_setIfInBounds_self _ _ _ _ hi.lt, _, hi⟩
    · exact Or.inl (getD_setIfInBounds_ne _ _ _ _ _ e)) h

/-- **`find`, cell by cell.** With enough fuel for the path of `i`, the model's `find` returns the root of `i`,
    and the buffer it leaves differs from the old one only in cells of the class of `i` (those on the path), which
    hold the root; `i` is one of them. -/
theorem find_cells : ∀ (fuel : Nat) (par : Array Int) (i r d : Nat), RootN par i r d → d ≤ fuel →
    (find fuel par i).2 = r ∧ (find fuel par i).1.size = par.size ∧ (find fuel par i).1.getD i (-1) = (r : Int) ∧
    ∀ x, (find fuel par i).1.getD x (-1) = par.getD x (-1) ∨
      ((find fuel par i).1.getD x (-1) = (r : Int) ∧ ∃ dx, RootN par x r dx) := by
  intro fuel
  induction fuel with
  | zero =>
    intro par i r d h hd
    obtain rfl : d = 0 := by omega
    cases h with
    | base _ hb => exact ⟨rfl, rfl, hb, fun x => Or.inl rfl⟩
  | succ fuel ih =>
    intro par i r d h hd
    cases h with
    | base hi hb => rw [find_root fuel hb]; exact ⟨rfl, rfl, hb, fun x => Or.inl rfl⟩
    | @step _ p _ d' hi hp hne hrest =>
      obtain ⟨h1, h2, _, h4⟩ := ih par p r d' hrest (by omega)
      rw [find_step fuel hp hne, h1]
      refine ⟨rfl, Array.size_setIfInBounds.trans h2, getD_setIfInBounds_self _ _ _ _ (h2 ▸ hi), fun x => ?_⟩
      by_cases e : i = x
      · subst e
        exact Or.inr ⟨getD_setIfInBounds_self _ _ _ _ (h2 ▸ hi), _, RootN.step hi hp hne hrest⟩
      · rw [getD_setIfInBounds_ne _ _ _ _ _ e]; exact h4 x

/-- **`find` refines "root of".** It returns the root of `i`, keeps the buffer size, keeps the root of *every* cell
    and lengthens no path. -/
theorem find_spec (fuel : Nat) (par : Array Int) (i r d : Nat) (h : RootN par i r d) (hd : d ≤ fuel) :
    (find fuel par i).2 = r ∧ (find fuel par i).1.size = par.size ∧
    ∀ x rx dx, RootN par x rx dx → ∃ dx', dx' ≤ dx ∧ RootN (find fuel par i).1 x rx dx' :=
  let ⟨a, b, _, c⟩ := find_cells fuel par i r d h hd
  ⟨a, b, fun _ _ _ hx => redirect_root b c hx⟩

theorem find_frame (fuel : Nat) (par : Array Int) (i r d : Nat) (h : RootN par i r d) (hd : d ≤ fuel)
    (x : Nat) (hx : par.getD x (-1) = -1) : (find fuel par i).1.getD x (-1) = -1 := by
  rcases (find_cells fuel par i r d h hd).2.2.2 x with e | ⟨_, _, hr⟩
  · exact e.trans hx
  · obtain ⟨p, hp⟩ := hr.value
    omega

/-- `find` leaves a cell that holds its own root (`FlatAt` of `C03Label`) as it is -/
theorem find_flat (fuel : Nat) (par : Array Int) (i r d : Nat) (h : RootN par i r d) (hd : d ≤ fuel)
    (x rx dx : Nat) (hxr : RootN par x rx dx) (hx : par.getD x (-1) = (rx : Int)) :
    (find fuel par i).1.getD x (-1) = (rx : Int) := by
  rcases (find_cells fuel par i r d h hd).2.2.2 x with e | ⟨e, _, hr⟩
  · exact e.trans hx
  · rw [e, (hr.det hxr).1]

/-- the store `data[ri] = rj` of `join`, both roots -/
theorem link_root {par : Array Int} {ri rj : Nat} (hri : ri < par.size ∧ par.getD ri (-1) = (ri : Int))
    (hrj : rj < par.size ∧ par.getD rj (-1) = (rj : Int)) {x r d : Nat} (h : RootN par x r d) :
    ∃ d', RootN (par.setIfInBounds ri (rj : Int)) x (if r = ri then rj else r) d' := by
  have hsize : (par.setIfInBounds ri (rj : Int)).size = par.size := Array.size_setIfInBounds
  induction h with
  | @base i hi hb =>
    by_cases e : i = ri
    · subst e
      rw [if_pos rfl]
      by_cases hne : i = rj
      · -- linking a root to itself changes nothing
        subst hne
        exact ⟨0, RootN.base (hsize.symm ▸ hi) (getD_setIfInBounds_self _ _ _ _ hi)⟩
      · exact ⟨1, RootN.step (hsize.symm ▸ hi) (getD_setIfInBounds_self _ _ _ _ hi) (Ne.symm hne)
          (RootN.base (hsize.symm ▸ hrj.1) (by rw [getD_setIfInBounds_ne _ _ _ _ _ hne]; exact hrj.2))⟩
    · rw [if_neg e]
      exact ⟨0, RootN.base (hsize.symm ▸ hi) (by rw [getD_setIfInBounds_ne _ _ _ _ _ (Ne.symm e)]; exact hb)⟩
  | @step i p r d hi hp hn _ ih =>
    obtain ⟨d', ih⟩ := ih
    have e : ri ≠ i := by
      intro e; subst e
      rw [hri.2] at hp
      exact hn (Int.ofNat.inj hp).symm
    exact ⟨d' + 1, RootN.step (hsize.symm ▸ hi) (by rw [getD_setIfInBounds_ne _ _ _ _ _ e]; exact hp) hn ih⟩

/-- **`join` refines "merge the classes of `i` and `j`"**, and leaves background cells (`-1`) alone -/
theorem join_spec (fuel : Nat) (par : Array Int) (i j ri rj di dj : Nat)
    (hi : RootN par i ri di) (hj : RootN par j rj dj) (hdi : di ≤ fuel) (hdj : dj ≤ fuel) :
    (join fuel par i j).size = par.size ∧
    (∀ x rx dx, RootN par x rx dx → ∃ dx', RootN (join fuel par i j) x (if rx = ri then rj else rx) dx') ∧
    ∀ x, par.getD x (-1) = -1 → (join fuel par i j).getD x (-1) = -1 := by
  obtain ⟨a1, a2, a3⟩ := find_spec fuel par i ri di hi hdi
  obtain ⟨dj1, hdj1, hj1⟩ := a3 j rj dj hj
  obtain ⟨b1, b2, b3⟩ := find_spec fuel (find fuel par i).1 j rj dj1 hj1 (by omega)
  -- the two roots are still roots in the buffer after both finds
  obtain ⟨_, _, hri1⟩ := a3 ri ri 0 (RootN.base hi.isRoot.1 hi.isRoot.2)
  obtain ⟨_, _, hri2⟩ := b3 ri ri _ hri1
  obtain ⟨_, _, hrj2⟩ := b3 rj rj 0 (RootN.base hj1.isRoot.1 hj1.isRoot.2)
  unfold join
  simp only [a1, b1]
  refine ⟨by simp [b2, a2], fun x rx dx hx => ?_, fun x hx => ?_⟩
  · obtain ⟨dx1, _, hx1⟩ := a3 x rx dx hx
    obtain ⟨dx2, _, hx2⟩ := b3 x rx dx1 hx1
    exact link_root hri2.isRoot hrj2.isRoot hx2
  · have f2 := find_frame fuel _ j rj dj1 hj1 (by omega) x (find_frame fuel par i ri di hi hdi x hx)
    rw [getD_setIfInBounds_ne _ _ _ _ _ fun e : ri = x => by rw [← e, hri2.isRoot.2] at f2; omega]
    exact f2

/-- the cells on the path of `i`: pairwise different (their depths differ), all of them in the buffer -/
theorem RootN.path {par : Array Int} {i r d : Nat} (h : RootN par i r d) :
    ∃ l : List Nat, l.Nodup ∧ l.length = d + 1 ∧ ∀ x ∈ l, ∃ dx, dx ≤ d ∧ RootN par x r dx := by
  induction h with
  | @base i h1 h2 =>
    exact ⟨[i], List.nodup_cons.mpr ⟨List.not_mem_nil, List.nodup_nil⟩, rfl,
      fun x hx => ⟨0, Nat.le_refl 0, by rw [List.mem_singleton.mp hx]; exact RootN.base h1 h2⟩⟩
  | @step i p r d h1 h2 h3 h4 ih =>
    obtain ⟨l, hn, hl, hx⟩ := ih
    refine ⟨i :: l, List.nodup_cons.mpr ⟨fun hi => ?_, hn⟩, congrArg (· + 1) hl, fun x hx' => ?_⟩
    · obtain ⟨dx, hdx, hr⟩ := hx i hi
      have := (hr.det (RootN.step h1 h2 h3 h4)).2
      omega
    · rcases List.mem_cons.mp hx' with e | hm
      · exact ⟨d + 1, Nat.le_refl _, by rw [e]; exact RootN.step h1 h2 h3 h4⟩
      · obtain ⟨dx, hdx, hr⟩ := hx x hm
        exact ⟨dx, Nat.le_succ_of_le hdx, hr⟩

/-- **fuel adequacy.** A root path inside a buffer of `N` cells has fewer than `N` steps, so the fuel
    `N + 1` the model passes to `find` is always enough. -/
theorem RootN.depth_lt {par : Array Int} {i r d : Nat} (h : RootN par i r d) : d < par.size := by
  obtain ⟨l, hn, hl, hx⟩ := h.path
  have := hn.length_le_of_subset (l₂ := List.range par.size) fun x hm =>
    List.mem_range.mpr (let ⟨_, _, hr⟩ := hx x hm; hr.lt)
  rwa [hl, List.length_range] at this

end Mahotas.C03
