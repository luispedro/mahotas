/-
C04 — the two floodings, each by itself. Both are the same loop: pop the entry with the least `(cost, insertion index)`
(`extractMin`), visit its neighbours in table order, go on. Here: what `extractMin` returns, what one neighbour visit can do
on either side (`specVisit_cases`, `modelVisit_cases`), the *trace* of a run (the visits it makes, in order, with what was
read at each) and one rule per run, `modelRun_rule` / `specRun_rule`: what the pop establishes, every visit keeps and the
end of the inner loop hands back holds of the run and of the visits made so far. The model writes the loop out per flooding
(`modelRun`, `specRun`) and per trace (`modelTrace`/`visitsEv`, `specTrace`/`svisitsEv`); the rule is therefore proved once
per run: a common machine would need an agreement lemma for each of these recursions, which is more than the second proof.
-/
import Mahotas.Proofs.C04Index

namespace Mahotas.C04
open Mahotas

theorem minBy_map_on {α β : Type} (f : α → β) (key : α → Int × Nat) (key' : β → Int × Nat)
    (m : α) (l : List α)
    (hk : ∀ x ∈ m :: l, ∀ y ∈ m :: l, keyLt (key' (f x)) (key' (f y)) = keyLt (key x) (key y)) :
    minBy key' (f m) (l.map f) = f (minBy key m l) := by
  induction l generalizing m with
  | nil => rfl
  | cons x xs ih =>
    rw [List.map_cons, minBy, minBy, hk x (by simp) m (by simp), ← apply_ite f]
    refine ih _ fun a ha b hb => hk a (sub a ha) b (sub b hb)
where
  sub {α : Type} {c : Prop} [Decidable c] {m x : α} {xs : List α} (a : α)
      (ha : a ∈ (if c then x else m) :: xs) : a ∈ m :: x :: xs := by
    rcases List.mem_cons.mp ha with h | h
    · split at h <;> simp [h]
    · simp [h]

/-- `extractMin` only ever *compares* keys (`keyLt`) and reads insertion indices: a map `f` under
    which every comparison between two queued entries comes out the same, and which keeps the
    insertion indices, commutes with it. -/
theorem extractMin_map_on {α β : Type} (f : α → β) (key : α → Int × Nat) (key' : β → Int × Nat)
    (l : List α)
    (hk : ∀ x ∈ l, ∀ y ∈ l, keyLt (key' (f x)) (key' (f y)) = keyLt (key x) (key y))
    (hi : ∀ x, (key' (f x)).2 = (key x).2) :
    extractMin key' (l.map f) = (extractMin key l).map (fun mr => (f mr.1, mr.2.map f)) := by
  cases l with
  | nil => rfl
  | cons x xs =>
    simp only [List.map_cons, extractMin, Option.map_some]
    rw [minBy_map_on f key key' x xs hk]
    congr 2
    rw [← List.map_cons, List.filter_map]
    congr 1
    apply List.filter_congr
    intro y _
    simp only [Function.comp, hi]

theorem minBy_mem {α : Type} (key : α → Int × Nat) (m : α) (l : List α) : minBy key m l ∈ m :: l := by
  induction l generalizing m with
  | nil => exact List.mem_cons_self
  | cons x xs ih =>
    rw [minBy]
    rcases List.mem_cons.mp (ih (if keyLt (key x) (key m) then x else m)) with h | h
    · rw [h]; split <;> simp
    · exact List.mem_cons_of_mem _ (List.mem_cons_of_mem _ h)

theorem extractMin_some {α : Type} (key : α → Int × Nat) (l : List α) (m : α) (r : List α)
    (h : extractMin key l = some (m, r)) :
    m ∈ l ∧ r = l.filter (fun e => (key e).2 != (key m).2) := by
  cases l with
  | nil => simp [extractMin] at h
  | cons x xs =>
    simp only [extractMin, Option.some.injEq, Prod.mk.injEq] at h
    obtain ⟨h1, h2⟩ := h
    subst h1
    exact ⟨minBy_mem key x xs, h2.symm⟩

section specVisit
variable (surf : Img Int) (p : List Int) (st : SSt) (off : List Int)

theorem specVisit_out (hin : inside surf.shape (addPos p off) = false) : specVisit surf p st off = st := by
  unfold specVisit; simp only [hin, Bool.not_false, if_true]

theorem specVisit_push (hin : inside surf.shape (addPos p off) = true) (h0 : st.label.getD (addPos p off) 0 = 0) :
    specVisit surf p st off =
      { st with queue := st.queue ++ [⟨surf.getD (addPos p off) 0, st.idx, addPos p off⟩], idx := st.idx + 1,
                label := imgSet st.label (addPos p off) (st.label.getD p 0) } := by
  unfold specVisit; simp only [hin, h0, Bool.not_true, Bool.false_eq_true, if_false, beq_self_eq_true, if_true]

theorem specVisit_line (hin : inside surf.shape (addPos p off) = true) (h0 : st.label.getD (addPos p off) 0 ≠ 0)
    (hq : st.queue.any (fun e => e.pos == addPos p off) = true)
    (hd : st.label.getD p 0 ≠ st.label.getD (addPos p off) 0) :
    specVisit surf p st off = { st with lines := imgSet st.lines (addPos p off) true } := by
  unfold specVisit
  simp only [hin, beq_eq_false_iff_ne.mpr h0, hq, bne_iff_ne.mpr hd, Bool.not_true, Bool.false_eq_true,
    if_false, if_true]

theorem specVisit_same (hin : inside surf.shape (addPos p off) = true) (h0 : st.label.getD (addPos p off) 0 ≠ 0)
    (h : st.queue.any (fun e => e.pos == addPos p off) = true →
      st.label.getD p 0 = st.label.getD (addPos p off) 0) : specVisit surf p st off = st := by
  unfold specVisit
  simp only [hin, beq_eq_false_iff_ne.mpr h0, Bool.not_true, Bool.false_eq_true, if_false]
  split_ifs with hq hd
  · exact absurd (h hq) (bne_iff_ne.mp hd)
  · rfl
  · rfl

/-- the four things a neighbour visit of the specification can do -/
theorem specVisit_cases (P : SSt → Prop) (out : inside surf.shape (addPos p off) = false → P st)
    (push : inside surf.shape (addPos p off) = true → st.label.getD (addPos p off) 0 = 0 →
      P { st with queue := st.queue ++ [⟨surf.getD (addPos p off) 0, st.idx, addPos p off⟩], idx := st.idx + 1,
                  label := imgSet st.label (addPos p off) (st.label.getD p 0) })
    (line : inside surf.shape (addPos p off) = true → st.label.getD (addPos p off) 0 ≠ 0 →
      st.queue.any (fun e => e.pos == addPos p off) = true →
      st.label.getD p 0 ≠ st.label.getD (addPos p off) 0 →
      P { st with lines := imgSet st.lines (addPos p off) true })
    (same : inside surf.shape (addPos p off) = true → st.label.getD (addPos p off) 0 ≠ 0 →
      (st.queue.any (fun e => e.pos == addPos p off) = true →
        st.label.getD p 0 = st.label.getD (addPos p off) 0) → P st) :
    P (specVisit surf p st off) := by
  cases hin : inside surf.shape (addPos p off)
  · rw [specVisit_out surf p st off hin]; exact out hin
  · by_cases h0 : st.label.getD (addPos p off) 0 = 0
    · rw [specVisit_push surf p st off hin h0]; exact push hin h0
    · by_cases hl : st.queue.any (fun e => e.pos == addPos p off) = true ∧
          st.label.getD p 0 ≠ st.label.getD (addPos p off) 0
      · rw [specVisit_line surf p st off hin h0 hl.1 hl.2]; exact line hin h0 hl.1 hl.2
      · have h := fun hq => not_not.mp fun hd => hl ⟨hq, hd⟩
        rw [specVisit_same surf p st off hin h0 h]; exact same hin h0 h

end specVisit

/-- one iteration of the kernel pops a queued entry, blackens its pixel and visits its neighbours -/
theorem modelStep_some {surf : Img Int} {nbs : List Nb} {st st' : MSt} (h : modelStep surf nbs st = some st') :
    ∃ e ∈ st.queue, st' = (nbs.foldl (modelVisit surf e)
      ({ st with queue := st.queue.filter fun x => (QE.key x).2 != (QE.key e).2,
                 status := st.status.setIfInBounds e.pos 2 }, e.margin)).1 := by
  unfold modelStep at h
  split at h
  · cases h
  · next e rest hx =>
    obtain ⟨hmem, hrest⟩ := extractMin_some QE.key st.queue e rest hx
    exact ⟨e, hmem, hrest ▸ (Option.some.inj h).symm⟩

/-- the neighbour the kernel looks at: `npos = next.position + delta` -/
abbrev nposOf (e : QE) (nb : Nb) : Nat := ((e.pos : Int) + nb.delta).toNat

theorem modelVisit_none (surf : Img Int) (e : QE) (st : MSt) (margin : Int) (nb : Nb)
    (hc : nbCheck surf.shape e.pos margin nb = none) : modelVisit surf e (st, margin) nb = (st, margin) := by
  unfold modelVisit; simp only [hc]

/-- past the bounds decision a neighbour visit of the kernel pushes (white), marks a line (grey, other
    label) or does nothing (grey with the same label, or black) -/
theorem modelVisit_cases (surf : Img Int) (e : QE) (st : MSt) (margin : Int) (nb : Nb) (nm m' : Int)
    (hc : nbCheck surf.shape e.pos margin nb = some (nm, m')) (P : MSt × Int → Prop)
    (push : st.status.getD (nposOf e nb) 0 = 0 →
      P ({ st with queue := st.queue ++ [⟨surf.data.getD (nposOf e nb) 0, st.idx, nposOf e nb, nm⟩],
                   idx := st.idx + 1,
                   res := st.res.setIfInBounds (nposOf e nb) (st.res.getD e.pos 0),
                   status := st.status.setIfInBounds (nposOf e nb) 1 }, m'))
    (line : st.status.getD (nposOf e nb) 0 = 1 → st.res.getD e.pos 0 ≠ st.res.getD (nposOf e nb) 0 →
      P ({ st with lines := st.lines.setIfInBounds (nposOf e nb) true }, m'))
    (same : st.status.getD (nposOf e nb) 0 ≠ 0 →
      (st.status.getD (nposOf e nb) 0 = 1 → st.res.getD e.pos 0 = st.res.getD (nposOf e nb) 0) → P (st, m')) :
    P (modelVisit surf e (st, margin) nb) := by
  rw [modelVisit, hc]
  dsimp only
  by_cases h0 : st.status.getD (nposOf e nb) 0 = 0
  · rw [if_pos (beq_iff_eq.mpr h0)]; exact push h0
  · rw [if_neg (mt beq_iff_eq.mp h0)]
    by_cases h1 : st.status.getD (nposOf e nb) 0 = 1
    · rw [if_pos (beq_iff_eq.mpr h1)]
      by_cases hd : st.res.getD e.pos 0 = st.res.getD (nposOf e nb) 0
      · rw [if_neg (mt bne_iff_ne.mp (not_not.mpr hd))]; exact same h0 fun _ => hd
      · rw [if_pos (bne_iff_ne.mpr hd)]; exact line h1 hd
    · rw [if_neg (mt beq_iff_eq.mp h1)]; exact same h0 fun h => absurd h h1

/-- one neighbour visit of the kernel (`switch (status[npos])` reached): what the kernel reads -/
structure Ev where
  /-- the popped pixel `next.position` -/
  pos : Nat
  /-- the neighbour `npos = next.position + delta` -/
  npos : Nat
  /-- `status[npos]` at the visit (0 white, 1 grey, 2 black) -/
  status : Nat
  /-- is `npos` in the queue at the visit -/
  queued : Bool
  /-- `rdata[next.position]` at the visit -/
  lab : Int
  /-- `rdata[npos]` at the visit -/
  nlab : Int
deriving Repr, DecidableEq

/-- the visit performed by `modelVisit` (none when the bounds decision says `continue`) -/
def modelVisitEv (surf : Img Int) (next : QE) (acc : MSt × Int) (nb : Nb) : Option Ev :=
  match nbCheck surf.shape next.pos acc.2 nb with
  | none => none
  | some _ =>
    let npos := ((next.pos : Int) + nb.delta).toNat
    some ⟨next.pos, npos, acc.1.status.getD npos 0, acc.1.queue.any (fun e => e.pos == npos),
          acc.1.res.getD next.pos 0, acc.1.res.getD npos 0⟩

/-- the visits of the inner loop over the neighbour table, in order (in step with `List.foldl modelVisit`) -/
def visitsEv (surf : Img Int) (next : QE) : List Nb → MSt × Int → List Ev
  | [], _ => []
  | nb :: nbs, acc =>
    (modelVisitEv surf next acc nb).toList ++ visitsEv surf next nbs (modelVisit surf next acc nb)

/-- the visits of `modelRun`, in order (in step with `modelRun`/`modelStep`) -/
def modelTrace (surf : Img Int) (nbs : List Nb) : Nat → MSt → List Ev
  | 0, _ => []
  | n + 1, st =>
    match extractMin QE.key st.queue with
    | none => []
    | some (e, rest) =>
      let st1 : MSt := { st with queue := rest, status := st.status.setIfInBounds e.pos 2 }
      visitsEv surf e nbs (st1, e.margin) ++
        modelTrace surf nbs n (nbs.foldl (modelVisit surf e) (st1, e.margin)).1

def cwatershedTrace (surf markers : Img Int) (bshape : List Nat) (bc : Array Int) : List Ev :=
  modelTrace surf (neighbours surf.shape (offsets bshape bc)) (fuelOf surf.shape) (modelInit surf markers)

/-- **the run of the kernel, one rule.** `P` relates a state to the visits made so far; `Q e` does so while the
    popped entry `e` is being finalised. What the pop establishes, every neighbour visit keeps and the end of the
    inner loop hands back, holds of the run and its trace. (An invariant of the states alone ignores the visits.) -/
theorem modelRun_rule (surf : Img Int) (nbs : List Nb) (P : MSt → List Ev → Prop)
    (Q : QE → MSt × Int → List Ev → Prop)
    (pop : ∀ st tr e, P st tr → e ∈ st.queue →
      Q e ({ st with queue := st.queue.filter fun x => (QE.key x).2 != (QE.key e).2,
                     status := st.status.setIfInBounds e.pos 2 }, e.margin) tr)
    (visit : ∀ e acc tr nb, nb ∈ nbs → Q e acc tr →
      Q e (modelVisit surf e acc nb) (tr ++ (modelVisitEv surf e acc nb).toList))
    (close : ∀ e acc tr, Q e acc tr → P acc.1 tr) :
    ∀ (n : Nat) (st : MSt) (tr : List Ev), P st tr → P (modelRun surf nbs n st) (tr ++ modelTrace surf nbs n st) := by
  have inner : ∀ e (l : List Nb), (∀ nb ∈ l, nb ∈ nbs) → ∀ acc tr, Q e acc tr →
      Q e (l.foldl (modelVisit surf e) acc) (tr ++ visitsEv surf e l acc) := by
    intro e l
    induction l with
    | nil => intro _ acc tr h; rw [visitsEv, List.append_nil]; exact h
    | cons nb l ih =>
      intro hl acc tr h
      rw [List.foldl_cons, visitsEv, ← List.append_assoc]
      exact ih (fun x hx => hl x (List.mem_cons_of_mem _ hx)) _ _ (visit e acc tr nb (hl nb List.mem_cons_self) h)
  intro n
  induction n with
  | zero => intro st tr h; rw [modelTrace, List.append_nil]; exact h
  | succ n ih =>
    intro st tr h
    rw [modelRun, modelStep, modelTrace]
    cases hx : extractMin QE.key st.queue with
    | none => dsimp only; rw [List.append_nil]; exact h
    | some er =>
      obtain ⟨e, rest⟩ := er
      obtain ⟨hmem, rfl⟩ := extractMin_some QE.key st.queue e rest hx
      dsimp only
      rw [← List.append_assoc]
      exact ih _ _ (close e _ _ (inner e nbs (fun _ h => h) _ tr (pop st tr e h hmem)))

/-- the buffers keep their common size -/
structure Sized (st : MSt) : Prop where
  lines : st.lines.size = st.status.size
  res : st.res.size = st.status.size

theorem pop_sized {st : MSt} (hs : Sized st) (e : QE) (rest : List QE) :
    Sized { st with queue := rest, status := st.status.setIfInBounds e.pos 2 } :=
  ⟨hs.lines.trans Array.size_setIfInBounds.symm, hs.res.trans Array.size_setIfInBounds.symm⟩

theorem visit_sized (surf : Img Int) (e : QE) (acc : MSt × Int) (nb : Nb) (hs : Sized acc.1) :
    Sized (modelVisit surf e acc nb).1 := by
  obtain ⟨st, margin⟩ := acc
  cases hc : nbCheck surf.shape e.pos margin nb with
  | none => rw [modelVisit_none surf e st margin nb hc]; exact hs
  | some r =>
    exact modelVisit_cases surf e st margin nb r.1 r.2 hc (fun x => Sized x.1)
      (fun _ => ⟨hs.lines.trans Array.size_setIfInBounds.symm,
        Array.size_setIfInBounds.trans (hs.res.trans Array.size_setIfInBounds.symm)⟩)
      (fun _ _ => ⟨Array.size_setIfInBounds.trans hs.lines, hs.res⟩) (fun _ _ => hs)

theorem run_sized (surf : Img Int) (nbs : List Nb) (n : Nat) :
    ∀ st, Sized st → Sized (modelRun surf nbs n st) := fun st h =>
  modelRun_rule surf nbs (fun s _ => Sized s) (fun _ acc _ => Sized acc.1) (fun _ _ e h _ => pop_sized h e _)
    (fun e acc _ nb _ h => visit_sized surf e acc nb h) (fun _ _ _ h => h) n st [] h

/-- one neighbour visit of the specification (`p + off` inside the image): what `specVisit` reads -/
structure SEv where
  /-- the popped pixel -/
  p : List Int
  /-- the neighbour `p + off` -/
  q : List Int
  /-- is `q` in the queue at the visit -/
  queued : Bool
  /-- label of `p` at the visit -/
  lp : Int
  /-- label of `q` at the visit -/
  lq : Int
deriving Repr, DecidableEq

def specVisitEv (surf : Img Int) (p : List Int) (st : SSt) (off : List Int) : Option SEv :=
  let q := addPos p off
  if !inside surf.shape q then none else
    some ⟨p, q, st.queue.any (fun e => e.pos == q), st.label.getD p 0, st.label.getD q 0⟩

def svisitsEv (surf : Img Int) (p : List Int) : List (List Int) → SSt → List SEv
  | [], _ => []
  | o :: os, st => (specVisitEv surf p st o).toList ++ svisitsEv surf p os (specVisit surf p st o)

def specTrace (surf : Img Int) (offs : List (List Int)) : Nat → SSt → List SEv
  | 0, _ => []
  | n + 1, st =>
    match extractMin SQE.key st.queue with
    | none => []
    | some (e, rest) =>
      svisitsEv surf e.pos offs { st with queue := rest } ++
        specTrace surf offs n (offs.foldl (specVisit surf e.pos) { st with queue := rest })

def cwatershedSpecTrace (surf markers : Img Int) (bshape : List Nat) (bc : Array Int) : List SEv :=
  specTrace surf (offsets bshape bc) (fuelOf surf.shape) (specInit surf markers)

/-- the run of the specification flooding together with its trace, one rule (as `modelRun_rule`) -/
theorem specRun_rule (surf : Img Int) (offs : List (List Int)) (P : SSt → List SEv → Prop)
    (Q : SQE → SSt → List SEv → Prop)
    (pop : ∀ st tr e, P st tr → e ∈ st.queue →
      Q e { st with queue := st.queue.filter fun x => (SQE.key x).2 != (SQE.key e).2 } tr)
    (visit : ∀ e st tr o, o ∈ offs → Q e st tr →
      Q e (specVisit surf e.pos st o) (tr ++ (specVisitEv surf e.pos st o).toList))
    (close : ∀ e st tr, Q e st tr → P st tr) :
    ∀ (n : Nat) (st : SSt) (tr : List SEv), P st tr → P (specRun surf offs n st) (tr ++ specTrace surf offs n st) := by
  have inner : ∀ e (l : List (List Int)), (∀ o ∈ l, o ∈ offs) → ∀ st tr, Q e st tr →
      Q e (l.foldl (specVisit surf e.pos) st) (tr ++ svisitsEv surf e.pos l st) := by
    intro e l
    induction l with
    | nil => intro _ st tr h; rw [svisitsEv, List.append_nil]; exact h
    | cons o l ih =>
      intro hl st tr h
      rw [List.foldl_cons, svisitsEv, ← List.append_assoc]
      exact ih (fun x hx => hl x (List.mem_cons_of_mem _ hx)) _ _ (visit e st tr o (hl o List.mem_cons_self) h)
  intro n
  induction n with
  | zero => intro st tr h; rw [specTrace, List.append_nil]; exact h
  | succ n ih =>
    intro st tr h
    rw [specRun, specStep, specTrace]
    cases hx : extractMin SQE.key st.queue with
    | none => dsimp only; rw [List.append_nil]; exact h
    | some er =>
      obtain ⟨e, rest⟩ := er
      obtain ⟨hmem, rfl⟩ := extractMin_some SQE.key st.queue e rest hx
      dsimp only
      rw [← List.append_assoc]
      exact ih _ _ (close e _ _ (inner e offs (fun _ h => h) _ tr (pop st tr e h hmem)))

end Mahotas.C04
