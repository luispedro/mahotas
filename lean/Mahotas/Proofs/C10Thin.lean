/-
C10 — B5 (`thin`): one `fast_hitmiss` sweep stays inside the buffer (`thinSweep_ok`), and the update keeps the frame clear.

Neighbours are dereferenced only of set pixels, which never lie on the zero frame added by `thin.py`; the update only
clears pixels (`thinUpdate_frameClear`).
-/
import Mahotas.Proofs.C10
namespace Mahotas.C10
open Mahotas

theorem thinElems_range : ∀ e ∈ Generated.thinElems, ∀ t ∈ e,
    -1 ≤ t.1 ∧ t.1 ≤ 1 ∧ -1 ≤ t.2.1 ∧ t.2.1 ≤ 1 := by decide

theorem thinOffsets_form (cols : Int) : ∀ d ∈ thinOffsets cols,
    ∃ d0 d1 : Int, -1 ≤ d0 ∧ d0 ≤ 1 ∧ -1 ≤ d1 ∧ d1 ≤ 1 ∧ d = d0 * cols + d1 := by
  intro d hd
  simp only [thinOffsets, List.mem_flatMap, List.mem_map] at hd
  obtain ⟨e, he, t, ht, rfl⟩ := hd
  obtain ⟨h1, h2, h3, h4⟩ := thinElems_range e he t ht
  exact ⟨t.1, t.2.1, h1, h2, h3, h4, rfl⟩

/-- a flat index off the frame is an interior pixel: all nine positions around it are flat indices of the image -/
theorem thin_interior (rows cols i d0 d1 : Int) (hc : 0 < cols) (hi0 : 0 ≤ i) (hi1 : i < rows * cols)
    (hf : thinOnFrame rows cols i = false) (h1 : -1 ≤ d0) (h2 : d0 ≤ 1) (h3 : -1 ≤ d1) (h4 : d1 ≤ 1) :
    0 ≤ i + (d0 * cols + d1) ∧ i + (d0 * cols + d1) < rows * cols := by
  simp only [thinOnFrame, Bool.or_eq_false_iff, decide_eq_false_iff_not] at hf
  obtain ⟨⟨⟨hy0, hy1⟩, hx0⟩, hx1⟩ := hf
  have hdecomp := Int.mul_ediv_add_emod i cols
  have hxn := Int.emod_nonneg i (show cols ≠ 0 by omega)
  have hxl := Int.emod_lt_of_pos i hc
  have hyn : 0 ≤ i / cols := Int.ediv_nonneg hi0 (by omega)
  have hyl : i / cols < rows := Int.ediv_lt_of_lt_mul hc hi1
  generalize i / cols = y at *
  generalize i % cols = x at *
  have := flat2_range (y + d0) (x + d1) rows cols (by omega) (by omega) (by omega) (by omega)
  have e : (y + d0) * cols + (x + d1) = i + (d0 * cols + d1) := by rw [← hdecomp]; ring
  rw [e] at this
  exact this

theorem frameClear_iff (rows cols : Int) (img : List Bool) :
    thinFrameClear rows cols img = true ↔
      ∀ (i : Nat), img[i]? = some true → thinOnFrame rows cols (i : Int) = false := by
  simp only [thinFrameClear, List.all_eq_true]
  constructor
  · intro h i hi
    have := h (true, i) (List.mem_zipIdx_iff_getElem?.mpr hi)
    simpa using this
  · intro h bi hbi
    have hb := List.mem_zipIdx_iff_getElem?.mp hbi
    cases hv : bi.1 with
    | false => simp
    | true =>
      rw [hv] at hb
      simp [h bi.2 hb]

theorem thinSweep_ok (rows cols : Int) (img : List Bool) (hc : 0 < cols)
    (hlen : (img.length : Int) = rows * cols) (hf : thinFrameClear rows cols img = true) :
    ∀ a ∈ thinSweep rows cols img, AccOk a := by
  simp only [thinSweep, thinAccessesAt, acc_forall, AccOk]
  rintro ⟨b, i⟩ hbi
  have hil := (mem_zipIdx_lt img b i hbi).1
  refine ⟨by omega, ?_⟩
  split
  · -- a set pixel is off the frame, so its neighbours are pixels
    rename_i hset
    have hnf := (frameClear_iff rows cols img).mp hf i (hset ▸ List.mem_zipIdx_iff_getElem?.mp hbi)
    simp only [acc_forall]
    intro d hd
    obtain ⟨d0, d1, h1, h2, h3, h4, rfl⟩ := thinOffsets_form cols d hd
    exact thin_interior rows cols i d0 d1 hc (by omega) (by omega) hnf h1 h2 h3 h4
  · nofun

theorem thinUpdate_frameClear (rows cols : Int) (img buf : List Bool)
    (hf : thinFrameClear rows cols img = true) : thinFrameClear rows cols (thinUpdate img buf) = true := by
  rw [frameClear_iff] at hf ⊢
  intro i hi
  apply hf i
  simp only [thinUpdate, List.getElem?_zipWith] at hi
  cases ha : img[i]? with
  | none => simp [ha] at hi
  | some a =>
    cases hb : buf[i]? with
    | none => simp [ha, hb] at hi
    | some b =>
      simp only [ha, hb, Option.some.injEq, Bool.and_eq_true] at hi
      rw [hi.1]

theorem thinUpdate_length (img buf : List Bool) (h : buf.length = img.length) :
    (thinUpdate img buf).length = img.length := by
  simp [thinUpdate, h]

end Mahotas.C10
