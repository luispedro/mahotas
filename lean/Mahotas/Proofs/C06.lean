/-
C06 — the generic n-D kernel `convolve<T>` (`convAcc`: footprint order, zero weights dropped, samples through
`fix_offset`) accumulates the defining sum `convSpec`: one step is one term (`step_eq`), and the loop
`cur += term` is the sum (`conv_fold`).
-/
import Mahotas.Model.C06
import Mahotas.Proofs.Border
import Mahotas.Proofs.ListLemmas
import Mathlib.Algebra.Ring.Defs
import Mathlib.Algebra.BigOperators.Group.List.Basic
namespace Mahotas

namespace C06

variable {R : Type} [CommSemiring R]

theorem step_eq (m : Mode) (f : Img R) (hs : ∀ d ∈ f.shape, 0 < d) (cur w : R) (q : List Int) :
    (match sample m f q with
      | some v => cur + v * w
      | none => cur) = cur + w * specSample m f q := by
  unfold sample specSample
  rw [fixPos_eq_specPos m f.shape q hs]
  cases specPos m f.shape q with
  | none => simp
  | some r => simp [mul_comm]

theorem conv_fold (isZero : R → Bool) (hz : ∀ x, isZero x = true → x = 0)
    (m : Mode) (f : Img R) (hs : ∀ d ∈ f.shape, 0 < d) (wshape : List Nat) (w : Array R) (p : List Int)
    (is : List Nat) (acc : R) :
    (is.filterMap fun i =>
        let x := w.getD i 0
        if isZero x then none else some (offsetOf wshape i, x)).foldl
      (fun cur kw =>
        match sample m f (addPos p kw.1) with
        | some v => cur + v * kw.2
        | none => cur) acc =
    acc + (is.map fun i => w.getD i 0 * specSample m f (addPos p (offsetOf wshape i))).sum := by
  -- a dropped zero weight is a term `0 · sample`; then the loop `cur += term` is the sum
  rw [List.foldl_filterMap, ← foldl_add_map]
  refine congrArg (fun F => is.foldl F acc) (funext fun cur => funext fun i => ?_)
  by_cases h : isZero (w.getD i 0) = true
  · simp only [h, if_true]
    rw [hz _ h, zero_mul, add_zero]
  · simp only [h]
    exact step_eq m f hs cur _ _

end C06
end Mahotas
