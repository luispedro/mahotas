/-
C19 — Zernike moments: rotating the image by 90° about the chosen centre multiplies every
`z_nl` by the unit `i^l`.

The definitions (`znlG`, `zVnl`, `zcoef`, `zernikeSel`, `zernikeZ`, `cx…`) are the generic ones of
`Model/C19.lean` that the driver runs at `Float`; here the scalar type is an arbitrary field with a
decidable linear order (for the rotation no order axioms are used), and the square root, the power
function, `eps` and `pi` are arbitrary — only the ring identities matter. Both results go through `zernikeZ_eq`
(`z_nl` as a sum of `zTerm` over the selected-pixel records) and a map of records (`rotRec`, `scaleRec`). Multiplying the
image by a positive scalar changes neither the normalised pixel weights (`zernikeFrac`) nor any `z_nl`; that needs an
ordered field (`0 < s * p ↔ 0 < p`). Last, `fact` of `_zernike.cpp` is the factorial and `zcoef` the textbook coefficient
of the radial polynomial.
-/
import Mahotas.Proofs.C19Haralick
import Mathlib.Algebra.BigOperators.Intervals
import Mathlib.Algebra.CharZero.Defs
import Mathlib.Data.Nat.Factorial.Basic
namespace Mahotas.C19
open Mahotas
open Finset (range)

section ring
variable {α : Type} [CommRing α]

theorem cxMul_add (u z w : α × α) : cxMul u (z + w) = cxMul u z + cxMul u w := by
  ext <;> simp only [cxMul, Prod.fst_add, Prod.snd_add] <;> ring

theorem cxMul_zero (u : α × α) : cxMul u 0 = 0 := by ext <;> simp [cxMul]

theorem cxMul_list_sum (u : α × α) (l : List (α × α)) : cxMul u l.sum = (l.map (cxMul u)).sum := by
  induction l with
  | nil => simp [cxMul_zero]
  | cons a t ih => simp [cxMul_add, ih]

theorem cxScale_cxMul (s : α) (u z : α × α) : cxScale s (cxMul u z) = cxMul u (cxScale s z) := by
  ext <;> simp only [cxMul, cxScale] <;> ring

theorem cxConj_cxMul (u z : α × α) : cxConj (cxMul u z) = cxMul (cxConj u) (cxConj z) := by
  ext <;> simp only [cxMul, cxConj] <;> ring

theorem cxPow_cxMul (u z : α × α) (k : ℕ) :
    cxPow 0 1 (cxMul u z) k = cxMul (cxPow 0 1 u k) (cxPow 0 1 z k) := by
  induction k with
  | zero => ext <;> simp [cxPow, cxMul]
  | succ k ih =>
    simp only [cxPow, ih]
    ext <;> simp only [cxMul] <;> ring

theorem cxConj_cxPow (u : α × α) (k : ℕ) : cxConj (cxPow 0 1 u k) = cxPow 0 1 (cxConj u) k := by
  induction k with
  | zero => ext <;> simp [cxPow, cxConj]
  | succ k ih => simp only [cxPow, cxConj_cxMul, ih]

theorem cxNormSq_cxMul (u z : α × α) : cxNormSq (cxMul u z) = cxNormSq u * cxNormSq z := by
  simp only [cxNormSq, cxMul]; ring

theorem cxNormSq_pow_i (k : ℕ) : cxNormSq (cxPow 0 1 ((0 : α), 1) k) = 1 := by
  induction k with
  | zero => simp [cxPow, cxNormSq]
  | succ k ih => rw [cxPow, cxNormSq_cxMul, ih]; simp [cxNormSq]

theorem foldl_cxAdd {γ : Type} (φ : γ → α × α) (l : List γ) (acc : α × α) :
    l.foldl (fun v s => cxAdd v (φ s)) acc = acc + (l.map φ).sum :=
  foldl_add_map φ l acc

theorem cxScale_sum (a : α × α) (ks : List α) : (ks.map fun k => cxScale k a).sum = cxScale ks.sum a := by
  induction ks with
  | nil => ext <;> simp [cxScale]
  | cons k t ih =>
    rw [List.map_cons, List.sum_cons, ih, List.sum_cons]
    ext <;> simp only [cxScale, Prod.fst_add, Prod.snd_add] <;> ring

end ring

theorem sel_sum {β γ : Type} [AddCommMonoid β] (g : ℕ → ℕ → Option γ) (φ : γ → β) (R C : ℕ) :
    (((List.range R).flatMap fun y => (List.range C).filterMap (g y)).map φ).sum =
      ∑ y ∈ range R, ∑ x ∈ range C, (g y x).elim 0 φ := by
  rw [List.map_flatMap, sum_flatMap', sum_map_range]
  refine Finset.sum_congr rfl fun y _ => ?_
  rw [sum_map_filterMap, sum_map_range]

/-- rotating the index grid by 90°: the sum over the `C × R` grid of `g' i j = (g j (C-1-i)).map ρ`
    is the sum over the `R × C` grid of `g` with `φ ∘ ρ` -/
theorem sel_sum_rot {β γ : Type} [AddCommMonoid β] (g g' : ℕ → ℕ → Option γ) (ρ : γ → γ) (φ : γ → β) (R C : ℕ)
    (h : ∀ i j, i < C → j < R → g' i j = (g j (C - 1 - i)).map ρ) :
    (((List.range C).flatMap fun i => (List.range R).filterMap (g' i)).map φ).sum =
      (((List.range R).flatMap fun y => (List.range C).filterMap (g y)).map (φ ∘ ρ)).sum := by
  rw [sel_sum, sel_sum, Finset.sum_comm]
  refine Finset.sum_congr rfl fun y hy => ?_
  rw [← Finset.sum_range_reflect (fun x => (g y x).elim 0 (φ ∘ ρ)) C]
  refine Finset.sum_congr rfl fun i hi => ?_
  rw [h i y (Finset.mem_range.1 hi) (Finset.mem_range.1 hy)]
  cases g y (C - 1 - i) <;> rfl

section field
variable {α : Type} [Field α]

theorem zRadial_eq_sum (cast : ℕ → α) (pow : α → ℕ → α) (n l : ℕ) (d : α) :
    zRadial 0 1 cast pow n l d =
      ((List.range ((n - l) / 2 + 1)).map fun m => zcoef 1 cast n l m * pow d (n - 2 * m)).sum := by
  unfold zRadial
  rw [foldl_add_map, zero_add]

/-- the radial polynomial factors out of the inner loop: `Vnl = R_nl(d) · a` -/
theorem zVnl_eq (cast : ℕ → α) (pow : α → ℕ → α) (n l : ℕ) (d : α) (a : α × α) :
    zVnl 0 1 cast pow n l d a = cxScale (zRadial 0 1 cast pow n l d) a := by
  unfold zVnl
  rw [foldl_cxAdd, Prod.mk_zero_zero, zero_add, zRadial_eq_sum, ← cxScale_sum, List.map_map]
  rfl

theorem zVnl_cxMul (cast : ℕ → α) (pow : α → ℕ → α) (n l : ℕ) (d : α) (u a : α × α) :
    zVnl 0 1 cast pow n l d (cxMul u a) = cxMul u (zVnl 0 1 cast pow n l d a) := by
  rw [zVnl_eq, zVnl_eq, cxScale_cxMul]

/-- contribution of one selected pixel `s = (Dn, An, P)` to `z_nl` (before the factor `(n+1)/π`) -/
def zTerm (cast : ℕ → α) (pow : α → ℕ → α) (n l : ℕ) (tot : α) (s : α × (α × α) × α) : α × α :=
  cxScale (s.2.2 / tot) (cxConj (zVnl 0 1 cast pow n l s.1 (cxPow 0 1 s.2.1 l)))

/-- a selected pixel seen from the rotated image: same distance and value, angle multiplied by `-i` -/
def rotRec (s : α × (α × α) × α) : α × (α × α) × α := (s.1, cxMul (0, -1) s.2.1, s.2.2)

theorem zTerm_rotRec (cast : ℕ → α) (pow : α → ℕ → α) (n l : ℕ) (tot : α) (s : α × (α × α) × α) :
    zTerm cast pow n l tot (rotRec s) = cxMul (cxPow 0 1 (0, 1) l) (zTerm cast pow n l tot s) := by
  unfold zTerm rotRec
  simp only
  rw [cxPow_cxMul, zVnl_cxMul, cxConj_cxMul, cxScale_cxMul, cxConj_cxPow]
  congr 2
  simp [cxConj]

variable [LinearOrder α]

/-- `z_nl = (n+1)/π · Σ_{selected pixels} (P/ΣP) · conj(R_nl(Dn) · An^l)` -/
theorem zernikeZ_eq (sqrt : α → α) (pow : α → ℕ → α) (eps pi : α) (R C : ℕ) (im : ℕ → ℕ → α)
    (c0 c1 radius : α) (n l : ℕ) :
    zernikeZ 0 1 Nat.cast sqrt pow eps pi R C im c0 c1 radius n l =
      cxScale (((n + 1 : ℕ) : α) / pi)
        (((zernikeSel 0 1 Nat.cast sqrt eps R C im c0 c1 radius).map
          (zTerm Nat.cast pow n l
            (((zernikeSel 0 1 Nat.cast sqrt eps R C im c0 c1 radius).map fun s => s.2.2).sum))).sum) := by
  unfold zernikeZ znlG
  simp only
  rw [gsum_eq_sum, List.zip_map', List.zip_map', List.foldl_map, foldl_cxAdd]
  rw [Prod.mk_zero_zero, zero_add]
  rfl

/-- the record of a pixel with distance `dn`, normalised coordinates `(xn, yn)` and value `p`, if selected -/
def zRec (dn xn yn p : α) : Option (α × (α × α) × α) :=
  if dn ≤ 1 ∧ 0 < p then some (dn, (xn / dn, yn / dn), p) else none

/-- the pixel record at `(y, x)`, if selected -/
def zPix (sqrt : α → α) (eps : α) (im : ℕ → ℕ → α) (c0 c1 radius : α) (y x : ℕ) : Option (α × (α × α) × α) :=
  let yn := ((y : α) - c0) / radius
  let xn := ((x : α) - c1) / radius
  zRec (let d0 := sqrt (xn * xn + yn * yn); if d0 < eps then eps else d0) xn yn (im y x)

theorem zernikeSel_eq (sqrt : α → α) (eps : α) (R C : ℕ) (im : ℕ → ℕ → α) (c0 c1 radius : α) :
    zernikeSel 0 1 Nat.cast sqrt eps R C im c0 c1 radius =
      (List.range R).flatMap fun y => (List.range C).filterMap (zPix sqrt eps im c0 c1 radius y) := rfl

theorem zRec_rot (dn xn yn p : α) : zRec dn yn (-xn) p = (zRec dn xn yn p).map rotRec := by
  unfold zRec
  split <;> simp [rotRec, cxMul, neg_div]

/-- pixel `(i, j)` of the rotated image (`rot[i][j] = im[j][C-1-i]`, centre `(C-1-c1, c0)`) is pixel
    `(j, C-1-i)` of the image with the angle multiplied by `-i` -/
theorem zPix_rot (sqrt : α → α) (eps : α) (C : ℕ) (im : ℕ → ℕ → α) (c0 c1 radius : α) (i j : ℕ) (hi : i < C) :
    zPix sqrt eps (fun i j => im j (C - 1 - i)) ((C : α) - 1 - c1) c0 radius i j =
      (zPix sqrt eps im c0 c1 radius j (C - 1 - i)).map rotRec := by
  have hx : ((C - 1 - i : ℕ) : α) = (C : α) - 1 - (i : α) := by
    rw [Nat.cast_sub (by omega), Nat.cast_sub (by omega)]; simp
  have hyn : ((i : α) - ((C : α) - 1 - c1)) / radius = -((((C - 1 - i : ℕ) : α) - c1) / radius) := by
    rw [hx]; ring
  unfold zPix
  simp only
  rw [hyn]
  have hd : ∀ a b : α, a * a + -b * -b = b * b + a * a := fun a b => by ring
  rw [hd, zRec_rot]

theorem zernikeSel_sum_rot {β : Type} [AddCommMonoid β] (sqrt : α → α) (eps : α) (R C : ℕ) (im : ℕ → ℕ → α)
    (c0 c1 radius : α) (φ : α × (α × α) × α → β) :
    ((zernikeSel 0 1 Nat.cast sqrt eps C R (fun i j => im j (C - 1 - i)) ((C : α) - 1 - c1) c0 radius).map φ).sum =
      ((zernikeSel 0 1 Nat.cast sqrt eps R C im c0 c1 radius).map (φ ∘ rotRec)).sum := by
  rw [zernikeSel_eq, zernikeSel_eq]
  exact sel_sum_rot _ _ rotRec φ R C fun i j hi _ => zPix_rot sqrt eps C im c0 c1 radius i j hi

theorem zernikeZ_rot90 (sqrt : α → α) (pow : α → ℕ → α) (eps pi : α) (R C : ℕ) (im : ℕ → ℕ → α)
    (c0 c1 radius : α) (n l : ℕ) :
    zernikeZ 0 1 Nat.cast sqrt pow eps pi C R (fun i j => im j (C - 1 - i)) ((C : α) - 1 - c1) c0 radius n l =
      cxMul (cxPow 0 1 (0, 1) l) (zernikeZ 0 1 Nat.cast sqrt pow eps pi R C im c0 c1 radius n l) := by
  rw [zernikeZ_eq, zernikeZ_eq]
  have htot := zernikeSel_sum_rot sqrt eps R C im c0 c1 radius (fun s => s.2.2)
  have hcomp : ((fun s : α × (α × α) × α => s.2.2) ∘ rotRec) = fun s => s.2.2 := rfl
  rw [hcomp] at htot
  rw [htot, zernikeSel_sum_rot, ← cxScale_cxMul, cxMul_list_sum, List.map_map]
  congr 3
  funext s
  exact zTerm_rotRec _ _ _ _ _ s

theorem zernikeZ_rot90_normSq (sqrt : α → α) (pow : α → ℕ → α) (eps pi : α) (R C : ℕ) (im : ℕ → ℕ → α)
    (c0 c1 radius : α) (n l : ℕ) :
    cxNormSq (zernikeZ 0 1 Nat.cast sqrt pow eps pi C R (fun i j => im j (C - 1 - i)) ((C : α) - 1 - c1) c0 radius n l) =
      cxNormSq (zernikeZ 0 1 Nat.cast sqrt pow eps pi R C im c0 c1 radius n l) := by
  rw [zernikeZ_rot90, cxNormSq_cxMul, cxNormSq_pow_i, one_mul]

/-- the vector `zernike_moments` returns depends on the image only through the `|z_nl|²` -/
theorem zernikeAbs_congr (sqrt : α → α) (pow : α → ℕ → α) (eps pi : α) {R C R' C' : ℕ} {im im' : ℕ → ℕ → α}
    {c0 c1 c0' c1' radius : α}
    (h : ∀ n l, cxNormSq (zernikeZ 0 1 Nat.cast sqrt pow eps pi R' C' im' c0' c1' radius n l) =
      cxNormSq (zernikeZ 0 1 Nat.cast sqrt pow eps pi R C im c0 c1 radius n l)) (degree : ℕ) :
    zernikeAbs 0 1 Nat.cast sqrt pow eps pi R' C' im' c0' c1' radius degree =
      zernikeAbs 0 1 Nat.cast sqrt pow eps pi R C im c0 c1 radius degree := by
  unfold zernikeAbs
  exact List.map_congr_left fun nl _ => by rw [h]

end field

section scale
variable {α : Type} [Field α] [LinearOrder α] [IsStrictOrderedRing α]

/-- scaling by `s > 0` keeps the selection `P > 0`, so the selected values are scaled -/
theorem zernike_select_scale (inDisc : List Bool) (P : List α) (s : α) (hs : 0 < s) :
    ((inDisc.zip (P.map (s * ·))).filter fun dv => dv.1 && decide ((0 : α) < dv.2)).map (·.2) =
      (((inDisc.zip P).filter fun dv => dv.1 && decide ((0 : α) < dv.2)).map (·.2)).map (s * ·) := by
  have hsel : ((fun dv : Bool × α => dv.1 && decide ((0 : α) < dv.2)) ∘ Prod.map id (s * ·)) =
      fun dv => dv.1 && decide ((0 : α) < dv.2) :=
    funext fun dv => congrArg (dv.1 && ·) (decide_eq_decide.2 (mul_pos_iff_of_pos_left hs))
  rw [List.zip_map_right, List.filter_map, hsel, List.map_map, List.map_map]
  rfl

theorem zernikeFrac_scale (inDisc : List Bool) (P : List α) (s : α) (hs : 0 < s) :
    zernikeFrac 0 inDisc (P.map (s * ·)) = zernikeFrac 0 inDisc P := by
  simp only [zernikeFrac, zernike_select_scale inDisc P s hs, gsum_eq_sum]
  rw [List.sum_map_mul_left, List.map_id', List.map_map]
  exact List.map_congr_left fun v _ => mul_div_mul_left _ _ (ne_of_gt hs)

theorem zernikeFrac_sum_of_exists (inDisc : List Bool) (P : List α)
    (h : ∃ dv ∈ inDisc.zip P, dv.1 = true ∧ 0 < dv.2) :
    gsum 0 (zernikeFrac 0 inDisc P) = 1 := by
  unfold zernikeFrac
  simp only [gsum_eq_sum]
  rw [sum_map_div]
  refine div_self (ne_of_gt (List.sum_pos _ (fun x hx => ?_) fun hnil => ?_))
  · obtain ⟨dv, hdv, rfl⟩ := List.mem_map.1 hx
    exact of_decide_eq_true (Bool.and_eq_true_iff.1 (List.mem_filter.1 hdv).2).2
  · obtain ⟨dv, hm, h1, h2⟩ := h
    have hmem : dv ∈ (inDisc.zip P).filter fun dv => dv.1 && decide ((0 : α) < dv.2) :=
      List.mem_filter.2 ⟨hm, by rw [h1, decide_eq_true h2]; rfl⟩
    exact List.ne_nil_of_mem (List.mem_map_of_mem hmem) hnil

/-- a selected pixel of the image scaled by `s` -/
def scaleRec (s : α) (r : α × (α × α) × α) : α × (α × α) × α := (r.1, r.2.1, s * r.2.2)

theorem zRec_scale (s : α) (hs : 0 < s) (dn xn yn p : α) :
    zRec dn xn yn (s * p) = (zRec dn xn yn p).map (scaleRec s) := by
  unfold zRec
  have hp : 0 < s * p ↔ 0 < p := mul_pos_iff_of_pos_left hs
  by_cases h : dn ≤ 1 ∧ 0 < p
  · rw [if_pos h, if_pos ⟨h.1, hp.2 h.2⟩]; rfl
  · rw [if_neg h, if_neg (fun h' => h ⟨h'.1, hp.1 h'.2⟩)]; rfl

theorem zernikeSel_scale (sqrt : α → α) (eps : α) (R C : ℕ) (im : ℕ → ℕ → α) (c0 c1 radius s : α) (hs : 0 < s) :
    zernikeSel 0 1 Nat.cast sqrt eps R C (fun y x => s * im y x) c0 c1 radius =
      (zernikeSel 0 1 Nat.cast sqrt eps R C im c0 c1 radius).map (scaleRec s) := by
  rw [zernikeSel_eq, zernikeSel_eq, List.map_flatMap]
  refine List.flatMap_congr fun y _ => ?_
  rw [List.map_filterMap]
  refine List.filterMap_congr fun x _ => ?_
  unfold zPix
  simp only
  rw [zRec_scale s hs]

omit [LinearOrder α] [IsStrictOrderedRing α] in
theorem zTerm_scale (cast : ℕ → α) (pow : α → ℕ → α) (n l : ℕ) (tot s : α) (hs : s ≠ 0) (r : α × (α × α) × α) :
    zTerm cast pow n l (s * tot) (scaleRec s r) = zTerm cast pow n l tot r := by
  unfold zTerm scaleRec
  simp only
  rw [mul_div_mul_left _ _ hs]

theorem zernikeZ_scale (sqrt : α → α) (pow : α → ℕ → α) (eps pi : α) (R C : ℕ) (im : ℕ → ℕ → α)
    (c0 c1 radius s : α) (hs : 0 < s) (n l : ℕ) :
    zernikeZ 0 1 Nat.cast sqrt pow eps pi R C (fun y x => s * im y x) c0 c1 radius n l =
      zernikeZ 0 1 Nat.cast sqrt pow eps pi R C im c0 c1 radius n l := by
  rw [zernikeZ_eq, zernikeZ_eq, zernikeSel_scale sqrt eps R C im c0 c1 radius s hs, List.map_map, List.map_map]
  have htot : ((zernikeSel 0 1 Nat.cast sqrt eps R C im c0 c1 radius).map
      ((fun r : α × (α × α) × α => r.2.2) ∘ scaleRec s)).sum =
      s * ((zernikeSel 0 1 Nat.cast sqrt eps R C im c0 c1 radius).map fun r => r.2.2).sum := by
    rw [← List.sum_map_mul_left]; rfl
  rw [htot]
  congr 2
  apply List.map_congr_left
  intro r _
  exact zTerm_scale _ _ _ _ _ s (ne_of_gt hs) r

end scale

end Mahotas.C19

namespace Mahotas.C19.Machine
open Mahotas Mahotas.C19 Mahotas.Generated

theorem factorialTable_eq : ∀ i < 13, factorialTable.getD i 0 = i.factorial := by decide

section radial
variable {α : Type} [Field α]

/-- `fact(n)` of `_zernike.cpp` is `n!` -/
theorem zfact_eq_factorial : ∀ n : Nat, zfact (Nat.cast : Nat → α) n = ((n.factorial : Nat) : α)
  | 0 => by
    unfold zfact
    rw [factorialTable_eq 0 (by decide)]
  | n + 1 => by
    unfold zfact
    split
    · rename_i h
      have h13 : factorialTable.length = 13 := rfl
      rw [factorialTable_eq (n + 1) (by omega)]
    · rw [zfact_eq_factorial n, Nat.factorial_succ, Nat.cast_mul]

theorem sign_eq_pow (m : Nat) : (if m % 2 = 1 then -(1 : α) else 1) = (-1) ^ m := by
  rcases Nat.even_or_odd m with h | h
  · rw [if_neg (by rcases h with ⟨k, rfl⟩; omega), h.neg_one_pow]
  · rw [if_pos (by rcases h with ⟨k, rfl⟩; omega), h.neg_one_pow]

/-- the coefficient `g_m[m]` of `znl` is the textbook coefficient of `ρ^(n−2m)` in `R_n^l` -/
theorem zcoef_textbook (n l m : Nat) (hm : 2 * m + l ≤ n) :
    zcoef (1 : α) Nat.cast n l m =
      (-1) ^ m * ((n - m).factorial : α) /
        ((m.factorial : α) * (((n + l) / 2 - m).factorial : α) * (((n - l) / 2 - m).factorial : α)) := by
  have h2 : 2 * m ≤ n := Nat.le_of_add_right_le hm
  rw [zcoef, sign_eq_pow, zfact_eq_factorial, zfact_eq_factorial, zfact_eq_factorial, zfact_eq_factorial,
    ← Nat.sub_add_comm h2, Nat.sub_mul_div, Nat.sub_right_comm n (2 * m) l, Nat.sub_mul_div]

theorem zRadial_diag [CharZero α] (pow : α → Nat → α) (n : Nat) (d : α) :
    zRadial 0 1 Nat.cast pow n n d = pow d n := by
  rw [zRadial_eq_sum]
  have hn : ((n.factorial : Nat) : α) ≠ 0 := Nat.cast_ne_zero.mpr (Nat.factorial_ne_zero n)
  have e : (n + n) / 2 = n := by omega
  simp [zcoef_textbook n n 0 (by omega), e, hn]

end radial

end Mahotas.C19.Machine
