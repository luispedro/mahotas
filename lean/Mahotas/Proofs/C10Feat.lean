/-
C10 — lemmas about the index models of `Model/C10Feat.lean`: for each entry point, every access of the run is inside its
buffer (and the loops end).
-/
import Mahotas.Model.C10Feat
import Mahotas.Proofs.C10Base
import Mathlib.Tactic.Linarith
namespace Mahotas.C10Feat
open Mahotas

def FOk (a : FAcc) : Prop := 0 ≤ a.i ∧ a.i < a.size

theorem ok_iff {a : FAcc} : a.ok = true ↔ FOk a := by
  simp only [FAcc.ok, Bool.and_eq_true, decide_eq_true_eq, FOk]

theorem allOk_iff {l : List FAcc} : allOk l = true ↔ ∀ a ∈ l, FOk a := by
  simp only [allOk, List.all_eq_true, ok_iff]

theorem FOk_natCast {i n : Nat} (h : i < n) : FOk ⟨i, n⟩ := ⟨Int.natCast_nonneg i, Int.ofNat_lt.2 h⟩

/-- the access `b[i]` of a loop `for (i = 0; i < m; ++i)` over a buffer of at least `m` cells -/
theorem FOk_of_mem_range {i m : Nat} {n : Int} (hi : i ∈ List.range m) (hm : m ≤ n.toNat) : FOk ⟨Int.ofNat i, n⟩ :=
  ⟨Int.natCast_nonneg i, Int.lt_toNat.1 (Nat.lt_of_lt_of_le (List.mem_range.1 hi) hm)⟩

theorem otsuLoop_ok (n : Int) (nbz noz better : Nat → Bool) (k t best : Nat)
    (ht : 1 ≤ t) (hk : (k : Int) = n - t) (hb : (best : Int) < n) :
    (∀ a ∈ (otsuLoop n nbz noz better k t best).1, FOk a) ∧ ((otsuLoop n nbz noz better k t best).2 : Int) < n := by
  induction k generalizing t best with
  | zero => exact ⟨nofun, hb⟩
  | succ k ih =>
    obtain ⟨ht0, htn, hk'⟩ : 0 ≤ (t : Int) - 1 ∧ (t : Int) < n ∧ (k : Int) = n - (t + 1 : Nat) := by omega
    have hT : FOk ⟨Int.ofNat t, n⟩ := ⟨Int.natCast_nonneg t, htn⟩
    have hT1 : FOk ⟨Int.ofNat t - 1, n⟩ := ⟨ht0, Int.lt_of_le_of_lt (Int.sub_le_self _ Int.one_nonneg) htn⟩
    have next := fun best => ih (t + 1) best (Nat.le_add_left 1 t) hk'
    rw [otsuLoop]
    by_cases h1 : nbz t = true
    · rw [if_pos h1]
      exact ⟨List.forall_mem_cons.2 ⟨hT, (next best hb).1⟩, (next best hb).2⟩
    · rw [if_neg h1]
      by_cases h2 : noz t = true
      · rw [if_pos h2]
        exact ⟨by simp only [acc_forall, hT, and_self], hb⟩
      · rw [if_neg h2]
        obtain ⟨r1, r2⟩ := next (if better t then t else best) (by split; exacts [htn, hb])
        exact ⟨by simpa only [acc_forall, hT, hT1, and_self] using r1, r2⟩

theorem factTableLen_eq : factTableLen = 13 := by decide

/-- `fact(k)`, `k ≥ 0`, in closed form: the table cell read at the bottom of the recursion and the number of recursive calls -/
theorem factRun_eq (fuel : Nat) (k : Int) (h0 : 0 ≤ k) (hf : k < fuel) :
    factRun fuel k = some (⟨min k (factTableLen - 1), factTableLen⟩, (k - (factTableLen - 1)).toNat) := by
  induction fuel generalizing k with
  | zero => exact absurd (Int.lt_of_le_of_lt h0 hf) (Int.lt_irrefl 0)
  | succ f ih =>
    rw [factRun]
    by_cases hk : 0 ≤ k ∧ k < factTableLen
    · have hk1 := Int.le_sub_one_of_lt hk.2
      rw [if_pos hk, min_eq_left hk1, Int.toNat_of_nonpos (Int.sub_nonpos_of_le hk1)]
    · have hlen := factTableLen_eq
      obtain ⟨h1, hf1, hm, hm1, hd⟩ : 0 ≤ k - 1 ∧ k - 1 < f ∧ factTableLen - 1 ≤ k ∧ 0 ≤ k - 1 - (factTableLen - 1) ∧
          k - (factTableLen - 1) = k - 1 - (factTableLen - 1) + 1 := by omega
      rw [if_neg hk, ih (k - 1) h1 hf1, min_eq_right hm, min_eq_right (Int.sub_nonneg.1 hm1), hd,
        Int.toNat_add hm1 Int.one_nonneg]
      rfl

theorem factCell_ok {k : Int} (h0 : 0 ≤ k) : FOk ⟨min k (factTableLen - 1), factTableLen⟩ := by
  rw [factTableLen_eq]
  exact ⟨le_min h0 (by decide), Int.lt_of_le_of_lt (min_le_right k _) (by decide : (13 : Int) - 1 < 13)⟩

/-- a negative argument never reaches the table: no fuel suffices (in C: recursion until the stack is exhausted) -/
theorem factRun_neg (fuel : Nat) (k : Int) (hk : k < 0) : factRun fuel k = none := by
  induction fuel generalizing k with
  | zero => rfl
  | succ f ih =>
    rw [factRun, if_neg (by omega), ih (k - 1) (by omega)]
    rfl

theorem tdiv_two_le {a n : Int} (h0 : 0 ≤ a) (h : a ≤ 2 * n) : 0 ≤ a.tdiv 2 ∧ a.tdiv 2 ≤ n :=
  ⟨Int.tdiv_nonneg h0 (by decide),
    Int.le_of_mul_le_mul_left (Int.le_trans (Int.mul_tdiv_self_le h0) h) (by decide)⟩

theorem znlFactArgs_nonneg (n l m : Int) (hl0 : 0 ≤ l) (hln : l ≤ n) (hm0 : 0 ≤ m) (hm : m ≤ Int.tdiv (n - l) 2) :
    ∀ x ∈ znlFactArgs n l m, 0 ≤ x ∧ x ≤ n := by
  have hd : 2 * Int.tdiv (n - l) 2 ≤ n - l := Int.mul_tdiv_self_le (Int.sub_nonneg.2 hln)
  obtain ⟨hmn, hp0, hq0, hp, hq⟩ : m ≤ n ∧ 0 ≤ n - 2 * m + l ∧ 0 ≤ n - 2 * m - l ∧ n - 2 * m + l ≤ 2 * n ∧
      n - 2 * m - l ≤ 2 * n := by omega
  simp only [znlFactArgs, List.forall_mem_cons, List.not_mem_nil, false_imp_iff, implies_true, and_true]
  exact ⟨⟨Int.sub_nonneg.2 hmn, Int.sub_le_self n hm0⟩, ⟨hm0, hmn⟩, tdiv_two_le hp0 hp, tdiv_two_le hq0 hq⟩

theorem mem_ofNat_range {k m : Int} (h : m ∈ (List.range k.toNat).map Int.ofNat) : FOk ⟨m, k⟩ :=
  (mem_natRange k m).1 h

/-- calls that all come back with a cell inside the table: their accesses are in bounds, and the run ends -/
theorem factCalls_ok {calls : List (Option (FAcc × Nat))} (h : ∀ r ∈ calls, ∃ q, r = some q ∧ FOk q.1) :
    (∀ a ∈ calls.filterMap fun r => r.map (·.1), FOk a) ∧ calls.all Option.isSome = true := by
  refine ⟨fun a ha => ?_, List.all_eq_true.2 fun r hr => ?_⟩
  · obtain ⟨r, hr, ha⟩ := List.mem_filterMap.1 ha
    obtain ⟨q, rfl, hq⟩ := h r hr
    cases ha
    exact hq
  · obtain ⟨q, rfl, -⟩ := h r hr
    rfl

/-- the first `u` rounds of `for (p = 0; …; ++p) { … a[p] … b[p] … }` -/
theorem allOk_scan (u na nb : Nat) :
    allOk ((List.range u).flatMap fun p => [FAcc.mk (Int.ofNat p) (Int.ofNat na), FAcc.mk (Int.ofNat p) (Int.ofNat nb)]) = true ↔
      u ≤ na ∧ u ≤ nb := by
  simp only [allOk_iff, acc_forall, List.mem_range]
  constructor
  · intro h
    cases u with
    | zero => exact ⟨Nat.zero_le _, Nat.zero_le _⟩
    | succ u => exact ⟨Int.ofNat_lt.1 (h u (Nat.lt_succ_self u)).1.2, Int.ofNat_lt.1 (h u (Nat.lt_succ_self u)).2.2⟩
  · exact fun h p hp => ⟨FOk_natCast (Nat.lt_of_lt_of_le hp h.1), FOk_natCast (Nat.lt_of_lt_of_le hp h.2)⟩

theorem pairScan_ok_iff (na nb : Nat) : allOk (pairScan na nb none) = true ↔ na ≤ nb := by
  simp only [pairScan, allOk_scan, Nat.le_refl, true_and]

theorem pairScan_ok (na nb : Nat) (stop : Option Nat) (h : na ≤ nb) : allOk (pairScan na nb stop) = true := by
  cases stop with
  | none => exact (pairScan_ok_iff na nb).2 h
  | some s =>
    simp only [pairScan, allOk_scan]
    exact ⟨Nat.min_le_left _ _, Nat.le_trans (Nat.min_le_left _ _) h⟩

theorem angleFirst_ok (ns : Nat) (btw : Nat → Nat → Bool) (hns : 1 ≤ ns) (k j : Nat) (hj : j ≤ ns) :
    (∀ a ∈ (angleFirst ns btw k j).1, FOk a) ∧ (angleFirst ns btw k j).2 ≤ ns := by
  induction k generalizing j with
  | zero => exact ⟨nofun, hj⟩
  | succ k ih =>
    rw [angleFirst]
    by_cases hjn : j = ns
    · rw [if_pos hjn]
      exact ⟨nofun, hj⟩
    · rw [if_neg hjn]
      have hlt : j < ns := Nat.lt_of_le_of_ne hj hjn
      have h0 : FOk ⟨0, ns⟩ := FOk_natCast (i := 0) hns
      have hJ : FOk ⟨j, ns⟩ := FOk_natCast hlt
      by_cases hb : btw 0 j = true
      · rw [if_pos hb]
        obtain ⟨h1, h3⟩ := ih (j + 1) hlt
        exact ⟨by simpa only [acc_forall, h0, hJ, and_self] using h1, h3⟩
      · rw [if_neg hb]
        exact ⟨by simp only [acc_forall, h0, hJ, and_self], hj⟩

/-- circular distance from `j` forward to `i` -/
def fwd (ns i j : Nat) : Nat := if j ≤ i then i - j else ns - j + i

theorem fwd_of_le {ns i j : Nat} (h : j ≤ i) : fwd ns i j + j = i := by
  rw [fwd, if_pos h, Nat.sub_add_cancel h]

theorem fwd_of_lt {ns i j : Nat} (h : i < j) (hj : j ≤ ns) : fwd ns i j + j = ns + i := by
  rw [fwd, if_neg (Nat.not_le.2 h), Nat.add_right_comm, Nat.sub_add_cancel hj]

theorem fwd_lt {ns i j : Nat} (hi : i < ns) (hj : j < ns) : fwd ns i j < ns := by
  rw [fwd]
  by_cases h : j ≤ i
  · rw [if_pos h]
    exact Nat.lt_of_le_of_lt (Nat.sub_le i j) hi
  · rw [if_neg h]
    exact Nat.lt_of_lt_of_eq (Nat.add_lt_add_left (Nat.lt_of_not_le h) _) (Nat.sub_add_cancel (Nat.le_of_lt hj))

/-- `++j; if (j == Nsamples) j = 0;` keeps `j` inside and brings `j ≠ i` closer to `i` -/
theorem fwd_step {ns i j : Nat} (hi : i < ns) (hj : j < ns) (hne : j ≠ i) :
    (if j + 1 = ns then 0 else j + 1) < ns ∧ fwd ns i (if j + 1 = ns then 0 else j + 1) < fwd ns i j := by
  by_cases hji : j ≤ i
  · have hlt : j + 1 ≤ i := Nat.lt_of_le_of_ne hji hne
    have hd := fwd_of_le (ns := ns) hji
    have hd' := fwd_of_le (ns := ns) hlt
    rw [if_neg (Nat.ne_of_lt (Nat.lt_of_le_of_lt hlt hi))]
    exact ⟨Nat.lt_of_le_of_lt hlt hi, by omega⟩
  · have hd := fwd_of_lt (Nat.lt_of_not_le hji) (Nat.le_of_lt hj)
    by_cases hw : j + 1 = ns
    · have hd' := fwd_of_le (ns := ns) (Nat.zero_le i)
      rw [if_pos hw]
      exact ⟨Nat.zero_lt_of_lt hi, by omega⟩
    · have hd' := fwd_of_lt (j := j + 1) (Nat.lt_succ_of_lt (Nat.lt_of_not_le hji)) hj
      rw [if_neg hw]
      exact ⟨Nat.lt_of_le_of_ne hj hw, by omega⟩

theorem angleWhile_ok (ns i : Nat) (btw : Nat → Nat → Bool) (hi : i < ns) (f j : Nat) (hj : j < ns)
    (hf : fwd ns i j < f) :
    (∀ a ∈ (angleWhile ns i btw f j).1, FOk a) ∧ (angleWhile ns i btw f j).2.1 < ns ∧
      (angleWhile ns i btw f j).2.2 = true := by
  induction f generalizing j with
  | zero => exact absurd hf (Nat.not_lt_zero _)
  | succ f ih =>
    have hI : FOk ⟨i, ns⟩ := FOk_natCast hi
    have hJ : FOk ⟨j, ns⟩ := FOk_natCast hj
    rw [angleWhile]
    by_cases hji : j = i
    · rw [if_pos hji]
      exact ⟨nofun, hj, rfl⟩
    · rw [if_neg hji]
      by_cases hb : btw i j = true
      · rw [if_pos hb]
        obtain ⟨hj1, hd⟩ := fwd_step hi hj hji
        obtain ⟨h1, h2, h3⟩ := ih _ hj1 (Nat.lt_of_lt_of_le hd (Nat.le_of_lt_succ hf))
        exact ⟨by simpa only [acc_forall, hI, hJ, and_self] using h1, h2, h3⟩
      · rw [if_neg hb]
        exact ⟨by simp only [acc_forall, hI, hJ, and_self], hj, rfl⟩

theorem angleOuter_ok (ns : Nat) (btw : Nat → Nat → Bool) (k i j : Nat) (hik : k + i = ns) (hj : j < ns) :
    (∀ a ∈ (angleOuter ns btw k i j).1, FOk a) ∧ (angleOuter ns btw k i j).2.1 < ns ∧
      (angleOuter ns btw k i j).2.2 = true := by
  induction k generalizing i j with
  | zero => exact ⟨nofun, hj, rfl⟩
  | succ k ih =>
    have hi : i < ns := Nat.lt_of_lt_of_eq (Nat.lt_add_of_pos_left k.succ_pos) hik
    obtain ⟨w1, w2, w3⟩ := angleWhile_ok ns i btw hi ns j hj (fwd_lt hi hj)
    obtain ⟨r1, r2, r3⟩ := ih (i + 1) _ ((Nat.add_right_comm k 1 i).symm.trans hik) w2
    rw [angleOuter]
    exact ⟨List.forall_mem_append.2 ⟨List.forall_mem_cons.2 ⟨FOk_natCast hi, w1⟩, r1⟩, r2, by rw [w3, r3]; rfl⟩

theorem angleRun_ok (ns : Nat) (btw : Nat → Nat → Bool) (hns : 1 ≤ ns) :
    (∀ a ∈ (angleRun ns btw).1, FOk a) ∧ (angleRun ns btw).2.2.2 = true ∧
      ((angleRun ns btw).2.1 = false → (angleRun ns btw).2.2.1 < ns) := by
  obtain ⟨f1, f3⟩ := angleFirst_ok ns btw hns ns 1 hns
  have h0 : FOk ⟨0, ns⟩ := FOk_natCast (i := 0) hns
  rw [angleRun]
  by_cases he : (angleFirst ns btw ns 1).2 = ns
  · rw [if_pos he]
    exact ⟨List.forall_mem_cons.2 ⟨h0, f1⟩, rfl, nofun⟩
  · rw [if_neg he]
    obtain ⟨o1, o2, o3⟩ := angleOuter_ok ns btw (ns - 1) 1 _ (Nat.sub_add_cancel hns) (Nat.lt_of_le_of_ne f3 he)
    exact ⟨List.forall_mem_append.2 ⟨List.forall_mem_cons.2 ⟨h0, f1⟩, o1⟩, o3, fun _ => o2⟩

theorem polesAccesses_spec (order : Int) :
    (∀ l, polesAccesses order = some l → allOk l = true) ∧ (polesAccesses order = none ↔ order < 2 ∨ 5 < order) := by
  rw [polesAccesses]
  by_cases h1 : order = 2 ∨ order = 3
  · rw [if_pos h1]
    exact ⟨fun l h => by cases h; decide, nofun, fun h => by omega⟩
  · rw [if_neg h1]
    by_cases h2 : order = 4 ∨ order = 5
    · rw [if_pos h2]
      exact ⟨fun l h => by cases h; decide, nofun, fun h => by omega⟩
    · rw [if_neg h2]
      exact ⟨nofun, fun _ => by omega, fun _ => rfl⟩

theorem splineCoeffStores_ok (order : Int) : allOk (splineCoeffStores order) = true :=
  allOk_iff.2 (List.forall_mem_map.2 fun _ h => FOk_of_mem_range h (Nat.le_refl _))

end Mahotas.C10Feat
