/-
C16 — rounded arithmetic.

`Rd rnd` is `ℚ` with every operation followed by `rnd`: the arithmetic at which the generic kernels of
`Model/C16.lean` are run in `C16Round.lean` (Otsu) and `C16RcRound.lean` (Riddler–Calvard).  For a `rnd`
satisfying the `Rounding` interface of `Proofs/Rounded.lean` (binary64 round-to-nearest `rne53` in
particular) and `u = 2^-53`: what one rounding, two nested rounded products and a rounded quotient
multiplied back add to an error known before.
-/
import Mahotas.Model.C16
import Mahotas.Proofs.Rounded
import Mathlib.Tactic.FieldSimp
import Mathlib.Tactic.GCongr
import Mathlib.Tactic.NormNum
namespace Mahotas.C16
open Mahotas Mahotas.C05

/-- the rationals with every operation followed by `rnd` -/
def Rd (_rnd : ℚ → ℚ) : Type := ℚ

section rd
variable (rnd : ℚ → ℚ)
instance : Add (Rd rnd) := ⟨fun (a b : ℚ) => rnd (a + b)⟩
instance : Sub (Rd rnd) := ⟨fun (a b : ℚ) => rnd (a - b)⟩
instance : Mul (Rd rnd) := ⟨fun (a b : ℚ) => rnd (a * b)⟩
instance : Div (Rd rnd) := ⟨fun (a b : ℚ) => rnd (a / b)⟩
instance : LT (Rd rnd) := ⟨fun (a b : ℚ) => a < b⟩
instance : DecidableLT (Rd rnd) := fun (a b : ℚ) => inferInstanceAs (Decidable (a < b))
/-- conversion of a count to the arithmetic (`double(n)`): the nearest representable number -/
def rdCast (n : Nat) : Rd rnd := rnd (n : ℚ)
/-- read an element of the rounded arithmetic as a rational -/
def Rd.val (a : Rd rnd) : ℚ := a
end rd

section
variable (rnd : ℚ → ℚ) (a b : Rd rnd)
theorem Rd.val_add : Rd.val rnd (a + b) = rnd (Rd.val rnd a + Rd.val rnd b) := rfl
theorem Rd.val_sub : Rd.val rnd (a - b) = rnd (Rd.val rnd a - Rd.val rnd b) := rfl
theorem Rd.val_mul : Rd.val rnd (a * b) = rnd (Rd.val rnd a * Rd.val rnd b) := rfl
theorem Rd.val_div : Rd.val rnd (a / b) = rnd (Rd.val rnd a / Rd.val rnd b) := rfl
theorem Rd.val_cast (n : Nat) : Rd.val rnd (rdCast rnd n) = rnd (n : ℚ) := rfl
theorem Rd.lt_iff : a < b ↔ Rd.val rnd a < Rd.val rnd b := Iff.rfl
end

theorem u53_eq : u53 = 1 / 2 ^ 53 := by unfold u53; norm_num

theorem u53_pos : 0 < u53 := by unfold u53; positivity

/-- one rounding of a quantity of magnitude at most `F`: `E ↦ (1+u)E + uF` -/
def gstep (F E : ℚ) : ℚ := (1 + u53) * E + u53 * F

theorem gstep_mono (F : ℚ) {E E' : ℚ} (h : E ≤ E') : gstep F E ≤ gstep F E' := by
  unfold gstep; have := u53_pos.le; gcongr

theorem gstep_nonneg {F E : ℚ} (hF : 0 ≤ F) (hE : 0 ≤ E) : 0 ≤ gstep F E := by
  unfold gstep; have := u53_pos; positivity

section numeric
variable {rnd : ℚ → ℚ} (hr : Rounding rnd)
include hr

theorem rnd_rel' (x : ℚ) : |rnd x - x| ≤ u53 * |x| := by
  have := hr.rel x
  rw [u53_eq, one_div, inv_mul_eq_div]
  exact this

theorem rnd_err (x y E : ℚ) (h : |x - y| ≤ E) : |rnd x - y| ≤ (1 + u53) * E + u53 * |y| :=
  Rounded.abs_fl_sub_le u53_pos.le (rnd_rel' hr) h le_rfl

/-- `rnd_err` for `0 ≤ y ≤ F` -/
theorem rnd_gstep (x y F E : ℚ) (hy : 0 ≤ y) (hyF : y ≤ F) (h : |x - y| ≤ E) :
    |rnd x - y| ≤ gstep F E :=
  Rounded.abs_fl_sub_le u53_pos.le (rnd_rel' hr) h ((abs_of_nonneg hy).trans_le hyF)

theorem rnd_nat (m : ℕ) (hm : m ≤ 2 ^ 53) : rnd (m : ℚ) = (m : ℚ) := hr.exact_nat m hm

theorem rnd_mul_rnd (p q : ℚ) : |rnd (rnd p * q) - p * q| ≤ (2 * u53 + u53 * u53) * |p * q| := by
  have h : |rnd p * q - p * q| ≤ u53 * |p * q| := by
    rw [← sub_mul, abs_mul, abs_mul, ← mul_assoc]
    exact mul_le_mul_of_nonneg_right (rnd_rel' hr p) (abs_nonneg q)
  exact (rnd_err hr _ _ _ h).trans (le_of_eq (by ring))

/-- a rounded quotient multiplied back by its divisor: if `q` is within `E` of `s ∈ [0, F]`, then
    `rnd (q / b) * b` is within `gstep F E` of `s` -/
theorem rnd_div_mul (q s b F E : ℚ) (hb : 0 < b) (hs : 0 ≤ s) (hsF : s ≤ F) (h : |q - s| ≤ E) :
    |rnd (q / b) * b - s| ≤ gstep F E := by
  have h1 : |q / b - s / b| ≤ E / b := by
    rw [← sub_div, abs_div, abs_of_pos hb]
    exact div_le_div_of_nonneg_right h hb.le
  have h2 := mul_le_mul_of_nonneg_right
    (rnd_gstep hr _ _ (F / b) _ (div_nonneg hs hb.le) (div_le_div_of_nonneg_right hsF hb.le) h1) hb.le
  have e : rnd (q / b) * b - s = (rnd (q / b) - s / b) * b := by
    rw [sub_mul, div_mul_cancel₀ _ hb.ne']
  rw [e, abs_mul, abs_of_pos hb]
  refine h2.trans (le_of_eq ?_)
  unfold gstep
  field_simp

/-- a midpoint `((x ⊕ y) ⊘ 2)` of two rounded non-negative numbers: each of the three roundings in a row multiplies
    the error factor by `1 + u`, relative error `(1+u)³ − 1 ≤ 4u` -/
theorem rnd_midpoint (x y : ℚ) (hx : 0 ≤ x) (hy : 0 ≤ y) :
    |rnd (rnd (rnd x + rnd y) / 2) - (x + y) / 2| ≤ 4 * u53 * ((x + y) / 2) := by
  have hxy : 0 ≤ x + y := add_nonneg hx hy
  have hu := u53_pos.le
  have e1 := rnd_rel' hr x
  have e2 := rnd_rel' hr y
  rw [abs_of_nonneg hx] at e1
  rw [abs_of_nonneg hy] at e2
  have e3 : |rnd x + rnd y - (x + y)| ≤ (1 + u53 - 1) * (x + y) := by
    rw [add_sub_add_comm, add_sub_cancel_left, mul_add]
    exact (abs_add_le _ _).trans (add_le_add e1 e2)
  have e4 := Rounded.abs_fl_sub_le_mul hu (rnd_rel' hr) (abs_of_nonneg hxy).le e3
  have e5 : |rnd (rnd x + rnd y) / 2 - (x + y) / 2| ≤ ((1 + u53) * (1 + u53) - 1) * ((x + y) / 2) := by
    rw [← sub_div, abs_div, abs_of_pos (two_pos : (0 : ℚ) < 2), ← mul_div_assoc]
    exact div_le_div_of_nonneg_right e4 two_pos.le
  refine (Rounded.abs_fl_sub_le_mul hu (rnd_rel' hr) (abs_of_nonneg (by positivity)).le e5).trans
    (mul_le_mul_of_nonneg_right ?_ (by positivity))
  unfold u53
  norm_num

end numeric
end Mahotas.C16
