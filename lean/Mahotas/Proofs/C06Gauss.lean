/-
C06 — the weights of `gaussian_filter1d` (`gaussWeightsG`) over a field, with an abstract even function `e` standing
for `exp(−x²/2σ²)`: closed form of every weight (`gweight`), symmetry / antisymmetry; over an ordered field with `e`
positive: the sums, and the response of the order-1 weights to a ramp.
-/
import Mahotas.Model.C06
import Mahotas.Proofs.Sums
import Mathlib.Algebra.Order.Field.Basic
import Mathlib.Algebra.BigOperators.Group.List.Basic
import Mathlib.Algebra.BigOperators.Ring.List
import Mathlib.Algebra.Order.BigOperators.Group.List
import Mathlib.Tactic.Ring
namespace Mahotas.C06

section field
variable {K : Type} [Field K]

/-- the abscissa of kernel position `i`: `x = i − lw` -/
def gx (lw i : Nat) : K := (i : K) - (lw : K)

/-- the derivative polynomials of `gaussian_filter1d` (factor applied to the normalised Gaussian) -/
def gpoly (s2 : K) (order : Nat) (x : K) : K :=
  match order with
  | 0 => 1
  | 1 => -x / s2
  | 2 => (x * x / s2 - 1) / s2
  | _ => (3 - x * x / s2) * x / (s2 * s2)

/-- the normalising sum `np.sum(weights)` -/
def gtot (e : K → K) (lw : Nat) : K := ((List.range (2 * lw + 1)).map fun i => e (gx lw i)).sum

/-- closed form of the weight the code leaves at kernel position `i` (the flip of the odd orders is
    the sign change of the abscissa) -/
def gweight (e : K → K) (s2 : K) (lw order i : Nat) : K :=
  e (gx lw i) / gtot e lw * gpoly s2 order (if order % 2 = 1 then -gx lw i else gx lw i)

theorem gx_reflect (lw i : Nat) (hi : i ≤ 2 * lw) : (gx lw (2 * lw - i) : K) = -gx lw i := by
  unfold gx
  rw [Nat.cast_sub hi, Nat.cast_mul, Nat.cast_ofNat]
  ring

theorem gpoly_even (s2 : K) (order : Nat) (ho : order = 0 ∨ order = 2) (x : K) :
    gpoly s2 order (-x) = gpoly s2 order x := by
  rcases ho with rfl | rfl
  · rfl
  · simp only [gpoly, neg_mul_neg]

theorem gpoly_odd (s2 : K) (order : Nat) (ho : order = 1 ∨ order = 3) (x : K) :
    gpoly s2 order (-x) = -gpoly s2 order x := by
  rcases ho with rfl | rfl
  · simp only [gpoly, neg_div]
  · simp only [gpoly]
    ring

theorem gaussTerm_eq (s2 x v : K) : ∀ order, gaussTerm (Nat.cast : Nat → K) s2 order x v = v * gpoly s2 order x
  | 0 => (mul_one v).symm
  | 1 => rfl
  | 2 => by simp only [gaussTerm, gpoly, Nat.cast_one]
  | _ + 3 => by simp only [gaussTerm, gpoly, Nat.cast_ofNat]

theorem gaussWeightsG_unflipped (e : K → K) (s2 : K) (lw order : Nat) :
    gaussWeightsG (Nat.cast : Nat → K) e s2 lw order =
      (if order % 2 == 1 then
        ((List.range (2 * lw + 1)).map fun i => e (gx lw i) / gtot e lw * gpoly s2 order (gx lw i)).reverse
       else
        ((List.range (2 * lw + 1)).map fun i => e (gx lw i) / gtot e lw * gpoly s2 order (gx lw i))).toArray := by
  unfold gaussWeightsG
  simp only [List.map_map, List.zip_map', ← List.sum_eq_foldl, Function.comp_def, gaussTerm_eq]
  rfl

theorem gaussWeightsG_toList (e : K → K) (he : ∀ x, e (-x) = e x) (s2 : K) (lw order : Nat) :
    (gaussWeightsG (Nat.cast : Nat → K) e s2 lw order).toList =
      (List.range (2 * lw + 1)).map (gweight e s2 lw order) := by
  rw [gaussWeightsG_unflipped]
  unfold gweight
  by_cases ho : order % 2 = 1
  · rw [if_pos (beq_iff_eq.2 ho), reverse_map_range]
    refine List.map_congr_left fun i hi => ?_
    rw [Nat.add_sub_cancel, gx_reflect lw i (Nat.le_of_lt_succ (List.mem_range.1 hi)), he, if_pos ho]
  · rw [if_neg (fun h => ho (beq_iff_eq.1 h))]
    exact List.map_congr_left fun i _ => by rw [if_neg ho]

theorem gaussWeightsG_size (e : K → K) (s2 : K) (lw order : Nat) :
    (gaussWeightsG (Nat.cast : Nat → K) e s2 lw order).size = 2 * lw + 1 := by
  rw [gaussWeightsG_unflipped]
  split <;> simp

theorem gaussWeightsG_getD (e : K → K) (he : ∀ x, e (-x) = e x) (s2 : K) (lw order i : Nat)
    (hi : i ≤ 2 * lw) :
    (gaussWeightsG (Nat.cast : Nat → K) e s2 lw order).getD i 0 = gweight e s2 lw order i := by
  rw [Array.getD_eq_getD_getElem?, ← Array.getElem?_toList, gaussWeightsG_toList e he,
    List.getElem?_map, List.getElem?_range (Nat.lt_succ_of_le hi)]
  rfl

/-- a statement about the weights the code computes, position by position, is a statement about `gweight` -/
theorem map_getD_gaussWeightsG {β : Type} (e : K → K) (he : ∀ x, e (-x) = e x) (s2 : K) (lw order : Nat)
    (F : Nat → K → β) :
    ((List.range (2 * lw + 1)).map fun i => F i ((gaussWeightsG (Nat.cast : Nat → K) e s2 lw order).getD i 0)) =
      (List.range (2 * lw + 1)).map fun i => F i (gweight e s2 lw order i) :=
  List.map_congr_left fun i hi => by
    rw [gaussWeightsG_getD e he s2 lw order i (Nat.le_of_lt_succ (List.mem_range.1 hi))]

theorem gweight_zero (e : K → K) (s2 : K) (lw i : Nat) : gweight e s2 lw 0 i = e (gx lw i) / gtot e lw :=
  mul_one _

theorem gweight_one (e : K → K) (s2 : K) (lw i : Nat) :
    gweight e s2 lw 1 i = gweight e s2 lw 0 i * (gx lw i / s2) := by
  rw [gweight_zero]
  simp only [gweight, gpoly, Nat.one_mod, if_true, neg_neg]

theorem gweight_symm (e : K → K) (he : ∀ x, e (-x) = e x) (s2 : K) (lw order i : Nat)
    (ho : order = 0 ∨ order = 2) (hi : i ≤ 2 * lw) :
    gweight e s2 lw order (2 * lw - i) = gweight e s2 lw order i := by
  unfold gweight
  have hne : ¬ order % 2 = 1 := by rcases ho with rfl | rfl <;> decide
  rw [if_neg hne, if_neg hne, gx_reflect lw i hi, he, gpoly_even s2 order ho]

theorem gweight_antisymm (e : K → K) (he : ∀ x, e (-x) = e x) (s2 : K) (lw order i : Nat)
    (ho : order = 1 ∨ order = 3) (hi : i ≤ 2 * lw) :
    gweight e s2 lw order (2 * lw - i) = -gweight e s2 lw order i := by
  unfold gweight
  have hodd : order % 2 = 1 := by rcases ho with rfl | rfl <;> rfl
  rw [if_pos hodd, if_pos hodd, gx_reflect lw i hi, he, gpoly_odd s2 order ho, mul_neg]

end field

section ordered
variable {K : Type} [Field K] [LinearOrder K] [IsStrictOrderedRing K]

theorem gtot_pos (e : K → K) (hpos : ∀ x, 0 < e x) (lw : Nat) : 0 < gtot e lw := by
  refine List.sum_pos _ (fun x hx => ?_) (by simp)
  obtain ⟨i, _, rfl⟩ := List.mem_map.1 hx
  exact hpos _

theorem gweight_zero_pos (e : K → K) (hpos : ∀ x, 0 < e x) (s2 : K) (lw i : Nat) : 0 < gweight e s2 lw 0 i := by
  rw [gweight_zero]
  exact div_pos (hpos _) (gtot_pos e hpos lw)

theorem gweight_sum_order0 (e : K → K) (hpos : ∀ x, 0 < e x) (s2 : K) (lw : Nat) :
    ((List.range (2 * lw + 1)).map (gweight e s2 lw 0)).sum = 1 := by
  have h : (List.range (2 * lw + 1)).map (gweight e s2 lw 0) =
      ((List.range (2 * lw + 1)).map fun i => e (gx lw i)).map (· / gtot e lw) := by
    rw [List.map_map]
    exact List.map_congr_left fun i _ => gweight_zero e s2 lw i
  rw [h, sum_map_div]
  exact div_self (ne_of_gt (gtot_pos e hpos lw))

theorem sum_eq_zero_of_antisymm (g : Nat → K) (n : Nat) (h : ∀ i < n, g (n - 1 - i) = -g i) :
    ((List.range n).map g).sum = 0 := by
  refine self_eq_neg.1 ?_
  calc ((List.range n).map g).sum = ((List.range n).map g).reverse.sum := (List.sum_reverse _).symm
    _ = (((List.range n).map g).map fun x => -x).sum := by
        rw [reverse_map_range, List.map_map]
        exact congrArg List.sum (List.map_congr_left fun i hi => h i (List.mem_range.1 hi))
    _ = -((List.range n).map g).sum := (List.sum_neg _).symm

theorem gweight_sum_odd (e : K → K) (he : ∀ x, e (-x) = e x) (s2 : K) (lw order : Nat)
    (ho : order = 1 ∨ order = 3) :
    ((List.range (2 * lw + 1)).map (gweight e s2 lw order)).sum = 0 := by
  refine sum_eq_zero_of_antisymm _ _ fun i hi => ?_
  rw [Nat.add_sub_cancel]
  exact gweight_antisymm e he s2 lw order i ho (Nat.le_of_lt_succ hi)

theorem gaussWeightsG_sum_order0 (e : K → K) (he : ∀ x, e (-x) = e x) (hpos : ∀ x, 0 < e x) (s2 : K) (lw : Nat) :
    (gaussWeightsG (Nat.cast : Nat → K) e s2 lw 0).toList.sum = 1 := by
  rw [gaussWeightsG_toList e he]
  exact gweight_sum_order0 e hpos s2 lw

theorem gaussWeightsG_sum_odd (e : K → K) (he : ∀ x, e (-x) = e x) (s2 : K) (lw order : Nat)
    (ho : order = 1 ∨ order = 3) : (gaussWeightsG (Nat.cast : Nat → K) e s2 lw order).toList.sum = 0 := by
  rw [gaussWeightsG_toList e he]
  exact gweight_sum_odd e he s2 lw order ho

/-- the correlation of the order-1 weights with the unit ramp `t + x` does not depend on `t`: it is the second moment
    of the order-0 weights over `σ²` -/
theorem gweight_ramp (e : K → K) (he : ∀ x, e (-x) = e x) (s2 : K) (lw : Nat) (t : K) :
    ((List.range (2 * lw + 1)).map fun i => gweight e s2 lw 1 i * (t + gx lw i)).sum =
      ((List.range (2 * lw + 1)).map fun i => gweight e s2 lw 0 i * gx lw i ^ 2).sum / s2 := by
  have h : (fun i => gweight e s2 lw 1 i * (t + gx lw i)) =
      fun i => gweight e s2 lw 1 i * t + gweight e s2 lw 0 i * gx lw i ^ 2 / s2 :=
    funext fun i => by rw [gweight_one]; ring
  rw [h, List.sum_map_add, List.sum_map_mul_right, gweight_sum_odd e he s2 lw 1 (Or.inl rfl), zero_mul, zero_add,
    ← sum_map_div, List.map_map]
  rfl

theorem gweight_moment_pos (e : K → K) (hpos : ∀ x, 0 < e x) (s2 : K) (lw : Nat) (hlw : 1 ≤ lw) :
    0 < ((List.range (2 * lw + 1)).map fun i => gweight e s2 lw 0 i * gx lw i ^ 2).sum := by
  have hnn : ∀ x ∈ (List.range (2 * lw + 1)).map fun i => gweight e s2 lw 0 i * gx (K := K) lw i ^ 2, 0 ≤ x := by
    intro x hx
    obtain ⟨i, _, rfl⟩ := List.mem_map.1 hx
    exact mul_nonneg (gweight_zero_pos e hpos s2 lw i).le (sq_nonneg _)
  refine lt_of_lt_of_le ?_ (List.single_le_sum hnn _ (List.mem_map.2 ⟨0, List.mem_range.2 (Nat.succ_pos _), rfl⟩))
  have h : (0 : K) < lw := Nat.cast_pos.2 hlw
  rw [gx, Nat.cast_zero, zero_sub, neg_sq, sq]
  exact mul_pos (gweight_zero_pos e hpos s2 lw 0) (mul_pos h h)

end ordered
end Mahotas.C06
