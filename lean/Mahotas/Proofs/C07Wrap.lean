/-
C07 — `template_match<T>` in the wrap-around arithmetic of the image dtype: reduction modulo
`2^bits` is a ring homomorphism, so the value computed with promotions to `int`, wrapping products and
sums and conversions back to `T` is the exact sum of squared differences reduced into the range of `T`.
-/
import Mahotas.Proofs.C07
import Mahotas.Proofs.DType
import Mathlib.Data.Int.ModEq
namespace Mahotas.C07
open Mahotas

theorem wrap_modEq (dt : DT) (x : Int) : dt.wrap x ≡ x [ZMOD dt.card] := by
  unfold DT.wrap
  have h : (x - dt.lo) % dt.card ≡ x - dt.lo [ZMOD dt.card] := Int.mod_modEq _ _
  have := h.add_right dt.lo
  simpa using this

theorem wrap_congr (dt : DT) (x y : Int) (h : x ≡ y [ZMOD dt.card]) : dt.wrap x = dt.wrap y := by
  unfold DT.wrap
  have : (x - dt.lo) % dt.card = (y - dt.lo) % dt.card := h.sub_right dt.lo
  rw [this]

theorem wrap_wrap_of_dvd (dt ar : DT) (hd : dt.card ∣ ar.card) (x : Int) :
    dt.wrap (ar.wrap x) = dt.wrap x :=
  wrap_congr dt _ _ ((wrap_modEq ar x).of_dvd hd)

/-- one accumulation step of `template_match<T>`: wrapped state in, wrapped state out -/
theorem tmStep_wrap (dt : DT) (hb : dt.isBool = false) (hd : dt.card ∣ (promote dt).card) (e d : Int) :
    castT dt ((promote dt).wrap (dt.wrap e + (promote dt).wrap
        (castT dt ((promote dt).wrap d) * castT dt ((promote dt).wrap d)))) =
      dt.wrap (e + d * d) := by
  simp only [castT, hb, Bool.false_eq_true, if_false]
  apply wrap_congr
  have hA : ∀ z, (promote dt).wrap z ≡ z [ZMOD dt.card] := fun z => (wrap_modEq _ z).of_dvd hd
  have hδ : dt.wrap ((promote dt).wrap d) ≡ d [ZMOD dt.card] := (wrap_modEq dt _).trans (hA d)
  exact (hA _).trans ((wrap_modEq dt e).add ((hA _).trans (hδ.mul hδ)))

/-- the integer dtypes of numpy that `template_match` is instantiated at -/
def intDTs : List DT := [dtU 8, dtU 16, dtU 32, dtU 64, dtI 8, dtI 16, dtI 32, dtI 64]

/-- each of them satisfies the hypotheses of `C07_template_match_wrapping_generic` (8/16-bit types are promoted to the
    32-bit `int`, whose size `2^32` is a multiple of theirs) -/
theorem intDTs_ok : ∀ dt ∈ intDTs,
    dt.isBool = false ∧ (dt.lo ≤ 0 ∧ 0 ≤ dt.hi) ∧ dt.card ∣ (promote dt).card := by
  decide

/-- one accumulation step for `T = bool` on a 0/1 difference `d`: the state `w` is "some difference seen so far",
    that is "the exact sum `e ≥ 0` so far is not zero" -/
theorem tmStep_bool (e w d : Int) (he : 0 ≤ e) (hw : w = if e = 0 then 0 else 1) (hd : d = 0 ∨ d = 1) :
    0 ≤ e + d * d ∧
    castT dtBool ((promote dtBool).wrap (w + (promote dtBool).wrap
        (castT dtBool ((promote dtBool).wrap d) * castT dtBool ((promote dtBool).wrap d)))) =
      if e + d * d = 0 then 0 else 1 := by
  rcases hd with rfl | rfl
  · rw [Int.mul_zero, Int.add_zero, hw]
    refine ⟨he, ?_⟩
    split <;> rfl
  · have h1 : e + 1 * 1 ≠ 0 := by omega
    rw [if_neg h1, hw]
    refine ⟨by omega, ?_⟩
    split <;> rfl

end Mahotas.C07
