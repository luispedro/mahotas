/-
Iterating a step on arrays of flags (`iter`, the rounds of the executable specifications `regSpec` and
`closeHolesSpec`): what a round preserves every number of rounds preserves, and a round that only ever sets flags,
on `N` flags, changes nothing any more after `N` rounds.
-/
import Mahotas.Proofs.C14Flood
import Mahotas.Proofs.Iterate
namespace Mahotas.C14
open Mahotas

theorem iter_inv {α : Type} (f : α → α) (P : α → Prop) (h : ∀ a, P a → P (f a)) :
    ∀ (n : Nat) (a : α), P a → P (iter f n a)
  | 0, _, ha => ha
  | n + 1, a, ha => iter_inv f P h n (f a) (h a ha)

theorem cnt_lt_of_sub {a b : Array Bool} (hsz : a.size = b.size) (hs : Sub a b) (hne : a ≠ b) : cnt a < cnt b :=
  (countP_sub a.toList b.toList (by simpa using hsz)
    (fun i => by simpa [Array.getD_eq_getD_getElem?, List.getD_eq_getElem?_getD] using hs i)).2
    fun h => hne (Array.toList_inj.mp h)

theorem iter_eq_iterate {α : Type} (f : α → α) : ∀ (n : Nat) (a : α), iter f n a = f^[n] a
  | 0, _ => rfl
  | n + 1, a => iter_eq_iterate f n (f a)

/-- a round that only ever sets flags, on `N` flags, has reached a fixed point after `N` rounds: every round that is
    not stationary sets a flag -/
theorem iter_mono_fixed (step : Array Bool → Array Bool) (N : Nat) (hsize : ∀ a, (step a).size = N)
    (hmono : ∀ a i, i < N → a.getD i false = true → (step a).getD i false = true) (a : Array Bool) (ha : a.size = N) :
    step (iter step N a) = iter step N a := by
  rw [iter_eq_iterate]
  refine (iterate_measure step (·.size = N) (fun a => step a = a) (fun a => N - cnt a) (fun a _ => hsize a)
    (fun a _ h => congrArg step h) (fun a ha hne => ?_) N a ha (Or.inr (Nat.sub_le _ _))).2
  have h1 : cnt a < cnt (step a) := cnt_lt_of_sub (by rw [ha, hsize])
    (fun i hi => hmono a i (ha ▸ lt_size_of_getD_ne a i false (by rw [hi]; decide)) hi) (Ne.symm hne)
  have h2 := cnt_le_size (step a)
  rw [hsize] at h2
  omega

end Mahotas.C14
