/-
Ties between the bodies of `colors.py: rgb2grey, xyz2lab, rgb2lab, rgb2sepia` (regenerated on every run into
`Generated/PyBodiesC20.lean`, family `colors2`) and the polymorphic definitions of `Model/C20.lean` the driver instantiates at
`Float`: `C20.grey`, `C20.labFG` / `C20.xyz2labG`, `C20.rgb2xyzG`, `C20.matVec` (+ the clip of `C20.sepia`).
-/
import Mahotas.Proofs.PyBodyTiesC20

namespace Mahotas
open Mahotas.Generated.Py Mahotas.C20

section colors2
variable {K : Type} [Add K] [Sub K] [Mul K] [Div K] [Neg K] [LT K] [DecidableLT K] [LE K] [DecidableLE K]

/-- the small integer literals of `xyz2lab` (`1`, `3.0`, `4`, `6`, `29.0`, `16`, `116`, `200`, `500`), embedded -/
def pyLits (ofNat : Nat → K) : Lits K :=
  ⟨ofNat 1, ofNat 3, ofNat 4, ofNat 6, ofNat 29, ofNat 16, ofNat 116, ofNat 200, ofNat 500⟩

/-- the white point literal of `xyz2lab` -/
def pyWhite (ofNat : Nat → K) (flit : Nat → Nat → K) : List K := [flit 95047 5, ofNat 1, flit 108883 5]

/-- the weights literal of `rgb2grey` -/
def pyGreyW (flit : Nat → Nat → K) : List K := [flit 3 1, flit 59 2, flit 11 2]

/-- the matrix literal of `rgb2sepia` -/
def pySepiaM (flit : Nat → Nat → K) : List (List K) :=
  [[flit 393 3, flit 769 3, flit 189 3], [flit 349 3, flit 686 3, flit 168 3], [flit 272 3, flit 534 3, flit 131 3]]

/-- the primitives of the `colors2` family on images whose positions are (pixel, channel): `np.dot(a, w)` is the model's
    `C20.grey` of the pixel's three channel values, plane `i` of `a.transpose((2,0,1))` is channel `i`, `np.dstack` puts
    three planes side by side along the channel axis, `astype(d)` is the elementwise `cast d`; `_convert` (not used by the
    bodies tied below with these primitives), `rgb2xyz` / `xyz2lab` are parameters (instantiated
    by the generated bodies themselves in `pybody_colors_rgb2lab_pixel`). -/
abbrev pixPrims2 {Px D : Type} [OfNat K 0] (pow : K → K → K) (cast : D → K → K) (f32 u8 : D)
    (cv : (Px → K) → List (List K) → Option D → Px → K)
    (rgb2xyz : (Px × Nat → K) → (Px × Nat → K)) (xyz2lab : (Px × Nat → K) → Option D → (Px × Nat → K)) :
    Color2Prims K Px (Px × Nat → K) D where
  pow := pow
  convert := cv
  astype := fun g d q => cast d (g q)
  astype3 := fun a d q => cast d (a q)
  float32 := f32
  uint8 := u8
  dot3 := fun a w px => grey w (a (px, 0)) (a (px, 1)) (a (px, 2))
  channel := fun a i px => a (px, i)
  dstack3 := fun l a b pc => match pc.2 with | 0 => l pc.1 | 1 => a pc.1 | _ => b pc.1
  rgb2xyz := rgb2xyz
  xyz2lab := xyz2lab

/-- `colors.rgb2grey` = `np.dot(array, [0.3, 0.59, 0.11])`, then `astype(dtype)`: weights, their order,
    product first and cast second. Every scalar type and primitives. -/
theorem pybody_colors_rgb2grey_eq_model {X A D : Type} (ofNat : Nat → K) (ofInt : Int → K) (flit : Nat → Nat → K)
    (P : Color2Prims K X A D) (array : A) (dtype : D) :
    colors_rgb2grey ofNat ofInt flit P array dtype = P.astype (P.dot3 array (pyGreyW flit)) dtype := by
  simp only [colors_rgb2grey, pyGreyW]

/-- … pixel by pixel: the cast of the model's `C20.grey` with the source's weights -/
theorem pybody_colors_rgb2grey_pixel {Px D : Type} [OfNat K 0] (ofNat : Nat → K) (ofInt : Int → K) (flit : Nat → Nat → K)
    (pow : K → K → K) (cast : D → K → K) (f32 u8 : D) (cv) (r2x) (x2l) (rgb : Px × Nat → K) (dtype : D) (px : Px) :
    colors_rgb2grey ofNat ofInt flit (pixPrims2 pow cast f32 u8 cv r2x x2l) rgb dtype px
      = cast dtype (grey (pyGreyW flit) (rgb (px, 0)) (rgb (px, 1)) (rgb (px, 2))) := by
  rw [pybody_colors_rgb2grey_eq_model]

/-- `colors.xyz2lab`, pixel by pixel = the model's `C20.xyz2labG` with the helper `C20.labFG`
    (`t^(1/3)` above the knee `(6/29)^3`, `(1/3)(29/6)(29/6) t + 4/29` at or below it: `smallBelow = true`, exponent 3),
    the literals and the white point of the source, then the elementwise cast when a dtype is requested. Fixes the
    three divisions by the white point, which channel feeds which `f`, `L = 116 fy − 16`, `a = 500 (fx − fy)`,
    `b = 200 (fy − fz)`, the order of the planes in `np.dstack`, and the order of the `np.choose` arms. -/
theorem pybody_colors_xyz2lab_pixel {Px D : Type} [OfNat K 0] (ofNat : Nat → K) (ofInt : Int → K) (flit : Nat → Nat → K)
    (pow : K → K → K) (cast : D → K → K) (f32 u8 : D) (cv) (r2x) (x2l) (xyz : Px × Nat → K) (dtype : Option D) (px : Px) :
    [0, 1, 2].map (fun ch => colors_xyz2lab ofNat ofInt flit (pixPrims2 pow cast f32 u8 cv r2x x2l) xyz dtype (px, ch)) =
      (xyz2labG (labFG pow ofNat (pyLits ofNat) (ofNat 6) (ofNat 29) true 3) (pyLits ofNat) (pyWhite ofNat flit)
        [xyz (px, 0), xyz (px, 1), xyz (px, 2)]).map (fun y => match dtype with | none => y | some d => cast d y) := by
  cases dtype <;>
    simp only [colors_xyz2lab, xyz2labG, labFG, pyLits, pyWhite, List.map, decide_eq_true_eq, ↓reduceIte]

/-- `colors.rgb2lab` = `xyz2lab(rgb2xyz(rgb), dtype)` -/
theorem pybody_colors_rgb2lab_eq_model {X A D : Type} (ofNat : Nat → K) (ofInt : Int → K) (flit : Nat → Nat → K)
    (P : Color2Prims K X A D) (rgb : A) (dtype : Option D) :
    colors_rgb2lab ofNat ofInt flit P rgb dtype = P.xyz2lab (P.rgb2xyz rgb) dtype := by
  simp only [colors_rgb2lab]

/-- … with `rgb2xyz` / `xyz2lab` instantiated by the GENERATED bodies `colors_rgb2xyz` (no dtype) and `colors_xyz2lab`:
    pixel by pixel the model's composition `C20.rgb2lab rgb = xyz2lab (rgb2xyz rgb)`, i.e.
    `xyz2labG f lits white (rgb2xyzG M transfer [r, g, b])`, then the cast. (The inner `pixPrims2 … id (fun a _ => a)`
    fills the `rgb2xyz` / `xyz2lab` fields with dummies: the body of `colors_xyz2lab` calls neither.) -/
theorem pybody_colors_rgb2lab_pixel {Px D : Type} [OfNat K 0] (ofNat : Nat → K) (ofInt : Int → K) (flit : Nat → Nat → K)
    (pow : K → K → K) (cast : D → K → K) (f32 u8 : D) (cv) (rgb : Px × Nat → K) (dtype : Option D) (px : Px) :
    let CP : ColorPrims K (Px × Nat) D := { pow := pow, convert := pixConvert cast, astype := fun g d q => cast d (g q) }
    let r2x := fun a => colors_rgb2xyz ofNat ofInt flit CP a none
    let x2l := fun a d => colors_xyz2lab ofNat ofInt flit (pixPrims2 pow cast f32 u8 cv id (fun a _ => a)) a d
    [0, 1, 2].map (fun ch => colors_rgb2lab ofNat ofInt flit (pixPrims2 pow cast f32 u8 cv r2x x2l) rgb dtype (px, ch)) =
      (xyz2labG (labFG pow ofNat (pyLits ofNat) (ofNat 6) (ofNat 29) true 3) (pyLits ofNat) (pyWhite ofNat flit)
        (rgb2xyzG (pyRgb2xyzM flit)
          (srgbToLinearG pow (ofNat 1) (ofNat 255) (flit 55 3) (flit 24 1) (flit 1292 2) (flit 4045 5) true)
          [rgb (px, 0), rgb (px, 1), rgb (px, 2)])).map (fun y => match dtype with | none => y | some d => cast d y) := by
  intro CP r2x x2l
  have h := pybody_colors_rgb2xyz_pixel ofNat ofInt flit pow cast rgb px
  simp only [List.map_cons, List.map_nil] at h
  rw [← h]
  rw [show (fun ch => colors_rgb2lab ofNat ofInt flit (pixPrims2 pow cast f32 u8 cv r2x x2l) rgb dtype (px, ch))
        = fun ch => colors_xyz2lab ofNat ofInt flit (pixPrims2 pow cast f32 u8 cv id (fun a _ => a)) (r2x rgb) dtype (px, ch) from rfl]
  exact pybody_colors_xyz2lab_pixel ofNat ofInt flit pow cast f32 u8 cv id (fun a _ => a) (r2x rgb) dtype px

end colors2

section sepia
variable {K : Type} [Field K] [LinearOrder K]

/-- the clip of `C20.sepia`, written as the model writes it: `if s < 255 then s else 255`, then `if s < 0 then 0 else s` -/
def sepiaClip {K : Type} [LT K] [DecidableLT K] (c0 c255 s : K) : K :=
  let s := if s < c255 then s else c255
  if s < c0 then c0 else s

omit [Field K] in
/-- `np.minimum(s, 255)` is translated as `if 255 < s then 255 else s`, the model writes `if s < 255 then s else 255` -/
theorem ite_lt_comm (a b : K) : (if a < b then a else b) = if b < a then b else a := by
  rw [ite_lt_min, ite_lt_min, min_comm]

/-- `colors.rgb2sepia` = `_convert(rgb, M, float32)`, clipped as `C20.sepia` clips (`np.minimum(·, 255)`
    first, `np.maximum(·, 0)` second), then `astype(uint8)` — over every linearly ordered field. -/
theorem pybody_colors_rgb2sepia_eq_model {X A D : Type} (ofInt : Int → K) (flit : Nat → Nat → K)
    (P : Color2Prims K X A D) (rgb : X → K) :
    colors_rgb2sepia (fun n => (n : K)) ofInt flit P rgb =
      P.astype (fun p => sepiaClip 0 255 (P.convert rgb (pySepiaM flit) (some P.float32) p)) P.uint8 := by
  simp only [colors_rgb2sepia, pySepiaM, Nat.cast_ofNat, Nat.cast_zero, ite_lt_comm (255 : K), sepiaClip]
  rfl  -- the two sides spell the `Decidable` instances of `<` differently

end sepia

/-- non-vacuity (integers, toy power `pow t e = t + 7`, `flit m d = m`): `f` takes the linear branch at the knee and the
    power branch above it, and the three output planes are different functions of the input -/
example : labFG (α := Int) (fun t _ => t + 7) (fun n => (n : Int)) (pyLits fun n => (n : Int)) 6 29 true 3 7 = 0 ∧
    labFG (α := Int) (fun t _ => t + 7) (fun n => (n : Int)) (pyLits fun n => (n : Int)) 6 29 true 3 8 = 15 ∧
    xyz2labG (labFG (α := Int) (fun t _ => t + 7) (fun n => (n : Int)) (pyLits fun n => (n : Int)) 6 29 true 3)
      (pyLits fun n => (n : Int)) [1, 1, 1] [10, 20, 30] = [3116, -5000, -2000] := by decide

example : sepiaClip (0 : Int) 255 300 = 255 ∧ sepiaClip (0 : Int) 255 (-3) = 0 ∧ sepiaClip (0 : Int) 255 17 = 17 := by decide

end Mahotas
