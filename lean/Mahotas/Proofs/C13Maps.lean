/-
C13 — `borders`, `border`, `bwperim`, `is_same_labeling`. The models of the first three fetch a neighbour through the
transliterated `fix_offset`, their specifications through the mathematical border rule; the two agree by `fixPos_eq_specPos`
(`borders`, `bwperim`: every mode) and `fixPos_constant_eq` (`border`: `ExtendConstant`), both of `Proofs/Border.lean`.
The two-map loop of `is_same_labeling` accepts exactly when the label pairs form a partial bijection (`sameGo_spec`: the
invariant is that the two maps are inverse to each other).
-/
import Mahotas.Model.C13
import Mahotas.Proofs.Border
import Mahotas.Proofs.C03Label
namespace Mahotas.C13
open Mahotas

theorem bordersModel_eq_spec (m : Mode) (shape : List Nat) (labels : List Int) (offs : List (List Int))
    (hs : ∀ d ∈ shape, 0 < d) : bordersModel m shape labels offs = bordersSpec m shape labels offs := by
  unfold bordersModel bordersSpec
  apply List.map_congr_left
  intro i _
  simp only [fixPos_eq_specPos m shape _ hs]

theorem bwperim_eq_spec (m : Mode) (shape : List Nat) (bw : List Int) (offs : List (List Int))
    (hs : ∀ d ∈ shape, 0 < d) : bwperim m shape bw offs = bwperimSpec m shape bw offs := by
  unfold bwperim bwperimSpec
  rw [bordersModel_eq_spec m shape bw offs hs]

/-- the test of `border` on a pixel labelled `cur` and a neighbour labelled `v` -/
theorem borderTest_eq (cur v li lj : Int) (hc : cur = li ∨ cur = lj) :
    (v == if cur = li then lj else li) = ((cur == li && v == lj) || (cur == lj && v == li)) := by
  by_cases h1 : cur = li
  · subst h1
    by_cases h2 : cur = lj
    · subst h2; simp
    · simp [h2]
  · obtain rfl := hc.resolve_left h1
    simp [h1]

/-- in `constant` mode the neighbour fetched is the position itself when inside the image and nothing otherwise
    (`fixPos_constant_eq`) -/
theorem borderModel_eq_spec (shape : List Nat) (labels : List Int) (offs : List (List Int)) (li lj : Int)
    (hk : ∀ k ∈ offs, k.length = shape.length) :
    borderModel shape labels offs li lj = borderSpec2 shape labels offs li lj := by
  unfold borderModel borderSpec2
  refine List.map_congr_left fun ii _ => ?_
  generalize labels.getD ii 0 = cur
  by_cases hc : cur = li ∨ cur = lj
  · rw [if_pos hc, Bool.eq_iff_iff, List.any_eq_true, List.any_eq_true]
    refine exists_congr fun k => and_congr_right fun hko => Eq.to_iff (congrArg (· = true) ?_)
    rw [fixPos_constant_eq shape _ (by
      rw [C01.addPos_length_of_eq _ _ (by rw [unravelI_length, hk k hko]), unravelI_length])]
    dsimp only
    cases inside shape (addPos (unravelI shape ii) k)
    · rfl
    · exact borderTest_eq cur _ li lj hc
  · rw [if_neg hc, eq_comm, List.any_eq_false]
    intro k _
    rw [not_or] at hc
    simp [hc.1, hc.2]

/-- the pairs form a partial bijection: equal first components iff equal second components -/
def PBij (G : Int → Int → Prop) : Prop := ∀ a b a' b', G a b → G a' b' → (a = a' ↔ b = b')

theorem PBij_congr {G G' : Int → Int → Prop} (h : ∀ a b, G a b ↔ G' a b) : PBij G ↔ PBij G' := by
  unfold PBij
  simp only [h]

/-- while the two maps are inverse to each other, the loop accepts exactly when the pairs already in the map
    together with the pairs still to come form a partial bijection -/
theorem sameGo_spec : ∀ (ps : List (Int × Int)) (index rindex : List (Int × Int)),
    (∀ a b, index.lookup a = some b ↔ rindex.lookup b = some a) →
    (sameGo index rindex ps = true ↔
      PBij (fun a b => index.lookup a = some b ∨ (a, b) ∈ ps))
  | [], index, rindex, hinv => by
    simp only [sameGo, true_iff, List.not_mem_nil, or_false]
    intro a b a' b' h h'
    exact ⟨fun e => Option.some.inj (h.symm.trans (e ▸ h')),
      fun e => Option.some.inj (((hinv a b).mp h).symm.trans (e ▸ (hinv a' b').mp h'))⟩
  | (a, b) :: ps, index, rindex, hinv => by
    have hab : (a, b) ∈ (a, b) :: ps := List.mem_cons_self
    cases ha : index.lookup a with
    | some b0 =>
      by_cases hb0 : b0 = b
      · -- a known pair: nothing changes
        subst hb0
        have hstep : sameGo index rindex ((a, b0) :: ps) = sameGo index rindex ps := by
          simp [sameGo, ha, (hinv a b0).mp ha]
        rw [hstep, sameGo_spec ps index rindex hinv]
        apply PBij_congr
        intro x y
        rw [List.mem_cons, Prod.mk.injEq]
        exact ⟨fun h => h.imp_right Or.inr,
          fun h => h.elim Or.inl fun h => h.elim (fun e => Or.inl (e.1 ▸ e.2 ▸ ha)) Or.inr⟩
      · -- `a` already has another partner
        have hstep : sameGo index rindex ((a, b) :: ps) = false := by simp [sameGo, ha, hb0]
        rw [hstep]
        exact ⟨nofun, fun h => absurd ((h a b0 a b (Or.inl ha) (Or.inr hab)).mp rfl) hb0⟩
    | none =>
      cases hb : rindex.lookup b with
      | some a0 =>
        -- `b` already has another partner
        have ha0 : a0 ≠ a := fun e => by
          have := (hinv a0 b).mpr hb
          rw [e, ha] at this; cases this
        have hstep : sameGo index rindex ((a, b) :: ps) = false := by simp [sameGo, ha, hb, ha0]
        rw [hstep]
        exact ⟨nofun, fun h => absurd ((h a0 b a b (Or.inl ((hinv a0 b).mpr hb)) (Or.inr hab)).mpr rfl) ha0⟩
      | none =>
        -- a new pair enters both maps
        have hstep : sameGo index rindex ((a, b) :: ps) = sameGo ((a, b) :: index) ((b, a) :: rindex) ps := by
          simp [sameGo, ha, hb]
        have hna : ∀ {x y}, index.lookup x = some y → x ≠ a := fun h e => by rw [e, ha] at h; cases h
        have hnb : ∀ {x y}, rindex.lookup y = some x → y ≠ b := fun h e => by rw [e, hb] at h; cases h
        have hinv' : ∀ x y, ((a, b) :: index).lookup x = some y ↔ ((b, a) :: rindex).lookup y = some x := by
          intro x y
          rw [lookup_cons_iff, lookup_cons_iff, hinv x y]
          exact ⟨fun h => h.elim (fun h => Or.inl ⟨h.2, h.1⟩) fun h => Or.inr ⟨hnb h.2, h.2⟩,
            fun h => h.elim (fun h => Or.inl ⟨h.2, h.1⟩) fun h => Or.inr ⟨hna ((hinv x y).mpr h.2), h.2⟩⟩
        rw [hstep, sameGo_spec ps _ _ hinv']
        apply PBij_congr
        intro x y
        rw [lookup_cons_iff, List.mem_cons, Prod.mk.injEq]
        exact ⟨fun h => h.elim (fun h => h.elim (fun e => Or.inr (Or.inl e)) fun h => Or.inl h.2) fun h => Or.inr (Or.inr h),
          fun h => h.elim (fun h => Or.inl (Or.inr ⟨hna h, h⟩)) fun h => h.elim (fun e => Or.inl (Or.inl e)) Or.inr⟩

end Mahotas.C13
