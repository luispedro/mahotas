/-
Helper lemmas for C01: the Python dispatch (`get_structuring_elem`) and the C++ dispatch
(`py_erode`/`py_dilate`: fast binary path or generic kernel).
-/
import Mahotas.Proofs.C01Loops
import Mahotas.Proofs.C01Tables
namespace Mahotas.C01
open Mahotas

/-- a loop that sets cell `i` of a zero array to 1 when `p i` holds tabulates the indicator of `p` -/
theorem fold_set_eq_map (n : Nat) (p : Nat → Prop) [DecidablePred p] :
    (List.range n).foldl (fun (bc : Array Int) i => if p i then bc.setIfInBounds i 1 else bc)
      (Array.replicate n 0) = ((List.range n).map fun i => if p i then (1 : Int) else 0).toArray := by
  have hf : (List.range n).foldl (fun (bc : Array Int) i => if p i then bc.setIfInBounds i 1 else bc)
      (Array.replicate n 0) =
      ((List.range n).filter fun i => decide (p i)).foldl (fun bc i => bc.setIfInBounds i 1)
        (Array.replicate n 0) := by
    rw [List.foldl_filter]; simp only [decide_eq_true_eq]
  rw [hf]
  apply array_eq_of_cells _ _ n ((fold_set1_size _ _).trans (by simp)) (by simp)
  intro j hj
  rw [fold_set1 _ _ j (by simpa using hj)]
  simp [Array.getD_eq_getD_getElem?, hj]

/-- the loop of `get_structuring_elem` builds the ℓ1 ball `crossElem` -/
theorem crossLoop_eq (d : Nat) (r : Int) : crossLoop d r = crossElem d r := by
  unfold crossLoop crossElem allPos
  simp only [List.map_map]
  exact fold_set_eq_map _ _

/-- the radius an integer argument `v` stands for on arrays of rank `d`: the translated connectivity count
    if `(d, v)` is a key of `translate_sizes`, otherwise `v` itself -/
def seRadius (d : Nat) (v : Int) : Int :=
  match translateLookup d v with
  | some r => (r : Int)
  | none => v

theorem seRadius_of_no_key (d : Nat) (v : Int)
    (h : ∀ t ∈ Generated.translateSizes, ¬ (t.1 = d ∧ (t.2.1 : Int) = v)) : seRadius d v = v := by
  unfold seRadius translateLookup
  rw [List.find?_eq_none.2 fun t ht => by rw [Bool.and_eq_true, beq_iff_eq, beq_iff_eq]; exact h t ht]
  rfl

/-- the radius, spelled out (the table is regenerated from `morph.py` on every run) -/
theorem seRadius_eq (d : Nat) (v : Int) :
    seRadius d v =
      if d = 2 ∧ v = 4 then 1 else if d = 2 ∧ v = 8 then 2 else if d = 3 ∧ v = 6 then 1 else v := by
  by_cases h1 : d = 2 ∧ v = 4
  · obtain ⟨rfl, rfl⟩ := h1; rfl
  by_cases h2 : d = 2 ∧ v = 8
  · obtain ⟨rfl, rfl⟩ := h2; rfl
  by_cases h3 : d = 3 ∧ v = 6
  · obtain ⟨rfl, rfl⟩ := h3; rfl
  rw [if_neg h1, if_neg h2, if_neg h3]
  refine seRadius_of_no_key d v fun t ht => ?_
  simp only [Generated.translateSizes, List.mem_cons, List.mem_nil_iff, or_false] at ht
  rcases ht with rfl | rfl | rfl
  · exact fun e => h1 ⟨e.1.symm, e.2.symm⟩
  · exact fun e => h2 ⟨e.1.symm, e.2.symm⟩
  · exact fun e => h3 ⟨e.1.symm, e.2.symm⟩

theorem crossOfInt_eq (d : Nat) (r : Int) : crossOfInt d r = (List.replicate d 3, crossElem d r) := by
  unfold crossOfInt
  split
  · next h =>
    simp only [Bool.and_eq_true, beq_iff_eq] at h
    obtain ⟨rfl, rfl⟩ := h
    decide +kernel
  · rw [crossLoop_eq]

theorem getSE_none (dt : DT) (d : Nat) :
    getStructuringElem dt d .none = .ok (List.replicate d 3, crossElem d 1) := by
  simp only [getStructuringElem, crossOfInt_eq]

theorem getSE_int (dt : DT) (d : Nat) (v : Int) :
    getStructuringElem dt d (.int v) = .ok (List.replicate d 3, crossElem d (seRadius d v)) := by
  cases h : translateLookup d v <;> simp only [getStructuringElem, seRadius, h, crossOfInt_eq]

/-- a `None`/integer argument: `get_structuring_elem` returns the cross of the translated radius, and both wrappers
    reach the C++ dispatch with it -/
theorem pyCall_cross (dt : DT) (fl : ArrFlags) (A : Img Int) (Bc : BcArg) (r : Int)
    (hBc : (Bc = .none ∧ r = 1) ∨ ∃ v, Bc = .int v ∧ r = seRadius A.shape.length v) :
    erodePy dt fl A Bc =
      .ok (erodeDispatch dt fl A (List.replicate A.shape.length 3) (crossElem A.shape.length r)) ∧
    dilatePy dt fl A Bc =
      .ok (dilateDispatch dt fl A (List.replicate A.shape.length 3) (crossElem A.shape.length r)) := by
  have hse : getStructuringElem dt A.shape.length Bc =
      .ok (List.replicate A.shape.length 3, crossElem A.shape.length r) := by
    rcases hBc with ⟨rfl, rfl⟩ | ⟨v, rfl, rfl⟩
    · exact getSE_none dt _
    · exact getSE_int dt _ v
  simp only [erodePy, dilatePy, hse, and_self]

theorem castTo_bool01 (x : Int) : castTo dtBool x = 0 ∨ castTo dtBool x = 1 := by
  unfold castTo
  by_cases h : x = 0 <;> simp [dtBool, h]

theorem castTo_id (dt : DT) (hdt : DTypeOK dt) (x : Int) (hx : dt.InRange x) : castTo dt x = x := by
  unfold castTo
  rcases hdt with wf | rfl
  · simp only [wf.notBool, Bool.false_eq_true, if_false]
    exact DT.wrap_in dt x hx
  · simp only [DT.InRange, dtBool] at hx
    have : x = 0 ∨ x = 1 := by omega
    rcases this with rfl | rfl <;> simp [dtBool]

theorem map_castTo_id (dt : DT) (hdt : DTypeOK dt) (bc : Array Int)
    (h : ∀ x ∈ bc.toList, dt.InRange x) : bc.map (castTo dt) = bc := by
  have : bc.map (castTo dt) = bc.map id := by
    apply Array.map_congr_left
    intro x hx
    exact castTo_id dt hdt x (h x (by simpa using hx))
  rw [this, Array.map_id]

theorem getD_map_castTo (dt : DT) (bc : Array Int) (i : Nat) (h0 : castTo dt 0 = 0) :
    (bc.map (castTo dt)).getD i 0 = castTo dt (bc.getD i 0) := by
  have h := arrayGetD_map (castTo dt) bc i 0
  rwa [h0] at h

/-- the flags never matter unless the image is a 2-D boolean one -/
theorem pathOf_generic (dt : DT) (d : Nat) (fl : ArrFlags) (h : dt.isBool = false ∨ d ≠ 2) :
    pathOf dt d fl = .generic := by
  unfold pathOf
  rcases h with h | h
  · simp [h]
  · simp [h]

theorem pathOf_fast (dt : DT) (d : Nat) (fl : ArrFlags) (h : pathOf dt d fl = .fast) :
    dt.isBool = true ∧ d = 2 ∧ fl.isCArray = true := by
  unfold pathOf at h
  split at h
  · next hc => simpa [Bool.and_eq_true, and_assoc] using hc
  · cases h

end Mahotas.C01
