/-
The executable fixed-point specification `regSpec` that the driver prints for `reg`
is tied to `Regional` (sound always; complete at the fixed point of the iteration, which `size` rounds
always reach), and corollaries of `C14_regional_eq_spec` for plateaus of global extrema
(wherever they lie, touching the border included).
-/
import Mahotas.Proofs.C14Reg
import Mahotas.Proofs.C14Iter
namespace Mahotas.C14
open Mahotas

section
variable {isMin : Bool} {A : Img Int} {nb : List (List Int)}

/-- what a round flags: what was flagged, and every pixel with a flagged neighbour of its own value -/
theorem flg_badStep (hn : SymNb A nb) (bad : Array Bool) (q : List Int) (hq : inside A.shape q = true) :
    flg A (badStep A nb bad) q = true ↔ flg A bad q = true ∨ ∃ k ∈ nb, inside A.shape (addPos q k) = true ∧
      A.getD (addPos q k) 0 = A.getD q 0 ∧ flg A bad (addPos q k) = true := by
  rw [badStep, flg_map_allPos A _ q hq, Bool.or_eq_true]
  simp only [Bool.and_assoc]
  rw [any_either hn q fun r => A.getD r 0 == A.getD q 0 && bad.getD (ravelI A.shape r) false]
  simp only [Bool.and_eq_true, beq_iff_eq]
  rfl

theorem flg_regBad0 (q : List Int) (hq : inside A.shape q = true) :
    flg A (regBad0 isMin A nb) q = !locSpecAt isMin A nb q :=
  flg_map_allPos A _ q hq

theorem badStep_size (bad : Array Bool) : (badStep A nb bad).size = shapeSize A.shape := by
  unfold badStep; exact size_map_allPos _ _

theorem size_regSpecBad : (regSpecBad isMin A nb).size = shapeSize A.shape :=
  iter_inv _ (·.size = shapeSize A.shape) (fun a _ => badStep_size a) _ _ (size_map_allPos _ _)

/-- the rounds only ever set flags -/
theorem badStep_getD (bad : Array Bool) (i : Nat) (hi : i < shapeSize A.shape)
    (h : bad.getD i false = true) : (badStep A nb bad).getD i false = true := by
  unfold badStep
  rw [getD_map_allPos A.shape _ _ false hi, C01.ravelI_unravelI A.shape i hi, h]; rfl

/-- soundness of one round: flags stay inside "the plateau has a strictly better neighbour" -/
theorem badStep_sound (hn : SymNb A nb) (bad : Array Bool)
    (h : ∀ q, inside A.shape q = true → flg A bad q = true → ¬ Regional isMin A nb q)
    (q : List Int) (hq : inside A.shape q = true) (hb : flg A (badStep A nb bad) q = true) :
    ¬ Regional isMin A nb q := by
  rcases (flg_badStep hn bad q hq).mp hb with hb | ⟨k, hk, hin, hv, hf⟩
  · exact h q hq hb
  · exact fun hreg => h _ hin hf (hreg.of_conn (PConn.tail q q _ (PConn.refl q) ⟨k, hk, rfl, hin, hv⟩))

theorem regBad0_sound (q : List Int) (hq : inside A.shape q = true)
    (hb : flg A (regBad0 isMin A nb) q = true) : ¬ Regional isMin A nb q := by
  rw [flg_regBad0 q hq] at hb
  intro hreg
  have := (locSpecAt_iff isMin A nb q).mpr (hreg q (PConn.refl q))
  rw [this] at hb; cases hb

/-- **soundness** of `regSpec`: a pixel it rejects is not regional (symmetric neighbourhoods) -/
theorem regSpecBad_sound (hn : SymNb A nb) (q : List Int) (hq : inside A.shape q = true)
    (hb : flg A (regSpecBad isMin A nb) q = true) : ¬ Regional isMin A nb q :=
  iter_inv _ (fun bad => ∀ q, inside A.shape q = true → flg A bad q = true → ¬ Regional isMin A nb q)
    (badStep_sound hn) _ _ regBad0_sound q hq hb

/-- `size` rounds reach the fixed point: the rounds only ever set flags -/
theorem regSpecBad_fixed : badStep A nb (regSpecBad isMin A nb) = regSpecBad isMin A nb :=
  iter_mono_fixed (badStep A nb) (shapeSize A.shape) badStep_size badStep_getD _ (size_map_allPos _ _)

/-- **completeness** of `regSpec`: the iteration has reached its fixed point -/
theorem regSpecBad_complete (hn : SymNb A nb) (q : List Int) (hq : inside A.shape q = true)
    (hreg : ¬ Regional isMin A nb q) :
    flg A (regSpecBad isMin A nb) q = true := by
  -- the fixed point is closed under stepping back along a plateau
  have hclosed : ∀ x y, inside A.shape x = true → PStep A nb x y →
      flg A (regSpecBad isMin A nb) y = true → flg A (regSpecBad isMin A nb) x = true := by
    intro x y hx hs hy
    obtain ⟨k, hk, rfl, hin, hv⟩ := hs
    rw [← regSpecBad_fixed]
    exact (flg_badStep hn _ x hx).mpr (Or.inr ⟨k, hk, hin, hv, hy⟩)
  have hback : ∀ r, PConn A nb q r → flg A (regSpecBad isMin A nb) r = true →
      flg A (regSpecBad isMin A nb) q = true := by
    intro r hr
    induction hr with
    | refl => exact id
    | tail x y hqx hs ih => exact fun hy => ih (hclosed x y (PConn.in_image hq hqx) hs hy)
  unfold Regional at hreg
  obtain ⟨r, hr⟩ := Classical.not_forall.mp hreg
  obtain ⟨hc, hl⟩ := Classical.not_imp.mp hr
  have hrin := PConn.in_image hq hc
  refine hback r hc ?_
  refine iter_inv _ (flg A · r = true) (fun a ha => badStep_getD a _ (C01.ravelI_lt _ _ hrin) ha) _ _ ?_
  rw [flg_regBad0 r hrin]
  have : locSpecAt isMin A nb r ≠ true := fun h => hl ((locSpecAt_iff isMin A nb r).mp h)
  simpa using this

theorem flg_regSpec (q : List Int) (hq : inside A.shape q = true) :
    (regSpec isMin A nb).getD (ravelI A.shape q) false = !flg A (regSpecBad isMin A nb) q :=
  flg_map_not A _ size_regSpecBad q hq

theorem regSpec_iff (hn : SymNb A nb) (q : List Int) (hq : inside A.shape q = true) :
    (regSpec isMin A nb).getD (ravelI A.shape q) false = true ↔ Regional isMin A nb q := by
  have hbad : flg A (regSpecBad isMin A nb) q = true ↔ ¬ Regional isMin A nb q :=
    ⟨regSpecBad_sound hn q hq, regSpecBad_complete hn q hq⟩
  rw [flg_regSpec q hq, Bool.not_eq_true', ← Bool.not_eq_true, hbad, Classical.not_not]

/-! ### plateaus of global extrema (anywhere, in particular touching the border) -/

theorem PConn.value {q r : List Int} (h : PConn A nb q r) : A.getD r 0 = A.getD q 0 := by
  induction h with
  | refl => rfl
  | tail x y _ hs ih => obtain ⟨_, _, _, _, hv⟩ := hs; rw [hv, ih]

/-- a pixel that no pixel of the image beats belongs to a regional extremum -/
theorem regional_of_global (q : List Int)
    (hg : ∀ r, inside A.shape r = true → beats isMin (A.getD r 0) (A.getD q 0) = false) :
    Regional isMin A nb q := by
  intro r hr k _ hin
  rw [hr.value]
  exact hg _ hin

end

theorem regSpecFixed_always (isMin : Bool) {A : Img Int} {nb : List (List Int)} :
    regSpecFixed isMin A nb = true := by
  unfold regSpecFixed
  rw [regSpecBad_fixed]
  exact beq_self_eq_true _

end Mahotas.C14
