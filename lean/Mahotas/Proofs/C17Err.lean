/-
C17 — reconstruction error for coefficient lists that satisfy the quadrature-mirror identities only
approximately.  The residuals `resid cs s = Σ_k c_k c_{k+2s} − 2·δ_s` enter the reconstruction linearly:
`iwaveletRow (waveletRow f) x = f x + errRow cs N f x` with
`errRow = ½ Σ_{j<n−1} resid(|j − (n/2 − 1)|) · f[x − (n−2) + 2j]` (zero-extended) — this *row identity* is proved
for every even filter length in `Proofs/C17General.lean`; this file has the definitions and what follows from the identity
taken as a hypothesis (`RowIdentity`): the bound of one row, the 2-D round trip and its bound.
-/
import Mahotas.Proofs.C17
import Mathlib.Algebra.Order.Field.Basic
import Mathlib.Algebra.Order.AbsoluteValue.Basic
import Mathlib.Tactic.Positivity
namespace Mahotas.C17
open Mahotas

section Defs
variable {K : Type} [Field K]

/-- the zero-extended row -/
def ext (N : Nat) (f : Nat → K) (p : Nat) : K := access N f ((p : Nat) : Int)

theorem ext_eq (N : Nat) (f : Nat → K) (p : Nat) : ext N f p = if p < N then f p else 0 := by
  unfold ext; rw [access_natCast]

/-- the quadrature-mirror (double-shift orthogonality) identities, exactly: `Σ_k c_k c_{k+2s} = 2·δ_s` -/
def qmfExact (cs : List K) : Prop :=
  ∀ s, s < cs.length / 2 →
    ((List.range (cs.length - 2 * s)).map fun k => cs.getD k 0 * cs.getD (k + 2 * s) 0).sum = if s = 0 then 2 else 0

/-- the lengths of the Daubechies filters `D4 … D20` -/
def prLengths : List Nat := [4, 6, 8, 10, 12, 14, 16, 18, 20]

/-- the filter lengths of `D2 … D20` -/
def errLengths : List Nat := [2, 4, 6, 8, 10, 12, 14, 16, 18, 20]

theorem even_of_mem_errLengths {n : Nat} (h : n ∈ errLengths) : n % 2 = 0 ∧ 2 ≤ n := by
  simp only [errLengths, List.mem_cons, List.not_mem_nil, or_false] at h
  omega

theorem even_of_mem_prLengths {n : Nat} (h : n ∈ prLengths) : n % 2 = 0 ∧ 2 ≤ n := by
  simp only [prLengths, List.mem_cons, List.not_mem_nil, or_false] at h
  omega

/-- `Σ_k c_k · c_{k+2s}` (the left-hand side of the quadrature-mirror identity of lag `2s`) -/
def qdot (cs : List K) (s : Nat) : K :=
  ((List.range (cs.length - 2 * s)).map fun k => cs.getD k 0 * cs.getD (k + 2 * s) 0).sum

/-- the residual of the identity of lag `2s`: `Σ_k c_k c_{k+2s} − 2·δ_s` -/
def resid (cs : List K) (s : Nat) : K := qdot cs s - (if s = 0 then 2 else 0)

/-- `|j − (p − 1)|` in natural-number arithmetic (one of the two truncated differences is 0) -/
def lag (p j : Nat) : Nat := (j + 1 - p) + (p - 1 - j)

theorem lag_add (q s : Nat) : lag (q + 1) (q + s) = s := by
  unfold lag; omega

theorem lag_sub {q j : Nat} (h : j < q) : lag (q + 1) (q - 1 - j) = j + 1 := by
  unfold lag; omega

theorem lag_eq_zero_iff (q j : Nat) : lag (q + 1) j = 0 ↔ j = q := by
  unfold lag; omega

theorem lag_lt (p j : Nat) (hj : j + 1 < 2 * p) : lag p j < p := by
  unfold lag; omega

/-- the error term of one row at position `x ≥ n − 2`:
    `½ Σ_{j<n−1} resid(|j − (n/2 − 1)|) · ext f (x − (n−2) + 2j)` -/
def errRow (cs : List K) (N : Nat) (f : Nat → K) (x : Nat) : K :=
  ((List.range (cs.length - 1)).map fun j =>
    resid cs (lag (cs.length / 2) j) * ext N f (x - (cs.length - 2) + 2 * j)).sum / 2

/-- the *row identity*: reconstruction of a row up to the explicit error term -/
def RowIdentity (cs : List K) : Prop :=
  ∀ (N : Nat), N % 2 = 0 → ∀ (f : Nat → K) (x : Nat), cs.length ≤ x + 2 → x < N →
    iwaveletRow cs N (waveletRow cs N f) x = f x + errRow cs N f x

theorem qmfExact_iff_resid (cs : List K) : qmfExact cs ↔ ∀ s, s < cs.length / 2 → resid cs s = 0 := by
  unfold qmfExact resid qdot
  constructor
  · intro h s hs; rw [h s hs, sub_self]
  · intro h s hs; exact sub_eq_zero.mp (h s hs)

/-! ### a linear row kernel commutes with the error term taken along the other axis -/

theorem linear_listsum (T : Nat → (Nat → K) → Nat → K) (hT : RowLinear T)
    (N x : Nat) (l : List Nat) (a : Nat → K) (u : Nat → Nat → K) :
    T N (fun i => (l.map fun j => a j * u j i).sum) x = (l.map fun j => a j * T N (u j) x).sum := by
  induction l with
  | nil => simpa using linear_zero T hT N x
  | cons j l ih =>
    have e : (fun i => ((j :: l).map fun j => a j * u j i).sum)
        = fun i => a j * u j i + 1 * (l.map fun j => a j * u j i).sum := by
      funext i; simp
    rw [e, hT, ih]; simp

theorem linear_ext (T : Nat → (Nat → K) → Nat → K) (hT : RowLinear T)
    (N x N0 q : Nat) (G : Nat → Nat → K) :
    T N (fun i => ext N0 (fun k => G k i) q) x = ext N0 (fun k => T N (G k) x) q := by
  simp only [ext_eq]
  by_cases h : q < N0
  · simp only [h, if_true]
  · simp only [h, if_false]; exact linear_zero T hT N x

theorem linear_errRow (T : Nat → (Nat → K) → Nat → K) (hT : RowLinear T)
    (cs : List K) (N x N0 y : Nat) (G : Nat → Nat → K) :
    T N (fun i => errRow cs N0 (fun k => G k i) y) x = errRow cs N0 (fun k => T N (G k) x) y := by
  unfold errRow
  rw [scale_of_linear T hT N 2
    (fun i => ((List.range (cs.length - 1)).map fun j =>
      resid cs (lag (cs.length / 2) j) * ext N0 (fun k => G k i) (y - (cs.length - 2) + 2 * j)).sum) x]
  rw [linear_listsum T hT N x _ (fun j => resid cs (lag (cs.length / 2) j))
    (fun j i => ext N0 (fun k => G k i) (y - (cs.length - 2) + 2 * j))]
  congr 2
  apply List.map_congr_left
  intro j _
  rw [linear_ext T hT]

/-- the 2-D round trip, exactly: the error is the column error term, plus the row error term of the
    (column-corrected) row -/
theorem round_trip_2d (cs : List K) (hrow : RowIdentity cs) (N0 N1 : Nat) (h0 : N0 % 2 = 0) (h1 : N1 % 2 = 0)
    (f : Im K) (y x : Nat) (hy : cs.length ≤ y + 2) (hyN : y < N0) (hx : cs.length ≤ x + 2) (hxN : x < N1) :
    idaubechies2 cs N0 N1 (daubechies2 cs N0 N1 f) y x
      = f y x + errRow cs N0 (fun k => f k x) y
        + errRow cs N1 (fun i => f y i + errRow cs N0 (fun k => f k i) y) x := by
  show iwaveletRow cs N1 (fun x' => iwaveletRow cs N0
      (fun k => waveletRow cs N0 (fun k' => waveletRow cs N1 (f k') x') k) y) x = _
  have e : (fun x' => iwaveletRow cs N0
      (fun k => waveletRow cs N0 (fun k' => waveletRow cs N1 (f k') x') k) y)
      = waveletRow cs N1 (fun i => f y i + errRow cs N0 (fun k => f k i) y) := by
    funext x'
    rw [hrow N0 h0 (fun k' => waveletRow cs N1 (f k') x') y hy hyN]
    have e1 : (fun i => f y i + errRow cs N0 (fun k => f k i) y)
        = fun i => 1 * f y i + 1 * errRow cs N0 (fun k => f k i) y := by funext i; ring
    rw [e1, waveletRow_linear, linear_errRow (waveletRow cs) (waveletRow_linear cs)]
    ring
  rw [e, hrow N1 h1 _ x hx hxN]

end Defs

section Bounds
variable {K : Type} [Field K] [LinearOrder K] [IsStrictOrderedRing K]

/-- the constant of one row: `½ Σ_{j<n−1} |resid(|j − (n/2 − 1)|)|` -/
def errConst (cs : List K) : K :=
  ((List.range (cs.length - 1)).map fun j => |resid cs (lag (cs.length / 2) j)|).sum / 2

theorem abs_access_le (N : Nat) (f : Nat → K) (M : K) (hM : 0 ≤ M) (hf : ∀ p, p < N → |f p| ≤ M) (p : Int) :
    |access N f p| ≤ M := by
  unfold access
  split
  · rename_i h
    exact hf _ (by omega)
  · rw [zero_eq, abs_zero]; exact hM

theorem abs_listsum_le (l : List Nat) (a b : Nat → K) (M : K) (hb : ∀ j, |b j| ≤ M) :
    |(l.map fun j => a j * b j).sum| ≤ (l.map fun j => |a j|).sum * M := by
  induction l with
  | nil => simp
  | cons j l ih =>
    simp only [List.map_cons, List.sum_cons]
    calc |a j * b j + (l.map fun j => a j * b j).sum|
        ≤ |a j * b j| + |(l.map fun j => a j * b j).sum| := abs_add_le _ _
      _ ≤ |a j| * M + (l.map fun j => |a j|).sum * M := by
          apply add_le_add _ ih
          rw [abs_mul]
          exact mul_le_mul_of_nonneg_left (hb j) (abs_nonneg _)
      _ = (|a j| + (l.map fun j => |a j|).sum) * M := by ring

theorem errConst_nonneg (cs : List K) : 0 ≤ errConst cs := by
  unfold errConst
  apply div_nonneg _ (by norm_num)
  apply List.sum_nonneg
  intro v hv
  simp only [List.mem_map] at hv
  obtain ⟨j, _, rfl⟩ := hv
  exact abs_nonneg _

theorem abs_errRow_le (cs : List K) (N : Nat) (f : Nat → K) (M : K) (hM : 0 ≤ M)
    (hf : ∀ p, p < N → |f p| ≤ M) (x : Nat) : |errRow cs N f x| ≤ errConst cs * M := by
  unfold errRow errConst
  rw [abs_div, abs_two, div_mul_eq_mul_div]
  apply div_le_div_of_nonneg_right _ (by norm_num)
  exact abs_listsum_le _ _ (fun j => ext N f (x - (cs.length - 2) + 2 * j)) M
    (fun j => abs_access_le N f M hM hf _)

theorem errConst_le (cs : List K) (heven : cs.length % 2 = 0) (eps : K)
    (h : ∀ s, s < cs.length / 2 → |resid cs s| ≤ eps) :
    errConst cs ≤ ((cs.length - 1 : Nat) : K) / 2 * eps := by
  unfold errConst
  rw [div_mul_eq_mul_div]
  refine div_le_div_of_nonneg_right ?_ zero_le_two
  have := List.sum_le_card_nsmul ((List.range (cs.length - 1)).map fun j => |resid cs (lag (cs.length / 2) j)|) eps
    fun v hv => by
      obtain ⟨j, hj, rfl⟩ := List.mem_map.mp hv
      have hj' := List.mem_range.mp hj
      exact h _ (lag_lt _ _ (by omega))
  rwa [List.length_map, List.length_range, nsmul_eq_mul] at this

/-- `2d + d²` is monotone for `d ≥ 0`: a bound on the row constant carries over to the 2-D constants -/
theorem two_mul_add_sq_le {d D : K} (d0 : 0 ≤ d) (h : d ≤ D) : 2 * d + d ^ 2 ≤ 2 * D + D ^ 2 :=
  add_le_add (mul_le_mul_of_nonneg_left h zero_le_two) (pow_le_pow_left₀ d0 h 2)

/-- **2-D bound.** With `d = errConst cs`: `|idaubechies2 (daubechies2 f) y x − f y x| ≤ (2d + d²)·M` at the
    positions `y, x ≥ n − 2`, where `M` bounds `|f|` on the image -/
theorem abs_round_trip_2d_le (cs : List K) (hrow : RowIdentity cs) (N0 N1 : Nat) (h0 : N0 % 2 = 0)
    (h1 : N1 % 2 = 0) (f : Im K) (M : K) (hM : 0 ≤ M) (hf : ∀ y x, y < N0 → x < N1 → |f y x| ≤ M)
    (y x : Nat) (hy : cs.length ≤ y + 2) (hyN : y < N0) (hx : cs.length ≤ x + 2) (hxN : x < N1) :
    |idaubechies2 cs N0 N1 (daubechies2 cs N0 N1 f) y x - f y x|
      ≤ (2 * errConst cs + errConst cs ^ 2) * M := by
  rw [round_trip_2d cs hrow N0 N1 h0 h1 f y x hy hyN hx hxN, add_assoc, add_sub_cancel_left]
  have d0 := errConst_nonneg cs
  have hF : ∀ i, i < N1 → |errRow cs N0 (fun k => f k i) y| ≤ errConst cs * M := fun i hi =>
    abs_errRow_le cs N0 (fun k => f k i) M hM (fun k hk => hf k i hk hi) y
  -- the row handed to the second pass is bounded by `(1 + d)·M`
  have hE := abs_errRow_le cs N1 (fun i => f y i + errRow cs N0 (fun k => f k i) y)
    ((1 + errConst cs) * M) (by positivity) (fun i hi =>
      (abs_add_le _ _).trans ((add_le_add (hf y i hyN hi) (hF i hi)).trans_eq (by ring))) x
  exact (abs_add_le _ _).trans ((add_le_add (hF x hxN) hE).trans_eq (by ring))

end Bounds

end Mahotas.C17
