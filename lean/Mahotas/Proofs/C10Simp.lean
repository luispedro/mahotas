/-
C10 — the simp set `acc_forall` (a module of its own: an attribute cannot be used in the module that declares it).
-/
import Lean.Meta.Tactic.Simp.RegisterCommand

/-- Turns `∀ a ∈ l, P a`, for an access list `l` built with `++`, `::`, `flatMap` and `map` over the counting ranges of the
index models, into a statement of the same shape as `l`: `l₁ ++ l₂` gives a conjunction, `[a, b]` gives `P a ∧ P b`,
`flatMap` and `map` over `for (i = 0; i < n; ++i)` give `∀ i, 0 ≤ i ∧ i < n → …`. What is left is arithmetic in the loop
variables. The lemmas are attached in `C10Base` and, for the range of each model file, beside its membership lemma. -/
register_simp_attr acc_forall
