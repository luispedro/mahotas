/-
C06 — the C cast `static_cast<T>(double)` of the accumulator: truncation toward zero on its domain.
Instantiates the polymorphic `truncG` / `castIntG` of `Model/C06.lean` (run by the driver at `Float` with
`Float.floor` / `Float.ceil`) over an ordered field with `⌊·⌋` / `⌈·⌉`.
-/
import Mahotas.Model.C06
import Mathlib.Algebra.Order.Floor.Ring

namespace Mahotas.C06
open Mahotas

section
variable {α : Type} [Field α] [LinearOrder α] [IsStrictOrderedRing α] [FloorRing α]

/-- `floor` / `ceil` as maps `α → α` -/
def floorA (x : α) : α := ((⌊x⌋ : ℤ) : α)
def ceilA (x : α) : α := ((⌈x⌉ : ℤ) : α)

/-- the integer `trunc(x)` -/
def truncZ (x : α) : ℤ := if x < 0 then ⌈x⌉ else ⌊x⌋

omit [IsStrictOrderedRing α] in
theorem truncG_eq (x : α) : truncG (floorA (α := α)) ceilA 0 x = ((truncZ x : ℤ) : α) := by
  unfold truncG truncZ floorA ceilA
  split <;> rfl

theorem truncZ_of_int (n : ℤ) : truncZ ((n : ℤ) : α) = n := by
  unfold truncZ
  split <;> simp

omit [IsStrictOrderedRing α] in
theorem truncZ_nonneg (x : α) (h : 0 ≤ x) : 0 ≤ truncZ x ∧ ((truncZ x : ℤ) : α) ≤ x ∧ x < (truncZ x : α) + 1 := by
  unfold truncZ
  rw [if_neg (not_lt.2 h)]
  exact ⟨Int.floor_nonneg.2 h, Int.floor_le x, Int.lt_floor_add_one x⟩

theorem truncZ_neg (x : α) (h : x < 0) : truncZ x ≤ 0 ∧ x ≤ ((truncZ x : ℤ) : α) ∧ (truncZ x : α) - 1 < x := by
  unfold truncZ
  rw [if_pos h]
  exact ⟨Int.ceil_le.2 (by rw [Int.cast_zero]; exact h.le), Int.le_ceil x,
    sub_lt_iff_lt_add.2 (Int.ceil_lt_add_one x)⟩

theorem castIntG_eq (lo hi1 : ℤ) (x : α) :
    castIntG (floorA (α := α)) ceilA 0 (lo : α) (hi1 : α) x =
      if lo ≤ truncZ x ∧ truncZ x < hi1 then some ((truncZ x : ℤ) : α) else none := by
  unfold castIntG
  simp only [truncG_eq, Int.cast_le, Int.cast_lt]

end

/-- at `Float`: for the eight integer dtype names `castTo` IS the truncation `truncG Float.floor Float.ceil 0` -/
theorem castTo_int (dt : String) (x : Float) (h : (dtBounds dt).isSome = true) :
    castTo dt x = truncG Float.floor Float.ceil 0 x := by
  unfold castTo
  split
  · exact absurd h (by decide)
  · exact absurd h (by decide)
  · exact absurd h (by decide)
  · rfl

theorem castDefined_some (dt : String) (x lo hi1 : Float) (hb : dtBounds dt = some (lo, hi1))
    (hd : castDefined dt x = true) :
    castIntG Float.floor Float.ceil 0 lo hi1 x = some (castTo dt x) := by
  have hc := castTo_int dt x (by rw [hb]; rfl)
  unfold castDefined at hd
  rw [hb] at hd
  simp only [] at hd
  unfold castIntG at hd ⊢
  simp only [] at hd ⊢
  split
  · rw [hc]
  · rename_i hn; rw [if_neg hn] at hd; simp at hd

end Mahotas.C06
