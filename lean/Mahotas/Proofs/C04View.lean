/-
C04 — views: `logicalImg`, the logical content of a view as an image (`C08.toImg`, by `rfl`), and the read lemma
`flatImg_eq` of `Proofs/C08.lean` stated with it: a kernel that reads an array only through `at_flat(i)`, `i < N`, sees
the logical array (for the array's own iterator that is `C08.filtVals_eq`).
-/
import Mahotas.Proofs.C08

namespace Mahotas.C04
open Mahotas Mahotas.C08

/-- the logical content of a view as an image: element `k` is the memory cell at the address of the `k`-th position in C order -/
def logicalImg {α : Type} (mem : Int → α) (v : View) : Img α := { shape := v.shape, data := (logical mem v).toArray }

theorem flatImg_eq_logicalImg {α : Type} (mem : Int → α) (v : View) (wf : v.WF) : flatImg mem v = logicalImg mem v :=
  flatImg_eq mem v wf

end Mahotas.C04
