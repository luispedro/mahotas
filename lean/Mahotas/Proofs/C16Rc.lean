/-
C16 — Riddler–Calvard (`rc`): the exact (rational) instance of the transliterated loop returns the
midpoint of the two class means at the FIRST split `t ∈ [lo, hi)` whose midpoint no longer
exceeds `t + 1` (`lo`/`hi` the smallest/largest occurring level), and the level itself when only
one level occurs.
-/
import Mahotas.Proofs.C16Levels
namespace Mahotas.C16
open Mahotas

/-- midpoint of the two class means for the split `{≤ t} | {> t}` -/
def rcMid (hist : List Nat) (t : Nat) : Rat :=
  midpoint (nBOf hist t) (nOOf hist t) (sBOf hist t) (sBOf hist (hist.length - 1) - sBOf hist t)

theorem rcMid_eq (hist : List Nat) (t : Nat) : rcMid hist t = (muBOf hist t + muOOf hist t) / 2 := rfl

theorem rcMid_bounds (hist : List Nat) (hne : ∃ v ∈ hist, v ≠ 0) {t : Nat} (h1 : loOf hist ≤ t)
    (h2 : t < lastNonzero hist) :
    ((loOf hist : ℚ) + (t : ℚ) + 1) / 2 ≤ rcMid hist t ∧
      rcMid hist t ≤ ((t : ℚ) + (lastNonzero hist : ℚ)) / 2 := by
  have ht := h2.trans (hi_lt_length hist hne)
  obtain ⟨hB, hO⟩ := (occupied_iff hist hne ht).2 ⟨h1, h2⟩
  obtain ⟨q1, q2, q3, q4⟩ := class_means hist hne ht hB hO
  rw [rcMid_eq]
  constructor <;> linarith

/-- `rcum` of `rcGen`: `Σ_{j ≥ i} hist[j]` -/
def rcumOf (hist : List Nat) (i : Nat) : Nat :=
  nBOf hist (hist.length - 1) - (if i = 0 then 0 else nBOf hist (i - 1))
/-- `rfm` of `rcGen`: `Σ_{j ≥ i} j·hist[j]` -/
def rfmOf (hist : List Nat) (i : Nat) : Nat :=
  sBOf hist (hist.length - 1) - (if i = 0 then 0 else sBOf hist (i - 1))

/-- `rcGen` with the quantities named -/
theorem rcGen_eq {α : Type} [Add α] [Sub α] [Mul α] [Div α] [LT α] [DecidableLT α]
    (cast : Nat → α) (hist : List Nat) : rcGen cast hist =
    rcLoop cast (nBOf hist) (rcumOf hist) (sBOf hist) (rfmOf hist) (lastNonzero hist)
      (List.range hist.length) (cast (lastNonzero hist)) := rfl

theorem rcumOf_succ (hist : List Nat) (t : Nat) : rcumOf hist (t + 1) = nOOf hist t := by
  simp [rcumOf, nOOf]

theorem rfmOf_succ (hist : List Nat) (t : Nat) : rfmOf hist (t + 1) = sOOf hist t := by
  simp [rfmOf, sOOf]

section loop
variable (cum rcum fm rfm : Nat → Nat) (maxt t : Nat) (rest : List Nat) (res : Rat)

theorem rcLoop_nil : rcLoop ratCast cum rcum fm rfm maxt [] res = res := by
  simp only [rcLoop]

theorem rcLoop_cons :
    rcLoop ratCast cum rcum fm rfm maxt (t :: rest) res =
      if t < maxt ∧ (t : ℚ) < res then
        rcLoop ratCast cum rcum fm rfm maxt rest
          (if cum t ≠ 0 ∧ rcum (t + 1) ≠ 0 then
            ((fm t : ℚ) / (cum t : ℚ) + (rfm (t + 1) : ℚ) / (rcum (t + 1) : ℚ)) / ((2 : ℕ) : ℚ)
          else res)
      else res := by
  simp only [rcLoop, ratCast]
  rfl

end loop

/-- the stopping rule on midpoints `mid t`: a single level gives that level; otherwise `mid ts` at the
    first split `ts ∈ [lo, hi)` with `mid ts ≤ ts + 1`, or at `ts = hi − 1` (the guard `t < maxt`) -/
def RcRule (mid : Nat → ℚ) (hist : List Nat) (r : ℚ) : Prop :=
  (loOf hist = lastNonzero hist → r = (lastNonzero hist : ℚ)) ∧
  (loOf hist < lastNonzero hist → ∃ ts, loOf hist ≤ ts ∧ ts < lastNonzero hist ∧
    r = mid ts ∧ (mid ts ≤ (ts : ℚ) + 1 ∨ ts + 1 = lastNonzero hist) ∧
    ∀ t, loOf hist ≤ t → t < ts → (t : ℚ) + 1 < mid t)

/-- **the loop of `rc` in any arithmetic follows the stopping rule.**  `val` reads an element of the
    arithmetic as a rational; used of the arithmetic: the guard `cast t < res` decides `t < val res`,
    the initial `cast hi` reads as `hi`, and the loop body at a proper split `t` yields a value read as
    `mid t`.  Invariant of the loop from level `t` on: up to the first occupied level `res` is still the
    initial `hi`; after it `res` is the midpoint of the level before, and all earlier midpoints exceeded
    their `t + 1`. -/
theorem rcLoop_rule {α : Type} [Add α] [Sub α] [Mul α] [Div α] [LT α] [DecidableLT α]
    (cast : Nat → α) (val : α → ℚ) (mid : Nat → ℚ) (hist : List Nat) (hne : ∃ v ∈ hist, v ≠ 0)
    (hlt : ∀ t (res : α), t < lastNonzero hist → (cast t < res ↔ (t : ℚ) < val res))
    (hinit : val (cast (lastNonzero hist)) = (lastNonzero hist : ℚ))
    (hbody : ∀ t, t < hist.length → nBOf hist t ≠ 0 → nOOf hist t ≠ 0 →
      val ((cast (sBOf hist t) / cast (nBOf hist t) + cast (sOOf hist t) / cast (nOOf hist t)) / cast 2) = mid t) :
    RcRule mid hist (val (rcGen cast hist)) := by
  suffices ∀ (k t : Nat) (res : α), t + k = hist.length →
      ((t ≤ loOf hist ∧ val res = (lastNonzero hist : ℚ)) ∨
        (loOf hist < t ∧ t ≤ lastNonzero hist ∧ val res = mid (t - 1) ∧
          ∀ s, loOf hist ≤ s → s + 1 < t → (s : ℚ) + 1 < mid s)) →
      RcRule mid hist (val (rcLoop cast (nBOf hist) (rcumOf hist) (sBOf hist) (rfmOf hist)
        (lastNonzero hist) (List.range' t k) res)) by
    rw [rcGen_eq, List.range_eq_range']
    exact this _ 0 _ (Nat.zero_add _) (Or.inl ⟨Nat.zero_le _, hinit⟩)
  have hlh := lo_le_hi hist hne
  have hhn := hi_lt_length hist hne
  -- one turn of the loop, the guard read through `val`
  have hstop : ∀ t rest (res : α), ¬ (t < lastNonzero hist ∧ (t : ℚ) < val res) →
      rcLoop cast (nBOf hist) (rcumOf hist) (sBOf hist) (rfmOf hist) (lastNonzero hist)
        (t :: rest) res = res := fun t rest res h => by
    rw [rcLoop, if_neg (fun hc => h ⟨hc.1, (hlt t res hc.1).1 hc.2⟩)]
  have hgo : ∀ t rest (res : α), t < lastNonzero hist → (t : ℚ) < val res →
      ∃ res', rcLoop cast (nBOf hist) (rcumOf hist) (sBOf hist) (rfmOf hist) (lastNonzero hist)
          (t :: rest) res =
        rcLoop cast (nBOf hist) (rcumOf hist) (sBOf hist) (rfmOf hist) (lastNonzero hist) rest res' ∧
        (nBOf hist t = 0 → res' = res) ∧ (loOf hist ≤ t → val res' = mid t) := by
    intro t rest res h1 h2
    rw [rcLoop, if_pos ⟨h1, (hlt t res h1).2 h2⟩]
    refine ⟨_, rfl, fun h0 => if_neg (fun h => h.1 h0), fun hlo => ?_⟩
    obtain ⟨hB, hO⟩ := (occupied_iff hist hne (by omega)).2 ⟨hlo, h1⟩
    rw [rcumOf_succ, rfmOf_succ, if_pos ⟨hB, hO⟩]
    exact hbody t (by omega) hB hO
  intro k
  induction k with
  | zero =>
    intro t res htk hinv
    exfalso
    rcases hinv with ⟨h, _⟩ | ⟨_, h, _⟩ <;> omega
  | succ k ih =>
    intro t res htk hinv
    have htn : t < hist.length := by omega
    rw [List.range'_succ]
    rcases hinv with ⟨htlo, hres⟩ | ⟨hlot, hthi, hres, hprev⟩
    · by_cases hsingle : t = lastNonzero hist
      · -- a single level
        rw [hstop t _ res (fun h => by omega)]
        exact ⟨fun _ => hres, fun h => by omega⟩
      · have c1 : t < lastNonzero hist := by omega
        obtain ⟨res', e, h0, h1⟩ := hgo t (List.range' (t + 1) k) res c1
          (by rw [hres]; exact_mod_cast c1)
        rw [e]
        by_cases hlt' : t < loOf hist
        · -- below the first occupied level: nothing changes
          rw [h0 (nB_eq_zero hist htn (fun i hi => (loOf_spec hist hne).2 i (by omega)))]
          exact ih (t + 1) _ (by omega) (Or.inl ⟨by omega, hres⟩)
        · refine ih (t + 1) _ (by omega) (Or.inr ⟨by omega, by omega, ?_, fun s h1 h2 => by omega⟩)
          rw [Nat.add_sub_cancel]
          exact h1 (by omega)
    · obtain ⟨u, rfl⟩ : ∃ u, t = u + 1 := ⟨t - 1, by omega⟩
      rw [Nat.add_sub_cancel] at hres
      have hcast : ((u + 1 : ℕ) : ℚ) = (u : ℚ) + 1 := Nat.cast_succ u
      by_cases hc : u + 1 < lastNonzero hist ∧ ((u + 1 : ℕ) : ℚ) < val res
      · -- the midpoint still exceeds `t`: go on
        obtain ⟨res', e, _, h1⟩ := hgo (u + 1) (List.range' (u + 1 + 1) k) res hc.1 hc.2
        rw [e]
        refine ih (u + 1 + 1) _ (by omega) (Or.inr ⟨by omega, by omega, ?_, fun s h1 h2 => ?_⟩)
        · rw [Nat.add_sub_cancel]
          exact h1 (by omega)
        · by_cases e : s = u
          · rw [e, ← hcast, ← hres]; exact hc.2
          · exact hprev s h1 (by omega)
      · -- stop: `ts = u`
        rw [hstop _ _ res hc]
        refine ⟨fun h => by omega, fun _ => ⟨u, by omega, by omega, hres, ?_, fun s h1 h2 =>
          hprev s h1 (by omega)⟩⟩
        by_cases h1 : u + 1 < lastNonzero hist
        · rw [← hres, ← hcast]
          exact Or.inl (not_lt.1 fun h => hc ⟨h1, h⟩)
        · exact Or.inr (by omega)

/-- the statement: a single level gives that level; otherwise the midpoint at the first split
    `ts ∈ [lo, hi)` whose midpoint does not exceed `ts + 1` -/
def RcResult (hist : List Nat) (r : ℚ) : Prop :=
  (loOf hist = lastNonzero hist → r = (lastNonzero hist : ℚ)) ∧
  (loOf hist < lastNonzero hist → ∃ ts, loOf hist ≤ ts ∧ ts < lastNonzero hist ∧
    r = rcMid hist ts ∧ rcMid hist ts ≤ (ts : ℚ) + 1 ∧
    ∀ t, loOf hist ≤ t → t < ts → (t : ℚ) + 1 < rcMid hist t)

/-- **Riddler–Calvard at the rationals follows the stopping rule of the statement**: at `ts = hi − 1`
    the exact midpoint is at most `(ts + hi) / 2 < ts + 1` anyway. -/
theorem rcGen_spec (hist : List Nat) (hne : ∃ v ∈ hist, v ≠ 0) :
    RcResult hist (rcGen ratCast hist) := by
  have h : RcRule (rcMid hist) hist (rcGen ratCast hist) :=
    rcLoop_rule ratCast id (rcMid hist) hist hne (fun _ _ _ => Iff.rfl) rfl
      fun _ _ _ _ => congrArg (_ / ·) Nat.cast_ofNat
  refine ⟨h.1, fun hlh => ?_⟩
  obtain ⟨ts, h1, h2, hr, hle, hprev⟩ := h.2 hlh
  refine ⟨ts, h1, h2, hr, hle.elim id fun e => ?_, hprev⟩
  have := (rcMid_bounds hist hne h1 h2).2
  rw [← e, Nat.cast_succ] at this
  linarith

theorem RcResult.between {hist : List Nat} (hne : ∃ v ∈ hist, v ≠ 0) {r : ℚ}
    (h : RcResult hist r) : (loOf hist : ℚ) ≤ r ∧ r ≤ (lastNonzero hist : ℚ) := by
  have hlh := lo_le_hi hist hne
  by_cases e : loOf hist = lastNonzero hist
  · rw [h.1 e, e]; exact ⟨le_refl _, le_refl _⟩
  · obtain ⟨ts, h1, h2, hr, _, _⟩ := h.2 (by omega)
    obtain ⟨b1, b2⟩ := rcMid_bounds hist hne h1 h2
    have c1 : (loOf hist : ℚ) ≤ (ts : ℚ) := by exact_mod_cast h1
    have c2 : (ts : ℚ) ≤ (lastNonzero hist : ℚ) := by exact_mod_cast (show ts ≤ lastNonzero hist by omega)
    rw [hr]
    constructor <;> linarith

/-- the oracle's search `rcSpec.go` on the tables of `hist` -/
def rcGo (hist : List Nat) : List Nat → ℚ → ℚ → ℚ × ℚ :=
  rcSpec.go (cumsum hist 0).toArray (cumsum (weighted hist) 0).toArray
    (nBOf hist (hist.length - 1)) (sBOf hist (hist.length - 1))

theorem rcSpec_eq (hist : List Nat) : rcSpec hist =
    if nBOf hist (hist.length - 1) = 0 then (0, 1, 0, 0) else
    if loOf hist = lastNonzero hist then ((loOf hist : ℚ), 1, loOf hist, lastNonzero hist) else
      ((rcGo hist (List.range' (loOf hist) (lastNonzero hist - loOf hist))
          ((lastNonzero hist + 1 : ℕ) : ℚ) 0).1,
       (rcGo hist (List.range' (loOf hist) (lastNonzero hist - loOf hist))
          ((lastNonzero hist + 1 : ℕ) : ℚ) 0).2, loOf hist, lastNonzero hist) := rfl

/-- one step of the search: stop at the first midpoint `≤ t + 1` (the margin is carried along) -/
theorem rcGo_cons (hist : List Nat) (t : Nat) (rest : List Nat) (margin last : ℚ) :
    ∃ margin', rcGo hist (t :: rest) margin last =
      if rcMid hist t ≤ (t : ℚ) + 1 then (rcMid hist t, margin')
      else rcGo hist rest margin' (rcMid hist t) := by
  rw [rcGo, rcSpec.go]
  exact ⟨_, rfl⟩

theorem rcGo_fst (hist : List Nat) (k : Nat) :
    ∀ (a : Nat) (margin last : ℚ) (ts : Nat), a ≤ ts → ts < a + k →
      (∀ t, a ≤ t → t < ts → (t : ℚ) + 1 < rcMid hist t) → rcMid hist ts ≤ (ts : ℚ) + 1 →
      (rcGo hist (List.range' a k) margin last).1 = rcMid hist ts := by
  induction k with
  | zero => intro a margin last ts h1 h2; omega
  | succ k ih =>
    intro a margin last ts h1 h2 hprev hts
    obtain ⟨margin', hm⟩ := rcGo_cons hist a (List.range' (a + 1) k) margin last
    rw [List.range'_succ, hm]
    by_cases e : a = ts
    · rw [e, if_pos hts]
    · rw [if_neg (not_le.2 (hprev a (Nat.le_refl a) (by omega)))]
      exact ih (a + 1) margin' _ ts (by omega) (by omega) (fun t h3 h4 => hprev t (by omega) h4) hts

theorem rcSpec_lohi (hist : List Nat) (hne : ∃ v ∈ hist, v ≠ 0) :
    (rcSpec hist).2.2 = (loOf hist, lastNonzero hist) := by
  have hn := hi_lt_length hist hne
  have hlh := lo_le_hi hist hne
  rw [rcSpec_eq, if_neg ((nB_ne_zero_iff hist hne (by omega)).2 (by omega))]
  split_ifs <;> rfl

/-- the harness oracle `rcSpec` equals the exact model -/
theorem rcSpec_fst (hist : List Nat) (hne : ∃ v ∈ hist, v ≠ 0) :
    (rcSpec hist).1 = rcGen ratCast hist := by
  have hn := hi_lt_length hist hne
  have hlh := lo_le_hi hist hne
  obtain ⟨r1, r2⟩ := rcGen_spec hist hne
  rw [rcSpec_eq, if_neg ((nB_ne_zero_iff hist hne (by omega)).2 (by omega))]
  by_cases e : loOf hist = lastNonzero hist
  · rw [if_pos e, r1 e, e]
  · rw [if_neg e]
    obtain ⟨ts, h1, h2, hr, hle, hprev⟩ := r2 (by omega)
    rw [hr]
    exact rcGo_fst hist _ (loOf hist) _ _ ts h1 (by omega) hprev hle
end Mahotas.C16
