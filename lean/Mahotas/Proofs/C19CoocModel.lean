/-
C19 — grey-level co-occurrence matrices: the fold model `coocModel` (the C++ scan loop of `_texture.cpp: cooccurence<T>`)
computes the counting specification `coocCount`. The scan loop is a fold of `modify` per slot (`coocFold_getD`: any list of
positions, any accumulator); with values in `[0, m)` entry `a·m+b` is `coocCount … a b`; `toList_of_entries` lifts entrywise
statements to the whole array. Core Lean only (no Mathlib import).
-/
import Mahotas.Proofs.C19Cooc
namespace Mahotas.C19
open Mahotas

theorem cooc_digits_unique (m x y a b : Nat) (hy : y < m) (hb : b < m)
    (h : x * m + y = a * m + b) : x = a ∧ y = b :=
  ⟨by rw [← rowMajor_div x hy, h, rowMajor_div a hb], by rw [← rowMajor_mod x hy, h, rowMajor_mod a hb]⟩

theorem coocFold_getD (m : Nat) (s : List Nat) (f : List Int → Int) (d : List Int)
    (l : List (List Int)) (acc : Array Nat) (k : Nat) (hk : k < acc.size) :
    (l.foldl (fun acc p =>
        if inside s (addPos p d) then
          acc.modify ((f p).toNat * m + (f (addPos p d)).toNat) (· + 1)
        else acc) acc).getD k 0
      = acc.getD k 0 + l.countP (fun p => inside s (addPos p d) &&
          ((f p).toNat * m + (f (addPos p d)).toNat == k)) := by
  rw [← List.foldl_filter (p := fun p => inside s (addPos p d))
      (f := fun (acc : Array Nat) p => acc.modify ((f p).toNat * m + (f (addPos p d)).toNat) (· + 1)),
    foldl_modify_getD (fun p => (f p).toNat * m + (f (addPos p d)).toNat) (fun _ v => v + 1) k _ acc 0 hk,
    foldl_succ, List.filter_filter, List.countP_eq_length_filter]
  congr 3
  funext p
  simp only [Bool.beq_eq_decide_eq, Bool.and_comm]

theorem coocModel_getD (m : Nat) (im : Img Int) (d : List Int) (k : Nat) (hk : k < m * m) :
    (coocModel m im d).getD k 0 = (boxPos im.shape).countP (fun p => inside im.shape (addPos p d) &&
          ((im.getD p 0).toNat * m + (im.getD (addPos p d) 0).toNat == k)) := by
  have h := coocFold_getD m im.shape (fun p => im.getD p 0) d (boxPos im.shape)
    (Array.replicate (m * m) 0) k (by simpa using hk)
  have h0 : (Array.replicate (m * m) 0 : Array Nat).getD k 0 = 0 := by
    simp [Array.getD_eq_getD_getElem?, hk]
  rw [h0, Nat.zero_add] at h
  exact h

theorem coocModel_eq_count (m : Nat) (im : Img Int) (d : List Int)
    (hv : ∀ p, inside im.shape p = true → 0 ≤ im.getD p 0 ∧ im.getD p 0 < (m : Int)) (a b : Nat) (ha : a < m) (hb : b < m) :
    (coocModel m im d).getD (a * m + b) 0
      = coocCount im.shape (fun p => im.getD p 0) d (a : Int) (b : Int) := by
  rw [coocModel_getD m im d _ (rowMajor_lt ha hb), coocCount]
  apply List.countP_congr
  intro p hpm
  have hp := hv p ((mem_boxPos _ _).1 hpm)
  simp only [Bool.and_eq_true, beq_iff_eq]
  constructor
  · rintro ⟨hin, he⟩
    have hq := hv (addPos p d) hin
    have := cooc_digits_unique m _ _ a b (by omega) hb he
    exact ⟨hin, by omega, by omega⟩
  · rintro ⟨hin, h1, h2⟩
    refine ⟨hin, ?_⟩
    rw [h1, h2]; simp

theorem symFold_getD (m : Nat) (c : Array Nat) (a b : Nat) (ha : a < m) (hb : b < m) :
    (symFold m c).getD (a * m + b) 0 = c.getD (a * m + b) 0 + c.getD (b * m + a) 0 := by
  simp [symFold, Array.getD_eq_getD_getElem?, rowMajor_lt ha hb, rowMajor_div a hb, rowMajor_mod a hb]

theorem coocModel_sym_eq (m : Nat) (im : Img Int) (d : List Int)
    (hv : ∀ p, inside im.shape p = true → 0 ≤ im.getD p 0 ∧ im.getD p 0 < (m : Int)) (a b : Nat) (ha : a < m) (hb : b < m) :
    (symFold m (coocModel m im d)).getD (a * m + b) 0
      = coocSym im.shape (fun p => im.getD p 0) d (a : Int) (b : Int) := by
  rw [symFold_getD m _ a b ha hb, coocModel_eq_count m im d hv a b ha hb,
    coocModel_eq_count m im d hv b a hb ha, coocSym]

theorem coocFold_size (m : Nat) (s : List Nat) (f : List Int → Int) (d : List Int)
    (l : List (List Int)) (acc : Array Nat) :
    (l.foldl (fun acc p =>
        if inside s (addPos p d) then
          acc.modify ((f p).toNat * m + (f (addPos p d)).toNat) (· + 1)
        else acc) acc).size = acc.size := by
  rw [← List.foldl_filter (p := fun p => inside s (addPos p d))
      (f := fun (acc : Array Nat) p => acc.modify ((f p).toNat * m + (f (addPos p d)).toNat) (· + 1))]
  exact foldl_modify_size _ (fun _ v => v + 1) _ acc

theorem coocModel_size (m : Nat) (im : Img Int) (d : List Int) :
    (coocModel m im d).size = m * m := by
  have h := coocFold_size m im.shape (fun p => im.getD p 0) d (boxPos im.shape)
    (Array.replicate (m * m) 0)
  rw [Array.size_replicate] at h
  exact h

theorem symFold_size (m : Nat) (c : Array Nat) : (symFold m c).size = m * m := by
  simp [symFold]

theorem cooc_split_index (m k : Nat) (hk : k < m * m) :
    k / m < m ∧ k % m < m ∧ k / m * m + k % m = k := by
  have hm : 0 < m := by
    rcases Nat.eq_zero_or_pos m with h | h
    · subst h; simp at hk
    · exact h
  refine ⟨(Nat.div_lt_iff_lt_mul hm).2 hk, Nat.mod_lt _ hm, ?_⟩
  rw [Nat.mul_comm]; exact Nat.div_add_mod k m

theorem toList_of_entries (m : Nat) (c : Array Nat) (F : Nat → Nat → Nat) (hsz : c.size = m * m)
    (h : ∀ a b, a < m → b < m → c.getD (a * m + b) 0 = F a b) :
    c.toList = (List.range (m * m)).map fun k => F (k / m) (k % m) := by
  apply List.ext_getElem
  · rw [Array.length_toList, hsz, List.length_map, List.length_range]
  · intro k h1 _
    have hk : k < c.size := by rw [← Array.length_toList]; exact h1
    obtain ⟨ha, hb, he⟩ := cooc_split_index m k (hsz ▸ hk)
    rw [List.getElem_map, List.getElem_range, ← h _ _ ha hb, he, Array.getD_eq_getD_getElem?,
      Array.getElem?_eq_getElem hk, Option.getD_some, Array.getElem_toList]

theorem coocModel_toList (m : Nat) (im : Img Int) (d : List Int)
    (hv : ∀ p, inside im.shape p = true → 0 ≤ im.getD p 0 ∧ im.getD p 0 < (m : Int)) :
    (coocModel m im d).toList = coocSpecMat m im d false :=
  toList_of_entries m _ _ (coocModel_size m im d) (coocModel_eq_count m im d hv)

theorem coocModel_sym_toList (m : Nat) (im : Img Int) (d : List Int)
    (hv : ∀ p, inside im.shape p = true → 0 ≤ im.getD p 0 ∧ im.getD p 0 < (m : Int)) :
    (symFold m (coocModel m im d)).toList = coocSpecMat m im d true :=
  toList_of_entries m _ _ (symFold_size m _) (coocModel_sym_eq m im d hv)

end Mahotas.C19
