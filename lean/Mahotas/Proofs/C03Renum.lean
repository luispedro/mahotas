/-
C03 / C13 — first-appearance numberings (`Consec`: every entry is an old label or exactly the next fresh one), as the
renumbering loop `renumGo` (shared by `label` and `relabel`) produces them: a numbering of that kind is determined by its
equality pattern (`consec_unique`). What the loop computes is in `Proofs/C03Rank.lean`.
-/
import Mahotas.Model.C03
namespace Mahotas.C03

/-- new labels are introduced consecutively: every entry is either an old label (`< next`) or exactly
    the next fresh one. -/
def Consec : Int → List Int → Prop
  | _, [] => True
  | next, l :: r => (l < next ∧ Consec next r) ∨ (l = next ∧ Consec (next + 1) r)

theorem renumGo_cons_some {seen : List (Int × Int)} {next v l : Int} {vs : List Int}
    (h : seen.lookup v = some l) :
    renumGo seen next (v :: vs) = (l :: (renumGo seen next vs).1, (renumGo seen next vs).2) := by
  simp [renumGo, h]

theorem renumGo_cons_none {seen : List (Int × Int)} {next v : Int} {vs : List Int}
    (h : seen.lookup v = none) :
    renumGo seen next (v :: vs) =
      (next :: (renumGo ((v, next) :: seen) (next + 1) vs).1, (renumGo ((v, next) :: seen) (next + 1) vs).2) := by
  simp [renumGo, h]

/-- index form of `Consec`: before the first occurrence of a label `> k ≥ next`, label `k` has occurred -/
theorem Consec.earlier : ∀ (r : List Int) (next : Int), Consec next r →
    ∀ (i : Nat) (l : Int), r[i]? = some l → ∀ k, next ≤ k → k < l → ∃ j, j < i ∧ r[j]? = some k
  | [], _, _, _, _, h, _, _, _ => nomatch h
  | x :: r, next, hc, 0, l, hi, k, hk, hkl => by
    have hx : x = l := Option.some.inj hi
    rcases hc with ⟨h1, _⟩ | ⟨h1, _⟩ <;> omega
  | x :: r, next, hc, i + 1, l, hi, k, hk, hkl => by
    rw [List.getElem?_cons_succ] at hi
    rcases hc with ⟨_, h2⟩ | ⟨h1, h2⟩
    · obtain ⟨j, hj, hjk⟩ := Consec.earlier r next h2 i l hi k hk hkl
      exact ⟨j + 1, Nat.succ_lt_succ hj, hjk⟩
    · by_cases e : k = next
      · exact ⟨0, Nat.succ_pos i, by rw [List.getElem?_cons_zero, h1, e]⟩
      · obtain ⟨j, hj, hjk⟩ := Consec.earlier r (next + 1) h2 i l hi k (by omega) hkl
        exact ⟨j + 1, Nat.succ_lt_succ hj, hjk⟩

/-- two lists of the same length with the same equality pattern, both numbered consecutively from `next`,
    and agreeing wherever one of them carries an old label (`< next`), are equal -/
theorem consec_unique : ∀ (L1 L2 : List Int) (next : Int), L1.length = L2.length →
    Consec next L1 → Consec next L2 →
    (∀ i j, i < L1.length → j < L1.length → (L1.getD i 0 = L1.getD j 0 ↔ L2.getD i 0 = L2.getD j 0)) →
    (∀ i, i < L1.length → (L1.getD i 0 < next ∨ L2.getD i 0 < next) → L1.getD i 0 = L2.getD i 0) →
    L1 = L2
  | [], [], _, _, _, _, _, _ => rfl
  | a :: r1, b :: r2, next, hl, c1, c2, hpat, hold => by
    have hl' : r1.length = r2.length := Nat.succ.inj hl
    have hpat' : ∀ i j, i < r1.length → j < r1.length →
        (r1.getD i 0 = r1.getD j 0 ↔ r2.getD i 0 = r2.getD j 0) :=
      fun i j hi hj => hpat (i + 1) (j + 1) (Nat.succ_lt_succ hi) (Nat.succ_lt_succ hj)
    have hold' : ∀ i, i < r1.length → (r1.getD i 0 < next ∨ r2.getD i 0 < next) → r1.getD i 0 = r2.getD i 0 :=
      fun i hi => hold (i + 1) (Nat.succ_lt_succ hi)
    have h0 : a < next ∨ b < next → a = b := hold 0 (Nat.succ_pos _)
    rcases c1 with ⟨ha, c1'⟩ | ⟨ha, c1'⟩
    · have hab : a = b := h0 (Or.inl ha)
      subst hab
      rcases c2 with ⟨_, c2'⟩ | ⟨hb, _⟩
      · rw [consec_unique r1 r2 next hl' c1' c2' hpat' hold']
      · omega
    · rcases c2 with ⟨hb, _⟩ | ⟨hb, c2'⟩
      · have := h0 (Or.inr hb); omega
      · have hab : a = b := ha.trans hb.symm
        subst hab
        -- an entry equal to the fresh label `a` on one side is `a` on the other, by the pattern
        rw [consec_unique r1 r2 (next + 1) hl' c1' c2' hpat' fun i hi h => ?_]
        have hp : a = r1.getD i 0 ↔ a = r2.getD i 0 :=
          hpat 0 (i + 1) (Nat.succ_pos _) (Nat.succ_lt_succ hi)
        rcases h with h | h
        · by_cases hlt : r1.getD i 0 < next
          · exact hold' i hi (Or.inl hlt)
          · have e : a = r1.getD i 0 := by omega
            rw [← e, ← hp.mp e]
        · by_cases hlt : r2.getD i 0 < next
          · exact hold' i hi (Or.inr hlt)
          · have e : a = r2.getD i 0 := by omega
            rw [← e, ← hp.mpr e]

/-- the count returned next to a first-appearance numbering is determined by the labels -/
theorem count_unique (L : List Int) (c1 c2 : Int) (h1 : ∀ l ∈ L, l ≤ c1) (h2 : ∀ l ∈ L, l ≤ c2)
    (a1 : 1 ≤ c1 → c1 ∈ L) (a2 : 1 ≤ c2 → c2 ∈ L) (n1 : 0 ≤ c1) (n2 : 0 ≤ c2) : c1 = c2 := by
  have e1 : 1 ≤ c1 → c1 ≤ c2 := fun p => h2 _ (a1 p)
  have e2 : 1 ≤ c2 → c2 ≤ c1 := fun p => h1 _ (a2 p)
  omega

end Mahotas.C03
