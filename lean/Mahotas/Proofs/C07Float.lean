/-
C07 in floating point, part 1: the cases in which no operation rounds.
The kernels the C++ runs in `double` are written once in `Model/C07.lean`, generic in the arithmetic (`tmAtG`, `meanAtG`,
`curRankG`; the driver runs them with binary64 / binary32 operations). Here they are instantiated with rational
operations `rnd (a ∘ b)`, for any `rnd` with the `Rounding` interface of `Proofs/Rounded.lean`, on integer-valued data:
while the exact partial results stay at most `2^53` the accumulations are exact (`tmAtG_rat_exact`, `meanAtG_rat_exact`),
and the rescaled rank `npy_intp(n * rank / double(N2))` is the integer floor (`curRankG_rat_eq`). Two kernels in two
arithmetics are compared step by step through `tmAtG_rel`.
-/
import Mahotas.Proofs.C07
import Mahotas.Proofs.Rounded
import Mathlib.Algebra.Order.Floor.Ring
import Mathlib.Data.Rat.Floor

namespace Mahotas.C07
open Mahotas Mahotas.C05

/-- `T`'s operations over ℚ, every result rounded by `rnd`; comparisons are exact -/
def ratTmOps (rnd : ℚ → ℚ) : TmOps ℚ :=
  ⟨0, fun a b => rnd (a - b), fun a b => rnd (a * b), fun a b => rnd (a + b), fun a b => decide (a > b)⟩

/-- the double operations over ℚ, every result rounded -/
def ratMeanOps (rnd : ℚ → ℚ) : MeanOps ℚ :=
  ⟨0, fun a b => rnd (a + b), fun a b => rnd (a / b), fun n => rnd (n : ℚ)⟩

/-- the operations of `npy_intp(n * rank / double(N2))` over ℚ with every result rounded by `rnd`:
    the two integer-to-double conversions, the division, the truncation (floor of a non-negative number) -/
def ratRankOps (rnd : ℚ → ℚ) : RankOps ℚ :=
  ⟨fun k => rnd (k : ℚ), fun a b => rnd (a / b), fun x => ⌊x⌋.toNat⟩

/-- an integer image read as a rational one -/
def castImg (f : Img Int) : Img ℚ := { shape := f.shape, data := f.data.map fun (x : Int) => (x : ℚ) }

def castArr (t : Array Int) : Array ℚ := t.map fun (x : Int) => (x : ℚ)

theorem getD_castArr (a : Array Int) (i : Nat) : (castArr a).getD i 0 = ((a.getD i 0 : ℤ) : ℚ) := by
  have h := arrayGetD_map (fun x : ℤ => (x : ℚ)) a i 0
  rwa [Int.cast_zero] at h

theorem getD_castImg (f : Img Int) (q : List Int) : (castImg f).getD q 0 = ((f.getD q 0 : ℤ) : ℚ) := by
  have h := getD_map (fun x : ℤ => (x : ℚ)) f q 0
  rwa [Int.cast_zero] at h

theorem rnd_int (rnd : ℚ → ℚ) (hr : Rounding rnd) (k : ℤ) (hk : |k| ≤ 2 ^ 53) : rnd (k : ℚ) = (k : ℚ) :=
  hr.exact_int k (by exact_mod_cast hk)

/-- the term one template entry adds, in the arithmetic `o`: `delta * delta` -/
def TmOps.sq {α : Type} (o : TmOps α) (val tj : α) : α :=
  o.mul (if o.gt val tj then o.sub val tj else o.sub tj val) (if o.gt val tj then o.sub val tj else o.sub tj val)

/-- `template_match<T>` in two arithmetics on two images of one shape: a relation between the accumulators, indexed by
    the number of template entries visited, that a skipped entry keeps and a visited entry carries along, holds of the
    two results -/
theorem tmAtG_rel {α β : Type} (o : TmOps α) (o' : TmOps β) (R : Nat → α → β → Prop) (m : Mode)
    (f : Img α) (f' : Img β) (hsh : f'.shape = f.shape) (tshape : List Nat) (t : Array α) (t' : Array β) (p : List Int)
    (h0 : R 0 o.zero o'.zero) (hskip : ∀ k a b, R k a b → R (k + 1) a b)
    (hstep : ∀ k a b q j, R k a b →
      R (k + 1) (o.add a (o.sq (f.getD q o.zero) (t.getD j o.zero)))
        (o'.add b (o'.sq (f'.getD q o'.zero) (t'.getD j o'.zero)))) :
    R (shapeSize tshape) (tmAtG o m f tshape t p) (tmAtG o' m f' tshape t' p) := by
  have h : R (List.range (shapeSize tshape)).length (tmAtG o m f tshape t p) (tmAtG o' m f' tshape t' p) := by
    unfold tmAtG
    refine foldl_rel_index _ _ _ R (fun k a b _ hab => ?_) _ _ h0
    rw [hsh]
    cases fixPos m f.shape (addPos p (offsetOf tshape (List.range (shapeSize tshape))[k])) with
    | none => exact hskip k a b hab
    | some q => exact hstep k a b q _ hab
  rwa [List.length_range] at h

theorem tmAtG_int (m : Mode) (f : Img Int) (tshape : List Nat) (t : Array Int) (p : List Int) :
    tmAtG intTmOps m f tshape t p = tmAt m f tshape t p := by
  unfold tmAtG tmAt intTmOps
  simp only [decide_eq_true_eq]

theorem ite_gt_sub {α : Type} [AddCommGroup α] [LinearOrder α] [IsOrderedAddMonoid α] (a b : α)
    [Decidable (a > b)] : (if decide (a > b) = true then a - b else b - a) = |a - b| :=
  if h : a > b then (if_pos (decide_eq_true h)).trans (abs_of_pos (sub_pos.2 h)).symm
  else (if_neg (mt of_decide_eq_true h)).trans
    ((abs_sub_comm a b).trans (abs_of_nonneg (sub_nonneg.2 (not_lt.1 h)))).symm

theorem ite_gt_rnd_sub (rnd : ℚ → ℚ) (a b : ℚ) :
    (if decide (a > b) = true then rnd (a - b) else rnd (b - a)) = rnd |a - b| :=
  (apply_ite rnd ..).symm.trans (congrArg rnd (ite_gt_sub a b))

theorem intTm_step (S a b : Int) : intTmOps.add S (intTmOps.sq a b) = S + |a - b| * |a - b| :=
  congrArg (fun d => S + d * d) (ite_gt_sub a b)

theorem ratTm_step (rnd : ℚ → ℚ) (s a b : ℚ) :
    (ratTmOps rnd).add s ((ratTmOps rnd).sq a b) = rnd (s + rnd (rnd |a - b| * rnd |a - b|)) :=
  congrArg (fun d => rnd (s + rnd (d * d))) (ite_gt_rnd_sub rnd a b)

/-- one step in rounded arithmetic on integer data is exact as long as the new partial sum is at most `2^53`:
    the difference is at most its square, the square at most the sum -/
theorem tm_step_exact (rnd : ℚ → ℚ) (hr : Rounding rnd) (S d : ℤ) (hS : 0 ≤ S) (hd : 0 ≤ d)
    (hb : S + d * d ≤ 2 ^ 53) :
    rnd ((S : ℚ) + rnd (rnd (d : ℚ) * rnd (d : ℚ))) = ((S + d * d : ℤ) : ℚ) := by
  have hdd : d * d ≤ 2 ^ 53 := (le_add_of_nonneg_left hS).trans hb
  have hd' : d ≤ d * d := (Int.le_self_sq d).trans_eq (sq d)
  rw [rnd_int rnd hr d ((abs_of_nonneg hd).trans_le (hd'.trans hdd)), ← Int.cast_mul,
    rnd_int rnd hr (d * d) ((abs_of_nonneg (mul_self_nonneg d)).trans_le hdd), ← Int.cast_add,
    rnd_int rnd hr _ ((abs_of_nonneg (add_nonneg hS (mul_self_nonneg d))).trans_le hb)]

/-- **`template_match<double>` on integer-valued data is exact** while the sum of squared differences is at most
    `2^53`: the kernel run in rounded arithmetic returns the exact integer of `tmAt`. The partial sums grow, so one at
    most `2^53` has only such predecessors. -/
theorem tmAtG_rat_exact (rnd : ℚ → ℚ) (hr : Rounding rnd) (m : Mode) (f : Img Int) (tshape : List Nat) (t : Array Int)
    (p : List Int) (hb : tmAt m f tshape t p ≤ 2 ^ 53) :
    tmAtG (ratTmOps rnd) m (castImg f) tshape (castArr t) p = ((tmAt m f tshape t p : ℤ) : ℚ) := by
  rw [← tmAtG_int] at hb ⊢
  refine (tmAtG_rel intTmOps (ratTmOps rnd) (fun _ (S : ℤ) (s : ℚ) => 0 ≤ S ∧ (S ≤ 2 ^ 53 → s = S)) m f (castImg f) rfl
    tshape t (castArr t) p ⟨le_refl 0, fun _ => Int.cast_zero.symm⟩ (fun _ _ _ h => h) (fun _ S s q j h => ?_)).2 hb
  rw [intTm_step, ratTm_step, show (ratTmOps rnd).zero = 0 from rfl, getD_castImg, getD_castArr, ← Int.cast_sub,
    ← Int.cast_abs]
  refine ⟨add_nonneg h.1 (mul_self_nonneg _), fun hb => ?_⟩
  rw [h.2 ((le_add_of_nonneg_right (mul_self_nonneg _)).trans hb)]
  exact tm_step_exact rnd hr S _ h.1 (abs_nonneg _) hb

theorem gatherG_int (m : Mode) (f : Img Int) (fp : List (List Int)) (p : List Int) :
    gatherG 0 m f fp p = gather m f fp p := rfl

theorem gatherG_cast (m : Mode) (f : Img Int) (fp : List (List Int)) (p : List Int) :
    gatherG (0 : ℚ) m (castImg f) fp p = (gather m f fp p).map fun (x : Int) => (x : ℚ) := by
  have h := gatherG_map (fun x : ℤ => (x : ℚ)) 0 m f fp p
  rwa [Int.cast_zero] at h

/-- sum of the magnitudes -/
def absSum (xs : List Int) : Int := (xs.map fun x => |x|).sum

theorem absSum_cons (x : Int) (xs : List Int) : absSum (x :: xs) = |x| + absSum xs :=
  List.sum_cons

theorem absSum_nonneg (xs : List Int) : 0 ≤ absSum xs :=
  List.sum_nonneg fun _ h => by
    obtain ⟨x, _, rfl⟩ := List.mem_map.1 h
    exact abs_nonneg x

theorem foldl_rnd_add_exact (rnd : ℚ → ℚ) (hr : Rounding rnd) (xs : List Int) (acc : Int)
    (hb : |acc| + absSum xs ≤ 2 ^ 53) :
    (xs.map fun (x : Int) => (x : ℚ)).foldl (fun a b => rnd (a + b)) (acc : ℚ) = ((xs.foldl (· + ·) acc : Int) : ℚ) := by
  induction xs generalizing acc with
  | nil => rfl
  | cons x xs ih =>
    rw [absSum_cons, ← add_assoc] at hb
    have hb' : |acc + x| + absSum xs ≤ 2 ^ 53 := (add_le_add (abs_add_le acc x) le_rfl).trans hb
    rw [List.map_cons, List.foldl_cons, List.foldl_cons, ← Int.cast_add,
      rnd_int rnd hr _ ((le_add_of_nonneg_right (absSum_nonneg xs)).trans hb')]
    exact ih _ hb'

/-- **`mean_filter` on integer-valued data is the correctly rounded exact mean** while the magnitudes of the samples
    sum to at most `2^53` (and there are at most `2^53` samples): the double accumulation is exact and only the final
    division rounds. -/
theorem meanAtG_rat_exact (rnd : ℚ → ℚ) (hr : Rounding rnd) (m : Mode) (f : Img Int) (fp : List (List Int)) (p : List Int)
    (hb : absSum (gather m f fp p) ≤ 2 ^ 53) (hn : (fp.length : Int) ≤ 2 ^ 53) :
    meanAtG (ratMeanOps rnd) m (castImg f) fp p =
      rnd (((meanParts m f fp p).1 : ℚ) / ((meanParts m f fp p).2 : ℚ)) := by
  have hlen : (gather m f fp p).length ≤ 2 ^ 53 :=
    (gather_length_le m f fp p).trans (by exact_mod_cast hn)
  show rnd ((gatherG 0 m (castImg f) fp p).foldl (fun a b => rnd (a + b)) 0 / rnd ((gatherG 0 m (castImg f) fp p).length : ℚ)) = _
  rw [gatherG_cast, List.length_map, hr.exact_nat _ hlen, ← Int.cast_zero,
    foldl_rnd_add_exact rnd hr _ 0 (by rwa [abs_zero, zero_add])]
  rfl

/-- for naturals `a < 2^53`, `0 < b ≤ 2^53` the quotient computed in rounded arithmetic truncates to `a / b`:
    both conversions are exact; `x = a/b` lies in `[q, q + 1 − 1/b]`; rounding is monotone and fixes `q`, so
    `q ≤ rnd x`; the relative error `2^-53` moves `x` by less than `1/b`, so `rnd x < q + 1` -/
theorem floor_rounded_div (rnd : ℚ → ℚ) (hr : Rounding rnd) (a b : ℕ) (hb : 0 < b)
    (ha : a < 2 ^ 53) (hb2 : b ≤ 2 ^ 53) :
    ⌊rnd (rnd (a : ℚ) / rnd (b : ℚ))⌋ = ((a / b : ℕ) : ℤ) := by
  have hbq : (0 : ℚ) < b := Nat.cast_pos.2 hb
  have hx0 : (0 : ℚ) ≤ a / b := div_nonneg a.cast_nonneg hbq.le
  rw [hr.exact_nat a ha.le, hr.exact_nat b hb2, Int.floor_eq_iff, Int.cast_natCast]
  constructor
  · rw [← hr.exact_nat (a / b) ((Nat.div_le_self a b).trans ha.le)]
    exact hr.mono _ _ ((le_div_iff₀ hbq).2 (by exact_mod_cast Nat.div_mul_le_self a b))
  · have hrel : rnd (a / b) - a / b ≤ a / b / 2 ^ 53 :=
      (le_abs_self _).trans ((hr.rel _).trans_eq (by rw [abs_of_nonneg hx0]))
    have hsmall : (a : ℚ) / b / 2 ^ 53 < 1 / b := by
      rw [div_right_comm]
      exact div_lt_div_of_pos_right ((div_lt_one (by norm_num)).2 (by exact_mod_cast ha)) hbq
    have hnext : (a : ℚ) / b + 1 / b ≤ (a / b : ℕ) + 1 := by
      rw [← add_div, div_le_iff₀ hbq]
      exact_mod_cast (Nat.mul_comm .. ▸ Nat.lt_mul_div_succ a hb : a < (a / b + 1) * b)
    calc rnd (a / b) ≤ a / b + a / b / 2 ^ 53 := sub_le_iff_le_add'.1 hrel
      _ < a / b + 1 / b := add_lt_add_of_le_of_lt le_rfl hsmall
      _ ≤ _ := hnext

theorem curRankG_rat_eq (rnd : ℚ → ℚ) (hr : Rounding rnd) (n N2 rank : ℕ) (hN : 0 < N2)
    (hprod : n * rank < 2 ^ 53) (hN2 : N2 ≤ 2 ^ 53) :
    curRankG (ratRankOps rnd) n N2 rank = curRank n N2 rank := by
  unfold curRankG curRank
  split
  · exact (congrArg Int.toNat (floor_rounded_div rnd hr (n * rank) N2 hN hprod hN2)).trans (Int.toNat_natCast _)
  · rfl

/-- every size that occurs: at most `N2` samples, rank below `N2`, fewer than `2^26` members -/
theorem curRankG_small (rnd : ℚ → ℚ) (hr : Rounding rnd) (n N2 rank : ℕ)
    (hn : n ≤ N2) (hrank : rank < N2) (hsz : N2 < 2 ^ 26) :
    curRankG (ratRankOps rnd) n N2 rank = curRank n N2 rank :=
  curRankG_rat_eq rnd hr n N2 rank (Nat.zero_lt_of_lt hrank)
    ((Nat.mul_le_mul hn hrank.le).trans_lt ((Nat.mul_lt_mul'' hsz hsz).trans (by norm_num)))
    (hsz.le.trans (by norm_num))

end Mahotas.C07
