/-
F1–F5: the transliteration of `fix_offset` equals the mathematical border rules,
for every coordinate and every length ≥ 1; then, coordinate by coordinate, what `fixPos` returns for a position:
the specification's position, of the array's rank, inside the array, and when it returns anything at all. Between the two:
positions inside the array (every rule is the identity) and the clamp `clampPos` of `nearest`; these lemmas are named
`C01.…` like the index lemmas of `Proofs/Index.lean` they stand on.
-/
import Mahotas.Model.Border
import Mahotas.Proofs.Index
namespace Mahotas

theorem mod_unique (cc len r k : Int) (h0 : 0 ≤ r) (h1 : r < len) (hk : cc = r + len * k) :
    cc % len = r := by
  subst hk
  rw [Int.add_mul_emod_self_left]
  exact Int.emod_eq_of_lt h0 h1

theorem tdiv_decomp (a b : Int) (ha : 0 ≤ a) (hb : 0 < b) :
    ∃ m, a = b * a.tdiv b + m ∧ 0 ≤ m ∧ m < b := by
  refine ⟨a.tmod b, ?_, Int.tmod_nonneg _ ha, Int.tmod_lt_of_pos _ hb⟩
  have := Int.mul_tdiv_add_tmod a b
  omega

/-- the reduction `cc - b * (int)(cc / b)` of a coordinate beyond the far edge is the remainder -/
theorem tdiv_reduce (a b : Int) (ha : 0 ≤ a) : a - b * a.tdiv b = a % b := by
  rw [Int.tdiv_eq_ediv_of_nonneg ha, Int.emod_def]

/-- the reduction `b * (int)(-cc / b) + cc` of a negative coordinate is `-m` with `0 ≤ m < b`,
    and the remainder of `cc` itself is then `b - m` (or 0) -/
theorem tdiv_reduce_neg (cc b : Int) (hc : cc < 0) (hb : 0 < b) :
    ∃ m, 0 ≤ m ∧ m < b ∧ b * (-cc).tdiv b + cc = -m ∧ cc % b = if m = 0 then 0 else b - m := by
  obtain ⟨m, hm, hm0, hm1⟩ := tdiv_decomp (-cc) b (by omega) hb
  generalize (-cc).tdiv b = q at hm
  refine ⟨m, hm0, hm1, by omega, ?_⟩
  by_cases hz : m = 0
  · rw [if_pos hz]
    exact mod_unique cc b 0 (-q) (Int.le_refl 0) hb (by rw [Int.mul_neg]; omega)
  · rw [if_neg hz]
    exact mod_unique cc b (b - m) (-(q + 1)) (by omega) (by omega) (by rw [Int.mul_neg, Int.mul_add]; omega)

/-! ### the clamp -/

theorem clampSpec_of_inside {x n : Int} (h0 : 0 ≤ x) (h1 : x < n) : clampSpec x n = x := by
  rw [clampSpec, Int.min_eq_left (by omega), Int.max_eq_right h0]

/-- the three regimes of the clamp; proofs about it split here and are linear afterwards -/
theorem clampSpec_cases (x n : Int) (hn : 0 < n) :
    (x < 0 ∧ clampSpec x n = 0) ∨ (0 ≤ x ∧ x < n ∧ clampSpec x n = x) ∨ (n ≤ x ∧ clampSpec x n = n - 1) := by
  by_cases h0 : x < 0
  · exact Or.inl ⟨h0, by rw [clampSpec, Int.min_eq_left (by omega), Int.max_eq_left (by omega)]⟩
  · by_cases h1 : x < n
    · exact Or.inr (Or.inl ⟨by omega, h1, clampSpec_of_inside (by omega) h1⟩)
    · exact Or.inr (Or.inr ⟨by omega, by
        rw [clampSpec, Int.min_eq_right (by omega), Int.max_eq_right (by omega)]⟩)

theorem clampSpec_range (x n : Int) (hn : 0 < n) : 0 ≤ clampSpec x n ∧ clampSpec x n < n := by
  rcases clampSpec_cases x n hn with ⟨_, e⟩ | ⟨_, _, e⟩ | ⟨_, e⟩ <;> rw [e] <;> omega

theorem fixOffset_nearest (cc len : Int) (h : 0 < len) :
    fixOffset .nearest cc len = some (clampSpec cc len) := by
  unfold fixOffset
  simp only
  rcases clampSpec_cases cc len h with ⟨h0, e⟩ | ⟨h0, h1, e⟩ | ⟨h0, e⟩ <;> rw [e]
  · rw [if_pos h0]
  · rw [if_neg (by omega), if_neg (by omega)]
  · rw [if_neg (by omega), if_pos h0]

/-- an axis of length 1: every periodic rule reads its only element -/
theorem fixOffset_one (m : Mode) (hm : m = .wrap ∨ m = .reflect ∨ m = .mirror) (cc : Int) :
    fixOffset m cc 1 = some 0 := by
  rcases hm with rfl | rfl | rfl <;>
  · unfold fixOffset
    simp only
    by_cases h1 : cc < 0
    · rw [if_pos h1, if_pos (Int.le_refl 1)]
    · rw [if_neg h1]
      by_cases h2 : cc ≥ 1
      · rw [if_pos h2, if_pos (Int.le_refl 1)]
      · rw [if_neg h2, show cc = 0 by omega]

theorem fixOffset_wrap (cc len : Int) (h : 0 < len) :
    fixOffset .wrap cc len = some (wrapSpec cc len) := by
  by_cases hl : len ≤ 1
  · obtain rfl : len = 1 := by omega
    rw [fixOffset_one _ (Or.inl rfl), wrapSpec, Int.emod_one]
  unfold fixOffset wrapSpec
  simp only
  by_cases h1 : cc < 0
  · obtain ⟨m, hm0, hm1, e, hs⟩ := tdiv_reduce_neg cc len h1 h
    rw [if_pos h1, if_neg hl, hs, Int.add_comm, e]
    by_cases hz : m = 0
    · rw [if_pos hz, hz]; rfl
    · rw [if_neg hz, if_pos (by omega)]; congr 1; omega
  · rw [if_neg h1]
    by_cases h2 : cc ≥ len
    · rw [if_pos h2, if_neg hl, tdiv_reduce cc len (by omega)]
    · rw [if_neg h2, Int.emod_eq_of_lt (by omega) (by omega)]

/-- the branch `if (cc == 0) return 0` (`_filters.h:61`) is what makes the negative multiples `−k·2·len`, `k ≥ 2`, of the
    period come out as 0 (without it: −1) -/
theorem fixOffset_reflect (cc len : Int) (h : 0 < len) :
    fixOffset .reflect cc len = some (reflectSpec cc len) := by
  by_cases hl : len ≤ 1
  · obtain rfl : len = 1 := by omega
    rw [fixOffset_one _ (Or.inr (Or.inl rfl))]
    unfold reflectSpec; simp only; congr 1; omega
  unfold fixOffset reflectSpec
  simp only
  by_cases h1 : cc < 0
  · rw [if_pos h1, if_neg hl]
    by_cases h3 : cc < -(2 * len)
    · obtain ⟨m, hm0, hm1, e, hs⟩ := tdiv_reduce_neg cc (2 * len) h1 (by omega)
      rw [if_pos h3, e, hs]
      by_cases hz : m = 0
      · subst hz
        rw [if_pos Int.neg_zero, if_pos rfl, if_pos h]
      · rw [if_neg (by omega), if_neg hz]
        by_cases hc : -m < -len
        · rw [if_pos hc, if_pos (by omega)]; congr 1; omega
        · rw [if_neg hc, if_neg (by omega)]; congr 1; omega
    · rw [if_neg h3, if_neg (by omega)]
      by_cases h4 : cc = -(2 * len)
      · rw [mod_unique cc (2 * len) 0 (-1) (by omega) (by omega) (by omega), if_pos (by omega), if_pos h]
        congr 1; omega
      · rw [mod_unique cc (2 * len) (cc + 2 * len) (-1) (by omega) (by omega) (by omega)]
        by_cases hc : cc < -len
        · rw [if_pos hc, if_pos (by omega)]
        · rw [if_neg hc, if_neg (by omega)]; congr 1; omega
  · rw [if_neg h1]
    by_cases h2 : cc ≥ len
    · have r0 := Int.emod_nonneg cc (show 2 * len ≠ 0 by omega)
      have r1 := Int.emod_lt_of_pos cc (show 0 < 2 * len by omega)
      rw [if_pos h2, if_neg hl, tdiv_reduce cc (2 * len) (by omega)]
      by_cases hc : cc % (2 * len) ≥ len
      · rw [if_pos hc, if_neg (Int.not_lt.mpr hc)]; congr 1; omega
      · rw [if_neg hc, if_pos (Int.lt_of_not_ge hc)]
    · rw [if_neg h2, Int.emod_eq_of_lt (by omega) (by omega), if_pos (Int.lt_of_not_ge h2)]

theorem fixOffset_mirror (cc len : Int) (h : 0 < len) :
    fixOffset .mirror cc len = some (mirrorSpec cc len) := by
  by_cases hl : len ≤ 1
  · obtain rfl : len = 1 := by omega
    rw [fixOffset_one _ (Or.inr (Or.inr rfl)), mirrorSpec, if_pos hl]
  rw [mirrorSpec, if_neg hl]
  unfold fixOffset
  simp only
  by_cases h1 : cc < 0
  · obtain ⟨m, hm0, hm1, e, hs⟩ := tdiv_reduce_neg cc (2 * len - 2) h1 (by omega)
    rw [if_pos h1, if_neg hl, e, hs]
    by_cases hz : m = 0
    · subst hz
      rw [if_neg (by omega), if_pos rfl, if_pos h]; rfl
    · rw [if_neg hz]
      by_cases hc : -m ≤ 1 - len
      · rw [if_pos hc, if_pos (by omega)]; congr 1; omega
      · rw [if_neg hc, if_neg (by omega)]; congr 1; omega
  · rw [if_neg h1]
    by_cases h2 : cc ≥ len
    · have r0 := Int.emod_nonneg cc (show 2 * len - 2 ≠ 0 by omega)
      have r1 := Int.emod_lt_of_pos cc (show 0 < 2 * len - 2 by omega)
      rw [if_pos h2, if_neg hl, tdiv_reduce cc (2 * len - 2) (by omega)]
      by_cases hc : cc % (2 * len - 2) ≥ len
      · rw [if_pos hc, if_neg (Int.not_lt.mpr hc)]
      · rw [if_neg hc, if_pos (Int.lt_of_not_ge hc)]
    · rw [if_neg h2, Int.emod_eq_of_lt (by omega) (by omega), if_pos (Int.lt_of_not_ge h2)]

theorem fixOffset_constant (m : Mode) (hm : m = .constant ∨ m = .ignore) (cc len : Int) :
    fixOffset m cc len = borderSpec m cc len := by
  rcases hm with rfl | rfl <;>
  · unfold fixOffset borderSpec
    simp only
    by_cases h : 0 ≤ cc ∧ cc < len
    · rw [if_pos h, if_neg (by omega)]
    · rw [if_neg h, if_pos (by omega)]

theorem fixOffset_eq_spec (m : Mode) (cc len : Int) (h : 0 < len) :
    fixOffset m cc len = borderSpec m cc len := by
  cases m
  · exact fixOffset_nearest cc len h
  · exact fixOffset_wrap cc len h
  · exact fixOffset_reflect cc len h
  · exact fixOffset_mirror cc len h
  · exact fixOffset_constant _ (Or.inl rfl) cc len
  · exact fixOffset_constant _ (Or.inr rfl) cc len

/-- `nearest`, n-D: the specification's position is the clamped one (any shape, any position) -/
theorem specPos_nearest : ∀ (s : List Nat) (p : List Int), specPos .nearest s p = some (clampPos s p)
  | [], [] | [], _ :: _ | _ :: _, [] => rfl
  | d :: ds, x :: xs => by rw [specPos, specPos_nearest ds xs]; rfl

theorem fixOffset_inside (m : Mode) (cc len : Int) (h0 : 0 ≤ cc) (h1 : cc < len) :
    fixOffset m cc len = some cc := by
  have h2 : ¬ cc < 0 := Int.not_lt.2 h0
  have h3 : ¬ cc ≥ len := Int.not_le.2 h1
  cases m <;> simp [fixOffset, h2, h3]

theorem borderSpec_inside (m : Mode) (cc len : Int) (h0 : 0 ≤ cc) (h1 : cc < len) :
    borderSpec m cc len = some cc := by
  rw [← fixOffset_eq_spec m cc len (Int.lt_of_le_of_lt h0 h1)]
  exact fixOffset_inside m cc len h0 h1

theorem borderSpec_range (m : Mode) (cc len : Int) (h : 0 < len) :
    ∀ r, borderSpec m cc len = some r → 0 ≤ r ∧ r < len := by
  intro r hr
  cases m <;> simp only [borderSpec, wrapSpec, reflectSpec, mirrorSpec] at hr
  · cases hr; exact clampSpec_range cc len h
  · cases hr; exact ⟨Int.emod_nonneg _ (by omega), Int.emod_lt_of_pos _ h⟩
  · have h0 := Int.emod_nonneg cc (show (2 * len) ≠ 0 by omega)
    have h1 := Int.emod_lt_of_pos cc (show 0 < 2 * len by omega)
    split at hr <;> cases hr <;> omega
  · by_cases hl : len ≤ 1
    · simp only [hl, if_true] at hr; cases hr; omega
    · simp only [hl, if_false] at hr
      have h0 := Int.emod_nonneg cc (show (2 * len - 2) ≠ 0 by omega)
      have h1 := Int.emod_lt_of_pos cc (show 0 < 2 * len - 2 by omega)
      split at hr <;> cases hr <;> omega
  · split at hr
    · cases hr; omega
    · cases hr
  · split at hr
    · cases hr; omega
    · cases hr

theorem fixOffset_range (m : Mode) (cc len : Int) (h : 0 < len) :
    ∀ r, fixOffset m cc len = some r → 0 ≤ r ∧ r < len := by
  rw [fixOffset_eq_spec m cc len h]; exact borderSpec_range m cc len h

theorem fixPos_eq_specPos (m : Mode) (shape : List Nat) (p : List Int) (hs : ∀ d ∈ shape, 0 < d) :
    fixPos m shape p = specPos m shape p := by
  induction shape generalizing p with
  | nil => cases p <;> simp [fixPos, specPos]
  | cons d ds ih =>
    cases p with
    | nil => simp [fixPos, specPos]
    | cons c cs =>
      have hd : (0 : Int) < d := Int.natCast_pos.2 (hs d List.mem_cons_self)
      simp only [fixPos, specPos]
      rw [fixOffset_eq_spec m c d hd, ih cs (fun d hd => hs d (List.mem_cons_of_mem _ hd))]

/-! ### positions inside the array, and the clamp -/

theorem C01.fixPos_nearest (shape : List Nat) (q : List Int) (hs : ∀ d ∈ shape, 0 < d) :
    fixPos .nearest shape q = some (clampPos shape q) := by
  rw [fixPos_eq_specPos _ _ _ hs, specPos_nearest]

/-- inside the array every border rule is the identity -/
theorem C01.specPos_of_inside (m : Mode) (s : List Nat) (p : List Int) (h : inside s p = true) :
    specPos m s p = some p :=
  C01.inside_induction (P := fun s p => specPos m s p = some p) rfl
    (fun d ds c cs h0 h1 _ ih => by rw [specPos, borderSpec_inside m c d h0 h1, ih]) s p h

theorem C01.clampPos_of_inside (s : List Nat) (p : List Int) (h : inside s p = true) :
    clampPos s p = p :=
  Option.some.inj ((specPos_nearest s p).symm.trans (C01.specPos_of_inside .nearest s p h))

theorem C01.clampPos_inside (s : List Nat) (p : List Int) (hs : ∀ d ∈ s, 0 < d)
    (hl : s.length ≤ p.length) : inside s (clampPos s p) = true := by
  induction s generalizing p with
  | nil => cases p <;> simp [clampPos, inside]
  | cons d ds ih =>
    cases p with
    | nil => simp at hl
    | cons c cs =>
      rw [clampPos, C01.inside_cons]
      exact ⟨clampSpec_range c d (by have := hs d (by simp); omega),
        ih cs (fun d hd => hs d (by simp [hd])) (by simpa using hl)⟩

theorem C01.clampPos_addPos_inside (shape : List Nat) (p k : List Int) (hp : inside shape p = true)
    (hk : k.length = shape.length) : inside shape (clampPos shape (addPos p k)) = true :=
  C01.clampPos_inside shape _ (C01.inside_dims_pos shape p hp)
    (by rw [C01.addPos_length, C01.inside_length hp, hk, Nat.min_self]; exact Nat.le_refl _)

/-- two inside positions are told apart by their flat index; the clamp of any position of sufficient rank is one -/
theorem C01.ravelI_clampPos_eq_iff (shape : List Nat) (t q : List Int) (hl : shape.length ≤ t.length)
    (hq : inside shape q = true) :
    ravelI shape (clampPos shape t) = ravelI shape q ↔ clampPos shape t = q :=
  ⟨C01.ravelI_inj shape _ q (C01.clampPos_inside shape t (C01.inside_dims_pos shape q hq) hl) hq, fun h => by rw [h]⟩

theorem fixPos_of_inside (m : Mode) (s : List Nat) (p : List Int) (h : inside s p = true) :
    fixPos m s p = some p := by
  rw [fixPos_eq_specPos m s p (C01.inside_dims_pos s p h), C01.specPos_of_inside m s p h]

/-! ### the n-D rule, coordinate by coordinate

`fixPos` applies `fixOffset` to each coordinate and fails when one of them does (`fixPos_cons_some`). What it returns for
a position of the array's rank has that rank and lies inside the array; it returns something exactly when the mode extends
the array (every mode but `constant`, `ignore`) or the position already lies inside. On a position shorter or longer than the
shape `fixPos` stops at the shorter of the two (`| _, _ => some []`): hence `q.length = s.length` in every lemma. -/

theorem fixPos_cons_some (m : Mode) (d : Nat) (ds : List Nat) (x : Int) (xs r : List Int) :
    fixPos m (d :: ds) (x :: xs) = some r ↔
      ∃ c cs, fixOffset m x d = some c ∧ fixPos m ds xs = some cs ∧ r = c :: cs := by
  rw [fixPos]
  cases fixOffset m x d with
  | none => simp
  | some c =>
    cases fixPos m ds xs with
    | none => simp
    | some cs => simp [eq_comm]

theorem fixPos_length (m : Mode) : ∀ (s : List Nat) (q r : List Int),
    q.length = s.length → fixPos m s q = some r → r.length = s.length
  | [], [], _, _, h => by cases h; rfl
  | [], _ :: _, _, hl, _ | _ :: _, [], _, hl, _ => by simp at hl
  | d :: ds, x :: xs, r, hl, h => by
    obtain ⟨c, cs, _, h2, rfl⟩ := (fixPos_cons_some m d ds x xs r).1 h
    rw [List.length_cons, List.length_cons, fixPos_length m ds xs cs (Nat.succ.inj hl) h2]

/-- F5, n-D: what the offset table holds for a position of the array's rank is a position inside the array -/
theorem inside_fixPos (m : Mode) : ∀ (s : List Nat) (q r : List Int), (∀ d ∈ s, 0 < d) →
    q.length = s.length → fixPos m s q = some r → inside s r = true
  | [], [], _, _, _, h => by cases h; rfl
  | [], _ :: _, _, _, hl, _ | _ :: _, [], _, _, hl, _ => by simp at hl
  | d :: ds, x :: xs, r, hs, hl, h => by
    obtain ⟨c, cs, h1, h2, rfl⟩ := (fixPos_cons_some m d ds x xs r).1 h
    exact (C01.inside_cons d ds c cs).2 ⟨fixOffset_range m x d (Int.natCast_pos.2 (hs d List.mem_cons_self)) c h1,
      inside_fixPos m ds xs cs (fun e he => hs e (List.mem_cons_of_mem _ he)) (Nat.succ.inj hl) h2⟩

theorem inside_specPos (m : Mode) (s : List Nat) (q r : List Int) (hs : ∀ d ∈ s, 0 < d)
    (hl : q.length = s.length) (h : specPos m s q = some r) : inside s r = true :=
  inside_fixPos m s q r hs hl ((fixPos_eq_specPos m s q hs).trans h)

theorem fixOffset_isSome_iff (m : Mode) (cc len : Int) :
    (fixOffset m cc len).isSome = true ↔ ((m ≠ .constant ∧ m ≠ .ignore) ∨ (0 ≤ cc ∧ cc < len)) := by
  cases m with
  | constant | ignore =>
    simp only [fixOffset, ne_eq, not_true_eq_false, false_and, and_false, false_or]
    split <;> simp only [Option.isSome_none, Option.isSome_some, Bool.false_eq_true, false_iff, true_iff] <;> omega
  | _ =>
    simp only [fixOffset, apply_ite Option.isSome, Option.isSome_some, ite_self, ne_eq, reduceCtorEq, not_false_eq_true,
      and_self, true_or]

theorem fixPos_isSome_cons (m : Mode) (d : Nat) (ds : List Nat) (a : Int) (ps : List Int) :
    (fixPos m (d :: ds) (a :: ps)).isSome = ((fixOffset m a d).isSome && (fixPos m ds ps).isSome) := by
  rw [fixPos]
  cases fixOffset m a d <;> cases fixPos m ds ps <;> rfl

theorem fixPos_isSome_iff (m : Mode) : ∀ (s : List Nat) (p : List Int), p.length = s.length →
    ((fixPos m s p).isSome = true ↔ ((m ≠ .constant ∧ m ≠ .ignore) ∨ inside s p = true))
  | [], [], _ => iff_of_true rfl (Or.inr rfl)
  | [], _ :: _, hp | _ :: _, [], hp => absurd hp (by simp)
  | d :: ds, a :: ps, hp => by
    rw [fixPos_isSome_cons, Bool.and_eq_true, fixOffset_isSome_iff, fixPos_isSome_iff m ds ps (Nat.succ.inj hp),
      C01.inside_cons, ← or_and_left]

theorem fixPos_isSome_of_extending (m : Mode) (hc : m ≠ .constant) (hi : m ≠ .ignore) :
    ∀ (s : List Nat) (p : List Int), (fixPos m s p).isSome = true
  | [], _ => rfl
  | _ :: _, [] => rfl
  | d :: ds, a :: ps => by
    rw [fixPos_isSome_cons, (fixOffset_isSome_iff m a d).2 (Or.inl ⟨hc, hi⟩), fixPos_isSome_of_extending m hc hi ds ps]
    rfl

/-! ### the specification's n-D rule, coordinate by coordinate -/

theorem specPos_cons_some (m : Mode) (d : Nat) (ds : List Nat) (x : Int) (xs r : List Int)
    (h : specPos m (d :: ds) (x :: xs) = some r) :
    ∃ c cs, borderSpec m x d = some c ∧ specPos m ds xs = some cs ∧ r = c :: cs := by
  rw [specPos] at h
  cases hb : borderSpec m x d <;> cases hr : specPos m ds xs <;> simp only [hb, hr] at h <;> cases h
  exact ⟨_, _, rfl, rfl, rfl⟩

/-- `specPos` stops at the shorter of shape and position: coordinates beyond the rank are not looked at -/
theorem specPos_take (m : Mode) : ∀ (s : List Nat) (p : List Int), specPos m s (p.take s.length) = specPos m s p
  | [], p => by cases p <;> rfl
  | _ :: _, [] => rfl
  | d :: ds, x :: xs => by simp only [List.length_cons, List.take_succ_cons, specPos, specPos_take m ds xs]

/-! ### the two modes that do not extend the array -/

theorem fixPos_ignore_constant : ∀ (s : List Nat) (p : List Int), fixPos .ignore s p = fixPos .constant s p
  | [], [] | [], _ :: _ | _ :: _, [] => rfl
  | d :: ds, a :: ps => by simp only [fixPos, fixOffset, fixPos_ignore_constant ds ps]

theorem fixPos_constant_eq (s : List Nat) (p : List Int) (hl : p.length = s.length) :
    fixPos .constant s p = if inside s p = true then some p else none := by
  split
  · next h => exact fixPos_of_inside .constant s p h
  · next h =>
    exact Option.not_isSome_iff_eq_none.1 fun hs =>
      h (((fixPos_isSome_iff .constant s p hl).1 hs).resolve_left fun hm => hm.1 rfl)

theorem fixPos_ignore_eq (s : List Nat) (p : List Int) (hl : p.length = s.length) :
    fixPos .ignore s p = if inside s p = true then some p else none := by
  rw [fixPos_ignore_constant, fixPos_constant_eq s p hl]

end Mahotas
