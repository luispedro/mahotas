/-
C10 — B8, the in-place Graham scan (`_convex.cpp`): all indices stay inside the `size` points, whatever `isLeft` answers.

During a scan the stack height stays in `[1, i]` (`ghPop_spec`), so `P[h-2]`, `P[h-1]`, `P[i]` and the swaps stay inside
(`ghScan_spec`).
-/
import Mahotas.Proofs.C10
namespace Mahotas.C10
open Mahotas

theorem ghPop_spec (cmp : Nat → Nat → Bool) (base size : Int) (i : Nat) (hb : 0 ≤ base)
    (hi : base + (i : Int) < size) :
    ∀ h : Nat, h ≤ i → (∀ a ∈ (ghPop cmp base size i h).1, AccOk a) ∧
      (ghPop cmp base size i h).2 ≤ h ∧ (1 ≤ h → 1 ≤ (ghPop cmp base size i h).2)
  | 0, _ => by simp [ghPop]
  | 1, _ => by simp [ghPop]
  | h + 2, hh => by
    have ih := ghPop_spec cmp base size i hb hi (h + 1) (by omega)
    have hhere : ∀ a ∈ [Acc.mk (base + (h : Nat)) size, Acc.mk (base + ((h + 1 : Nat) : Int)) size,
        Acc.mk (base + (i : Int)) size], AccOk a := by
      simp only [acc_forall, AccOk]
      omega
    simp only [ghPop]
    split
    · exact ⟨List.forall_mem_append.2 ⟨hhere, ih.1⟩, by have := ih.2.1; simp only; omega,
        fun _ => by simpa using ih.2.2 (by omega)⟩
    · exact ⟨hhere, Nat.le_refl _, fun _ => by simp⟩

/-- `1 ≤ c → 2 ≤ result`: every step ends with a push onto a stack of height `≥ 1`; `grahamRun` starts its second scan at
`P + h - 2` and needs `2 ≤ h` of the first. -/
theorem ghScan_spec (cmp : Nat → Nat → Bool) (base size : Int) (hb : 0 ≤ base) :
    ∀ (c i h : Nat), 1 ≤ h → h ≤ i → base + (i : Int) + (c : Int) ≤ size →
      (∀ a ∈ (ghScan cmp base size c i h).1, AccOk a) ∧ 1 ≤ (ghScan cmp base size c i h).2 ∧
      (1 ≤ c → 2 ≤ (ghScan cmp base size c i h).2) ∧ (ghScan cmp base size c i h).2 ≤ i + c
  | 0, i, h, h1, hi, _ => by simp [ghScan]; omega
  | c + 1, i, h, h1, hi, hN => by
    have hp := ghPop_spec cmp base size i hb (by omega) h hi
    have hr1 := hp.2.2 h1
    have ih := ghScan_spec cmp base size hb c (i + 1) ((ghPop cmp base size i h).2 + 1) (by omega)
      (by have := hp.2.1; omega) (by push_cast; omega)
    simp only [ghScan]
    refine ⟨?_, ih.2.1, fun _ => ?_, by have := ih.2.2.2; omega⟩
    · simp only [acc_forall, AccOk]
      exact ⟨⟨hp.1, by have := hp.2.1; omega, by omega⟩, ih.1⟩
    · cases c with
      | zero => simp only [ghScan]; omega
      | succ c' => exact ih.2.2.1 (by omega)

end Mahotas.C10
