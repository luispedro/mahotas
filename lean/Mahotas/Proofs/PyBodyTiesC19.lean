/-
Tie between the body of `features/moments.py: moments` (regenerated on every run into `Generated/PyBodiesC19.lean`) and
`C19.momentsFull` (every option), hence `C19.moments`, the definition the driver runs for the kind `moments`.
-/
import Mahotas.Generated.PyBodiesC19
import Mahotas.Model.C19
import Mahotas.Proofs.C19Moments

namespace Mahotas
open Mahotas.Generated.Py Mahotas.C19

section moments
variable {K : Type} [Add K] [Sub K] [Mul K] [Div K] [OfNat K 0] [OfNat K 1]

/-- dot product of two lists (the shorter one decides) -/
def pyDot : List K → List K → K
  | x :: xs, y :: ys => x * y + pyDot xs ys
  | _, _ => 0

/-- the primitives of `moments` on a list of rows: `r, c = img.shape` (the row length is that of the first row),
    `np.dot(img, p)` = one dot product per row, `np.dot(u, v)` = the dot product -/
abbrev c19MomentPrims : MomentPrims K where
  shape_rows := fun m => m.length
  shape_cols := fun m => (m.headD []).length
  dot_mv := fun m p => m.map fun r => pyDot r p
  dot_vv := pyDot

omit [Add K] [Sub K] [Div K] [OfNat K 0] in
theorem pybody_pyPowN_eq (x : K) : ∀ n, pyPowN (1 : K) x n = powN x n
  | 0 => rfl
  | n + 1 => by simp [pyPowN, powN, pybody_pyPowN_eq x n]

omit [Sub K] [Div K] [OfNat K 1] in
theorem pybody_pyDot_eq_dotList : ∀ xs ys : List K, pyDot xs ys = dotList xs ys
  | [], _ => by simp [pyDot, dotList]
  | _ :: _, [] => by simp [pyDot, dotList]
  | x :: xs, y :: ys => by simp only [pyDot, dotList, pybody_pyDot_eq_dotList xs ys]

/-- **all of `features.moments.moments` = `C19.momentsFull`**, whatever the shape of the rows, the centre `cm` (given or
    `None`) and the two spellings of the normalisation flag; `r, c = img.shape` are the number of rows and the length of the
    first row. (`x ** n` is read as the repeated product, like the model's `powN`; the embedding sends 1 to 1, and 0 to 0
    where the weights are summed.) -/
theorem pybody_features_moments_moments_eq_momentsFull (cast : Nat → K) (ofInt : Int → K) (flit : Nat → Nat → K)
    (h1 : cast 1 = 1) (rows : List (List K)) (p0 p1 : Nat) (cm : Option (K × K)) (ctf nz nz' : Bool)
    (h0 : (nz || nz') = true → cast 0 = 0) :
    features_moments_moments cast ofInt flit c19MomentPrims rows p0 p1 cm ctf nz nz'
      = momentsFull cast rows.length (rows.headD []).length rows p0 p1 cm (nz || nz') := by
  have hn : (if nz' = true then true else nz) = (nz || nz') := by cases nz <;> cases nz' <;> rfl
  simp only [features_moments_moments, hn]
  generalize (nz || nz') = b at h0 ⊢
  cases cm <;> cases b <;>
    simp [momentsFull, momentWeights, gsum, h0, h1, pybody_pyPowN_eq, pybody_pyDot_eq_dotList, List.map_map,
      Function.comp_def]

/-- **`features.moments.moments` = `C19.moments`** for a rectangular image, a given centre `cm = (c0, c1)`
    and no normalisation: `np.dot(np.dot(img, (arange(c) − c1)**p1), (arange(r) − c0)**p0)` — which of `cm[0]` / `cm[1]`,
    `p0` / `p1` goes with rows / columns, the subtraction before the power, columns first. (`x ** n` is read as the repeated
    product, like the model's `powN`; the embedding sends 1 to 1.) -/
theorem pybody_features_moments_moments_eq_model (cast : Nat → K) (ofInt : Int → K) (flit : Nat → Nat → K)
    (h1 : cast 1 = 1) (rows : List (List K)) (hrect : ∀ row ∈ rows, row.length = (rows.headD []).length)
    (p0 p1 : Nat) (c0 c1 : K) (ctf : Bool) :
    features_moments_moments cast ofInt flit c19MomentPrims rows p0 p1 (some (c0, c1)) ctf false false
      = moments cast rows p0 p1 c0 c1 := by
  rw [pybody_features_moments_moments_eq_momentsFull cast ofInt flit h1 rows p0 p1 _ ctf false false (by simp)]
  exact Machine.momentsFull_eq_moments cast _ _ rows p0 p1 c0 c1 rfl hrect

end moments

/-- non-vacuity (integers): `Σ img[i][j]·i·j` of `[[1,2],[3,4]]` is 4, about the centre (1, 0) with powers (1, 0) it is
    `−(1+2) + 0·(3+4) = −3`; `normalise=True` switches the normalisation on (the weights `[0, 1]` are divided by their sum 1),
    and without a centre nothing is subtracted -/
example : features_moments_moments (fun n => (n : Int)) id (fun m _ => m) c19MomentPrims [[1, 2], [3, 4]] 1 1 (some (0, 0)) true false false = 4 ∧
    features_moments_moments (fun n => (n : Int)) id (fun m _ => m) c19MomentPrims [[1, 2], [3, 4]] 1 0 (some (1, 0)) true false false = -3 ∧
    features_moments_moments (fun n => (n : Int)) id (fun m _ => m) c19MomentPrims [[1, 2], [3, 4]] 1 1 none true false true = 4 ∧
    moments (fun n => (n : Int)) [[1, 2], [3, 4]] 1 0 1 0 = -3 := by decide
end Mahotas
