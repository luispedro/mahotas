/-
C17 — the row identity with residuals, `iwaveletRow cs N (waveletRow cs N f) x = f x + errRow cs N f x`, for the filter
lengths `2 … 20` of the generated tables and NO hypothesis on the coefficients: the instance of `rowIdentity_general`.
-/
import Mahotas.Proofs.C17General
namespace Mahotas.C17
open Mahotas

variable {K : Type} [Field K]

theorem rowIdentity_list (h2 : (2 : K) ≠ 0) (cs : List K) (hl : cs.length ∈ errLengths) : RowIdentity cs :=
  rowIdentity_general h2 cs (even_of_mem_errLengths hl).1 (even_of_mem_errLengths hl).2

end Mahotas.C17
