/-
Tie between the body of `thresholding.py: rc` (regenerated on every run into `Generated/PyBodiesC16.lean`, its two `while`
loops under the reviewed fuel `N = hist.size`) and `C16.rcImg`, the Riddler–Calvard model the driver runs.
-/
import Mahotas.Generated.PyBodiesC16
import Mahotas.Proofs.C16Rc
import Mahotas.Proofs.C16Zeros

namespace Mahotas
open Mahotas.Generated.Py Mahotas.C16

/-- `np.flipud(np.cumsum(np.flipud(l)))[i] = Σ_{j ≥ i} l[j]` -/
theorem pybody_rcumsum_getD (l : List Nat) (i : Nat) (hi : i < l.length) :
    ((cumsum l.reverse 0).reverse).getD i 0 = ∑ j ∈ Finset.Ico i l.length, l.getD j 0 := by
  have hlen : (cumsum l.reverse 0).length = l.length := by rw [cumsum_length, List.length_reverse]
  rw [List.getD_eq_getElem?_getD, List.getElem?_reverse (by omega), ← List.getD_eq_getElem?_getD, hlen,
    cumsum_getD_sum _ _ _ (by rw [List.length_reverse]; omega), Nat.zero_add,
    show l.length - 1 - i + 1 = l.length - i by omega, Finset.sum_Ico_eq_sum_range, ← Finset.sum_range_reflect]
  refine Finset.sum_congr rfl fun j hj => ?_
  have := Finset.mem_range.1 hj
  rw [List.getD_eq_getElem?_getD, List.getElem?_reverse (by omega), ← List.getD_eq_getElem?_getD]
  congr 1
  omega

theorem pybody_weighted_eq (l : List Nat) :
    List.zipWith (fun a b => a * b) (List.range l.length) l = weighted l := by
  unfold weighted
  rw [List.zipIdx_eq_zip_range', List.range_eq_range', List.zip_eq_zipWith, List.map_zipWith, List.zipWith_comm]

/-- Python indexing of an integer array by a Python int: negative indices count from the end -/
def pyGetItem (h : List Nat) (i : Int) : Int :=
  if i < 0 then ((h.getD (h.length - (-i).toNat) 0 : Nat) : Int) else ((h.getD i.toNat 0 : Nat) : Int)

theorem pyGetItem_nat (h : List Nat) (t : Nat) : pyGetItem h (t : Int) = ((h.getD t 0 : Nat) : Int) := by
  simp [pyGetItem]

/-- histogram = list of counts; `np.cumsum` = the model's `cumsum · 0`; `np.flipud` = reverse; `np.arange(N)` = `0 … N-1`;
    `*` elementwise; `h[i]` Python indexing; `.size` = length -/
abbrev c16RcPrimsH (fh : List Nat → List Nat) : RcPrims ℚ (List Nat) (List Nat) where
  fullhistogram := fh
  setitem := fun h i v => h.set i v
  getitem := pyGetItem
  size := List.length
  img_size := List.length
  cumsum := fun h => cumsum h 0
  flipud := List.reverse
  arange := List.range
  mul := List.zipWith (fun a b => a * b)

/-- … and `fullhistogram` = the model's histogram (as a list) -/
abbrev c16RcPrims : RcPrims ℚ (List Nat) (List Nat) := c16RcPrimsH fun img => (fullhistogram img).toList

/-- `while hist[maxt] == 0: maxt -= 1` from `L + d` down to a non-zero bin `L` above which all bins are zero -/
theorem pybody_whileFuel_down (hist : List Nat) (L : Nat) (hL : hist.getD L 0 ≠ 0) :
    ∀ (d fuel : Nat), d ≤ fuel → (∀ j, L < j → j ≤ L + d → hist.getD j 0 = 0) →
      whileFuel fuel (fun m : Int => decide (pyGetItem hist m = 0)) (fun m => m - 1) ((L + d : Nat) : Int) = (L : Int)
  | 0, fuel, _, _ => by
    have hc : decide (pyGetItem hist ((L + 0 : Nat) : Int) = 0) = false :=
      decide_eq_false (by rw [pyGetItem_nat]; exact_mod_cast hL)
    cases fuel with
    | zero => rfl
    | succ f => rw [whileFuel]; simp only [hc, Bool.false_eq_true, if_false]; rfl
  | d + 1, 0, h, _ => by omega
  | d + 1, fuel + 1, h, hz => by
    have h0 : hist.getD (L + (d + 1)) 0 = 0 := hz _ (by omega) (by omega)
    have e : ((L + (d + 1) : Nat) : Int) - 1 = ((L + d : Nat) : Int) := by push_cast; omega
    rw [whileFuel]
    simp only [pyGetItem_nat, h0, Nat.cast_zero, decide_true, if_true]
    rw [e]
    exact pybody_whileFuel_down hist L hL d fuel (by omega) (fun j a b => hz j a (by omega))

/-- the first loop of `rc` finds the model's `lastNonzero` (and stops there: the fuel `N` is not exhausted) -/
theorem pybody_rc_maxt (hist : List Nat) (hne : ∃ v ∈ hist, v ≠ 0) (c : Int → Bool)
    (hc : ∀ m, c m = decide (pyGetItem hist m = 0)) :
    whileFuel hist.length c (fun m => m - 1) ((hist.length : Int) - 1) = (lastNonzero hist : Int) := by
  obtain rfl : c = fun m => decide (pyGetItem hist m = 0) := funext hc
  obtain ⟨hL, hz⟩ := lastNonzero_spec hist hne
  have hlt : lastNonzero hist < hist.length := hi_lt_length hist hne
  have e : ((hist.length : Int) - 1) = ((lastNonzero hist + (hist.length - 1 - lastNonzero hist) : Nat) : Int) := by
    omega
  rw [e]
  refine pybody_whileFuel_down hist _ (by simpa [hOf_eq] using hL) _ _ (by omega) ?_
  intro j hj _
  simpa [hOf_eq] using hz j hj

/-- the second loop of `rc` (state `(res, t)`) is the model's `rcLoop` over `t, t+1, …` -/
theorem pybody_whileFuel_rcLoop (cum rcum fm rfm : Nat → Nat) (L : Nat) (c : ℚ × Nat → Bool) (b : ℚ × Nat → ℚ × Nat)
    (hc : ∀ res t, c (res, t) = decide (t < L ∧ (t : ℚ) < res))
    (hb : ∀ res t, t < L → b (res, t) =
      ((if cum t ≠ 0 ∧ rcum (t + 1) ≠ 0 then
          ((fm t : ℚ) / (cum t : ℚ) + (rfm (t + 1) : ℚ) / (rcum (t + 1) : ℚ)) / ((2 : ℕ) : ℚ) else res), t + 1)) :
    ∀ (k t : Nat) (res : ℚ),
      (whileFuel k c b (res, t)).1 = rcLoop ratCast cum rcum fm rfm L (List.range' t k) res
  | 0, t, res => by simp [whileFuel, rcLoop_nil]
  | k + 1, t, res => by
    rw [List.range'_succ, rcLoop_cons, whileFuel, hc]
    by_cases h : t < L ∧ (t : ℚ) < res
    · simp only [h, and_self, decide_true, if_true]
      rw [hb res t h.1]
      exact pybody_whileFuel_rcLoop cum rcum fm rfm L c b hc hb k (t + 1) _
    · simp only [h, decide_false, Bool.false_eq_true, if_false]

/-- the four array reads of the loop body are the model's class sums (for `t < lastNonzero hist`) -/
theorem pybody_rc_reads (hist : List Nat) (t : Nat) (ht : t + 1 < hist.length) :
    pyGetItem (cumsum hist 0) (t : Int) = (nBOf hist t : Int) ∧
    pyGetItem (cumsum hist.reverse 0).reverse ((t + 1 : Nat) : Int) = (rcumOf hist (t + 1) : Int) ∧
    pyGetItem (cumsum (List.zipWith (fun a b => a * b) (List.range hist.length) hist) 0) (t : Int) = (sBOf hist t : Int) ∧
    pyGetItem (cumsum (List.zipWith (fun a b => a * b) (List.range hist.length) hist).reverse 0).reverse
        ((t + 1 : Nat) : Int) = (rfmOf hist (t + 1) : Int) := by
  have hw := weighted_length hist
  refine ⟨?_, ?_, ?_, ?_⟩
  · rw [pyGetItem_nat, nBOf_eq]
  · rw [pyGetItem_nat, pybody_rcumsum_getD hist (t + 1) ht, rcumOf_succ, nOOf_sum hist (by omega)]
    simp only [hOf_eq]
  · rw [pyGetItem_nat, pybody_weighted_eq, sBOf_eq]
  · rw [pyGetItem_nat, pybody_weighted_eq, pybody_rcumsum_getD (weighted hist) (t + 1) (by omega), hw, rfmOf_succ,
      sOOf_sum hist (by omega)]
    simp only [hOf_eq, weighted_getD]

/-- the body of `rc` after the `ignore_zeros` prologue, on a histogram with a non-zero bin: `rcGen` -/
theorem pybody_rc_tail (hist : List Nat) (flit : Nat → Nat → ℚ) (hne : ∃ v ∈ hist, v ≠ 0) :
    thresholding_rc (K := ℚ) (fun n => (n : ℚ)) (fun z => (z : ℚ)) flit
      (c16RcPrimsH fun _ => hist) ([] : List Nat) false = rcGen ratCast hist := by
  have hlt : lastNonzero hist < hist.length := hi_lt_length hist hne
  simp only [thresholding_rc, Bool.false_eq_true, if_false]
  rw [pybody_rc_maxt hist hne _ (fun m => by congr)]
  simp only [Int.cast_natCast]
  rw [rcGen_eq, List.range_eq_range']
  refine pybody_whileFuel_rcLoop _ _ _ _ _ _ _ ?_ ?_ _ _ _
  · intro res t
    simp only []
    by_cases h : res < (lastNonzero hist : ℚ)
    · simp only [h, if_true]
      congr 1; apply propext
      exact ⟨fun h' => ⟨by exact_mod_cast lt_trans h' h, h'⟩, fun h' => h'.2⟩
    · simp only [h, if_false]
      congr 1; apply propext
      exact ⟨fun h' => ⟨by exact_mod_cast h', lt_of_lt_of_le h' (not_lt.mp h)⟩, fun h' => by exact_mod_cast h'.1⟩
  · intro res t ht
    obtain ⟨e1, e2, e3, e4⟩ := pybody_rc_reads hist t (by omega)
    rw [List.range_eq_range'] at e3 e4
    simp only [e1, e2, e3, e4, Int.cast_natCast, Bool.and_eq_true, decide_eq_true_eq, ne_eq, Nat.cast_eq_zero]

/-- `thresholding.rc` (both `while` loops under the fuel `N = hist.size`) = `C16.rcImg` at the exact
    (rational) arithmetic, for every image on which the Python body does not run off the histogram: either the early
    `return 0` is taken (`ignore_zeros` and every pixel is 0) or the histogram handed to the loops has a non-zero bin
    (`pybody_rc_guard`: every non-empty image). Fixes: the `ignore_zeros` prologue, prefix and reversed suffix sums of
    `hist` and `arange(N)·hist`, the downward search for the last non-zero bin, the stopping rule
    `t < min(maxt, res)`, the test `cumsum[t] and r_cumsum[t+1]`, the midpoint formula and `t += 1`. -/
theorem pybody_thresholding_rc_eq_model (img : List Nat) (iz : Bool) (flit : Nat → Nat → ℚ)
    (hne : (iz = true ∧ (fullhistogram img).getD 0 0 = img.length) ∨ ∃ v ∈ histOf img iz, v ≠ 0) :
    thresholding_rc (K := ℚ) (fun n => (n : ℚ)) (fun z => (z : ℚ)) flit c16RcPrims img iz = rcImg ratCast img iz := by
  cases iz
  · have h := pybody_rc_tail (histOf img false) flit (hne.elim (fun h => absurd h.1 (by simp)) id)
    simp only [rcImg, Bool.false_and, Bool.false_eq_true, if_false]
    rw [← h]
    rfl
  · have hg : pyGetItem (fullhistogram img).toList 0 = (((fullhistogram img).getD 0 0 : Nat) : Int) := by
      have := pyGetItem_nat (fullhistogram img).toList 0
      simpa using this
    simp only [thresholding_rc, rcImg, Bool.true_and, if_true, hg]
    by_cases h0 : (fullhistogram img).getD 0 0 = img.length
    · simp [h0, ratCast]
    · have h := pybody_rc_tail (histOf img true) flit (hne.elim (fun h => absurd h.2 h0) id)
      have h0' : ¬ ((((fullhistogram img).getD 0 0 : Nat) : Int) = ((img.length : Nat) : Int)) := by exact_mod_cast h0
      simp only [h0', decide_false, Bool.false_eq_true, if_false, beq_iff_eq, h0]
      rw [← h]
      rfl

/-- the guard of `pybody_thresholding_rc_eq_model` holds for every non-empty image -/
theorem pybody_rc_guard (img : List Nat) (iz : Bool) (himg : img ≠ []) :
    (iz = true ∧ (fullhistogram img).getD 0 0 = img.length) ∨ ∃ v ∈ histOf img iz, v ≠ 0 := by
  by_cases h : ∃ x ∈ img, ¬ (iz = true ∧ x = 0)
  · obtain ⟨x, hx, hn⟩ := h
    exact Or.inr (hne_of_hOf (hOf_histOf_ne_zero.2 ⟨hx, hn⟩))
  · -- every pixel is a zero that is not counted
    have hall : ∀ x ∈ img, iz = true ∧ x = 0 := fun x hx => not_not.1 fun hn => h ⟨x, hx, hn⟩
    obtain ⟨x, hx⟩ := List.exists_mem_of_ne_nil img himg
    exact Or.inl ⟨(hall x hx).1, by
      rw [fullhistogram_count]; exact List.count_eq_length.2 fun b hb => ((hall b hb).2).symm⟩

/-- non-vacuity: the guard holds on a concrete image whose histogram `[1, 2, 0, 1]` has an empty bin below the last
    occupied one (the downward search stops at 3 at once; with bin 0 cleared the histogram is `[0, 2, 0, 1]`) -/
example : (∃ v ∈ histOf [0, 1, 1, 3] false, v ≠ 0) ∧ lastNonzero (histOf [0, 1, 1, 3] false) = 3 ∧
    histOf [0, 1, 1, 3] true = [0, 2, 0, 1] := by decide

end Mahotas
