/-
C18 — the one-pole recursive prefilter (`causal`, `anticausalRev`, `onePole` of `Model/C18.lean`)
inverts the sampled B-spline at every sample but the first, for any initial value of the causal pass; two such
passes in a row (orders 4 and 5) give the five-tap equations away from the start of the line.
-/
import Mahotas.Model.C18
import Mathlib.Tactic.Ring
import Mathlib.Tactic.FieldSimp
import Mathlib.Tactic.LinearCombination
import Mathlib.Tactic.NormNum
namespace Mahotas.C18
open Mahotas

variable {K : Type} [Field K]

theorem onePole_step (z c0 : K) (n : Nat) (s : Nat → K) (k : Nat) (hk : k + 2 ≤ n) :
    onePole z c0 n s k = z * (onePole z c0 n s (k + 1) - causal z c0 s k) := by
  rw [onePole, onePole, show n - 1 - k = n - 1 - (k + 1) + 1 by omega, anticausalRev,
    show n - 2 - (n - 1 - (k + 1)) = k by omega]

theorem onePole_end (z c0 : K) (n : Nat) (s : Nat → K) :
    onePole z c0 n s (n - 1) = z / (z * z - 1) * (causal z c0 s (n - 1) + z * causal z c0 s (n - 2)) := by
  rw [onePole, Nat.sub_self, anticausalRev, Nat.cast_one]

theorem onePole_interior (z lam c0 : K) (hz : z * z + lam * z + 1 = 0) (n : Nat) (s : Nat → K)
    (k : Nat) (h1 : 1 ≤ k) (h2 : k + 2 ≤ n) :
    onePole z c0 n s (k - 1) + lam * onePole z c0 n s k + onePole z c0 n s (k + 1) = s k := by
  obtain ⟨k, rfl⟩ := Nat.exists_eq_add_of_le' h1
  rw [Nat.add_sub_cancel, onePole_step z c0 n s k (by omega), onePole_step z c0 n s (k + 1) h2, causal]
  linear_combination (onePole z c0 n s (k + 1 + 1) - (s (k + 1) + z * causal z c0 s k)) * hz

/-- the last sample, with the mirror boundary `c[n] = c[n−2]`: `2·c[n−2] + λ·c[n−1] = s[n−1]` -/
theorem onePole_last (z lam c0 : K) (hz : z * z + lam * z + 1 = 0) (hz1 : z * z - 1 ≠ 0) (n : Nat)
    (hn : 2 ≤ n) (s : Nat → K) :
    2 * onePole z c0 n s (n - 2) + lam * onePole z c0 n s (n - 1) = s (n - 1) := by
  obtain ⟨m, rfl⟩ := Nat.exists_eq_add_of_le' hn
  have e := onePole_end z c0 (m + 2) s
  rw [div_mul_eq_mul_div, eq_div_iff hz1] at e
  rw [show m + 2 - 2 = m from rfl, show m + 2 - 1 = m + 1 from rfl] at e ⊢
  rw [onePole_step z c0 (m + 2) s m le_rfl]
  rw [causal] at e
  apply mul_right_cancel₀ hz1
  linear_combination (2 * z + lam) * e + (s (m + 1) + 2 * z * causal z c0 s m) * hz

/-- `weight = (1 − z)(1 − 1/z) = 2 + λ` for a root of `z² + λz + 1` (`init_poles`) -/
theorem poleWeight_eq (z lam : K) (hz : z * z + lam * z + 1 = 0) : (1 - z) * (1 - 1 / z) = 2 + lam := by
  have hz0 : z ≠ 0 := by
    rintro rfl
    simp at hz
  field_simp
  linear_combination (-1 : K) * hz

/-- `x₀ + λ·x₁ + x₂ = w·r` divided by `w`; `a`, `b` are the quotients `1/w`, `λ/w` however they are written -/
theorem threeTap_div {w a b lam : K} (hw : w ≠ 0) (ha : a * w = 1) (hb : b * w = lam) {x0 x1 x2 r : K}
    (key : x0 + lam * x1 + x2 = w * r) : a * x0 + b * x1 + a * x2 = r := by
  apply mul_right_cancel₀ hw
  linear_combination key + (x0 + x2) * ha + x1 * hb

theorem fiveTap_div {w a b c s t : K} (hw : w ≠ 0) (ha : a * w = 1) (hb : b * w = s) (hc : c * w = t)
    {x0 x1 x2 x3 x4 r : K} (key : x0 + s * x1 + t * x2 + s * x3 + x4 = w * r) :
    a * x0 + b * x1 + c * x2 + b * x3 + a * x4 = r := by
  apply mul_right_cancel₀ hw
  linear_combination key + (x0 + x4) * ha + (x1 + x3) * hb + x2 * hc

theorem div_mul_eq_of {p q w v : K} (hq : q ≠ 0) (h : p * w = v * q) : p / q * w = v := by
  rw [div_mul_eq_mul_div, div_eq_iff hq, h]

/-- `sampledCoeffs2` … `sampledCoeffs5`: the B-splines of orders 2–5 sampled at the integers, over their common denominator
    (the weight); for orders 4 and 5 the middle coefficient is written `2 + λ₁λ₂` (`2 + 228`, `2 + 64`), the form in which `fiveTap_div` takes it once
    `λ₁λ₂` is rewritten by the hypothesis on the product -/
theorem sampledCoeffs2 (h8 : (8 : K) ≠ 0) : (1 / 8 : K) * 8 = 1 ∧ (3 / 4 : K) * 8 = 6 :=
  ⟨one_div_mul_cancel h8, div_mul_eq_of (fun h => h8 (by linear_combination 2 * h)) (by norm_num)⟩

theorem sampledCoeffs3 (h6 : (6 : K) ≠ 0) : (1 / 6 : K) * 6 = 1 ∧ (2 / 3 : K) * 6 = 4 :=
  ⟨one_div_mul_cancel h6, div_mul_eq_of (fun h => h6 (by linear_combination 2 * h)) (by norm_num)⟩

theorem sampledCoeffs4 (h384 : (384 : K) ≠ 0) :
    (1 / 384 : K) * 384 = 1 ∧ (19 / 96 : K) * 384 = 76 ∧ (115 / 192 : K) * 384 = 2 + 228 :=
  ⟨one_div_mul_cancel h384, div_mul_eq_of (fun h => h384 (by linear_combination 4 * h)) (by norm_num),
    div_mul_eq_of (fun h => h384 (by linear_combination 2 * h)) (by norm_num)⟩

theorem sampledCoeffs5 (h120 : (120 : K) ≠ 0) :
    (1 / 120 : K) * 120 = 1 ∧ (13 / 60 : K) * 120 = 26 ∧ (11 / 20 : K) * 120 = 2 + 64 :=
  ⟨one_div_mul_cancel h120, div_mul_eq_of (fun h => h120 (by linear_combination 2 * h)) (by norm_num),
    div_mul_eq_of (fun h => h120 (by linear_combination 6 * h)) (by norm_num)⟩

theorem twoPole_interior (z1 z2 l1 l2 c1 c2 : K) (h1 : z1 * z1 + l1 * z1 + 1 = 0)
    (h2 : z2 * z2 + l2 * z2 + 1 = 0) (n : Nat) (s : Nat → K) (k : Nat) (hk : 2 ≤ k) (hk' : k + 3 ≤ n) :
    let c := onePole z2 c2 n (onePole z1 c1 n s)
    c (k - 2) + (l1 + l2) * c (k - 1) + (2 + l1 * l2) * c k + (l1 + l2) * c (k + 1) + c (k + 2) = s k := by
  intro c
  obtain ⟨k, rfl⟩ := Nat.exists_eq_add_of_le' hk
  let u := onePole z1 c1 n s
  have hu : u (k + 1) + l1 * u (k + 2) + u (k + 3) = s (k + 2) :=
    onePole_interior z1 l1 c1 h1 n s (k + 2) (by omega) (by omega)
  have a : c k + l2 * c (k + 1) + c (k + 2) = u (k + 1) :=
    onePole_interior z2 l2 c2 h2 n u (k + 1) (by omega) (by omega)
  have b : c (k + 1) + l2 * c (k + 2) + c (k + 3) = u (k + 2) :=
    onePole_interior z2 l2 c2 h2 n u (k + 2) (by omega) (by omega)
  have d : c (k + 2) + l2 * c (k + 3) + c (k + 4) = u (k + 3) :=
    onePole_interior z2 l2 c2 h2 n u (k + 3) (by omega) (by omega)
  show c k + (l1 + l2) * c (k + 1) + (2 + l1 * l2) * c (k + 2) + (l1 + l2) * c (k + 3) + c (k + 4) = s (k + 2)
  linear_combination hu + a + l1 * b + d

/-- the last two samples, with the mirrored knots `c[n] = c[n−2]`, `c[n+1] = c[n−3]` -/
theorem twoPole_last (z1 z2 l1 l2 c1 c2 : K) (h1 : z1 * z1 + l1 * z1 + 1 = 0)
    (h2 : z2 * z2 + l2 * z2 + 1 = 0) (hz1 : z1 * z1 - 1 ≠ 0) (hz2 : z2 * z2 - 1 ≠ 0)
    (n : Nat) (hn : 4 ≤ n) (s : Nat → K) :
    let c := onePole z2 c2 n (onePole z1 c1 n s)
    (c (n - 4) + (l1 + l2) * c (n - 3) + (2 + l1 * l2) * c (n - 2) + (l1 + l2) * c (n - 1) + c (n - 2) = s (n - 2)) ∧
    (c (n - 3) + (l1 + l2) * c (n - 2) + (2 + l1 * l2) * c (n - 1) + (l1 + l2) * c (n - 2) + c (n - 3) = s (n - 1)) := by
  intro c
  obtain ⟨m, rfl⟩ := Nat.exists_eq_add_of_le' hn
  let u := onePole z1 c1 (m + 4) s
  have ui : u (m + 1) + l1 * u (m + 2) + u (m + 3) = s (m + 2) :=
    onePole_interior z1 l1 c1 h1 (m + 4) s (m + 2) (by omega) (by omega)
  have ul : 2 * u (m + 2) + l1 * u (m + 3) = s (m + 3) := onePole_last z1 l1 c1 h1 hz1 (m + 4) (by omega) s
  have a : c m + l2 * c (m + 1) + c (m + 2) = u (m + 1) :=
    onePole_interior z2 l2 c2 h2 (m + 4) u (m + 1) (by omega) (by omega)
  have b : c (m + 1) + l2 * c (m + 2) + c (m + 3) = u (m + 2) :=
    onePole_interior z2 l2 c2 h2 (m + 4) u (m + 2) (by omega) (by omega)
  have cl : 2 * c (m + 2) + l2 * c (m + 3) = u (m + 3) := onePole_last z2 l2 c2 h2 hz2 (m + 4) (by omega) u
  constructor
  · show c m + (l1 + l2) * c (m + 1) + (2 + l1 * l2) * c (m + 2) + (l1 + l2) * c (m + 3) + c (m + 2) = s (m + 2)
    linear_combination ui + a + l1 * b + cl
  · show c (m + 1) + (l1 + l2) * c (m + 2) + (2 + l1 * l2) * c (m + 3) + (l1 + l2) * c (m + 2) + c (m + 1) = s (m + 3)
    linear_combination ul + 2 * b + l1 * cl
end Mahotas.C18
