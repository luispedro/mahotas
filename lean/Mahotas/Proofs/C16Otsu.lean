/-
C16 — Otsu.  The transliterated C loop is "compute the list of `(T, sigma_between)`, keep the first
strict maximum" in every arithmetic (`otsuTrace`, `otsuPick`); over the exact rationals every entry is the
between-class variance `σ(T) = n_B n_O (μ_B − μ_O)²`, so the loop returns the FIRST maximiser of `σ`.
-/
import Mahotas.Proofs.C16Levels
namespace Mahotas.C16
open Mahotas

/-! `otsuLoop = otsuPick ∘ otsuTrace`.  The exact instance (every entry is `σ(T)`) and the rounded one (`C16Round.lean`:
every entry is within a bound of `σ(T)`) differ only in what they know about the entries. -/

section generic
variable {α : Type} [Add α] [Sub α] [Mul α] [Div α] [LT α] [DecidableLT α]

/-- the pairs `(T, sigma_between)` the loop of `_histogram.cpp: otsu` computes, in order -/
def otsuTrace (cast : Nat → α) (h nB nO : Nat → Nat) : List Nat → α → α → List (Nat × α)
  | [], _, _ => []
  | T :: rest, muB, muO =>
    if nB T = 0 then otsuTrace cast h nB nO rest muB muO
    else if nO T = 0 then []
    else
      let muB' := (muB * cast (nB (T - 1)) + cast (T * h T)) / cast (nB T)
      let muO' := (muO * cast (nO (T - 1)) - cast (T * h T)) / cast (nO T)
      let s := cast (nB T) * cast (nO T) * (muB' - muO') * (muB' - muO')
      (T, s) :: otsuTrace cast h nB nO rest muB' muO'

/-- `if (sigma_between > best) { best = sigma_between; bestT = T; }` over a list of candidates -/
def otsuPick : List (Nat × α) → α → Nat → Nat
  | [], _, bestT => bestT
  | (T, s) :: rest, best, bestT =>
    if best < s then otsuPick rest s T else otsuPick rest best bestT

theorem otsuLoop_eq_pick (cast : Nat → α) (h nB nO : Nat → Nat) (Ts : List Nat) :
    ∀ (muB muO best : α) (bestT : Nat),
      otsuLoop cast h nB nO Ts muB muO best bestT =
        otsuPick (otsuTrace cast h nB nO Ts muB muO) best bestT := by
  induction Ts with
  | nil => intro muB muO best bestT; simp only [otsuLoop, otsuTrace, otsuPick]
  | cons T rest ih =>
    intro muB muO best bestT
    by_cases h1 : nB T = 0
    · simp only [otsuLoop, otsuTrace, if_pos h1]; exact ih _ _ _ _
    · by_cases h2 : nO T = 0
      · simp only [otsuLoop, otsuTrace, if_neg h1, if_pos h2, otsuPick]
      · simp only [otsuLoop, otsuTrace, if_neg h1, if_neg h2, otsuPick]
        split_ifs
        · exact ih _ _ _ _
        · exact ih _ _ _ _

omit [Add α] [Sub α] [Mul α] [Div α] in
/-- what `otsuPick` returns: the first maximiser among the candidates with the initial `(bestT, best)` in front — a
    candidate whose value dominates every other and, when the levels of the list increase, exceeds the value of every
    candidate of a smaller level.  `val` reads an element of the arithmetic as a rational; only
    `a < b ↔ val a < val b` is used. -/
theorem otsuPick_spec (val : α → ℚ) (hlt : ∀ a b : α, a < b ↔ val a < val b) (l : List (Nat × α)) :
    ∀ (best : α) (bestT : Nat), ∃ s, (otsuPick l best bestT, s) ∈ (bestT, best) :: l ∧
      (∀ p ∈ (bestT, best) :: l, val p.2 ≤ val s) ∧
      (((bestT, best) :: l).Pairwise (fun p q => p.1 < q.1) →
        ∀ p ∈ (bestT, best) :: l, p.1 < otsuPick l best bestT → val p.2 < val s) := by
  induction l with
  | nil =>
    intro best bestT
    refine ⟨best, List.mem_cons_self, fun p hp => ?_, fun _ p hp h => ?_⟩
    · rw [List.mem_singleton.1 hp]
    · rw [List.mem_singleton.1 hp] at h; exact absurd h (lt_irrefl _)
  | cons q rest ih =>
    intro best bestT
    obtain ⟨T, s'⟩ := q
    by_cases hb : best < s'
    · -- the new candidate takes over; the old `best` lies strictly below whatever is picked
      simp only [otsuPick, if_pos hb]
      obtain ⟨s, hs, hdom, hfirst⟩ := ih s' T
      have hbs : val best < val s := lt_of_lt_of_le ((hlt _ _).1 hb) (hdom _ List.mem_cons_self)
      exact ⟨s, List.mem_cons_of_mem _ hs, List.forall_mem_cons.2 ⟨hbs.le, hdom⟩, fun hp =>
        List.forall_mem_cons.2 ⟨fun _ => hbs, hfirst (List.pairwise_cons.1 hp).2⟩⟩
    · -- the new candidate is dropped: it is at most `best`, and strictly below the pick if that comes later
      simp only [otsuPick, if_neg hb]
      obtain ⟨s, hs, hdom, hfirst⟩ := ih best bestT
      have hb' : val s' ≤ val best := not_lt.1 fun c => hb ((hlt _ _).2 c)
      have hbs : val best ≤ val s := hdom _ List.mem_cons_self
      refine ⟨s, List.cons_subset_cons _ (List.subset_cons_self _ _) hs, List.forall_mem_cons.2 ⟨hbs,
        List.forall_mem_cons.2 ⟨hb'.trans hbs, fun p hp => hdom p (List.mem_cons_of_mem _ hp)⟩⟩, fun hp => ?_⟩
      have hf := hfirst (hp.sublist (List.Sublist.cons_cons _ (List.sublist_cons_self _ _)))
      have hbT := hf (bestT, best) List.mem_cons_self
      exact List.forall_mem_cons.2 ⟨hbT, List.forall_mem_cons.2 ⟨fun hT =>
        lt_of_le_of_lt hb' (hbT (lt_trans ((List.pairwise_cons.1 hp).1 _ List.mem_cons_self) hT)),
        fun p hp' => hf p (List.mem_cons_of_mem _ hp')⟩⟩

omit [Add α] [Sub α] [Mul α] [Div α] in
theorem otsuPick_mem (l : List (Nat × α)) :
    ∀ (best : α) (bestT : Nat), otsuPick l best bestT = bestT ∨ ∃ s, (otsuPick l best bestT, s) ∈ l := by
  induction l with
  | nil => intro best bestT; exact Or.inl rfl
  | cons p rest ih =>
    intro best bestT
    obtain ⟨T, s⟩ := p
    by_cases hb : best < s
    · simp only [otsuPick, if_pos hb]
      rcases ih s T with h | ⟨s', hs'⟩
      · right; exact ⟨s, by rw [h]; exact List.mem_cons_self⟩
      · right; exact ⟨s', List.mem_cons_of_mem _ hs'⟩
    · simp only [otsuPick, if_neg hb]
      rcases ih best bestT with h | ⟨s', hs'⟩
      · left; exact h
      · right; exact ⟨s', List.mem_cons_of_mem _ hs'⟩

omit [LT α] [DecidableLT α] in
/-- **the levels the loop visits**: from `T` on exactly the levels of `[lo, hi)`, in order, whatever the arithmetic
    (`continue` below the smallest occupied level, `break` at the largest) -/
theorem otsuTrace_levels (cast : Nat → α) (hist : List Nat) (hne : ∃ v ∈ hist, v ≠ 0) (T : Nat) (muB muO : α) :
    (otsuTrace cast (hOf hist) (nBOf hist) (nOOf hist) (List.range' T (hist.length - T)) muB muO).map Prod.fst =
      List.range' (max T (loOf hist)) (lastNonzero hist - max T (loOf hist)) := by
  have hhn := hi_lt_length hist hne
  induction hk : hist.length - T generalizing T muB muO with
  | zero => rw [show lastNonzero hist - max T (loOf hist) = 0 by omega]; rfl
  | succ k ih =>
    have hT : T < hist.length := by omega
    have hk' : hist.length - (T + 1) = k := by omega
    rw [List.range'_succ]
    by_cases h1 : nBOf hist T = 0
    · have hlo : T < loOf hist := not_le.1 fun h => (nB_ne_zero_iff hist hne hT).2 h h1
      simp only [otsuTrace, if_pos h1]
      rw [ih (T + 1) muB muO hk', max_eq_right (by omega), max_eq_right hlo.le]
    · have hlo := (nB_ne_zero_iff hist hne hT).1 h1
      by_cases h2 : nOOf hist T = 0
      · have hhi : ¬ T < lastNonzero hist := fun h => (nO_ne_zero_iff hist hne hT).2 h h2
        simp only [otsuTrace, if_neg h1, if_pos h2]
        rw [show lastNonzero hist - max T (loOf hist) = 0 by omega]; rfl
      · have hhi := (nO_ne_zero_iff hist hne hT).1 h2
        simp only [otsuTrace, if_neg h1, if_neg h2, List.map_cons]
        rw [ih (T + 1) _ _ hk', max_eq_left hlo, max_eq_left (by omega),
          show lastNonzero hist - T = (lastNonzero hist - (T + 1)) + 1 by omega, List.range'_succ]

omit [LT α] [DecidableLT α] in
theorem otsuTrace_mem (cast : Nat → α) (hist : List Nat) (T : Nat) (muB muO : α) {T' : Nat} (hTT' : T ≤ T')
    (hT' : T' < hist.length) (hb : nBOf hist T' ≠ 0) (ho : nOOf hist T' ≠ 0) :
    ∃ s, (T', s) ∈ otsuTrace cast (hOf hist) (nBOf hist) (nOOf hist) (List.range' T (hist.length - T)) muB muO := by
  obtain ⟨i, -, hi⟩ := Finset.exists_ne_zero_of_sum_ne_zero (nBOf_sum hist hT' ▸ hb)
  have hne := hne_of_hOf hi
  obtain ⟨r1, r2⟩ := (occupied_iff hist hne hT').1 ⟨hb, ho⟩
  have : T' ∈ (otsuTrace cast (hOf hist) (nBOf hist) (nOOf hist) (List.range' T (hist.length - T)) muB muO).map
      Prod.fst := by
    rw [otsuTrace_levels cast hist hne, List.mem_range'_1]; omega
  obtain ⟨⟨t, s⟩, hp, rfl⟩ := List.mem_map.1 this
  exact ⟨s, hp⟩

end generic

theorem otsuGen_eq {α : Type} [Add α] [Sub α] [Mul α] [Div α] [LT α] [DecidableLT α]
    (cast : Nat → α) (hist : List Nat) : otsuGen cast hist =
    if hist.length ≤ 1 then 0 else if sumL (hist.drop 1) = 0 then 0 else
      otsuLoop cast (hOf hist) (nBOf hist) (nOOf hist) (List.range' 1 (hist.length - 1))
        (cast 0) (cast (sumL (weighted hist)) / cast (sumL (hist.drop 1)))
        (cast (nBOf hist 0) * cast (nOOf hist 0) *
          (cast 0 - cast (sumL (weighted hist)) / cast (sumL (hist.drop 1))) *
          (cast 0 - cast (sumL (weighted hist)) / cast (sumL (hist.drop 1)))) 0 := rfl

/-- `otsu` returns 0 before the loop: one bin, or no pixel above level 0 -/
theorem otsuGen_of_degenerate {α : Type} [Add α] [Sub α] [Mul α] [Div α] [LT α] [DecidableLT α]
    (cast : Nat → α) {hist : List Nat} (h : hist.length ≤ 1 ∨ sumL (hist.drop 1) = 0) :
    otsuGen cast hist = 0 := by
  rw [otsuGen_eq]
  rcases h with h | h
  · exact if_pos h
  · rw [if_pos h, ite_self]

/-- the trace of the whole function: levels `1 … n−1`, initial means `0` and `Σ i·h[i] / Σ_{i≥1} h[i]` -/
def otsuTraceOf {α : Type} [Add α] [Sub α] [Mul α] [Div α] (cast : Nat → α) (hist : List Nat) :
    List (Nat × α) :=
  otsuTrace cast (hOf hist) (nBOf hist) (nOOf hist) (List.range' 1 (hist.length - 1))
    (cast 0) (cast (sumL (weighted hist)) / cast (sumL (hist.drop 1)))

theorem hne_of_sumL_drop {hist : List Nat} (h : sumL (hist.drop 1) ≠ 0) : ∃ v ∈ hist, v ≠ 0 := by
  by_contra hc
  refine h ?_
  rw [sumL, foldl_add_sum, Nat.zero_add]
  exact List.sum_eq_zero fun v hv => not_not.1 fun hv0 => hc ⟨v, List.mem_of_mem_drop hv, hv0⟩

theorem otsuGen_lt {α : Type} [Add α] [Sub α] [Mul α] [Div α] [LT α] [DecidableLT α]
    (cast : Nat → α) (hist : List Nat) : otsuGen cast hist < hist.length ∨ otsuGen cast hist = 0 := by
  rw [otsuGen_eq]
  split_ifs with hn hH
  · exact Or.inr rfl
  · exact Or.inr rfl
  · rw [otsuLoop_eq_pick]
    rcases otsuPick_mem (otsuTrace cast (hOf hist) (nBOf hist) (nOOf hist)
      (List.range' 1 (hist.length - 1)) _ _) _ 0 with h | ⟨s, hs⟩
    · exact Or.inr h
    · have hne := hne_of_sumL_drop hH
      have hhn := hi_lt_length hist hne
      have := List.mem_map_of_mem (f := Prod.fst) hs
      rw [otsuTrace_levels cast hist hne, List.mem_range'_1] at this
      left; omega

theorem otsuGen_lt_length {α : Type} [Add α] [Sub α] [Mul α] [Div α] [LT α] [DecidableLT α]
    (cast : Nat → α) (hist : List Nat) (hn : 0 < hist.length) : otsuGen cast hist < hist.length :=
  (otsuGen_lt cast hist).elim id (fun h => h ▸ hn)

/-- the hypothesis `hcov` of `otsuPick_near_optimal`: a level that is neither `0`, whose value is the initial `best`, nor
    in the trace has an empty class -/
theorem otsuTrace_cover {α : Type} [Add α] [Sub α] [Mul α] [Div α] (cast : Nat → α) (hist : List Nat)
    (muB muO best : α) : ∀ T, T < hist.length → otsuSigma hist T = 0 ∨
      ∃ s, (T, s) ∈ (0, best) :: otsuTrace cast (hOf hist) (nBOf hist) (nOOf hist)
        (List.range' 1 (hist.length - 1)) muB muO := by
  intro T hT
  by_cases h0 : T = 0
  · exact Or.inr ⟨best, h0 ▸ List.mem_cons_self⟩
  by_cases h : nBOf hist T = 0 ∨ nOOf hist T = 0
  · exact Or.inl (otsuSigma_of_empty h)
  · obtain ⟨s, hs⟩ := otsuTrace_mem cast hist 1 muB muO (by omega) hT (not_or.1 h).1 (not_or.1 h).2
    exact Or.inr ⟨s, List.mem_cons_of_mem _ hs⟩

/-- **Abstract decision lemma.** With the initial `(0, best)` in front of the candidates: if every candidate `(T, s)` is
    within `B` of `σ(T)`, every level not among them has `σ = 0`, and `σ ≥ 0`, then the level picked has
    `σ ≥ σ(T) − 2B` for every level `T`: the value picked dominates, and both are within `B` of their `σ`. -/
theorem otsuPick_near_optimal {α : Type} [LT α] [DecidableLT α] (val : α → ℚ)
    (hlt : ∀ a b : α, a < b ↔ val a < val b) (σ : Nat → ℚ) (B : ℚ) (n : Nat)
    (l : List (Nat × α)) (best : α)
    (hl : ∀ p ∈ (0, best) :: l, |val p.2 - σ p.1| ≤ B)
    (hσ : ∀ T, 0 ≤ σ T)
    (hcov : ∀ T, T < n → σ T = 0 ∨ ∃ s, (T, s) ∈ (0, best) :: l) :
    ∀ T, T < n → σ T - 2 * B ≤ σ (otsuPick l best 0) := by
  intro T hT
  obtain ⟨s, hs, hdom, -⟩ := otsuPick_spec val hlt l best 0
  have hpick := abs_le.1 (hl _ hs)
  have hB : 0 ≤ B := (abs_nonneg _).trans (hl _ hs)
  rcases hcov T hT with hz | ⟨s', hs'⟩
  · have := hσ (otsuPick l best 0)
    rw [hz]; linarith
  · have h3 := abs_le.1 (hl _ hs')
    have := hdom _ hs'
    linarith

/-- An invariant `Inv t muB muO` of the two running means after level `t` that survives a `continue` (empty lower
    class) and a proper step, which in turn yields `Q` of the entry it appends, gives `Q` of every entry of the trace;
    the `break` ends the trace. -/
theorem otsuTrace_induction {α : Type} [Add α] [Sub α] [Mul α] [Div α] (cast : Nat → α) (hist : List Nat)
    (Inv : Nat → α → α → Prop) (Q : Nat × α → Prop)
    (hcont : ∀ t muB muO, t + 1 < hist.length → nBOf hist (t + 1) = 0 → Inv t muB muO → Inv (t + 1) muB muO)
    (hstep : ∀ t muB muO rest, t + 1 < hist.length → nBOf hist (t + 1) ≠ 0 → nOOf hist (t + 1) ≠ 0 →
      Inv t muB muO → ∃ s muB' muO',
        otsuTrace cast (hOf hist) (nBOf hist) (nOOf hist) ((t + 1) :: rest) muB muO =
          (t + 1, s) :: otsuTrace cast (hOf hist) (nBOf hist) (nOOf hist) rest muB' muO' ∧
        Q (t + 1, s) ∧ Inv (t + 1) muB' muO')
    (t : Nat) : ∀ (muB muO : α), Inv t muB muO →
      ∀ p ∈ otsuTrace cast (hOf hist) (nBOf hist) (nOOf hist) (List.range' (t + 1) (hist.length - (t + 1))) muB muO,
        Q p := by
  induction hk : hist.length - (t + 1) generalizing t with
  | zero => intro muB muO _ p hp; exact absurd hp List.not_mem_nil
  | succ k ih =>
    intro muB muO hInv p hp
    have hTn : t + 1 < hist.length := by omega
    have hk' : hist.length - (t + 1 + 1) = k := by omega
    rw [List.range'_succ] at hp
    by_cases h1 : nBOf hist (t + 1) = 0
    · simp only [otsuTrace, if_pos h1] at hp
      exact ih (t + 1) hk' muB muO (hcont t muB muO hTn h1 hInv) p hp
    · by_cases h2 : nOOf hist (t + 1) = 0
      · simp only [otsuTrace, if_neg h1, if_pos h2] at hp
        exact absurd hp List.not_mem_nil
      · obtain ⟨s, muB', muO', e, hQ, hI⟩ := hstep t muB muO _ hTn h1 h2 hInv
        rw [e] at hp
        rcases List.mem_cons.1 hp with rfl | hp
        · exact hQ
        · exact ih (t + 1) hk' muB' muO' hI p hp

theorem otsuTrace_rat (hist : List Nat) (muB muO : ℚ) (hB : muB * (nBOf hist 0 : ℚ) = (sBOf hist 0 : ℚ))
    (hO : muO * (nOOf hist 0 : ℚ) = (sOOf hist 0 : ℚ)) :
    ∀ p ∈ otsuTrace ratCast (hOf hist) (nBOf hist) (nOOf hist) (List.range' 1 (hist.length - 1)) muB muO,
      p.2 = otsuSigma hist p.1 := by
  -- the running means are the class means: `muB · n_B = s_B`, `muO · n_O = s_O`
  refine otsuTrace_induction ratCast hist
    (fun t muB muO => muB * (nBOf hist t : ℚ) = (sBOf hist t : ℚ) ∧ muO * (nOOf hist t : ℚ) = (sOOf hist t : ℚ))
    (fun p => p.2 = otsuSigma hist p.1) ?_ ?_ 0 muB muO ⟨hB, hO⟩
  · intro t muB muO hTn h1 ⟨_, hmuO⟩
    obtain ⟨-, -, hs1, hO, hS⟩ := empty_lower hist hTn h1
    exact ⟨by rw [h1, hs1, Nat.cast_zero, mul_zero], by rw [hO, hS]; exact hmuO⟩
  · intro t muB muO rest hTn h1 h2 ⟨hmuB, hmuO⟩
    have hB : (muB * (nBOf hist t : ℚ) + (((t + 1) * hOf hist (t + 1) : ℕ) : ℚ)) /
        (nBOf hist (t + 1) : ℚ) * (nBOf hist (t + 1) : ℚ) = (sBOf hist (t + 1) : ℚ) := by
      rw [div_mul_cancel₀ _ (Nat.cast_ne_zero.2 h1), hmuB, sB_succ hist t hTn, Nat.cast_add]
    have hO : (muO * (nOOf hist t : ℚ) - (((t + 1) * hOf hist (t + 1) : ℕ) : ℚ)) /
        (nOOf hist (t + 1) : ℚ) * (nOOf hist (t + 1) : ℚ) = (sOOf hist (t + 1) : ℚ) := by
      rw [div_mul_cancel₀ _ (Nat.cast_ne_zero.2 h2), hmuO, sO_succ hist t hTn, Nat.cast_add, add_sub_cancel_left]
    exact ⟨_, _, _, by simp only [otsuTrace, if_neg h1, if_neg h2, ratCast, Nat.add_sub_cancel],
      sigma_step h1 h2 hB hO, hB, hO⟩

/-- the initial value of `best` is `σ(0)` -/
theorem sigma_zero (hist : List Nat) (h2 : nOOf hist 0 ≠ 0) :
    (nBOf hist 0 : ℚ) * (nOOf hist 0 : ℚ) *
        ((0 : ℚ) - (sBOf hist (hist.length - 1) : ℚ) / (nOOf hist 0 : ℚ)) *
        ((0 : ℚ) - (sBOf hist (hist.length - 1) : ℚ) / (nOOf hist 0 : ℚ)) = otsuSigma hist 0 := by
  have c2 : (nOOf hist 0 : ℚ) ≠ 0 := Nat.cast_ne_zero.2 h2
  by_cases h1 : nBOf hist 0 = 0
  · rw [otsuSigma_of_empty (Or.inl h1), h1]; simp
  · exact sigma_step (mB := 0) h1 h2 (by rw [sB_zero, zero_mul, Nat.cast_zero])
      (by rw [sO_zero, div_mul_cancel₀ _ c2])

/-- **σ computed by the loop = the between-class variance, at every step.**  For a histogram with at
    least two bins and a pixel above level 0 (otherwise the function returns 0 before the loop):
    for EVERY arithmetic the result is "first strict maximum of the trace, starting from the value at
    `T = 0`"; over the exact rationals the starting value is `σ(0)`, every trace entry `(T, s)` has
    `s = σ(T)`, and the trace visits every level with both classes occupied. -/
theorem otsu_sigma_stepwise (hist : List Nat) (hn : 2 ≤ hist.length) (hH : sumL (hist.drop 1) ≠ 0) :
    (∀ {α : Type} [Add α] [Sub α] [Mul α] [Div α] [LT α] [DecidableLT α] (cast : Nat → α),
      otsuGen cast hist = otsuPick (otsuTraceOf cast hist)
        (cast (nBOf hist 0) * cast (nOOf hist 0) *
          (cast 0 - cast (sumL (weighted hist)) / cast (sumL (hist.drop 1))) *
          (cast 0 - cast (sumL (weighted hist)) / cast (sumL (hist.drop 1)))) 0) ∧
    ratCast (nBOf hist 0) * ratCast (nOOf hist 0) *
          (ratCast 0 - ratCast (sumL (weighted hist)) / ratCast (sumL (hist.drop 1))) *
          (ratCast 0 - ratCast (sumL (weighted hist)) / ratCast (sumL (hist.drop 1))) = otsuSigma hist 0 ∧
    (∀ p ∈ otsuTraceOf ratCast hist, p.2 = otsuSigma hist p.1) ∧
    (∀ T, 1 ≤ T → T < hist.length → nBOf hist T ≠ 0 → nOOf hist T ≠ 0 →
      ∃ s, (T, s) ∈ otsuTraceOf ratCast hist) := by
  have hH' : nOOf hist 0 ≠ 0 := by rw [← sumL_drop hist hn]; exact hH
  have c2 : (nOOf hist 0 : ℚ) ≠ 0 := Nat.cast_ne_zero.2 hH'
  refine ⟨?_, ?_, ?_, ?_⟩
  · intro α _ _ _ _ _ _ cast
    rw [otsuGen_eq, if_neg (by omega), if_neg hH, otsuLoop_eq_pick]
    rfl
  · rw [sumL_drop hist hn, sumL_weighted]
    simp only [ratCast, Nat.cast_zero]
    exact sigma_zero hist hH'
  · intro p hp
    unfold otsuTraceOf at hp
    rw [sumL_drop hist hn, sumL_weighted] at hp
    exact otsuTrace_rat hist _ _ (by simp [ratCast, sB_zero]) (by simp [ratCast, sO_zero, div_mul_cancel₀ _ c2]) p hp
  · intro T h1T hT h1 h2
    exact otsuTrace_mem _ hist 1 _ _ h1T hT h1 h2

/-- **Otsu returns the first maximiser of the between-class variance**: the decision lemma with accuracy `0`, and
    the first strict maximum of a trace whose levels increase -/
theorem otsuGen_first_argmax (hist : List Nat) :
    let Ts := otsuGen ratCast hist
    (Ts < hist.length ∨ Ts = 0) ∧
      (∀ T, T < hist.length → otsuSigma hist T ≤ otsuSigma hist Ts) ∧
      (∀ T, T < Ts → otsuSigma hist T < otsuSigma hist Ts) := by
  dsimp only
  have hlen := otsuGen_lt ratCast hist
  refine ⟨hlen, ?_⟩
  by_cases hn : hist.length ≤ 1
  · -- at most one bin
    rw [otsuGen_of_degenerate _ (Or.inl hn)]
    exact ⟨fun T hT => by rw [show T = 0 by omega], fun T hT => absurd hT (Nat.not_lt_zero _)⟩
  by_cases hH : sumL (hist.drop 1) = 0
  · -- every pixel is in bin 0: the upper class is always empty
    rw [otsuGen_of_degenerate _ (Or.inr hH)]
    rw [sumL_drop hist (by omega)] at hH
    have hz : ∀ T, T < hist.length → otsuSigma hist T = 0 := fun T hT =>
      otsuSigma_of_empty (Or.inr (nO_zero_mono hist (Nat.zero_le T) hT hH))
    exact ⟨fun T hT => by rw [hz T hT, hz 0 (by omega)], fun T hT => absurd hT (Nat.not_lt_zero _)⟩
  obtain ⟨hgen, h0, htr, -⟩ := otsu_sigma_stepwise hist (by omega) hH
  rw [hgen ratCast, h0] at hlen ⊢
  -- every candidate, the initial one included, carries its `σ`
  have htr' : ∀ p ∈ (0, otsuSigma hist 0) :: otsuTraceOf ratCast hist, p.2 = otsuSigma hist p.1 :=
    List.forall_mem_cons.2 ⟨rfl, htr⟩
  refine ⟨fun T hT => ?_, fun T hT => ?_⟩
  · have := otsuPick_near_optimal (fun x : ℚ => x) (fun _ _ => Iff.rfl) (otsuSigma hist) 0
      hist.length (otsuTraceOf ratCast hist) (otsuSigma hist 0)
      (fun p hp => by rw [htr' p hp, sub_self, abs_zero]) (otsuSigma_nonneg hist)
      (otsuTrace_cover ratCast hist _ _ _) T hT
    linarith
  · obtain ⟨s, hs, -, hfirst⟩ := otsuPick_spec (fun x : ℚ => x) (fun _ _ => Iff.rfl)
      (otsuTraceOf ratCast hist) (otsuSigma hist 0) 0
    have hpw : ((0, otsuSigma hist 0) :: otsuTraceOf ratCast hist).Pairwise (fun p q => p.1 < q.1) := by
      refine List.pairwise_map.1 ?_
      rw [List.map_cons, otsuTraceOf, otsuTrace_levels ratCast hist (hne_of_sumL_drop hH)]
      exact List.pairwise_cons.2 ⟨fun a ha => lt_of_lt_of_le (lt_of_lt_of_le Nat.one_pos (le_max_left _ _))
        (List.mem_range'_1.1 ha).1, List.pairwise_lt_range'⟩
    rw [← htr' _ hs]
    rcases otsuTrace_cover ratCast hist _ _ (otsuSigma hist 0) T (by omega) with hz | ⟨s', hs'⟩
    · rw [hz]
      exact lt_of_le_of_lt (otsuSigma_nonneg hist 0)
        (hfirst hpw (0, otsuSigma hist 0) List.mem_cons_self (Nat.zero_lt_of_lt hT))
    · rw [← htr' _ hs']
      exact hfirst hpw _ hs' hT

theorem getLastD_eq_getD (l : List Nat) : l.getLastD 0 = l.getD (l.length - 1) 0 := by
  rw [List.getLastD_eq_getLast?, List.getLast?_eq_getElem?, List.getD_eq_getElem?_getD]

theorem sigmaAll_getElem? (hist : List Nat) (T : Nat) (hT : T < hist.length) :
    (sigmaAll hist)[T]? = some (otsuSigma hist T) := by
  unfold sigmaAll otsuSigma nOOf
  simp only [List.getElem?_map, getLastD_eq_getD, cumsum_length, weighted_length, nBOf_eq, sBOf_eq]
  have h1 : (cumsum hist 0)[T]? = some ((cumsum hist 0).getD T 0) := by
    rw [List.getD_eq_getElem?_getD,
      List.getElem?_eq_getElem (by rw [cumsum_length]; exact hT)]; rfl
  have h2 : (cumsum (weighted hist) 0)[T]? = some ((cumsum (weighted hist) 0).getD T 0) := by
    rw [List.getD_eq_getElem?_getD,
      List.getElem?_eq_getElem (by rw [cumsum_length, weighted_length]; exact hT)]; rfl
  have : ((cumsum hist 0).zip (cumsum (weighted hist) 0))[T]? =
      some ((cumsum hist 0).getD T 0, (cumsum (weighted hist) 0).getD T 0) := by
    rw [List.getElem?_zip_eq_some]; exact ⟨h1, h2⟩
  rw [this]; rfl

theorem sigmaAll_length (hist : List Nat) : (sigmaAll hist).length = hist.length := by
  simp [sigmaAll, cumsum_length, weighted_length]

theorem sigmaAll_getElem (hist : List Nat) (T : Nat) (h : T < (sigmaAll hist).length) :
    (sigmaAll hist)[T] = otsuSigma hist T :=
  (List.getElem_eq_iff h).2 (sigmaAll_getElem? _ T (by rwa [sigmaAll_length] at h))

/-- `sigmaAll[T]` as the driver reads it -/
theorem sigmaAll_getD (hist : List Nat) {T : Nat} (hT : T < hist.length) (d : ℚ) :
    (sigmaAll hist).getD T d = otsuSigma hist T := by
  rw [List.getD_eq_getElem?_getD, sigmaAll_getElem? hist T hT]; rfl

theorem listMax_eq_foldl_max (l : List ℚ) : listMax l = l.foldl max 0 := by
  rw [listMax, funext fun m => funext fun x => ite_lt_max m x]

theorem listMax_eq (l : List ℚ) (Ts : Nat) (hTs : Ts < l.length) (h0 : 0 ≤ l[Ts])
    (hle : ∀ T (h : T < l.length), l[T] ≤ l[Ts]) : listMax l = l[Ts] := by
  rw [listMax_eq_foldl_max]
  refine (isGreatest_foldl_max l 0).unique ⟨Or.inr (List.getElem_mem hTs), ?_⟩
  rintro x (rfl | hx)
  · exact h0
  · obtain ⟨i, hi, rfl⟩ := List.mem_iff_getElem.1 hx
    exact hle i hi

theorem firstArgmax_eq (l : List ℚ) (Ts : Nat) (hTs : Ts < l.length) (h0 : 0 ≤ l[Ts])
    (hle : ∀ T (h : T < l.length), l[T] ≤ l[Ts])
    (hlt : ∀ T (h : T < Ts), l[T] < l[Ts]) : firstArgmax l = Ts := by
  unfold firstArgmax
  simp only
  rw [listMax_eq l Ts hTs h0 hle]
  have : l.zipIdx.find? (fun (x, _) => x == l[Ts]) = some (l[Ts], Ts) := by
    rw [List.find?_eq_some_iff_getElem]
    refine ⟨by simp, Ts, by simpa using hTs, by simp [List.getElem_zipIdx], ?_⟩
    intro j hj
    simp only [List.getElem_zipIdx, Bool.not_eq_true', beq_eq_false_iff_ne, ne_eq]
    exact ne_of_lt (hlt j hj)
  rw [this]; rfl

theorem otsuGen_rat_lt (hist : List Nat) (hn : 0 < hist.length) :
    otsuGen ratCast hist < (sigmaAll hist).length := by
  rw [sigmaAll_length]
  exact otsuGen_lt_length ratCast hist hn

/-- the maximum the driver prints is the exact `σ` at the exact model's threshold -/
theorem listMax_sigmaAll (hist : List Nat) (hn : 0 < hist.length) :
    listMax (sigmaAll hist) = otsuSigma hist (otsuGen ratCast hist) := by
  rw [listMax_eq _ _ (otsuGen_rat_lt hist hn)
    (by rw [sigmaAll_getElem]; exact otsuSigma_nonneg _ _)
    (fun T h => by
      rw [sigmaAll_getElem, sigmaAll_getElem]
      exact (otsuGen_first_argmax hist).2.1 T (by rwa [sigmaAll_length] at h)), sigmaAll_getElem]

/-- the harness oracle `firstArgmax (sigmaAll hist)` is the exact model's answer -/
theorem firstArgmax_sigmaAll (hist : List Nat) :
    firstArgmax (sigmaAll hist) = otsuGen ratCast hist := by
  cases hist with
  | nil => rfl
  | cons x xs =>
    obtain ⟨-, h2, h3⟩ := otsuGen_first_argmax (x :: xs)
    apply firstArgmax_eq _ _ (otsuGen_rat_lt (x :: xs) (Nat.succ_pos _))
    · rw [sigmaAll_getElem]; exact otsuSigma_nonneg _ _
    · intro T h
      rw [sigmaAll_getElem, sigmaAll_getElem]
      exact h2 T (by rwa [sigmaAll_length] at h)
    · intro T h
      rw [sigmaAll_getElem, sigmaAll_getElem]
      exact h3 T h

end Mahotas.C16
