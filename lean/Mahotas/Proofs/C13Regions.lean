/-
C13 — `remove_regions` and `remove_bordering`. `np.unique` leaves a sorted duplicate-free array, on which the transliterated
`std::binary_search` (`lower_bound` by halving: `lowerBound_spec`) decides membership, so exactly the listed regions are
zeroed. The Python border slabs of `remove_bordering` select an index iff it is closer than `rsize` to a face
(`inBorderSlices_iff`).
-/
import Mahotas.Model.C13
import Mahotas.Proofs.C03Label
import Mathlib.Order.Basic
import Mathlib.Order.Lattice
import Mathlib.Algebra.Order.Group.Int
import Mathlib.Tactic.Linarith
namespace Mahotas.C13
open Mahotas

/-- the sortedness hypothesis, for `i ≤ j` -/
theorem sorted_mono {arr : Array Int} (hs : ∀ i j, i < j → j < arr.size → arr.getD i 0 ≤ arr.getD j 0)
    (i j : Nat) (hij : i ≤ j) (hj : j < arr.size) : arr.getD i 0 ≤ arr.getD j 0 :=
  (Nat.eq_or_lt_of_le hij).elim (fun e => e ▸ Int.le_refl _) (fun h => hs i j h hj)

/-- `lower_bound` on a sorted range `[first, first + count)`: the first position whose entry is not below `x` -/
theorem lowerBound_spec (arr : Array Int) (x : Int)
    (hs : ∀ i j, i < j → j < arr.size → arr.getD i 0 ≤ arr.getD j 0) (fuel first count : Nat)
    (hc : count ≤ fuel) (hsz : first + count ≤ arr.size) :
      first ≤ lowerBound arr x fuel first count ∧ lowerBound arr x fuel first count ≤ first + count ∧
      (∀ k, first ≤ k → k < lowerBound arr x fuel first count → arr.getD k 0 < x) ∧
      (∀ k, lowerBound arr x fuel first count ≤ k → k < first + count → x ≤ arr.getD k 0) := by
  fun_induction lowerBound arr x fuel first count with
  | case1 first count =>
    exact ⟨Nat.le_refl _, Nat.le_add_right _ _, fun k h1 h2 => absurd h1 (Nat.not_le.mpr h2),
      fun k h1 h2 => by omega⟩
  | case2 fuel first =>
    exact ⟨Nat.le_refl _, Nat.le_add_right _ _, fun k h1 h2 => absurd h1 (Nat.not_le.mpr h2),
      fun k h1 h2 => absurd h1 (Nat.not_le.mpr h2)⟩
  | case3 fuel first count h0 step hlt ih =>
    -- the probe is below `x`, and so is everything before it: continue to its right
    have hstep : step < count := Nat.div_lt_self (Nat.pos_of_ne_zero h0) (Nat.le_refl 2)
    clear_value step
    obtain ⟨a, b, c, d⟩ := ih (by omega) (by omega)
    refine ⟨by omega, by omega, fun k h1 h2 => ?_, fun k h1 h2 => d k h1 (by omega)⟩
    rcases Nat.lt_or_ge (first + step) k with hk | hk
    · exact c k hk h2
    · exact lt_of_le_of_lt (sorted_mono hs k _ hk (by omega)) hlt
  | case4 fuel first count h0 step hlt ih =>
    -- the probe is at least `x`, and so is everything after it: continue to its left
    have hstep : step < count := Nat.div_lt_self (Nat.pos_of_ne_zero h0) (Nat.le_refl 2)
    clear_value step
    obtain ⟨a, b, c, d⟩ := ih (by omega) (by omega)
    refine ⟨a, by omega, c, fun k h1 h2 => ?_⟩
    rcases Nat.lt_or_ge k (first + step) with hk | hk
    · exact d k h1 hk
    · exact le_trans (not_lt.mp hlt) (sorted_mono hs _ k hk (by omega))

theorem binarySearch_iff (arr : Array Int) (x : Int)
    (hs : ∀ i j, i < j → j < arr.size → arr.getD i 0 ≤ arr.getD j 0) :
    binarySearch arr x = true ↔ ∃ i, i < arr.size ∧ arr.getD i 0 = x := by
  obtain ⟨_, _, c, d⟩ := lowerBound_spec arr x hs (arr.size + 1) 0 arr.size (Nat.le_succ _) (Nat.le_of_eq (Nat.zero_add _))
  unfold binarySearch
  generalize lowerBound arr x (arr.size + 1) 0 arr.size = r at c d
  simp only [Bool.and_eq_true, decide_eq_true_eq, Bool.not_eq_true', decide_eq_false_iff_not]
  constructor
  · rintro ⟨h1, h2⟩
    exact ⟨r, h1, le_antisymm (not_lt.mp h2) (d r (Nat.le_refl r) (by omega))⟩
  · rintro ⟨k, hk, rfl⟩
    have hrk : r ≤ k := Nat.le_of_not_lt fun h => lt_irrefl _ (c k (Nat.zero_le k) h)
    exact ⟨Nat.lt_of_le_of_lt hrk hk, not_lt.mpr (sorted_mono hs r k hrk hk)⟩

theorem pairwise_eraseDups {R : Int → Int → Prop} : ∀ (n : Nat) (l : List Int), l.length ≤ n →
    l.Pairwise R → l.eraseDups.Pairwise R := by
  intro n
  induction n with
  | zero =>
    intro l hl _
    have : l = [] := List.eq_nil_of_length_eq_zero (by omega)
    subst this; simp
  | succ n ih =>
    intro l hl hp
    cases l with
    | nil => simp
    | cons a as =>
      rw [List.eraseDups_cons]
      have hp' := List.pairwise_cons.mp hp
      refine List.pairwise_cons.mpr ⟨?_, ?_⟩
      · intro b hb
        have hb1 := List.mem_eraseDups.mp hb
        exact hp'.1 b (List.mem_filter.mp hb1).1
      · apply ih
        · have := List.length_filter_le (fun b => !b == a) as
          simp at hl; omega
        · exact hp'.2.filter _

theorem sortedUnique_sorted (xs : List Int) : (sortedUnique xs).Pairwise (· ≤ ·) := by
  unfold sortedUnique
  apply pairwise_eraseDups _ _ (Nat.le_refl _)
  have := List.pairwise_mergeSort (le := fun (a b : Int) => decide (a ≤ b))
    (by intro a b c h1 h2; simp at *; omega) (by intro a b; simp; omega) xs
  exact this.imp (by intro a b h; simpa using h)

theorem mem_sortedUnique (xs : List Int) (v : Int) : v ∈ sortedUnique xs ↔ v ∈ xs := by
  unfold sortedUnique
  rw [List.mem_eraseDups, List.mem_mergeSort]

theorem removeRegions_eq_spec (labels regions : List Int) :
    removeRegions labels regions = removeRegionsSpec labels regions := by
  unfold removeRegions removeRegionsSpec
  apply List.map_congr_left
  intro v _
  have hs : ∀ i j, i < j → j < (sortedUnique regions).toArray.size →
      (sortedUnique regions).toArray.getD i 0 ≤ (sortedUnique regions).toArray.getD j 0 := by
    intro i j hij hj
    have hj' : j < (sortedUnique regions).length := by simpa using hj
    have := (List.pairwise_iff_getElem.mp (sortedUnique_sorted regions)) i j (by omega) hj' hij
    simpa [Array.getD_eq_getD_getElem?, hj', (by omega : i < (sortedUnique regions).length)] using this
  have hb := binarySearch_iff (sortedUnique regions).toArray v hs
  have hmem : (∃ i, i < (sortedUnique regions).toArray.size ∧ (sortedUnique regions).toArray.getD i 0 = v) ↔
      v ∈ regions := by
    rw [← mem_sortedUnique]
    constructor
    · rintro ⟨i, hi, rfl⟩
      have hi' : i < (sortedUnique regions).length := by simpa using hi
      simp [Array.getD_eq_getD_getElem?, hi']
    · intro hv
      obtain ⟨i, hi, rfl⟩ := List.getElem_of_mem hv
      exact ⟨i, by simpa using hi, by simp [Array.getD_eq_getD_getElem?, hi]⟩
  by_cases hv0 : v = 0
  · rw [hv0, ite_self, ite_self]
  · have : binarySearch (sortedUnique regions).toArray v = regions.contains v := by
      rw [Bool.eq_iff_iff, hb, hmem, List.contains_iff_mem]
    rw [this]
    simp [hv0]

theorem unravel_lt (shape : List Nat) (i : Nat) (hi : i < shapeSize shape) (d : Nat) (hd : d < shape.length) :
    (unravel shape i).getD d 0 < shape.getD d 0 := by
  have h := (C01.getD_lt_of_inside shape _ (C01.inside_unravelI shape i hi) d).2
  have e : ∀ c : Nat, shape.getD d c = shape[d] := fun c => by
    rw [List.getD_eq_getElem?_getD, List.getElem?_eq_getElem hd, Option.getD_some]
  rw [unravelI_getD, e] at h
  rw [e]
  exact Int.ofNat_lt.mp h

theorem inBorderSlices_iff (n r x : Nat) (hx : x < n) :
    inBorderSlices n r x = true ↔ (x < r ∨ n ≤ x + r) := by
  unfold inBorderSlices
  simp only [Bool.or_eq_true, Bool.and_eq_true, decide_eq_true_eq]
  split <;> omega

theorem removeBordering_eq_spec (shape : List Nat) (labels : List Int) (rsize : List Nat)
    (hlen : labels.length = shapeSize shape) :
    removeBordering shape labels rsize = removeBorderingSpec shape labels rsize := by
  unfold removeBordering removeBorderingSpec
  apply List.map_congr_left
  intro v _
  have hb : ∀ i, i < labels.length →
      ((∃ d, d < shape.length ∧
        inBorderSlices (shape.getD d 0) (rsize.getD d 0) ((unravel shape i).getD d 0) = true) ↔
      (∃ d, d < shape.length ∧ ((unravel shape i).getD d 0 < rsize.getD d 0 ∨
          shape.getD d 0 ≤ (unravel shape i).getD d 0 + rsize.getD d 0))) := by
    intro i hi
    constructor
    · rintro ⟨d, hd, h⟩
      exact ⟨d, hd, (inBorderSlices_iff _ _ _ (unravel_lt shape i (by omega) d hd)).mp h⟩
    · rintro ⟨d, hd, h⟩
      exact ⟨d, hd, (inBorderSlices_iff _ _ _ (unravel_lt shape i (by omega) d hd)).mpr h⟩
  have key : (((List.range labels.length).filter fun i =>
        labels.getD i 0 ≠ 0 &&
        (List.range shape.length).any fun d =>
          inBorderSlices (shape.getD d 0) (rsize.getD d 0) ((unravel shape i).getD d 0)).map
          fun i => labels.getD i 0).contains v = (v ≠ 0 && touchesBorder shape labels rsize v) := by
    rw [Bool.eq_iff_iff]
    unfold touchesBorder
    simp only [List.contains_iff_mem, List.mem_map, List.mem_filter, List.mem_range, Bool.and_eq_true,
      decide_eq_true_eq, List.any_eq_true, beq_iff_eq, Bool.or_eq_true]
    constructor
    · rintro ⟨i, ⟨hi, hnz, hany⟩, rfl⟩
      exact ⟨hnz, i, hi, rfl, (hb i hi).mp hany⟩
    · rintro ⟨hv, i, hi, rfl, hany⟩
      exact ⟨i, ⟨hi, hv, (hb i hi).mpr hany⟩, rfl⟩
  simp only [key]

end Mahotas.C13
