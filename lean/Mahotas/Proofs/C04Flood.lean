/-
C04 — invariants of the specification flooding (`specRun`):
labels are only ever copied from a neighbour onto an unlabelled pixel, hence markers keep their
labels, every labelled pixel is joined to a marker of its own label through equally labelled
neighbours, and a pixel no marker can reach stays 0.
-/
import Mahotas.Proofs.C04Sim

namespace Mahotas.C04
open Mahotas

/-- `p` is joined to a marker carrying `p`'s own label by a path of neighbour steps inside the image
    along which the label never changes -/
inductive Joined (s : List Nat) (offs : List (List Int)) (markers : Img Int) (L : List Int → Int) :
    List Int → Prop
  | seed (p : List Int) : inside s p = true → markers.getD p 0 ≠ 0 → L p = markers.getD p 0 → Joined s offs markers L p
  | step (p o : List Int) : Joined s offs markers L p → o ∈ offs → inside s (addPos p o) = true →
      L (addPos p o) = L p → Joined s offs markers L (addPos p o)

/-- `p` can be reached from some marker by neighbour steps inside the image -/
inductive Reach (s : List Nat) (offs : List (List Int)) (markers : Img Int) : List Int → Prop
  | seed (p : List Int) : inside s p = true → markers.getD p 0 ≠ 0 → Reach s offs markers p
  | step (p o : List Int) : Reach s offs markers p → o ∈ offs → inside s (addPos p o) = true →
      Reach s offs markers (addPos p o)

variable {s : List Nat} {offs : List (List Int)} {markers : Img Int}

theorem Joined.ne_zero {L : List Int → Int} {p : List Int} (h : Joined s offs markers L p) : L p ≠ 0 := by
  induction h with
  | seed p _ hm hl => rw [hl]; exact hm
  | step p o _ _ _ hl ih => rw [hl]; exact ih

theorem Joined.reach {L : List Int → Int} {p : List Int} (h : Joined s offs markers L p) :
    Reach s offs markers p := by
  induction h with
  | seed p hi hm _ => exact Reach.seed p hi hm
  | step p o _ ho hi _ ih => exact Reach.step p o ih ho hi

theorem Joined.mono {L L' : List Int → Int} (hL : ∀ r, L r ≠ 0 → L' r = L r) {p : List Int}
    (h : Joined s offs markers L p) : Joined s offs markers L' p := by
  induction h with
  | seed p hi hm hl => exact Joined.seed p hi hm (by rw [hL p (by rw [hl]; exact hm), hl])
  | step p o hj ho hi hl ih =>
    have hp : L p ≠ 0 := hj.ne_zero
    have hq : L (addPos p o) ≠ 0 := by rw [hl]; exact hp
    exact Joined.step p o ih ho hi (by rw [hL _ hq, hL _ hp, hl])

structure SInv (s : List Nat) (offs : List (List Int)) (markers : Img Int) (ss : SSt) : Prop where
  lshape : ss.label.shape = s
  lsize : ss.label.data.size = shapeSize s
  joined : ∀ p, inside s p = true → ss.label.getD p 0 ≠ 0 →
    Joined s offs markers (fun r => ss.label.getD r 0) p
  queued : ∀ e ∈ ss.queue, inside s e.pos = true ∧ ss.label.getD e.pos 0 ≠ 0
  keep : ∀ p, inside s p = true → markers.getD p 0 ≠ 0 → ss.label.getD p 0 = markers.getD p 0

theorem visit_inv (surf : Img Int) (offs : List (List Int)) (markers : Img Int) (p : List Int)
    (ss : SSt) (o : List Int) (ho : o ∈ offs) (hp : inside surf.shape p = true)
    (hinv : SInv surf.shape offs markers ss) (hlp : ss.label.getD p 0 ≠ 0) :
    SInv surf.shape offs markers (specVisit surf p ss o) ∧ (specVisit surf p ss o).label.getD p 0 ≠ 0 := by
  refine specVisit_cases surf p ss o (fun st => SInv surf.shape offs markers st ∧ st.label.getD p 0 ≠ 0)
    (fun _ => ⟨hinv, hlp⟩) ?_ (fun _ _ _ _ => ⟨⟨hinv.lshape, hinv.lsize, hinv.joined, hinv.queued, hinv.keep⟩, hlp⟩)
    (fun _ _ _ => ⟨hinv, hlp⟩)
  intro hin h0
  have hin' : inside ss.label.shape (addPos p o) = true := by rw [hinv.lshape]; exact hin
  have hget := imgSet_getD ss.label (by rw [hinv.lsize, hinv.lshape]) (addPos p o) (ss.label.getD p 0) 0 hin'
  -- labelled pixels keep their label: only the unlabelled `p + o` is written
  have hagree : ∀ r, ss.label.getD r 0 ≠ 0 →
      (imgSet ss.label (addPos p o) (ss.label.getD p 0)).getD r 0 = ss.label.getD r 0 := by
    intro r hr
    rw [hget r, if_neg fun h : r = addPos p o => hr (by rw [h]; exact h0)]
  refine ⟨⟨?_, ?_, ?_, ?_, ?_⟩, by rw [hagree p hlp]; exact hlp⟩
  · exact (imgSet_shape _ _ _).trans hinv.lshape
  · exact (imgSet_size _ _ _).trans hinv.lsize
  · intro r hr hlr
    by_cases hrq : r = addPos p o
    · subst hrq
      refine Joined.step p o ((hinv.joined p hp hlp).mono hagree) ho hin ?_
      show (imgSet ss.label (addPos p o) (ss.label.getD p 0)).getD (addPos p o) 0
        = (imgSet ss.label (addPos p o) (ss.label.getD p 0)).getD p 0
      rw [hget (addPos p o), if_pos rfl, hagree p hlp]
    · have hlr' : ss.label.getD r 0 ≠ 0 := by
        have := hget r
        rw [if_neg hrq] at this
        exact this ▸ hlr
      exact (hinv.joined r hr hlr').mono hagree
  · intro e he
    rcases List.mem_append.mp he with he | he
    · obtain ⟨h1, h2⟩ := hinv.queued e he
      exact ⟨h1, by rw [hagree _ h2]; exact h2⟩
    · rw [List.mem_singleton.mp he]
      exact ⟨hin, by rw [hget (addPos p o), if_pos rfl]; exact hlp⟩
  · intro r hr hm
    have := hinv.keep r hr hm
    exact (hagree r (by rw [this]; exact hm)).trans this

/-- the invariant along the run: the popped entry is a labelled pixel of the image, and stays so while its
    neighbours are visited -/
theorem run_inv (surf : Img Int) (offs : List (List Int)) (markers : Img Int) (n : Nat) (ss : SSt)
    (h : SInv surf.shape offs markers ss) : SInv surf.shape offs markers (specRun surf offs n ss) :=
  specRun_rule surf offs (fun st _ => SInv surf.shape offs markers st)
    (fun e st _ => SInv surf.shape offs markers st ∧ inside surf.shape e.pos = true ∧ st.label.getD e.pos 0 ≠ 0)
    (fun _ _ e h he => ⟨⟨h.lshape, h.lsize, h.joined, fun e' he' => h.queued e' (List.mem_of_mem_filter he'), h.keep⟩,
      h.queued e he⟩)
    (fun e st _ o ho h =>
      have v := visit_inv surf offs markers e.pos st o ho h.2.1 h.1 h.2.2
      ⟨v.1, h.2.1, v.2⟩)
    (fun _ _ _ h => h.1) n ss [] h

/-- the marker scan after `k` pixels: only marker values have been written, every queued pixel is labelled, and the
    first `k` marker pixels carry their marker -/
structure ScanInv (surf markers : Img Int) (k : Nat) (ss : SSt) : Prop where
  lshape : ss.label.shape = surf.shape
  lsize : ss.label.data.size = shapeSize surf.shape
  only : ∀ p, inside surf.shape p = true → ss.label.getD p 0 = 0 ∨ ss.label.getD p 0 = markers.getD p 0
  queued : ∀ e ∈ ss.queue, inside surf.shape e.pos = true ∧ ss.label.getD e.pos 0 ≠ 0
  done : ∀ i < k, markers.getD (unravelI surf.shape i) 0 ≠ 0 →
    ss.label.getD (unravelI surf.shape i) 0 = markers.getD (unravelI surf.shape i) 0

theorem scanInv_base (surf markers : Img Int) : ScanInv surf markers 0 (initS surf) :=
  ⟨rfl, Array.size_replicate, fun p _ => Or.inl (replicateImg_getD _ _ _ p), (fun _ he => nomatch he),
    fun _ hi => nomatch hi⟩

/-- the marker scan at pixel `k`: a marker is queued with its own label, every other label stays -/
theorem scanInv_step (surf markers : Img Int) (k : Nat) (ss : SSt) (hk : k < shapeSize surf.shape)
    (h : ScanInv surf markers k ss) :
    ScanInv surf markers (k + 1) (stepS surf markers ss (unravelI surf.shape k)) := by
  have hin := C01.inside_unravelI surf.shape k hk
  unfold stepS
  dsimp only
  by_cases h0 : markers.getD (unravelI surf.shape k) 0 = 0
  · rw [if_pos (beq_iff_eq.mpr h0)]
    exact { h with done := fun i hi hm =>
      (Nat.lt_succ_iff_lt_or_eq.1 hi).elim (fun hi' => h.done i hi' hm) fun e => absurd (e ▸ h0) hm }
  · rw [if_neg (mt beq_iff_eq.mp h0)]
    have hget := imgSet_getD ss.label (by rw [h.lsize, h.lshape]) (unravelI surf.shape k)
      (markers.getD (unravelI surf.shape k) 0) 0 (h.lshape.symm ▸ hin)
    refine ⟨(imgSet_shape _ _ _).trans h.lshape, (imgSet_size _ _ _).trans h.lsize, fun p hp => ?_,
      fun e he => ?_, fun i hi hm => ?_⟩
    · dsimp only
      rw [hget p]
      by_cases e : p = unravelI surf.shape k
      · rw [if_pos e, e]; exact Or.inr rfl
      · rw [if_neg e]; exact h.only p hp
    · dsimp only
      rw [hget]
      rcases List.mem_append.mp he with he | he
      · obtain ⟨h1, h2⟩ := h.queued e he
        refine ⟨h1, ?_⟩
        by_cases e' : e.pos = unravelI surf.shape k
        · rw [if_pos e']; exact h0
        · rw [if_neg e']; exact h2
      · rw [List.mem_singleton.mp he]
        exact ⟨hin, by rw [if_pos rfl]; exact h0⟩
    · dsimp only
      rw [hget]
      by_cases e : unravelI surf.shape i = unravelI surf.shape k
      · rw [if_pos e, e]
      · rw [if_neg e]
        exact h.done i ((Nat.lt_succ_iff_lt_or_eq.1 hi).resolve_right fun e' => e (e' ▸ rfl)) hm

theorem init_inv (surf markers : Img Int) (offs : List (List Int)) :
    SInv surf.shape offs markers (specInit surf markers) := by
  rw [specInit_eq]
  have h := foldl_range_rec _ _ (ScanInv surf markers) (scanInv_base surf markers)
    fun k ss => scanInv_step surf markers k ss
  generalize (List.range (shapeSize surf.shape)).foldl
    (fun st i => stepS surf markers st (unravelI surf.shape i)) (initS surf) = ss at h ⊢
  have hkeep : ∀ p, inside surf.shape p = true → markers.getD p 0 ≠ 0 →
      ss.label.getD p 0 = markers.getD p 0 := by
    intro p hp hm
    have := h.done (ravelI surf.shape p) (C01.ravelI_lt _ _ hp)
    rw [C01.unravelI_ravelI _ _ hp] at this
    exact this hm
  exact { lshape := h.lshape, lsize := h.lsize, queued := h.queued, keep := hkeep,
          joined := by
            intro p hp hl
            rcases h.only p hp with h1 | h1
            · exact absurd h1 hl
            · exact Joined.seed p hp (by rw [← h1]; exact hl) h1 }

theorem cwatershedSpec_inv (surf markers : Img Int) (bshape : List Nat) (bc : Array Int) :
    SInv surf.shape (offsets bshape bc) markers (cwatershedSpec surf markers bshape bc) := by
  unfold cwatershedSpec
  exact run_inv surf _ markers _ _ (init_inv surf markers _)

/-- the label image returned by the kernel model, as an image of the surface's shape -/
def modelLabels (surf markers : Img Int) (bshape : List Nat) (bc : Array Int) : Img Int :=
  ⟨surf.shape, (cwatershedModel surf markers bshape bc).res⟩

theorem modelLabels_eq (surf markers : Img Int) (bshape : List Nat) (bc : Array Int)
    (hm : markers.shape = surf.shape) (hb : bshape.length = surf.shape.length) :
    modelLabels surf markers bshape bc = (cwatershedSpec surf markers bshape bc).label := by
  have h := cwatershed_rel surf markers bshape bc hm hb
  unfold modelLabels
  rw [← h.ldata, ← h.lshape]

theorem modelLabels_getD (surf markers : Img Int) (bshape : List Nat) (bc : Array Int) (p : List Int)
    (hp : inside surf.shape p = true) :
    (modelLabels surf markers bshape bc).getD p 0 =
      (cwatershedModel surf markers bshape bc).res.getD (ravelI surf.shape p) 0 := by
  unfold modelLabels Img.getD; rw [if_pos hp]

end Mahotas.C04
