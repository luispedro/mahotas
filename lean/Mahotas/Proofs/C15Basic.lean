/-
C15 — basic facts about the binary-image model: reads inside and outside the box, at a flat index, of a
tabulated image; one thinning pass as a pointwise function.
-/
import Mahotas.Model.C15
import Mahotas.Proofs.ListLemmas
import Mathlib.Tactic.Ring
import Mathlib.Tactic.Linarith
namespace Mahotas.C15
open Mahotas

/-- the (row, column) of a flat index of the box lies in the box -/
theorem divmod_box {rows cols j : Nat} (hj : j < rows * cols) :
    0 ≤ ((j / cols : Nat) : Int) ∧ ((j / cols : Nat) : Int) < (rows : Int) ∧
      0 ≤ ((j % cols : Nat) : Int) ∧ ((j % cols : Nat) : Int) < (cols : Int) := by
  have cpos : 0 < cols := by
    rcases Nat.eq_zero_or_pos cols with h | h
    · rw [h] at hj; simp at hj
    · exact h
  exact ⟨Int.natCast_nonneg _, Int.ofNat_lt.mpr (Nat.div_lt_of_lt_mul (by rw [Nat.mul_comm]; exact hj)),
    Int.natCast_nonneg _, Int.ofNat_lt.mpr (Nat.mod_lt _ cpos)⟩

theorem get_inrange (b : Bin) (y x : Int) (h : b.get y x = true) :
    0 ≤ y ∧ y < (b.rows : Int) ∧ 0 ≤ x ∧ x < (b.cols : Int) := by
  unfold Bin.get at h
  by_contra hc
  rw [if_neg hc] at h
  exact Bool.false_ne_true h

theorem get_false_outside (b : Bin) (y x : Int)
    (h : ¬ (0 ≤ y ∧ y < (b.rows : Int) ∧ 0 ≤ x ∧ x < (b.cols : Int))) : b.get y x = false :=
  if_neg h

theorem Bin.get_tabulate (rows cols : Nat) (f : Int → Int → Bool) (y x : Int) :
    (Bin.tabulate rows cols f).get y x =
      (decide (0 ≤ y ∧ y < (rows : Int) ∧ 0 ≤ x ∧ x < (cols : Int)) && f y x) := by
  unfold Bin.get Bin.tabulate
  simp only
  by_cases h : 0 ≤ y ∧ y < (rows : Int) ∧ 0 ≤ x ∧ x < (cols : Int)
  · obtain ⟨h0, h1, h2, h3⟩ := h
    have hlt : y.toNat * cols + x.toNat < rows * cols :=
      rowMajor_lt (show y.toNat < rows by omega) (show x.toNat < cols by omega)
    have e1 : (y * (cols : Int) + x) / (cols : Int) = y := by
      rw [Int.add_comm, Int.add_mul_ediv_right _ _ (by omega), Int.ediv_eq_zero_of_lt h2 h3]; simp
    have e2 : x % (cols : Int) = x := Int.emod_eq_of_lt h2 h3
    simp [h0, h1, h2, h3, Array.getD, hlt, Int.toNat_of_nonneg h0, Int.toNat_of_nonneg h2, e1, e2]
  · simp [h]

theorem Bin.get_tabulate_decide (rows cols : Nat) (P : Int → Int → Prop) [∀ y x, Decidable (P y x)] (y x : Int) :
    (Bin.tabulate rows cols fun y x => decide (P y x)).get y x = true ↔
      (0 ≤ y ∧ y < (rows : Int) ∧ 0 ≤ x ∧ x < (cols : Int)) ∧ P y x := by
  rw [Bin.get_tabulate, Bool.and_eq_true, decide_eq_true_eq, decide_eq_true_eq]

theorem get_divmod (b : Bin) {i : Nat} (hi : i < b.rows * b.cols) :
    b.get ((i / b.cols : Nat) : Int) ((i % b.cols : Nat) : Int) = b.data.getD i false := by
  unfold Bin.get
  rw [if_pos (divmod_box hi), Int.toNat_natCast, Int.toNat_natCast, Nat.div_add_mod']

theorem pass_get (b : Bin) (e : Elem) (y x : Int) :
    (pass b e).get y x = (b.get y x && !matchElem b e y x) := by
  unfold pass
  rw [Bin.get_tabulate]
  by_cases h : 0 ≤ y ∧ y < (b.rows : Int) ∧ 0 ≤ x ∧ x < (b.cols : Int)
  · simp [h]
  · simp [h, get_false_outside b y x h]

theorem pass_rows (b : Bin) (e : Elem) : (pass b e).rows = b.rows := rfl
theorem pass_cols (b : Bin) (e : Elem) : (pass b e).cols = b.cols := rfl

end Mahotas.C15
