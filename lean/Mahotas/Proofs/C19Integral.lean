/-
C19 — the SURF integral image over any additive commutative group (model in `Mahotas/Model/C19.lean`).

The group may be `ZMod (2^bits)`, the wrap-around arithmetic of the C++ template `integral<T>` at the integer dtypes
(an `example` in `Properties/C19.lean`; `Proofs/C19Machine.lean` treats the same arithmetic through `MInt`). The driver
runs the model at `Int`.
-/
import Mahotas.Model.C19
import Mathlib.Tactic.Abel
import Mathlib.Algebra.Group.Basic

namespace Mahotas.C19
open Mahotas

variable {α : Type} [AddCommGroup α]

/-- shifting a `sumTo` over a `cons` (generic in the summand `F`) -/
theorem sumTo_getD_cons {β : Type} (F : β → α) (d : β) (r : β) (rs : List β) (i : Nat) :
    sumTo (fun a => F ((r :: rs).getD a d)) (i + 1) = F r + sumTo (fun a => F (rs.getD a d)) i := by
  induction i with
  | zero => simp [sumTo]
  | succ n ih =>
    rw [sumTo, ih]
    simp only [sumTo, List.getD_cons_succ]
    abel

theorem scanRow_length (row : List α) : ∀ (above : List α) (L D : α),
    above.length = row.length → (scanRow L D above row).length = row.length := by
  induction row with
  | nil => intro above L D _; cases above <;> simp [scanRow]
  | cons x xs ih =>
    intro above L D h
    cases above with
    | nil => simp at h
    | cons a as =>
      simp only [scanRow, List.length_cons]
      rw [ih as _ _ (by simpa using h)]

/-- `left − diag` telescopes: the scanned row is its own prefix sum plus the row above plus `L − D` -/
theorem scanRow_getD (row : List α) : ∀ (above : List α) (L D : α),
    above.length = row.length → ∀ j, j < row.length →
    (scanRow L D above row).getD j 0
      = sumTo (fun b => row.getD b 0) j + above.getD j 0 + L - D := by
  induction row with
  | nil => intro above L D _ j hj; simp at hj
  | cons x xs ih =>
    intro above L D h j hj
    cases above with
    | nil => simp at h
    | cons a as =>
      have hl : as.length = xs.length := by simpa using h
      cases j with
      | zero =>
        simp only [scanRow, sumTo, List.getD_cons_zero]
        abel
      | succ j =>
        have hj' : j < xs.length := by simpa using hj
        simp only [scanRow, List.getD_cons_succ]
        rw [ih as _ _ hl j hj']
        have := sumTo_getD_cons (fun v : α => v) 0 x xs j
        rw [this]
        abel

theorem integralAux_length (rows : List (List α)) : ∀ prev : List α,
    (integralAux prev rows).length = rows.length := by
  induction rows with
  | nil => intro prev; simp [integralAux]
  | cons r rs ih => intro prev; simp [integralAux, ih]

theorem integralAux_row_length (w : Nat) (rows : List (List α)) : ∀ prev : List α,
    prev.length = w → (∀ r ∈ rows, r.length = w) →
    ∀ r ∈ integralAux prev rows, r.length = w := by
  induction rows with
  | nil => intro prev _ _ r hr; simp [integralAux] at hr
  | cons r rs ih =>
    intro prev hp hw q hq
    have hr : r.length = w := hw r (by simp)
    have hc : (scanRow 0 0 prev r).length = w := by
      rw [scanRow_length r prev 0 0 (by omega)]; exact hr
    simp only [integralAux, List.mem_cons] at hq
    rcases hq with hq | hq
    · rw [hq]; exact hc
    · exact ih _ hc (fun r' hr' => hw r' (by simp [hr'])) q hq

/-- generalised statement: `prev` is the integral row above the first of `rows` -/
theorem integralAux_getD (w : Nat) (rows : List (List α)) : ∀ prev : List α,
    prev.length = w → (∀ r ∈ rows, r.length = w) →
    ∀ i j, i < rows.length → j < w →
    ((integralAux prev rows).getD i []).getD j 0 = prev.getD j 0 + prefix2 rows i j := by
  induction rows with
  | nil => intro prev _ _ i j hi _; simp at hi
  | cons r rs ih =>
    intro prev hp hw i j hi hj
    have hr : r.length = w := hw r (by simp)
    have hc : (scanRow 0 0 prev r).length = w := by
      rw [scanRow_length r prev 0 0 (by omega)]; exact hr
    have hcur := scanRow_getD r prev 0 0 (by omega) j (by omega)
    cases i with
    | zero =>
      simp only [integralAux, List.getD_cons_zero, prefix2, sumTo]
      rw [hcur]; abel
    | succ i =>
      have hi' : i < rs.length := by simpa using hi
      simp only [integralAux, List.getD_cons_succ]
      rw [ih _ hc (fun r' hr' => hw r' (by simp [hr'])) i j hi' hj, hcur]
      have := sumTo_getD_cons (fun row : List α => sumTo (fun b => row.getD b 0) j) [] r rs i
      simp only [prefix2]
      rw [this]
      abel

theorem integral_length (w : Nat) (rows : List (List α)) :
    (integral w rows).length = rows.length :=
  integralAux_length rows _

theorem integral_row_length (w : Nat) (rows : List (List α)) (hw : ∀ r ∈ rows, r.length = w) :
    ∀ r ∈ integral w rows, r.length = w :=
  integralAux_row_length w rows _ (by simp) hw

theorem integral_eq_prefix2 (w : Nat) (rows : List (List α)) (hw : ∀ r ∈ rows, r.length = w)
    (i j : Nat) (hi : i < rows.length) (hj : j < w) :
    ((integral w rows).getD i []).getD j 0 = prefix2 rows i j := by
  unfold integral
  rw [integralAux_getD w rows _ (by simp) hw i j hi hj]
  simp [List.getD_eq_getElem?_getD, hj]
example : integral 3 [[1, 2, 3], [4, 5, 6]] = ([[1, 3, 6], [5, 12, 21]] : List (List Int)) := by
  decide
example : prefix2 ([[1, 2, 3], [4, 5, 6]] : List (List Int)) 1 2 = 21 := by decide
example : integral 2 ([] : List (List Int)) = [] := by decide

end Mahotas.C19
