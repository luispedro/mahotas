/-
C07 — link to C01 in `nearest` mode: every sample exists and is read at the clamped position, so over a flat
neighbourhood (height 0, signed dtype) the specification of C01's erosion is the least sample and the gather
specification of its dilation over the *reflected* neighbourhood (offsets negated) is the greatest one; the flat
element meets the side conditions of C01's kernel theorems (`flat_elem`).
-/
import Mahotas.Proofs.C07Order
import Mahotas.Proofs.C01Scatter
import Mahotas.Proofs.FoldOrder
namespace Mahotas.C07
open Mahotas

theorem specSamples_nearest (f : Img Int) (fp : List (List Int)) (p : List Int) :
    specSamples .nearest f fp p = fp.map fun k => f.getD (clampPos f.shape (addPos p k)) 0 := by
  unfold specSamples
  simp only [specPos_nearest]
  exact congrFun List.filterMap_eq_map fp

theorem flat_snd {ι : Type} (fp : List ι) (g : ι → List Int) :
    ∀ kh ∈ fp.map fun k => (g k, (0 : Int)), kh.2 = 0 := fun _ h => by
  obtain ⟨_, _, rfl⟩ := List.mem_map.1 h; rfl

theorem filter_isMember_of_flat (dt : DT) (hb : dt.isBool = false) (hlo : dt.lo ≠ 0) (sup : List (List Int × Int))
    (h : ∀ kh ∈ sup, kh.2 = 0) : sup.filter (C01.isMember dt) = sup :=
  List.filter_eq_self.2 fun kh hkh => by
    unfold C01.isMember
    rw [hb, if_neg Bool.false_ne_true, h kh hkh]
    exact decide_eq_true hlo.symm

/-- what C01 asks of a structuring element, for the flat one (height 0 over the offsets `g k`) on a signed dtype:
    it is admissible, every entry is a member, and the members' heights are equal -/
theorem flat_elem (dt : DT) (wf : dt.WF) (hlo : dt.lo ≠ 0) {ι : Type} (fp : List ι) (g : ι → List Int) :
    C01.AdmissibleElem dt (fp.map fun k => (g k, 0)) ∧
    ((fp.map fun k => (g k, (0 : Int))).filter (C01.isMember dt)).map (·.1) = fp.map g ∧
    C01.flatHeights (((fp.map fun k => (g k, (0 : Int))).filter (C01.isMember dt)).map (·.2)) = true := by
  have h2 := flat_snd fp g
  rw [filter_isMember_of_flat dt wf.notBool hlo _ h2, List.map_map, List.map_map]
  refine ⟨fun kh hkh => ?_, rfl, ?_⟩
  · rw [h2 kh hkh]
    exact ⟨⟨wf.lo_nonpos, wf.hi_pos.le⟩, Or.inl (Int.le_refl 0), fun h => nomatch wf.notBool.symm.trans h⟩
  · cases fp with
    | nil => rfl
    | cons a t => exact List.all_eq_true.2 fun x hx => beq_iff_eq.2 (by
        obtain ⟨_, _, rfl⟩ := List.mem_map.1 hx; rfl)

theorem foldl_min_eq {α : Type} (g : α → Int) (l : List α) (v0 lo : Int) (hle : ∀ k ∈ l, lo ≤ g k) (h0 : lo ≤ v0)
    (hatt : lo = v0 ∨ ∃ k ∈ l, g k = lo) : l.foldl (fun v k => min v (g k)) v0 = lo := by
  rw [← List.foldl_map]
  obtain ⟨hmem, hlb⟩ := isLeast_foldl_min (l.map g) v0
  refine Int.le_antisymm (hlb ?_) ?_
  · rcases hatt with h | ⟨k, hk, h⟩
    · exact Or.inl h
    · exact Or.inr (List.mem_map.2 ⟨k, hk, h⟩)
  · rcases hmem with e | hx
    · exact h0.trans_eq e.symm
    · obtain ⟨k, hk, e⟩ := List.mem_map.1 hx
      exact (hle k hk).trans_eq e

theorem subPos_negPos (p k : List Int) : subPos p (negPos k) = addPos p k :=
  (C01.subPos_eq_addPos_neg p (negPos k)).trans (congrArg (addPos p) (C01.negPos_negPos k))

theorem getD_default (f : Img Int) (q : List Int) (hq : inside f.shape q = true)
    (hsz : shapeSize f.shape ≤ f.data.size) (a b : Int) : f.getD q a = f.getD q b := by
  have h : ravelI f.shape q < f.data.size := Nat.lt_of_lt_of_le (C01.ravelI_lt f.shape q hq) hsz
  unfold Img.getD Array.getD
  rw [if_pos hq, if_pos hq, dif_pos h, dif_pos h]

section
variable (dt : DT) (hb : dt.isBool = false) (hlo : dt.lo ≠ 0) (f : Img Int) (fp : List (List Int)) (p : List Int)
  (hrange : ∀ k ∈ fp, dt.lo ≤ f.getD (clampPos f.shape (addPos p k)) 0 ∧
    f.getD (clampPos f.shape (addPos p k)) 0 ≤ dt.hi)
include hb hlo hrange

theorem erodeSpecAt_flat (v : Int) (hmem : v ∈ fp.map fun k => f.getD (clampPos f.shape (addPos p k)) 0)
    (hle : ∀ x ∈ fp.map fun k => f.getD (clampPos f.shape (addPos p k)) 0, v ≤ x) :
    C01.erodeSpecAt dt f (fp.map fun k => (k, 0)) p = v := by
  obtain ⟨k0, hk0, rfl⟩ := List.mem_map.1 hmem
  unfold C01.erodeSpecAt
  rw [filter_isMember_of_flat dt hb hlo _ (flat_snd fp fun k => k), List.foldl_map]
  simp only [hb, Bool.false_eq_true, if_false, Int.sub_zero]
  refine foldl_min_eq _ fp dt.hi _ (fun k hk => ?_) (hrange k0 hk0).2
    (Or.inr ⟨k0, hk0, dt.clamp_of_inRange _ (hrange k0 hk0)⟩)
  rw [dt.clamp_of_inRange _ (hrange k hk)]
  exact hle _ (List.mem_map.2 ⟨k, hk, rfl⟩)

theorem dilateSpecAt_flat_reflected (hsz : shapeSize f.shape ≤ f.data.size)
    (hlen : ∀ k ∈ fp, k.length = f.shape.length) (hp : inside f.shape p = true)
    (v : Int) (hmem : v ∈ fp.map fun k => f.getD (clampPos f.shape (addPos p k)) 0)
    (hge : ∀ x ∈ fp.map fun k => f.getD (clampPos f.shape (addPos p k)) 0, x ≤ v) :
    C01.dilateSpecAt dt f (fp.map fun k => (negPos k, 0)) p = v := by
  have hval : ∀ k ∈ fp, (C01.gatherVal dt f p ∘ fun k => (negPos k, 0)) k =
      f.getD (clampPos f.shape (addPos p k)) 0 := by
    intro k hk
    have hin : inside f.shape (clampPos f.shape (addPos p k)) = true :=
      C01.clampPos_addPos_inside f.shape p k hp (hlen k hk)
    simp only [Function.comp, C01.gatherVal, subPos_negPos, hb, Bool.false_eq_true, if_false, Int.add_zero]
    rw [getD_default f _ hin hsz dt.lo 0, dt.clamp_of_inRange _ (hrange k hk)]
    split
    · rename_i h; exact h.symm
    · rfl
  rw [C01.dilateSpecAt_eq,
    filter_isMember_of_flat dt hb hlo _ (flat_snd fp negPos),
    List.map_map, List.map_congr_left hval]
  obtain ⟨k0, hk0, hv⟩ := List.mem_map.1 hmem
  exact Int.le_antisymm (C01.listMax_le _ _ _ (hv ▸ (hrange k0 hk0).1) hge) (C01.le_listMax_of_mem _ _ _ hmem)

end

end Mahotas.C07
