/-
C17 — the C kernels on strided memory (`Model/C17Mem.lean`) simulate the core model. `Shows v m0 m F` says that the view `v` of
the memory `m` shows the image `F` and that `m` is `m0` elsewhere; a pass, a pass over `f.T`, the scaling and a whole
wrapper body preserve it and change `F` as `rowsPass`, `colsPass`, … `core2` do (`Shows.wrapperBody`), the rows of an
injective view being pairwise disjoint blocks of addresses (`foldl_blocks`). First: where `highOffPinned`, the pointer
`high` as the pinned tree computed it, `(step*N1)/2`, lies relative to `step*(N1/2)` and to the row.
-/
import Mahotas.Model.C17Mem
import Mahotas.Proofs.C17
import Mahotas.Proofs.InPlace
import Mathlib.Tactic.Ring
import Mathlib.Tactic.Linarith
namespace Mahotas.C17.Mem
open Mahotas Mahotas.C17

/-- C's truncating division by two, through the flooring one -/
theorem tdiv_two (a : Int) : a.tdiv 2 = a / 2 + if 0 ≤ a ∨ 2 ∣ a then 0 else 1 := Int.tdiv_eq_ediv

theorem tdiv_two_bounds (s : Int) :
    (0 ≤ s → 0 ≤ s.tdiv 2 ∧ s.tdiv 2 ≤ s) ∧ (s ≤ 0 → s ≤ s.tdiv 2 ∧ s.tdiv 2 ≤ 0) := by
  rw [tdiv_two]
  omega

theorem highOffPinned_even (step : Int) (N : Nat) (hN : N % 2 = 0) :
    highOffPinned step N = step * ((N / 2 : Nat) : Int) := by
  obtain ⟨m, rfl⟩ : ∃ m, N = 2 * m := ⟨N / 2, by omega⟩
  rw [Nat.mul_div_cancel_left m (by omega)]
  unfold highOffPinned
  rw [Nat.cast_mul, Nat.cast_ofNat, mul_left_comm]
  exact Int.mul_tdiv_cancel_left _ (by omega)

theorem highOffPinned_neg (step : Int) (N : Nat) : highOffPinned (-step) N = -highOffPinned step N := by
  unfold highOffPinned
  rw [Int.neg_mul, Int.neg_tdiv]

theorem highOffPinned_odd (step : Int) (N : Nat) (hN : N % 2 = 1) :
    highOffPinned step N = step * ((N / 2 : Nat) : Int) + step.tdiv 2 := by
  have e : ∀ s : Int, s * (N : Int) = s + 2 * (s * ((N / 2 : Nat) : Int)) := by
    intro s
    have : (N : Int) = 2 * ((N / 2 : Nat) : Int) + 1 := by omega
    rw [this]; ring
  -- for a non-negative step truncation is the floor; truncation is odd, so a negative step reduces to that case
  have pos : ∀ s : Int, 0 ≤ s → highOffPinned s N = s * ((N / 2 : Nat) : Int) + s.tdiv 2 := by
    intro s hs
    unfold highOffPinned
    rw [Int.tdiv_eq_ediv_of_nonneg (mul_nonneg hs (by omega)), Int.tdiv_eq_ediv_of_nonneg hs, e,
      Int.add_mul_ediv_left _ _ (by omega), add_comm]
  rcases le_total 0 step with h | h
  · exact pos step h
  · have := pos (-step) (by omega)
    rw [highOffPinned_neg, Int.neg_tdiv, neg_mul] at this
    linarith

theorem highOffPinned_unit (step : Int) (N : Nat) (h : step = 1 ∨ step = -1) :
    highOffPinned step N = step * ((N / 2 : Nat) : Int) := by
  rcases Nat.mod_two_eq_zero_or_one N with hN | hN
  · exact highOffPinned_even step N hN
  · rw [highOffPinned_odd step N hN]
    rcases h with rfl | rfl <;> simp

theorem mul_in_row (step : Int) {q n : Int} (h0 : 0 ≤ q) (hq : q ≤ n) :
    (0 ≤ step → 0 ≤ step * q ∧ step * q ≤ step * n) ∧ (step ≤ 0 → step * n ≤ step * q ∧ step * q ≤ 0) :=
  ⟨fun hs => ⟨mul_nonneg hs h0, mul_le_mul_of_nonneg_left hq hs⟩,
   fun hs => ⟨mul_le_mul_of_nonpos_left hq hs, mul_nonpos_of_nonpos_of_nonneg hs h0⟩⟩

/-- the offsets `step·q` of a row with a slack `t` between `0` and `step` added, when one more sample fits: `step·q + t`
    lies between `step·q` and `step·(q + 1)` -/
theorem mul_add_in_row (step t : Int) {q n : Int} (h0 : 0 ≤ q) (hq : q + 1 ≤ n)
    (ht : (0 ≤ step → 0 ≤ t ∧ t ≤ step) ∧ (step ≤ 0 → step ≤ t ∧ t ≤ 0)) :
    (0 ≤ step → 0 ≤ step * q + t ∧ step * q + t ≤ step * n) ∧
    (step ≤ 0 → step * n ≤ step * q + t ∧ step * q + t ≤ 0) := by
  have e : step * (q + 1) = step * q + step := mul_add_one step q
  constructor
  · intro hs
    have up := mul_le_mul_of_nonneg_left hq hs
    rw [e] at up
    exact ⟨add_nonneg (mul_nonneg hs h0) (ht.1 hs).1, (add_le_add_right (ht.1 hs).2 _).trans up⟩
  · intro hs
    have up := mul_le_mul_of_nonpos_left hq hs
    rw [e] at up
    exact ⟨up.trans (add_le_add_right (ht.2 hs).1 _),
      add_nonpos (mul_nonpos_of_nonpos_of_nonneg hs h0) (ht.2 hs).2⟩

section Store
variable {α : Type}

theorem writeRow_hit (m : Memory α) (data step : Int) (N : Nat) (buf : Nat → α) (x : Nat) (hx : x < N)
    (hinj : ∀ x' : Nat, x' < N → step * (x' : Int) = step * (x : Int) → x' = x) :
    writeRow m data step N buf (data + step * (x : Int)) = buf x := by
  unfold writeRow
  by_cases hs : step = 0
  · have : N - 1 = x := hinj (N - 1) (by omega) (by rw [hs]; simp)
    subst hs
    simp only [if_true, Int.zero_mul, Int.add_zero, true_and]
    rw [if_pos (by omega), this]
  · have e : data + step * (x : Int) - data = step * (x : Int) := by ring
    have h1 : (step * (x : Int)) % step = 0 := Int.mul_emod_right _ _
    have h2 : (step * (x : Int)) / step = (x : Int) := Int.mul_ediv_cancel_left _ hs
    simp only [hs, if_false, e, h1, h2, true_and]
    rw [if_pos ⟨by omega, by omega⟩]
    simp

theorem writeRow_miss (m : Memory α) (data step : Int) (N : Nat) (buf : Nat → α) (a : Int)
    (hmiss : ∀ x : Nat, x < N → a ≠ data + step * (x : Int)) :
    writeRow m data step N buf a = m a := by
  unfold writeRow
  by_cases hs : step = 0
  · subst hs
    simp only [if_true]
    by_cases h : a = data ∧ 0 < N
    · exact absurd (by simp [h.1]) (hmiss 0 h.2)
    · rw [if_neg h]
  · simp only [hs, if_false]
    by_cases h : (a - data) % step = 0 ∧ 0 ≤ (a - data) / step ∧ (a - data) / step < (N : Int)
    · exfalso
      obtain ⟨h1, h2, h3⟩ := h
      have hd : step * ((a - data) / step) = a - data := Int.mul_ediv_cancel' (Int.dvd_of_emod_eq_zero h1)
      apply hmiss ((a - data) / step).toNat (by omega)
      rw [Int.toNat_of_nonneg h2, hd]; ring
    · rw [if_neg h]

end Store

section Views
variable {K : Type}

/-- distinct index pairs of the view have distinct addresses (no element is stored twice) -/
def View.Inj (v : View) : Prop :=
  ∀ y y' x x' : Nat, y < v.N0 → y' < v.N0 → x < v.N1 → x' < v.N1 → v.addr y x = v.addr y' x' → y = y' ∧ x = x'

theorem addr_T (v : View) (y x : Nat) : v.T.addr x y = v.addr y x := by
  simp only [View.addr, View.T]; ring

theorem View.Inj.T {v : View} (h : v.Inj) : v.T.Inj := by
  intro y y' x x' hy hy' hx hx' e
  rw [addr_T, addr_T] at e
  exact (h x x' y y' hx hx' hy hy' e).symm

/-- the view `v` of `m` shows the image `F`; outside the view `m` is `m0` -/
def Shows (v : View) (m0 m : Memory K) (F : Im K) : Prop :=
  (∀ y x, y < v.N0 → x < v.N1 → m (v.addr y x) = F y x) ∧
  (∀ a, (∀ y x, y < v.N0 → x < v.N1 → a ≠ v.addr y x) → m a = m0 a)

theorem Shows.refl (v : View) (m : Memory K) : Shows v m m (v.read m) := ⟨fun _ _ _ _ => rfl, fun _ _ => rfl⟩

theorem Shows.T {v : View} {m0 m : Memory K} {F : Im K} (h : Shows v m0 m F) : Shows v.T m0 m (fun x y => F y x) :=
  ⟨fun x y hx hy => by rw [addr_T]; exact h.1 y x hy hx,
   fun a ha => h.2 a fun y x hy hx e => ha x y hx hy (by rw [e, addr_T])⟩

/-- a row-by-row in-place update of a view: row `y` is replaced by `R m data` computed from the memory before the store -/
def foldRows (v : View) (R : Memory K → Int → Nat → K) (j : Nat) (m : Memory K) : Memory K :=
  (List.range j).foldl (fun (m : Memory K) (y : Nat) =>
    writeRow m (v.off + v.s0 * (y : Int)) v.s1 v.N1 (R m (v.off + v.s0 * (y : Int)))) m

/-- such an update, when `R` is a row operator `T` reading its row only, applies `T` to every row of the image the view
    shows: the rows are pairwise disjoint blocks of addresses (`foldl_blocks`) -/
theorem Shows.foldRows {v : View} (hinj : v.Inj) (R : Memory K → Int → Nat → K) (T : (Nat → K) → Nat → K)
    (hT : ∀ f f' : Nat → K, (∀ p, p < v.N1 → f p = f' p) → ∀ x, x < v.N1 → T f x = T f' x)
    (hR : ∀ (m : Memory K) (data : Int), R m data = T (fun i : Nat => m (data + v.s1 * (i : Int))))
    {m0 m : Memory K} {F : Im K} (h : Shows v m0 m F) : Shows v m0 (Mem.foldRows v R v.N0 m) (fun y => T (F y)) := by
  have hit : ∀ (m : Memory K) (buf : Nat → K) (y x : Nat), y < v.N0 → x < v.N1 →
      writeRow m (v.off + v.s0 * (y : Int)) v.s1 v.N1 buf (v.addr y x) = buf x := fun m buf y x hy hx =>
    writeRow_hit _ _ _ _ _ x hx fun x' hx' e =>
      (hinj y y x' x hy hy hx' hx (congrArg (v.off + v.s0 * (y : Int) + ·) e)).2
  have hb := foldl_blocks (fun (m : Memory K) a => m a)
    (fun y m => writeRow m (v.off + v.s0 * (y : Int)) v.s1 v.N1 (R m (v.off + v.s0 * (y : Int))))
    (fun y a => ∃ x, x < v.N1 ∧ a = v.addr y x) v.N0
    (fun y m a _ ha => writeRow_miss _ _ _ _ _ a fun x hx e => ha ⟨x, hx, e⟩)
    (fun y y' a hy hy' ⟨x, hx, e⟩ ⟨x', hx', e'⟩ => (hinj y y' x x' hy hy' hx hx' (e ▸ e')).1)
    (fun y m₁ m₂ hy hm a ⟨x, hx, e⟩ => by
      subst e
      rw [hit _ _ y x hy hx, hit _ _ y x hy hx, hR, hR]
      exact hT _ _ (fun p hp => hm _ ⟨p, hp, rfl⟩) x hx) m v.N0 (Nat.le_refl _)
  refine ⟨fun y x hy hx => ?_, fun a ha => (hb.2 a fun y hy ⟨x, hx, e⟩ => ha y x hy hx e).trans (h.2 a ha)⟩
  refine (hb.1 y _ hy ⟨x, hx, rfl⟩).trans ?_
  rw [hit _ _ y x hy hx, hR]
  exact hT _ _ (fun p hp => h.1 y p hy hp) x hx

/-- the in-place scaling touches every element of an injective view once and nothing else -/
theorem Shows.scale (g : K → K) {v : View} (hinj : v.Inj) {m0 m : Memory K} {F : Im K}
    (h : Shows v m0 m F) : Shows v m0 (scaleView g v m) (fun y x => g (F y x)) :=
  h.foldRows hinj (fun m data => fun x : Nat => g (m (data + v.s1 * (x : Int)))) (fun f x => g (f x))
    (fun f f' h x hx => by show g (f x) = g (f' x); rw [h x hx]) (fun m data => rfl)

theorem contig_inj (N0 N1 : Nat) : (View.contig N0 N1).Inj := by
  intro y y' x x' _ _ hx hx' e
  have hx : x < N1 := hx
  have hx' : x' < N1 := hx'
  have e : (0 : Int) + (N1 : Int) * y + 1 * x = 0 + (N1 : Int) * y' + 1 * x' := e
  have h : N1 * y + x = N1 * y' + x' := by omega
  have hd : ∀ a b : Nat, b < N1 → (N1 * a + b) / N1 = a := fun a b hb => by
    rw [Nat.mul_add_div (by omega), Nat.div_eq_of_lt hb, Nat.add_zero]
  have hy : y = y' := by rw [← hd y x hx, h, hd y' x' hx']
  subst hy
  exact ⟨rfl, Nat.add_left_cancel h⟩

/-- reading the fresh C-contiguous copy (`inline=False`, integer input) back gives the image -/
theorem fresh_read_contig (N0 N1 : Nat) (f : Im K) (y x : Nat) (hx : x < N1) :
    (View.contig N0 N1).read (freshMem (View.contig N0 N1) f) y x = f y x := by
  have hN : (N1 : Int) ≠ 0 := by omega
  have hx0 : (0 : Int) ≤ (x : Int) := by omega
  have hxl : (x : Int) < (N1 : Int) := by omega
  have e1 : ((0 : Int) + (N1 : Int) * (y : Int) + 1 * (x : Int)) / (N1 : Int) = (y : Int) := by
    rw [show (0 : Int) + (N1 : Int) * (y : Int) + 1 * (x : Int) = (x : Int) + (N1 : Int) * (y : Int) by ring,
      Int.add_mul_ediv_left _ _ hN, Int.ediv_eq_zero_of_lt hx0 hxl]; simp
  have e2 : ((0 : Int) + (N1 : Int) * (y : Int) + 1 * (x : Int)) % (N1 : Int) = (x : Int) := by
    rw [show (0 : Int) + (N1 : Int) * (y : Int) + 1 * (x : Int) = (x : Int) + (N1 : Int) * (y : Int) by ring,
      Int.add_mul_emod_self_left, Int.emod_eq_of_lt hx0 hxl]
  show freshMem (View.contig N0 N1) f ((0 : Int) + (N1 : Int) * (y : Int) + 1 * (x : Int)) = f y x
  unfold freshMem
  simp only [View.contig, if_true, e1, e2, Int.toNat_natCast]

end Views

section Pass
variable {K : Type} [Field K]

/-- the core row kernel a memory-level kernel stands for -/
def coreKernel (k : Kern) (cs : List K) : Nat → (Nat → K) → Nat → K :=
  match k with
  | .haar => haarRow
  | .ihaar => ihaarRow
  | .wavelet => waveletRow cs
  | .iwavelet => iwaveletRow cs

theorem coreKernel_congr (k : Kern) (cs : List K) (N : Nat) (f f' : Nat → K) (h : ∀ p, p < N → f p = f' p)
    (x : Nat) : coreKernel k cs N f x = coreKernel k cs N f' x := by
  cases k with
  | haar => exact haarRow_local N f f' h x
  | ihaar => exact ihaarRow_local N f f' h x
  | wavelet => exact waveletRow_local cs N f f' h x
  | iwavelet => exact iwaveletRow_local cs N f f' h x

/-- the scratch buffer of one row is the core kernel applied to the row read through the stride: `high` points at
    sample `N/2` -/
theorem rowResult_core (k : Kern) (cs : List K) (m : Memory K) (data step : Int) (N : Nat) :
    rowResult k cs m data step N = coreKernel k cs N (fun i => m (data + step * (i : Int))) := by
  have hh : (fun i : Nat => m (data + highOff step N + step * (i : Int)))
      = fun i : Nat => (fun j : Nat => m (data + step * (j : Int))) (N / 2 + i) := by
    funext i
    show m _ = m _
    congr 1
    unfold highOff; push_cast; ring
  cases k with
  | haar => rfl
  | wavelet => rfl
  | ihaar =>
    simp only [rowResult, coreKernel]
    rw [hh]; rfl
  | iwavelet =>
    simp only [rowResult, coreKernel]
    rw [hh]; rfl

/-- **a pass over an injective view** is the core kernel on every row of the image it shows, and writes nothing outside
    the view -/
theorem Shows.pass (k : Kern) (cs : List K) {v : View} (hinj : v.Inj) {m0 m : Memory K} {F : Im K}
    (h : Shows v m0 m F) : Shows v m0 (pass k cs v m) (rowsPass (coreKernel k cs) v.N1 F) :=
  h.foldRows hinj (fun m data => rowResult k cs m data v.s1 v.N1) (coreKernel k cs v.N1)
    (fun f f' h x _ => coreKernel_congr k cs v.N1 f f' h x) (fun m data => rowResult_core k cs m data v.s1 v.N1)

/-- a pass over the transposed view `f.T` is the core kernel on every column -/
theorem Shows.pass_T (k : Kern) (cs : List K) {v : View} (hinj : v.Inj) {m0 m : Memory K} {F : Im K}
    (h : Shows v m0 m F) : Shows v m0 (Mem.pass k cs v.T m) (colsPass (coreKernel k cs) v.N0 F) :=
  (h.T.pass k cs hinj.T).T

/-- the 2-D core model a wrapper stands for -/
def core2 (w : Wrapper) (pe : Bool) (cs : List K) : Nat → Nat → Im K → Im K :=
  match w with
  | .haar => haar2 pe
  | .ihaar => ihaar2 pe
  | .daubechies => daubechies2 cs
  | .idaubechies => idaubechies2 cs

/-- **the C kernels on strided memory simulate the core model**: a wrapper body run on a memory whose view shows `F`
    leaves the core 2-D model of `F` in the view and nothing else changed -/
theorem Shows.wrapperBody (w : Wrapper) (pe : Bool) (cs : List K) {v : View} (hinj : v.Inj) {m0 m : Memory K}
    {F : Im K} (h : Shows v m0 m F) : Shows v m0 (Mem.wrapperBody w pe cs v m) (core2 w pe cs v.N0 v.N1 F) := by
  cases w with
  | daubechies => exact (h.pass .wavelet cs hinj).pass_T .wavelet cs hinj
  | idaubechies => exact (h.pass_T .iwavelet cs hinj).pass .iwavelet cs hinj
  | haar =>
    have h' := (h.pass .haar cs hinj).pass_T .haar cs hinj
    cases pe with
    | false => exact h'
    | true => exact h'.scale (· / two) hinj
  | ihaar =>
    have h' := (h.pass .ihaar cs hinj).pass_T .ihaar cs hinj
    cases pe with
    | false => exact h'
    | true => exact h'.scale (· * two) hinj

end Pass

end Mahotas.C17.Mem
