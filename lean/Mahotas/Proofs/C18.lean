/-
C18 — the scalar layer of the interpolation model (`Model/C18.lean`) over an ordered field `K`: the polynomial pieces
of `splineCoeff`, the start knot, the weights and the border handling at integer coordinates, the coordinate maps.
The model's parameter `floor` is any function with the defining property of the floor (`IsFloor`), as `Float.floor`
has on finite doubles and `Int.floor` on any floor ring (`Int.floor_le`, `Int.lt_floor_add_one`).
-/
import Mahotas.Model.C18
import Mahotas.Proofs.C18Fold
import Mahotas.Proofs.C01Index
import Mathlib.Tactic.Ring
import Mathlib.Tactic.FieldSimp
import Mathlib.Tactic.Linarith
import Mathlib.Tactic.LinearCombination
import Mathlib.Tactic.NormNum
import Mathlib.Algebra.Order.Field.Basic
set_option linter.unusedSectionVars false
namespace Mahotas.C18
open Mahotas

variable {K : Type} [Field K] [LinearOrder K] [IsStrictOrderedRing K]

/-- `fl z ≤ z < fl z + 1`: all the theorems ask of the model's parameter `fl` -/
def IsFloor (fl : K → Int) : Prop := ∀ z : K, ((fl z : Int) : K) ≤ z ∧ z < ((fl z : Int) : K) + 1

theorem IsFloor.le_floor {fl : K → Int} (h : IsFloor fl) {z : K} {n : Int} (hn : (n : K) ≤ z) : n ≤ fl z := by
  have l : ((n : Int) : K) < ((fl z + 1 : Int) : K) := by
    rw [Int.cast_add, Int.cast_one]; exact hn.trans_lt (h z).2
  exact Int.lt_add_one_iff.mp (Int.cast_lt.mp l)

theorem IsFloor.floor_le {fl : K → Int} (h : IsFloor fl) {z : K} {n : Int} (hn : z < (n : K) + 1) : fl z ≤ n := by
  have l : ((fl z : Int) : K) < ((n + 1 : Int) : K) := by
    rw [Int.cast_add, Int.cast_one]; exact (h z).1.trans_lt hn
  exact Int.lt_add_one_iff.mp (Int.cast_lt.mp l)

theorem IsFloor.mono {fl : K → Int} (h : IsFloor fl) (a b : K) (hab : a ≤ b) : fl a ≤ fl b :=
  h.le_floor ((h a).1.trans hab)

theorem IsFloor.nonneg {fl : K → Int} (h : IsFloor fl) (a : K) (ha : 0 ≤ a) : 0 ≤ fl a :=
  h.le_floor (Int.cast_zero.trans_le ha)

theorem IsFloor.unique {fl : K → Int} (h : IsFloor fl) (z : K) (n : Int)
    (h0 : (n : K) ≤ z) (h1 : z < (n : K) + 1) : fl z = n :=
  le_antisymm (h.floor_le h1) (h.le_floor h0)

theorem IsFloor.int {fl : K → Int} (h : IsFloor fl) (n : Int) : fl (n : K) = n :=
  h.unique _ n le_rfl (lt_add_one _)

theorem IsFloor.int_half {fl : K → Int} (h : IsFloor fl) (n : Int) : fl ((n : K) + 1 / 2) = n :=
  h.unique _ n (le_add_of_nonneg_right (by norm_num)) (by norm_num)

theorem absV_eq_abs (x : K) : absV x = |x| := by
  unfold absV
  push_cast
  split_ifs with h
  · rw [abs_of_neg h]
  · rw [abs_of_nonneg (not_lt.mp h)]

/-! ### the pieces of `splineCoeff`

Each piece is stated on its closed interval: the pieces agree at the breakpoints, so neighbouring
intervals may overlap there and no case split ever has to treat a breakpoint separately. -/

section pieces
variable (y : K)

theorem splineCoeff1_near (h : y ≤ 1) : splineCoeff 1 y = 1 - y := by
  simp only [splineCoeff, Nat.cast_one, Nat.cast_zero]
  rw [if_neg (not_lt.mpr h)]

theorem splineCoeff1_far (h : 1 ≤ y) : splineCoeff 1 y = 0 := by
  simp only [splineCoeff, Nat.cast_one, Nat.cast_zero]
  rcases h.lt_or_eq with h | rfl
  · rw [if_pos h]
  · norm_num

theorem splineCoeff2_a (h : y ≤ 1 / 2) : splineCoeff 2 y = 3 / 4 - y * y := by
  simp only [splineCoeff, q, Nat.cast_one, Nat.cast_ofNat, Nat.cast_zero]
  rcases h.lt_or_eq with h | rfl
  · rw [if_pos h]
  · norm_num

theorem splineCoeff2_b (h1 : 1 / 2 ≤ y) (h2 : y ≤ 3 / 2) : splineCoeff 2 y = 1 / 2 * (3 / 2 - y) ^ 2 := by
  simp only [splineCoeff, q, Nat.cast_one, Nat.cast_ofNat, Nat.cast_zero]
  rw [if_neg (not_lt.mpr h1)]
  rcases h2.lt_or_eq with h | rfl
  · rw [if_pos h]; ring
  · norm_num

theorem splineCoeff2_c (h : 3 / 2 ≤ y) : splineCoeff 2 y = 0 := by
  simp only [splineCoeff, q, Nat.cast_one, Nat.cast_ofNat, Nat.cast_zero]
  rw [if_neg (not_lt.mpr (le_trans (by norm_num) h)), if_neg (not_lt.mpr h)]

theorem splineCoeff3_a (h : y ≤ 1) : splineCoeff 3 y = (y * y * (y - 2) * 3 + 4) / 6 := by
  simp only [splineCoeff, Nat.cast_one, Nat.cast_ofNat, Nat.cast_zero]
  rcases h.lt_or_eq with h | rfl
  · rw [if_pos h]
  · norm_num

theorem splineCoeff3_b (h1 : 1 ≤ y) (h2 : y ≤ 2) : splineCoeff 3 y = (2 - y) ^ 3 / 6 := by
  simp only [splineCoeff, Nat.cast_one, Nat.cast_ofNat, Nat.cast_zero]
  rw [if_neg (not_lt.mpr h1)]
  rcases h2.lt_or_eq with h | rfl
  · rw [if_pos h]; ring
  · norm_num

theorem splineCoeff3_c (h : 2 ≤ y) : splineCoeff 3 y = 0 := by
  simp only [splineCoeff, Nat.cast_one, Nat.cast_ofNat, Nat.cast_zero]
  rw [if_neg (not_lt.mpr (le_trans (by norm_num) h)), if_neg (not_lt.mpr h)]

theorem splineCoeff4_a (h : y ≤ 1 / 2) :
    splineCoeff 4 y = y * y * (y * y * (1 / 4) - 5 / 8) + 115 / 192 := by
  simp only [splineCoeff, q, Nat.cast_one, Nat.cast_ofNat, Nat.cast_zero]
  rcases h.lt_or_eq with h | rfl
  · rw [if_pos h]
  · norm_num

theorem splineCoeff4_b (h1 : 1 / 2 ≤ y) (h2 : y ≤ 3 / 2) :
    splineCoeff 4 y = y * (y * (y * (5 / 6 - y / 6) - 5 / 4) + 5 / 24) + 55 / 96 := by
  simp only [splineCoeff, q, Nat.cast_one, Nat.cast_ofNat, Nat.cast_zero]
  rw [if_neg (not_lt.mpr h1)]
  rcases h2.lt_or_eq with h | rfl
  · rw [if_pos h]
  · norm_num

theorem splineCoeff4_c (h1 : 3 / 2 ≤ y) (h2 : y ≤ 5 / 2) : splineCoeff 4 y = (y - 5 / 2) ^ 4 / 24 := by
  simp only [splineCoeff, q, Nat.cast_one, Nat.cast_ofNat, Nat.cast_zero]
  rw [if_neg (not_lt.mpr (le_trans (by norm_num) h1)), if_neg (not_lt.mpr h1)]
  rcases h2.lt_or_eq with h | rfl
  · rw [if_pos h]; ring
  · norm_num

theorem splineCoeff4_d (h : 5 / 2 ≤ y) : splineCoeff 4 y = 0 := by
  simp only [splineCoeff, q, Nat.cast_one, Nat.cast_ofNat, Nat.cast_zero]
  rw [if_neg (not_lt.mpr (le_trans (by norm_num) h)), if_neg (not_lt.mpr (le_trans (by norm_num) h)),
    if_neg (not_lt.mpr h)]

theorem splineCoeff5_a (h : y ≤ 1) :
    splineCoeff 5 y = y * y * (y * y * (1 / 4 - y / 12) - 1 / 2) + 11 / 20 := by
  simp only [splineCoeff, q, Nat.cast_one, Nat.cast_ofNat, Nat.cast_zero]
  rcases h.lt_or_eq with h | rfl
  · rw [if_pos h]
  · norm_num

theorem splineCoeff5_b (h1 : 1 ≤ y) (h2 : y ≤ 2) :
    splineCoeff 5 y = y * (y * (y * (y * (y / 24 - 3 / 8) + 5 / 4) - 7 / 4) + 5 / 8) + 17 / 40 := by
  simp only [splineCoeff, q, Nat.cast_one, Nat.cast_ofNat, Nat.cast_zero]
  rw [if_neg (not_lt.mpr h1)]
  rcases h2.lt_or_eq with h | rfl
  · rw [if_pos h]
  · norm_num

theorem splineCoeff5_c (h1 : 2 ≤ y) (h2 : y ≤ 3) : splineCoeff 5 y = (3 - y) ^ 5 / 120 := by
  simp only [splineCoeff, q, Nat.cast_one, Nat.cast_ofNat, Nat.cast_zero]
  rw [if_neg (not_lt.mpr (le_trans (by norm_num) h1)), if_neg (not_lt.mpr h1)]
  rcases h2.lt_or_eq with h | rfl
  · rw [if_pos h]; ring
  · norm_num

theorem splineCoeff5_d (h : 3 ≤ y) : splineCoeff 5 y = 0 := by
  simp only [splineCoeff, q, Nat.cast_one, Nat.cast_ofNat, Nat.cast_zero]
  rw [if_neg (not_lt.mpr (le_trans (by norm_num) h)), if_neg (not_lt.mpr (le_trans (by norm_num) h)),
    if_neg (not_lt.mpr h)]

end pieces

theorem q_half : (q 1 2 : K) = 1 / 2 := by simp [q]

theorem startIdx_one (fl : K → Int) (x : K) : startIdx fl 1 x = fl x := by simp [startIdx]

theorem startIdx_int {fl : K → Int} (h : IsFloor fl) (order : Nat) (j : Int) :
    startIdx fl order (j : K) = j - ((order / 2 : Nat) : Int) := by
  unfold startIdx
  split_ifs
  · rw [h.int]
  · rw [q_half, h.int_half]

/-- the `order + 1` knots from `startIdx` on are those within `(order + 1) / 2` of `x`: the window that carries the
    support of the B-spline of that degree centred at `x` -/
theorem startIdx_window {fl : K → Int} (h : IsFloor fl) (order : Nat) (x : K) :
    ((startIdx fl order x : Int) : K) + ((order : K) - 1) / 2 ≤ x ∧
      x < ((startIdx fl order x : Int) : K) + ((order : K) + 1) / 2 := by
  unfold startIdx
  obtain ⟨m, rfl | rfl⟩ := Nat.even_or_odd' order
  · obtain ⟨a, b⟩ := h (x + 1 / 2)
    rw [if_neg (by omega), Nat.mul_div_cancel_left m two_pos, q_half]
    push_cast
    exact ⟨by linear_combination a, by linear_combination b⟩
  · obtain ⟨a, b⟩ := h x
    rw [if_pos (by omega), show (2 * m + 1) / 2 = m by omega]
    push_cast
    exact ⟨by linear_combination a, by linear_combination b⟩

theorem weights_order1 {fl : K → Int} (h : IsFloor fl) (x : K) :
    weights fl 1 x = [1 - (x - (fl x : K)), x - (fl x : K)] := by
  obtain ⟨a, b⟩ := h x
  have r : List.range (1 + 1) = [0, 1] := rfl
  simp only [weights, r, startIdx_one, List.map_cons, List.map_nil, absV_eq_abs, Nat.cast_zero, Nat.cast_one,
    add_zero]
  rw [abs_of_nonpos (by linear_combination a), abs_of_nonneg (by linear_combination b),
    splineCoeff1_near _ (by linear_combination b), splineCoeff1_near _ (by linear_combination a)]
  ring_nf

theorem weights_int {fl : K → Int} (h : IsFloor fl) (order : Nat) (j : Int) :
    weights fl order (j : K)
      = (List.range (order + 1)).map fun k => splineCoeff order |((k : Nat) : K) - ((order / 2 : Nat) : K)| := by
  unfold weights
  apply List.map_congr_left
  intro k _
  rw [startIdx_int h, absV_eq_abs, Int.cast_sub, Int.cast_natCast]
  congr 2
  ring

theorem weights_int2 {fl : K → Int} (h : IsFloor fl) (n : Int) :
    weights fl 2 (n : K) = [1 / 8, 3 / 4, 1 / 8] := by
  have r : List.range (2 + 1) = [0, 1, 2] := rfl
  rw [weights_int h]
  simp only [r, List.map_cons, List.map_nil]
  norm_num [splineCoeff2_a, splineCoeff2_b]

theorem weights_int3 {fl : K → Int} (h : IsFloor fl) (n : Int) :
    weights fl 3 (n : K) = [1 / 6, 2 / 3, 1 / 6, 0] := by
  have r : List.range (3 + 1) = [0, 1, 2, 3] := rfl
  rw [weights_int h]
  simp only [r, List.map_cons, List.map_nil]
  norm_num [splineCoeff3_a, splineCoeff3_b, splineCoeff3_c]

theorem weights_int4 {fl : K → Int} (h : IsFloor fl) (n : Int) :
    weights fl 4 (n : K) = [1 / 384, 19 / 96, 115 / 192, 19 / 96, 1 / 384] := by
  have r : List.range (4 + 1) = [0, 1, 2, 3, 4] := rfl
  rw [weights_int h]
  simp only [r, List.map_cons, List.map_nil]
  norm_num [splineCoeff4_a, splineCoeff4_b, splineCoeff4_c]

theorem weights_int5 {fl : K → Int} (h : IsFloor fl) (n : Int) :
    weights fl 5 (n : K) = [1 / 120, 13 / 60, 11 / 20, 13 / 60, 1 / 120, 0] := by
  have r : List.range (5 + 1) = [0, 1, 2, 3, 4, 5] := rfl
  rw [weights_int h]
  simp only [r, List.map_cons, List.map_nil]
  norm_num [splineCoeff5_a, splineCoeff5_b, splineCoeff5_c, splineCoeff5_d]

theorem roundI_int {fl : K → Int} (h : IsFloor fl) (n : Int) : roundI fl (n : K) = n := by
  unfold roundI
  rw [q_half]
  split_ifs
  · exact h.int_half n
  · have e : -((n : K) - 1 / 2) = ((-n : Int) : K) + 1 / 2 := by push_cast; ring
    rw [e, h.int_half]; omega

theorem mapCoord_int {fl : K → Int} (h : IsFloor fl) (m : Mode) (len : Nat) (n : Int) :
    mapCoord fl m len (n : K) =
      if 0 ≤ n ∧ n ≤ (len : Int) - 1 then some (n : K)
      else (fixOffset m n len).map (fun (i : Int) => (i : K)) := by
  unfold mapCoord
  rw [roundI_int h]
  have c1 : ((n : K) < ((0 : Nat) : K) ∨ ((((len : Int) - 1 : Int)) : K) < (n : K))
      ↔ ¬ (0 ≤ n ∧ n ≤ (len : Int) - 1) := by
    rw [Nat.cast_zero, ← Int.cast_zero, Int.cast_lt, Int.cast_lt]; omega
  by_cases c : 0 ≤ n ∧ n ≤ (len : Int) - 1
  · rw [if_neg (fun h => c1.mp h c), if_pos c]
  · rw [if_pos (c1.mpr c), if_neg c]
    cases fixOffset m n len <;> rfl

theorem startIdx_weights_int1 {fl : K → Int} (h : IsFloor fl) (j : Int) :
    startIdx fl 1 (j : K) = j ∧ weights fl 1 (j : K) = [1, 0] := by
  constructor
  · rw [startIdx_one, h.int]
  · rw [weights_order1 h, h.int]; simp

theorem tensorSum_delta1 (sample : List Int → K) (i j : Int) :
    tensorSum ((0 : Nat) : K) sample [([i, j], [1, 0])] = sample [i] := by
  simp [tensorSum, tensorTerms]

theorem tensorSum_linear1 (sample : List Int → K) (i j : Int) (t : K) :
    tensorSum ((0 : Nat) : K) sample [([i, j], [1 - t, t])] = (1 - t) * sample [i] + t * sample [j] := by
  simp [tensorSum, tensorTerms]; ring

theorem natCast_toNat (kk : Int) (hkk : 0 ≤ kk) : ((kk.toNat : Nat) : K) = (kk : K) := by
  have e : ((kk.toNat : Nat) : Int) = kk := Int.toNat_of_nonneg hkk
  rw [← Int.cast_natCast, e]

/-- `shift`: output index `kk` reads input coordinate `kk − s` (the glue negates the shift, `zoom_shift` adds) -/
theorem coord_shift (kk : Int) (hkk : 0 ≤ kk) (s : K) : coord kk.toNat (some (-s)) none = (kk : K) - s := by
  simp only [coord, natCast_toNat kk hkk]; ring

theorem coord_zoom_corner (nin nout : Nat) (h : 2 ≤ nout) :
    coord (nout - 1) none (some (zoomFactor nin nout : K)) = (((nin : Int) - 1 : Int) : K) := by
  have hne : nout ≠ 1 := by omega
  have hpos : (((nout : Int) - 1 : Int) : K) ≠ 0 := Int.cast_ne_zero.mpr (by omega)
  have e : (((nout - 1 : Nat)) : K) = (((nout : Int) - 1 : Int) : K) := by
    rw [← Int.cast_natCast]
    congr 1
    omega
  simp only [coord, zoomFactor, hne, if_false, e]
  field_simp

theorem coord_zoom_origin (z : K) : coord 0 none (some z) = 0 := by
  simp [coord]

theorem coord_zoom_unit (n : Nat) (kk : Nat) :
    coord kk none (some (zoomFactor n n : K)) = (kk : K) := by
  by_cases h : n = 1
  · simp [coord, zoomFactor, h]
  · have hpos : (((n : Int) - 1 : Int) : K) ≠ 0 := Int.cast_ne_zero.mpr (by omega)
    simp only [coord, zoomFactor, h, if_false]
    rw [div_self hpos, mul_one]

end Mahotas.C18
