/-
C15 — Gray's identity for every image that is one row or one column: `eulerModel4 b c = 4 * eulerSpec b c`.
Bit-quad side: a one-row image is a product image, so its weight factors (`E_prod`) and the sum is twice the number of
value changes along the row, i.e. four times the number of runs; a one-column image is the transpose of a one-row image
with the same data array. Graph side: the pixel graph of such a box is the path `0 - 1 - 2 - …` on the flat indices, so
the smallest pixel of a component is a run start, and every pixel is a border pixel (no holes).
-/
import Mahotas.Proofs.C15Euler
import Mahotas.Proofs.C15Flood
namespace Mahotas.C15
open Mahotas

/-- a run starts at `k`: `m k` is set and `m (k - 1)` is not -/
def up (m : Int → Bool) (k : Nat) : Int := if m (k : Int) = true ∧ m ((k : Int) - 1) = false then 1 else 0

theorem tr_eq_up_down (m : Int → Bool) (k : Nat) :
    tr m ((k : Int) - 1) = 2 * up m k - (ind (m (k : Int)) - ind (m ((k : Int) - 1))) := by
  unfold tr up ind
  have e : (k : Int) - 1 + 1 = (k : Int) := by omega
  rw [e]
  cases m (k : Int) <;> cases m ((k : Int) - 1) <;> simp

theorem sum_tr_row (m : Int → Bool) (n : Nat) (hlo : m (-1) = false) (hhi : m (n : Int) = false) :
    ∑ k ∈ Finset.range (n + 1), tr m ((k : Int) - 1) = 2 * ∑ k ∈ Finset.range n, up m k := by
  have tele : ∑ k ∈ Finset.range (n + 1), (ind (m (k : Int)) - ind (m ((k : Int) - 1))) = 0 := by
    have := Finset.sum_range_sub (fun i : Nat => ind (m ((i : Int) - 1))) (n + 1)
    simp only [Nat.cast_add, Nat.cast_one, Nat.cast_zero] at this
    have e : ∀ i : Nat, ((i : Int) + 1 - 1) = (i : Int) := fun i => by omega
    simp only [e] at this
    rw [this]
    have e3 : ((0 : Int) - 1) = -1 := by omega
    rw [e3, hlo, hhi]
    simp [ind]
  have hlast : up m n = 0 := by unfold up; simp [hhi]
  calc ∑ k ∈ Finset.range (n + 1), tr m ((k : Int) - 1)
      = ∑ k ∈ Finset.range (n + 1), (2 * up m k - (ind (m (k : Int)) - ind (m ((k : Int) - 1)))) :=
        Finset.sum_congr rfl (fun k _ => tr_eq_up_down m k)
    _ = 2 * ∑ k ∈ Finset.range (n + 1), up m k - 0 := by
        rw [Finset.sum_sub_distrib, tele, Finset.mul_sum]
    _ = 2 * ∑ k ∈ Finset.range n, up m k := by
        rw [Finset.sum_range_succ, hlast]; ring

def rowCols (n : Nat) : Finset Int := (Finset.range (n + 1)).image fun k : Nat => (k : Int) - 1

theorem mem_rowCols (n : Nat) (x : Int) : x ∈ rowCols n ↔ (-1 ≤ x ∧ x ≤ (n : Int) - 1) := by
  unfold rowCols
  simp only [Finset.mem_image, Finset.mem_range]
  constructor
  · rintro ⟨k, hk, rfl⟩; omega
  · rintro ⟨h1, h2⟩
    exact ⟨(x + 1).toNat, by omega, by omega⟩

theorem get_one_row (b : Bin) (h1 : b.rows = 1) (y x : Int) : b.get y x = (ivl 0 1 y && b.get 0 x) := by
  unfold ivl
  by_cases hy : y = 0
  · subst hy; simp
  · have : b.get y x = false := by
      unfold Bin.get; rw [if_neg]; rw [h1]; omega
    rw [this]
    have hd : decide ((0 : Int) ≤ y ∧ y < 0 + 1) = false := by
      apply decide_eq_false; omega
    rw [hd]; rfl

theorem get_row_outside (b : Bin) (x : Int) (h : x < 0 ∨ (b.cols : Int) ≤ x) : b.get 0 x = false := by
  unfold Bin.get; rw [if_neg]; omega

theorem get_row_inside (b : Bin) (h1 : b.rows = 1) (k : Nat) (hk : k < b.cols) : b.get 0 (k : Int) = mk b.data k := by
  unfold Bin.get mk
  rw [if_pos (by rw [h1]; omega)]
  simp

abbrev runStart (mask : Array Bool) (k : Nat) : Prop := mk mask k = true ∧ (k = 0 ∨ mk mask (k - 1) = false)

theorem up_one_row (b : Bin) (h1 : b.rows = 1) (k : Nat) (hk : k < b.cols) :
    up (b.get 0) k = if runStart b.data k then 1 else 0 := by
  unfold up runStart
  rw [get_row_inside b h1 k hk]
  rcases Nat.eq_zero_or_pos k with h0 | hpos
  · subst h0
    have : b.get 0 (-1) = false := get_row_outside b _ (by omega)
    simp [this]
  · have e : ((k : Int) - 1) = ((k - 1 : Nat) : Int) := by omega
    rw [e, get_row_inside b h1 (k - 1) (by omega)]
    have : k ≠ 0 := by omega
    simp [this]

theorem eulerModel4_one_row (b : Bin) (c : Bool) (h1 : b.rows = 1) :
    eulerModel4 b c = 4 * ∑ k ∈ Finset.range b.cols, if runStart b.data k then 1 else 0 := by
  have hg : b.get = fun y x => ivl 0 1 y && b.get 0 x := by
    funext y x; exact get_one_row b h1 y x
  have htr0 : ∀ x : Int, x ∉ rowCols b.cols → tr (b.get 0) x = 0 := by
    intro x hx
    rw [mem_rowCols] at hx
    unfold tr
    rw [get_row_outside b x (by omega), get_row_outside b (x + 1) (by omega)]
    rfl
  have himg : ∑ x ∈ rowCols b.cols, tr (b.get 0) x =
      ∑ k ∈ Finset.range (b.cols + 1), tr (b.get 0) ((k : Int) - 1) :=
    Finset.sum_image fun a _ a' _ (h : (a : Int) - 1 = (a' : Int) - 1) => by omega
  rw [eulerModel4_eq_E b c (ends 0 1 ×ˢ rowCols b.cols)
      (hg ▸ covers_prod c _ _ _ _ (tr_ivl_outside 0 1 (by omega)) htr0),
    hg, E_prod, sum_tr_ivl 0 1 (by omega), himg,
    sum_tr_row _ b.cols (get_row_outside b (-1) (by omega)) (get_row_outside b _ (by omega)),
    Finset.sum_congr rfl fun k hk => up_one_row b h1 k (Finset.mem_range.mp hk)]
  ring

theorem get_one_col (b : Bin) (h1 : b.cols = 1) (y x : Int) :
    (⟨1, b.rows, b.data⟩ : Bin).get y x = b.get x y := by
  unfold Bin.get
  simp only [h1]
  by_cases h : 0 ≤ x ∧ x < (b.rows : Int) ∧ 0 ≤ y ∧ y < ((1 : Nat) : Int)
  · have hy : y.toNat = 0 := by omega
    rw [if_pos h, if_pos ⟨h.2.2.1, h.2.2.2, h.1, h.2.1⟩, hy, Nat.zero_mul, Nat.zero_add, Nat.mul_one,
      Nat.add_zero]
  · rw [if_neg h, if_neg fun h' => h ⟨h'.2.2.1, h'.2.2.2, h'.1, h'.2.1⟩]

theorem eulerModel4_line (b : Bin) (c : Bool) (hl : b.rows = 1 ∨ b.cols = 1) :
    eulerModel4 b c = 4 * ∑ k ∈ Finset.range (b.rows * b.cols), if runStart b.data k then 1 else 0 := by
  rcases hl with h1 | h1
  · rw [eulerModel4_one_row b c h1, h1, Nat.one_mul]
  · rw [← euler_transpose b ⟨1, b.rows, b.data⟩ c (get_one_col b h1),
      eulerModel4_one_row ⟨1, b.rows, b.data⟩ c rfl, h1, Nat.mul_one]

theorem neigh_line (c : Bool) (t : Int) :
    ((0, t) ∈ neigh c ↔ (t = 1 ∨ t = -1)) ∧ ((t, 0) ∈ neigh c ↔ (t = 1 ∨ t = -1)) := by
  cases c <;> simp [neigh] <;> omega

theorem adjIdx_line {rows cols : Nat} (c : Bool) (hl : rows = 1 ∨ cols = 1) {i j : Nat}
    (hi : i < rows * cols) (hj : j < rows * cols) :
    adjIdx rows cols c i j ↔ (j = i + 1 ∨ j + 1 = i) := by
  rw [adjIdx_iff hj]
  rcases hl with rfl | rfl
  · rw [Nat.one_mul] at hi hj
    rw [Nat.div_eq_of_lt hi, Nat.div_eq_of_lt hj, Nat.mod_eq_of_lt hi, Nat.mod_eq_of_lt hj, Int.sub_self,
      (neigh_line c _).1]
    omega
  · rw [Nat.div_one, Nat.div_one, Nat.mod_one, Nat.mod_one, Int.sub_self, (neigh_line c _).2]
    omega

theorem minimal_iff_line {rows cols : Nat} (mask : Array Bool) (c : Bool) (hl : rows = 1 ∨ cols = 1)
    (i : Nat) (hv : IsV rows cols mask i) :
    (∀ j, IConn rows cols mask c i j → i ≤ j) ↔ (i = 0 ∨ mk mask (i - 1) = false) := by
  constructor
  · intro h
    by_contra hcon
    have hm : mk mask (i - 1) = true := by
      cases hmm : mk mask (i - 1)
      · exact absurd (Or.inr hmm) hcon
      · rfl
    have hv' : IsV rows cols mask (i - 1) := ⟨by have := hv.1; omega, hm⟩
    have := h (i - 1) (Relation.ReflTransGen.single
      ⟨hv, hv', (adjIdx_line c hl hv.1 hv'.1).mpr (by omega)⟩)
    omega
  · intro h j hj
    induction hj with
    | refl => exact Nat.le_refl _
    | tail hik hkj ih =>
      rename_i k j
      obtain ⟨hvk, hvj, hadj⟩ := hkj
      rcases (adjIdx_line c hl hvk.1 hvj.1).mp hadj with e | e
      · omega
      · by_cases hki : k = i
        · subst hki
          rcases h with h0 | hm
          · omega
          · have : j = k - 1 := by omega
            subst this
            rw [hvj.2] at hm
            exact absurd hm (by simp)
        · omega

theorem bdr_line {rows cols k : Nat} (hl : rows = 1 ∨ cols = 1) (hk : k < rows * cols) :
    bdr rows cols k = true := by
  unfold bdr
  rcases hl with rfl | rfl
  · rw [Nat.div_eq_of_lt (by omega)]
    simp
  · rw [Nat.mod_one]
    simp

theorem length_eq_sum_indicator (l : List Nat) (hl : l.Nodup) (n : Nat) (P : Nat → Prop) [DecidablePred P]
    (hm : ∀ i, i ∈ l ↔ (i < n ∧ P i)) : (l.length : Int) = ∑ k ∈ Finset.range n, if P k then 1 else 0 := by
  rw [Finset.sum_boole]
  have : l.toFinset = (Finset.range n).filter P := by
    ext i
    simp only [List.mem_toFinset, Finset.mem_filter, Finset.mem_range]
    exact hm i
  rw [← this, List.toFinset_card_of_nodup hl]

/-- **Gray's identity for one row or one column** (any number of runs, runs touching either end, both connectivities):
    the components are the runs, and there are no holes -/
theorem euler_gray_line (b : Bin) (c : Bool) (hl : b.rows = 1 ∨ b.cols = 1) :
    eulerModel4 b c = 4 * eulerSpec b c := by
  obtain ⟨comps, _, hnd, hlen, hrep, _⟩ := countComps_spec b.rows b.cols b.data c
  obtain ⟨inner, _, hilen, himem⟩ := countComps_inner b.rows b.cols (b.data.map (!·)) (!c)
  have hinner : inner = [] := by
    cases inner with
    | nil => rfl
    | cons s t =>
      have hs := (himem s).1 List.mem_cons_self
      exact absurd ⟨s, Relation.ReflTransGen.refl, bdr_line hl hs.1.1.1⟩ hs.2
  have hcomps : (comps.length : Int) =
      ∑ k ∈ Finset.range (b.rows * b.cols), if runStart b.data k then 1 else 0 := by
    apply length_eq_sum_indicator comps hnd
    intro i
    rw [hrep i]
    constructor
    · rintro ⟨hv, hmin⟩
      exact ⟨hv.1, hv.2, (minimal_iff_line b.data c hl i hv).1 hmin⟩
    · rintro ⟨hi, hm, hleft⟩
      exact ⟨⟨hi, hm⟩, (minimal_iff_line b.data c hl i ⟨hi, hm⟩).2 hleft⟩
  rw [eulerModel4_line b c hl, ← hcomps, hlen]
  unfold eulerSpec components holes
  rw [← hilen, hinner]
  simp

end Mahotas.C15
