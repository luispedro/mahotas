/-
C08 — F15 (`defined_everywhere`): the loop skeletons and the scatter of `dilate` leave no output cell unwritten;
`cwatershed`'s outputs keep the size of the zero-filled arrays they start from; the address of an element of a per-axis line
of `distance` (`lineView_addr`).
-/
import Mahotas.Proofs.C08Kernels
import Mahotas.Proofs.C04Sim
namespace Mahotas.C08
open Mahotas

/-- no cell of an output is still unwritten -/
def AllSome {β : Type} (a : Array (Option β)) : Prop := ∀ o ∈ a.toList, o.isSome = true

theorem pixelLoop_defined {β : Type} (N : Nat) (g : Nat → β) :
    (pixelLoop N g).size = N ∧ AllSome (pixelLoop N g) := by
  rw [pixelLoop_eq]
  refine ⟨by simp, ?_⟩
  intro o ho
  simp only [List.mem_map] at ho
  obtain ⟨i, _, rfl⟩ := ho
  rfl

theorem markLoop_defined (N : Nat) (g : Nat → Bool) :
    (markLoop N g).size = N ∧ AllSome (markLoop N g) := by
  rw [markLoop_eq_pixelLoop]
  exact pixelLoop_defined N g

theorem allSome_set {β : Type} (a : Array (Option β)) (i : Nat) (x : β) (h : AllSome a) :
    AllSome (a.setIfInBounds i (some x)) := by
  intro o ho
  rw [Array.toList_setIfInBounds] at ho
  rcases List.mem_or_eq_of_mem_set ho with h1 | h1
  · exact h o h1
  · subst h1; rfl

theorem dilateStep_inv (dt : DT) (fv : FiltV Int) (value : Int) (i : Nat) (res : Array (Option Int)) (j : Nat)
    (N : Nat) (h : res.size = N ∧ AllSome res) :
    (dilateStep dt fv value i res j).size = N ∧ AllSome (dilateStep dt fv value i res j) := by
  unfold dilateStep
  simp only
  split
  · split
    · exact ⟨by simp [h.1], allSome_set _ _ _ h.2⟩
    · exact h
  · exact h

theorem statusSize_run (surf : Img Int) (nbs : List C04.Nb) (n k : Nat) (st : C04.MSt) (h : st.status.size = k) :
    (C04.modelRun surf nbs n st).status.size = k := by
  refine C04.modelRun_rule surf nbs (fun st _ => st.status.size = k) (fun _ acc _ => acc.1.status.size = k)
    (fun _ _ _ h _ => Array.size_setIfInBounds.trans h) (fun e acc _ nb _ hacc => ?_) (fun _ _ _ h => h) n st [] h
  obtain ⟨st, margin⟩ := acc
  cases hc : C04.nbCheck surf.shape e.pos margin nb with
  | none => rw [C04.modelVisit_none surf e st margin nb hc]; exact hacc
  | some r =>
    exact C04.modelVisit_cases surf e st margin nb r.1 r.2 hc (fun x => x.1.status.size = k)
      (fun _ => Array.size_setIfInBounds.trans hacc) (fun _ _ => hacc) (fun _ _ => hacc)

theorem statusSize_init (surf markers : Img Int) : (C04.modelInit surf markers).status.size = shapeSize surf.shape := by
  rw [C04.modelInit_eq]
  refine foldl_range_rec _ _ (fun _ (st : C04.MSt) => st.status.size = shapeSize surf.shape) Array.size_replicate
    fun k st _ h => ?_
  unfold C04.stepM; simp only
  split_ifs
  · exact h
  · exact Array.size_setIfInBounds.trans h

/-- cwatershed's outputs stay the zero-filled arrays, overwritten in place: the owner's invariant `C04.Sized` says that the three
buffers have one common size, and `status` keeps the size of its fill -/
theorem cwatershed_sized (surf markers : Img Int) (nbs : List C04.Nb) (n : Nat) :
    (C04.modelRun surf nbs n (C04.modelInit surf markers)).res.size = shapeSize surf.shape ∧
    (C04.modelRun surf nbs n (C04.modelInit surf markers)).lines.size = shapeSize surf.shape := by
  have hs := C04.run_sized surf nbs n _ (C04.modelInit_sized surf markers)
  have := statusSize_run surf nbs n _ _ (statusSize_init surf markers)
  exact ⟨hs.res.trans this, hs.lines.trans this⟩

theorem dot_set (s : List Int) (p : List Nat) (axis t : Nat) (hl : p.length = s.length) (ha : axis < p.length) :
    dot s (p.set axis t) = dot s (p.set axis 0) + s.getD axis 0 * (t : Int) := by
  induction s generalizing p axis with
  | nil => rw [List.length_nil] at hl; omega
  | cons x xs ih =>
    cases p with
    | nil => exact absurd ha (Nat.not_lt_zero _)
    | cons a as =>
      cases axis with
      | zero =>
        simp only [List.set_cons_zero, dot, List.getD_cons_zero, Int.natCast_zero, Int.mul_zero, Int.zero_add,
          Int.add_comm]
      | succ k =>
        simp only [List.set_cons_succ, dot, List.getD_cons_succ]
        rw [ih as k (Nat.succ.inj hl) (Nat.lt_of_succ_lt_succ ha), Int.add_assoc]

theorem lineView_addr (v : View) (axis : Nat) (p : List Nat) (t : Nat) (hl : p.length = v.strides.length)
    (ha : axis < p.length) : (lineView v axis p).addr [t] = v.addr (p.set axis t) := by
  unfold lineView View.addr
  simp only [dot]
  rw [dot_set v.strides p axis t hl ha]
  ring

end Mahotas.C08
