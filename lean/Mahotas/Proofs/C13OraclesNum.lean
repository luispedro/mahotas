/-
C13 — the executable oracles of the driver for the numeric call sites (`foldSpec` = `sumSpec`/`orSpec`/
`maxSpec`/`minSpec`, `countSpec`) equal the models.
-/
import Mahotas.Proofs.C13
namespace Mahotas.C13
open Mahotas

theorem foldSpec_sum (b : Bool) (n : Nat) (px : List (Int × Int)) :
    foldSpec b "sum" n px = if b then orSpec n px else sumSpec n px := by
  simp [foldSpec]

theorem foldSpec_max (b : Bool) (n : Nat) (px : List (Int × Int)) : foldSpec b "max" n px = maxSpec n px := by
  simp [foldSpec]

theorem foldSpec_min (b : Bool) (n : Nat) (px : List (Int × Int)) : foldSpec b "min" n px = minSpec n px := by
  simp [foldSpec]

theorem foldl_add_sum (vs : List Int) (s : Int) : vs.foldl (· + ·) s = s + vs.sum :=
  Mahotas.foldl_add_sum vs s

theorem sumSpec_slot (n : Nat) (px : List (Int × Int)) (l : Nat) (hl : l < n) :
    (sumSpec n px)[l]? = some (valuesOf px (l : Int)).sum := by
  rw [sumSpec, List.getElem?_map, List.getElem?_range hl, Option.map_some, foldl_add_sum, Int.zero_add]

theorem orSpec_slot (n : Nat) (px : List (Int × Int)) (l : Nat) (hl : l < n) :
    (orSpec n px)[l]? = some (if (valuesOf px (l : Int)).any (· ≠ 0) then 1 else 0) := by
  rw [orSpec, List.getElem?_map, List.getElem?_range hl, Option.map_some]

theorem maxSpec_slot (n : Nat) (px : List (Int × Int)) (l : Nat) (hl : l < n) :
    (maxSpec n px)[l]? = some ((valuesOf px (l : Int)).foldl max ((valuesOf px (l : Int)).headD 0)) := by
  rw [maxSpec, List.getElem?_map, List.getElem?_range hl, Option.map_some]

theorem minSpec_slot (n : Nat) (px : List (Int × Int)) (l : Nat) (hl : l < n) :
    (minSpec n px)[l]? = some ((valuesOf px (l : Int)).foldl min ((valuesOf px (l : Int)).headD 0)) := by
  rw [minSpec, List.getElem?_map, List.getElem?_range hl, Option.map_some]

theorem list_eq_toList_of_slots {α : Type} (n : Nat) (l : List α) (a : Array α) (hl : l.length = n) (ha : a.size = n)
    (h : ∀ i, i < n → l[i]? = a[i]?) : l = a.toList := by
  apply List.ext_getElem?
  intro i
  by_cases hi : i < n
  · rw [h i hi, Array.getElem?_toList]
  · rw [List.getElem?_eq_none (by omega), List.getElem?_eq_none (by rw [Array.length_toList]; omega)]

theorem orSpec_eq_model (n : Nat) (px : List (Int × Int)) :
    foldSpec dtBool.isBool "sum" n px = (sumInt dtBool n px).toList := by
  rw [foldSpec_sum, if_pos (show dtBool.isBool = true from rfl)]
  apply list_eq_toList_of_slots n _ _ (by simp [orSpec]) (sumInt_size dtBool n px)
  intro l hl
  rw [orSpec_slot n px l hl, sumInt_bool_slot n px l hl]

theorem sumSpec_slot_eq_model (dt : DT) (wf : dt.WF) (n : Nat) (px : List (Int × Int)) (l : Nat) (hl : l < n)
    (hr : dt.InRange (valuesOf px (l : Int)).sum) :
    (foldSpec dt.isBool "sum" n px)[l]? = (sumInt dt n px)[l]? := by
  rw [foldSpec_sum, wf.notBool, if_neg Bool.false_ne_true, sumSpec_slot n px l hl, sumInt_slot dt wf n px l hl,
    DT.wrap_in dt _ hr]

theorem maxSpec_slot_eq_exact (b : Bool) (lowest highest : Int) (n : Nat) (px : List (Int × Int)) (l : Nat)
    (hl : l < n) (hne : valuesOf px (l : Int) ≠ []) (hlo : ∀ v ∈ valuesOf px (l : Int), lowest ≤ v)
    (hhi : ∀ v ∈ valuesOf px (l : Int), v ≤ highest) :
    (foldSpec b "max" n px)[l]? = (labeledFold stdMax lowest n px)[l]? ∧
    (foldSpec b "min" n px)[l]? = (labeledFold stdMin highest n px)[l]? := by
  rw [foldSpec_max, foldSpec_min, maxSpec_slot n px l hl, minSpec_slot n px l hl,
    labeledFold_slot _ _ n px l hl, labeledFold_slot _ _ n px l hl,
    foldl_stdMax_headD _ lowest 0 hne hlo, foldl_stdMin_headD _ highest 0 hne hhi]
  exact ⟨rfl, rfl⟩

theorem sumSpec_eq_exact (n : Nat) (px : List (Int × Int)) :
    foldSpec false "sum" n px = (labeledFold (fun a r => a + r) (0 : Int) n px).toList := by
  rw [foldSpec_sum, if_neg Bool.false_ne_true]
  apply list_eq_toList_of_slots n _ _ (by simp [sumSpec]) (labeledFold_size _ _ n px)
  intro l hl
  rw [sumSpec_slot n px l hl, labeledFold_slot _ _ n px l hl, foldl_add_comm_sum, Int.zero_add]

/-- on a 0/1 list the zeros and the non-zeros make up the list, and the ones are the non-zeros -/
theorem bool_counts (vals : List Int) (h : ∀ v ∈ vals, v = 0 ∨ v = 1) :
    (vals.filter (· == (0 : Int))).length + (vals.filter (· ≠ 0)).length = vals.length ∧
    (vals.filter (· == (1 : Int))).length = (vals.filter (· ≠ 0)).length := by
  refine ⟨?_, congrArg List.length (List.filter_congr fun v hv => ?_)⟩
  · have e : (fun x : Int => decide (x ≠ 0)) = fun x => !(x == 0) :=
      funext fun x => by by_cases h : x = 0 <;> simp [h]
    rw [e]
    exact (List.length_eq_length_filter_add _).symm
  · rcases h v hv with rfl | rfl <;> rfl

theorem countSpec_eq_model (isBool : Bool) (vals : List Int) (hv : ∀ v ∈ vals, 0 ≤ v)
    (hb : isBool = true → ∀ v ∈ vals, v ≤ 1) :
    countSpec vals (fullHistogram isBool vals).length = fullHistogram isBool vals := by
  cases isBool with
  | true =>
    obtain ⟨a, b⟩ := bool_counts vals fun v hvm => by have := hv v hvm; have := hb rfl v hvm; omega
    rw [fullHistogram, if_pos rfl]
    show [(vals.filter (· == ((0 : Nat) : Int))).length, (vals.filter (· == ((1 : Nat) : Int))).length] = _
    rw [Int.natCast_zero, Int.natCast_one, b]
    congr 1
    omega
  | false =>
    have hsz := histogram_size ((maxOf vals).toNat + 1) vals
    rw [fullHistogram, if_neg Bool.false_ne_true, Array.length_toList, hsz]
    apply list_eq_toList_of_slots ((maxOf vals).toNat + 1) _ _ (by simp [countSpec]) hsz
    intro l hl
    rw [countSpec, List.getElem?_map, List.getElem?_range hl, Option.map_some, histogram_slot _ vals hv l hl]

theorem getD_nonneg (labels : List Int) (hnn : ∀ v ∈ labels, 0 ≤ v) (i : Nat) : 0 ≤ labels.getD i 0 := by
  rw [List.getD_eq_getElem?_getD]
  cases h : labels[i]? with
  | none => exact Int.le_refl 0
  | some v => exact hnn v (List.mem_of_getElem? h)

end Mahotas.C13
