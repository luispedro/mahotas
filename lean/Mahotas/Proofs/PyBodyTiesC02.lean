/-
Ties between the Python bodies of `morph.py` (regenerated on every run into `Generated/PyBodiesC02.lean` by
`translator/pybody.py`) and the hand-written compositions of `Model/C02.lean` that the driver runs.

The generated definitions are compositions over an abstract structure of primitives; `c02Prims dt` instantiates
every primitive with the model kernel the driver uses for it. Each theorem holds for ALL arguments.
-/
import Mahotas.Generated.PyBodiesC02
import Mahotas.Model.C02
import Mahotas.Proofs.ListLemmas

namespace Mahotas
open Mahotas.Generated.Py Mahotas.C02

/-- the primitives of `morph.py` as the C02 model has them: the structuring element is the already resolved support
    (`get_structuring_elem` returns an array argument of the right rank and dtype unchanged), `erode`/`dilate` are the
    C01 kernels as images, `np.maximum`/`np.minimum`/`subm` act element by element, `np.all(a == b)` compares the
    data; `open`/`close` (called by the top-hats) are the model compositions, which
    `pybody_morph_open_eq_model`/`pybody_morph_close_eq_model` prove equal to the generated bodies. -/
def c02Prims (dt : DT) : MorphPrims (Img Int) (List (List Int × Int)) where
  get_structuring_elem := fun _ s => s
  erode := erodeImg dt
  dilate := dilateImg dt
  maximum := map2 max
  minimum := map2 min
  subm := submModel dt
  all_eq := fun a b => a.data == b.data
  open_ := openModel dt
  close := closeModel dt

/-- `morph.open` = `C02.openModel`, all dtypes, images and elements -/
theorem pybody_morph_open_eq_model (dt : DT) (f : Img Int) (sup : List (List Int × Int)) :
    morph_open (c02Prims dt) f sup = openModel dt f sup := by
  simp [morph_open, c02Prims, openModel]

/-- `morph.close` = `C02.closeModel` -/
theorem pybody_morph_close_eq_model (dt : DT) (f : Img Int) (sup : List (List Int × Int)) :
    morph_close (c02Prims dt) f sup = closeModel dt f sup := by
  simp [morph_close, c02Prims, closeModel]

/-- `morph.cerode` = `C02.cerodeModel`: `maximum(erode(maximum(f, g)), g)` with this argument order -/
theorem pybody_morph_cerode_eq_model (dt : DT) (f g : Img Int) (sup : List (List Int × Int)) :
    morph_cerode (c02Prims dt) f g sup = cerodeModel dt f g sup := by
  simp [morph_cerode, c02Prims, cerodeModel]

/-- one round of the `for i in range(n)` loop of `cdilate`; the flag stands for `break` -/
def cdilateRound (dt : DT) (g : Img Int) (sup : List (List Int × Int)) (st : Bool × Img Int) (_ : Nat) :
    Bool × Img Int :=
  if st.1 then st else
    if (map2 min (dilateImg dt st.2 sup) g).data == st.2.data
    then (true, map2 min (dilateImg dt st.2 sup) g) else (false, map2 min (dilateImg dt st.2 sup) g)

/-- the loop as a fold with a flag is the model's recursion -/
theorem cdilate_fold_eq_loop (dt : DT) (g : Img Int) (sup : List (List Int × Int)) (n s : Nat) (f : Img Int) :
    (List.foldl (cdilateRound dt g sup) (false, f) (List.range' s n)).2 = cdilateLoop dt g sup n f := by
  induction n generalizing s f with
  | zero => rfl
  | succ n ih =>
    rw [List.range'_succ, List.foldl_cons, cdilateLoop]
    unfold cdilateRound
    by_cases h : (map2 min (dilateImg dt f sup) g).data == f.data
    · simp only [Bool.false_eq_true, if_false, h, if_true]
      exact congrArg Prod.snd (foldl_fixed _ (true, _) (fun _ => rfl) _)
    · simp only [Bool.false_eq_true, if_false, h]
      exact ih (s + 1) _

/-- `morph.cdilate` = `C02.cdilateModel`, every `n` -/
theorem pybody_morph_cdilate_eq_model (dt : DT) (f g : Img Int) (sup : List (List Int × Int)) (n : Nat) :
    morph_cdilate (c02Prims dt) f g sup n = cdilateModel dt f g sup n := by
  simp only [morph_cdilate, c02Prims, cdilateModel]
  exact cdilate_fold_eq_loop dt g sup n 0 _

/-- `morph.tophat_open` = `C02.tophatOpenModel`: `subm(f, open(f))` in this order -/
theorem pybody_morph_tophat_open_eq_model (dt : DT) (f : Img Int) (sup : List (List Int × Int)) :
    morph_tophat_open (c02Prims dt) f sup = tophatOpenModel dt f sup := by
  simp [morph_tophat_open, c02Prims, tophatOpenModel]

/-- `morph.tophat_close` = `C02.tophatCloseModel`: `subm(close(f), f)` in this order -/
theorem pybody_morph_tophat_close_eq_model (dt : DT) (f : Img Int) (sup : List (List Int × Int)) :
    morph_tophat_close (c02Prims dt) f sup = tophatCloseModel dt f sup := by
  simp [morph_tophat_close, c02Prims, tophatCloseModel]

/-- the `open`/`close` fields of `c02Prims` are the generated bodies themselves (no circularity: the top-hat ties
    rest on the translated `open`/`close`, not only on the model's) -/
theorem pybody_c02Prims_consistent (dt : DT) :
    (c02Prims dt).open_ = morph_open (c02Prims dt) ∧ (c02Prims dt).close = morph_close (c02Prims dt) := by
  constructor <;> funext f sup
  · exact (pybody_morph_open_eq_model dt f sup).symm
  · exact (pybody_morph_close_eq_model dt f sup).symm

/-- non-vacuity: on a concrete uint8 image the translated `cdilate` really iterates (two rounds differ from one) -/
example :
    let f : Img Int := { shape := [5], data := #[9, 0, 0, 0, 0] }
    let g : Img Int := { shape := [5], data := #[9, 9, 9, 9, 0] }
    let sup : List (List Int × Int) := C01.support [3] #[1, 1, 1] false
    (morph_cdilate (c02Prims (dtU 8)) f g sup 2).data.toList ≠ (morph_cdilate (c02Prims (dtU 8)) f g sup 1).data.toList := by
  decide +kernel

end Mahotas
