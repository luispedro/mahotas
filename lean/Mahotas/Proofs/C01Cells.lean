/-
Cells of 0/1 arrays, for the kernels of C01 on bool images (the generic ones and the 2-D fast path).
A 0/1 cell is described by saying when it is non-zero (`Is01 x P`); two cells with the same description are
equal, so two kernels are compared by comparing conditions. A fold of `out[j] &= b` stores leaves a cell non-zero
iff it was and every value stored to it is; a fold of `out[j] |= b` stores iff it was or some value stored to it is.
-/
import Mahotas.Proofs.C01Index
namespace Mahotas.C01
open Mahotas

/-- `x` is 0 or 1, and non-zero exactly when `P` -/
def Is01 (x : Int) (P : Prop) : Prop := (x = 0 ∨ x = 1) ∧ (x ≠ 0 ↔ P)

theorem Is01.congr {x : Int} {P Q : Prop} (h : Is01 x P) (hPQ : P ↔ Q) : Is01 x Q := ⟨h.1, h.2.trans hPQ⟩

theorem Is01.eq {x y : Int} {P : Prop} (hx : Is01 x P) (hy : Is01 y P) : x = y := by
  have := hx.2.trans hy.2.symm
  rcases hx.1 with h1 | h1 <;> rcases hy.1 with h2 | h2 <;> simp_all

theorem Is01.ite (c : Prop) [Decidable c] : Is01 (if c then 1 else 0) c := by
  by_cases h : c
  · rw [if_pos h]; exact ⟨Or.inr rfl, fun _ => h, fun _ => by decide⟩
  · rw [if_neg h]; exact ⟨Or.inl rfl, fun h' => absurd rfl h', fun h' => absurd h' h⟩

theorem Is01.eq_one_sub {x y : Int} {P Q : Prop} (hx : Is01 x P) (hy : Is01 y Q) (h : P ↔ ¬ Q) : x = 1 - y := by
  have := hx.2.trans (h.trans (not_congr hy.2.symm))
  rcases hx.1 with h1 | h1 <;> rcases hy.1 with h2 | h2 <;> simp_all

theorem Is01.self {x : Int} (h : x = 0 ∨ x = 1) : Is01 x (x ≠ 0) := ⟨h, Iff.rfl⟩

theorem array_eq_of_Is01 (a b : Array Int) (n : Nat) (ha : a.size = n) (hb : b.size = n) (P : Nat → Prop)
    (h1 : ∀ i, i < n → Is01 (a.getD i 0) (P i)) (h2 : ∀ i, i < n → Is01 (b.getD i 0) (P i)) : a = b :=
  array_eq_of_cells a b n ha hb fun i hi => (h1 i hi).eq (h2 i hi)

/-! ### `&=` and `|=` stores into a flat 0/1 array -/

theorem foldl_and_Is01 (bs : List Int) (v : Int) (hv : v = 0 ∨ v = 1) :
    Is01 (bs.foldl (fun v b => if (v != 0 && b != 0) = true then 1 else 0) v) (v ≠ 0 ∧ ∀ b ∈ bs, b ≠ 0) := by
  induction bs generalizing v with
  | nil => exact (Is01.self hv).congr (by simp)
  | cons b t ih =>
    have h := Is01.ite ((v != 0 && b != 0) = true)
    rw [List.foldl_cons]
    refine (ih _ h.1).congr ?_
    rw [h.2, List.forall_mem_cons, Bool.and_eq_true, bne_iff_ne, bne_iff_ne, and_assoc]

theorem foldl_or_Is01 (bs : List Int) (v : Int) (hv : v = 0 ∨ v = 1) :
    Is01 (bs.foldl (fun v b => if (v != 0 || b != 0) = true then 1 else 0) v) (v ≠ 0 ∨ ∃ b ∈ bs, b ≠ 0) := by
  induction bs generalizing v with
  | nil => exact (Is01.self hv).congr (by simp)
  | cons b t ih =>
    have h := Is01.ite ((v != 0 || b != 0) = true)
    rw [List.foldl_cons]
    refine (ih _ h.1).congr ?_
    rw [h.2, Bool.or_eq_true, bne_iff_ne, bne_iff_ne, or_assoc]
    simp only [List.mem_cons, exists_eq_or_imp]

theorem foldl_min_Is01 {α : Type} (f : α → Int) (l : List α) (h : ∀ x ∈ l, f x = 0 ∨ f x = 1)
    (v : Int) (hv : v = 0 ∨ v = 1) :
    Is01 (l.foldl (fun v x => min v (f x)) v) (v ≠ 0 ∧ ∀ x ∈ l, f x ≠ 0) := by
  induction l generalizing v with
  | nil => exact (Is01.self hv).congr (by simp)
  | cons a t ih =>
    have ha := h a (by simp)
    rw [List.foldl_cons]
    refine (ih (fun x hx => h x (by simp [hx])) (min v (f a)) (by omega)).congr ?_
    rw [List.forall_mem_cons, ← and_assoc]
    exact and_congr_left fun _ => by omega

theorem andProg_size (ws : List (Nat × Int)) (o : Array Int) :
    (ws.foldl (fun o w => andInto o w.1 w.2) o).size = o.size :=
  foldl_storePair_size (fun v b => if (v != 0 && b != 0) = true then 1 else 0) 0 ws o

theorem orProg_size (ws : List (Nat × Int)) (o : Array Int) :
    (ws.foldl (fun o w => orInto o w.1 w.2) o).size = o.size :=
  foldl_storePair_size (fun v b => if (v != 0 || b != 0) = true then 1 else 0) 0 ws o

/-- `out[j] &= b` stores: a cell is non-zero iff it was and every value stored to it is -/
theorem andProg_cell (ws : List (Nat × Int)) (o : Array Int) (i : Nat) (hi : i < o.size)
    (h01 : o.getD i 0 = 0 ∨ o.getD i 0 = 1) :
    Is01 ((ws.foldl (fun o w => andInto o w.1 w.2) o).getD i 0)
      (o.getD i 0 ≠ 0 ∧ ∀ w ∈ ws, w.1 = i → w.2 ≠ 0) := by
  have h := foldl_storePair_getD (fun v b => if (v != 0 && b != 0) = true then 1 else 0) 0 ws o i hi
  refine (show _ = _ from h) ▸ (foldl_and_Is01 _ _ h01).congr (and_congr_right fun _ => ?_)
  simp only [List.mem_map, List.mem_filter, beq_iff_eq]
  exact ⟨fun h w hw e => h _ ⟨w, ⟨hw, e⟩, rfl⟩, fun h _ ⟨w, ⟨hw, e⟩, e2⟩ => e2 ▸ h w hw e⟩

/-- `out[j] |= b` stores: a cell is non-zero iff it was or some value stored to it is -/
theorem orProg_cell (ws : List (Nat × Int)) (o : Array Int) (i : Nat) (hi : i < o.size)
    (h01 : o.getD i 0 = 0 ∨ o.getD i 0 = 1) :
    Is01 ((ws.foldl (fun o w => orInto o w.1 w.2) o).getD i 0)
      (o.getD i 0 ≠ 0 ∨ ∃ w ∈ ws, w.1 = i ∧ w.2 ≠ 0) := by
  have h := foldl_storePair_getD (fun v b => if (v != 0 || b != 0) = true then 1 else 0) 0 ws o i hi
  refine (show _ = _ from h) ▸ (foldl_or_Is01 _ _ h01).congr (or_congr_right ?_)
  simp only [List.mem_map, List.mem_filter, beq_iff_eq]
  exact ⟨fun ⟨_, ⟨w, ⟨hw, e⟩, e2⟩, hne⟩ => ⟨w, hw, e, e2 ▸ hne⟩, fun ⟨w, hw, e, hne⟩ => ⟨_, ⟨w, ⟨hw, e⟩, rfl⟩, hne⟩⟩

/-- two `|=` programs on the same 0/1 start that store a non-zero value to the same cells give the same array -/
theorem orProg_ext (ws1 ws2 : List (Nat × Int)) (o : Array Int) (h01 : ∀ i, o.getD i 0 = 0 ∨ o.getD i 0 = 1)
    (h : ∀ i, i < o.size → ((∃ w ∈ ws1, w.1 = i ∧ w.2 ≠ 0) ↔ ∃ w ∈ ws2, w.1 = i ∧ w.2 ≠ 0)) :
    ws1.foldl (fun o w => orInto o w.1 w.2) o = ws2.foldl (fun o w => orInto o w.1 w.2) o :=
  array_eq_of_Is01 _ _ o.size (orProg_size ws1 o) (orProg_size ws2 o) _
    (fun i hi => (orProg_cell ws1 o i hi (h01 i)).congr (or_congr_right (h i hi)))
    (fun i hi => orProg_cell ws2 o i hi (h01 i))

end Mahotas.C01
