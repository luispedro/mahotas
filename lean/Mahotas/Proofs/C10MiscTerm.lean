/-
C10 — the queue loop of `distance_multi` (`Model/C10Misc.lean: dmSecond`) ends within `queue length + Σ max(res[p], 0)` pops.

Every push goes with a store that strictly lowers a cell of `res` to a non-negative integer (`*rpos > next_dist` ⇒
`*rpos = next_dist`, `next_dist` a squared distance), so `Σ max(res[p], 0)` drops by at least one per push.
-/
import Mahotas.Model.C10Misc
import Mahotas.Proofs.C10MiscDist
namespace Mahotas.C10Misc
open Mahotas

/-- the measure: `Σ max(res[p], 0)` -/
def resMass (res : List Int) : Nat := (res.map Int.toNat).sum

theorem euc2_nonneg : ∀ (a b : List Int), 0 ≤ euc2 a b
  | [], _ => Int.le_refl 0
  | _ :: _, [] => Int.le_refl 0
  | a :: as, b :: bs => Int.add_nonneg (mul_self_nonneg (a - b)) (euc2_nonneg as bs)

theorem resMass_set (res : List Int) (k : Nat) (v : Int) (hk : k < res.length) (h0 : 0 ≤ v) (hlt : v < res.getD k 0) :
    resMass (res.set k v) + 1 ≤ resMass res := by
  induction res generalizing k with
  | nil => simp at hk
  | cons x xs ih =>
    cases k with
    | zero =>
      simp only [List.getD_cons_zero] at hlt
      simp only [resMass, List.set_cons_zero, List.map_cons, List.sum_cons]
      omega
    | succ k =>
      simp only [List.getD_cons_succ] at hlt
      simp only [List.length_cons] at hk
      have := ih k (by omega) hlt
      simp only [resMass, List.set_cons_succ, List.map_cons, List.sum_cons] at this ⊢
      omega

/-- one neighbour loop: the pushes are paid for by the mass -/
theorem dmScan_mass (first : Bool) (shape : List Nat) (img : List Bool) (orig : List Int) :
    ∀ (ds : List (List Int)) (nxt : List Int) (res : List Int), res.length = shapeSize shape →
      (dmScan true first shape img orig ds nxt res).2.2.length + resMass (dmScan true first shape img orig ds nxt res).2.1
        ≤ resMass res ∧ (dmScan true first shape img orig ds nxt res).2.1.length = shapeSize shape := by
  intro ds
  induction ds with
  | nil => intro nxt res h; simp [dmScan, h]
  | cons d ds ih =>
    intro nxt res hlen
    simp only [dmScan, Bool.not_true, Bool.false_or]
    split
    · rename_i hv
      have hin := ((validPosition_eq_inside shape _).symm.trans hv)
      have hk : ravelI shape (posAdd nxt d) < res.length := by rw [hlen]; exact C01.ravelI_lt shape _ hin
      split
      · split
        · rename_i hgt
          have hgt' : euc2 (posAdd nxt d) orig < res.getD (ravelI shape (posAdd nxt d)) 0 := by simpa using hgt
          have hm := resMass_set res _ _ hk (euc2_nonneg _ _) hgt'
          obtain ⟨h1, h2⟩ := ih (posAdd nxt d) (res.set (ravelI shape (posAdd nxt d)) (euc2 (posAdd nxt d) orig))
            (by rw [List.length_set, hlen])
          simp only [List.length_cons]
          exact ⟨by omega, h2⟩
        · exact ih _ res hlen
      · exact ih _ res hlen
    · exact ih _ res hlen

theorem dmSecond_terminates (shape : List Nat) (img : List Bool) (deltas : List (List Int)) :
    ∀ (fuel : Nat) (q : List DmEntry) (res : List Int), res.length = shapeSize shape → q.length + resMass res ≤ fuel →
      (dmSecond true shape img deltas fuel q res).2.2 = true := by
  intro fuel
  induction fuel with
  | zero =>
    intro q res _ h
    have : q = [] := by
      cases q with
      | nil => rfl
      | cons _ _ => simp at h
    subst this
    simp [dmSecond]
  | succ f ih =>
    intro q res hlen h
    cases q with
    | nil => simp [dmSecond]
    | cons e q =>
      obtain ⟨cur, orig, dist⟩ := e
      simp only [dmSecond]
      split
      · exact ih q res hlen (by simp only [List.length_cons] at h; omega)
      · obtain ⟨h1, h2⟩ := dmScan_mass false shape img orig deltas cur res hlen
        apply ih _ _ h2
        simp only [List.length_append, List.length_cons] at h ⊢
        omega

theorem dmFirst_len (shape : List Nat) (img : List Bool) (deltas : List (List Int)) :
    ∀ (is : List Nat) (res : List Int), res.length = shapeSize shape →
      (dmFirst true shape img deltas is res).2.1.length = shapeSize shape := by
  intro is
  induction is with
  | nil => intro res h; simpa [dmFirst] using h
  | cons i is ih =>
    intro res h
    simp only [dmFirst]
    split
    · exact ih _ (dmScan_mass true shape img _ deltas _ _ (by rw [List.length_set, h])).2
    · exact ih res h

end Mahotas.C10Misc
