/-
C15 — the graph on flat indices of the flood-fill theorems (`C15Flood.lean`) is, for 8-connectivity, the pixel graph
`adj8` / `Conn (bset b)` of the thinning theorems (`C15Thin.lean`); pixel sets with the same components have systems of representatives of the same length (`sdr_length_eq`).
-/
import Mahotas.Proofs.C15Flood
import Mahotas.Proofs.C15Thin
import Mahotas.Proofs.C15Count
namespace Mahotas.C15
open Mahotas

def pxOf (cols : Nat) (i : Nat) : Px := (((i / cols : Nat) : Int), ((i % cols : Nat) : Int))
def idxOf (cols : Nat) (p : Px) : Nat := p.1.toNat * cols + p.2.toNat

theorem idxOf_pxOf (cols i : Nat) : idxOf cols (pxOf cols i) = i := by
  unfold idxOf pxOf
  simp only [Int.toNat_natCast]
  exact Nat.div_add_mod' i cols

theorem get_pxOf (b : Bin) {i : Nat} (hi : i < b.rows * b.cols) :
    b.get (pxOf b.cols i).1 (pxOf b.cols i).2 = b.data.getD i false :=
  get_divmod b hi

theorem isV_iff (b : Bin) (i : Nat) :
    IsV b.rows b.cols b.data i ↔ (i < b.rows * b.cols ∧ pxOf b.cols i ∈ bset b) := by
  unfold IsV mk
  constructor
  · rintro ⟨h1, h2⟩
    refine ⟨h1, ?_⟩
    show b.get _ _ = true
    rw [get_pxOf b h1]; exact h2
  · rintro ⟨h1, h2⟩
    refine ⟨h1, ?_⟩
    rw [← get_pxOf b h1]; exact h2

theorem bset_box (b : Bin) {p : Px} (h : p ∈ bset b) :
    0 ≤ p.1 ∧ p.1 < (b.rows : Int) ∧ 0 ≤ p.2 ∧ p.2 < (b.cols : Int) :=
  get_inrange b p.1 p.2 h

theorem box_idx {rows cols : Nat} {p : Px}
    (h : 0 ≤ p.1 ∧ p.1 < (rows : Int) ∧ 0 ≤ p.2 ∧ p.2 < (cols : Int)) :
    idxOf cols p < rows * cols ∧ pxOf cols (idxOf cols p) = p :=
  ⟨(rowMajor_cast h).1, Prod.ext (rowMajor_cast h).2.1 (rowMajor_cast h).2.2⟩

/-- a pixel of the image is the pixel of its flat index, and that index is a vertex -/
theorem isV_idxOf (b : Bin) {p : Px} (hp : p ∈ bset b) :
    IsV b.rows b.cols b.data (idxOf b.cols p) ∧ pxOf b.cols (idxOf b.cols p) = p := by
  obtain ⟨l, e⟩ := box_idx (bset_box b hp)
  exact ⟨(isV_iff b _).mpr ⟨l, by rw [e]; exact hp⟩, e⟩

theorem adjIdx_adj8 {rows cols i j : Nat} (hj : j < rows * cols) :
    adjIdx rows cols true i j ↔ adj8 (pxOf cols i) (pxOf cols j) := by
  rw [adjIdx_iff hj, neigh_true_iff, adj8_iff]
  unfold pxOf
  simp only [ne_eq, Prod.mk.injEq]
  omega

theorem IConn_iff_Conn (b : Bin) {i j : Nat} (hi : IsV b.rows b.cols b.data i) :
    IConn b.rows b.cols b.data true i j ↔
      (j < b.rows * b.cols ∧ Conn (bset b) (pxOf b.cols i) (pxOf b.cols j)) := by
  constructor
  · intro h
    refine ⟨(h.isV hi).1, ?_⟩
    induction h with
    | refl => exact Conn.refl _
    | tail _ hbc ih =>
      obtain ⟨hVb, hVc, hadj⟩ := hbc
      exact Relation.ReflTransGen.tail ih
        ⟨((isV_iff b _).mp hVb).2, ((isV_iff b _).mp hVc).2, (adjIdx_adj8 hVc.1).mp hadj⟩
  · rintro ⟨hj, h⟩
    have key : ∀ p q : Px, Conn (bset b) p q → p ∈ bset b →
        IConn b.rows b.cols b.data true (idxOf b.cols p) (idxOf b.cols q) := by
      intro p q hpq hp
      induction hpq with
      | refl => exact Relation.ReflTransGen.refl
      | tail _ hbc ih =>
        obtain ⟨hb', hc', hadj⟩ := hbc
        obtain ⟨v1, e1⟩ := isV_idxOf b hb'
        obtain ⟨v2, e2⟩ := isV_idxOf b hc'
        exact Relation.ReflTransGen.tail ih ⟨v1, v2, (adjIdx_adj8 v2.1).mpr (by rw [e1, e2]; exact hadj)⟩
    have := key _ _ h ((isV_iff b i).mp hi).2
    rwa [idxOf_pxOf, idxOf_pxOf] at this

/-- a system of distinct representatives of the classes of `Conn A`, as flat indices read through `px` -/
def IsSDR (A : Set Px) (px : Nat → Px) (l : List Nat) : Prop :=
  l.Nodup ∧ (∀ s ∈ l, px s ∈ A) ∧ ∀ p ∈ A, ∃! s, s ∈ l ∧ Conn A (px s) p

/-- a system of distinct representatives has as many members as there are components: `s ↦ ⟦px s⟧` is a bijection -/
theorem IsSDR.length_eq_card {A : Set Px} {px : Nat → Px} {l : List Nat} (h : IsSDR A px l) :
    l.length = Nat.card (Comps A) := by
  obtain ⟨hnd, hmem, huniq⟩ := h
  have hcard : Nat.card {s : Nat // s ∈ l} = l.length := by
    rw [← List.toFinset_card_of_nodup hnd, ← Fintype.card_coe, ← Nat.card_eq_fintype_card]
    exact Nat.card_congr (Equiv.subtypeEquivRight (by simp))
  rw [← hcard]
  refine Nat.card_congr (Equiv.ofBijective
    (fun s : {s : Nat // s ∈ l} => (Quotient.mk (compSetoid A) ⟨px s.1, hmem s.1 s.2⟩ : Comps A)) ⟨?_, ?_⟩)
  · intro s t hst
    have hc : Conn A (px s.1) (px t.1) := Quotient.exact hst
    obtain ⟨u, _, hu⟩ := huniq (px t.1) (hmem t.1 t.2)
    exact Subtype.ext ((hu s.1 ⟨s.2, hc⟩).trans (hu t.1 ⟨t.2, Conn.refl _⟩).symm)
  · intro q
    induction q using Quotient.ind with
    | _ p =>
      obtain ⟨s, ⟨hs, hc⟩, _⟩ := huniq p.1 p.2
      exact ⟨⟨s, hs⟩, Quotient.sound hc⟩

theorem sdr_length_eq {A B : Set Px} (h : SameComps A B) {pa pb : Nat → Px} {la lb : List Nat}
    (ha : IsSDR A pa la) (hb : IsSDR B pb lb) : la.length = lb.length :=
  ha.length_eq_card.trans (h.card_eq.symm.trans hb.length_eq_card.symm)

end Mahotas.C15
