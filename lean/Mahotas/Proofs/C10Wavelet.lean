/-
C10 — B8, `haar`, `wavelet`, `integral`: counted loops over half the row resp. from 1; `_access` (`guardedAccess`)
dereferences only `0 ≤ p < N`.
-/
import Mahotas.Proofs.C10
namespace Mahotas.C10
open Mahotas

theorem haar_ok (n1 : Int) (h : 0 ≤ n1) : RunOk AccOk (haarAccesses n1, haarDone n1) := by
  obtain ⟨m1, d1⟩ := iterNe_spec 0 (n1 / 2) (n1.toNat + 1) (by omega) (by omega)
  obtain ⟨m2, d2⟩ := iterNe_count n1 h
  simp only [RunOk, Run, haarAccesses, haarDone, acc_forall, m1, m2, d1, d2, AccOk, Bool.and_self]
  exact ⟨fun x hx => by omega, fun x hx => by omega⟩

theorem guardedAccess_ok (n p : Int) : ∀ a ∈ guardedAccess n p, a.size = n ∧ 0 ≤ a.i ∧ a.i < n ∧ a.i = p := by
  unfold guardedAccess
  split
  · nofun
  · split
    · nofun
    · simp only [acc_forall]
      omega

theorem wavelet_ok (n1 nc : Int) (h : 0 ≤ n1) (hc : 0 ≤ nc) : RunOk AccOk (waveletAccesses n1 nc, waveletDone n1 nc) := by
  obtain ⟨m1, d1⟩ := iterNe_count nc hc
  obtain ⟨m2, d2⟩ := iterNe_count n1 h
  simp only [RunOk, Run, waveletAccesses, waveletDone, acc_forall, m1, m2, d1, d2, AccOk, Bool.and_self]
  refine ⟨fun x hx => ⟨fun ci hci => ⟨fun a ha => ?_, by omega⟩, by omega⟩, fun x hx => by omega⟩
  obtain ⟨h1, h2, h3, _⟩ := guardedAccess_ok _ _ a ha
  omega

theorem integral_ok (n0 n1 : Int) (h0 : 0 ≤ n0) (h1 : 0 ≤ n1) :
    RunOk AccOk (integralAccesses n0 n1, integralDone n0 n1) := by
  unfold integralAccesses integralDone
  split
  · exact ⟨nofun, rfl⟩
  · obtain ⟨m1, d1⟩ := iterNe_spec 1 n1 (n1.toNat + 1) (by omega) (by omega)
    obtain ⟨m0, d0⟩ := iterNe_spec 1 n0 (n0.toNat + 1) (by omega) (by omega)
    simp only [RunOk, Run, acc_forall, m1, m0, d1, d0, AccOk, Bool.and_self]
    exact ⟨fun j hj => by omega, fun i hi => ⟨by omega, fun j hj => by omega⟩⟩

end Mahotas.C10
