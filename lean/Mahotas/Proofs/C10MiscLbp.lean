/-
C10 — `_lbp.map` in `npy_uint32` arithmetic: for `1 ≤ points ≤ 32` and a `points`-bit code nothing is
truncated, so the machine loop is the unbounded model of C19 (`lbpMap`), whose result is `< 2^points`.
-/
import Mahotas.Proofs.C10Misc
import Mahotas.Proofs.C19Lbp
namespace Mahotas.C10Misc
open Mahotas

theorem two_pow_le_u32 (P : Nat) (hP : P ≤ 32) : 2 ^ P ≤ 4294967296 := by
  have : 2 ^ P ≤ 2 ^ 32 := Nat.pow_le_pow_right (by decide) hP
  simpa using this

theorem rollRight32_eq (P v : Nat) (h1 : 1 ≤ P) (h32 : P ≤ 32) (hv : v < 2 ^ P) :
    rollRight32 (P : Int) v = C19.rollRight P v := by
  have hs : (((P : Int) - 1) % 32).toNat = P - 1 := by omega
  have hlt := C19.rollRight_lt P v h1 hv
  have hb := two_pow_le_u32 P h32
  have hin : (v &&& 1) <<< (P - 1) < 4294967296 := by
    rw [Nat.shiftLeft_eq]
    have ha : v &&& 1 ≤ 1 := Nat.and_le_right
    have hp : 2 ^ (P - 1) ≤ 2 ^ 31 := Nat.pow_le_pow_right (by decide) (by omega)
    have : (v &&& 1) * 2 ^ (P - 1) ≤ 1 * 2 ^ 31 := Nat.mul_le_mul ha hp
    omega
  unfold rollRight32 u32
  rw [hs, Nat.mod_eq_of_lt hin]
  unfold C19.rollRight at hlt ⊢
  exact Nat.mod_eq_of_lt (by omega)

theorem lbpMapLoop_eq (P : Nat) (h1 : 1 ≤ P) (h32 : P ≤ 32) :
    ∀ (f v mn : Nat), v < 2 ^ P →
      lbpMapLoop (P : Int) f v mn = (C19.iter (C19.mapStep P) f (v, mn)).2
  | 0, v, mn, _ => rfl
  | f + 1, v, mn, hv => by
    simp only [lbpMapLoop]
    rw [rollRight32_eq P v h1 h32 hv]
    exact lbpMapLoop_eq P h1 h32 f _ _ (C19.rollRight_lt P v h1 hv)

theorem lbpMap32_eq (P v : Nat) (h1 : 1 ≤ P) (h32 : P ≤ 32) (hv : v < 2 ^ P) :
    lbpMap32 (P : Int) v = C19.lbpMap P v := by
  unfold lbpMap32 C19.lbpMap
  simpa using lbpMapLoop_eq P h1 h32 P v v hv

theorem lbpMap32_lt (P v : Nat) (h32 : P ≤ 32) (hv : v < 2 ^ P) : lbpMap32 (P : Int) v < 2 ^ P := by
  by_cases h1 : 1 ≤ P
  · rw [lbpMap32_eq P v h1 h32 hv]
    exact C19.lbpMap_lt P v h1 hv
  · have : P = 0 := by omega
    subst this
    simpa [lbpMap32, lbpMapLoop] using hv

theorem lbpAccesses_ok (P : Nat) (h32 : P ≤ 32) (codes : List Nat) (hc : ∀ v ∈ codes, v < 2 ^ P) :
    ∀ a ∈ lbpAccesses (P : Int) codes, MOk a := by
  simp only [lbpAccesses, acc_forall, MOk, Int.toNat_natCast]
  rintro ⟨v, i⟩ hvi
  obtain ⟨hi, hv⟩ := mem_zipIdx_lt codes v i hvi
  have := lbpMap32_lt P v h32 (hc v hv)
  exact ⟨⟨by omega, fun j hj => by omega⟩, by omega, by omega, by exact_mod_cast this⟩

end Mahotas.C10Misc
