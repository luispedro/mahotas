/-
C15 — thinning preserves 8-connected components: every one of the eight hit-or-miss passes
(all matching pixels deleted in parallel) induces a bijection of the 8-connected components,
hence so do one iteration, the outer loop and `thinCore`. A pass does so as soon as its template
has a safe direction (`DirOK`, a decidable condition on the template's entries: `sameComps_of_dirOK`);
the eight extracted templates have one (`thinElems_dirOK`).
-/
import Mahotas.Model.C15
import Mahotas.Proofs.C15
import Mahotas.Generated.Tables
import Mathlib.Logic.Relation
import Mathlib.Algebra.Order.Group.Int
import Mathlib.Data.Set.Basic
namespace Mahotas.C15
open Mahotas

abbrev Px := ℤ × ℤ

def adj8 (x y : Px) : Prop := x ≠ y ∧ |x.1 - y.1| ≤ 1 ∧ |x.2 - y.2| ≤ 1

theorem adj8_symm {x y : Px} (h : adj8 x y) : adj8 y x := by
  obtain ⟨h1, h2, h3⟩ := h
  exact ⟨fun e => h1 e.symm, by rw [abs_sub_comm]; exact h2, by rw [abs_sub_comm]; exact h3⟩

theorem adj8_iff (x y : Px) :
    adj8 x y ↔ x ≠ y ∧ (-1 ≤ y.1 - x.1 ∧ y.1 - x.1 ≤ 1) ∧ (-1 ≤ y.2 - x.2 ∧ y.2 - x.2 ≤ 1) := by
  unfold adj8
  rw [abs_le, abs_le]
  constructor
  · rintro ⟨h, ⟨a, b⟩, ⟨c, d⟩⟩; exact ⟨h, ⟨by omega, by omega⟩, ⟨by omega, by omega⟩⟩
  · rintro ⟨h, ⟨a, b⟩, ⟨c, d⟩⟩; exact ⟨h, ⟨by omega, by omega⟩, ⟨by omega, by omega⟩⟩

def step (A : Set Px) (x y : Px) : Prop := x ∈ A ∧ y ∈ A ∧ adj8 x y
/-- connected inside `A` (endpoints included in `A` when the chain is non-empty) -/
def Conn (A : Set Px) : Px → Px → Prop := Relation.ReflTransGen (step A)

theorem Conn.refl {A : Set Px} (x : Px) : Conn A x x := Relation.ReflTransGen.refl

theorem Conn.trans {A : Set Px} {x y z : Px} (h1 : Conn A x y) (h2 : Conn A y z) : Conn A x z :=
  Relation.ReflTransGen.trans h1 h2

theorem Conn.symm {A : Set Px} {x y : Px} (h : Conn A x y) : Conn A y x := by
  induction h with
  | refl => exact Relation.ReflTransGen.refl
  | tail _ hbc ih =>
    exact Relation.ReflTransGen.head ⟨hbc.2.1, hbc.1, adj8_symm hbc.2.2⟩ ih

theorem Conn.map {A B : Set Px} (g : Px → Px) (hmem : ∀ x ∈ A, g x ∈ B)
    (hadj : ∀ x y, adj8 x y → adj8 (g x) (g y)) {x y : Px} (h : Conn A x y) :
    Conn B (g x) (g y) := by
  induction h with
  | refl => exact Relation.ReflTransGen.refl
  | tail _ hbc ih =>
    exact Relation.ReflTransGen.tail ih ⟨hmem _ hbc.1, hmem _ hbc.2.1, hadj _ _ hbc.2.2⟩

theorem Conn.mono {A B : Set Px} (hBA : B ⊆ A) {x y : Px} (h : Conn B x y) : Conn A x y :=
  Conn.map id (fun _ hx => hBA hx) (fun _ _ h => h) h

theorem step1 {B : Set Px} {x y : Px} (hx : x ∈ B) (hy : y ∈ B) (h : adj8 x y) : Conn B x y :=
  Relation.ReflTransGen.single ⟨hx, hy, h⟩

theorem near {B : Set Px} {x y : Px} (hx : x ∈ B) (hy : y ∈ B)
    (h1 : -1 ≤ y.1 - x.1 ∧ y.1 - x.1 ≤ 1) (h2 : -1 ≤ y.2 - x.2 ∧ y.2 - x.2 ≤ 1) : Conn B x y := by
  by_cases e : x = y
  · subst e; exact Relation.ReflTransGen.refl
  · exact step1 hx hy ((adj8_iff x y).2 ⟨e, h1, h2⟩)

/-- a retraction `f : A → B` that maps adjacent pixels to connected pixels and moves every pixel
    inside its own component induces a bijection of the connected components -/
theorem retract_components (A B : Set Px) (f : Px → Px) (hBA : B ⊆ A)
    (hfB : ∀ x ∈ A, f x ∈ B) (hfid : ∀ x ∈ B, f x = x)
    (hadj : ∀ x ∈ A, ∀ y ∈ A, adj8 x y → Conn B (f x) (f y))
    (hnear : ∀ x ∈ A, Conn A x (f x)) :
    (∀ x ∈ B, ∀ y ∈ B, (Conn A x y ↔ Conn B x y)) ∧ (∀ x ∈ A, ∃ y ∈ B, Conn A x y) := by
  refine ⟨?_, fun x hx => ⟨f x, hfB x hx, hnear x hx⟩⟩
  intro x hx y hy
  constructor
  · intro h
    have key : ∀ a b, Conn A a b → a ∈ A → Conn B (f a) (f b) := by
      intro a b hab
      induction hab with
      | refl => intro _; exact Relation.ReflTransGen.refl
      | tail _ hbc ih =>
        intro ha
        exact Relation.ReflTransGen.trans (ih ha) (hadj _ hbc.1 _ hbc.2.1 hbc.2.2)
    have := key x y h (hBA hx)
    rwa [hfid x hx, hfid y hy] at this
  · exact Conn.mono hBA

/-- `B ⊆ A` and the inclusion induces a bijection of the 8-connected components: two pixels of `B`
    are connected in `A` iff they are connected in `B`, and every component of `A` meets `B` -/
def SameComps (A B : Set Px) : Prop :=
  B ⊆ A ∧ (∀ x ∈ B, ∀ y ∈ B, (Conn A x y ↔ Conn B x y)) ∧ (∀ x ∈ A, ∃ y ∈ B, Conn A x y)

theorem SameComps.refl (A : Set Px) : SameComps A A :=
  ⟨fun _ h => h, fun _ _ _ _ => Iff.rfl, fun x hx => ⟨x, hx, Conn.refl x⟩⟩

theorem SameComps.trans {A B C : Set Px} (h1 : SameComps A B) (h2 : SameComps B C) :
    SameComps A C := by
  obtain ⟨hBA, hAB, hsA⟩ := h1
  obtain ⟨hCB, hBC, hsB⟩ := h2
  refine ⟨fun x hx => hBA (hCB hx), ?_, ?_⟩
  · intro x hx y hy
    rw [hAB x (hCB hx) y (hCB hy), hBC x hx y hy]
  · intro x hx
    obtain ⟨y, hy, hxy⟩ := hsA x hx
    obtain ⟨z, hz, hyz⟩ := hsB y hy
    exact ⟨z, hz, hxy.trans (Conn.mono hBA hyz)⟩

/-- pixel `x` of `A` matches the hit-or-miss template `T` -/
def delT (T : Elem) (A : Set Px) (x : Px) : Prop :=
  x ∈ A ∧ ∀ t ∈ T, ((x.1 + t.1, x.2 + t.2.1) ∈ A ↔ t.2.2 = true)

/-- one pass: all matching pixels are removed in parallel -/
def passT (T : Elem) (A : Set Px) : Set Px := {x | x ∈ A ∧ ¬ delT T A x}

theorem passT_sub (T : Elem) (A : Set Px) : passT T A ⊆ A := fun _ h => h.1

def bset (b : Bin) : Set Px := {p | b.get p.1 p.2 = true}

theorem matchElem_iff (b : Bin) (e : Elem) (y x : Int) :
    matchElem b e y x = true ↔ delT e (bset b) (y, x) := by
  unfold matchElem delT
  rw [Bool.and_eq_true, List.all_eq_true]
  refine and_congr Iff.rfl (forall₂_congr fun t _ => ?_)
  rw [beq_iff_eq, Bool.eq_iff_iff]
  exact Iff.rfl

theorem bset_pass (b : Bin) (e : Elem) : bset (pass b e) = passT e (bset b) := by
  ext ⟨y, x⟩
  show (pass b e).get y x = true ↔ b.get y x = true ∧ ¬ delT e (bset b) (y, x)
  rw [pass_get, Bool.and_eq_true, Bool.not_eq_true', ← Bool.not_eq_true, matchElem_iff]

theorem mem_cast {A : Set Px} {p q : Px} (h : p ∈ A) (h1 : p.1 = q.1) (h2 : p.2 = q.2) : q ∈ A := by
  have : p = q := Prod.ext h1 h2
  rwa [← this]

/-- `omega` after reducing projections of explicit pairs -/
macro "pomega" : tactic => `(tactic| ((try dsimp only) <;> omega))

theorem neigh_true_iff (d : Int × Int) :
    d ∈ neigh true ↔ (d ≠ (0, 0) ∧ -1 ≤ d.1 ∧ d.1 ≤ 1 ∧ -1 ≤ d.2 ∧ d.2 ≤ 1) := by
  constructor
  · revert d
    decide
  · obtain ⟨d1, d2⟩ := d
    rintro ⟨h0, h1, h2, h3, h4⟩
    have key : ∀ a ∈ ([-1, 0, 1] : List Int), ∀ b ∈ ([-1, 0, 1] : List Int),
        (a, b) ≠ (0, 0) → (a, b) ∈ neigh true := by
      decide
    refine key d1 ?_ d2 ?_ h0
    · simp only [List.mem_cons, List.mem_nil_iff, or_false]; omega
    · simp only [List.mem_cons, List.mem_nil_iff, or_false]; omega

open Classical in
/-- the retraction: a pixel the template deletes goes to its `s`-neighbour, every other pixel stays -/
noncomputable def fD (s : Int × Int) (T : Elem) (A : Set Px) (x : Px) : Px :=
  if delT T A x then (x.1 + s.1, x.2 + s.2) else x

/-- a pass keeps the components as soon as the `s`-neighbour of every deleted pixel survives and is
    connected, among the survivors, to every surviving neighbour of the pixel -/
theorem sameComps_of_dir (T : Elem) (A : Set Px) (s : Int × Int)
    (hs : (-1 ≤ s.1 ∧ s.1 ≤ 1) ∧ (-1 ≤ s.2 ∧ s.2 ≤ 1))
    (hS : ∀ x, delT T A x → ((x.1 + s.1, x.2 + s.2) : Px) ∈ passT T A)
    (hL : ∀ x y, delT T A x → y ∈ passT T A → adj8 x y → Conn (passT T A) (x.1 + s.1, x.2 + s.2) y) :
    SameComps A (passT T A) := by
  classical
  obtain ⟨⟨s1, s2⟩, s3, s4⟩ := hs
  refine ⟨passT_sub _ _, ?_⟩
  apply retract_components A (passT T A) (fD s T A) (passT_sub _ A)
  · intro x hx
    unfold fD; split_ifs with hd
    · exact hS x hd
    · exact ⟨hx, hd⟩
  · intro x hx
    unfold fD; rw [if_neg hx.2]
  · intro x hx y hy hadj
    unfold fD
    by_cases hdx : delT T A x <;> by_cases hdy : delT T A y <;>
      simp only [hdx, hdy, if_true, if_false]
    · -- both deleted: their `s`-neighbours are as close as they are
      obtain ⟨_, hr, hc⟩ := (adj8_iff x y).1 hadj
      exact near (hS x hdx) (hS y hdy) (by pomega) (by pomega)
    · exact hL x y hdx ⟨hy, hdy⟩ hadj
    · exact (hL y x hdy ⟨hx, hdx⟩ (adj8_symm hadj)).symm
    · exact step1 ⟨hx, hdx⟩ ⟨hy, hdy⟩ hadj
  · intro x hx
    unfold fD; split_ifs with hd
    · exact near hx (passT_sub _ _ (hS x hd)) (by pomega) (by pomega)
    · exact Conn.refl _

/-- Chebyshev distance at most 1 -/
def near1 (a b : Int × Int) : Prop := (-1 ≤ b.1 - a.1 ∧ b.1 - a.1 ≤ 1) ∧ (-1 ≤ b.2 - a.2 ∧ b.2 - a.2 ≤ 1)

instance (a b : Int × Int) : Decidable (near1 a b) := by unfold near1; infer_instance

/-- `s` is a safe direction for template `T`: a pixel the template deletes can be moved to its `s`-neighbour without
    changing any component. The `s`-neighbour is required on; opposite every required-on offset lies a required-off one,
    so an on-neighbour of a deleted pixel sees that pixel at one of its own off positions and is not deleted in the same
    pass; and every one of the eight offsets that is not required off is next to `s`, or next to an on-offset that is next
    to `s`, so whatever neighbour survives is joined to the `s`-neighbour through surviving pixels. -/
def DirOK (T : Elem) (s : Int × Int) : Prop :=
  s ∈ neigh true ∧ (s.1, s.2, true) ∈ T ∧ (∀ t ∈ T, t.2.2 = true → (-t.1, -t.2.1, false) ∈ T) ∧
    ∀ d ∈ neigh true, (d.1, d.2, false) ∈ T ∨ near1 s d ∨
      ∃ t ∈ T, t.2.2 = true ∧ near1 s (t.1, t.2.1) ∧ near1 (t.1, t.2.1) d

instance (T : Elem) (s : Int × Int) : Decidable (DirOK T s) := by unfold DirOK; infer_instance

theorem sameComps_of_dirOK {T : Elem} {s : Int × Int} (h : DirOK T s) (A : Set Px) : SameComps A (passT T A) := by
  obtain ⟨hs, hsT, hanti, hlink⟩ := h
  -- the on-neighbours of a deleted pixel survive: the pixel itself sits at one of their off positions
  have surv : ∀ x, delT T A x → ∀ t ∈ T, t.2.2 = true → ((x.1 + t.1, x.2 + t.2.1) : Px) ∈ passT T A := by
    intro x hd t ht hon
    refine ⟨(hd.2 t ht).2 hon, fun hdp => ?_⟩
    exact Bool.false_ne_true ((hdp.2 _ (hanti t ht hon)).1 (mem_cast hd.1 (by pomega) (by pomega)))
  obtain ⟨_, s1, s2, s3, s4⟩ := (neigh_true_iff s).1 hs
  refine sameComps_of_dir T A s ⟨⟨s1, s2⟩, s3, s4⟩ (fun x hd => surv x hd _ hsT rfl) ?_
  intro x y hd hy hadj
  obtain ⟨hne, hr, hc⟩ := (adj8_iff x y).1 hadj
  have hS := surv x hd _ hsT rfl
  have hdm : (y.1 - x.1, y.2 - x.2) ∈ neigh true :=
    (neigh_true_iff _).2 ⟨fun e => hne (Prod.ext (by have := congrArg Prod.fst e; pomega)
      (by have := congrArg Prod.snd e; pomega)), by pomega, by pomega, by pomega, by pomega⟩
  rcases hlink _ hdm with hoff | hcl | ⟨t, ht, hon, c1, c2⟩
  · exact absurd ((hd.2 _ hoff).1 (mem_cast hy.1 (by pomega) (by pomega))) Bool.false_ne_true
  · unfold near1 at hcl
    exact near hS hy (by pomega) (by pomega)
  · have hM := surv x hd t ht hon
    unfold near1 at c1 c2
    exact (near hS hM (by pomega) (by pomega)).trans (near hM hy (by pomega) (by pomega))

theorem thinElems_dirOK : ∀ T ∈ Generated.thinElems, ∃ s ∈ neigh true, DirOK T s := by decide

theorem pass_sameComps (e : Elem) (he : e ∈ Generated.thinElems) (A : Set Px) :
    SameComps A (passT e A) := by
  obtain ⟨s, _, h⟩ := thinElems_dirOK e he
  exact sameComps_of_dirOK h A

/-- element 0 of the generated table -/
def e0 : Elem := [(-1, -1, false), (-1, 0, false), (-1, 1, false), (1, -1, true), (1, 0, true), (1, 1, true)]

theorem thinElems_0 : Generated.thinElems[0] = e0 := by decide

theorem delT_e0_iff (A : Set Px) (x : Px) : delT e0 A x ↔
    x ∈ A ∧ (x.1 + -1, x.2 + -1) ∉ A ∧ (x.1 + -1, x.2) ∉ A ∧ (x.1 + -1, x.2 + 1) ∉ A ∧
      (x.1 + 1, x.2 + -1) ∈ A ∧ (x.1 + 1, x.2) ∈ A ∧ (x.1 + 1, x.2 + 1) ∈ A := by
  simp [delT, e0]

/-- the three pixels north of `x` -/
def Nrow (x : Px) : List Px := [(x.1 - 1, x.2 - 1), (x.1 - 1, x.2), (x.1 - 1, x.2 + 1)]
def Srow (x : Px) : List Px := [(x.1 + 1, x.2 - 1), (x.1 + 1, x.2), (x.1 + 1, x.2 + 1)]
/-- pixel matches the template  000 / x1x / 111 -/
def delN (A : Set Px) (x : Px) : Prop := x ∈ A ∧ (∀ y ∈ Nrow x, y ∉ A) ∧ (∀ y ∈ Srow x, y ∈ A)
/-- `passT e0` with the rows of the template spelled out (`passT_e0`) -/
def passN (A : Set Px) : Set Px := {x | x ∈ A ∧ ¬ delN A x}

theorem passT_e0 (A : Set Px) : passT e0 A = passN A := by
  ext x
  have : delT e0 A x ↔ delN A x := by
    rw [delT_e0_iff]
    simp only [delN, Nrow, Srow, List.mem_cons, List.not_mem_nil, or_false, forall_eq_or_imp, forall_eq,
      sub_eq_add_neg, and_assoc]
  show (x ∈ A ∧ ¬ delT e0 A x) ↔ (x ∈ A ∧ ¬ delN A x)
  rw [this]

theorem passN_components (A : Set Px) :
    (∀ x ∈ passN A, ∀ y ∈ passN A, (Conn A x y ↔ Conn (passN A) x y)) ∧
    (∀ x ∈ A, ∃ y ∈ passN A, Conn A x y) :=
  passT_e0 A ▸ (pass_sameComps e0 (thinElems_0 ▸ List.getElem_mem _) A).2

/-- element 1 of the generated table: N, NE, E off; W, SW, S on -/
def e1 : Elem := [(-1, 0, false), (-1, 1, false), (0, 1, false), (0, -1, true), (1, -1, true), (1, 0, true)]

theorem thinElems_1 : Generated.thinElems[1] = e1 := by decide

/-- the template turned by a quarter (what `C15_thin_templates_rotations` iterates) -/
def rotE (T : Elem) : Elem := T.map fun t => (t.2.1, -t.1, t.2.2)

theorem Conn.preimage (g g' : Px → Px) (hgg' : ∀ x, g (g' x) = x) (hg'g : ∀ x, g' (g x) = x)
    (hg : ∀ x y, adj8 x y → adj8 (g x) (g y)) (hg' : ∀ x y, adj8 x y → adj8 (g' x) (g' y))
    (A : Set Px) (x y : Px) : Conn {u | g u ∈ A} x y ↔ Conn A (g x) (g y) := by
  constructor
  · exact Conn.map g (fun _ hx => hx) hg
  · intro h
    have := Conn.map (A := A) (B := {u | g u ∈ A}) g'
      (fun u hu => by show g (g' u) ∈ A; rwa [hgg']) hg' h
    rwa [hg'g, hg'g] at this

theorem SameComps.preimage (g g' : Px → Px) (hgg' : ∀ x, g (g' x) = x) (hg'g : ∀ x, g' (g x) = x)
    (hg : ∀ x y, adj8 x y → adj8 (g x) (g y)) (hg' : ∀ x y, adj8 x y → adj8 (g' x) (g' y))
    {A B : Set Px} (h : SameComps A B) : SameComps {u | g u ∈ A} {u | g u ∈ B} := by
  obtain ⟨hBA, hiff, hsurj⟩ := h
  refine ⟨fun x hx => hBA hx, ?_, ?_⟩
  · intro x hx y hy
    rw [Conn.preimage g g' hgg' hg'g hg hg', Conn.preimage g g' hgg' hg'g hg hg']
    exact hiff _ hx _ hy
  · intro x hx
    obtain ⟨z, hz, hxz⟩ := hsurj (g x) hx
    refine ⟨g' z, by show g (g' z) ∈ B; rwa [hgg'], ?_⟩
    rw [Conn.preimage g g' hgg' hg'g hg hg', hgg']
    exact hxz

theorem iter_sameComps (b : Bin) : SameComps (bset b) (bset (iter b)) :=
  iter_rel (R := fun b b' => SameComps (bset b) (bset b')) (fun _ => SameComps.refl _) SameComps.trans
    (fun e he b => bset_pass b e ▸ pass_sameComps e he _) b

theorem thinLoop_sameComps (n : Nat) (b : Bin) : SameComps (bset b) (bset (thinLoop n b)) :=
  thinLoop_rel (R := fun b b' => SameComps (bset b) (bset b')) (fun _ => SameComps.refl _) SameComps.trans
    iter_sameComps n b

theorem thinCore_sameComps (b : Bin) (m : Int) : SameComps (bset b) (bset (thinCore b m)) :=
  thinLoop_sameComps _ b

end Mahotas.C15
