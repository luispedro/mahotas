/-
C03 — the address-level model (`flatDelta`, `retrieveAddr`, `scanPixelAddr`, `labelAddr`) equals the
coordinate model (`neighbours .constant`, `scanPixel`, `labelModel .constant`).
-/
import Mahotas.Proofs.C03Label
import Mahotas.Proofs.C04Index
import Mathlib.Data.List.Basic

namespace Mahotas.C03
open Mahotas

theorem flatDelta_eq_posToFlat (s : List Nat) (k : List Int) : flatDelta s k = C04.posToFlat s k := by
  induction s generalizing k with
  | nil => cases k <;> rfl
  | cons d ds ih =>
    cases k with
    | nil => rfl
    | cons a as => simp only [flatDelta, C04.posToFlat, ih]

/-- the address read for footprint entry `k` at pixel `i` is the flat index of the neighbour's coordinates,
    whatever the length of `k` -/
theorem retrieveAddr_inside (shape : List Nat) (i : Nat) (hi : i < shapeSize shape) (k : List Int) :
    retrieveAddr shape i k =
      if inside shape (addPos (unravelI shape i) k) then some (ravelI shape (addPos (unravelI shape i) k))
      else none := by
  unfold retrieveAddr
  by_cases h : inside shape (addPos (unravelI shape i) k) = true
  · have e := C04.ravelI_addPos shape (unravelI shape i) k (C01.inside_unravelI shape i hi) h
    rw [C01.ravelI_unravelI shape i hi, ← flatDelta_eq_posToFlat] at e
    rw [if_pos h, if_pos h, ← e, Int.toNat_natCast]
  · rw [if_neg h, if_neg h]

theorem retrieveAddr_eq (shape : List Nat) (i : Nat) (hi : i < shapeSize shape) (k : List Int)
    (hk : k.length = shape.length) :
    retrieveAddr shape i k = (fixPos .constant shape (addPos (unravelI shape i) k)).map (ravelI shape) := by
  rw [retrieveAddr_inside shape i hi k, neighbour_constant shape i k hk]

theorem scanPixelAddr_eq (shape : List Nat) (offs : List (List Int)) (hk : ∀ k ∈ offs, k.length = shape.length)
    (fuel : Nat) (par : Array Int) (i : Nat) (hi : i < shapeSize shape) :
    scanPixelAddr shape offs fuel par i = scanPixel .constant shape offs fuel par i := by
  unfold scanPixelAddr scanPixel neighbours
  split
  · rfl
  · rw [List.foldl_filterMap]
    apply List.foldl_ext
    intro a k hko
    rw [retrieveAddr_eq shape i hi k (hk k hko)]
    cases Option.map (ravelI shape) (fixPos Mode.constant shape (addPos (unravelI shape i) k)) <;> rfl

theorem parentsAddr_eq (shape : List Nat) (data : List Int) (offs : List (List Int))
    (hk : ∀ k ∈ offs, k.length = shape.length) (hsz : data.length = shapeSize shape) :
    parentsAddr shape data offs = parents .constant shape data offs := by
  unfold parentsAddr parents
  simp only []
  congr 1
  apply List.foldl_ext
  intro a i hi
  exact scanPixelAddr_eq shape offs hk _ a i (by rw [← hsz]; exact List.mem_range.1 hi)

theorem labelAddr_eq (shape : List Nat) (data : List Int) (bshape : List Nat) (bc : Array Int)
    (hb : bshape.length = shape.length) (hsz : data.length = shapeSize shape) :
    labelAddr shape data bshape bc = labelModel .constant shape data bshape bc := by
  unfold labelAddr labelModel
  rw [parentsAddr_eq shape data _ (fun k hk => by rw [offsets_length bshape bc k hk, hb]) hsz]

theorem addrReads_lt (shape : List Nat) (n : Nat) (hn : n ≤ shapeSize shape) (offs : List (List Int)) :
    ∀ a ∈ addrReads shape n offs, a < shapeSize shape := by
  intro a ha
  unfold addrReads at ha
  simp only [List.mem_flatMap, List.mem_range, List.mem_filterMap] at ha
  obtain ⟨i, hi, k, _, hr⟩ := ha
  rw [retrieveAddr_inside shape i (Nat.lt_of_lt_of_le hi hn) k] at hr
  split at hr
  · next h => exact Option.some.inj hr ▸ C01.ravelI_lt shape _ h
  · cases hr

end Mahotas.C03
