/-
C10 — `Model/C10Slic.lean`: an assignment window around a centroid inside the image stays inside the image, and the
windows of the seeds cover every pixel.

Both are facts about one axis (`winLo`, `winHi`, `C11.seeds`); the two axes meet
only in the row-major offset `y * nx + x`.
-/
import Mahotas.Model.C10Slic
import Mahotas.Proofs.C10Base
namespace Mahotas.C10Slic
open Mahotas

theorem inN_iff (n : Int) (l : List Int) : inN n l = true ↔ ∀ p ∈ l, 0 ≤ p ∧ p < n := by
  simp only [inN, List.all_eq_true, Bool.and_eq_true, decide_eq_true_eq]

/-- a window is clipped to the axis -/
theorem win_sub {n c S v : Int} (h : winLo c S ≤ v ∧ v < winHi n c S) : 0 ≤ v ∧ v < n :=
  ⟨Int.le_trans (Int.le_max_left _ _) h.1, Int.lt_of_lt_of_le h.2 (Int.min_le_left _ _)⟩

/-- a coordinate of the axis closer than `S` to the centre is in the window -/
theorem mem_win {n c S v : Int} (h0 : 0 ≤ v) (hn : v < n) (h1 : c ≤ v + S) (h2 : v < c + S) :
    winLo c S ≤ v ∧ v < winHi n c S := by
  simp only [winLo, winHi]
  omega

/-- the centre is in its window: the loops `for (y = start; y != end; ++y)` end -/
theorem winLo_lt_winHi {n c S : Int} (hS : 1 ≤ S) (h0 : 0 ≤ c) (h : c < n) : winLo c S < winHi n c S :=
  have hc := mem_win h0 h (Int.le_add_of_nonneg_right (by omega)) (Int.lt_add_of_pos_right c (by omega))
  Int.lt_of_le_of_lt hc.1 hc.2

theorem neRange_of_le {lo hi : Int} (h : lo ≤ hi) : ∃ l, neRange lo hi = some l ∧ ∀ v, v ∈ l ↔ lo ≤ v ∧ v < hi := by
  refine ⟨_, if_pos h, fun v => ?_⟩
  simp only [List.mem_map, List.mem_range, Int.ofNat_eq_natCast, Int.lt_toNat]
  constructor
  · rintro ⟨k, hk, rfl⟩
    omega
  · intro h1
    refine ⟨(v - lo).toNat, ?_⟩
    rw [Int.toNat_of_nonneg (Int.sub_nonneg_of_le h1.1)]
    omega

theorem window_ok (ny nx S cy cx : Int) (hS : 1 ≤ S) (hy0 : 0 ≤ cy) (hy : cy < ny) (hx0 : 0 ≤ cx) (hx : cx < nx) :
    ∃ l, windowPositions ny nx S cy cx = some l ∧ inN (ny * nx) l = true ∧
      winLo cy S < winHi ny cy S ∧ winLo cx S < winHi nx cx S := by
  have hly := winLo_lt_winHi hS hy0 hy
  have hlx := winLo_lt_winHi hS hx0 hx
  obtain ⟨ys, ey, hys⟩ := neRange_of_le (Int.le_of_lt hly)
  obtain ⟨xs, ex, hxs⟩ := neRange_of_le (Int.le_of_lt hlx)
  have hw : windowPositions ny nx S cy cx = some (ys.flatMap fun y => xs.map fun x => y * nx + x) := by
    simp only [windowPositions, ey, ex]
  refine ⟨_, hw, (inN_iff _ _).mpr fun p hp => ?_, hly, hlx⟩
  obtain ⟨y, hyy, hp⟩ := List.mem_flatMap.mp hp
  obtain ⟨x, hxx, rfl⟩ := List.mem_map.mp hp
  have h1 := win_sub ((hys y).mp hyy)
  have h2 := win_sub ((hxs x).mp hxx)
  exact flat2_range y x ny nx h1.1 h1.2 h2.1 h2.2

theorem mem_seedLoop (S N : Nat) : ∀ fuel y0 y : Nat,
    y ∈ C11.seedLoop S N fuel y0 ↔ y < N ∧ ∃ k < fuel, y = y0 + k * S := by
  intro fuel
  induction fuel with
  | zero => exact fun y0 y => iff_of_false List.not_mem_nil fun ⟨_, k, hk, _⟩ => Nat.not_lt_zero k hk
  | succ f ih =>
    intro y0 y
    have step : ∀ k, y0 + S + k * S = y0 + (k + 1) * S := fun k => by rw [Nat.succ_mul]; omega
    by_cases h0 : y0 < N
    · rw [C11.seedLoop, if_pos h0, List.mem_cons, ih]
      constructor
      · rintro (rfl | ⟨h, k, hk, rfl⟩)
        · exact ⟨h0, 0, Nat.succ_pos f, by rw [Nat.zero_mul]; rfl⟩
        · exact ⟨h, k + 1, Nat.succ_lt_succ hk, step k⟩
      · rintro ⟨h, k, hk, rfl⟩
        cases k with
        | zero => exact Or.inl (by rw [Nat.zero_mul]; rfl)
        | succ k => exact Or.inr ⟨step k ▸ h, k, Nat.lt_of_succ_lt_succ hk, (step k).symm⟩
    · rw [C11.seedLoop, if_neg h0]
      refine iff_of_false List.not_mem_nil fun ⟨h, k, _, e⟩ => h0 ?_
      exact Nat.lt_of_le_of_lt (e ▸ Nat.le_add_right _ _) h

theorem mem_seeds {S N y : Nat} : y ∈ C11.seeds S N ↔ y < N ∧ ∃ k < N, y = S / 2 + k * S :=
  mem_seedLoop S N N (S / 2) y

theorem half_mem_seeds {S N : Nat} (hN : S / 2 < N) : S / 2 ∈ C11.seeds S N :=
  mem_seeds.mpr ⟨hN, 0, Nat.zero_lt_of_lt hN, (Nat.zero_mul S).symm ▸ rfl⟩

theorem _root_.Mahotas.slic_seeds_len (S N : Nat) (hN : S / 2 < N) :
    1 ≤ (C11.seeds S N).length ∧ ∀ y ∈ C11.seeds S N, y < N :=
  ⟨List.length_pos_of_mem (half_mem_seeds hN), fun _ hy => (mem_seeds.mp hy).1⟩

/-- every coordinate of the axis is closer than `S` to a seed: the first seed, or the seed below it -/
theorem exists_seed_near {S N y : Nat} (hS : 1 ≤ S) (hN : S / 2 < N) (hy : y < N) :
    ∃ s ∈ C11.seeds S N, s ≤ y + S ∧ y < s + S := by
  rcases Nat.lt_or_ge y (S / 2) with h | h
  · exact ⟨S / 2, half_mem_seeds hN, Nat.le_add_left_of_le (Nat.div_le_self _ _), Nat.lt_add_right _ h⟩
  · obtain ⟨d, rfl⟩ := Nat.exists_eq_add_of_le h
    have h1 : S / 2 + d / S * S ≤ S / 2 + d := Nat.add_le_add_left (Nat.div_mul_le_self _ _) _
    have h2 : S / 2 + d < S / 2 + (d / S * S + S) := Nat.add_lt_add_left (Nat.lt_div_mul_add hS) _
    have h3 : d / S ≤ S / 2 + d / S * S := Nat.le_add_left_of_le (Nat.le_mul_of_pos_right _ hS)
    exact ⟨S / 2 + d / S * S, mem_seeds.mpr ⟨Nat.lt_of_le_of_lt h1 hy, _, Nat.lt_of_le_of_lt (Nat.le_trans h3 h1) hy, rfl⟩,
      Nat.le_add_right_of_le h1, Nat.add_assoc .. ▸ h2⟩

theorem axis_covered (S N : Nat) (hS : 1 ≤ S) (hN : S / 2 < N) (y : Nat) (hy : y < N) :
    ∃ s ∈ C11.seeds S N, winLo (s : Int) S ≤ (y : Int) ∧ (y : Int) < winHi N s S := by
  obtain ⟨s, hs, h1, h2⟩ := exists_seed_near hS hN hy
  exact ⟨s, hs, mem_win (Int.natCast_nonneg y) (Int.ofNat_lt.mpr hy) (Int.ofNat_le.mpr h1) (Int.ofNat_lt.mpr h2)⟩

theorem mem_seedCentroids {S ny nx : Nat} {c : Nat × Nat} :
    c ∈ seedCentroids S ny nx ↔ c.1 ∈ C11.seeds S ny ∧ c.2 ∈ C11.seeds S nx := by
  simp only [seedCentroids, List.mem_flatMap, List.mem_map]
  exact ⟨fun ⟨y, hy, x, hx, e⟩ => e ▸ ⟨hy, hx⟩, fun ⟨hy, hx⟩ => ⟨c.1, hy, c.2, hx, rfl⟩⟩

theorem seedCentroids_length_pos {S ny nx : Nat} (hy : S / 2 < ny) (hx : S / 2 < nx) :
    1 ≤ (seedCentroids S ny nx).length :=
  List.length_pos_of_mem (mem_seedCentroids.mpr ⟨half_mem_seeds hy, half_mem_seeds hx⟩ : (S / 2, S / 2) ∈ _)

theorem seedCentroids_lt {S ny nx : Nat} {c : Nat × Nat} (hc : c ∈ seedCentroids S ny nx) : c.1 < ny ∧ c.2 < nx :=
  ⟨(mem_seeds.mp (mem_seedCentroids.mp hc).1).1, (mem_seeds.mp (mem_seedCentroids.mp hc).2).1⟩

theorem covered_ok (S ny nx : Nat) (hS : 1 ≤ S) (hy : S / 2 < ny) (hx : S / 2 < nx) : covered S ny nx = true := by
  simp only [covered, List.all_eq_true, List.mem_range, List.any_eq_true]
  intro y hyy x hxx
  obtain ⟨sy, hsy, a1, a2⟩ := axis_covered S ny hS hy y hyy
  obtain ⟨sx, hsx, b1, b2⟩ := axis_covered S nx hS hx x hxx
  refine ⟨(sy, sx), mem_seedCentroids.mpr ⟨hsy, hsx⟩, ?_⟩
  simp only [inWindow, Bool.and_eq_true, decide_eq_true_eq]
  exact ⟨⟨⟨a1, a2⟩, b1⟩, b2⟩

end Mahotas.C10Slic
