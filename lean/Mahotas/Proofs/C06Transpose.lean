/-
C06 — the Python fast path of `convolve1d` as written (`f.transpose(indices).reshape((-1, N))`, the C row kernel,
`tmp.reshape(tshape).transpose(rindices)`) is the tabulated defining sum, at the level of logical index arithmetic.
numpy semantics assumed, and only these: `a.transpose(perm)` has shape `[a.shape[perm[i]]]_i` and its element at `q` is
`a[p]` with `p[perm[i]] = q[i]` (`transposeImg`); `a.reshape(newshape)` of a possibly non-contiguous array is the
C-order ravel of its logical content read with the new shape (`reshapeImg`). Each has its pointwise law; composed, cell
`(row of p, x)` of the 2-D view is `f[p[axis := x]]` (`rowsView_getD`) and lands back at `p[axis := x]`
(`unrowsView_getD`); the writes of the row kernel fill every cell of the buffer (`fastBuffer_getD`), and a row that
holds the line through `p` gives the defining sum at `p` (`fastBorder_of_row`): `viaTranspose_getD`.
-/
import Mahotas.Proofs.C06Const
import Mathlib.Data.List.Nodup
import Mathlib.Data.List.Perm.Subperm
namespace Mahotas.C06
open Mahotas

section defs
variable {α : Type} [Zero α]

/-- the axes other than `axis`, in increasing order -/
def otherAxes (ndim axis : Nat) : List Nat := (List.range ndim).filter fun a => a ≠ axis

/-- `indices = [a for a in range(f.ndim) if a != axis] + [axis]` -/
def moveLast (ndim axis : Nat) : List Nat := otherAxes ndim axis ++ [axis]

/-- `rindices = [indices.index(a) for a in range(f.ndim)]` -/
def invPerm (perm : List Nat) : List Nat := (List.range perm.length).map fun a => perm.idxOf a

/-- numpy `f.transpose(perm)` at the logical level: shape `[f.shape[perm[i]]]_i`, the element at `q` is
    the element of `f` at the position `p` with `p[b] = q[perm.index(b)]` (that is `p[perm[i]] = q[i]`) -/
def transposeImg (perm : List Nat) (f : Img α) : Img α :=
  Img.tabulate (perm.map fun a => f.shape.getD a 1) fun q =>
    f.getD ((List.range perm.length).map fun a => q.getD (perm.idxOf a) 0) 0

/-- numpy `f.reshape(newshape)` at the logical level: the C-order ravel of the logical content of `f`
    (whatever its strides) read with the new shape -/
def reshapeImg (newshape : List Nat) (f : Img α) : Img α :=
  { shape := newshape, data := ((allPos f.shape).map fun q => f.getD q 0).toArray }

/-- the lengths of the other axes (the transposed shape without its last axis) -/
def otherShape (shape : List Nat) (axis : Nat) : List Nat :=
  (otherAxes shape.length axis).map fun a => shape.getD a 1

/-- `f.transpose(indices).reshape((-1, f.shape[axis]))`: the 2-D view handed to the C kernel; the
    transposed shape is `otherShape ++ [N]`, so `-1` resolves to the product of the other lengths -/
def rowsView (f : Img α) (axis : Nat) : Img α :=
  reshapeImg [shapeSize (otherShape f.shape axis), f.shape.getD axis 1]
    (transposeImg (moveLast f.shape.length axis) f)

/-- the number of the row that holds pixel `p`: the C-order rank of `p` without its `axis` coordinate
    in the transposed shape without its last axis -/
def rowIndex (shape : List Nat) (axis : Nat) (p : List Int) : Nat :=
  ravelI (otherShape shape axis) ((otherAxes shape.length axis).map fun a => p.getD a 0)

/-- row `r` of a 2-D image as a `[1, N1]` image (what the row kernel reads through `base0`) -/
def rowOf (g : Img α) (r : Nat) : Img α :=
  { shape := [1, g.shape.getD 1 1],
    data := ((List.range (g.shape.getD 1 1)).map fun (x : Nat) => g.getD [(r : Int), (x : Int)] 0).toArray }

/-- `tmp.reshape(tshape).transpose(rindices)`: the way back from the 2-D buffer -/
def unrowsView (shape : List Nat) (axis : Nat) (tmp : Img α) : Img α :=
  transposeImg (invPerm (moveLast shape.length axis))
    (reshapeImg ((moveLast shape.length axis).map fun a => shape.getD a 1) tmp)

end defs

theorem range_map_getD_self {β : Type} (l : List β) (n : Nat) (d : β) (h : l.length = n) :
    (List.range n).map (fun a => l.getD a d) = l :=
  h ▸ range_map_getD l d

theorem perm_range_facts (perm : List Nat) (n : Nat) (h : perm.Perm (List.range n)) :
    perm.length = n ∧ perm.Nodup ∧ (∀ a, a ∈ perm ↔ a < n) := by
  refine ⟨by simpa using h.length_eq, h.nodup_iff.2 List.nodup_range, fun a => ?_⟩
  rw [h.mem_iff, List.mem_range]

theorem map_getD_idxOf {β : Type} (perm : List Nat) (g : Nat → β) (d : β) (a : Nat) (ha : a ∈ perm) :
    (perm.map g).getD (perm.idxOf a) d = g a := by
  have hlt : perm.idxOf a < perm.length := List.idxOf_lt_length_of_mem ha
  rw [List.getD_eq_getElem?_getD, List.getElem?_map, List.getElem?_idxOf ha]
  rfl

theorem invPerm_roundtrip {β : Type} (perm : List Nat) (n : Nat) (h : perm.Perm (List.range n))
    (g : Nat → β) (d : β) :
    (List.range n).map (fun a => (perm.map g).getD (perm.idxOf a) d) = (List.range n).map g := by
  apply List.map_congr_left
  intro a ha
  exact map_getD_idxOf perm g d a (((perm_range_facts perm n h).2.2 a).2 (List.mem_range.1 ha))

theorem invPerm_perm (perm : List Nat) (n : Nat) (h : perm.Perm (List.range n)) :
    (invPerm perm).Perm (List.range n) := by
  obtain ⟨hlen, hnd, hmem⟩ := perm_range_facts perm n h
  unfold invPerm
  rw [hlen]
  apply (List.subperm_of_subset _ _).perm_of_length_le (by simp)
  · apply List.Nodup.map_on _ List.nodup_range
    intro a ha b _ hab
    exact (List.idxOf_inj ((hmem a).2 (List.mem_range.1 ha))).1 hab
  · intro x hx
    obtain ⟨a, ha, rfl⟩ := List.mem_map.1 hx
    rw [List.mem_range, ← hlen]
    exact List.idxOf_lt_length_of_mem ((hmem a).2 (List.mem_range.1 ha))

theorem invPerm_map_getD {β : Type} (perm : List Nat) (l : List β) (h : perm.Perm (List.range l.length))
    (d : β) : ((invPerm perm).map fun a => (perm.map fun a => l.getD a d).getD a d) = l := by
  unfold invPerm
  rw [List.map_map, (perm_range_facts perm _ h).1]
  exact (invPerm_roundtrip perm _ h _ d).trans (range_map_getD_self l _ d rfl)

theorem mem_otherAxes (n axis a : Nat) : a ∈ otherAxes n axis ↔ a < n ∧ a ≠ axis := by
  simp [otherAxes]

theorem moveLast_perm (n axis : Nat) (hax : axis < n) : (moveLast n axis).Perm (List.range n) := by
  rw [List.perm_ext_iff_of_nodup _ List.nodup_range]
  · intro a
    simp only [moveLast, List.mem_append, mem_otherAxes, List.mem_singleton, List.mem_range]
    omega
  · unfold moveLast
    rw [List.nodup_append]
    refine ⟨List.Nodup.filter _ List.nodup_range, List.nodup_singleton _, ?_⟩
    intro a ha b hb
    rw [mem_otherAxes] at ha
    rw [List.mem_singleton] at hb
    omega

theorem inside_map_getD (s : List Nat) (p : List Int) (hp : inside s p = true) (l : List Nat) :
    inside (l.map fun a => s.getD a 1) (l.map fun a => p.getD a 0) = true := by
  induction l with
  | nil => rfl
  | cons a t ih =>
    simp only [List.map_cons, inside, Bool.and_eq_true, decide_eq_true_eq]
    exact ⟨C01.getD_lt_of_inside s p hp a, ih⟩

theorem ravelI_concat (s : List Nat) (a : List Int) (n : Nat) (x : Int) (ha : inside s a = true) :
    ravelI (s ++ [n]) (a ++ [x]) = ravelI s a * n + x.toNat := by
  induction s generalizing a with
  | nil =>
    cases a with
    | nil => simp [ravelI, shapeSize]
    | cons y ys => exact absurd ha Bool.false_ne_true
  | cons d ds ih =>
    cases a with
    | nil => exact absurd ha Bool.false_ne_true
    | cons y ys =>
      simp only [inside, Bool.and_eq_true, decide_eq_true_eq] at ha
      simp only [List.cons_append, ravelI, ih ys ha.2, shapeSize_concat, Nat.add_mul, Nat.mul_assoc,
        Nat.add_assoc]

section semiring
variable {R : Type} [CommSemiring R]

theorem transposeImg_shape (perm : List Nat) (f : Img R) :
    (transposeImg perm f).shape = perm.map fun a => f.shape.getD a 1 := rfl

theorem transposeImg_getD (perm : List Nat) (f : Img R) (h : perm.Perm (List.range f.shape.length))
    (p : List Int) (hp : inside f.shape p = true) :
    (transposeImg perm f).getD (perm.map fun a => p.getD a 0) 0 = f.getD p 0 := by
  have hlen := (perm_range_facts perm _ h).1
  unfold transposeImg
  rw [tabulate_getD _ _ _ 0 (inside_map_getD f.shape p hp perm), hlen,
    invPerm_roundtrip perm _ h, range_map_getD_self p _ 0 (C01.inside_length hp)]

theorem reshapeImg_getD (s1 s2 : List Nat) (g : Img R) (hg : g.shape = s1)
    (hsz : shapeSize s2 = shapeSize s1) (t q : List Int) (ht : inside s2 t = true)
    (hq : inside s1 q = true) (hrank : ravelI s2 t = ravelI s1 q) :
    (reshapeImg s2 g).getD t 0 = g.getD q 0 := by
  subst hg
  have hlt : ravelI s2 t < shapeSize g.shape := hsz ▸ C01.ravelI_lt s2 t ht
  refine (Img.getD_inside (reshapeImg s2 g) t 0 ht).trans ((getD_map_allPos g.shape _ _ 0 hlt).trans ?_)
  rw [hrank, C01.unravelI_ravelI _ _ hq]

theorem transposeImg_invPerm (perm : List Nat) (s : List Nat) (h : perm.Perm (List.range s.length))
    (T : Img R) (hT : T.shape = perm.map fun a => s.getD a 1) :
    (transposeImg (invPerm perm) T).shape = s ∧
    ∀ p, inside s p = true →
      (transposeImg (invPerm perm) T).getD p 0 = T.getD (perm.map fun a => p.getD a 0) 0 := by
  have hlen := (perm_range_facts perm _ h).1
  have hsh : (transposeImg (invPerm perm) T).shape = s := by
    rw [transposeImg_shape, hT]
    exact invPerm_map_getD perm s h 1
  refine ⟨hsh, fun p hp => ?_⟩
  have hq : inside T.shape (perm.map fun a => p.getD a 0) = true := by
    rw [hT]; exact inside_map_getD s p hp perm
  have hinv : (invPerm perm).Perm (List.range T.shape.length) := by
    rw [hT, List.length_map, hlen]; exact invPerm_perm perm _ h
  have h2 := transposeImg_getD (invPerm perm) T hinv _ hq
  rwa [invPerm_map_getD perm p (C01.inside_length hp ▸ h) 0] at h2

theorem moveLast_map {β : Type} (n axis : Nat) (g : Nat → β) :
    (moveLast n axis).map g = (otherAxes n axis).map g ++ [g axis] := by
  simp [moveLast]

theorem moveLast_map_setAxis (s : List Nat) (axis : Nat) (p : List Int) (x : Int)
    (hax : axis < s.length) (hp : inside s p = true) :
    ((moveLast s.length axis).map fun a => (setAxis p axis x).getD a 0) =
      ((otherAxes s.length axis).map fun a => p.getD a 0) ++ [x] := by
  rw [moveLast_map, getD_setAxis_eq p axis x (by rw [C01.inside_length hp]; exact hax)]
  congr 1
  apply List.map_congr_left
  intro a ha
  exact getD_setAxis_ne p axis a x ((mem_otherAxes _ _ _).1 ha).2

theorem inside_otherAxes (s : List Nat) (axis : Nat) (p : List Int) (hp : inside s p = true) :
    inside (otherShape s axis) ((otherAxes s.length axis).map fun a => p.getD a 0) = true :=
  inside_map_getD s p hp _

theorem rowIndex_lt (s : List Nat) (axis : Nat) (p : List Int) (hp : inside s p = true) :
    rowIndex s axis p < shapeSize (otherShape s axis) :=
  C01.ravelI_lt _ _ (inside_otherAxes s axis p hp)

theorem transposed_shape (s : List Nat) (axis : Nat) :
    ((moveLast s.length axis).map fun a => s.getD a 1) = otherShape s axis ++ [s.getD axis 1] :=
  moveLast_map _ _ _

/-- the transposed position of `p[axis := x]` and the cell `(row of p, x)` have the same C-order rank -/
theorem ravelI_transposed (s : List Nat) (axis : Nat) (p : List Int) (x : Int)
    (hax : axis < s.length) (hp : inside s p = true) :
    ravelI ((moveLast s.length axis).map fun a => s.getD a 1)
        ((moveLast s.length axis).map fun a => (setAxis p axis x).getD a 0) =
      ravelI [shapeSize (otherShape s axis), s.getD axis 1] [(rowIndex s axis p : Int), x] := by
  rw [transposed_shape, moveLast_map_setAxis s axis p x hax hp,
    ravelI_concat _ _ _ _ (inside_otherAxes s axis p hp), ravelI_pair]
  rfl

theorem shapeSize_rows (s : List Nat) (axis : Nat) :
    shapeSize [shapeSize (otherShape s axis), s.getD axis 1] =
      shapeSize ((moveLast s.length axis).map fun a => s.getD a 1) := by
  rw [transposed_shape, shapeSize_concat, shapeSize, shapeSize, shapeSize, Nat.mul_one]

/-- the transposed image holds `f[p[axis := x]]` at the other coordinates of `p` followed by `x`, and the reshape
    keeps the C-order rank -/
theorem rowsView_getD (f : Img R) (axis : Nat) (p : List Int) (x : Int)
    (hax : axis < f.shape.length) (hp : inside f.shape p = true)
    (h0 : 0 ≤ x) (h1 : x < ((f.shape.getD axis 1 : Nat) : Int)) :
    (rowsView f axis).getD [(rowIndex f.shape axis p : Int), x] 0 = f.getD (setAxis p axis x) 0 := by
  have hP := inside_setAxis f.shape p axis x hp h0 h1
  rw [← transposeImg_getD (moveLast f.shape.length axis) f (moveLast_perm _ axis hax) _ hP]
  exact reshapeImg_getD _ _ _ rfl (shapeSize_rows _ _) _ _
    (inside_pair _ _ _ x (Int.natCast_nonneg _) (Int.ofNat_lt.2 (rowIndex_lt f.shape axis p hp)) h0 h1)
    (inside_map_getD _ _ hP _) (ravelI_transposed f.shape axis p x hax hp).symm

theorem rowsView_shape (f : Img R) (axis : Nat) :
    (rowsView f axis).shape = [shapeSize (otherShape f.shape axis), f.shape.getD axis 1] := rfl

theorem rowOf_rowsView (f : Img R) (axis : Nat) (p : List Int) (hax : axis < f.shape.length)
    (hp : inside f.shape p = true) :
    rowOf (rowsView f axis) (rowIndex f.shape axis p) = lineThrough f axis p := by
  unfold rowOf lineThrough
  simp only [rowsView_shape, List.getD_cons_succ, List.getD_cons_zero]
  congr 2
  apply List.map_congr_left
  intro x hx
  exact rowsView_getD f axis p (x : Int) hax hp (Int.natCast_nonneg x) (Int.ofNat_lt.2 (List.mem_range.1 hx))

theorem unrowsView_spec (s : List Nat) (axis : Nat) (hax : axis < s.length) (tmp : Img R) :
    (unrowsView s axis tmp).shape = s ∧
    ∀ p, inside s p = true → (unrowsView s axis tmp).getD p 0 =
      (reshapeImg ((moveLast s.length axis).map fun a => s.getD a 1) tmp).getD
        ((moveLast s.length axis).map fun a => p.getD a 0) 0 :=
  transposeImg_invPerm (moveLast s.length axis) s (moveLast_perm s.length axis hax) _ rfl

theorem unrowsView_getD (s : List Nat) (axis : Nat) (hax : axis < s.length) (tmp : Img R)
    (htmp : tmp.shape = [shapeSize (otherShape s axis), s.getD axis 1]) :
    (unrowsView s axis tmp).shape = s ∧
    ∀ p, inside s p = true → ∀ x : Int, 0 ≤ x → x < ((s.getD axis 1 : Nat) : Int) →
      (unrowsView s axis tmp).getD (setAxis p axis x) 0 = tmp.getD [(rowIndex s axis p : Int), x] 0 := by
  obtain ⟨hsh, hget⟩ := unrowsView_spec s axis hax tmp
  refine ⟨hsh, fun p hp x h0 h1 => ?_⟩
  have hP := inside_setAxis s p axis x hp h0 h1
  rw [hget _ hP]
  exact reshapeImg_getD _ _ _ htmp (shapeSize_rows _ _).symm _ _ (inside_map_getD _ _ hP _)
    (inside_pair _ _ _ x (Int.natCast_nonneg _) (Int.ofNat_lt.2 (rowIndex_lt s axis p hp)) h0 h1)
    (ravelI_transposed s axis p x hax hp)

theorem unrowsView_getD_self (s : List Nat) (axis : Nat) (hax : axis < s.length) (tmp : Img R)
    (htmp : tmp.shape = [shapeSize (otherShape s axis), s.getD axis 1]) (p : List Int)
    (hp : inside s p = true) :
    (unrowsView s axis tmp).getD p 0 = tmp.getD [(rowIndex s axis p : Int), p.getD axis 0] 0 := by
  have hx := C01.getD_lt_of_inside s p hp axis
  have h := (unrowsView_getD s axis hax tmp htmp).2 p hp (p.getD axis 0) hx.1 hx.2
  rwa [setAxis_self] at h

end semiring

section pipeline
variable {α : Type} [Add α] [Mul α] [Zero α]

/-- the 2-D buffer `tmp` after the C kernel ran: every write stores `T(cur)` (`cast`); a cell that was
    never written would be uninitialised memory (`np.empty`) — it reads 0 here, and the theorem shows
    that no such cell exists -/
def tmpOfWrites (cast : α → α) (N0 N1 : Nat) (ws : List (Nat × Nat × α)) : Img α :=
  { shape := [N0, N1], data := (applyWrites N0 N1 ws).map fun | some v => cast v | none => 0 }

/-- the fast path of `convolve1d` (Python) as written: `f.transpose(indices).reshape((-1, N))`, the C
    kernel `_convolve.convolve1d` on that 2-D array into `tmp` (the model's write sequence
    `fastWrites`), then `tmp.reshape(tshape).transpose(rindices)` -/
def convolve1dViaTranspose (cast : α → α) (m : Mode) (f : Img α) (axis : Nat) (w : Array α) : Img α :=
  let N0 := shapeSize (otherShape f.shape axis)
  let N1 := f.shape.getD axis 1
  unrowsView f.shape axis (tmpOfWrites cast N0 N1 (fastWrites m (rowsView f axis) w N0 N1))

end pipeline

/-- a cell hit by some write, all of whose writes store `G`, holds `G` at the end: the last write wins -/
theorem applyWrites_get {β : Type} (N0 N1 : Nat) (ws : List (Nat × Nat × β)) (i : Nat) (G : β) (hi : i < N0 * N1)
    (hall : ∀ t ∈ ws, t.1 * N1 + t.2.1 = i → t.2.2 = G) (hex : ∃ t ∈ ws, t.1 * N1 + t.2.1 = i) :
    (applyWrites N0 N1 ws)[i]? = some (some G) := by
  unfold applyWrites
  rw [foldl_set_getElem? (fun (t : Nat × Nat × β) => t.1 * N1 + t.2.1) (fun t => some t.2.2) i,
    Array.getElem?_replicate, if_pos hi]
  obtain ⟨t, ht, e⟩ := hex
  cases hl : (ws.filter fun t => decide (t.1 * N1 + t.2.1 = i)).getLast? with
  | none =>
    exact absurd (List.getLast?_eq_none_iff.1 hl) (List.ne_nil_of_mem (List.mem_filter.2 ⟨ht, decide_eq_true e⟩))
  | some t' =>
    obtain ⟨h1, h2⟩ := List.mem_filter.1 (List.mem_of_getLast? hl)
    exact congrArg (fun v => some (some v)) (hall t' h1 (of_decide_eq_true h2))

section semiring
variable {R : Type} [CommSemiring R]

theorem fastWrites_border (m : Mode) (g : Img R) (w : Array R) (N0 N1 : Nat) (h : w.size < N1) :
    ∀ t ∈ fastWrites m g w N0 N1, t.1 < N0 ∧ t.2.1 < N1 ∧ t.2.2 = fastBorder m g w N1 t.1 t.2.1 := by
  intro t ht
  unfold fastWrites at ht
  rcases List.mem_append.1 ht with ht | ht
  · obtain ⟨y, hy, ht⟩ := List.mem_flatMap.1 ht
    obtain ⟨x, hx, rfl⟩ := List.mem_map.1 ht
    have hx' : x < N1 := List.mem_range.1 ((fastXs_perm w.size N1 h).mem_iff.1 (List.mem_append_left _ hx))
    exact ⟨List.mem_range.1 hy, hx', fastInterior_eq_border m g w N1 y x hx h⟩
  · obtain ⟨x, hx, ht⟩ := List.mem_flatMap.1 ht
    obtain ⟨y, hy, rfl⟩ := List.mem_map.1 ht
    have hx' : x < N1 := List.mem_range.1 ((fastXs_perm w.size N1 h).mem_iff.1 (List.mem_append_right _ hx))
    exact ⟨List.mem_range.1 hy, hx', rfl⟩

theorem fastWrites_cover (m : Mode) (g : Img R) (w : Array R) (N0 N1 r x : Nat) (h : w.size < N1)
    (hr : r < N0) (hx : x < N1) : ∃ t ∈ fastWrites m g w N0 N1, t.1 * N1 + t.2.1 = r * N1 + x := by
  have hmem : x ∈ fastXs w.size N1 := ((fastXs_perm w.size N1 h).mem_iff).2 (List.mem_range.2 hx)
  unfold fastXs at hmem
  unfold fastWrites
  rcases List.mem_append.1 hmem with hi | hb
  · exact ⟨(r, x, fastInterior g w r x), List.mem_append_left _
      (List.mem_flatMap.2 ⟨r, List.mem_range.2 hr, List.mem_map.2 ⟨x, hi, rfl⟩⟩), rfl⟩
  · exact ⟨(r, x, fastBorder m g w N1 r x), List.mem_append_right _
      (List.mem_flatMap.2 ⟨x, hb, List.mem_map.2 ⟨r, List.mem_range.2 hr, rfl⟩⟩), rfl⟩

/-- after the row kernel ran, every cell of the buffer holds the cast value of the border loop: each write stores it
    (`fastWrites_border`), every cell is written (`fastWrites_cover`), and the last write wins -/
theorem fastBuffer_getD (cast : R → R) (m : Mode) (g : Img R) (w : Array R) (N0 N1 r x : Nat) (h : w.size < N1)
    (hr : r < N0) (hx : x < N1) :
    (tmpOfWrites cast N0 N1 (fastWrites m g w N0 N1)).getD [(r : Int), (x : Int)] 0 =
      cast (fastBorder m g w N1 r x) := by
  have hget := applyWrites_get N0 N1 (fastWrites m g w N0 N1) (r * N1 + x) (fastBorder m g w N1 r x)
    (rowMajor_lt hr hx)
    (fun t ht hcell => by
      obtain ⟨_, h2, h3⟩ := fastWrites_border m g w N0 N1 h t ht
      obtain ⟨e1, e2⟩ := rowMajor_inj h2 hx hcell
      rw [h3, e1, e2])
    (fastWrites_cover m g w N0 N1 r x h hr hx)
  unfold tmpOfWrites Img.getD
  simp only [inside_pair N0 N1 r x (Int.natCast_nonneg _) (Int.ofNat_lt.2 hr) (Int.natCast_nonneg _) (Int.ofNat_lt.2 hx), if_true, ravelI_pair, Int.toNat_natCast]
  rw [Array.getD_eq_getD_getElem?, Array.getElem?_map, hget]
  rfl

theorem viaTranspose_getD (cast : R → R) (m : Mode) (f : Img R) (axis : Nat) (w : Array R)
    (hax : axis < f.shape.length) (hw : w.size < f.shape.getD axis 1) (p : List Int)
    (hp : inside f.shape p = true) :
    (convolve1dViaTranspose cast m f axis w).getD p 0 =
      cast (convSpec m f (embedShape f.shape.length axis w.size) w p) := by
  have hx := C01.getD_lt_of_inside f.shape p hp axis
  unfold convolve1dViaTranspose
  simp only
  rw [unrowsView_getD_self f.shape axis hax _ rfl p hp, ← Int.toNat_of_nonneg hx.1,
    fastBuffer_getD cast m _ w _ _ _ _ hw (rowIndex_lt f.shape axis p hp) ((Int.toNat_lt hx.1).2 hx.2),
    fastBorder_of_row m f _ axis w p _ hp hax fun o h0 h1 => rowsView_getD f axis p o hax hp h0 h1]

theorem viaTranspose_eq_spec (cast : R → R) (m : Mode) (f : Img R) (axis : Nat) (w : Array R)
    (hax : axis < f.shape.length) (hw : w.size < f.shape.getD axis 1) :
    (convolve1dViaTranspose cast m f axis w).shape = f.shape ∧
    (convolve1dViaTranspose cast m f axis w).data.toList =
      (allPos f.shape).map fun p => cast (convSpec m f (embedShape f.shape.length axis w.size) w p) :=
  have hsh : (convolve1dViaTranspose cast m f axis w).shape = f.shape :=
    (unrowsView_getD f.shape axis hax _ rfl).1
  ⟨hsh, toList_eq_map_getD _ 0 _ _ hsh (hsh ▸ Img.tabulate_data_size _ _) (viaTranspose_getD cast m f axis w hax hw)⟩

end semiring

section lastaxis
variable {α : Type} [Add α] [Mul α] [Zero α]

/-- the branch `if axis == len(tshape) - 1` of the Python fast path: `indices` is the identity, the C
    kernel writes straight into `out.reshape((-1, N))` — a 2-D view of the C-contiguous `out` —, so `out`
    is the 2-D buffer read with the shape of `f` -/
def convolve1dLastAxis (cast : α → α) (m : Mode) (f : Img α) (w : Array α) : Img α :=
  let axis := f.shape.length - 1
  let N0 := shapeSize (otherShape f.shape axis)
  let N1 := f.shape.getD axis 1
  reshapeImg f.shape (tmpOfWrites cast N0 N1 (fastWrites m (rowsView f axis) w N0 N1))

end lastaxis

theorem moveLast_last (n : Nat) (hn : 0 < n) : moveLast n (n - 1) = List.range n := by
  obtain ⟨k, rfl⟩ : ∃ k, n = k + 1 := ⟨n - 1, (Nat.sub_add_cancel hn).symm⟩
  unfold moveLast otherAxes
  rw [Nat.add_sub_cancel, List.range_succ, List.filter_append]
  have h1 : (List.range k).filter (fun a => decide (a ≠ k)) = List.range k := by
    apply List.filter_eq_self.2
    intro a ha
    have := List.mem_range.1 ha
    simp; omega
  rw [h1]
  simp

section semiring
variable {R : Type} [CommSemiring R]

theorem unrowsView_last (s : List Nat) (hn : 0 < s.length) (tmp : Img R) :
    ∀ p, inside s p = true → (unrowsView s (s.length - 1) tmp).getD p 0 = (reshapeImg s tmp).getD p 0 := by
  intro p hp
  rw [(unrowsView_spec s _ (Nat.sub_lt hn Nat.one_pos) tmp).2 p hp, moveLast_last _ hn,
    range_map_getD_self s _ 1 rfl, range_map_getD_self p _ 0 (C01.inside_length hp)]

theorem lastAxis_eq_spec (cast : R → R) (m : Mode) (f : Img R) (w : Array R) (hn : 0 < f.shape.length)
    (hw : w.size < f.shape.getD (f.shape.length - 1) 1) :
    (convolve1dLastAxis cast m f w).shape = f.shape ∧
    (convolve1dLastAxis cast m f w).data.toList =
      (allPos f.shape).map fun p =>
        cast (convSpec m f (embedShape f.shape.length (f.shape.length - 1) w.size) w p) := by
  refine ⟨rfl, toList_eq_map_getD _ 0 _ _ rfl ?_ fun p hp => (unrowsView_last f.shape hn _ p hp).symm.trans
    (viaTranspose_getD cast m f (f.shape.length - 1) w (Nat.sub_lt hn Nat.one_pos) hw p hp)⟩
  -- the buffer has `N0 · N1` cells, as many as the transposed shape, which on the last axis is the shape of `f`
  refine (size_map_allPos _ _).trans ((shapeSize_rows _ _).trans ?_)
  rw [moveLast_last _ hn, range_map_getD_self f.shape _ 1 rfl]

end semiring
end Mahotas.C06
