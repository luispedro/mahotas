/-
C10 — the signed flat index `ravelZ`, and where a structuring element fits.

`ravelZ` is `ravelI` on the box. Where the element placed with its centre at `cur` lies inside the image (`Fits`), the
neighbour `cur + k - centre` is inside and its flat index is `ravelZ cur + ravelZ (k - centre)` (`Fits_neighbour`); the
closed form `C14.hmEvaluated` of the `hitmiss` loop control implies `Fits` (`hmEvaluated_fits`). Used by the `hitmiss`
proofs of C10 and by the tie of C08.
-/
import Mahotas.Model.C10
import Mahotas.Model.C14
import Mahotas.Proofs.Index
import Mathlib.Tactic.Ring
namespace Mahotas.C10
open Mahotas

theorem ravelZ_eq (s : List Nat) (p : List Int) (h : inside s p = true) :
    ravelZ s p = (ravelI s p : Int) := by
  induction s generalizing p with
  | nil => cases p <;> simp_all [inside, ravelI, ravelZ]
  | cons d ds ih =>
    cases p with
    | nil => simp [inside] at h
    | cons x xs =>
      simp only [inside, Bool.and_eq_true, decide_eq_true_eq] at h
      obtain ⟨⟨h0, h1⟩, h2⟩ := h
      simp only [ravelI, ravelZ, ih xs h2, Int.natCast_add, Int.natCast_mul]
      rw [Int.toNat_of_nonneg h0]

theorem ravelZ_range (s : List Nat) (p : List Int) (h : inside s p = true) :
    0 ≤ ravelZ s p ∧ ravelZ s p < (shapeSize s : Int) := by
  rw [ravelZ_eq s p h]
  have := C01.ravelI_lt s p h
  omega

theorem ravelZ_unravelI (s : List Nat) (i : Nat) (h : i < shapeSize s) :
    ravelZ s (unravelI s i) = (i : Int) := by
  rw [ravelZ_eq s _ (C01.inside_unravelI s i h), C01.ravelI_unravelI s i h]

/-- the structuring element placed with its centre at `cur` lies inside the image -/
def Fits : List Nat → List Nat → List Int → Prop
  | a :: as, b :: bs, c :: cs =>
    origin b ≤ c ∧ c + ((b : Int) - 1 - origin b) ≤ (a : Int) - 1 ∧ Fits as bs cs
  | [], [], [] => True
  | _, _, _ => False

theorem Fits_neighbour (as bs : List Nat) (cur k : List Int) (h : Fits as bs cur)
    (hk : inside bs k = true) :
    inside as (addPos cur (subPos k (bs.map origin))) = true ∧
    ravelZ as (addPos cur (subPos k (bs.map origin))) =
      ravelZ as cur + ravelZ as (subPos k (bs.map origin)) := by
  induction as generalizing bs cur k with
  | nil =>
    cases bs <;> cases cur <;> simp_all [Fits]
    cases k <;> simp_all [inside, addPos, ravelZ]
  | cons a as ih =>
    cases bs with
    | nil => simp [Fits] at h
    | cons b bs =>
    cases cur with
    | nil => simp [Fits] at h
    | cons c cs =>
    cases k with
    | nil => simp [inside] at hk
    | cons y ys =>
      obtain ⟨h1, h2, h3⟩ := h
      simp only [inside, Bool.and_eq_true, decide_eq_true_eq] at hk
      obtain ⟨⟨k0, k1⟩, k2⟩ := hk
      obtain ⟨i1, i2⟩ := ih bs cs ys h3 k2
      simp only [List.map_cons, subPos, addPos, inside, ravelZ, i1, i2, Bool.and_eq_true,
        decide_eq_true_eq, and_true]
      refine ⟨⟨by omega, by omega⟩, by ring⟩

/-- where the loop control evaluates the template, the template placed at `p` lies inside the image (odd *and* even
    sizes) -/
theorem hmEvaluated_fits : ∀ (ns bs : List Nat) (xs : List Int), C14.hmEvaluated ns bs xs = true → Fits ns bs xs := by
  intro ns
  induction ns with
  | nil => intro bs xs h; simp [C14.hmEvaluated] at h
  | cons n ns ih =>
    intro bs xs h
    cases bs with
    | nil => simp [C14.hmEvaluated] at h
    | cons b bs =>
      cases xs with
      | nil => simp [C14.hmEvaluated] at h
      | cons x xs =>
        simp only [C14.hmEvaluated] at h
        by_cases he : ns.isEmpty = true
        · rw [if_pos he] at h
          simp only [Bool.and_eq_true, decide_eq_true_eq, List.isEmpty_iff] at h he
          obtain ⟨⟨⟨⟨hb, hx⟩, h1⟩, h2⟩, h3⟩ := h
          subst he; subst hb; subst hx
          simp only [Fits, origin, Int.ofNat_eq_natCast, and_true]
          omega
        · rw [if_neg he] at h
          simp only [Bool.and_eq_true, decide_eq_true_eq] at h
          refine ⟨?_, ?_, ih bs xs h.2⟩
          · simp only [origin, Int.ofNat_eq_natCast]; omega
          · simp only [origin, Int.ofNat_eq_natCast]; omega

end Mahotas.C10
