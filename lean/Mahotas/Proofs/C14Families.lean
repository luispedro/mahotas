/-
C14 — the neighbourhood hypotheses `StarShaped` / `SymNb` of the extrema theorems, proved once for the
neighbourhood lists the driver builds (`neighbours S bc`: offsets of the non-zero entries, centre
removed as `_remove_centre` does) from every cross `crossElem d r`, disk `diskElem d r` and all-ones box
of odd sides, in every rank (for one concrete neighbourhood the Boolean checks of `StarCheck.lean` do it by
evaluation).
-/
import Mahotas.Proofs.C02Families
import Mahotas.Proofs.C14Reg

namespace Mahotas.C14
open Mahotas

theorem mem_neighbours (S : List Nat) (bc : Array Int) (k : List Int) :
    k ∈ neighbours S bc ↔ (∃ kh ∈ C01.support S bc true, kh.1 = k) ∧ isZeroPos k = false := by
  rw [neighbours_eq_map]
  simp only [List.mem_map, List.mem_filter, List.mem_range, Bool.not_eq_true', Bool.or_eq_false_iff, beq_eq_false_iff_ne]
  constructor
  · rintro ⟨i, ⟨hi, hne, hz⟩, rfl⟩
    exact ⟨⟨_, (C01.mem_support S bc true _).mpr ⟨i, hi, fun _ => hne, rfl⟩, rfl⟩, hz⟩
  · rintro ⟨⟨kh, hkh, rfl⟩, hz⟩
    obtain ⟨i, hi, hne, rfl⟩ := (C01.mem_support S bc true kh).mp hkh
    exact ⟨i, ⟨hi, hne rfl, hz⟩, rfl⟩

theorem isZeroPos_negPos (k : List Int) : isZeroPos (negPos k) = isZeroPos k := by
  unfold isZeroPos negPos
  rw [List.all_map]
  exact List.all_congr rfl fun a => by
    rw [Function.comp_apply, Bool.eq_iff_iff, beq_iff_eq, beq_iff_eq, Int.neg_eq_zero]

/-- a star-shaped footprint gives a star-shaped neighbourhood (the centre is removed, and `StarShaped` excuses it) -/
theorem starShaped_neighbours (S : List Nat) (bc : Array Int)
    (hstar : C01.starShaped S ((C01.support S bc true).map (·.1)) = true) : StarShaped (neighbours S bc) := by
  intro k hk k' hb
  obtain ⟨⟨kh, hkh, rfl⟩, _⟩ := (mem_neighbours S bc _).mp hk
  by_cases hz : isZeroPos k' = true
  · exact Or.inl hz
  · exact Or.inr ((mem_neighbours S bc k').mpr
      ⟨C01.starShaped_entry S _ (C01.support_mem_boxOffsets S bc true) hstar kh hkh k' hb, by simpa using hz⟩)

section
variable {d : Nat} {S : List Nat} {bc : Array Int}

theorem starShaped_family (h : C01.RegularElem d S bc) : StarShaped (neighbours S bc) :=
  starShaped_neighbours S bc h.star

theorem neighbours_length_regular (h : C01.RegularElem d S bc) : ∀ k ∈ neighbours S bc, k.length = d :=
  fun k hk => (neighbours_length S bc k hk).trans h.rank

theorem neighbours_neg (h : C01.RegularElem d S bc) : ∀ k ∈ neighbours S bc, negPos k ∈ neighbours S bc := by
  intro k hk
  obtain ⟨⟨kh, hkh, rfl⟩, hz⟩ := (mem_neighbours S bc _).mp hk
  exact (mem_neighbours S bc _).mpr ⟨h.neg_entry kh hkh, by rw [isZeroPos_negPos]; exact hz⟩

theorem symNb_family (h : C01.RegularElem d S bc) (A : Img Int) (hd : A.shape.length = d) :
    SymNb A (neighbours S bc) :=
  ⟨neighbours_neg h, fun k hk => by rw [neighbours_length_regular h k hk, hd]⟩

end

end Mahotas.C14
