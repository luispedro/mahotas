/-
C18 — integer coordinates anywhere. An integer coordinate vector goes through the mathematical border rule `specPos`,
coordinate by coordinate (`mapCoords_int`), so the interpolation property inside the array extends to sources outside it
(`pixel_border_of_core`); with `axis_inverts` this is `interp_core`, the theorem behind every
`C18_interpolation_property*`. Order 1 needs no prefilter and no hypothesis on the length of the vector
(`core_order1`, `pixel_order1_int`). Then the coordinate vectors of a corner of `zoom`, of a zero shift and of a
unit zoom.
-/
import Mahotas.Proofs.C18Interp
set_option linter.unusedSectionVars false
namespace Mahotas.C18
open Mahotas

variable {K : Type} [Field K] [LinearOrder K] [IsStrictOrderedRing K]

theorem mapCoord_int_spec {fl : K → Int} (h : IsFloor fl) (m : Mode) (len : Nat) (hlen : 0 < len) (n : Int) :
    mapCoord fl m len (n : K) = (borderSpec m n len).map (fun (i : Int) => (i : K)) := by
  rw [mapCoord_int h, ← fixOffset_eq_spec m n len (by exact_mod_cast hlen)]
  by_cases c : 0 ≤ n ∧ n ≤ (len : Int) - 1
  · rw [if_pos c, fixOffset_inside m n len c.1 (by omega)]; rfl
  · rw [if_neg c]

theorem mapCoords_int {fl : K → Int} (h : IsFloor fl) (m : Mode) :
    ∀ (shape : List Nat) (js : List Int), (∀ len ∈ shape, 0 < len) →
      mapCoords fl m shape (js.map fun (j : Int) => (j : K))
        = (specPos m shape js).map (fun js' => js'.map fun (j : Int) => (j : K))
  | [], js, _ => by cases js <;> simp [mapCoords, specPos]
  | _ :: _, [], _ => by simp [mapCoords, specPos]
  | len :: ls, j :: js, hpos => by
    simp only [List.map_cons, mapCoords, specPos, mapCoord_int_spec h m len (hpos len (by simp)) j,
      mapCoords_int h m ls js fun l hl => hpos l (by simp [hl])]
    cases borderSpec m j len <;> cases specPos m ls js <;> simp

theorem specPos_length (m : Mode) : ∀ (shape : List Nat) (js js' : List Int),
    js.length = shape.length → specPos m shape js = some js' → js'.length = shape.length
  | [], [], _, _, hs => by cases hs; rfl
  | [], _ :: _, _, hl, _ => by simp at hl
  | _ :: _, [], _, hl, _ => by simp at hl
  | len :: ls, j :: js, _, hl, hs => by
    obtain ⟨a, as, _, hr, rfl⟩ := specPos_cons_some m len ls j js _ hs
    simp [specPos_length m ls js as (by simpa using hl) hr]

/-- the border rule stops at the shorter of `shape` and `js`, as `mapCoords` and `splineAxes` do: no hypothesis on the
    length of `js` -/
theorem pixel_border_of_core {fl : K → Int} (h : IsFloor fl) (order : Nat) (m : Mode) (cval : K) (im : Img K)
    (shifts zooms : List (Option K)) (p js : List Int) (hpos : ∀ len ∈ im.shape, 0 < len)
    (hc : coordsOf im.shape p shifts zooms = js.map fun (j : Int) => (j : K))
    (f : List Int → K)
    (hcore : ∀ js', specPos m im.shape js = some js' →
      nestedSum (fun pos => im.getD pos 0) (splineAxes fl order im.shape (js'.map fun (j : Int) => (j : K))) = f js') :
    pixel fl order m cval im shifts zooms p
      = match specPos m im.shape js with
        | some js' => f js'
        | none => cval := by
  rw [pixel_general, hc, mapCoords_int h m im.shape js hpos]
  cases hs : specPos m im.shape js with
  | none => rfl
  | some js' => exact hcore js' hs

/-- `zoom_shift` on the separable prefilter of `f` (exact poles `ps` of the taps `lams` whose product is the sampled
    B-spline of the order, `MirrorInit` initial values; axes of one sample or at least two) returns, at an output
    position whose coordinates are an integer vector `js`, `f` at the position the border rule assigns to `js`, or
    `cval` -/
theorem interp_core {fl : K → Int} (h : IsFloor fl) (m : Mode) (cval : K) {order : Nat} {w : K} {lams : List K}
    (hf : Factors fl order w lams) {ps : List K} (hp : List.Forall₂ IsPole ps lams)
    (ini : K → Nat → (Nat → K) → K) (im : Img K) (hshape : ∀ len ∈ im.shape, len = 1 ∨ 2 ≤ len)
    (hini : ∀ len ∈ im.shape, 2 ≤ len → ∀ z ∈ ps, ∀ s : Nat → K, MirrorInit z len s (ini z len s))
    (f : List Int → K)
    (hdata : ∀ pos, inside im.shape pos = true → im.getD pos 0 = prefilterNd (lineFilterL w ps ini) im.shape f pos)
    (shifts zooms : List (Option K)) (p js : List Int) (hl : js.length = im.shape.length)
    (hc : coordsOf im.shape p shifts zooms = js.map fun (j : Int) => (j : K)) :
    pixel fl order m cval im shifts zooms p
      = match specPos m im.shape js with
        | some js' => f js'
        | none => cval := by
  have hpos : ∀ len ∈ im.shape, 0 < len := fun len hl' => by have := hshape len hl'; omega
  apply pixel_border_of_core h order m cval im shifts zooms p js hpos hc f
  intro js' hs
  have hin := inside_specPos m im.shape js js' hpos hl hs
  rw [nestedSum_inside fl order im js' hpos hin _ hdata]
  exact nested_prefilter fl order _ im.shape js' f (fun len hlen s j h0 hj =>
    axis_inverts h hf hp ini len (hshape len hlen) (hini len hlen) s j h0 hj) hin

/-- the hypothesis on the order in the form `C18_interpolation_property` and `_border` state it -/
theorem factors23 {fl : K → Int} (h : IsFloor fl) {order : Nat} {lam : K}
    (hord : (order = 2 ∧ lam = 6) ∨ (order = 3 ∧ lam = 4)) : Factors fl order (2 + lam) [lam] := by
  rcases hord with ⟨rfl, rfl⟩ | ⟨rfl, rfl⟩
  · norm_num; exact factors2 h
  · norm_num; exact factors3 h

/-- the hypothesis on the order in the form `C18_interpolation_property_order4_5` and `_border_order4_5` state it -/
theorem factors45 {fl : K → Int} (h : IsFloor fl) {order : Nat} {l1 l2 w : K}
    (hord : (order = 4 ∧ l1 + l2 = 76 ∧ l1 * l2 = 228 ∧ w = 384) ∨
      (order = 5 ∧ l1 + l2 = 26 ∧ l1 * l2 = 64 ∧ w = 120)) : Factors fl order w [l1, l2] := by
  rcases hord with ⟨rfl, hs, hp, rfl⟩ | ⟨rfl, hs, hp, rfl⟩
  exacts [factors4 h hs hp, factors5 h hs hp]

/-- order 1 at an integer coordinate inside the axis reads the sample there: the weights are `1, 0` -/
theorem nestedSum_int1 {fl : K → Int} (h : IsFloor fl) (len : Nat) (ls : List Nat) (j : Int) (cs : List K)
    (sample : List Int → K) (h0 : 0 ≤ j) (h1 : j < len) :
    nestedSum sample (splineAxes fl 1 (len :: ls) ((j : K) :: cs))
      = nestedSum (fun pos => sample (j :: pos)) (splineAxes fl 1 ls cs) := by
  obtain ⟨s1, s2⟩ := startIdx_weights_int1 h j
  rw [splineAxes, nestedSum]
  simp only [s1, s2, show List.range (1 + 1) = [0, 1] from rfl, List.map_cons, List.map_nil, List.zip_cons_cons,
    List.zip_nil_right, List.sum_cons, List.sum_nil, one_mul, zero_mul, add_zero, Nat.cast_zero,
    edgeFold_inside len j h0 h1]

theorem core_order1 {fl : K → Int} (h : IsFloor fl) (m : Mode) : ∀ (shape : List Nat) (js js' : List Int),
    (∀ len ∈ shape, 0 < len) → specPos m shape js = some js' → ∀ sample : List Int → K,
    nestedSum sample (splineAxes fl 1 shape (js'.map fun (j : Int) => (j : K))) = sample js'
  | [], js, js', _, hs, sample => by
    obtain rfl : [] = js' := by cases js <;> exact Option.some.inj hs
    simp only [splineAxes, nestedSum]
  | _ :: _, [], js', _, hs, sample => by
    obtain rfl : [] = js' := Option.some.inj hs
    simp only [List.map_nil, splineAxes, nestedSum]
  | len :: ls, j :: js, _, hpos, hs, sample => by
    obtain ⟨a, as, hb, hr, rfl⟩ := specPos_cons_some m len ls j js _ hs
    obtain ⟨r0, r1⟩ := borderSpec_range m j len (by exact_mod_cast hpos len (by simp)) a hb
    rw [List.map_cons, nestedSum_int1 h len ls a _ sample r0 r1,
      core_order1 h m ls js as (fun l hl => hpos l (by simp [hl])) hr]

theorem pixel_order1_int {fl : K → Int} (h : IsFloor fl) (m : Mode) (cval : K) (im : Img K)
    (hpos : ∀ len ∈ im.shape, 0 < len) (shifts zooms : List (Option K)) (p js : List Int)
    (hc : coordsOf im.shape p shifts zooms = js.map fun (j : Int) => (j : K)) :
    pixel fl 1 m cval im shifts zooms p
      = match specPos m im.shape js with
        | some js' => im.getD js' 0
        | none => cval :=
  pixel_border_of_core h 1 m cval im shifts zooms p js hpos hc (fun js' => im.getD js' 0)
    (fun js' hs => core_order1 h m im.shape js js' hpos hs _)

/-- `p` is a corner of the output box: every index is 0 or the last one (of an axis with at least two samples) -/
def IsCorner : List Nat → List Int → Prop
  | nout :: os, p :: ps => (p = 0 ∨ (2 ≤ nout ∧ p = (nout : Int) - 1)) ∧ IsCorner os ps
  | [], [] => True
  | _, _ => False

/-- the corner of the input box that corresponds to the output corner `p` -/
def cornerSrc : List Nat → List Int → List Int
  | nin :: ns, p :: ps => (if p = 0 then 0 else (nin : Int) - 1) :: cornerSrc ns ps
  | _, _ => []

theorem coordsOf_corner : ∀ (shape oshape : List Nat) (p : List Int), shape.length = oshape.length →
    IsCorner oshape p →
    coordsOf shape p (oshape.map fun _ => (none : Option K))
        ((shape.zip oshape).map fun io => some (zoomFactor io.1 io.2 : K))
      = (cornerSrc shape p).map fun (j : Int) => (j : K) := by
  intro shape
  induction shape with
  | nil =>
    intro oshape p hl hc
    cases oshape with
    | nil => cases p <;> simp [coordsOf, cornerSrc]
    | cons o os => simp at hl
  | cons nin ns ih =>
    intro oshape p hl hc
    cases oshape with
    | nil => simp at hl
    | cons o os =>
      cases p with
      | nil => simp [IsCorner] at hc
      | cons kk ks =>
        simp only [IsCorner] at hc
        obtain ⟨hk, hrest⟩ := hc
        simp only [List.map_cons, List.zip_cons_cons, coordsOf, cornerSrc]
        rw [ih os ks (by simpa using hl) hrest]
        congr 1
        rcases hk with rfl | ⟨h2, rfl⟩
        · simp only [Int.toNat_zero, if_true, Int.cast_zero]
          exact coord_zoom_origin _
        · have e : ((o : Int) - 1).toNat = o - 1 := by omega
          have ne : ¬ ((o : Int) - 1 = 0) := by omega
          rw [e, if_neg ne]
          exact coord_zoom_corner nin o h2

theorem cornerSrc_inside : ∀ (shape oshape : List Nat) (p : List Int), shape.length = oshape.length →
    IsCorner oshape p → (∀ len ∈ shape, 0 < len) → inside shape (cornerSrc shape p) = true := by
  intro shape
  induction shape with
  | nil =>
    intro oshape p hl hc _
    cases oshape with
    | nil => cases p <;> simp [cornerSrc, inside]
    | cons o os => simp at hl
  | cons nin ns ih =>
    intro oshape p hl hc hpos
    cases oshape with
    | nil => simp at hl
    | cons o os =>
      cases p with
      | nil => simp [IsCorner] at hc
      | cons kk ks =>
        simp only [IsCorner] at hc
        have hn := hpos nin (by simp)
        simp only [cornerSrc, inside, Bool.and_eq_true, decide_eq_true_eq]
        refine ⟨?_, ih os ks (by simpa using hl) hc.2 (fun l hl' => hpos l (by simp [hl']))⟩
        split_ifs <;> omega

theorem isCorner_inside : ∀ (oshape : List Nat) (p : List Int), IsCorner oshape p → (∀ n ∈ oshape, 0 < n) →
    inside oshape p = true := by
  intro oshape
  induction oshape with
  | nil => intro p hc _; cases p with
    | nil => rfl
    | cons k ks => simp [IsCorner] at hc
  | cons o os ih =>
    intro p hc hpos
    cases p with
    | nil => simp [IsCorner] at hc
    | cons kk ks =>
      simp only [IsCorner] at hc
      have ho := hpos o (by simp)
      simp only [inside, Bool.and_eq_true, decide_eq_true_eq]
      refine ⟨?_, ih ks hc.2 (fun n hn => hpos n (by simp [hn]))⟩
      rcases hc.1 with rfl | ⟨h2, rfl⟩ <;> omega

theorem coordsOf_zero_shift : ∀ (shape : List Nat) (p : List Int), inside shape p = true →
    coordsOf shape p ((shape.map fun _ => (0 : K)).map fun s => some (-s))
        ((shape.map fun _ => (0 : K)).map fun _ => none)
      = p.map fun (j : Int) => (j : K) :=
  C01.inside_induction rfl fun len ls kk ks h0 _ _ ih => by
    simp only [List.map_cons, coordsOf, ih, coord, natCast_toNat kk h0, neg_zero, add_zero]

theorem coordsOf_unit_zoom : ∀ (shape : List Nat) (p : List Int), inside shape p = true →
    coordsOf shape p (shape.map fun _ => (none : Option K))
        ((shape.zip shape).map fun io => some (zoomFactor io.1 io.2 : K))
      = p.map fun (j : Int) => (j : K) :=
  C01.inside_induction rfl fun len ls kk ks h0 _ _ ih => by
    simp only [List.map_cons, List.zip_cons_cons, coordsOf, ih, coord_zoom_unit len kk.toNat, natCast_toNat kk h0]

end Mahotas.C18
