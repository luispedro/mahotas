/-
C19 — `moments` over any commutative ring, and the options of `moments.py` (models in `Mahotas/Model/C19.lean`).
`moments` is its defining double sum (`moments_eq_spec`); a dot product with tabulated weights is `dotFrom`
(`dotList_range`), so `momentsFull` without normalisation and with a centre is `moments`; normalising divides by the two
weight sums; starting the indices one later and moving the centre by one leaves `dotFrom` unchanged (translation of
central moments).
-/
import Mahotas.Model.C19
import Mathlib.Tactic.Ring
import Mathlib.Algebra.Field.Basic
import Mathlib.Data.Nat.Cast.Basic

namespace Mahotas.C19
open Mahotas

/-- a dot product with the tabulated weights `f k, f (k+1), …` is `dotFrom f k` -/
theorem dotList_range' {K : Type} [Add K] [Mul K] [OfNat K 0] (f : Nat → K) : ∀ (xs : List K) (k : Nat),
    dotList xs ((List.range' k xs.length).map f) = dotFrom f k xs
  | [], _ => rfl
  | x :: xs, k => by
    simp only [List.length_cons, List.range'_succ, List.map_cons, dotList, dotFrom]
    rw [dotList_range' f xs (k + 1)]

theorem dotList_range {K : Type} [Add K] [Mul K] [OfNat K 0] (f : Nat → K) (xs : List K) :
    dotList xs ((List.range xs.length).map f) = dotFrom f 0 xs := by
  rw [List.range_eq_range']
  exact dotList_range' f xs 0

section ring
variable {R : Type} [CommRing R]

theorem dotFrom_mul (w : Nat → R) (u : R) (r : List R) : ∀ k : Nat,
    dotFrom w k r * u = dotFrom (fun j => u * w j) k r := by
  induction r with
  | nil => intro k; simp [dotFrom]
  | cons x xs ih =>
    intro k
    simp only [dotFrom]
    rw [← ih (k + 1)]
    ring

theorem moments_rowsFrom (cast : Nat → R) (rows : List (List R)) (p0 p1 : Nat) (c0 c1 : R) : ∀ i : Nat,
    dotFrom (fun i => powN (cast i - c0) p0) i
        (rows.map fun r => dotFrom (fun j => powN (cast j - c1) p1) 0 r)
      = momentsSpec.rowsFrom cast p0 p1 c0 c1 i rows := by
  induction rows with
  | nil => intro i; simp [dotFrom, momentsSpec.rowsFrom]
  | cons r rs ih =>
    intro i
    simp only [List.map_cons, dotFrom, momentsSpec.rowsFrom]
    rw [ih (i + 1), dotFrom_mul]

/-- **`moments` equals its defining double sum** over any commutative ring, any embedding of the indices,
    any (also non-integer) centre -/
theorem moments_eq_spec (cast : Nat → R) (rows : List (List R)) (p0 p1 : Nat) (c0 c1 : R) :
    moments cast rows p0 p1 c0 c1 = momentsSpec cast rows p0 p1 c0 c1 := by
  unfold moments momentsSpec
  exact moments_rowsFrom cast rows p0 p1 c0 c1 0

example : moments (fun n => (n : Int)) [[1, 2], [3, 4]] 1 1 0 0 = 4 := by decide
example : momentsSpec (fun n => (n : Int)) [[1, 2], [3, 4]] 1 1 0 0 = 4 := by decide

end ring

end Mahotas.C19

namespace Mahotas.C19.Machine
open Mahotas Mahotas.C19

/-- `normalize=False` with a centre on a rectangular image is the model `moments` -/
theorem momentsFull_eq_moments {K : Type} [Add K] [Sub K] [Mul K] [Div K] [OfNat K 0] [OfNat K 1] (cast : Nat → K)
    (R C : Nat) (rows : List (List K)) (p0 p1 : Nat) (c0 c1 : K) (hR : rows.length = R) (hC : ∀ r ∈ rows, r.length = C) :
    momentsFull cast R C rows p0 p1 (some (c0, c1)) false = moments cast rows p0 p1 c0 c1 := by
  subst hR
  unfold momentsFull moments
  simp only [Option.map_some, momentWeights, Bool.false_eq_true, if_false]
  -- `dotList_range` twice: a row has `C` entries, and there are as many row sums as rows
  rw [List.map_congr_left fun r hr => by rw [← hC r hr, dotList_range], ← List.length_map (as := rows), dotList_range]

section field
variable {α : Type} [Field α]

theorem dotList_div_right (s : α) : ∀ xs ws : List α,
    dotList xs (ws.map (· / s)) = dotList xs ws / s
  | [], _ => by simp [dotList]
  | _ :: _, [] => by simp [dotList]
  | x :: xs, w :: ws => by
    simp only [List.map_cons, dotList]
    rw [dotList_div_right s xs ws, add_div, mul_div_assoc]

theorem dotList_div_left (s : α) : ∀ xs ws : List α,
    dotList (xs.map (· / s)) ws = dotList xs ws / s
  | [], _ => by simp [dotList]
  | _ :: _, [] => by simp [dotList]
  | x :: xs, w :: ws => by
    simp only [List.map_cons, dotList]
    rw [dotList_div_left s xs ws, add_div, div_mul_eq_mul_div]

/-- the unnormalised weight vector `((j − c)^p)_j` -/
def rawWeights (cast : Nat → α) (n pw : Nat) (c : α) : List α :=
  (List.range n).map fun j => powN (cast j - c) pw

theorem momentWeights_false_some (cast : Nat → α) (n pw : Nat) (c : α) :
    momentWeights cast n pw (some c) false = rawWeights cast n pw c := by
  simp [momentWeights, rawWeights]

theorem momentWeights_none (cast : Nat → α) (n pw : Nat) (nz : Bool) :
    momentWeights cast n pw none nz = momentWeights cast n pw (some 0) nz := by
  simp [momentWeights]

theorem momentWeights_true_some (cast : Nat → α) (n pw : Nat) (c : α) :
    momentWeights cast n pw (some c) true =
      (rawWeights cast n pw c).map (· / gsum 0 (rawWeights cast n pw c)) := by
  simp [momentWeights, rawWeights]

/-- `normalize=True` divides the plain moment by the two weight sums -/
theorem momentsFull_normalize (cast : Nat → α) (R C : Nat) (rows : List (List α)) (p0 p1 : Nat) (c0 c1 : α) :
    momentsFull cast R C rows p0 p1 (some (c0, c1)) true =
      momentsFull cast R C rows p0 p1 (some (c0, c1)) false /
        (gsum 0 (rawWeights cast C p1 c1) * gsum 0 (rawWeights cast R p0 c0)) := by
  unfold momentsFull
  simp only [Option.map_some, momentWeights_false_some, momentWeights_true_some]
  rw [dotList_div_right]
  have h : (rows.map fun r => dotList r ((rawWeights cast C p1 c1).map (· / gsum 0 (rawWeights cast C p1 c1)))) =
      (rows.map fun r => dotList r (rawWeights cast C p1 c1)).map (· / gsum 0 (rawWeights cast C p1 c1)) := by
    rw [List.map_map]
    apply List.map_congr_left
    intro r _
    simp [dotList_div_right]
  rw [h, dotList_div_left, div_div]

theorem momentsFull_none (cast : Nat → α) (R C : Nat) (rows : List (List α)) (p0 p1 : Nat) (nz : Bool) :
    momentsFull cast R C rows p0 p1 none nz = momentsFull cast R C rows p0 p1 (some (0, 0)) nz := by
  unfold momentsFull
  simp [momentWeights_none]

end field

section shift
variable {R : Type} [CommRing R]

theorem dotFrom_zeros (w : Nat → R) : ∀ (n k : Nat), dotFrom w k (List.replicate n (0 : R)) = 0
  | 0, _ => by simp [dotFrom]
  | n + 1, k => by
    simp only [List.replicate_succ, dotFrom]
    rw [dotFrom_zeros w n (k + 1)]
    ring

/-- starting the indices one later and moving the centre by one gives the same weights `(i − c)^p` -/
theorem dotFrom_shift_centre (p : Nat) (c : R) : ∀ (xs : List R) (k : Nat),
    dotFrom (fun i => powN ((i : R) - (c + 1)) p) (k + 1) xs = dotFrom (fun i => powN ((i : R) - c) p) k xs
  | [], _ => rfl
  | x :: xs, k => by
    simp only [dotFrom]
    rw [dotFrom_shift_centre p c xs (k + 1)]
    congr 3
    push_cast
    ring

theorem moments_shift_rows (rows : List (List R)) (n p0 p1 : Nat) (c0 c1 : R) :
    moments (Nat.cast : Nat → R) (List.replicate n 0 :: rows) p0 p1 (c0 + 1) c1 =
      moments Nat.cast rows p0 p1 c0 c1 := by
  unfold moments
  simp only [List.map_cons, dotFrom]
  rw [dotFrom_zeros, zero_mul, zero_add]
  exact dotFrom_shift_centre p0 c0 _ 0

theorem moments_shift_cols (rows : List (List R)) (p0 p1 : Nat) (c0 c1 : R) :
    moments (Nat.cast : Nat → R) (rows.map fun r => (0 : R) :: r) p0 p1 c0 (c1 + 1) =
      moments Nat.cast rows p0 p1 c0 c1 := by
  unfold moments
  rw [List.map_map]
  congr 1
  apply List.map_congr_left
  intro r _
  simp only [Function.comp, dotFrom]
  rw [zero_mul, zero_add]
  exact dotFrom_shift_centre p1 c1 r 0

end shift

end Mahotas.C19.Machine