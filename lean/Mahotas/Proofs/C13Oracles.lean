/-
C13 — the executable oracles of the driver for the label-map utilities and the bounding boxes (`sameSpec`, `relabelSpec`,
`filterLabeledSpec`, `bboxSpec`, `bboxLabeledSpec`, `bordersSpec`, `bwperimSpec`) equal the models.
-/
import Mahotas.Proofs.C13Maps
import Mahotas.Proofs.C13Filter
import Mahotas.Proofs.C03Rank
import Mahotas.Proofs.C13BBox
namespace Mahotas.C13
open Mahotas

/-- the quadratic oracle decides the partial-bijection property of the pairs (plus `(0, 0)`) -/
theorem sameSpec_iff (a b : List Int) :
    sameSpec a b = true ↔ PBij (fun x y => (x = 0 ∧ y = 0) ∨ (x, y) ∈ a.zip b) := by
  have key : sameSpec a b = true ↔
      ∀ p ∈ a.zip b, (p.1 = 0 ↔ p.2 = 0) ∧ ∀ q ∈ a.zip b, (p.1 = q.1 ↔ p.2 = q.2) := by
    unfold sameSpec
    simp only [List.all_eq_true, Bool.and_eq_true, Bool.beq_eq_decide_eq, decide_eq_true_eq,
      decide_eq_decide]
  rw [key]
  constructor
  · intro h x y x' y' hx hy
    rcases hx with ⟨rfl, rfl⟩ | hx <;> rcases hy with ⟨rfl, rfl⟩ | hy
    · simp
    · have := (h (x', y') hy).1
      simp only at this
      omega
    · have := (h (x, y) hx).1
      simp only at this
      omega
    · exact (h (x, y) hx).2 (x', y') hy
  · intro h p hp
    obtain ⟨x, y⟩ := p
    refine ⟨?_, ?_⟩
    · exact h x y 0 0 (Or.inr hp) (Or.inl ⟨rfl, rfl⟩)
    · intro q hq
      obtain ⟨x', y'⟩ := q
      exact h x y x' y' (Or.inr hp) (Or.inr hq)

/-- of the first `n` indices passing a test, those below `m ≤ n` are the first `m` indices passing it -/
theorem filter_lt_range (p : Nat → Bool) (n m : Nat) (h : m ≤ n) :
    (((List.range n).filter p).filter fun i => decide (i < m)).length = ((List.range m).filter p).length := by
  obtain ⟨d, rfl⟩ := Nat.exists_eq_add_of_le h
  have h1 : ((List.range m).filter p).filter (fun i => decide (i < m)) = (List.range m).filter p :=
    List.filter_eq_self.mpr fun a ha => by simpa using List.mem_range.mp (List.mem_filter.mp ha).1
  have h2 : (((List.range d).map (m + ·)).filter p).filter (fun i => decide (i < m)) = [] :=
    List.filter_eq_nil_iff.mpr fun a ha => by
      obtain ⟨b, _, rfl⟩ := List.mem_map.mp (List.mem_filter.mp ha).1
      simp
  rw [List.range_add, List.filter_append, List.filter_append, List.length_append, h1, h2]
  rfl

/-- the oracle's text is the closed form of the loop (`C03.renumber_eq_rank`): the rank of the first occurrence of a value is one
    more than the number of first occurrences before it -/
theorem relabelSpec_eq (labels : List Int) : relabelSpec labels = relabel labels := by
  rw [relabel, C03.renumber_eq_rank]
  refine Prod.ext (List.map_congr_left fun v hv => ?_) rfl
  rw [C03.rankOf]
  by_cases e : v = 0
  · rw [if_pos (beq_iff_eq.mpr e), if_pos e]
  · rw [if_neg (mt beq_iff_eq.mp e), if_neg e, C03.rootCount_succ, C03.isRoot_idxOf 0 labels hv e, if_pos rfl]
    congr 2
    exact filter_lt_range _ _ _ List.idxOf_le_length

theorem filterLabeledSpec_eq (shape : List Nat) (labels : List Int) (rb : Bool) (minSize maxSize : Nat)
    (hnn : ∀ v ∈ labels, 0 ≤ v) (hlen : labels.length = shapeSize shape) :
    filterLabeledSpec shape labels rb minSize maxSize = filterLabeled shape labels rb minSize maxSize := by
  rw [filterLabeledSpec, relabelSpec_eq, filterLabeled_eq shape labels rb minSize maxSize hnn hlen]

theorem nzPos_nil_iff (shape : List Nat) (data : List Int) :
    ((List.range data.length).filter fun i => data.getD i 0 ≠ 0).map (unravelI shape) = [] ↔
      data.all (· == 0) = true := by
  rw [List.map_eq_nil_iff, List.filter_eq_nil_iff]
  simp only [List.mem_range, decide_eq_true_eq, List.all_eq_true, beq_iff_eq]
  constructor
  · intro h v hv
    obtain ⟨i, hi, rfl⟩ := List.getElem_of_mem hv
    have := h i hi
    simpa [List.getD_eq_getElem?_getD, hi] using this
  · intro h i hi
    have := h data[i] (List.getElem_mem hi)
    simp [List.getD_eq_getElem?_getD, hi, this]

theorem bboxSpec_eq_none (shape : List Nat) (data : List Int)
    (hps : ((List.range data.length).filter fun i => data.getD i 0 ≠ 0).map (unravelI shape) = []) :
    bboxSpec shape data = none := by
  rw [bboxSpec, hps]

theorem bboxSpec_eq_loop (shape : List Nat) (data : List Int) (hlen : data.length = shapeSize shape)
    (hps : ((List.range data.length).filter fun i => data.getD i 0 ≠ 0).map (unravelI shape) ≠ []) :
    bboxSpec shape data = some ((List.range data.length).foldl (fun ext i =>
      if data.getD i 0 ≠ 0 then bboxUpdate ext (unravelI shape i) else ext) (bboxInit shape)) := by
  rw [bboxLoop_eq, bboxSpec]
  generalize hps' : ((List.range data.length).filter fun i => data.getD i 0 ≠ 0).map (unravelI shape) = ps at hps
  have hpl : ∀ p ∈ ps, ∀ j, j < shape.length → j < p.length ∧ 0 ≤ p.getD j 0 ∧
      p.getD j 0 < ((shape.getD j 0 : Nat) : Int) := fun p hp j hj => nzPos_bound hlen (hps' ▸ hp) hj
  match ps, hps, hpl with
  | p0 :: rest, _, hpl =>
    show some _ = some _
    rw [pairs_flatMap shape.length (List.foldl bboxUpdate (bboxInit shape) (p0 :: rest))
      (by rw [foldl_bboxUpdate_length, bboxInit_length])]
    congr 1
    apply List.flatMap_congr
    intro j hj
    have hj' : j < shape.length := List.mem_range.mp hj
    obtain ⟨i0, i1⟩ := bboxInit_getD shape j hj'
    obtain ⟨f1, f2⟩ := bboxFold_getD j (p0 :: rest) (bboxInit shape) (fun p hp => (hpl p hp j hj').1)
      (by rw [bboxInit_length]; omega)
    obtain ⟨_, b0, b1⟩ := hpl p0 List.mem_cons_self j hj'
    -- the first pixel beats the initial bounds
    rw [f1, f2, i0, i1, List.foldl_cons, List.foldl_cons, List.foldl_cons, List.foldl_cons,
      min_eq_right b1.le, min_self, max_eq_right (by omega : (0 : Int) ≤ p0.getD j 0 + 1), max_self]

theorem bboxSpec_eq_ite (shape : List Nat) (data : List Int) (hlen : data.length = shapeSize shape)
    (hnd : 0 < shape.length) :
    bboxSpec shape data = (if data.all (· == 0) then none else some (bboxGeneric shape data)) ∧
    (data.all (· == 0) = true → bboxGeneric shape data = List.replicate (2 * shape.length) 0) := by
  by_cases h : data.all (· == 0) = true
  · have hps := (nzPos_nil_iff shape data).mpr h
    exact ⟨by rw [if_pos h, bboxSpec_eq_none shape data hps],
      fun _ => by rw [bboxGeneric_of_nil shape data hnd hps, List.map_const', bboxInit_length]⟩
  · have hps := mt (nzPos_nil_iff shape data).mp h
    exact ⟨by rw [if_neg h, bboxGeneric_of_ne_nil shape data hlen hnd hps, bboxSpec_eq_loop shape data hlen hps],
      fun e => absurd e h⟩

theorem bboxSpec_sound (shape : List Nat) (data : List Int) (hlen : data.length = shapeSize shape)
    (hnd : 0 < shape.length) (b : List Int) (hb : bboxSpec shape data = some b) (j : Nat) (hj : j < shape.length) :
    let ps := ((List.range data.length).filter fun i => data.getD i 0 ≠ 0).map (unravelI shape)
    ps ≠ [] ∧ (∀ p ∈ ps, b.getD (2 * j) 0 ≤ p.getD j 0 ∧ p.getD j 0 + 1 ≤ b.getD (2 * j + 1) 0) ∧
    (∃ p ∈ ps, p.getD j 0 = b.getD (2 * j) 0) ∧ (∃ p ∈ ps, p.getD j 0 + 1 = b.getD (2 * j + 1) 0) := by
  intro ps
  have hps : ps ≠ [] := by
    intro e
    rw [bboxSpec_eq_none shape data e] at hb
    cases hb
  rw [bboxSpec_eq_loop shape data hlen hps] at hb
  obtain ⟨t1, t2⟩ := bbox_tight shape data hlen j hj
  rw [← Option.some.inj hb]
  exact ⟨hps, t1, (t2 hps).1, (t2 hps).2⟩

theorem bboxLabeledSpec_eq (shape : List Nat) (labels : List Int) (n : Nat)
    (hnn : ∀ v ∈ labels, 0 ≤ v) (hlen : labels.length = shapeSize shape) (hnd : 0 < shape.length) :
    bboxLabeledSpec shape labels n = bboxLabeled shape labels n := by
  rw [bboxLabeled_eq, bboxLabeledSpec]
  apply List.flatMap_congr
  intro l _
  -- on non-negative labels the oracle's indicator image is the model's
  have hind : (labels.map fun v => if v == (l : Int) then (1 : Int) else 0) = indicator labels l := by
    apply List.map_congr_left
    intro v hv
    have := hnn v hv
    by_cases e : v = (l : Int)
    · rw [if_pos (by simpa using e), if_pos (by omega)]
    · rw [if_neg (by simpa using e), if_neg (by omega)]
  obtain ⟨c1, c2⟩ := bboxSpec_eq_ite shape (indicator labels l) (by rw [← hlen]; exact List.length_map _) hnd
  rw [hind, c1]
  by_cases h : (indicator labels l).all (· == 0) = true
  · rw [if_pos h, c2 h]
  · rw [if_neg h]

/-- a full array has all axes non-empty or no pixel at all -/
theorem pos_or_nil_of_full (shape : List Nat) (labels : List Int) (hlen : labels.length = shapeSize shape) :
    (∀ d ∈ shape, 0 < d) ∨ labels = [] := by
  by_cases h : 0 ∈ shape
  · right
    rw [shapeSize_zero_of_mem shape h] at hlen
    exact List.eq_nil_of_length_eq_zero hlen
  · left
    intro d hd
    by_contra c
    have : d = 0 := by omega
    subst this
    exact h hd

theorem bordersSpec_eq (m : Mode) (shape : List Nat) (labels : List Int) (offs : List (List Int))
    (hs : (∀ d ∈ shape, 0 < d) ∨ labels = []) : bordersSpec m shape labels offs = bordersModel m shape labels offs := by
  rcases hs with hs | rfl
  · exact (bordersModel_eq_spec m shape labels offs hs).symm
  · rfl

theorem bwperimSpec_eq (m : Mode) (shape : List Nat) (bw : List Int) (offs : List (List Int))
    (hs : (∀ d ∈ shape, 0 < d) ∨ bw = []) : bwperimSpec m shape bw offs = bwperim m shape bw offs := by
  rcases hs with hs | rfl
  · exact (bwperim_eq_spec m shape bw offs hs).symm
  · rfl

end Mahotas.C13
