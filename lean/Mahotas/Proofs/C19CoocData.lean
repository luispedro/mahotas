/-
C19 — the 180° rotation on the *data*: reversing the C-order data array of an image
(`f[::-1, ::-1, …]` made contiguous) realises the index map `p ↦ shape − 1 − p` of `C19_cooc_rot180`,
so the symmetric co-occurrence matrix the model computes from the reversed data is the same array; likewise for the
C-contiguous copy of `swapaxes(0, 1)` (`swapImg`) with the swapped direction. Both through `symFold_eq_of_reads`.
-/
import Mahotas.Proofs.C19Cooc
import Mahotas.Proofs.C19CoocModel
namespace Mahotas.C19
open Mahotas

/-- one digit of the mirror image: with `X < d` the leading digit and `r < S` the flat index of the tail -/
theorem mirror_step {d X S r : Nat} (hX : X < d) (hr : r < S) :
    X * S + r < d * S ∧ (d - 1 - X) * S + (S - 1 - r) = d * S - 1 - (X * S + r) := by
  obtain ⟨k, rfl⟩ : ∃ k, d = k + 1 + X := ⟨d - 1 - X, by omega⟩
  have hk : k + 1 + X - 1 - X = k := by omega
  rw [hk]
  simp only [Nat.add_mul, Nat.one_mul]
  omega

theorem ravelI_revPos (s : List Nat) (p : List Int) (h : inside s p = true) :
    ravelI s p < shapeSize s ∧ ravelI s (revPos s p) = shapeSize s - 1 - ravelI s p := by
  induction s generalizing p with
  | nil => cases p <;> simp_all [inside, ravelI, shapeSize]
  | cons d ds ih =>
    cases p with
    | nil => simp [inside] at h
    | cons x xs =>
      simp only [inside, Bool.and_eq_true, decide_eq_true_eq] at h
      obtain ⟨ihl, ihe⟩ := ih xs h.2
      have hX : x.toNat < d := by omega
      have hm : ((d : Int) - 1 - x).toNat = d - 1 - x.toNat := by omega
      simp only [ravelI, revPos, shapeSize, ihe, hm]
      exact mirror_step hX ihl

theorem getD_reverse (a : Array Int) (i : Nat) (hi : i < a.size) :
    a.reverse.getD i 0 = a.getD (a.size - 1 - i) 0 := by
  have h1 : i < a.reverse.size := by simpa using hi
  have h2 : a.size - 1 - i < a.size := by omega
  simp [Array.getD, h2, hi]

theorem getD_reverse_img (im : Img Int) (hsz : im.data.size = shapeSize im.shape) (p : List Int)
    (h : inside im.shape p = true) :
    ({ shape := im.shape, data := im.data.reverse } : Img Int).getD p 0 = im.getD (revPos im.shape p) 0 := by
  obtain ⟨hl, he⟩ := ravelI_revPos im.shape p h
  unfold Img.getD
  simp only [h, inside_revPos h, if_true]
  rw [getD_reverse _ _ (by rw [hsz]; exact hl), he, hsz]

/-- counts only look at the image inside the box -/
theorem coocCount_congr (s : List Nat) (f g : List Int → Int) (d : List Int) (a b : Int)
    (h : ∀ p, inside s p = true → f p = g p) : coocCount s f d a b = coocCount s g d a b := by
  unfold coocCount
  apply List.countP_congr
  intro p hp
  have hin := (mem_boxPos _ _).1 hp
  by_cases hq : inside s (addPos p d) = true
  · simp [hq, h p hin, h _ hq]
  · simp [hq]

theorem coocSym_congr (s : List Nat) (f g : List Int → Int) (d : List Int) (a b : Int)
    (h : ∀ p, inside s p = true → f p = g p) : coocSym s f d a b = coocSym s g d a b := by
  unfold coocSym
  rw [coocCount_congr s f g d a b h, coocCount_congr s f g d b a h]

/-- an image `im'` that reads, inside its box, the values of `im` at `g p` has the symmetric matrix of `im` as soon as
    the counting specifications agree -/
theorem symFold_eq_of_reads (m : Nat) (im im' : Img Int) (d d' : List Int) (g : List Int → List Int)
    (hv : ∀ p, 0 ≤ im.getD p 0 ∧ im.getD p 0 < (m : Int))
    (hread : ∀ p, inside im'.shape p = true → im'.getD p 0 = im.getD (g p) 0)
    (hsym : ∀ a b, coocSym im'.shape (fun p => im.getD (g p) 0) d' a b = coocSym im.shape (fun p => im.getD p 0) d a b) :
    symFold m (coocModel m im' d') = symFold m (coocModel m im d) := by
  apply Array.toList_inj.mp
  rw [coocModel_sym_toList m _ _ fun p hin => hread p hin ▸ hv _, coocModel_sym_toList m im d fun p _ => hv p]
  refine List.map_congr_left fun k _ => ?_
  simp only [if_true]
  rw [coocSym_congr im'.shape _ (fun p => im.getD (g p) 0) d' _ _ hread]
  exact hsym _ _

theorem symFold_reverse (m : Nat) (im : Img Int) (d : List Int) (hsz : im.data.size = shapeSize im.shape)
    (hd : d.length = im.shape.length) (hv : ∀ p, 0 ≤ im.getD p 0 ∧ im.getD p 0 < (m : Int)) :
    symFold m (coocModel m { shape := im.shape, data := im.data.reverse } d) = symFold m (coocModel m im d) :=
  symFold_eq_of_reads m im _ d d (revPos im.shape) hv (fun p hp => getD_reverse_img im hsz p hp)
    fun a b => coocSym_rot180 im.shape (fun p => im.getD p 0) d a b hd

/-- the C-contiguous copy of `swapaxes(0, 1)`: element `p` of the result is element `swap01 p` of the image -/
def swapImg (im : Img Int) : Img Int := Img.tabulate (swap01 im.shape) fun p => im.getD (swap01 p) 0

theorem swapImg_getD (im : Img Int) (p : List Int) (h : inside (swap01 im.shape) p = true) :
    (swapImg im).getD p 0 = im.getD (swap01 p) 0 :=
  tabulate_getD _ _ p 0 h

theorem symFold_swap (m : Nat) (im : Img Int) (d : List Int)
    (hd : d.length = im.shape.length) (hv : ∀ p, 0 ≤ im.getD p 0 ∧ im.getD p 0 < (m : Int)) :
    symFold m (coocModel m (swapImg im) (swap01 d)) = symFold m (coocModel m im d) :=
  symFold_eq_of_reads m im (swapImg im) d (swap01 d) swap01 hv (fun p hp => swapImg_getD im p hp)
    fun a b => coocSym_swap01 im.shape (fun p => im.getD p 0) d a b hd

end Mahotas.C19
