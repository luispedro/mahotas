/-
C10 — B2 (`fast_binary_dilate_erode_2d`) and B3 (`convolve1d`, `majority_filter`): behind the clamps and guards of the
code every row and column index of the border, main and window loops is in range, and every `!=` loop leaves through
its test.
-/
import Mahotas.Proofs.C10
namespace Mahotas.C10
open Mahotas

theorem fbClampDx_range (nx dx : Int) (h : 0 ≤ nx) :
    -nx ≤ fbClampDx nx dx ∧ fbClampDx nx dx ≤ nx := by
  simp only [fbClampDx]; omega

theorem fbRowDy_range (ny y dy : Int) (h0 : 0 ≤ y) (h1 : y < ny) :
    0 ≤ y + fbRowDy ny y dy ∧ y + fbRowDy ny y dy < ny := by
  simp only [fbRowDy]; omega

theorem fb_ok (ny nx y dy0 dx : Int) (er : Bool) (h0 : 0 ≤ y) (h1 : y < ny)
    (hdx0 : -nx ≤ dx) (hdx1 : dx ≤ nx) :
    RunOk AccOk (fbAccesses ny nx y dy0 dx er, fbDone nx dx) := by
  -- the main loop: `i < Nx - |dx|`, both pointers shifted by `0` or `|dx|`
  obtain ⟨mm, dm⟩ := iterNe_spec 0 (nx - (dx.natAbs : Int)) (nx.toNat + 1) (by omega) (by omega)
  -- the border loop: `i < |dx| ≤ Nx`; erosion and dilation touch the same two columns in opposite order
  have sp := fun hp : dx > 0 => iterNe_spec 0 dx (nx.toNat + 1) (by omega) (by omega)
  have sm := fun hm : dx < 0 => iterNe_spec 0 (-dx) (nx.toNat + 1) (by omega) (by omega)
  simp only [RunOk, Run, fbAccesses, fbDone, acc_forall, mm, dm, AccOk, Bool.and_true]
  refine ⟨⟨⟨⟨⟨h0, h1⟩, fbRowDy_range ny y dy0 h0 h1⟩, ?_⟩, fun i hi => by omega⟩, ?_⟩
  · split
    · next hp =>
      simp only [acc_forall, (sp hp).1]
      intro i hi
      cases er <;> simp only [Bool.false_eq_true, if_false, if_true, acc_forall] <;> omega
    · split
      · next hm =>
        simp only [acc_forall, (sm hm).1]
        intro i hi
        cases er <;> simp only [Bool.false_eq_true, if_false, if_true, acc_forall] <;> omega
      · nofun
  · split
    · next hp => exact (sp hp).2
    · split
      · next hm => exact (sm hm).2
      · rfl

theorem conv1d_ok (m : Mode) (n1 nf : Int) (hf : 0 ≤ nf) (hg : 2 * (nf / 2) ≤ n1) :
    RunOk AccOk (conv1dAccesses m n1 nf, conv1dDone n1 nf) := by
  have sp := fun hc : ¬nf / 2 ≥ n1 => iterNe_spec (nf / 2) (n1 - nf / 2) (n1.toNat + 1) (by omega) (by omega)
  simp only [RunOk, Run, conv1dAccesses, conv1dDone, acc_forall, AccOk]
  refine ⟨⟨?_, fun x_ hx => ⟨fun a ha => ?_, by split <;> omega⟩⟩, ?_⟩
  · split
    · nofun
    · next hc =>
      simp only [acc_forall, (sp hc).1]
      exact fun x hx => ⟨fun j hj => by omega, by omega⟩
  · -- a column read through `offsets[j]` is what `fix_offset` returned
    obtain ⟨j, _, hj⟩ := List.mem_filterMap.1 ha
    obtain ⟨o, ho, rfl⟩ := Option.map_eq_some_iff.1 hj
    exact fixOffset_range m _ n1 (by omega) o ho
  · split
    · rfl
    · next hc => exact (sp hc).2

theorem majority_ok (rows cols n : Int) (hn : 0 ≤ n) :
    RunOk AccOk (majorityAccesses rows cols n, majorityDone rows cols n) := by
  unfold majorityAccesses majorityDone
  split
  · exact ⟨nofun, rfl⟩
  · obtain ⟨m1, d1⟩ := iterNe_spec 0 (rows - n) (rows.toNat + 1) (by omega) (by omega)
    obtain ⟨m2, d2⟩ := iterNe_spec 0 (cols - n) (cols.toNat + 1) (by omega) (by omega)
    obtain ⟨m3, d3⟩ := iterNe_spec 0 n (rows.toNat + 1) hn (by omega)
    obtain ⟨m4, d4⟩ := iterNe_spec 0 n (cols.toNat + 1) hn (by omega)
    simp only [RunOk, Run, acc_forall, m1, m2, m3, m4, d1, d2, d3, d4, Bool.and_self, AccOk]
    intro y hy x hx
    refine ⟨fun dy hdy dx hdx => by omega, ?_⟩
    have := flat2_range (y + n / 2) (n / 2 + x) rows cols (by omega) (by omega) (by omega) (by omega)
    omega

end Mahotas.C10
