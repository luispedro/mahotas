/-
C20 — the call level of `stretch` / `stretch_rgb` / `as_rgb` (`Model/C20Stretch.lean`). When the requested range lies in the
dtype's range the cast never wraps, so the integer image is again a non-decreasing map into `[lo, hi]` (`stretchIntG_int`);
`stretch_rgb` and `as_rgb` are `stretch` on every channel, read through the indexing of `np.dstack`.
-/
import Mahotas.Proofs.C20Cast
import Mahotas.Proofs.DType
import Mahotas.Proofs.ListLemmas
namespace Mahotas.C20
open Mahotas

/-- `stretch(img, lo, hi, dtype)` for an integer dtype whose range contains `[lo, hi]`, over ℚ: the result (cast and
    dtype reduction included) is `map G` for a `G : ℚ → ℤ` that is non-decreasing **everywhere**, takes values in
    `[lo, hi]` everywhere, sends minimal pixels to `lo`, and coincides with the un-reduced truncation (no wrap) -/
theorem stretchIntG_int (dt : DT) (hb : dt.isBool = false) (xs : List Rat) (lo hi : Int) (h : lo ≤ hi)
    (hlo : dt.lo ≤ lo) (hhi : hi ≤ dt.hi) (arg0 arg1 : Option Int) (hd : decodeArgs arg0 arg1 = (lo, hi)) :
    ∃ G : Rat → Int, (∀ x y, x ≤ y → G x ≤ G y) ∧
      stretchIntG (fun n : Int => (n : Rat)) truncQ dt xs arg0 arg1 = xs.map G ∧
      stretchIntG (fun n : Int => (n : Rat)) truncQ dt xs arg0 arg1 = (stretchList xs (lo : Rat) (hi : Rat)).map truncQ ∧
      (∀ x, lo ≤ G x ∧ G x ≤ hi) ∧ (∀ x, dt.lo ≤ G x ∧ G x ≤ dt.hi) ∧
      (∀ m ∈ xs, (∀ x ∈ xs, m ≤ x) → G m = lo) := by
  obtain ⟨G, gm, ge, gr, gmin⟩ := (stretch_int_cast xs lo hi h).everywhere h
  have key : stretchIntG (fun n : Int => (n : Rat)) truncQ dt xs arg0 arg1 = xs.map G := by
    unfold stretchIntG
    simp only [hd]
    have : (stretchList xs (lo : Rat) (hi : Rat)).map (castInt truncQ dt) =
        ((stretchList xs (lo : Rat) (hi : Rat)).map truncQ).map dt.wrap := by
      rw [List.map_map]; apply List.map_congr_left; intro y _; simp [castInt, hb]
    rw [this, ge, List.map_map]
    apply List.map_congr_left
    intro x _
    exact DT.wrap_in dt _ ⟨le_trans hlo (gr x).1, le_trans (gr x).2 hhi⟩
  exact ⟨G, gm, key, by rw [key, ge], gr, fun x => ⟨le_trans hlo (gr x).1, le_trans (gr x).2 hhi⟩, gmin⟩

theorem dtU_notBool (bits : Nat) : (dtU bits).isBool = false := rfl
theorem dtI_notBool (bits : Nat) : (dtI bits).isBool = false := rfl

theorem getD_map_toArray {β : Type} (chs : List (List β)) (i : Nat) :
    (chs.map List.toArray).getD i #[] = (chs.getD i []).toArray := by
  rw [List.getD_eq_getElem?_getD, List.getD_eq_getElem?_getD, List.getElem?_map]
  cases chs[i]? <;> rfl

theorem dstackData_length (B d n : Nat) (chs : List (List Int)) : (dstackData B d n chs).length = n * d * B := by
  simp [dstackData]

theorem dstackData_get (d n : Nat) (chs : List (List Int)) {p i : Nat} (hp : p < n) (hi : i < d) :
    (dstackData 1 d n chs).getD (p * d + i) 0 = (chs.getD i []).getD p 0 := by
  have hlt : p * d + i < n * d * 1 := by
    have : (p + 1) * d ≤ n * d := Nat.mul_le_mul_right d hp
    rw [Nat.add_mul] at this
    omega
  unfold dstackData
  rw [List.getD_eq_getElem?_getD, List.getElem?_map, List.getElem?_range hlt]
  simp only [Option.map_some, Option.getD_some, Nat.div_one, Nat.one_mul, Nat.mod_one, Nat.add_zero, Nat.mul_one,
    getD_map_toArray, getD_toArray]
  rw [rowMajor_mod p hi, rowMajor_div p hi]

theorem channel_length {β : Type} (dflt : β) (d i : Nat) (xs : List β) : (channel dflt d i xs).length = xs.length / d := by
  simp [channel]

theorem channel_get {β : Type} (dflt : β) (d i : Nat) (xs : List β) {p : Nat} (hp : p < xs.length / d) :
    (channel dflt d i xs).getD p dflt = xs.getD (p * d + i) dflt := by
  unfold channel
  rw [List.getD_eq_getElem?_getD, List.getElem?_map, List.getElem?_range hp]
  simp

theorem stretchRgbG_channels {α : Type} [Add α] [Sub α] [Mul α] [Div α] [LT α] [DecidableLT α] [OfNat α 0]
    (ofInt : Int → α) (trunc : α → Int) (dt : DT) (h w d : Nat) (xs : List α) (arg0 arg1 : Option Int) :
    ∃ data, stretchRgbG ofInt trunc dt [h, w, d] xs arg0 arg1 = .ok data ∧ data.length = h * w * d ∧
      ∀ p < h * w, ∀ i < d,
        data.getD (p * d + i) 0 = (stretchIntG ofInt trunc dt (channel 0 d i xs) arg0 arg1).getD p 0 := by
  refine ⟨_, rfl, ?_, ?_⟩
  · rw [dstackData_length]; ring
  · intro p hp i hi
    rw [dstackData_get d (h * w) _ hp hi]
    congr 1
    rw [List.getD_eq_getElem?_getD, List.getElem?_map, List.getElem?_range hi]
    rfl

/-- generic in the scalar type (so also for the `Float` instance the driver runs): an array argument of the right
    shape is `stretch(c)` with the defaults `0, 255, uint8`; `None` is a zero channel; a number fills the channel
    (reduced to `uint8`) -/
theorem asRgbChan_ok {α : Type} [Add α] [Sub α] [Mul α] [Div α] [LT α] [DecidableLT α] [OfNat α 0]
    (ofInt : Int → α) (trunc : α → Int) (shape : List Nat) (hne : shape ≠ []) (num : Bool) (c : Chan α)
    (hc : ∀ s d, c = .arr s d → s = shape) :
    ∃ vals, asRgbChan ofInt trunc shape num c = .ok vals ∧
      (c = .none → vals = List.replicate (shapeSize shape) 0) ∧
      (∀ v, c = .scalar v → vals = List.replicate (shapeSize shape) ((dtU 8).wrap v)) ∧
      (∀ s d, c = .arr s d → vals = stretchIntG ofInt trunc (dtU 8) d none none) := by
  cases c with
  | none =>
    refine ⟨_, rfl, ?_, ?_, ?_⟩
    · intro _; rfl
    · intro v h; cases h
    · intro s d h; cases h
  | scalar v =>
    refine ⟨_, rfl, ?_, ?_, ?_⟩
    · intro h; cases h
    · intro v' h; cases h; rfl
    · intro s d h; cases h
  | arr s d =>
    have hs : s = shape := hc s d rfl
    subst hs
    refine ⟨stretchU8G ofInt trunc d, by simp [asRgbChan, hne], ?_, ?_, ?_⟩
    · intro h; cases h
    · intro v h; cases h
    · intro s' d' h; cases h; rfl

theorem wrap_u8 (v : Int) : (dtU 8).wrap v = v % 256 := by simp [DT.wrap, DT.card, dtU]

theorem stretchU8_spec (d : List Rat) :
    ∃ G : Rat → Int, (∀ x y, x ≤ y → G x ≤ G y) ∧
      stretchIntG (fun n : Int => (n : Rat)) truncQ (dtU 8) d none none = d.map G ∧
      (∀ x, 0 ≤ G x ∧ G x ≤ 255) ∧ (∀ m ∈ d, (∀ x ∈ d, m ≤ x) → G m = 0) := by
  obtain ⟨G, gm, ge, _, gr, _, gmin⟩ :=
    stretchIntG_int (dtU 8) rfl d 0 255 (by norm_num) (by simp [dtU]) (by simp [dtU]) none none rfl
  exact ⟨G, gm, ge, gr, gmin⟩

/-- what `s(c)` returns for one argument of `as_rgb`, over ℚ -/
theorem asRgbChan_spec (shape : List Nat) (hne : shape ≠ []) (num : Bool) (c : Chan Rat)
    (hc : ∀ s d, c = .arr s d → s = shape) :
    ∃ vals, asRgbChan (fun n : Int => (n : Rat)) truncQ shape num c = .ok vals ∧
      (c = .none → vals = List.replicate (shapeSize shape) 0) ∧
      (∀ v, c = .scalar v → vals = List.replicate (shapeSize shape) (v % 256)) ∧
      (∀ s d, c = .arr s d → ∃ G : Rat → Int, (∀ x y, x ≤ y → G x ≤ G y) ∧ vals = d.map G ∧
          (∀ x, 0 ≤ G x ∧ G x ≤ 255) ∧ (∀ m ∈ d, (∀ x ∈ d, m ≤ x) → G m = 0)) := by
  obtain ⟨vals, e, hn, hs, ha⟩ := asRgbChan_ok (fun n : Int => (n : Rat)) truncQ shape hne num c hc
  refine ⟨vals, e, hn, fun v hv => by rw [hs v hv, wrap_u8], fun s d hd => ?_⟩
  obtain ⟨G, gm, ge, gr, gmin⟩ := stretchU8_spec d
  exact ⟨G, gm, (ha s d hd).trans ge, gr, gmin⟩

end Mahotas.C20
