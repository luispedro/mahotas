/-
C10 — B4 (`hitmiss`): the `(i, slack)` loop stays in range and ends, for all shapes of equal rank ≥ 1 (`hmRun_ok_all`).

Where the margin test passes the element fits (`firstFail_none_fits`), so every neighbour is a flat index
(`hm_neighbour_ok`, from `Fits_neighbour` of `Proofs/C10Index.lean`). For a positive last side of `Bc` the access model
follows the flag model `C14.hmLoop` step by step (`hmLoop_sim`), so which indices are evaluated and that the loop ends
within `2N+2` steps is what `Proofs/C14HitmissLoop.lean` proves once (`hmRun_ok_of_last_pos`). What is left are the
zero-length axes, which no guard excludes: an image without elements is not iterated; with an empty last axis of `Bc`
there is no neighbour and `slack0 = W + 1 > 0`, which the loop invariant `hmLoop_inv` turns into the same conclusion.
-/
import Mahotas.Proofs.C10
import Mahotas.Proofs.C14HitmissLoop
namespace Mahotas.C10
open Mahotas

theorem origin_spec (b : Nat) : 0 ≤ origin b ∧ 2 * origin b ≤ (b : Int) ∧ (b : Int) ≤ 2 * origin b + 1 := by
  unfold origin; simp only [Int.ofNat_eq_natCast]; omega

theorem firstFail_none_fits (as bs : List Nat) (cs : List Int) (h1 : bs.length = as.length)
    (h2 : cs.length = as.length) (h : hmFirstFail as bs cs = none) : Fits as bs cs := by
  have z := Zip₃.of_length h1 h2
  clear h1 h2
  induction z with
  | nil => trivial
  | @cons a as b bs c cs _ ih =>
    simp only [hmFirstFail] at h
    split at h
    · simp at h
    · have := origin_spec b
      exact ⟨by omega, by omega, ih h⟩

theorem firstFail_pos (as bs : List Nat) (cs : List Int) (hpos : ∀ d ∈ as, 0 < d) (sz : Nat)
    (h : hmFirstFail as bs cs = some sz) : 0 < sz := by
  induction as generalizing bs cs with
  | nil => simp [hmFirstFail] at h
  | cons a as ih =>
    cases bs with
    | nil => simp [hmFirstFail] at h
    | cons b bs =>
    cases cs with
    | nil => simp [hmFirstFail] at h
    | cons c cs =>
      simp only [hmFirstFail] at h
      split at h
      · simp only [Option.some.injEq] at h
        subst h
        exact shapeSize_pos as (fun d hd => hpos d (by simp [hd]))
      · exact ih bs cs (fun d hd => hpos d (by simp [hd])) h

theorem hm_neighbour_ok (shape bshape : List Nat) (i : Nat) (hi : i < shapeSize shape)
    (hf : Fits shape bshape (unravelI shape i)) :
    ∀ δ ∈ hmDeltas shape bshape, 0 ≤ (i : Int) + δ ∧ (i : Int) + δ < (shapeSize shape : Int) := by
  intro δ hδ
  simp only [hmDeltas, List.mem_map] at hδ
  obtain ⟨k, hk, rfl⟩ := hδ
  obtain ⟨h1, h2⟩ := Fits_neighbour shape bshape _ k hf ((C01.mem_allPos _ _).mp hk)
  have := ravelZ_range shape _ h1
  rw [h2, ravelZ_unravelI shape i hi] at this
  exact this

/-- the `(i, slack)` loop under an invariant `Inv`: if a failed margin test skips at least one element, a passed one sets a
    non-zero `slack`, a processed pixel has its neighbours in range, and all three transitions keep `Inv`, then every access
    is in range and the loop ends through `i == N` within `2 (N - i) + [slack = 0]` steps. -/
theorem hmLoop_inv (shape bshape : List Nat) (deltas : List Int) (N : Nat) (slack0 : Int) (Inv : Nat → Int → Prop)
    (hskip : ∀ i sz, i < N → Inv i 0 → hmFirstFail shape bshape (unravelI shape i) = some sz →
      0 < sz ∧ (i + sz < N → Inv (i + sz) 0))
    (hstart : ∀ i, i < N → Inv i 0 → hmFirstFail shape bshape (unravelI shape i) = none →
      slack0 ≠ 0 ∧ Inv i slack0)
    (hpix : ∀ i s, i < N → Inv i s → s ≠ 0 →
      (∀ δ ∈ deltas, 0 ≤ (i : Int) + δ ∧ (i : Int) + δ < N) ∧ (i + 1 < N → Inv (i + 1) (s - 1))) :
    ∀ (f i : Nat) (slack : Int), i ≤ N → (i < N → Inv i slack) →
      2 * N + (if slack = 0 then 1 else 0) ≤ f + 2 * i →
      RunOk AccOk (hmLoop shape bshape deltas true N slack0 f i slack) := by
  intro f
  induction f with
  | zero =>
    intro i slack hi _ hf
    obtain rfl : i = N := by omega
    exact ⟨by simp [hmLoop], by simp [hmLoop]⟩
  | succ f ih =>
    intro i slack hi hinv hf
    simp only [hmLoop, if_true]
    by_cases hiN : i = N
    · rw [if_pos hiN]
      exact ⟨by simp, rfl⟩
    · rw [if_neg hiN]
      have hlt : i < N := by omega
      by_cases hs : slack = 0
      · subst hs
        rw [if_pos rfl] at hf ⊢
        cases hff : hmFirstFail shape bshape (unravelI shape i) with
        | some sz =>
          obtain ⟨hsz, hnext⟩ := hskip i sz hlt (hinv hlt) hff
          -- `cnt = min(size, N - i)` elements are skipped
          obtain ⟨cnt, hc, hc0, hc1, hc2⟩ : ∃ cnt, min sz (N - i) = cnt ∧ 0 < cnt ∧ i + cnt ≤ N ∧
              (i + cnt < N → cnt = sz) := ⟨_, rfl, by omega, by omega, by omega⟩
          dsimp only
          rw [hc]
          refine (ih (i + cnt) 0 hc1 (fun h => by have e := hc2 h; subst e; exact hnext h)
            (by rw [if_pos rfl]; omega)).prepend ?_
          simp only [acc_forall, List.mem_range, AccOk]
          omega
        | none =>
          obtain ⟨h0, hi'⟩ := hstart i hlt (hinv hlt) hff
          exact ih i slack0 hi (fun _ => hi') (by rw [if_neg h0]; omega)
      · rw [if_neg hs] at hf ⊢
        obtain ⟨hnb, hnext⟩ := hpix i slack hlt (hinv hlt) hs
        refine (ih (i + 1) (slack - 1) hlt hnext (by split <;> omega)).prepend ?_
        simp only [acc_forall, AccOk]
        exact ⟨hnb, by omega⟩

theorem hmFirstFail_eq (as bs : List Nat) (cs : List Int) : hmFirstFail as bs cs = C14.hmFirstBad as bs cs := by
  induction as generalizing bs cs with
  | nil => rfl
  | cons a as ih =>
    cases bs with
    | nil => rfl
    | cons b bs =>
      cases cs with
      | nil => rfl
      | cons c cs => rw [hmFirstFail, C14.hmFirstBad, ih]; rfl

/-- The access model of the `slack` loop follows the flag model `C14.hmLoop` step by step: started at the same state
    (the access model keeps its index at `N` where the flag model runs past it), the flag model appends flags `fl`
    (one per flat index from `i` on, `true` = evaluated), the access model ends through `i == N` iff the flags reach
    `N`, and its accesses are in range if the neighbours of every evaluated index are. -/
theorem hmLoop_sim (S B : List Nat) (deltas : List Int) (N : Nat) (L : Int) (fuel i : Nat) (sl : Int) (acc : List Bool) :
    ∃ fl : List Bool, C14.hmLoop S B N L fuel i sl acc = fl.reverse ++ acc ∧ min i N + fl.length ≤ N ∧
      ((hmLoop S B deltas true N L fuel (min i N) sl).2 = true ↔ min i N + fl.length = N) ∧
      ((∀ p ∈ fl.zipIdx (min i N), p.1 = true → ∀ δ ∈ deltas, 0 ≤ (p.2 : Int) + δ ∧ (p.2 : Int) + δ < N) →
        ∀ a ∈ (hmLoop S B deltas true N L fuel (min i N) sl).1, AccOk a) := by
  induction fuel generalizing i sl acc with
  | zero =>
    refine ⟨[], rfl, Nat.le_trans (Nat.le_of_eq (Nat.add_zero _)) (Nat.min_le_right _ _), ?_, fun _ => nofun⟩
    simp [hmLoop]
  | succ f ih =>
    by_cases hi : N ≤ i
    · refine ⟨[], by rw [C14.hmLoop, if_pos hi]; rfl, by simp [Nat.min_eq_right hi], ?_, fun _ => ?_⟩
      · simp [hmLoop, Nat.min_eq_right hi]
      · simp [hmLoop, Nat.min_eq_right hi]
    · have hlt : i < N := Nat.lt_of_not_le hi
      have hm : min i N = i := Nat.min_eq_left (Nat.le_of_lt hlt)
      rw [hm]
      rw [C14.hmLoop, if_neg hi, hmLoop, if_neg (Nat.ne_of_lt hlt)]
      by_cases hs : sl = 0
      · subst hs
        rw [if_pos (beq_self_eq_true 0), if_pos rfl, if_pos rfl, hmFirstFail_eq]
        cases C14.hmFirstBad S B (unravelI S i) with
        | some size =>
          -- a skip: `cnt = min(size, N - i)` flags `false`, the access model stops at `N`
          obtain ⟨fl, e, hle, hiff, hacc⟩ := ih (i + size) 0 (List.replicate (min size (N - i)) false ++ acc)
          have hmin : min (i + size) N = i + min size (N - i) := by omega
          rw [hmin] at hle hiff hacc
          dsimp only
          refine ⟨List.replicate (min size (N - i)) false ++ fl, ?_, ?_, ?_, fun h => ?_⟩
          · rw [e, List.reverse_append, List.reverse_replicate, List.append_assoc]
          · rw [List.length_append, List.length_replicate]; omega
          · rw [List.length_append, List.length_replicate, hiff]; omega
          · rw [List.zipIdx_append, List.length_replicate] at h
            refine List.forall_mem_append.2 ⟨?_, hacc fun p hp => h p (List.mem_append_right _ hp)⟩
            simp only [acc_forall, List.mem_range, AccOk]
            omega
        | none =>
          have h := ih i L acc
          rw [hm] at h
          exact h
      · rw [if_neg (by simpa using hs), if_neg hs]
        obtain ⟨fl, e, hle, hiff, hacc⟩ := ih (i + 1) (sl - 1) (true :: acc)
        rw [Nat.min_eq_left hlt] at hle hiff hacc
        refine ⟨true :: fl, by rw [e]; simp, by rw [List.length_cons]; omega, by rw [List.length_cons, hiff]; omega,
          fun h => ?_⟩
        rw [List.zipIdx_cons] at h
        refine List.forall_mem_append.2 ⟨?_, hacc fun p hp => h p (List.mem_cons_of_mem _ hp)⟩
        simp only [acc_forall, AccOk]
        exact ⟨h (true, i) List.mem_cons_self rfl, by omega⟩

/-- the whole loop, from what `C14` proves about its control: the flags are those of the closed form `C14.hmEvaluated`,
    one per flat index, and where the closed form evaluates the element fits -/
theorem hmRun_ok_of_last_pos (S B : List Nat) (hne : S ≠ []) (hlen : B.length = S.length) (hb : 0 < B.getLastD 0) :
    (∀ a ∈ (hmRun S B true).1, AccOk a) ∧ (hmRun S B true).2 = true := by
  obtain ⟨fl, e, -, hiff, hacc⟩ := hmLoop_sim S B (hmDeltas S B) (shapeSize S)
    ((S.getLastD 0 : Int) - (B.getLastD 0 : Int) + 1) (2 * shapeSize S + 2) 0 0 []
  have hfl : fl = (allPos S).map (C14.hmEvaluated S B) := by
    have h := C14.hmLoopOk_of_last_pos S B hne hlen.symm hb
    rw [C14.hmLoopOk, beq_iff_eq, C14.hmLoopFlags] at h
    rw [← h, e, List.append_nil, List.reverse_reverse]
  rw [Nat.zero_min] at hacc
  rw [Nat.zero_min, Nat.zero_add] at hiff
  refine ⟨hacc fun p hp ht => ?_, hiff.2 (by rw [hfl, allPos, List.length_map, List.length_map, List.length_range])⟩
  have hg := List.mem_zipIdx_iff_getElem?.1 hp
  rw [hfl, allPos, List.map_map, List.getElem?_map] at hg
  obtain ⟨j, hj, hv⟩ := Option.map_eq_some_iff.1 hg
  obtain ⟨hk, rfl⟩ := List.getElem?_eq_some_iff.1 hj
  rw [List.getElem_range] at hv
  exact hm_neighbour_ok S B _ (by simpa using hk) (hmEvaluated_fits S B _ (hv.trans ht))

/-- `hitmiss` for EVERY pair of shapes of equal rank ≥ 1 — zero-length axes of the image or of `Bc` included -/
theorem hmRun_ok_all (shape bshape : List Nat) (hne : shape ≠ []) (hlen : bshape.length = shape.length) :
    (∀ a ∈ (hmRun shape bshape true).1, AccOk a) ∧ (hmRun shape bshape true).2 = true := by
  by_cases hb : 0 < bshape.getLastD 0
  · exact hmRun_ok_of_last_pos shape bshape hne hlen hb
  by_cases h0 : 0 ∈ shape
  · -- an image without elements: the loop `i != N` does not run
    have hN := shapeSize_zero_of_mem shape h0
    simp [hmRun, hN, hmLoop]
  · -- the last axis of `Bc` is empty: no neighbours, and `slack` only has to stay non-negative (`slack0 = W + 1 > 0`)
    have hpos : ∀ d ∈ shape, 0 < d := fun d hd => Nat.pos_of_ne_zero fun e => h0 (e ▸ hd)
    have hd : hmDeltas shape bshape = [] := by
      have hbne : bshape ≠ [] := fun e => hne (List.length_eq_zero_iff.mp (by rw [← hlen, e]; rfl))
      obtain ⟨bpre, bw, rfl⟩ : ∃ bpre bw, bshape = bpre ++ [bw] :=
        ⟨bshape.dropLast, bshape.getLast hbne, (List.dropLast_concat_getLast hbne).symm⟩
      rw [List.getLastD_concat] at hb
      obtain rfl : bw = 0 := by omega
      simp [hmDeltas, allPos, shapeSize_concat]
    have := hmLoop_inv shape bshape [] (shapeSize shape) ((shape.getLastD 0 : Int) - (bshape.getLastD 0 : Int) + 1)
      (Inv := fun _ s => 0 ≤ s)
      (hskip := fun _ sz _ _ hff => ⟨firstFail_pos _ _ _ hpos sz hff, fun _ => Int.le_refl 0⟩)
      (hstart := fun _ _ _ _ => ⟨by omega, by omega⟩)
      (hpix := fun _ _ _ _ _ => ⟨nofun, fun _ => by omega⟩)
      (2 * shapeSize shape + 2) 0 0 (Nat.zero_le _) (fun _ => Int.le_refl 0) (by simp)
    simpa [hmRun, hd, RunOk, Run] using this

end Mahotas.C10
