/-
C15 — the bit-quad sum is four times the Euler characteristic `V − E + F` of a cell complex.

For 8-connectivity take the closed unit squares of the set pixels: a lattice vertex (an edge) belongs to
the complex iff *some* of its four (two) adjacent pixels is set. For 4-connectivity take the dual
convention: an edge (a vertex) counts iff *both* (all four) adjacent pixels are set. With `F` the
number of set pixels, Gray's weights sum to `4·(V − E + F)` — a purely local double-counting identity:
every pixel lies in four windows, every edge in two, every vertex in one. Gray's identity
(bit-quad sum = components − holes) is thereby reduced to the Euler–Poincaré formula for this planar
complex, which is *not* proved here.
-/
import Mahotas.Proofs.C15Euler
import Mathlib.Tactic.Ring
import Mathlib.Tactic.Linarith
namespace Mahotas.C15
open Mahotas

/-- how adjacent pixels combine: `or` for 8-connectivity (closed squares), `and` for 4-connectivity -/
def cop (c : Bool) (p q : Bool) : Bool := if c then p || q else p && q

def pixW (g : Int → Int → Bool) (p : Int × Int) : Int := ind (g p.1 p.2)
/-- the unit edge between pixels `(y, x)` and `(y, x+1)` belongs to the complex -/
def ehW (c : Bool) (g : Int → Int → Bool) (p : Int × Int) : Int := ind (cop c (g p.1 p.2) (g p.1 (p.2 + 1)))
/-- the unit edge between pixels `(y, x)` and `(y+1, x)` belongs to the complex -/
def evW (c : Bool) (g : Int → Int → Bool) (p : Int × Int) : Int := ind (cop c (g p.1 p.2) (g (p.1 + 1) p.2))
/-- the lattice vertex shared by pixels `(y, x)`, `(y, x+1)`, `(y+1, x)`, `(y+1, x+1)` belongs to the complex -/
def vW (c : Bool) (g : Int → Int → Bool) (p : Int × Int) : Int :=
  ind (cop c (cop c (g p.1 p.2) (g p.1 (p.2 + 1))) (cop c (g (p.1 + 1) p.2) (g (p.1 + 1) (p.2 + 1))))

theorem grayQuad_cells (c p q r s : Bool) :
    grayQuad c p q r s = 4 * ind (cop c (cop c p q) (cop c r s)) -
      2 * (ind (cop c p q) + ind (cop c r s) + ind (cop c p r) + ind (cop c q s)) +
      (ind p + ind q + ind r + ind s) := by
  cases c <;> cases p <;> cases q <;> cases r <;> cases s <;> decide

theorem ind_cop_false (c : Bool) {p q : Bool} (hp : p = false) (hq : q = false) : ind (cop c p q) = 0 := by
  subst hp; subst hq; cases c <;> rfl

theorem sum_shift (s : Finset (Int × Int)) (h : Int × Int → Int) (δ : Int × Int)
    (h0 : ∀ q, q ∉ s ∨ (q - δ) ∉ s → h q = 0) :
    ∑ p ∈ s, h (p + δ) = ∑ p ∈ s, h p := by
  rw [← Finset.sum_image (g := (· + δ)) fun a _ b _ hab => add_right_cancel hab]
  exact sum_indep (fun q hq => h0 q (Or.inr fun hs => hq (Finset.mem_image.2 ⟨q - δ, hs, sub_add_cancel q δ⟩)))
    fun q hq => h0 q (Or.inl hq)

/-- number of set pixels, of edges and of vertices of the complex (as integers) -/
def pixelsN (b : Bin) : Int := ∑ p ∈ box b, pixW b.get p
def edgesN (c : Bool) (b : Bin) : Int := ∑ p ∈ box b, (ehW c b.get p + evW c b.get p)
def verticesN (c : Bool) (b : Bin) : Int := ∑ p ∈ box b, vW c b.get p

theorem sum_pix_shift (b : Bin) (δ : Int × Int) (hδ : (δ.1 = 0 ∨ δ.1 = 1) ∧ (δ.2 = 0 ∨ δ.2 = 1)) :
    ∑ p ∈ box b, pixW b.get (p + δ) = ∑ p ∈ box b, pixW b.get p := by
  apply sum_shift
  intro q hq
  rw [mem_box, mem_box] at hq
  simp only [Prod.fst_sub, Prod.snd_sub] at hq
  unfold pixW
  rw [get_false_outside b q.1 q.2 (by omega)]; rfl

theorem sum_eh_shift (c : Bool) (b : Bin) :
    ∑ p ∈ box b, ehW c b.get (p + (1, 0)) = ∑ p ∈ box b, ehW c b.get p := by
  apply sum_shift
  intro q hq
  rw [mem_box, mem_box] at hq
  simp only [Prod.fst_sub, Prod.snd_sub] at hq
  unfold ehW
  exact ind_cop_false c (get_false_outside b _ _ (by omega)) (get_false_outside b _ _ (by omega))

theorem sum_ev_shift (c : Bool) (b : Bin) :
    ∑ p ∈ box b, evW c b.get (p + (0, 1)) = ∑ p ∈ box b, evW c b.get p := by
  apply sum_shift
  intro q hq
  rw [mem_box, mem_box] at hq
  simp only [Prod.fst_sub, Prod.snd_sub] at hq
  unfold evW
  exact ind_cop_false c (get_false_outside b _ _ (by omega)) (get_false_outside b _ _ (by omega))

theorem qw_cells (c : Bool) (g : Int → Int → Bool) (p : Int × Int) :
    qw c g p.1 p.2 = 4 * vW c g p -
      2 * (ehW c g p + ehW c g (p + (1, 0)) + evW c g p + evW c g (p + (0, 1))) +
      (pixW g p + pixW g (p + (0, 1)) + pixW g (p + (1, 0)) + pixW g (p + (1, 1))) := by
  unfold qw vW ehW evW pixW
  simp only [Prod.fst_add, Prod.snd_add, add_zero]
  exact grayQuad_cells c _ _ _ _

end Mahotas.C15
