/-
C08 — F15 of the binary fast path.

`fastBinaryView` runs the row loops of `fast_binary_dilate_erode_2d` on
`Option` cells (an update `&=` / `|=` of an unwritten cell leaves it unwritten). The `std::copy` / `std::fill_n` in
front of the loops assigns every cell, and from there on the `Option` cells are `some` of the cells of the `Int`-celled
loops `C01.fastErodeLoops` / `C01.fastDilateLoops` run on the logical arrays.
-/
import Mahotas.Proofs.C08Kernels
namespace Mahotas.C08
open Mahotas

theorem updO_map (f : Int → Int) (out : Array Int) (j : Nat) :
    (out.map some).setIfInBounds j (((out.map some).getD j none).map f) =
      (out.setIfInBounds j (f (out.getD j 0))).map some := by
  rw [Array.map_setIfInBounds]
  by_cases hj : j < out.size
  · simp [Array.getD_eq_getD_getElem?, hj]
  · rw [Array.setIfInBounds_eq_of_size_le (by simpa using hj), Array.setIfInBounds_eq_of_size_le (by simpa using hj)]

theorem fold_and (jf : Nat → Nat) (bf : Nat → Int) (l : List Nat) (out : Array Int) :
    l.foldl (fun res i => andIntoO res (jf i) (bf i)) (out.map some) =
      (l.foldl (fun res i => C01.andInto res (jf i) (bf i)) out).map some :=
  List.foldl_hom (Array.map some) fun out i => updO_map _ out (jf i)

theorem fold_or (jf : Nat → Nat) (bf : Nat → Int) (l : List Nat) (out : Array Int) :
    l.foldl (fun res i => orIntoO res (jf i) (bf i)) (out.map some) =
      (l.foldl (fun res i => C01.orInto res (jf i) (bf i)) out).map some :=
  List.foldl_hom (Array.map some) fun out i => updO_map _ out (jf i)

theorem fastErodeRowO_map (data : Array Int) (Nx orow irow : Nat) (dx : Int) (out : Array Int) :
    fastErodeRowO data Nx orow irow dx (out.map some) = (C01.fastErodeRow data Nx orow irow dx out).map some := by
  unfold fastErodeRowO C01.fastErodeRow
  dsimp only
  by_cases h1 : dx > 0
  · rw [if_pos h1, if_pos h1, fold_and, fold_and]
  · rw [if_neg h1, if_neg h1]
    by_cases h2 : dx < 0
    · rw [if_pos h2, if_pos h2, fold_and, fold_and]
    · rw [if_neg h2, if_neg h2, fold_and]

theorem fastDilateRowO_map (data : Array Int) (Nx orow irow : Nat) (dx : Int) (out : Array Int) :
    fastDilateRowO data Nx orow irow dx (out.map some) = (C01.fastDilateRow data Nx orow irow dx out).map some := by
  unfold fastDilateRowO C01.fastDilateRow
  dsimp only
  by_cases h1 : dx > 0
  · rw [if_pos h1, if_pos h1, fold_or, fold_or]
  · rw [if_neg h1, if_neg h1]
    by_cases h2 : dx < 0
    · rw [if_pos h2, if_pos h2, fold_or, fold_or]
    · rw [if_neg h2, if_neg h2, fold_or]

/-- `std::copy(array.data(), array.data() + N, res.data())` -/
theorem pixelLoop_copy (L : List Int) :
    pixelLoop L.length (fun k => L.toArray.getD k 0) = L.toArray.map some := by
  rw [pixelLoop_eq]
  simp only [getD_toArray, List.map_toArray]
  congr 1
  have := range_map_getD L 0
  conv => rhs; rw [← this]
  rw [List.map_map]
  rfl

theorem pixelLoop_fill (N : Nat) (c : Int) : pixelLoop N (fun _ => c) = (Array.replicate N c).map some := by
  rw [pixelLoop_eq, Array.map_replicate, replicate_eq_map]

/-- `Bc.at(y, x)` over `y, x` in C order -/
theorem at2_eq_logical (mem : Int → Int) (v : View) (By Bx : Nat) (hs : v.shape = [By, Bx]) :
    ((List.range (By * Bx)).map fun (k : Nat) => mem (v.at [k / Bx, k % Bx])) = logical mem v := by
  unfold logical
  rw [hs]
  simp only [shapeSize, Nat.mul_one, unravel, Nat.div_one]
  rfl

theorem fastBinaryView_eq (isErosion : Bool) (mA : Int → Int) (vA : View) (mB : Int → Int) (vB : View)
    (Ny Nx By Bx : Nat) (hA : vA.shape = [Ny, Nx]) (hB : vB.shape = [By, Bx]) (wfA : vA.WF)
    (hc : vA.carray = true) :
    fastBinaryView isErosion mA vA mB vB =
      (if isErosion then C01.fastErodeLoops (toImg mA vA) vB.shape (logical mB vB).toArray
       else C01.fastDilateLoops (toImg mA vA) vB.shape (logical mB vB).toArray).map some := by
  have hN : shapeSize vA.shape = Ny * Nx := by rw [hA]; simp [shapeSize]
  have hraw := raw_eq_logical mA vA (wfA.carray hc)
  rw [hN] at hraw
  have hbc := at2_eq_logical mB vB By Bx hB
  have hlen : (logical mA vA).length = Ny * Nx := by rw [logical_length, hN]
  have hshape : (toImg mA vA).shape = [Ny, Nx] := hA
  have hdata : (toImg mA vA).data = (logical mA vA).toArray := rfl
  have hsize : (toImg mA vA).size = Ny * Nx := hN
  unfold fastBinaryView
  rw [hA, hB]
  simp only [hraw, hbc]
  have hinit : (if C01.centreSet [By, Bx] (logical mB vB).toArray = true then
        pixelLoop (Ny * Nx) fun k => (logical mA vA).toArray.getD k 0
      else pixelLoop (Ny * Nx) fun _ => if isErosion = true then (1 : Int) else 0) =
      (if C01.centreSet [By, Bx] (logical mB vB).toArray = true then (logical mA vA).toArray
       else Array.replicate (Ny * Nx) (if isErosion = true then (1 : Int) else 0)).map some := by
    split
    · rw [← hlen]; exact pixelLoop_copy _
    · exact pixelLoop_fill _ _
  rw [hinit]
  cases isErosion with
  | true =>
    simp only [if_true]
    unfold C01.fastErodeLoops
    simp only [hshape, hdata, hsize]
    exact List.foldl_hom (Array.map some) fun out y =>
      List.foldl_hom (Array.map some) fun out' d => fastErodeRowO_map _ _ _ _ _ _
  | false =>
    simp only [Bool.false_eq_true, if_false]
    unfold C01.fastDilateLoops
    simp only [hshape, hdata, hsize]
    exact List.foldl_hom (Array.map some) fun out y =>
      List.foldl_hom (Array.map some) fun out' d => fastDilateRowO_map _ _ _ _ _ _

end Mahotas.C08
