/-
C11 — `all_filter_or`, `all_wrapperKeys`: the table theorems of Properties/C11.lean evaluate the generated tables touching few
of the string keys, and those by their first byte.

The keys are string literals, and the kernel is slow on strings: comparing two literals costs a UTF-8 encoding of both,
`String.toList` a decoding by well-founded recursion (several times dearer).
-/
import Mahotas.Model.C11Base
namespace Mahotas.C11
open Mahotas

/-- `q` in front: evaluation then computes `p` only on the elements where `q` fails -/
theorem all_filter_or {α : Type} (l : List α) (p q : α → Bool) :
    (l.filter p).all q = l.all fun a => q a || !p a := by
  rw [List.all_filter]
  exact congrArg l.all (funext fun a => Bool.or_comm ..)

theorem head?_bytes_of_toList (s : String) (c : Char) (r : List Char) (h : s.toList = c :: r) :
    s.toByteArray.data.toList.head? = (String.utf8EncodeChar c).head? := by
  rw [← String.ofList_toList (s := s), h, String.toByteArray_ofList, List.utf8Encode_cons, List.utf8Encode_singleton]
  cases hc : String.utf8EncodeChar c with
  | nil => exact absurd hc String.utf8EncodeChar_ne_nil
  | cons b bs => simp

/-- `119` is the byte of `w` -/
theorem not_wrapperKey (s : String) (h : s.toByteArray.data.toList.head? ≠ some 119) :
    (s.toList.take 2 == "w:".toList) = false := by
  rw [show "w:".toList = ['w', ':'] from String.toList_ofList (l := ['w', ':'])]
  cases hs : s.toList with
  | nil => rfl
  | cons c r =>
    rw [head?_bytes_of_toList s c r hs] at h
    cases r with
    | nil => simp
    | cons d r =>
      simp only [List.take, beq_eq_false_iff_ne, ne_eq, List.cons.injEq, and_true, not_and]
      rintro rfl
      exact absurd rfl h

theorem all_wrapperKeys {β : Type} (t : List (String × β)) (q : String × β → Bool)
    (h : (t.all fun e => q e || e.1.toByteArray.data.toList.head? != some 119) = true) :
    ((t.filter fun e => e.1.toList.take 2 == "w:".toList).all q) = true := by
  rw [all_filter_or, List.all_eq_true]
  intro e he
  have hb := List.all_eq_true.1 h e he
  cases hq : q e with
  | true => rfl
  | false =>
    rw [hq, Bool.false_or, bne_iff_ne] at hb
    rw [not_wrapperKey e.1 hb]
    rfl

end Mahotas.C11
