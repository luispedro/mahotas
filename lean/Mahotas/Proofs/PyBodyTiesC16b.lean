/-
Tie between the body of `morph.py: circle_se` (regenerated on every run into `Generated/PyBodiesC16.lean`, family
`circle_se`) and `C16.circleAt` / `C16.circleSe`, the structuring element the driver's model of `bernsen` builds itself.
-/
import Mahotas.Generated.PyBodiesC16
import Mahotas.Model.C16
import Mahotas.Proofs.C16Circle
import Mathlib.Tactic.Ring

namespace Mahotas
open Mahotas.Generated.Py Mahotas.C16

/-- numpy's `np.arange(a, b)` (entry `k` is `a + k`) and `np.meshgrid(x, y)` with the default `'xy'` indexing
    (`X[i, j] = x[j]`, `Y[i, j] = y[i]`) on integer arrays, positions `(i, j)` = (row, column) -/
abbrev circlePrims : CirclePrims Int (Nat × Nat) where
  arange := fun a _ k => a + (k : Int)
  meshgrid_x := fun x _ p => x p.2
  meshgrid_y := fun _ y p => y p.1

/-- **`morph.circle_se` = `C16.circleAt`**: for a positive integer radius `r` the entry at row `i`,
    column `j` of the returned mask is `C16.circleAt r i j` (`X² + Y² < r²` with `X = j − r`, `Y = i − r`: the strict
    inequality, the `−radius` start of `np.arange`, both squares), and a radius that is not positive raises. -/
theorem pybody_morph_circle_se_eq_model (ofInt : Int → Int) (flit : Nat → Nat → Int) (r : Nat) :
    morph_circle_se (fun n => (n : Int)) ofInt flit circlePrims (r : Int) =
      if 0 < r then some (fun p => circleAt r p.1 p.2) else none := by
  unfold morph_circle_se
  by_cases h : 0 < r
  · have h' : ((r : Int) > ((0 : Nat) : Int)) := by simpa using h
    simp only [h', decide_true, Bool.not_true, Bool.false_eq_true, if_false, h, if_true]
    congr 1
    funext p
    simp only [circleAt]
    -- the same sum of two squares, written `(-r + j)² + (-r + i)²`
    congr 2
    ring
  · simp [h]

/-- … so the row-major `(2r+1) × (2r+1)` array `C16.circleSe r` the driver's `bernsen` uses holds exactly the entries of the
    translated `circle_se(r)` -/
theorem pybody_morph_circle_se_circleSe (ofInt : Int → Int) (flit : Nat → Nat → Int) (r i j : Nat) (hr : 0 < r)
    (hi : i ≤ 2 * r) (hj : j ≤ 2 * r) :
    ∃ m, morph_circle_se (fun n => (n : Int)) ofInt flit circlePrims (r : Int) = some m ∧
      (circleSe r).getD (i * (2 * r + 1) + j) 0 = if m (i, j) then 1 else 0 := by
  refine ⟨_, by rw [pybody_morph_circle_se_eq_model, if_pos hr], ?_⟩
  rw [circleSe_spec r i j hi hj]
  simp [circleAt]

/-- non-vacuity: `circle_se(2)` has its centre and the four axis neighbours at distance 1 set, the corners clear, and
    `circle_se(0)` raises -/
example : (morph_circle_se (fun n => (n : Int)) id (fun m _ => m) circlePrims 2).map
      (fun m => [m (2, 2), m (1, 2), m (2, 3), m (0, 0), m (0, 2), m (1, 1)]) = some [true, true, true, false, false, true] ∧
    morph_circle_se (fun n => (n : Int)) id (fun m _ => m) circlePrims 0 = none := by decide

end Mahotas
