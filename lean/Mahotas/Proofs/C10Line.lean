/-
C10 — a line of an n-D array: `line = &array[p]` with `p[axis] = 0`, `line[stride(axis)·ll]` is the element
at `p` with the axis coordinate replaced by `ll` (used by `spline_filter1d`, and with `axis = 1` by the rows
of `haar` / `wavelet`).
-/
import Mahotas.Proofs.C10
namespace Mahotas.C10
open Mahotas

theorem dot_set : ∀ (ss p : List Int) (k : Nat) (t : Int), k < p.length →
    dot ss (p.set k t) = dot ss p + ss.getD k 0 * (t - p.getD k 0)
  | [], _ :: _, _, _, _ => by simp [dot]
  | _, [], _, _, h => absurd h (Nat.not_lt_zero _)
  | s :: ss, c :: cs, 0, t, _ => by
    simp only [List.set_cons_zero, dot, List.getD_cons_zero]
    rw [Int.mul_sub]; omega
  | s :: ss, c :: cs, k + 1, t, h => by
    simp only [List.set_cons_succ, dot, List.getD_cons_succ, dot_set ss cs k t (Nat.lt_of_succ_lt_succ h)]
    omega

theorem line_address (shape : List Nat) (strides p : List Int) (axis : Nat) (ll : Int)
    (hp : inside shape p = true) (ha : axis < shape.length)
    (h0 : p.getD axis 0 = 0) (hl0 : 0 ≤ ll) (hl1 : ll < ((shape.getD axis 0 : Nat) : Int)) :
    inside shape (p.set axis ll) = true ∧
    dot strides p + strides.getD axis 0 * ll = dot strides (p.set axis ll) :=
  ⟨C01.inside_set shape p axis ll hp hl0 hl1,
    by rw [dot_set strides p axis ll (C01.inside_length hp ▸ ha), h0, Int.sub_zero]⟩

end Mahotas.C10
