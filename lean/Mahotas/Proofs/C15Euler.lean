/-
C15 — exact identities of the Euler model's bit-quad sum `eulerModel4`.

The model sums a table look-up over the 2×2 windows whose top-left corner runs over
`[-1, rows-1] × [-1, cols-1]`.  Because the all-background window has weight 0 and `Bin.get` is
`false` outside the box, that sum is the "plane sum" `E c g s` of Gray's weight of `g = b.get`
over ANY finite set `s` of window corners outside of which the weight vanishes (`Covers`).
From this: translation and transposition invariance (re-indexing), additivity over images no
window of which meets both (pointwise additivity of the weight), and the explicit values for a
filled rectangle (the weight of a product image factors into row transitions × column
transitions) and for a filled rectangle with a hole cut out of its interior (window by window its
weight is the rectangle's minus that of the hole for the dual connectivity, because complementing a
window negates its weight for the dual connectivity; the one-pixel-thick ring is the case of a
rectangular hole).
-/
import Mahotas.Proofs.C15
import Mathlib.Algebra.BigOperators.Group.Finset.Basic
import Mathlib.Algebra.BigOperators.Group.Finset.Sigma
import Mathlib.Algebra.BigOperators.Ring.Finset
import Mathlib.Tactic.SplitIfs
namespace Mahotas.C15
open Mahotas

/-- Gray's weight (×4) of the 2×2 window of the infinite image `g` with top-left corner `(y, x)` -/
def qw (c : Bool) (g : Int → Int → Bool) (y x : Int) : Int :=
  grayQuad c (g y x) (g y (x + 1)) (g (y + 1) x) (g (y + 1) (x + 1))

def E (c : Bool) (g : Int → Int → Bool) (s : Finset (Int × Int)) : Int :=
  ∑ p ∈ s, qw c g p.1 p.2

def Covers (c : Bool) (g : Int → Int → Bool) (s : Finset (Int × Int)) : Prop :=
  ∀ p : Int × Int, p ∉ s → qw c g p.1 p.2 = 0

theorem Covers.mono {c : Bool} {g : Int → Int → Bool} {s t : Finset (Int × Int)}
    (h : Covers c g s) (hst : s ⊆ t) : Covers c g t :=
  fun p hp => h p (fun hs => hp (hst hs))

theorem sum_indep {h : Int × Int → Int} {s t : Finset (Int × Int)}
    (hs : ∀ p, p ∉ s → h p = 0) (ht : ∀ p, p ∉ t → h p = 0) : ∑ p ∈ s, h p = ∑ p ∈ t, h p := by
  rw [Finset.sum_subset (Finset.subset_union_left (s₂ := t)) fun p _ hp => hs p hp,
    Finset.sum_subset (Finset.subset_union_right (s₁ := s)) fun p _ hp => ht p hp]

theorem E_indep {c : Bool} {g : Int → Int → Bool} {s t : Finset (Int × Int)}
    (hs : Covers c g s) (ht : Covers c g t) : E c g s = E c g t := sum_indep hs ht

theorem E_lin (c c1 c2 : Bool) {u g1 g2 : Int → Int → Bool} (a1 a2 : Int)
    (hq : ∀ y x, qw c u y x = a1 * qw c1 g1 y x + a2 * qw c2 g2 y x) {s1 s2 : Finset (Int × Int)}
    (h1 : Covers c1 g1 s1) (h2 : Covers c2 g2 s2) :
    Covers c u (s1 ∪ s2) ∧ E c u (s1 ∪ s2) = a1 * E c1 g1 s1 + a2 * E c2 g2 s2 := by
  have k1 := h1.mono (Finset.subset_union_left (s₂ := s2))
  have k2 := h2.mono (Finset.subset_union_right (s₁ := s1))
  refine ⟨fun p hp => by rw [hq, k1 p hp, k2 p hp]; simp, ?_⟩
  rw [E_indep h1 k1, E_indep h2 k2]
  unfold E
  rw [Finset.mul_sum, Finset.mul_sum, ← Finset.sum_add_distrib]
  exact Finset.sum_congr rfl fun p _ => hq p.1 p.2

theorem grayQuad_zero (c : Bool) : grayQuad c false false false false = 0 := by
  cases c <;> decide

/-! ## the model is a plane sum -/

theorem foldl_range_eq_sum (f : Nat → Int) (n : Nat) :
    ((List.range n).map f).foldl (· + ·) 0 = ∑ i ∈ Finset.range n, f i :=
  -- `∑ i ∈ Finset.range n, f i` unfolds to `((List.range n).map f).sum`
  (foldl_add_sum _ 0).trans (zero_add _)

/-- the window corners visited by the model -/
def box (b : Bin) : Finset (Int × Int) :=
  (Finset.range (b.rows + 1) ×ˢ Finset.range (b.cols + 1)).image
    fun p : Nat × Nat => ((p.1 : Int) - 1, (p.2 : Int) - 1)

theorem mem_box (b : Bin) (p : Int × Int) :
    p ∈ box b ↔ (-1 ≤ p.1 ∧ p.1 ≤ (b.rows : Int) - 1 ∧ -1 ≤ p.2 ∧ p.2 ≤ (b.cols : Int) - 1) := by
  unfold box
  simp only [Finset.mem_image, Finset.mem_product, Finset.mem_range, Prod.exists]
  constructor
  · rintro ⟨i, j, ⟨hi, hj⟩, rfl⟩
    simp only
    omega
  · rintro ⟨h1, h2, h3, h4⟩
    refine ⟨(p.1 + 1).toNat, (p.2 + 1).toNat, ⟨by omega, by omega⟩, ?_⟩
    apply Prod.ext <;> simp only <;> omega

theorem covers_box (c : Bool) (b : Bin) : Covers c b.get (box b) := by
  intro p hp
  rw [mem_box] at hp
  unfold qw
  rw [get_false_outside b p.1 p.2 (by omega), get_false_outside b p.1 (p.2 + 1) (by omega),
    get_false_outside b (p.1 + 1) p.2 (by omega), get_false_outside b (p.1 + 1) (p.2 + 1) (by omega)]
  exact grayQuad_zero c

theorem eulerModel4_eq_E_box (b : Bin) (c : Bool) : eulerModel4 b c = E c b.get (box b) := by
  rw [eulerModel4_eq_graySum]
  unfold graySum E box
  rw [Finset.sum_image, Finset.sum_product, foldl_range_eq_sum]
  · apply Finset.sum_congr rfl
    intro i _
    rw [foldl_range_eq_sum]
    rfl
  · intro p _ q _ h
    simp only [Prod.mk.injEq] at h
    apply Prod.ext <;> omega

theorem eulerModel4_eq_E (b : Bin) (c : Bool) (s : Finset (Int × Int)) (hs : Covers c b.get s) :
    eulerModel4 b c = E c b.get s := by
  rw [eulerModel4_eq_E_box]
  exact E_indep (covers_box c b) hs

/-! ## re-indexing the plane: equal reads, transposition -/

theorem euler_reindex (b b' : Bin) (c : Bool) (σ τ : Int × Int → Int × Int) (hτσ : ∀ p, τ (σ p) = p)
    (hστ : ∀ p, σ (τ p) = p) (hq : ∀ p, qw c b'.get (σ p).1 (σ p).2 = qw c b.get p.1 p.2) :
    eulerModel4 b' c = eulerModel4 b c := by
  have hcov : Covers c b'.get ((box b).image σ) := by
    intro p hp
    have hp' : τ p ∉ box b := fun hin => hp (Finset.mem_image.2 ⟨_, hin, hστ p⟩)
    have := covers_box c b _ hp'
    rwa [← hq, hστ] at this
  rw [eulerModel4_eq_E b' c _ hcov, eulerModel4_eq_E_box b c]
  unfold E
  rw [Finset.sum_image fun p _ q _ hpq => by rw [← hτσ p, hpq, hτσ]]
  exact Finset.sum_congr rfl fun p _ => hq p

theorem eulerModel4_eq_of_get_eq (b b' : Bin) (c : Bool) (h : ∀ y x, b'.get y x = b.get y x) :
    eulerModel4 b' c = eulerModel4 b c :=
  euler_reindex b b' c id id (fun _ => rfl) (fun _ => rfl) fun p => by
    unfold qw
    simp only [id, h]

theorem grayQuad_swap (c p q r s : Bool) : grayQuad c p q r s = grayQuad c p r q s := by
  revert c p q r s
  decide

theorem euler_transpose (b b' : Bin) (c : Bool)
    (h : ∀ y x, b'.get y x = b.get x y) : eulerModel4 b' c = eulerModel4 b c :=
  euler_reindex b b' c Prod.swap Prod.swap Prod.swap_swap Prod.swap_swap fun p => by
    show qw c b'.get p.2 p.1 = _
    unfold qw
    rw [h, h, h, h]
    exact grayQuad_swap c _ _ _ _

def active (g : Int → Int → Bool) (y x : Int) : Bool :=
  g y x || g y (x + 1) || g (y + 1) x || g (y + 1) (x + 1)

theorem qw_of_not_active (c : Bool) (g : Int → Int → Bool) (y x : Int) (h : active g y x = false) :
    qw c g y x = 0 := by
  unfold active at h
  simp only [Bool.or_eq_false_iff] at h
  obtain ⟨⟨⟨h1, h2⟩, h3⟩, h4⟩ := h
  unfold qw
  rw [h1, h2, h3, h4]
  exact grayQuad_zero c

theorem qw_union_left (c : Bool) (g1 g2 u : Int → Int → Bool) (hu : ∀ y x, u y x = (g1 y x || g2 y x))
    (y x : Int) (h2 : active g2 y x = false) : qw c u y x = qw c g1 y x := by
  unfold active at h2
  simp only [Bool.or_eq_false_iff] at h2
  obtain ⟨⟨⟨a1, a2⟩, a3⟩, a4⟩ := h2
  unfold qw
  simp only [hu, a1, a2, a3, a4, Bool.or_false]

theorem qw_union (c : Bool) (g1 g2 u : Int → Int → Bool) (hu : ∀ y x, u y x = (g1 y x || g2 y x))
    (y x : Int) (hsep : ¬ (active g1 y x = true ∧ active g2 y x = true)) :
    qw c u y x = qw c g1 y x + qw c g2 y x := by
  by_cases h1 : active g1 y x = true
  · have h2 : active g2 y x = false := by
      cases hh : active g2 y x
      · rfl
      · exact absurd ⟨h1, hh⟩ hsep
    rw [qw_of_not_active c g2 y x h2, Int.add_zero]
    exact qw_union_left c g1 g2 u hu y x h2
  · have h1' : active g1 y x = false := by simpa using h1
    rw [qw_of_not_active c g1 y x h1', Int.zero_add]
    exact qw_union_left c g2 g1 u (fun y x => (hu y x).trans (Bool.or_comm _ _)) y x h1'

theorem euler_additive (b1 b2 u : Bin) (c : Bool)
    (hu : ∀ y x, u.get y x = (b1.get y x || b2.get y x))
    (hsep : ∀ y x, ¬ (active b1.get y x = true ∧ active b2.get y x = true)) :
    eulerModel4 u c = eulerModel4 b1 c + eulerModel4 b2 c := by
  obtain ⟨hc, he⟩ := E_lin c c c 1 1 (fun y x => by rw [qw_union c b1.get b2.get u.get hu y x (hsep y x)]; simp)
    (covers_box c b1) (covers_box c b2)
  rw [eulerModel4_eq_E u c _ hc, he, ← eulerModel4_eq_E_box, ← eulerModel4_eq_E_box, one_mul, one_mul]

theorem active_rows (g : Int → Int → Bool) (y x : Int) (h : active g y x = true) :
    ∃ yy xx, g yy xx = true ∧ (yy = y ∨ yy = y + 1) ∧ (xx = x ∨ xx = x + 1) := by
  unfold active at h
  simp only [Bool.or_eq_true] at h
  rcases h with ((h | h) | h) | h
  · exact ⟨y, x, h, Or.inl rfl, Or.inl rfl⟩
  · exact ⟨y, x + 1, h, Or.inl rfl, Or.inr rfl⟩
  · exact ⟨y + 1, x, h, Or.inr rfl, Or.inl rfl⟩
  · exact ⟨y + 1, x + 1, h, Or.inr rfl, Or.inr rfl⟩

/-- images whose set pixels are pairwise at Chebyshev distance ≥ 2 have no active window in common -/
theorem sep_of_far (g1 g2 : Int → Int → Bool)
    (hfar : ∀ y1 x1 y2 x2, g1 y1 x1 = true → g2 y2 x2 = true →
      (y1 + 1 < y2 ∨ y2 + 1 < y1 ∨ x1 + 1 < x2 ∨ x2 + 1 < x1)) (y x : Int) :
    ¬ (active g1 y x = true ∧ active g2 y x = true) := by
  rintro ⟨a1, a2⟩
  obtain ⟨y1, x1, e1, r1, c1⟩ := active_rows g1 y x a1
  obtain ⟨y2, x2, e2, r2, c2⟩ := active_rows g2 y x a2
  have := hfar y1 x1 y2 x2 e1 e2
  omega

theorem sep_of_rows (g1 g2 : Int → Int → Bool) (k : Int)
    (h1 : ∀ y x, g1 y x = true → y < k) (h2 : ∀ y x, g2 y x = true → k < y) (y x : Int) :
    ¬ (active g1 y x = true ∧ active g2 y x = true) :=
  sep_of_far g1 g2 (fun y1 x1 y2 x2 e1 e2 => by have := h1 y1 x1 e1; have := h2 y2 x2 e2; omega) y x

theorem sep_of_cols (g1 g2 : Int → Int → Bool) (k : Int)
    (h1 : ∀ y x, g1 y x = true → x < k) (h2 : ∀ y x, g2 y x = true → k < x) (y x : Int) :
    ¬ (active g1 y x = true ∧ active g2 y x = true) :=
  sep_of_far g1 g2 (fun y1 x1 y2 x2 e1 e2 => by have := h1 y1 x1 e1; have := h2 y2 x2 e2; omega) y x

def ivl (lo n : Int) (y : Int) : Bool := decide (lo ≤ y ∧ y < lo + n)

def rectFn (y0 a x0 b : Int) (y x : Int) : Bool := ivl y0 a y && ivl x0 b x

def ind (t : Bool) : Int := if t then 1 else 0

/-- 1 where `r` changes between `y` and `y + 1` -/
def tr (r : Int → Bool) (y : Int) : Int := if r y = r (y + 1) then 0 else 1

theorem gray_prod (c a0 a1 b0 b1 : Bool) :
    grayQuad c (a0 && b0) (a0 && b1) (a1 && b0) (a1 && b1) =
      (if a0 = a1 then 0 else 1) * (if b0 = b1 then 0 else 1) := by
  revert c a0 a1 b0 b1
  decide

theorem qw_prod (c : Bool) (r s : Int → Bool) (y x : Int) :
    qw c (fun y x => r y && s x) y x = tr r y * tr s x := by
  unfold qw tr
  exact gray_prod c _ _ _ _

theorem tr_ivl (lo n : Int) (hn : 1 ≤ n) (y : Int) :
    tr (ivl lo n) y = if (y = lo - 1 ∨ y = lo + n - 1) then 1 else 0 := by
  unfold tr ivl
  simp only [decide_eq_decide]
  split_ifs <;> omega

/-- the two ends of an interval: the only places where its indicator changes -/
def ends (lo n : Int) : Finset Int := {lo - 1, lo + n - 1}

theorem tr_ivl_outside (lo n : Int) (hn : 1 ≤ n) (y : Int) (hy : y ∉ ends lo n) : tr (ivl lo n) y = 0 := by
  rw [tr_ivl lo n hn]
  unfold ends at hy
  simp only [Finset.mem_insert, Finset.mem_singleton] at hy
  rw [if_neg hy]

theorem sum_tr_ivl (lo n : Int) (hn : 1 ≤ n) : ∑ y ∈ ends lo n, tr (ivl lo n) y = 2 := by
  unfold ends
  rw [Finset.sum_pair (by omega), tr_ivl lo n hn, tr_ivl lo n hn]
  simp

theorem covers_prod (c : Bool) (r s : Int → Bool) (S T : Finset Int)
    (hS : ∀ y, y ∉ S → tr r y = 0) (hT : ∀ x, x ∉ T → tr s x = 0) :
    Covers c (fun y x => r y && s x) (S ×ˢ T) := by
  intro p hp
  rw [qw_prod]
  rw [Finset.mem_product] at hp
  by_cases h1 : p.1 ∈ S
  · rw [hT _ fun h2 => hp ⟨h1, h2⟩, Int.mul_zero]
  · rw [hS _ h1, Int.zero_mul]

theorem E_prod (c : Bool) (r s : Int → Bool) (S T : Finset Int) :
    E c (fun y x => r y && s x) (S ×ˢ T) = (∑ y ∈ S, tr r y) * ∑ x ∈ T, tr s x := by
  unfold E
  rw [Finset.sum_product, Finset.sum_mul_sum]
  exact Finset.sum_congr rfl fun y _ => Finset.sum_congr rfl fun x _ => qw_prod c r s y x

theorem covers_rect (c : Bool) (y0 a x0 b : Int) (ha : 1 ≤ a) (hb : 1 ≤ b) :
    Covers c (rectFn y0 a x0 b) (ends y0 a ×ˢ ends x0 b) :=
  covers_prod c _ _ _ _ (tr_ivl_outside y0 a ha) (tr_ivl_outside x0 b hb)

/-- the bit-quad sum of a filled rectangle is 4 (four corner windows of weight 1) -/
theorem E_rect (c : Bool) (y0 a x0 b : Int) (ha : 1 ≤ a) (hb : 1 ≤ b) (s : Finset (Int × Int))
    (hs : Covers c (rectFn y0 a x0 b) s) : E c (rectFn y0 a x0 b) s = 4 := by
  rw [E_indep hs (covers_rect c y0 a x0 b ha hb)]
  exact (E_prod c _ _ _ _).trans (by rw [sum_tr_ivl y0 a ha, sum_tr_ivl x0 b hb]; rfl)

theorem euler_rect (bi : Bin) (c : Bool) (y0 a x0 b : Int) (ha : 1 ≤ a) (hb : 1 ≤ b)
    (h : ∀ y x, bi.get y x = rectFn y0 a x0 b y x) : eulerModel4 bi c = 4 := by
  have hg : bi.get = rectFn y0 a x0 b := by funext y x; exact h y x
  rw [eulerModel4_eq_E_box, hg]
  apply E_rect c y0 a x0 b ha hb
  rw [← hg]
  exact covers_box c bi

/-- complementing a window negates its weight for the dual connectivity -/
theorem grayQuad_compl (c p q r s : Bool) : grayQuad c (!p) (!q) (!r) (!s) = -grayQuad (!c) p q r s := by
  revert c p q r s
  decide

/-- cutting `g` out of `R`, window by window: a window that meets `g` lies inside `R`, where `R` without `g` is the
    complement of `g` and `R` itself weighs nothing -/
theorem qw_sdiff (c : Bool) (R g : Int → Int → Bool) (y x : Int)
    (h : active g y x = true → R y x = true ∧ R y (x + 1) = true ∧ R (y + 1) x = true ∧ R (y + 1) (x + 1) = true) :
    qw c (fun y x => R y x && !g y x) y x = qw c R y x - qw (!c) g y x := by
  cases ha : active g y x
  · rw [qw_of_not_active (!c) g y x ha, Int.sub_zero]
    unfold active at ha
    simp only [Bool.or_eq_false_iff] at ha
    unfold qw
    simp only [ha, Bool.not_false, Bool.and_true]
  · obtain ⟨h1, h2, h3, h4⟩ := h ha
    unfold qw
    simp only [h1, h2, h3, h4, Bool.true_and, grayQuad_compl]
    rw [show grayQuad c true true true true = 0 by cases c <;> rfl, Int.zero_sub]

/-- cutting a hole: if the set pixels of `g` lie strictly inside a filled rectangle, the rectangle without `g` has
    bit-quad sum `4 −` (that of `g` for the dual connectivity) -/
theorem euler_rect_sdiff (bi : Bin) (c : Bool) (y0 a x0 b : Int) (ha : 1 ≤ a) (hb : 1 ≤ b) (g : Int → Int → Bool)
    (hin : ∀ y x, g y x = true → y0 < y ∧ y + 1 < y0 + a ∧ x0 < x ∧ x + 1 < x0 + b)
    {s : Finset (Int × Int)} (hs : Covers (!c) g s)
    (h : ∀ y x, bi.get y x = (rectFn y0 a x0 b y x && !g y x)) : eulerModel4 bi c = 4 - E (!c) g s := by
  have hg : bi.get = fun y x => rectFn y0 a x0 b y x && !g y x := by funext y x; exact h y x
  have h1 := covers_rect c y0 a x0 b ha hb
  obtain ⟨hc, he⟩ := E_lin c c (!c) (u := bi.get) 1 (-1) (fun y x => by
    rw [hg, qw_sdiff c _ g y x fun h => by
      obtain ⟨yy, xx, e, hy, hx⟩ := active_rows g y x h
      have := hin yy xx e
      simp only [rectFn, ivl, Bool.and_eq_true, decide_eq_true_eq]
      omega]
    ring) h1 hs
  rw [eulerModel4_eq_E bi c _ hc, he, E_rect c y0 a x0 b ha hb _ h1]
  ring

/-- the one-pixel-thick ring: the hole is the inner rectangle -/
def frameFn (y0 a x0 b : Int) (y x : Int) : Bool :=
  rectFn y0 a x0 b y x && !rectFn (y0 + 1) (a - 2) (x0 + 1) (b - 2) y x

theorem euler_frame (bi : Bin) (c : Bool) (y0 a x0 b : Int) (ha : 3 ≤ a) (hb : 3 ≤ b)
    (h : ∀ y x, bi.get y x = frameFn y0 a x0 b y x) : eulerModel4 bi c = 0 := by
  have h2 := covers_rect (!c) (y0 + 1) (a - 2) (x0 + 1) (b - 2) (by omega) (by omega)
  rw [euler_rect_sdiff bi c y0 a x0 b (by omega) (by omega) _ (fun y x h => by
      simp only [rectFn, ivl, Bool.and_eq_true, decide_eq_true_eq] at h; omega) h2 h,
    E_rect (!c) _ _ _ _ (by omega) (by omega) _ h2]
  rfl

end Mahotas.C15
