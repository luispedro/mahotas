/-
C12 (T4) — the access programs of `Model/C12Kernels2.lean`: roles inside the arity, and the lemmas behind the value ties of five of them.
`kernel2_rolesOk` goes kernel by kernel through the closure rules of `Proofs/C12Roles.lean`. Behind the ties: the value
lemmas of template_match and rank_filter (gather kernels; `runR_phase` for the three phases of a rank_filter pixel); the scatter
programs of dilate and cooccurence rewritten as one step per element (`dilate_steps_eq`, `coocLog_eq_map`: their ties
are cell-wise, by `runR_accumulate`); the early-exit specification of borders (`bordersReads_spec`). distance, thin and
zoom_shift have no value tie.
-/
import Mahotas.Proofs.C12Roles
import Mahotas.Model.C12Kernels2
import Mahotas.Proofs.C07
import Mahotas.Proofs.C07Order
import Mahotas.Proofs.C08Kernels
import Mahotas.Proofs.C03Label
import Mahotas.Proofs.C19CoocModel
import Mahotas.Proofs.C01Scatter
import Mahotas.Model.C13
namespace Mahotas.C12
open Mahotas

theorem filtSrc_ok (compress : Bool) (vF : C08.View) (j : Nat) {ar : Nat × Nat} (h1 : 1 < ar.1) (h2 : 1 < ar.2) :
    (filtSrc compress 1 vF j).role.okB ar = true := by
  unfold filtSrc
  split
  · exact decide_eq_true h2
  · exact decide_eq_true h1

theorem dilate_rolesOk (dt : DT) (vA vOut vBc : C08.View) (bc : Array Int) :
    ∀ r ∈ dilateRaw dt vA vOut vBc bc, r.rolesOk (2, 2) = true := by
  refine allOf_append (allOf_append (allOf_ite (filterCopy_rolesOk 1 vBc (by decide) (by decide)) allOf_nil)
    (allOf_map fun _ => rfl)) (allOf_flatMap fun i => allOf_filterMap fun jkh r hr => ?_)
  obtain ⟨q, _, rfl⟩ := Option.map_eq_some_iff.1 hr
  exact rolesOk_of rfl (allOf_cons rfl (allOf_cons rfl (allOf_cons
    (filtSrc_ok _ _ _ (by decide) (by decide)) allOf_nil)))

theorem rankPixel_rolesOk (m : Mode) (rank : Nat) (vA vOut : C08.View) (fp : List (List Int)) (i : Nat) :
    ∀ r ∈ rankPixel m rank vA vOut fp i, r.rolesOk (2, 4) = true := by
  refine allOf_append (allOf_append (allOf_append (allOf_map fun j => rolesOk_of rfl ?_) (allOf_map fun _ => rfl))
    (allOf_map fun _ => rolesOk_of rfl (allOf_map fun _ => rfl))) (allOf_cons rfl allOf_nil)
  dsimp only
  split
  · exact allOf_cons rfl allOf_nil
  · exact allOf_nil

theorem rank_rolesOk (m : Mode) (rank : Int) (vA vOut vBc : C08.View) (bc : Array Int) :
    ∀ r ∈ rankRaw m rank vA vOut vBc bc, r.rolesOk (2, 4) = true :=
  allOf_append (filterCopy_rolesOk 1 vBc (by decide) (by decide))
    (allOf_ite allOf_nil (allOf_flatMap fun _ => rankPixel_rolesOk _ _ _ _ _ _))

theorem templateMatch_rolesOk (m : Mode) (je : Bool) (vA vOut vT : C08.View) :
    ∀ r ∈ templateMatchRaw m je vA vOut vT, r.rolesOk (2, 1) = true :=
  allOf_map fun _ => rolesOk_of rfl (allOf_append (allOf_map fun _ => rfl) (allOf_map fun _ => rfl))

theorem coocLog_rolesOk (vA vR : C08.View) (mA : Int → Int) (d : List Int) (ks : List Nat) :
    ∀ r ∈ coocLog vA vR mA d ks, r.rolesOk (2, 3) = true := by
  induction ks with
  | nil => exact allOf_nil
  | cons k ks ih =>
    unfold coocLog
    split
    · exact allOf_cons rfl ih
    · exact allOf_ite (allOf_cons rfl allOf_nil) (allOf_cons rfl ih)

theorem cooccurence_rolesOk (vA vR vBc : C08.View) (bc : Array Int) (mA : Int → Int) :
    ∀ r ∈ cooccurenceRaw vA vR vBc bc mA, r.rolesOk (2, 3) = true := by
  refine allOf_append (filterCopy_rolesOk 1 vBc (by decide) (by decide)) ?_
  split
  · exact allOf_nil
  · exact coocLog_rolesOk vA vR mA _ _

theorem popLog_rolesOk (g : Nat → Rat) (addr : Nat → Int) (n q : Nat) (st : C05.Stack) :
    ∀ r ∈ popLog g addr n q st, r.rolesOk (0, 6) = true := by
  induction st with
  | nil => exact allOf_nil
  | cons e rest ih => exact allOf_cons rfl (allOf_ite ih allOf_nil)

theorem advanceLog_rolesOk (n : Nat) (x : Rat) (l : List (Nat × Option Rat)) :
    ∀ (k : Nat), ∀ r ∈ advanceLog n x k l, r.rolesOk (0, 6) = true := by
  induction l with
  | nil => intro k; exact allOf_nil
  | cons e rest ih =>
    intro k
    cases rest with
    | nil => exact allOf_nil
    | cons e' rest' => exact allOf_cons rfl (allOf_ite (ih _) allOf_nil)

theorem dtLine_rolesOk (wo : Bool) (line : Array Int) (addr oaddr : Nat → Int) (n : Nat) :
    ∀ r ∈ dtLineRaw wo line addr oaddr n, r.rolesOk (0, 6) = true :=
  allOf_append (allOf_append (allOf_append
    (allOf_cons rfl (allOf_cons rfl (allOf_cons rfl allOf_nil)))
    (allOf_flatMap fun _ => allOf_append (popLog_rolesOk _ _ _ _ _)
      (allOf_cons rfl (allOf_cons rfl (allOf_cons rfl allOf_nil)))))
    (allOf_flatMap fun _ => allOf_append (allOf_append (advanceLog_rolesOk _ _ _ _) (allOf_cons rfl allOf_nil))
      (allOf_ite (allOf_cons rfl allOf_nil) allOf_nil)))
    (allOf_flatMap fun _ => allOf_cons rfl (allOf_ite (allOf_cons rfl allOf_nil) allOf_nil))

theorem distance_rolesOk (wo : Bool) (fo : Array Int × Array Int) (d0 d1 : Nat) (b s0 s1 ob os0 os1 : Int) :
    ∀ r ∈ distanceRaw wo fo d0 d1 b s0 s1 ob os0 os1, r.rolesOk (0, 6) = true :=
  allOf_ite allOf_nil (allOf_append (allOf_logFold (fun _ _ => dtLine_rolesOk _ _ _ _ _) _ _)
    (allOf_logFold (fun _ _ => dtLine_rolesOk _ _ _ _ _) _ _))

theorem borders_rolesOk (m : Mode) (vA vOut vBc : C08.View) (bc : Array Int) (mA : Int → Int) :
    ∀ r ∈ bordersRaw m vA vOut vBc bc mA, r.rolesOk (2, 3) = true := by
  refine allOf_append (filterCopy_rolesOk 1 vBc (by decide) (by decide)) (allOf_map fun k => ?_)
  unfold bordersPixel
  dsimp only
  split <;> exact rolesOk_of rfl (allOf_cons rfl (allOf_map fun _ => rfl))

theorem thinPass_rolesOk (vA vB : C08.View) (b : C15.Bin) (ee : Nat × C15.Elem) :
    ∀ r ∈ thinPassLog vA vB b ee, r.rolesOk (0, 4) = true :=
  allOf_append
    (allOf_map fun _ => rolesOk_of rfl (allOf_cons rfl
      (allOf_ite (allOf_append (allOf_map fun _ => rfl) (allOf_map fun _ => rfl)) allOf_nil)))
    (allOf_flatMap fun _ => allOf_cons rfl (allOf_cons rfl allOf_nil))

theorem thinLoop_rolesOk (vA vB : C08.View) (fuel : Nat) :
    ∀ (b : C15.Bin), ∀ r ∈ thinLoopLog vA vB fuel b, r.rolesOk (0, 4) = true := by
  induction fuel with
  | zero => intro b; exact allOf_nil
  | succ fuel ih =>
    intro b
    exact allOf_cons rfl (allOf_append
      (allOf_cons rfl (allOf_logFold (fun _ _ => thinPass_rolesOk vA vB _ _) _ _)) (allOf_ite allOf_nil (ih _)))

theorem thin_rolesOk (vA vB : C08.View) (b : C15.Bin) (maxIter : Int) :
    ∀ r ∈ thinRaw vA vB b maxIter, r.rolesOk (0, 4) = true :=
  allOf_append
    (allOf_flatMap fun _ => allOf_flatMap fun _ => allOf_cons rfl (allOf_cons rfl allOf_nil))
    (thinLoop_rolesOk vA vB _ b)

section Zoom
variable {α : Type} [Add α] [Sub α] [Mul α] [Div α] [Neg α] [NatCast α] [IntCast α] [LT α] [DecidableLT α]

theorem zoomShift_rolesOk (fl : α → Int) (order : Nat) (m : Mode) (vA vOut : C08.View)
    (shifts zooms : List (Option α)) :
    ∀ r ∈ zoomShiftRaw fl order m vA vOut shifts zooms, r.rolesOk (3, 3) = true := by
  refine allOf_append (allOf_flatMap fun _ => allOf_map fun _ => rfl) (allOf_flatMap fun k => ?_)
  unfold zsPixel
  dsimp only
  split
  · exact allOf_cons (rolesOk_of rfl (allOf_map fun _ => rfl)) allOf_nil
  · exact allOf_append (allOf_map fun _ => rolesOk_of rfl (allOf_map fun _ => rfl))
      (allOf_cons (rolesOk_of rfl (allOf_append (allOf_append (allOf_map fun _ => rfl) (allOf_map fun _ => rfl))
        (allOf_map fun _ => rfl))) allOf_nil)

end Zoom

theorem kernel2_rolesOk (k : Kernel2) : ∀ r ∈ k.raw, r.rolesOk k.arity = true := by
  cases k with
  | dilate dt vA vOut vBc bc => exact dilate_rolesOk dt vA vOut vBc bc
  | rank m rk vA vOut vBc bc => exact rank_rolesOk m rk vA vOut vBc bc
  | templateMatch m je vA vOut vT => exact templateMatch_rolesOk m je vA vOut vT
  | cooccurence vA vR vBc bc mA => exact cooccurence_rolesOk vA vR vBc bc mA
  | distance wo fo d0 d1 b s0 s1 ob os0 os1 => exact distance_rolesOk wo fo d0 d1 b s0 s1 ob os0 os1
  | borders m vA vOut vBc bc mA => exact borders_rolesOk m vA vOut vBc bc mA
  | thin vA vB b maxIter => exact thin_rolesOk vA vB b maxIter
  | zoomShift fl order m vA vOut shifts zooms => exact zoomShift_rolesOk fl order m vA vOut shifts zooms

/-- the live samples of the template indices `js` -/
def tmLiveOf (md : Mode) (vA : C08.View) (tshape : List Nat) (p : List Int) (js : List Nat) : List (Int × Nat) :=
  js.filterMap fun j => (nbrAddr md vA (addPos p (C07.offsetOf tshape j))).map fun a => (a, j)

theorem tmVals_zip (l : List (Int × Nat)) (valF : Int → Val) (valT : Nat → Val) (d : Int) :
    tmVals false (l.map fun aj => valF aj.1) (l.map fun aj => valT aj.2) d =
      l.foldl (fun d aj =>
        d + (if valF aj.1 > valT aj.2 then valF aj.1 - valT aj.2 else valT aj.2 - valF aj.1) *
          (if valF aj.1 > valT aj.2 then valF aj.1 - valT aj.2 else valT aj.2 - valF aj.1)) d := by
  induction l generalizing d with
  | nil => rfl
  | cons aj rest ih => exact ih _

theorem tmVals_eq (md : Mode) (vA : C08.View) (f : Img Int) (hshape : f.shape = vA.shape)
    (tshape : List Nat) (tp : Array Int) (valF : Int → Val) (valT : Nat → Val) (p : List Int) (js : List Nat)
    (hF : ∀ j ∈ js, ShowsSample md vA f valF (addPos p (C07.offsetOf tshape j)))
    (hT : ∀ j ∈ js, valT j = tp.getD j 0) (d : Int) :
    tmVals false ((tmLiveOf md vA tshape p js).map (fun aj => valF aj.1))
        ((tmLiveOf md vA tshape p js).map (fun aj => valT aj.2)) d =
      js.foldl (fun diff2 j =>
        match fixPos md f.shape (addPos p (C07.offsetOf tshape j)) with
        | some q =>
          let val := f.getD q 0
          let tj := tp.getD j 0
          let delta := if val > tj then val - tj else tj - val
          diff2 + delta * delta
        | none => diff2) d := by
  rw [tmVals_zip, tmLiveOf, List.foldl_filterMap, hshape]
  refine List.foldl_ext _ _ _ fun c j hj => ?_
  unfold nbrAddr
  cases hfix : fixPos md vA.shape (addPos p (C07.offsetOf tshape j)) with
  | none => rfl
  | some q' => simp only [Option.map_some, hF j hj _ hfix, hT j hj]

theorem runR_phase (calls : List Call) (c : Call) (g : Nat → RStep) (n d : Nat) (hd : ∀ k, (g k).dst = d)
    (hinj : ∀ k k', k < n → k' < n → (g k).doff = (g k').doff → k = k') (M : Mem) (j : Nat) (hj : j < n)
    (hsrc : ∀ l ∈ (g j).srcs, c.arrOf l.role ≠ c.arrOf (.own d)) :
    runR calls c ((List.range n).map g) M (L calls (c.arrOf (.own d)) (g j).doff) =
      (g j).op ((g j).srcs.map fun l => M (L calls (c.arrOf l.role) l.off)) := by
  refine (runR_gather calls c [] g n d hd hinj M j hj).trans (congrArg _ (List.map_congr_left fun l hl => ?_))
  exact runR_frame calls c _ M _ _ (allOf_map fun i => by rw [hd]; exact (hsrc l hl).symm)

theorem rankSamples_vals (md : Mode) (vA : C08.View) (f : Img Int) (hshape : f.shape = vA.shape)
    (valF : Int → Val) (fp : List (List Int)) (p : List Int)
    (hF : ∀ d ∈ fp, ShowsSample md vA f valF (addPos p d)) :
    (rankSamples md vA fp p).map (fun o => match o with | some a => valF a | none => 0) =
      C07.gather md f fp p := by
  unfold rankSamples C07.gather
  rw [List.map_filterMap]
  apply List.filterMap_congr
  intro d hd
  rw [hshape]
  cases hfix : fixPos md vA.shape (addPos p d) with
  | none =>
    simp only [nbrAddr, hfix, Option.map_none]
    by_cases hm : md = .constant <;> simp [hm]
  | some q' =>
    simp only [nbrAddr, hfix, Option.map_some]
    rw [hF d hd _ hfix]

theorem unravelI_toNat (s : List Nat) (i : Nat) : (unravelI s i).map Int.toNat = unravel s i := by
  simp [unravelI, List.map_map, Function.comp_def]

theorem scatter_eq (vOut : C08.View) (s : List Nat)
    (hvis : ∀ i, i < shapeSize s → iterAddr vOut i = vOut.addr (unravel s i))
    (i : Nat) (hi : i < shapeSize s) (q : List Int) (hq : inside s q = true) :
    scatterAddr vOut i (unravelI s i) q = iterAddr vOut (ravelI s q) := by
  unfold scatterAddr
  have h2 : unravel s (ravelI s q) = q.map Int.toNat := by
    rw [← unravelI_toNat, C01.unravelI_ravelI s q hq]
  rw [unravelI_toNat, hvis i hi, hvis _ (C01.ravelI_lt s q hq), h2]
  omega

theorem mem_enumFrom {α : Type} (l : List α) : ∀ (n : Nat) (x : Nat × α), x ∈ enumFrom n l → x.2 ∈ l := by
  induction l with
  | nil => intro n x h; cases h
  | cons a t ih =>
    intro n x h
    rcases List.mem_cons.1 h with rfl | h
    · exact List.mem_cons_self ..
    · exact List.mem_cons_of_mem _ (ih _ x h)

theorem foldl_enumFrom {α σ : Type} (G : σ → α → σ) (l : List α) : ∀ (n : Nat) (s : σ),
    (enumFrom n l).foldl (fun s x => G s x.2) s = l.foldl G s := by
  induction l with
  | nil => intro n s; rfl
  | cons a t ih => intro n s; exact ih _ _

/-- the scatter step of pixel `x.1` and numbered support entry `x.2` when the axes are positive: the neighbour is clamped -/
def dilateStepC (dt : DT) (vA vOut vBc : C08.View) (x : Nat × (Nat × (List Int × Int))) : RStep :=
  let p := unravelI vA.shape x.1
  let q := clampPos vA.shape (addPos p x.2.2.1)
  { dst := 0, doff := scatterAddr vOut x.1 p q,
    srcs := [⟨.own 0, scatterAddr vOut x.1 p q⟩, ⟨.inp 0, iterAddr vA x.1⟩, filtSrc dt.isBool 1 vBc x.2.1],
    op := dilateVal dt x.2.2.2 }

theorem dilate_steps_eq (dt : DT) (vA vOut vBc : C08.View) (hpos : ∀ d ∈ vA.shape, 0 < d)
    (sup : List (List Int × Int)) (N : Nat) :
    ((List.range N).flatMap fun i => (enumFrom 0 sup).filterMap (dilateStepR dt vA vOut vBc i)) =
      ((List.range N).flatMap fun i => (enumFrom 0 sup).map (Prod.mk i)).map (dilateStepC dt vA vOut vBc) := by
  rw [List.map_flatMap]
  congr 1
  funext i
  rw [List.map_map, ← List.filterMap_eq_map]
  congr 1
  funext jkh
  unfold dilateStepR
  dsimp only
  rw [C01.fixPos_nearest _ _ hpos]
  rfl

/-- `iterator_base` visits the logical elements in C order -/
theorem iterAddr_eq_addr (v : C08.View) (h : v.strides.length = v.shape.length) (k : Nat)
    (hk : k < shapeSize v.shape) : iterAddr v k = v.addr (unravel v.shape k) :=
  C08.incrN_data v h k hk

/-- the step of element `k` of `cooccurence` when no value read is negative -/
def coocStep (vA vR : C08.View) (mA : Int → Int) (d : List Int) (k : Nat) : RStep :=
  match nbrAddr .ignore vA (addPos (unravelI vA.shape k) d) with
  | none => ⟨2, 0, [⟨.inp 0, iterAddr vA k⟩], fun vs => vs.headD 0⟩
  | some a =>
    ⟨0, vR.addr [(mA (iterAddr vA k)).toNat, (mA a).toNat],
      [⟨.own 0, vR.addr [(mA (iterAddr vA k)).toNat, (mA a).toNat]⟩, ⟨.inp 0, iterAddr vA k⟩, ⟨.inp 0, a⟩],
      fun vs => vs.headD 0 + 1⟩

/-- without a negative value the program does not stop early: one step per element -/
theorem coocLog_eq_map (vA vR : C08.View) (mA : Int → Int) (d : List Int) (ks : List Nat)
    (hnn : ∀ k ∈ ks, ∀ a, nbrAddr .ignore vA (addPos (unravelI vA.shape k) d) = some a →
      0 ≤ mA (iterAddr vA k) ∧ 0 ≤ mA a) : coocLog vA vR mA d ks = ks.map (coocStep vA vR mA d) := by
  induction ks with
  | nil => rfl
  | cons k ks ih =>
    have hk := hnn k (List.mem_cons_self ..)
    rw [List.map_cons, ← ih fun k' hk' => hnn k' (List.mem_cons_of_mem _ hk'), coocLog, coocStep]
    cases hn : nbrAddr .ignore vA (addPos (unravelI vA.shape k) d) with
    | none => rfl
    | some a => exact if_neg (by have := hk a hn; omega)

theorem bordersReads_spec (mA : Int → Int) (cur : Int) (as : List Int) :
    (bordersReads mA cur as).2 = as.any (fun a => mA a != cur) ∧
    ((bordersReads mA cur as).2 = true → ((bordersReads mA cur as).1.map mA).any (· != cur) = true) := by
  induction as with
  | nil => simp [bordersReads]
  | cons a rest ih =>
    unfold bordersReads
    by_cases h : (mA a != cur) = true
    · simp [h]
    · rw [if_neg h]
      simp only [Bool.not_eq_true] at h
      simp only [List.any_cons, List.map_cons, h, Bool.false_or]
      exact ih

theorem any_congr_mem {α : Type} (l : List α) (p q : α → Bool) (h : ∀ x ∈ l, p x = q x) : l.any p = l.any q := by
  induction l with
  | nil => rfl
  | cons x rest ih =>
    simp only [List.any_cons]
    rw [h x (List.mem_cons_self ..), ih (fun y hy => h y (List.mem_cons_of_mem _ hy))]

end Mahotas.C12
