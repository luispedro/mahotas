/-
C13 — centre of mass: the model of `center_of_mass<T>`, for any arithmetic, divides per label and axis the
accumulated `Σ v·coord` by the accumulated `Σ v`; over a field these are the sums.
-/
import Mahotas.Proofs.C13
import Mathlib.Algebra.Field.Defs
import Mathlib.Tactic.Ring
namespace Mahotas.C13
open Mahotas

def fieldOps (α : Type) [Field α] : NumOps α :=
  { zero := 0, add := (· + ·), mul := (· * ·), div := (· / ·), ofNat := fun n => (n : α) }

theorem comFold_fst {α : Type} (ops : NumOps α) (shape : List Nat) (vals : List α) (labels : List Int) :
    ∀ (is : List Nat) (st : Array α × Array (List α)),
    (is.foldl (comStep ops shape vals labels) st).1 =
      is.foldl (fun a i => a.modify (labels.getD i 0).toNat (fun t => ops.add t (vals.getD i ops.zero))) st.1 :=
  fun _ _ => (List.foldl_hom Prod.fst fun _ _ => rfl).symm

theorem comFold_snd {α : Type} (ops : NumOps α) (shape : List Nat) (vals : List α) (labels : List Int) :
    ∀ (is : List Nat) (st : Array α × Array (List α)),
    (is.foldl (comStep ops shape vals labels) st).2 =
      is.foldl (fun a i => a.modify (labels.getD i 0).toNat
        (rowAdd ops shape.length (vals.getD i ops.zero) (unravel shape i))) st.2 :=
  fun _ _ => (List.foldl_hom Prod.snd fun _ _ => rfl).symm

theorem rowAdd_getD {α : Type} (ops : NumOps α) (nd : Nat) (val : α) (pos : List Nat) (row : List α) (j : Nat)
    (hj : j < nd) :
    (rowAdd ops nd val pos row).getD j ops.zero =
      ops.add (row.getD j ops.zero) (ops.mul val (ops.ofNat (pos.getD (nd - 1 - j) 0))) := by
  rw [rowAdd, List.getD_eq_getElem?_getD, List.getElem?_map, List.getElem?_range hj, Option.map_some,
    Option.getD_some]

/-- the running row of a label, one coordinate at a time: projections of a fold are folds (`List.foldl_hom`) -/
theorem row_fold {α : Type} (ops : NumOps α) (nd : Nat) (v : Nat → α) (pos : Nat → List Nat) (j : Nat)
    (hj : j < nd) : ∀ (is : List Nat) (row : List α),
    (is.foldl (fun r i => rowAdd ops nd (v i) (pos i) r) row).getD j ops.zero =
      is.foldl (fun x i => ops.add x (ops.mul (v i) (ops.ofNat ((pos i).getD (nd - 1 - j) 0))))
        (row.getD j ops.zero) :=
  fun _ _ => (List.foldl_hom (fun r : List α => r.getD j ops.zero) fun r i =>
    (rowAdd_getD ops nd (v i) (pos i) r j hj).symm).symm

/-- for any arithmetic: entry `(l, j)` of the result is the accumulated `v·coord_j` of the pixels labelled `l`,
    in scan order, divided by their accumulated `v` (coordinates in the documented order) -/
theorem comModelG_closed {α : Type} (ops : NumOps α) (shape : List Nat) (vals : List α) (labels : List Int) :
    comModelG ops shape vals labels =
      (List.range ((maxOf labels).toNat + 1)).flatMap fun l =>
        (List.range shape.length).map fun j =>
          ops.div
            (((List.range vals.length).filter fun i => (labels.getD i 0).toNat = l).foldl
              (fun x i => ops.add x (ops.mul (vals.getD i ops.zero) (ops.ofNat ((unravel shape i).getD j 0))))
              ops.zero)
            (((List.range vals.length).filter fun i => (labels.getD i 0).toNat = l).foldl
              (fun t i => ops.add t (vals.getD i ops.zero)) ops.zero) := by
  unfold comModelG
  simp only
  rw [comFold_fst, comFold_snd]
  apply List.flatMap_congr
  intro l hl
  have hl' : l < (maxOf labels).toNat + 1 := List.mem_range.mp hl
  rw [reverse_map_range]
  apply List.map_congr_left
  intro j hj
  have hjr : shape.length - 1 - j < shape.length := by have := List.mem_range.mp hj; omega
  simp only [Array.getD_eq_getD_getElem?, replicate_fold_slot _ _ _ _ _ l hl', Option.getD_some]
  rw [row_fold ops shape.length _ _ _ hjr, List.getD_eq_getElem?_getD, List.getElem?_replicate, if_pos hjr,
    Option.getD_some, show shape.length - 1 - (shape.length - 1 - j) = j by have := List.mem_range.mp hj; omega]

end Mahotas.C13
