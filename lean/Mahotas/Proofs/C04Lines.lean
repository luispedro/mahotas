/-
C04 — every line pixel lies on a boundary between two regions: it and a pixel of the image one neighbourhood offset away
are both labelled, with different (final) labels.
A consequence of the exact characterisation of `lines` over the trace (`Proofs/C04LinesExact.lean`): the visit that
marked the pixel supplies the neighbour, the offset and the two final labels.
-/
import Mahotas.Proofs.C04Flood
import Mahotas.Proofs.C04LinesExact

namespace Mahotas.C04
open Mahotas

/-- `r` and a pixel `a = r − o` of the image, `o` an offset of the neighbourhood, are both labelled and carry different labels -/
def Boundary (s : List Nat) (offs : List (List Int)) (L : List Int → Int) (r : List Int) : Prop :=
  ∃ a o, o ∈ offs ∧ inside s a = true ∧ r = addPos a o ∧ L a ≠ 0 ∧ L r ≠ 0 ∧ L a ≠ L r

theorem cwatershed_lines_boundary (surf markers : Img Int) (bshape : List Nat) (bc : Array Int)
    (hm : markers.shape = surf.shape) (hb : bshape.length = surf.shape.length) (r : List Int)
    (hr : inside surf.shape r = true)
    (hl : (⟨surf.shape, (cwatershedModel surf markers bshape bc).lines⟩ : Img Bool).getD r false = true) :
    Boundary surf.shape (offsets bshape bc) (fun x => (modelLabels surf markers bshape bc).getD x 0) r := by
  have hl' : (cwatershedModel surf markers bshape bc).lines.getD (ravelI surf.shape r) false = true := by
    unfold Img.getD at hl; rwa [if_pos hr] at hl
  -- the visit that marked `r`: it found `r` grey, and what it read are the final labels
  obtain ⟨ev, hev, hn, h1, hd⟩ := (cwatershed_lines_exact_final surf markers bshape bc _).mp hl'
  have g := cwatershedTrace_good surf markers bshape bc hm hb ev hev
  obtain ⟨hfl, hfn⟩ := modelTrace_final surf (neighbours surf.shape (offsets bshape bc)) (fuelOf surf.shape)
    (modelInit surf markers) (modelInit_sized surf markers) ev hev
  obtain ⟨o, ho, hnb⟩ := g.nb
  have hin := C01.inside_unravelI surf.shape ev.pos g.pos_lt
  have hs : ev.status ≠ 0 := h1 ▸ Nat.one_ne_zero
  have ha : (modelLabels surf markers bshape bc).getD (unravelI surf.shape ev.pos) 0 =
      (cwatershedModel surf markers bshape bc).res.getD ev.pos 0 := by
    rw [modelLabels_getD _ _ _ _ _ hin, C01.ravelI_unravelI _ _ g.pos_lt]
  refine ⟨unravelI surf.shape ev.pos, o, ho, hin, ?_, ?_, ?_, ?_⟩
  · rw [← hnb, hn, C01.unravelI_ravelI _ _ hr]
  · show (modelLabels surf markers bshape bc).getD _ 0 ≠ 0
    rw [ha]; exact hfl ▸ g.lab
  · show (modelLabels surf markers bshape bc).getD _ 0 ≠ 0
    rw [modelLabels_getD _ _ _ _ _ hr, ← hn]
    exact fun h => hs (g.white.mpr ((hfn hs).trans h))
  · show (modelLabels surf markers bshape bc).getD _ 0 ≠ (modelLabels surf markers bshape bc).getD _ 0
    rw [ha, modelLabels_getD _ _ _ _ _ hr]; exact hd

end Mahotas.C04
