/-
Ties between the bodies of `convolve.py: _wavelet_center_compute, wavelet_center, wavelet_decenter` (regenerated on every run
into `Generated/PyBodiesC17.lean`) and the model the driver runs: `C17.Mem.centerComputeI` (guards, the search loop
`for c in range(1, 64)`, candidate sides and offsets) and `C17.center` / `C17.decenter` (embedding and slice).
-/
import Mahotas.Generated.PyBodiesC17
import Mahotas.Model.C17Mem
import Mahotas.Proofs.C17Center
import Mahotas.Proofs.ListLemmas

namespace Mahotas
open Mahotas.Generated.Py Mahotas.C17 Mahotas.C17.Mem

theorem pybody_listMin_fold_le (b : Int) : ∀ (xs : List Int) (x : Int),
    (xs.foldl (fun a y => if y < a then y else a) x ≤ b) ↔ (x ≤ b ∨ ∃ y ∈ xs, y ≤ b) := by
  intro xs
  induction xs with
  | nil => intro x; simp
  | cons y ys ih =>
    intro x
    have hmin : (if y < x then y else x) ≤ b ↔ x ≤ b ∨ y ≤ b := by split <;> omega
    simp only [List.foldl_cons, ih, hmin, List.mem_cons, exists_eq_or_imp, or_assoc]

/-- `np.min(v) <= b` on a non-empty integer array: some entry is `≤ b` -/
theorem pybody_listMinI_le (b : Int) (l : List Int) (hne : l ≠ []) : listMinI l ≤ b ↔ ∃ y ∈ l, y ≤ b := by
  cases l with
  | nil => exact absurd rfl hne
  | cons x xs => simp only [listMinI, pybody_listMin_fold_le, List.mem_cons, exists_eq_or_imp]

/-- the loop test `np.min(delta) <= border` on the offsets of a candidate: it fails iff every offset exceeds the border -/
theorem pybody_listMinI_ofNat_le (b : Int) (l : List Nat) (hne : l ≠ []) :
    listMinI (l.map Int.ofNat) ≤ b ↔ ¬ l.all (fun d => decide (b < (d : Int))) = true := by
  rw [pybody_listMinI_le b _ (by simpa using hne), List.all_eq_true, not_forall]
  constructor
  · rintro ⟨y, hy, hle⟩
    obtain ⟨d, hd, rfl⟩ := List.mem_map.mp hy
    exact ⟨d, fun h => by have := of_decide_eq_true (h hd); have e : Int.ofNat d = (d : Int) := rfl; omega⟩
  · rintro ⟨d, h⟩
    rw [Classical.not_imp] at h
    exact ⟨Int.ofNat d, List.mem_map.mpr ⟨d, h.1, rfl⟩, by
      have := mt decide_eq_true h.2; have e : Int.ofNat d = (d : Int) := rfl; omega⟩

/-- the loop `for d, e in zip(..): position.append(slice(d, d + e))` builds the mapped list -/
theorem pybody_foldl_append_map {α β : Type} (g : α → β) : ∀ (l : List α) (acc : List β),
    List.foldl (fun st z => st ++ [g z]) acc l = acc ++ l.map g := by
  intro l
  induction l with
  | nil => intro acc; simp
  | cons z zs ih => intro acc; simp [ih]

/-- a search loop (`for c in range(a, a+n): if not P c: continue; return h c`) translated as a fold over `Option`
    is the model's `searchC`: the first `c` with `P c`, mapped by `h` -/
theorem pybody_search_fold {R : Type} (P : Nat → Bool) (h : Nat → R) : ∀ (n a : Nat),
    List.foldl (fun (st : Option R) c => if st.isSome then st else if P c then some (h c) else none) none (List.range' a n)
      = (searchC P n a).map h := by
  have hsome : ∀ (l : List Nat) (r : R),
      List.foldl (fun (st : Option R) c => if st.isSome then st else if P c then some (h c) else none) (some r) l = some r :=
    fun l r => foldl_fixed _ (some r) (fun _ => rfl) l
  intro n
  induction n with
  | zero => intro a; simp [searchC]
  | succ n ih =>
    intro a
    rw [List.range'_succ, List.foldl_cons, searchC]
    by_cases hp : P a = true
    · simp [hp, hsome]
    · simp only [Option.isSome_none, Bool.false_eq_true, if_false, hp]
      exact ih (a + 1)

/-- one offset: Python's `(2**(floor(log2 o) + c) - o) // 2` on ints is the model's truncated natural arithmetic, for `c ≥ 1` -/
theorem pybody_center_offset (n c : Nat) (hc : 1 ≤ c) :
    Int.fdiv (((2 : Int) ^ (n.log2 + c)) - (n : Int)) 2 = (((2 ^ (n.log2 + c) - n) / 2 : Nat) : Int) := by
  have h1 : n < 2 ^ (Nat.log2 n + 1) := Nat.lt_log2_self
  have h2 : 2 ^ (Nat.log2 n + 1) ≤ 2 ^ (Nat.log2 n + c) := Nat.pow_le_pow_right (by omega) (by omega)
  have e : ((2 : Int) ^ (n.log2 + c)) - (n : Int) = (((2 ^ (n.log2 + c) - n : Nat)) : Int) := by
    rw [Int.ofNat_sub (by omega)]; simp
  rw [e, Int.fdiv_eq_ediv_of_nonneg _ (by omega)]
  rfl

/-- what the Python function returns for the model's result `(sides, offsets)`: the sides as ints and, per axis, the slice
    `slice(d, d + o)` -/
def pyCenterResult (oshape : List Int) (r : List Nat × List Nat) : List Int × List (Int × Int) :=
  (r.1.map Int.ofNat, ((r.2.map Int.ofNat).zip oshape).map fun de => (de.1, de.1 + de.2))

/-- the candidate of step `c ≥ 1` as the Python loop body computes it (float `log2`/`floor`, `2**`, `astype(int)`,
    `delta = nshape - oshape; delta //= 2`) = the model's `centerCand`, for positive sides -/
theorem pybody_center_cand {K A D : Type} (P : WavePrims K A D)
    (hlog : ∀ o : Int, 0 < o → P.floor_log2 o = (Nat.log2 o.toNat : Int))
    (oshape : List Int) (hpos : ∀ o ∈ oshape, 0 < o) (c : Nat) (hc : 1 ≤ c) :
    List.map (fun e => (2 : Int) ^ Int.toNat e) (List.map (fun t => t + (c : Int)) (List.map P.floor_log2 oshape))
        = (centerCand (oshape.map Int.toNat) c).1.map Int.ofNat ∧
    List.map (fun t => Int.fdiv t 2) (List.zipWith (fun a b => a - b)
        (List.map (fun e => (2 : Int) ^ Int.toNat e) (List.map (fun t => t + (c : Int)) (List.map P.floor_log2 oshape))) oshape)
        = (centerCand (oshape.map Int.toNat) c).2.map Int.ofNat := by
  have hside : ∀ o ∈ oshape, (2 : Int) ^ Int.toNat (P.floor_log2 o + (c : Int)) = (2 : Int) ^ (o.toNat.log2 + c) := by
    intro o ho
    rw [hlog o (hpos o ho)]
    congr 1
  constructor
  · rw [show (centerCand (oshape.map Int.toNat) c).1 = (oshape.map Int.toNat).map (fun o => 2 ^ (Nat.log2 o + c)) from rfl]
    simp only [List.map_map]
    apply List.map_congr_left
    intro o ho
    simp only [Function.comp_apply, hside o ho]
    simp
  · rw [centerCand_snd]
    simp only [List.map_map]
    rw [List.zipWith_map_left, List.zipWith_self, List.map_map]
    apply List.map_congr_left
    intro o ho
    have hp := hpos o ho
    simp only [Function.comp_apply, hside o ho]
    have := pybody_center_offset o.toNat c hc
    rw [Int.toNat_of_nonneg (by omega)] at this
    exact this

/-- the second guard: `len(oshape) == 0 or np.min(oshape) <= 0` is the model's `oshape.isEmpty ∨ oshape.any (· ≤ 0)` -/
theorem pybody_center_guard (l : List Int) :
    (decide (l.length = 0) || decide (listMinI l ≤ 0)) = true ↔ (l.isEmpty ∨ l.any (· ≤ 0)) := by
  cases l with
  | nil => simp
  | cons x xs =>
    have := pybody_listMinI_le 0 (x :: xs) (by simp)
    simp only [List.length_cons, Nat.add_one_ne_zero, decide_false, Bool.false_or, decide_eq_true_eq, this,
      List.isEmpty_cons, Bool.false_eq_true, false_or, List.any_eq_true]

/-- **`convolve._wavelet_center_compute` = `C17.Mem.centerComputeI`**, for every shape and every integer
    border, with `np.floor(np.log2(o))` of a positive side being `⌊log₂ o⌋` (`hlog`; the model's `Nat.log2`): both guards
    (`none` = `ValueError`), the search `for c in range(1, 64)` (first admissible step wins; no step: the function falls
    off its end and the callers' tuple unpacking fails — `none`), the candidate sides `2**(⌊log₂ o⌋ + c)`, the offsets
    `(side − o) // 2`, the test `np.min(delta) <= border: continue`, and the slices `slice(d, d + o)` per axis. -/
theorem pybody_convolve__wavelet_center_compute_eq_model {K A D : Type} (P : WavePrims K A D)
    (hlog : ∀ o : Int, 0 < o → P.floor_log2 o = (Nat.log2 o.toNat : Int)) (oshape : List Int) (border : Int) :
    convolve__wavelet_center_compute P oshape border = (centerComputeI oshape border).map (pyCenterResult oshape) := by
  unfold convolve__wavelet_center_compute centerComputeI
  by_cases hb : border ≥ 2 ^ 40
  · rw [if_pos (by simpa using hb), if_pos hb]; rfl
  rw [if_neg (by simpa using hb), if_neg hb]
  by_cases hg : oshape.isEmpty ∨ oshape.any (· ≤ 0)
  · rw [if_pos ((pybody_center_guard oshape).mpr hg), if_pos hg]; rfl
  rw [if_neg (fun h => hg ((pybody_center_guard oshape).mp h)), if_neg hg]
  have hne : oshape ≠ [] := by
    intro h; apply hg; left; simp [h]
  have hpos : ∀ o ∈ oshape, 0 < o := by
    intro o ho
    by_contra hle
    apply hg; right
    exact List.any_eq_true.mpr ⟨o, ho, by simpa using hle⟩
  -- the step of the fold, for c ≥ 1, is the model's candidate test
  have hstep : ∀ (st : Option (List Int × List (Int × Int))) (c : Nat), c ∈ List.range' 1 (64 - 1) →
      (if st.isSome then st else
        let nshape := List.map (fun e => (2 : Int) ^ Int.toNat e) (List.map (fun t => t + (c : Int)) (List.map P.floor_log2 oshape))
        let nshape := nshape
        let delta := List.zipWith (fun a b => a - b) nshape oshape
        let delta := List.map (fun t => Int.fdiv t 2) delta
        if decide (listMinI delta ≤ border) then none
        else
          let position : List (Int × Int) := []
          let st3 := List.foldl (fun (st3 : List (Int × Int)) (zz2 : Int × Int) =>
            let position := st3
            let d := zz2.1
            let e := zz2.2
            let position := position ++ [(d, d + e)]
            position) position (List.zip delta oshape)
          let position := st3
          some (nshape, position)) =
      (if st.isSome then st else
        if (centerCand (oshape.map Int.toNat) c).2.all (fun d => decide (border < (d : Int)))
        then some (pyCenterResult oshape (centerCand (oshape.map Int.toNat) c)) else none) := by
    intro st c hc
    have hc1 : 1 ≤ c := by
      rw [List.mem_range'_1] at hc; exact hc.1
    obtain ⟨h1, h2⟩ := pybody_center_cand P hlog oshape hpos c hc1
    rw [h1] at h2
    simp only [h1, h2]
    have hne2 : (centerCand (oshape.map Int.toNat) c).2 ≠ [] := by
      rw [centerCand_snd]; simpa using hne
    have hmin := pybody_listMinI_ofNat_le border _ hne2
    by_cases hall : (centerCand (oshape.map Int.toNat) c).2.all (fun d => decide (border < (d : Int))) = true
    · simp only [mt hmin.mp (not_not.mpr hall), decide_false, Bool.false_eq_true, if_false, hall, if_true,
        pybody_foldl_append_map (fun zz : Int × Int => (zz.1, zz.1 + zz.2)), List.nil_append, pyCenterResult]
    · simp only [hmin.mpr hall, decide_true, if_true, hall, Bool.false_eq_true, if_false]
  have hfold := foldl_congr_mem (List.range' 1 (64 - 1)) _ _ hstep none
  rw [show (64 - 1 : Nat) = 63 from rfl, pybody_search_fold] at hfold
  simp only [hfold, Option.map_map]
  cases searchC _ 63 1 <;> rfl

/-- the primitives on the model's 2-D images `Im α` (functions of row and column): `np.floor(np.log2(o))` is `Nat.log2`,
    `_wavelet_center_compute` is the GENERATED body, `np.zeros` is the zero image, `a += v` adds `v` everywhere,
    `a[s0:e0, s1:e1] = b` overwrites the window with `b`, `a[s0:e0, s1:e1]` reads from the window's corner
    (an `Im` carries no shape: the window's extent is what `pyCenterResult` records), `f.shape` is the given shape. -/
abbrev c17Prims {α : Type} [Zero α] [Add α] (shape : List Int) : WavePrims α (Im α) Unit where
  floor_log2 := fun o => (Nat.log2 o.toNat : Int)
  center_compute := convolve__wavelet_center_compute
    ({ floor_log2 := fun o => (Nat.log2 o.toNat : Int), center_compute := fun _ _ => none, zeros := fun _ _ _ _ => 0,
       add_scalar := fun a _ => a, setslice := fun a _ _ => a, getslice := fun a _ => a, shape := fun _ => shape } : WavePrims α (Im α) Unit)
  zeros := fun _ _ _ _ => 0
  add_scalar := fun a v y x => a y x + v
  setslice := fun a sl b => match sl with
    | [(s0, e0), (s1, e1)] => fun y x =>
        if s0 ≤ (y : Int) ∧ (y : Int) < e0 ∧ s1 ≤ (x : Int) ∧ (x : Int) < e1 then b (y - s0.toNat) (x - s1.toNat) else a y x
    | _ => a
  getslice := fun a sl => match sl with
    | [(s0, _), (s1, _)] => fun y x => a (y + s0.toNat) (x + s1.toNat)
    | _ => a
  shape := fun _ => shape

/-- **`convolve.wavelet_center` = `C17.center`** on a 2-D image of shape `(N0, N1)`: when the model's
    `centerComputeI` gives sides `(M0, M1)` and offsets `(d0, d1)` the translated body returns the model's embedding
    (`f` behind its offsets, `cval` elsewhere: `np.zeros`, `+= cval` — `0 + cval = cval` is `h0` —, the slice store), and when
    it gives nothing (a guard, or no admissible step) the body raises. -/
theorem pybody_convolve_wavelet_center_eq_model {α : Type} [Zero α] [Add α] (N0 N1 : Nat) (border : Int) (cval : α)
    (h0 : (0 : α) + cval = cval) (f : Im α) :
    (centerComputeI [(N0 : Int), (N1 : Int)] border = none →
      convolve_wavelet_center (c17Prims [(N0 : Int), (N1 : Int)]) f border () cval = none) ∧
    (∀ M0 M1 d0 d1, centerComputeI [(N0 : Int), (N1 : Int)] border = some ([M0, M1], [d0, d1]) →
      convolve_wavelet_center (c17Prims [(N0 : Int), (N1 : Int)]) f border () cval = some (center N0 N1 d0 d1 cval f)) := by
  have hc := pybody_convolve__wavelet_center_compute_eq_model
    ({ floor_log2 := fun o => (Nat.log2 o.toNat : Int), center_compute := fun _ _ => none, zeros := fun _ _ _ _ => 0,
       add_scalar := fun a _ => a, setslice := fun a _ _ => a, getslice := fun a _ => a,
       shape := fun _ => [(N0 : Int), (N1 : Int)] } : WavePrims α (Im α) Unit) (fun _ _ => rfl) [(N0 : Int), (N1 : Int)] border
  constructor
  · intro h
    simp only [convolve_wavelet_center, hc, h, Option.map_none]
  · intro M0 M1 d0 d1 h
    simp only [convolve_wavelet_center, hc, h, Option.map_some, pyCenterResult, List.map_cons, List.map_nil,
      List.zip_cons_cons, List.zip_nil_right]
    congr 1
    funext y x
    simp only [center, h0]
    have e0 : Int.ofNat d0 = (d0 : Int) := rfl
    have e1 : Int.ofNat d1 = (d1 : Int) := rfl
    by_cases hin : d0 ≤ y ∧ y < d0 + N0 ∧ d1 ≤ x ∧ x < d1 + N1
    · rw [if_pos hin, if_pos (by omega)]; rfl
    · rw [if_neg hin, if_neg (by omega)]

/-- **`convolve.wavelet_decenter` = `C17.decenter`**: the slice at the offsets `centerComputeI` gives for
    `oshape = (N0, N1)` (and a raise when it gives nothing) -/
theorem pybody_convolve_wavelet_decenter_eq_model {α : Type} [Zero α] [Add α] (N0 N1 : Nat) (border : Int) (w : Im α) :
    (centerComputeI [(N0 : Int), (N1 : Int)] border = none →
      convolve_wavelet_decenter (c17Prims (α := α) []) w [(N0 : Int), (N1 : Int)] border = none) ∧
    (∀ M0 M1 d0 d1, centerComputeI [(N0 : Int), (N1 : Int)] border = some ([M0, M1], [d0, d1]) →
      convolve_wavelet_decenter (c17Prims (α := α) []) w [(N0 : Int), (N1 : Int)] border = some (decenter d0 d1 w)) := by
  have hc := pybody_convolve__wavelet_center_compute_eq_model
    ({ floor_log2 := fun o => (Nat.log2 o.toNat : Int), center_compute := fun _ _ => none, zeros := fun _ _ _ _ => 0,
       add_scalar := fun a _ => a, setslice := fun a _ _ => a, getslice := fun a _ => a,
       shape := fun _ => [] } : WavePrims α (Im α) Unit) (fun _ _ => rfl) [(N0 : Int), (N1 : Int)] border
  constructor
  · intro h
    simp only [convolve_wavelet_decenter, hc, h, Option.map_none]
  · intro M0 M1 d0 d1 h
    simp only [convolve_wavelet_decenter, hc, h, Option.map_some, pyCenterResult, List.map_cons, List.map_nil,
      List.zip_cons_cons, List.zip_nil_right]
    rfl

/-- non-vacuity: a 5×3 image with a negative border is centred in 8×4 at offsets (1, 0); border 0 needs 16×8 at (5, 2); a
    non-positive side and a huge border raise; the translated body computes exactly that -/
example : centerComputeI [5, 3] (-1) = some ([8, 4], [1, 0]) ∧ centerComputeI [5, 3] 0 = some ([16, 8], [5, 2]) ∧
    centerComputeI [5, 0] 0 = none ∧ centerComputeI [5, 3] (2 ^ 40) = none := by decide

example : convolve__wavelet_center_compute (c17Prims (α := Int) []) [5, 3] 1 = some ([16, 8], [(5, 10), (2, 5)]) := by decide +kernel

end Mahotas
