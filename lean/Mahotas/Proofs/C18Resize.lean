/-
C18 — the wrappers of `resize.py` (`resizeTo`, `resizeRgbTo` of `Model/C18.lean`): requested shape,
and the per-channel structure of `resize_rgb_to`.
-/
import Mahotas.Proofs.C18
set_option linter.unusedSectionVars false
namespace Mahotas.C18
open Mahotas

variable {K : Type} [Field K] [LinearOrder K] [IsStrictOrderedRing K]

theorem resizeTo_some (fl : K → Int) (pre : Img K → Img K) (order : Nat) (im : Img K) (nsize : List Nat)
    (hl : nsize.length = im.shape.length) :
    resizeTo fl pre order im nsize = some (zoomGlue fl order .constant 0 (pre im) nsize) := by
  unfold resizeTo
  rw [if_neg (by simp [hl])]
  simp

theorem resizeTo_none (fl : K → Int) (pre : Img K → Img K) (order : Nat) (im : Img K) (nsize : List Nat)
    (hl : nsize.length ≠ im.shape.length) : resizeTo fl pre order im nsize = none := by
  unfold resizeTo
  rw [if_pos hl]

theorem channel_shape (im : Img K) (c : Nat) : (channel im c).shape = im.shape.take 2 := rfl

theorem channel_getD (im : Img K) (h w k : Nat) (hs : im.shape = [h, w, k]) (c : Nat) (y x : Int)
    (hy : 0 ≤ y ∧ y < h) (hx : 0 ≤ x ∧ x < w) :
    (channel im c).getD [y, x] 0 = im.getD [y, x, (c : Int)] 0 := by
  unfold channel
  rw [hs]
  have hin : inside (List.take 2 [h, w, k]) [y, x] = true := by
    simp [inside, hy.1, hy.2, hx.1, hx.2]
  rw [tabulate_getD _ _ _ _ hin]
  simp

theorem dstack_getD (h w : Nat) (chs : List (Img K)) (y x : Int) (c : Nat) (ch : Img K)
    (hy : 0 ≤ y ∧ y < h) (hx : 0 ≤ x ∧ x < w) (hc : chs[c]? = some ch) :
    (dstack [h, w] chs).getD [y, x, (c : Int)] 0 = ch.getD [y, x] 0 := by
  have hlt : c < chs.length := (List.getElem?_eq_some_iff.mp hc).1
  unfold dstack
  rw [tabulate_getD _ _ _ _ (by simp [inside, hy.1, hy.2, hx.1, hx.2, hlt])]
  simp [hc]

theorem resizeRgbTo_some (fl : K → Int) (pre : Img K → Img K) (order : Nat) (im : Img K) (h w : Nat)
    (hs : im.shape = [h, w, 3]) (nsize : List Nat) (hl : nsize.length = 2) :
    resizeRgbTo fl pre order im nsize
      = some (dstack nsize ((List.range 3).map fun c =>
          zoomGlue fl order .constant 0 (pre (channel im c)) nsize)) := by
  have hc : ∀ c, resizeTo fl pre order (channel im c) nsize
      = some (zoomGlue fl order .constant 0 (pre (channel im c)) nsize) := by
    intro c
    apply resizeTo_some
    rw [channel_shape, hs, hl]; rfl
  unfold resizeRgbTo
  have e1 : ¬ (im.shape.length ≠ 3 ∨ im.shape.getD 2 0 ≠ 3) := by rw [hs]; simp
  rw [if_neg e1]
  have r : List.range 3 = [0, 1, 2] := rfl
  simp only [r, List.filterMap_cons, List.filterMap_nil, hc, List.map_cons, List.map_nil, List.length_cons,
    List.length_nil]
  simp

end Mahotas.C18
